import QuiverModel.Lemmas.Exec.Moves
import QuiverModel.Lemmas.Sys.Kahn
/- prototype: ONE description by kind of what a command does (current rules) = `CmdCase` of Exec/Moves, strengthened,
   and the per-invariant abstractions re-derived from it -/
namespace QM.Sys
variable [Cfg]

/-! ## the layer (would live in Step.lean, after `CmdStep`) -/

/-- What a command does to the worker (current rules), by kind. -/
inductive CmdKind (w : WorkerSt) : Cmd → Out → Prop
  /-- no record is written: `misc`, `getResult`, a NotifySpawn for an unknown caller, a message for an unknown or dead process -/
  | same {c o} (hc : c.isAwait = false) (hcr : ∀ q f regs, c ≠ .spawn q f regs) (procs : o.wk.procs = w.procs)
      (spawning : o.wk.spawning = w.spawning ∨
        ∃ caller np, c = .notifySpawn caller np ∧ w.procs caller = none ∧ o.wk.spawning = serase w.spawning caller)
      (regs : SameRegs w o.wk) (hevs : o.evs = [] ∨ ∃ req r, o.evs = [.resultResp req r])
      (app : o.appended = [] ∨ ∃ t m x, c = .deliver t m ∧ w.procs t = some x ∧ x.result ≠ none ∧ o.appended = [(t, m)]) :
      CmdKind w c o
  | start {p o} (procs : o.wk.procs = upd w.procs p (some (Proc.sleeping p))) (spawning : o.wk.spawning = w.spawning)
      (regs : SameRegs w o.wk) (hevs : o.evs = []) : CmdKind w (.start p) o
  | spawn {p fn rg o} (procs : o.wk.procs = upd w.procs p (some (Proc.fresh fn (p :: rg)))) (spawning : o.wk.spawning = w.spawning)
      (regs : SameRegs w o.wk) (hevs : o.evs = []) (app : o.appended = []) : CmdKind w (.spawn p fn rg) o
  | resume {p fn o} (regs : SameRegs w o.wk) (hevs : o.evs = []) : CmdKind w (.resume p fn) o
  | spawned {caller np o x} (hx : w.procs caller = some x)
      (procs : o.wk.procs = upd w.procs caller (some { x with regs := x.regs ++ [np], pc := x.pc + 1, spawnIssued := false }))
      (spawning : o.wk.spawning = serase w.spawning caller) (regs : SameRegs w o.wk) (hevs : o.evs = []) (app : o.appended = []) :
      CmdKind w (.notifySpawn caller np) o
  | mail {t m o x} (hx : w.procs t = some x) (procs : o.wk.procs = upd w.procs t (some { x with mailbox := x.mailbox ++ [m] }))
      (spawning : o.wk.spawning = w.spawning) (regs : SameRegs w o.wk) (hevs : o.evs = []) (app : o.appended = [(t, m)]) :
      CmdKind w (.deliver t m) o
  | query {a ts o} (hw : o.wk = (queryTargets w a ts).1) (hevs : o.evs = [.procResults a (queryTargets w a ts).2])
      (app : o.appended = []) : CmdKind w (.queryAwait a ts) o
  | update {a rs o} (procs : o.wk.procs = (applyResults w a rs).procs) (spawning : o.wk.spawning = w.spawning)
      (regs : SameRegs w o.wk) (hevs : o.evs = []) (app : o.appended = []) : CmdKind w (.updateAwait a rs) o

theorem CmdStep.kind {prog : Prog} {w : WorkerSt} {c : Cmd} {o : Out} (h : CmdStep Rules.current prog w c o) : CmdKind w c o := by
  cases h with
  | misc => exact .same rfl nofun rfl (.inl rfl) ⟨rfl, rfl⟩ (.inl rfl) (.inl rfl)
  | start p => exact .start rfl rfl ⟨rfl, rfl⟩ rfl
  | resume p fn x v => exact .resume ⟨rfl, rfl⟩ rfl
  | spawn p fn regs => exact .spawn rfl rfl ⟨rfl, rfl⟩ rfl rfl
  | notifyNone caller np hx =>
    exact .same rfl nofun rfl (.inr ⟨_, _, rfl, hx, rfl⟩) ⟨rfl, rfl⟩ (.inl rfl) (.inl rfl)
  | notifySome caller np x hx =>
    dsimp only
    split <;> exact .spawned hx rfl rfl ⟨rfl, rfl⟩ rfl rfl
  | deliverNone t m hx =>
    exact .same rfl nofun (wakeSelecting_procs _ _) (.inl (wakeSelecting_spawning _ _)) (Helper.wakeSelecting _ _).sameRegs
      (.inl rfl) (.inl rfl)
  | deliverDead t m x hx _ hnd =>
    refine .same rfl nofun (wakeSelecting_procs _ _) (.inl (wakeSelecting_spawning _ _)) (Helper.wakeSelecting _ _).sameRegs
      (.inl rfl) (.inr ⟨t, m, x, rfl, hx, fun hn => ?_, rfl⟩)
    unfold Proc.deliverable at hnd; rw [hn] at hnd; cases hnd
  | deliver t m x hx =>
    have hw := Helper.wakeSelecting ({ w with procs := upd w.procs t (some { x with mailbox := x.mailbox ++ [m] }) } : WorkerSt) t
    exact .mail hx (wakeSelecting_procs _ _) (wakeSelecting_spawning _ _) ⟨hw.awaitersFor, hw.awaited⟩ rfl rfl
  | queryAwait a ts => exact .query rfl rfl rfl
  | updateAwait a rs =>
    exact .update (wakeSelecting_procs _ _) ((wakeSelecting_spawning _ _).trans (applyResults_spawning a rs _))
      ((Helper.applyResults a rs w).trans (Helper.wakeSelecting _ a)).sameRegs rfl rfl
  | getResult req p x r => exact .same rfl nofun rfl (.inl rfl) ⟨rfl, rfl⟩ (.inr ⟨_, _, rfl⟩) (.inl rfl)
  | getLater req p x => exact .same rfl nofun rfl (.inl rfl) ⟨rfl, rfl⟩ (.inl rfl) (.inl rfl)

/-! ## Exec/Moves: `CmdCase` is a projection -/

theorem CmdKind.case {w : WorkerSt} {c : Cmd} {o : Out} (h : CmdKind w c o) : CmdCase w c o.wk o.evs := by
  cases h with
  | same hc _ procs spawning regs hevs =>
    refine .same hc procs (fun q hq => ?_) regs hevs
    rcases spawning with e | ⟨_, _, _, _, e⟩ <;> rw [e] at hq
    · exact hq
    · exact (mem_serase.mp hq).1
  | start procs spawning regs hevs => exact hevs ▸ .fresh rfl procs spawning regs rfl rfl
  | spawn procs spawning regs hevs => exact hevs ▸ .fresh rfl procs spawning regs rfl rfl
  | resume regs hevs => exact hevs ▸ .resume regs
  | spawned hx procs spawning regs hevs => exact hevs ▸ .spawned hx procs (fun q hq => mem_serase.mp (spawning ▸ hq)) regs
  | mail hx procs spawning regs hevs => exact hevs ▸ .mail hx procs spawning regs
  | query hw hevs => rw [hw, hevs]; exact .query
  | update procs spawning regs hevs => exact hevs ▸ .update procs spawning regs

/-! ## Kahn: `CmdStep.pos`, `CmdStep.kahn` -/

theorem CmdKind.pos {w : WorkerSt} {c : Cmd} {o : Out} (h : CmdKind w c o)
    (hok : ∀ p fn, c ≠ .resume p fn) (hst : ∀ p, c ≠ .start p) :
    SameOn Pos w o.wk ∨
    (∃ q f regs, c = .spawn q f regs ∧ o.wk.procs = upd w.procs q (some (Proc.fresh f (q :: regs)))) ∨
    (∃ p q x, c = .notifySpawn p q ∧ w.procs p = some x ∧
      o.wk.procs = upd w.procs p (some { x with regs := x.regs ++ [q], pc := x.pc + 1, spawnIssued := false })) := by
  cases h with
  | same _ _ procs => exact .inl (.of_procs procs)
  | start => exact absurd rfl (hst _)
  | resume => exact absurd rfl (hok _ _)
  | spawn procs => exact .inr (.inl ⟨_, _, _, rfl, procs⟩)
  | spawned hx procs => exact .inr (.inr ⟨_, _, _, rfl, hx, procs⟩)
  | mail hx procs => exact .inl (SameOn.updProc procs hx rfl)
  | query hw => exact .inl (.of_procs (hw ▸ (queryTargets_spec' _ _ w).procs))
  | update procs => exact .inl ((Helper.applyResults _ _ w).samePos.trans (.of_procs procs))

theorem CmdKind.kahn {w : WorkerSt} {c : Cmd} {o : Out} (h : CmdKind w c o)
    (hok : ∀ p fn, c ≠ .resume p fn) (hst : ∀ p, c ≠ .start p)
    (hres : ∀ a rs, c = .updateAwait a rs → ∀ t r, (t, some r) ∈ rs → ∃ v, r = .ok v)
    (hcaller : ∀ p q, c = .notifySpawn p q → w.procs p ≠ none) :
    (CtlSame w o.wk ∧ o.appended = []) ∨
    (∃ t m x0 x1, c = .deliver t m ∧ w.procs t = some x0 ∧ o.wk.procs = upd w.procs t (some x1) ∧ o.wk.spawning = w.spawning ∧
      (x1.fn = x0.fn ∧ x1.pc = x0.pc ∧ x1.regs = x0.regs ∧ x1.acc = x0.acc ∧ x1.spawnIssued = x0.spawnIssued ∧
        x1.result = x0.result ∧ x1.awaitFailed = x0.awaitFailed) ∧
      (x0.result = none → x1.mailbox = x0.mailbox ++ [m]) ∧ o.appended = [(t, m)]) ∨
    (∃ q f regs, c = .spawn q f regs ∧ o.wk.procs = upd w.procs q (some (Proc.fresh f (q :: regs))) ∧
      o.wk.spawning = w.spawning ∧ o.appended = []) ∨
    (∃ p q x, c = .notifySpawn p q ∧ w.procs p = some x ∧
      o.wk.procs = upd w.procs p (some { x with regs := x.regs ++ [q], pc := x.pc + 1, spawnIssued := false }) ∧
      o.wk.spawning = serase w.spawning p ∧ o.evs = [] ∧ o.appended = []) := by
  cases h with
  | start => exact absurd rfl (hst _)
  | resume => exact absurd rfl (hok _ _)
  | spawn procs spawning _ _ app => exact .inr (.inr (.inl ⟨_, _, _, rfl, procs, spawning, app⟩))
  | spawned hx procs spawning _ hevs app => exact .inr (.inr (.inr ⟨_, _, _, rfl, hx, procs, spawning, hevs, app⟩))
  | mail hx procs spawning _ _ app =>
    exact .inr (.inl ⟨_, _, _, _, rfl, hx, procs, spawning, ⟨rfl, rfl, rfl, rfl, rfl, rfl, rfl⟩, fun _ => rfl, app⟩)
  | query hw _ app => exact .inl ⟨hw ▸ CtlSame.of_procs (queryTargets_spec' _ _ w).procs (queryTargets_spec' _ _ w).spawning, app⟩
  | update procs spawning _ _ app =>
    exact .inl ⟨(CtlSame.applyResults _ _ _ (hres _ _ rfl)).trans
      (CtlSame.of_procs procs (spawning.trans (applyResults_spawning _ _ _).symm)), app⟩
  | same _ _ procs spawning _ _ app =>
    have hsp : o.wk.spawning = w.spawning := spawning.resolve_right fun ⟨p, q, e, hn, _⟩ => hcaller p q e hn
    rcases app with app | ⟨t, m, x, rfl, hx, hr, app⟩
    · exact .inl ⟨CtlSame.of_procs procs hsp, app⟩
    · exact .inr (.inl ⟨t, m, x, x, rfl, hx, by rw [procs, ← hx, upd_self], hsp, ⟨rfl, rfl, rfl, rfl, rfl, rfl, rfl⟩,
        fun hn => absurd hn hr, app⟩)

/-! ## Faithful: `ResKeep.cmdStep` -/

theorem ResKeep.cmdKind {w : WorkerSt} {c : Cmd} {o : Out} (h : CmdKind w c o)
    (hst : ∀ p, c ≠ .start p) (hre : ∀ p fn, c ≠ .resume p fn)
    (hfresh : ∀ q f regs, c = .spawn q f regs → w.procs q = none) : ResKeep w o.wk := by
  have keepRes : ∀ {p : Pid} {x x' : Proc}, w.procs p = some x → x'.result = x.result → ∀ y, w.procs p = some y → ∀ r, y.result = some r → x'.result = some r :=
    fun hx e y hy r hr => by rw [hx] at hy; cases hy; exact e.trans hr
  cases h with
  | same _ _ procs => exact .of_procs procs
  | start => exact absurd rfl (hst _)
  | resume => exact absurd rfl (hre _ _)
  | spawn procs => exact .updProc procs fun x hx => by rw [hfresh _ _ _ rfl] at hx; cases hx
  | spawned hx procs => exact .updProc procs (keepRes hx rfl)
  | mail hx procs => exact .updProc procs (keepRes hx rfl)
  | query hw => exact .of_procs (hw ▸ (queryTargets_spec' _ _ w).procs)
  | update procs => exact (Helper.applyResults _ _ w).resKeep.trans (.of_procs procs)

/-! ## Stored: `AwFrom.cmdStep` (needs the `resume` record, which `CmdKind.resume` does not carry: stated without it) -/

theorem AwFrom.cmdKind {w : WorkerSt} {c : Cmd} {o : Out} (h : CmdKind w c o) (hre : ∀ p fn, c ≠ .resume p fn) :
    AwFrom w o.wk (cmdExtra c) := by
  cases h with
  | same _ _ procs => exact .of_procs procs _
  | start procs => exact .updProc procs fun t v hm => by simp [Proc.sleeping, Proc.fresh] at hm
  | resume => exact absurd rfl (hre _ _)
  | spawn procs => exact .updProc procs fun t v hm => by simp [Proc.fresh] at hm
  | spawned hx procs => exact .updProc procs fun t v hm => .inl ⟨_, hx, hm⟩
  | mail hx procs => exact .updProc procs fun t v hm => .inl ⟨_, hx, hm⟩
  | query hw => exact .of_procs (hw ▸ (queryTargets_spec' _ _ w).procs) _
  | update procs =>
    exact ((AwFrom.applyResults _ _ w).weaken fun p t v ⟨e, h⟩ => ⟨_, e ▸ rfl, h⟩).trans (.of_procs procs _)

end QM.Sys
