import QuiverModel.Lemmas.Sys.Live
/- prototype: the scheduling effect of every helper in closed form ("some parked selects are moved to the tail of the
   queue"), as a field of `Helper`; `WSched` and `WL` are kept by every `Helper` step: ONE lemma each in place of a family -/
namespace QM.Sys
set_option linter.unusedSectionVars false
set_option linter.unusedVariables false
variable [Cfg]

/-- the selects in `L` (parked in `w`, distinct) have been moved to the tail of the queue -/
structure Woke (w w' : WorkerSt) (L : List Pid) : Prop where
  queue : w'.queue = w.queue ++ L
  selecting : w'.selecting = w.selecting.filter (· ∉ L)
  parked : ∀ p ∈ L, p ∈ w.selecting
  nodup : L.Nodup

/-- what `Helper` would say in place of `selecting : ∀ q, q ∈ w'.selecting → q ∈ w.selecting` -/
structure Helper' (w w' : WorkerSt) : Prop where
  h : Helper w w'
  woke : ∃ L, Woke w w' L

omit [Cfg] in
theorem Woke.of_eq {w w' : WorkerSt} (hq : w'.queue = w.queue) (hs : w'.selecting = w.selecting) : Woke w w' [] :=
  ⟨by rw [hq, List.append_nil], by rw [hs]; exact (List.filter_eq_self.mpr fun _ _ => rfl).symm, nofun, List.nodup_nil⟩

omit [Cfg] in
theorem Woke.refl (w : WorkerSt) : Woke w w [] := .of_eq rfl rfl

omit [Cfg] in
theorem Woke.trans {a b c : WorkerSt} {L1 L2 : List Pid} (h1 : Woke a b L1) (h2 : Woke b c L2) : Woke a c (L1 ++ L2) := by
  have hin : ∀ p ∈ L2, p ∈ a.selecting ∧ p ∉ L1 := fun p hp => by
    have := h2.parked p hp
    rw [h1.selecting, List.mem_filter] at this
    exact ⟨this.1, of_decide_eq_true this.2⟩
  refine ⟨by rw [h2.queue, h1.queue, List.append_assoc], ?_, fun p hp => ?_, ?_⟩
  · rw [h2.selecting, h1.selecting, List.filter_filter]
    exact List.filter_congr fun q _ => by simp [Bool.and_comm]
  · exact (List.mem_append.mp hp).elim (h1.parked p) fun h => (hin p h).1
  · exact List.nodup_append.mpr ⟨h1.nodup, h2.nodup, fun p h1' q h2' e => (hin q h2').2 (e ▸ h1')⟩

theorem Woke.wakeSelecting (w : WorkerSt) (p : Pid) : ∃ L, Woke w (w.wakeSelecting p) L := by
  unfold WorkerSt.wakeSelecting; split
  · rename_i hp
    exact ⟨[p], rfl, by simp [serase], fun q hq => List.mem_singleton.mp hq ▸ hp, by simp⟩
  · exact ⟨[], .refl w⟩

theorem Woke.checkExpired {w : WorkerSt} (hnd : w.selecting.Nodup) (prog : Prog) (now : Nat) (ordQ : List Pid) :
    Woke w (w.checkExpired prog now ordQ) (orderBy ordQ (w.expired prog now)) :=
  ⟨rfl, rfl, fun p hp => (List.mem_filter.mp (mem_orderBy.mp hp)).1, nodup_orderBy (hnd.filter _)⟩

theorem Helper'.refl (w : WorkerSt) : Helper' w w := ⟨.refl w, [], .refl w⟩
theorem Helper'.trans {a b c : WorkerSt} (h1 : Helper' a b) (h2 : Helper' b c) : Helper' a c :=
  have ⟨L1, w1⟩ := h1.woke
  have ⟨L2, w2⟩ := h2.woke
  ⟨h1.h.trans h2.h, _, w1.trans w2⟩
theorem Helper'.modProc (w : WorkerSt) (p : Pid) (f : Proc → Proc) (hf : ∀ x, PUpd x (f x)) : Helper' w (w.modProc p f) :=
  ⟨.modProc w p f hf, [], .of_eq (by unfold WorkerSt.modProc; split <;> rfl) (by unfold WorkerSt.modProc; split <;> rfl)⟩
theorem Helper'.wakeSelecting (w : WorkerSt) (p : Pid) : Helper' w (w.wakeSelecting p) := ⟨.wakeSelecting w p, Woke.wakeSelecting w p⟩

theorem Helper'.notifyResult (w : WorkerSt) (a t : Pid) (r : Res) : Helper' w (w.notifyResult a t r) := by
  cases r with
  | ok v =>
    refine (Helper'.modProc w a _ fun x => ?_).trans (.wakeSelecting _ a)
    split
    · exact .stored x t v
    · exact .refl x
  | err =>
    show Helper' w (w.notifyFailure a t)
    unfold WorkerSt.notifyFailure
    split
    · split
      · exact (Helper'.modProc w a _ fun x => .failed x t).trans (.wakeSelecting _ a)
      · exact .refl w
    · exact .refl w

theorem Helper'.applyResults (a : Pid) : ∀ (rs : Results) (w : WorkerSt), Helper' w (applyResults w a rs)
  | [], w => .refl w
  | (t, some r) :: rest, w => (Helper'.notifyResult w a t r).trans (Helper'.applyResults a rest _)
  | (t, none) :: rest, w => (Helper'.modProc w a _ fun x => .answered x t).trans (Helper'.applyResults a rest _)

/-- **every helper keeps the scheduling-set invariant** -/
theorem WSched.helper {w w' : WorkerSt} (hW : WSched w) (h : Helper' w w') : WSched w' := by
  obtain ⟨L, hq, hs, hL, hnd⟩ := h.woke
  have hsel : ∀ p, p ∈ w'.selecting ↔ p ∈ w.selecting ∧ p ∉ L := fun p => by rw [hs]; simp
  refine { qnd := ?_, spnd := h.h.spawning ▸ hW.spnd, send := hs ▸ hW.send.filter _, dqs := fun p hp => ?_, dss := fun p hp => ?_,
           live := fun p hp => ?_ }
  · rw [hq]
    exact List.nodup_append.mpr ⟨hW.qnd, hnd, fun a ha b hb e => (hW.dqs a ha).2 (e ▸ hL b hb)⟩
  · rw [hq] at hp
    rw [h.h.spawning, hsel]
    rcases List.mem_append.mp hp with hp | hp
    · exact ⟨(hW.dqs p hp).1, fun h2 => (hW.dqs p hp).2 h2.1⟩
    · exact ⟨fun h2 => hW.dss p h2 (hL p hp), fun h2 => h2.2 hp⟩
  · rw [h.h.spawning] at hp
    exact fun h2 => hW.dss p hp ((hsel p).mp h2).1
  · have : w.scheduled p := by
      rw [hq, h.h.spawning, hsel] at hp
      rcases hp with hp | hp | hp
      · exact (List.mem_append.mp hp).imp id fun h2 => .inr (hL p h2)
      · exact .inr (.inl hp)
      · exact .inr (.inr hp.1)
    obtain ⟨x, hx, hr⟩ := hW.live p this
    rcases h.h.procs p with ⟨e, _⟩ | ⟨y, y', e1, e2, u⟩
    · rw [e] at hx; cases hx
    · rw [e1] at hx; cases hx; exact ⟨y', e2, u.result.trans hr⟩

/-- **… and leaves no unfinished process unscheduled** -/
theorem WL.helper {w w' : WorkerSt} (hW : WL w) (h : Helper' w w') : WL w' := by
  obtain ⟨L, hq, hs, _, _⟩ := h.woke
  intro p x' hx' hr
  rcases h.h.procs p with ⟨_, e⟩ | ⟨y, y', e1, e2, u⟩
  · rw [e] at hx'; cases hx'
  · rw [e2] at hx'; cases hx'
    rcases hW p y e1 (u.result.symm.trans hr) with h1 | h1 | h1
    · exact .inl (hq ▸ List.mem_append_left _ h1)
    · exact .inr (.inl (h.h.spawning ▸ h1))
    · by_cases hp : p ∈ L
      · exact .inl (hq ▸ List.mem_append_right _ hp)
      · exact .inr (.inr (by rw [hs]; simp [h1, hp]))

/-- the existing families as instances -/
example {w : WorkerSt} (h : WSched w) (p : Pid) : WSched (w.wakeSelecting p) := h.helper (.wakeSelecting w p)
example {w : WorkerSt} (h : WSched w) (a t : Pid) (r : Res) : WSched (w.notifyResult a t r) := h.helper (.notifyResult w a t r)
example {w : WorkerSt} (h : WSched w) (a : Pid) (rs : Results) : WSched (applyResults w a rs) := h.helper (.applyResults a rs w)
example {w : WorkerSt} (h : WL w) (a : Pid) (rs : Results) : WL (applyResults w a rs) := h.helper (.applyResults a rs w)
example {w : WorkerSt} (h : WSched w) (prog : Prog) (now : Nat) (ordQ : List Pid) : WSched (w.checkExpired prog now ordQ) :=
  h.helper ⟨⟨procs_refl w, rfl, rfl, fun _ hq => (List.mem_filter.mp hq).1, rfl, rfl, rfl, rfl⟩, _, .checkExpired h.send prog now ordQ⟩


end QM.Sys
