import QuiverModel.Lemmas.Exec.Moves
import QuiverModel.Lemmas.Sys.Kahn
namespace QM.Sys
variable [Cfg]

/-! exec side: the existing `ExecCase` (Exec/Moves) as the description by kind; Kahn's and Faithful's walks from it -/

theorem ExecCase.advKeep {prog : Prog} {now fuel : Nat} {ordQ : List Pid} {w w' : WorkerSt} {evs : List Evt}
    (h : ExecCase prog now fuel ordQ w w' evs) : AdvKeep w w' := by
  cases h with
  | idle procs => exact .of_procs procs
  | @ran _ cur x x' out _ hx hsl _ procs =>
    exact .updProc procs fun y hy => by rw [hx] at hy; cases hy; have := (slice_adv prog now cur fuel x).1; rwa [hsl] at this
  | @fin w1 cur x xf _ _ hx hxf procs =>
    refine (AdvKeep.updProc procs fun y hy => ?_).trans (AdvKeep.finish _ cur xf ordQ fun y hy => ?_)
    · rw [hx] at hy; cases hy
      rcases hxf with ⟨_, rfl⟩ | ⟨out, hsl, _⟩
      · exact Adv.refl _
      · have := (slice_adv prog now cur fuel x).1; rwa [hsl] at this
    · rw [procs, upd_same] at hy; cases hy; exact Adv.refl _

theorem ExecCase.resKeep {prog : Prog} {now fuel : Nat} {ordQ : List Pid} {w w' : WorkerSt} {evs : List Evt}
    (h : ExecCase prog now fuel ordQ w w' evs)
    (hlive : ∀ cur x, cur ∈ (w.checkExpired prog now ordQ).queue → w.procs cur = some x → x.result = none) : ResKeep w w' := by
  have new : ∀ {cur : Pid} {x x' : Proc}, cur ∈ (w.checkExpired prog now ordQ).queue → w.procs cur = some x →
      ∀ y, w.procs cur = some y → ∀ r, y.result = some r → x'.result = some r :=
    fun hf hx y hy r hr => by rw [hlive _ _ hf hy] at hr; cases hr
  cases h with
  | idle procs => exact .of_procs procs
  | ran front hx _ _ procs => exact .updProc procs (new front hx)
  | @fin w1 cur x xf _ front hx _ procs =>
    exact (ResKeep.updProc (w' := { w1 with procs := upd w.procs cur (some { xf with result := some xf.finalRes }) }) rfl (new front hx)).trans
      (by
        have := (Helper.finish w1 cur xf ordQ).resKeep
        rw [procs, upd_upd] at this
        exact ResKeep.trans (.of_procs (by simp)) this)
end QM.Sys
