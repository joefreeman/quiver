/-
M-Dict — a hand translation of `/repo/std/dict.qv` (the 32-way HAMT behind `%dict`), function by
function and branch by branch in source order.  Import-free (core Lean only).

* The tree functions (`get`, `put`, `remove`, …) take the key's hash as an argument exactly as in the
  source, so they do not mention the hash function at all; only the exported record (`Api.*`) and
  `from` call it.  Everything is therefore parametric in `hash : K → Nat` (and in the key type `K`
  with decidable equality — the source compares keys with a pinned pattern `k =&key`, structural
  equality of values, so `Str[b]` and `b` are *different* keys with the *same* hash).
* Integers.  The source computes with `%int.and/or/not/shift/popcount` (i64 builtins) and `%num.add/
  sub/lt?` on values that are always in `[0, 2^32)` (hashes, bitmaps, bits) or small (shifts,
  indices).  On that range the i64 operations agree with the `Nat` operations used here:
  `[h, 0 - s] shift` is `h >>> s` (arithmetic right shift of a non-negative value; `≥ 64` gives 0
  as `Nat` does for `h < 2^64`), `[1, f] shift` is `1 <<< f` (`f ≤ 31`), `bit not` is the 64-bit
  complement (`andNot` below), `popcount` counts the 64 low bits (`count_ones` on the u64 image).
  `popcountNat` duplicates `QM.Builtins.popcountNat` (C12) because this file is import-free;
  `Lemmas/Dict/BuiltinsTie.lean` (`popcountNat_tie`) ties the two.
* The source's own `Nil | Cons[h, t]` lists are Lean `List`s; the tail-recursive helpers keep their
  accumulators (`revcat`, `insertAt … acc`) so that the *order* of children / bucket entries /
  `entries` output is the source's order (the correspondence compares printed trees and entry lists
  verbatim).
* Recursion.  `get`/`put`/`remove` recurse on `childAt children idx`, which is not a syntactic
  subterm: they are defined by well-founded recursion on `sizeOf`.  `split_pair`/`split_node` recurse
  on `shift + 5` with no structural argument (and really do not terminate when two different hashes
  agree on every fragment from `shift` upwards): they take fuel and return `none` when it runs out;
  `put` passes its fuel on and is `Option`-valued.  `C19.put_fuel_suffices`: under the invariant,
  fuel 8 is always enough (7 levels of 5-bit fragments cover 32 bits).
* nil.  `get` returns `Option V` (`none` = the source's `[]`).  A stored value that is itself `[]`
  is outside the module's documented domain ("a dict cannot usefully store nil").
* `iter` (an `%iter.unfold` over `entries`) is not modelled.
-/
namespace QM.Dict

/-! ### keys and the production hash -/

/-- `'key = Str['bin] | 'bin` -/
inductive Key where
  | bin (bs : List UInt8)
  | str (bs : List UInt8)
  deriving DecidableEq, Repr, Inhabited

/-- `key_bytes = #'key { =Str[b] => b | ='bin => $ }` -/
def keyBytes : Key → List UInt8
  | .str b => b
  | .bin b => b

/-- FNV-1a 32-bit, `builtin_binary_hash32`:
`fold(2166136261u32, |h, byte| (h ^ byte as u32).wrapping_mul(16777619))`. -/
def fnv1a32 (bs : List UInt8) : Nat :=
  bs.foldl (fun h b => ((h ^^^ b.toNat) * 16777619) % 4294967296) 2166136261

/-- `hash = #'key { key_bytes __binary_hash32__ }` — the hash the shipped module uses. -/
def keyHash (k : Key) : Nat := fnv1a32 (keyBytes k)

/-! ### the trie -/

/-- `'<'v> = Empty | Leaf['int, 'key, 'v] | Collision['int, 'list<['key, 'v]>] | Node['int, list]` -/
inductive Dict (K V : Type) where
  | empty
  | leaf (h : Nat) (k : K) (v : V)
  | collision (h : Nat) (entries : List (K × V))
  | node (bitmap : Nat) (children : List (Dict K V))
  deriving Repr, Inhabited

/-! ### integer helpers (i64 builtins restricted to the non-negative range, see header) -/

/-- `count_ones` of the low `fuel` bits. -/
def popcountNat : Nat → Nat → Nat
  | 0, _ => 0
  | fuel + 1, n => if n = 0 then 0 else (n % 2) + popcountNat fuel (n / 2)

/-- `%int.popcount` on a non-negative i64. -/
def popcount (n : Nat) : Nat := popcountNat 64 n

/-- `[a, b %int.not] %int.and` for non-negative `a`, `b < 2^64`: and with the 64-bit complement. -/
def andNot (a b : Nat) : Nat := a &&& (18446744073709551615 - b)

/-- `fragment`: `[0, shift] sub ~> [hash, ~] shift ~> [~, 31] and` -/
def fragment (hash shift : Nat) : Nat := (hash >>> shift) &&& 31

/-- `[hash, shift] fragment [1, ~] %int.shift` — the slot bit, as written in `get`/`put`/`remove`. -/
def bitOf (hash shift : Nat) : Nat := 1 <<< fragment hash shift

/-- `slot_index`: `[bit, 1] sub ~> [bitmap, ~] and ~> popcount` -/
def slotIndex (bitmap bit : Nat) : Nat := popcount (bitmap &&& (bit - 1))

/-! ### generic list helpers -/

def revcat {α : Type} : List α → List α → List α
  | [], rest => rest
  | h :: t, rest => revcat t (h :: rest)

def length {α : Type} : List α → Nat → Nat
  | [], n => n
  | _ :: t, n => length t (n + 1)

def map {α β : Type} : List α → (α → β) → List β → List β
  | [], _, acc => revcat acc []
  | h :: t, f, acc => map t f (f h :: acc)

theorem revcat_sizeOf {α : Type} [SizeOf α] (a b : List α) :
    sizeOf (revcat a b) + 1 = sizeOf a + sizeOf b := by
  induction a generalizing b with
  | nil => simp [revcat]; omega
  | cons h t ih => have := ih (h :: b); simp [revcat] at *; omega

variable {K V : Type}

/-- `child_at`: `Empty` past the end. -/
def childAt : List (Dict K V) → Nat → Dict K V
  | [], _ => .empty
  | h :: t, idx => if idx = 0 then h else childAt t (idx - 1)

def insertAt {α : Type} (lst : List α) (idx : Nat) (val : α) (acc : List α) : List α :=
  if idx = 0 then revcat acc (val :: lst)
  else
    match lst with
    | [] => revcat acc (val :: [])
    | h :: t => insertAt t (idx - 1) val (h :: acc)

def updateAt {α : Type} : List α → Nat → α → List α → List α
  | [], _, _, acc => revcat acc []
  | h :: t, idx, val, acc =>
    if idx = 0 then revcat acc (val :: t) else updateAt t (idx - 1) val (h :: acc)

def removeAt {α : Type} : List α → Nat → List α → List α
  | [], _, acc => revcat acc []
  | h :: t, idx, acc =>
    if idx = 0 then revcat acc t else removeAt t (idx - 1) (h :: acc)

theorem childAt_sizeOf (cs : List (Dict K V)) (i : Nat) : sizeOf (childAt cs i) ≤ sizeOf cs := by
  induction cs generalizing i with
  | nil => simp [childAt]
  | cons h t ih =>
    unfold childAt
    split
    · simp; omega
    · have := ih (i - 1); simp; omega

/-! ### collision buckets -/

variable [DecidableEq K]

def bucketGet : List (K × V) → K → Option V
  | [], _ => none
  | (k, v) :: t, key => if k = key then some v else bucketGet t key

def bucketPut : List (K × V) → K → V → List (K × V) → List (K × V)
  | [], key, value, acc => revcat acc ((key, value) :: [])
  | (k, v) :: t, key, value, acc =>
    if k = key then revcat acc ((key, value) :: t) else bucketPut t key value ((k, v) :: acc)

def bucketRemove : List (K × V) → K → List (K × V) → List (K × V)
  | [], _, acc => revcat acc []
  | (k, v) :: t, key, acc =>
    if k = key then revcat acc t else bucketRemove t key ((k, v) :: acc)

/-! ### tree operations -/

/-- `get = #<'v>['<'v>, 'key, 'int, 'int]` -/
def get (node : Dict K V) (key : K) (hash shift : Nat) : Option V :=
  match node with
  | .empty => none
  | .leaf _ k v => if k = key then some v else none
  | .collision _ entries => bucketGet entries key
  | .node bitmap children =>
    if bitmap &&& bitOf hash shift = 0 then none
    else get (childAt children (slotIndex bitmap (bitOf hash shift))) key hash (shift + 5)
termination_by sizeOf node
decreasing_by
  have := childAt_sizeOf children (slotIndex bitmap (bitOf hash shift))
  simp; omega

/-- `split_pair`: two single entries (differing keys) into a fresh subtree at `shift`. Fuelled. -/
def splitPair : Nat → Nat → K → V → Nat → K → V → Nat → Option (Dict K V)
  | 0, _, _, _, _, _, _, _ => none
  | fuel + 1, h1, k1, v1, h2, k2, v2, shift =>
    if h1 = h2 then
      some (.collision h1 (bucketPut (bucketPut [] k1 v1 []) k2 v2 []))
    else if fragment h1 shift = fragment h2 shift then
      match splitPair fuel h1 k1 v1 h2 k2 v2 (shift + 5) with
      | none => none
      | some c => some (.node (1 <<< fragment h1 shift) (c :: []))
    else if fragment h1 shift < fragment h2 shift then
      some (.node ((1 <<< fragment h1 shift) ||| (1 <<< fragment h2 shift))
        (.leaf h1 k1 v1 :: .leaf h2 k2 v2 :: []))
    else
      some (.node ((1 <<< fragment h1 shift) ||| (1 <<< fragment h2 shift))
        (.leaf h2 k2 v2 :: .leaf h1 k1 v1 :: []))

/-- `split_node`: an existing node (a collision) against a new entry whose hash differs. Fuelled. -/
def splitNode : Nat → Dict K V → Nat → Nat → K → V → Nat → Option (Dict K V)
  | 0, _, _, _, _, _, _ => none
  | fuel + 1, cnode, chash, hash, key, value, shift =>
    if fragment chash shift = fragment hash shift then
      match splitNode fuel cnode chash hash key value (shift + 5) with
      | none => none
      | some c => some (.node (1 <<< fragment chash shift) (c :: []))
    else if fragment chash shift < fragment hash shift then
      some (.node ((1 <<< fragment chash shift) ||| (1 <<< fragment hash shift))
        (cnode :: .leaf hash key value :: []))
    else
      some (.node ((1 <<< fragment chash shift) ||| (1 <<< fragment hash shift))
        (.leaf hash key value :: cnode :: []))

/-- `put = #<'v>[#^ -> '<'v>, '<'v>, 'key, 'v, 'int, 'int]`; `fuel` is only consumed by the splits. -/
def put (fuel : Nat) (node : Dict K V) (key : K) (value : V) (hash shift : Nat) : Option (Dict K V) :=
  match node with
  | .empty => some (.leaf hash key value)
  | .leaf lhash lkey lvalue =>
    if lkey = key then some (.leaf hash key value)
    else splitPair fuel lhash lkey lvalue hash key value shift
  | .collision chash entries =>
    if chash = hash then some (.collision chash (bucketPut entries key value []))
    else splitNode fuel (.collision chash entries) chash hash key value shift
  | .node bitmap children =>
    if bitmap &&& bitOf hash shift = 0 then
      some (.node (bitmap ||| bitOf hash shift)
        (insertAt children (slotIndex bitmap (bitOf hash shift)) (.leaf hash key value) []))
    else
      match put fuel (childAt children (slotIndex bitmap (bitOf hash shift))) key value hash (shift + 5) with
      | none => none
      | some newChild =>
        some (.node bitmap (updateAt children (slotIndex bitmap (bitOf hash shift)) newChild []))
termination_by sizeOf node
decreasing_by
  have := childAt_sizeOf children (slotIndex bitmap (bitOf hash shift))
  simp; omega

/-- `collapse_node`: canonicalise a node after a removal. -/
def collapseNode (bitmap : Nat) (children : List (Dict K V)) : Dict K V :=
  match children with
  | [] => .empty
  | only :: [] =>
    match only with
    | .node _ _ => .node bitmap children
    | leaf => leaf
  | _ => .node bitmap children

/-- `remove_slot`: drop the slot for `bit`, then canonicalise. -/
def removeSlot (bitmap bit : Nat) (children : List (Dict K V)) (idx : Nat) : Dict K V :=
  collapseNode (andNot bitmap bit) (removeAt children idx [])

/-- `remove = #<'v>[#^ -> '<'v>, '<'v>, 'key, 'int, 'int]` -/
def remove (node : Dict K V) (key : K) (hash shift : Nat) : Dict K V :=
  match node with
  | .empty => .empty
  | .leaf lhash k v => if k = key then .empty else .leaf lhash k v
  | .collision chash entries =>
    match bucketRemove entries key [] with
    | [] => .empty
    | (k, v) :: [] => .leaf chash k v
    | kept => .collision chash kept
  | .node bitmap children =>
    if bitmap &&& bitOf hash shift = 0 then .node bitmap children
    else
      match remove (childAt children (slotIndex bitmap (bitOf hash shift))) key hash (shift + 5) with
      | .empty => removeSlot bitmap (bitOf hash shift) children (slotIndex bitmap (bitOf hash shift))
      | new => collapseNode bitmap (updateAt children (slotIndex bitmap (bitOf hash shift)) new [])
termination_by sizeOf node
decreasing_by
  have := childAt_sizeOf children (slotIndex bitmap (bitOf hash shift))
  simp; omega

/-- `entries`: collect every entry by walking a worklist of pending nodes. -/
def entries (worklist : List (Dict K V)) (acc : List (K × V)) : List (K × V) :=
  match worklist with
  | [] => acc
  | node :: rest =>
    match node with
    | .empty => entries rest acc
    | .leaf _ k v => entries rest ((k, v) :: acc)
    | .collision _ ents => entries rest (revcat ents acc)
    | .node _ children => entries (revcat children rest) acc
termination_by sizeOf worklist
decreasing_by
  · simp
  · simp; omega
  · simp; omega
  · rename_i children
    have := revcat_sizeOf children rest; simp; omega

/-- `from = #<'v>[#^ -> '<'v>, '<'v>, 'list<['key, 'v]>]` (calls `hash`). -/
def fromList (hash : K → Nat) (fuel : Nat) : Dict K V → List (K × V) → Option (Dict K V)
  | d, [] => some d
  | d, (k, val) :: t =>
    match put fuel d k val (hash k) 0 with
    | none => none
    | some d' => fromList hash fuel d' t

/-! ### the exported record -/

namespace Api
variable (hash : K → Nat)

/-- `new: #{ Empty }` -/
def new : Dict K V := .empty
/-- `get: [$0, $1, $1 hash, 0] get` -/
def get (d : Dict K V) (k : K) : Option V := Dict.get d k (hash k) 0
/-- `put: [&put, $0, $1, $2, $1 hash, 0] put` -/
def put (fuel : Nat) (d : Dict K V) (k : K) (v : V) : Option (Dict K V) := Dict.put fuel d k v (hash k) 0
/-- `remove: [&remove, $0, $1, $1 hash, 0] remove` -/
def remove (d : Dict K V) (k : K) : Dict K V := Dict.remove d k (hash k) 0
/-- `has?: [$0, $1, $1 hash, 0] get, Ok` -/
def has (d : Dict K V) (k : K) : Bool := (Dict.get d k (hash k) 0).isSome
/-- `entries: Cons[~, Nil] [~, Nil] entries` -/
def entries (d : Dict K V) : List (K × V) := Dict.entries (d :: []) []
/-- `count: Cons[~, Nil] [~, Nil] entries [~, 0] length` -/
def count (d : Dict K V) : Nat := length (Dict.entries (d :: []) []) 0
/-- `keys: entries ~> [~, #{ $0 }, Nil] map` -/
def keys (d : Dict K V) : List K := map (Dict.entries (d :: []) []) (fun e => e.1) []
/-- `values: entries ~> [~, #{ $1 }, Nil] map` -/
def values (d : Dict K V) : List V := map (Dict.entries (d :: []) []) (fun e => e.2) []
/-- `from: [&from, Empty, ~] from` -/
def «from» (fuel : Nat) (pairs : List (K × V)) : Option (Dict K V) := fromList hash fuel .empty pairs
/-- `merge: Cons[$1, Nil] [~, Nil] entries [&from, $0, ~] from` -/
def merge (fuel : Nat) (a b : Dict K V) : Option (Dict K V) :=
  fromList hash fuel a (Dict.entries (b :: []) [])

end Api

/-- Fuel used by the driver; `C19.put_fuel_suffices`: any fuel ≥ 8 is enough. -/
def defaultFuel : Nat := 8

end QM.Dict
