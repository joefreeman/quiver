import QuiverModel.Core.Packaging.ValueInstrs
/-
M-Packaging, part 5 — `Environment::merge_bytecode` (owner: C10).

Port of quiver-environment/src/environment.rs `merge_bytecode` with `import_type` / `import_type_value` /
`import_tuple` (deep import, dependencies first, memoised in `type_remap` / `tuple_remap`),
`remap_function` (operands through the tables, `.unwrap_or(idx)`: a reference to a function that is
merged LATER keeps its source index) and quiver-core/src/program.rs `register_type` / `register_tuple` /
`register_builtin_info` (by name) (deduplicate, else append; `register_constant` / `register_function` are in
Core/Packaging/ValueInstrs.lean). `none` = the Rust indexes out of range (`src_types[old_id]`), the entry is not in
the function remap table (`.expect`), or the fuel of the recursive import ran out.
-/
namespace QM.Packaging

def tyIndexOf? (τ : Ty) : List Ty → Option Nat
  | [] => none
  | c :: cs => if c == τ then some 0 else (tyIndexOf? τ cs).map (· + 1)

/-- `Program::register_type` -/
def Prog.registerType (P : Prog) (τ : Ty) : Prog × Nat :=
  match tyIndexOf? τ P.types.toList with
  | some i => (P, i)
  | none => ({ P with types := P.types.push τ }, P.types.size)

def tupIndexOf? (T : TupleInfo) : List TupleInfo → Option Nat
  | [] => none
  | c :: cs => if c == T then some 0 else (tupIndexOf? T cs).map (· + 1)

/-- `Program::register_tuple` (same name and same fields) -/
def Prog.registerTuple (P : Prog) (T : TupleInfo) : Prog × Nat :=
  match tupIndexOf? T P.tuples.toList with
  | some i => (P, i)
  | none => ({ P with tuples := P.tuples.push T }, P.tuples.size)

def builtinIndexOf? (name : String) : List BuiltinInfo → Option Nat
  | [] => none
  | c :: cs => if c.name == name then some 0 else (builtinIndexOf? name cs).map (· + 1)

/-- `Program::register_builtin_info` (an existing builtin of that NAME wins) -/
def Prog.registerBuiltin (P : Prog) (B : BuiltinInfo) : Prog × Nat :=
  match builtinIndexOf? B.name P.builtins.toList with
  | some i => (P, i)
  | none => ({ P with builtins := P.builtins.push B }, P.builtins.size)

structure MergeSt where
  prog : Prog
  tyMap : AMap := []
  tuMap : AMap := []

mutual
/-- `import_type` -/
def importType (fast : Bool) (src : Prog) : Nat → Nat → MergeSt → Option (MergeSt × Nat)
  | 0, _, _ => none
  | fuel + 1, old, st =>
    match st.tyMap.get old with
    | some n => some (st, n)
    | none =>
      match src.types[old]? with
      | none => none
      | some τ =>
        -- the seeded C08-3 "fast path" (NOT in the code; `fast := true` only in the witness): a
        -- structurally equal entry at the same index is mapped to itself, children un-imported
        if fast && st.prog.types[old]? == some τ then some ({ st with tyMap := (old, old) :: st.tyMap }, old)
        else
        match importTyValue fast src fuel τ st with
        | none => none
        | some (st1, τ') =>
          let r := st1.prog.registerType τ'
          some ({ st1 with prog := r.1, tyMap := (old, r.2) :: st1.tyMap }, r.2)
/-- `import_type_value` -/
def importTyValue (fast : Bool) (src : Prog) : Nat → Ty → MergeSt → Option (MergeSt × Ty)
  | 0, _, _ => none
  | fuel + 1, τ, st =>
    match τ with
    | .tuple id => (importTuple fast src fuel id st).map (fun r => (r.1, Ty.tuple r.2))
    | .part n fs =>
      (importTypes fast src fuel (fs.map (·.2)) st).map (fun r => (r.1, Ty.part n (List.zipWith (fun p t => (p.1, t)) fs r.2)))
    | .union ids => (importTypes fast src fuel ids st).map (fun r => (r.1, Ty.union r.2))
    | .callable p r v =>
      match importTypes fast src fuel [p, r, v] st with
      | some (st1, [p', r', v']) => some (st1, .callable p' r' v')
      | _ => none
    | .process s r =>
      match (match s with
             | none => some (st, none)
             | some t => (importType fast src fuel t st).map (fun (x : MergeSt × Nat) => (x.1, some x.2))) with
      | none => none
      | some (st1, s') =>
        match (match r with
               | none => some (st1, none)
               | some t => (importType fast src fuel t st1).map (fun (x : MergeSt × Nat) => (x.1, some x.2))) with
        | none => none
        | some (st2, r') => some (st2, .process s' r')
    | other => some (st, other)
def importTypes (fast : Bool) (src : Prog) : Nat → List Nat → MergeSt → Option (MergeSt × List Nat)
  | 0, _, _ => none
  | _ + 1, [], st => some (st, [])
  | fuel + 1, t :: ts, st =>
    match importType fast src fuel t st with
    | none => none
    | some (st1, t') =>
      match importTypes fast src fuel ts st1 with
      | none => none
      | some (st2, ts') => some (st2, t' :: ts')
/-- `import_tuple` -/
def importTuple (fast : Bool) (src : Prog) : Nat → Nat → MergeSt → Option (MergeSt × Nat)
  | 0, _, _ => none
  | fuel + 1, old, st =>
    match st.tuMap.get old with
    | some n => some (st, n)
    | none =>
      match src.tuples[old]? with
      | none => none
      | some T =>
        if fast && st.prog.tuples[old]? == some T then some ({ st with tuMap := (old, old) :: st.tuMap }, old)
        else
        match importTypes fast src fuel (T.fields.map (·.2)) st with
        | none => none
        | some (st1, ts') =>
          let r := st1.prog.registerTuple { name := T.name, fields := List.zipWith (fun p t => (p.1, t)) T.fields ts' }
          some ({ st1 with prog := r.1, tuMap := (old, r.2) :: st1.tuMap }, r.2)
end

def importFuel (src : Prog) : Nat :=
  8 + 4 * (src.types.size + src.tuples.size) +
    2 * (src.types.foldl (fun n τ => n + (match τ with | .part _ fs => fs.length | .union ids => ids.length | _ => 3)) 0 +
         src.tuples.foldl (fun n T => n + T.fields.length) 0)

def importAllTypes (fast : Bool) (src : Prog) : List Nat → MergeSt → Option MergeSt
  | [], st => some st
  | t :: ts, st =>
    match importType fast src (importFuel src) t st with
    | none => none
    | some (st1, _) => importAllTypes fast src ts st1

def importAllTuples (fast : Bool) (src : Prog) : List Nat → MergeSt → Option MergeSt
  | [], st => some st
  | t :: ts, st =>
    match importTuple fast src (importFuel src) t st with
    | none => none
    | some (st1, _) => importAllTuples fast src ts st1

def getOr (m : AMap) (i : Nat) : Nat := (m.get i).getD i

/-- `remap_function`'s instruction map (every lookup `.unwrap_or(idx)`; `Process` is not remapped) -/
def mergeInstr (cm fm tm ym bm : AMap) : Instr → Instr
  | .const i => .const (getOr cm i)
  | .function i => .function (getOr fm i)
  | .builtin i => .builtin (getOr bm i)
  | .tuple i => .tuple (getOr tm i)
  | .isType i => .isType (getOr ym i)
  | i => i

def mergeConsts : List Const → Nat → Prog → AMap → Prog × AMap
  | [], _, P, m => (P, m)
  | k :: ks, i, P, m =>
    let r := P.registerConst k
    mergeConsts ks (i + 1) r.1 ((i, r.2) :: m)

def mergeBuiltins (ym : AMap) : List BuiltinInfo → Nat → Prog → AMap → Prog × AMap
  | [], _, P, m => (P, m)
  | B :: bs, i, P, m =>
    let r := P.registerBuiltin { name := B.name, paramType := getOr ym B.paramType, resultType := getOr ym B.resultType }
    mergeBuiltins ym bs (i + 1) r.1 ((i, r.2) :: m)

def mergeFns (cm tm ym bm : AMap) : List Fn → Nat → Prog → AMap → Prog × AMap
  | [], _, P, fm => (P, fm)
  | F :: fs, i, P, fm =>
    let F' : Fn := { instrs := F.instrs.map (mergeInstr cm fm tm ym bm), captures := F.captures,
                     typeId := getOr ym F.typeId }
    let r := P.registerFn F'
    mergeFns cm tm ym bm fs (i + 1) r.1 ((i, r.2) :: fm)

/-- `Program::collect_resource_names` -/
def resourceNames (types : List Ty) : List String :=
  types.foldl (fun names τ => match τ with
    | .resource n => if names.contains n then names else names ++ [n]
    | _ => names) []

structure MergeOut where
  prog : Prog
  entry : Nat
  ren : Ren

/-- `Environment::merge_bytecode(src)` into the environment's program `env`. -/
def mergeBytecodeWith (fast : Bool) (env src : Prog) (entry : Nat) : Option MergeOut :=
  let (p1, cm) := mergeConsts src.consts.toList 0 env []
  match importAllTypes fast src (List.range src.types.size) { prog := p1 } with
  | none => none
  | some st1 =>
    match importAllTuples fast src (List.range src.tuples.size) st1 with
    | none => none
    | some st2 =>
      let (p3, bm) := mergeBuiltins st2.tyMap src.builtins.toList 0 st2.prog []
      let (p4, fm) := mergeFns cm st2.tuMap st2.tyMap bm src.fns.toList 0 p3 []
      match fm.get entry with
      | none => none
      | some e' =>
        some { prog := { p4 with resources := (resourceNames p4.types.toList).toArray },
               entry := e',
               ren := { const := cm, fn := fm, tuple := st2.tuMap, type := st2.tyMap, builtin := bm } }

def mergeBytecode (env src : Prog) (entry : Nat) : Option MergeOut := mergeBytecodeWith false env src entry

end QM.Packaging
