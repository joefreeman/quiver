import QuiverModel.Core.Packaging.Sem
/-
M-Packaging, part 3 — turning a value back into instructions (owner: C10).

Mirrors
  quiver-compiler/src/compiler.rs  `value_to_instructions_from_cache`  (= `v2iA`: a cached module value
                                    re-emitted at each `%m` / `%m.f` use; closures keep their captures:
                                    capture values are pushed, then `Function(f)` pops them)
  quiver-core/src/program.rs       `value_to_instructions` (= `v2iB`) and `inject_function_captures`
                                    (= `injectCaptures`: a closure becomes a *new* capture-free function
                                    whose prelude stores the captures, used by `quiv run`/`quiv compile`)
  quiver-core/src/program.rs       `register_constant`, `register_function` (dedup, else append)

Binaries: a `Val.bin` carries its bytes, so `Binary::Constant(i)` (re-uses constant `i`) and
`Binary::Heap(i)` (registers the bytes) both become "register the bytes" — with deduplicated constants
`register_constant` returns the same index `i` for the former. The type registrations
`value_to_instructions_from_cache` performs on the side (`register_type(Integer)`, the never-receiving `Callable`
of a builtin, …) do not influence the emitted instructions and are not modelled here (they matter to the compatibility
tables, which `checkRenaming` covers).
-/
namespace QM.Packaging

def indexOf? (k : Const) : List Const → Option Nat
  | [] => none
  | c :: cs => if c == k then some 0 else (indexOf? k cs).map (· + 1)

/-- `Program::register_constant`. -/
def Prog.registerConst (P : Prog) (k : Const) : Prog × Nat :=
  match indexOf? k P.consts.toList with
  | some i => (P, i)
  | none => ({ P with consts := P.consts.push k }, P.consts.size)

def fnIndexOf? (F : Fn) : List Fn → Option Nat
  | [] => none
  | c :: cs => if c == F then some 0 else (fnIndexOf? F cs).map (· + 1)

/-- `Program::register_function` (deduplicates on full equality). -/
def Prog.registerFn (P : Prog) (F : Fn) : Prog × Nat :=
  match fnIndexOf? F P.fns.toList with
  | some i => (P, i)
  | none => ({ P with fns := P.fns.push F }, P.fns.size)

mutual
/-- `value_to_instructions_from_cache`: `none` = the Rust returns an error
    (`FunctionUndefined`, `BuiltinUndefined`, `FeatureUnsupported` for refs / processes / resources). -/
def v2iA (P : Prog) : Val → Option (Prog × List Instr)
  | .int z => some ((P.registerConst (.int z)).1, [.const (P.registerConst (.int z)).2])
  | .bin bs => some ((P.registerConst (.bin bs)).1, [.const (P.registerConst (.bin bs)).2])
  | .tuple t fs =>
    match v2iAList P fs with
    | some (P1, is) => some (P1, is ++ [.tuple t])
    | none => none
  | .fn f cs =>
    match P.fns[f]? with
    | none => none
    | some _ =>
      match v2iAList P cs with
      | some (P1, is) => some (P1, is ++ [.function f])
      | none => none
  | .builtin b => if b < P.builtins.size then some (P, [.builtin b]) else none
  | .ref _ => none
  | .proc _ _ => none
  | .res _ _ => none
def v2iAList (P : Prog) : List Val → Option (Prog × List Instr)
  | [] => some (P, [])
  | v :: vs =>
    match v2iA P v with
    | none => none
    | some (P1, i1) =>
      match v2iAList P1 vs with
      | none => none
      | some (P2, i2) => some (P2, i1 ++ i2)
end

mutual
/-- `Program::value_to_instructions`: `none` = the Rust panics ("Cannot convert pid/resource/ref to
    instructions", missing function). A closure with captures is replaced by an injected function. -/
def v2iB (P : Prog) : Val → Option (Prog × List Instr)
  | .int z => some ((P.registerConst (.int z)).1, [.const (P.registerConst (.int z)).2])
  | .bin bs => some ((P.registerConst (.bin bs)).1, [.const (P.registerConst (.bin bs)).2])
  | .tuple t fs =>
    match v2iBList P fs with
    | some (P1, is) => some (P1, is ++ [.tuple t])
    | none => none
  | .fn f [] => some (P, [.function f])
  | .fn f (c :: cs) =>
    -- `inject_function_captures(f, captures)` inlined (it is mutually recursive with this function)
    match v2iBStores P (c :: cs) with
    | none => none
    | some (P1, prelude) =>
      match P1.fns[f]? with
      | none => none
      | some F =>
        some ((P1.registerFn { instrs := prelude ++ F.instrs, captures := 0, typeId := F.typeId }).1,
              [.function (P1.registerFn { instrs := prelude ++ F.instrs, captures := 0, typeId := F.typeId }).2])
  | .builtin b => some (P, [.builtin b])
  | .ref _ => none
  | .proc _ _ => none
  | .res _ _ => none
def v2iBList (P : Prog) : List Val → Option (Prog × List Instr)
  | [] => some (P, [])
  | v :: vs =>
    match v2iB P v with
    | none => none
    | some (P1, i1) =>
      match v2iBList P1 vs with
      | none => none
      | some (P2, i2) => some (P2, i1 ++ i2)
/-- the prelude of an injected function: for each capture, its instructions then `Store` -/
def v2iBStores (P : Prog) : List Val → Option (Prog × List Instr)
  | [] => some (P, [])
  | v :: vs =>
    match v2iB P v with
    | none => none
    | some (P1, i1) =>
      match v2iBStores P1 vs with
      | none => none
      | some (P2, i2) => some (P2, i1 ++ [.store] ++ i2)
end

/-- `Program::inject_function_captures(function_index, captures)`: the new program and the index of
    the injected function. -/
def injectCaptures (P : Prog) (f : Nat) (caps : List Val) : Option (Prog × Nat) :=
  match v2iBStores P caps with
  | none => none
  | some (P1, prelude) =>
    match P1.fns[f]? with
    | none => none
    | some F => some (P1.registerFn { instrs := prelude ++ F.instrs, captures := 0, typeId := F.typeId })

end QM.Packaging
