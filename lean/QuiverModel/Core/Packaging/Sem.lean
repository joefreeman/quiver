import QuiverModel.Core.Outcome
import QuiverModel.Core.Packaging.Renaming
/-
M-Packaging, part 2 — small-step semantics of one process over a `Prog` (owner: C10).

Mirrors quiver-core/src/executor.rs: the `handle_*` functions of `execute_hot` (same case analysis,
same error on the same input, same order of pops), the frame auto-pop loop of `Executor::step`
(including the `should_clear_locals` rule) and process completion. Everything whose behaviour depends
on a table index is modelled concretely (Constant, Tuple, Get, IsType, Function, Builtin, Call,
TailCall, Equal, …). What is *not* modelled is abstracted, not dropped:

  * builtin implementations are a parameter `B : String → Val → BRes` (looked up **by name**, as
    `update_program` resolves `builtin_impls` from the registry by name);
  * the five cold instructions (Spawn, Send, Self_, Select, Process) and builtins that return an
    `Action` end the sequential run with `Res.yield` — the scheduler/environment takes over (M-Sys);
  * the heap: a binary value carries its bytes (`Binary::Constant`/`Binary::Heap` erased), so
    `values_equal` on binaries is byte equality, which is what all four branches of the Rust compute.

Conventions (same as M-VM): `stack` head = top; `locals` index 0 first; `frames` head = current.
-/
namespace QM.Packaging

/-- `value.rs::Value` with binaries resolved to bytes. -/
inductive Val where
  | int (z : Int)
  | bin (bs : List UInt8)
  | ref (r : Nat)
  | tuple (id : Nat) (fields : List Val)
  | fn (idx : Nat) (captures : List Val)
  | builtin (id : Nat)
  | proc (pid : Nat) (fidx : Nat)
  | res (rid : Nat) (rty : Nat)
  deriving Repr, Inhabited

namespace Val
def nil : Val := .tuple 0 []
def ok : Val := .tuple 1 []
/-- `Value::is_nil`. -/
def isNil : Val → Bool
  | .tuple 0 [] => true
  | _ => false
/-- `Executor::get_concrete_type`. -/
def tag : Val → Tag
  | .int _ => .int
  | .bin _ => .bin
  | .ref _ => .ref
  | .tuple t _ => .tuple t
  | .fn f _ => .fn f
  | .builtin b => .builtin b
  | .proc _ f => .proc f
  | .res _ r => .res r
end Val

/-- `process.rs::Frame`. -/
structure Frame where
  fn : Nat
  base : Nat
  caps : Nat
  pc : Nat
  deriving Repr, DecidableEq, Inhabited

/-- The sequential part of `process.rs::Process`. -/
structure St where
  stack : List Val
  locals : List Val
  frames : List Frame
  persistent : Bool := false
  deriving Repr, Inhabited

/-- Result of a builtin call (`BuiltinResult` / `Err` / a Rust panic). -/
inductive BRes where
  | value (v : Val)
  | err (e : ErrClass)
  | action
  | panic

abbrev BuiltinSem := String → Val → BRes

/-- Result of one step. -/
inductive Res where
  | next (s : St)
  /-- the process ends with `result = Err(e)` -/
  | err (e : ErrClass)
  /-- the Rust code would panic (index out of bounds in `handle_equal` / `handle_rotate` with operand 0) -/
  | panic
  /-- a cold instruction or a builtin action: control goes to the scheduler (state before it) -/
  | yield (s : St) (i : Instr)
  /-- no frames left: the process result is the popped top of stack -/
  | done (v : Val)

mutual
/-- `Executor::values_equal` (resources are never equal: they fall into the `_ => false` arm). -/
def veq (P : Prog) : Val → Val → Bool
  | .int a, .int b => a == b
  | .bin a, .bin b => a == b
  | .ref a, .ref b => a == b
  | .tuple ta fa, .tuple tb fb => P.canonOf ta == P.canonOf tb && veqList P fa fb
  | .fn a ca, .fn b cb => a == b && veqList P ca cb
  | .builtin a, .builtin b => a == b
  | .proc a fa, .proc b fb => a == b && fa == fb
  | _, _ => false
/-- `len == len && zip.all(values_equal)`. -/
def veqList (P : Prog) : List Val → List Val → Bool
  | [], [] => true
  | a :: as, b :: bs => veq P a b && veqList P as bs
  | _, _ => false
end

def advance (fr : Frame) : Frame := { fr with pc := fr.pc + 1 }

/-- `counter.wrapping_add_signed(offset + 1)` on a 64-bit `usize`. -/
def jumpTarget (pc : Nat) (off : Int) : Nat := (((pc : Int) + off + 1) % (2 ^ 64 : Int)).toNat

/-- `Executor::current_instruction`. -/
def fetch (P : Prog) (fr : Frame) : Option Instr :=
  match P.fns[fr.fn]? with
  | some F => F.instrs[fr.pc]?
  | none => none

/-- Continue in the current frame at `pc + 1` with a new stack. -/
def cont (s : St) (fr : Frame) (rest : List Frame) (stack : List Val) : Res :=
  .next { s with stack := stack, frames := advance fr :: rest }

/-- One hot instruction (`execute_hot`). `fr` is the current frame, `rest` the frames below. -/
def exec (P : Prog) (B : BuiltinSem) (s : St) (fr : Frame) (rest : List Frame) : Instr → Res
  | .const i =>
    match P.consts[i]? with
    | some (.int z) => cont s fr rest (.int z :: s.stack)
    | some (.bin bs) => cont s fr rest (.bin bs :: s.stack)
    | none => .err .constantUndefined
  | .pop =>
    match s.stack with
    | _ :: st => cont s fr rest st
    | [] => .err .stackUnderflow
  | .dup =>
    match s.stack with
    | v :: st => cont s fr rest (v :: v :: st)
    | [] => .err .stackUnderflow
  | .pick n =>
    match s.stack[n]? with
    | some v => cont s fr rest (v :: s.stack)
    | none => .err .stackUnderflow
  | .rotate n =>
    if s.stack.length < n then .err .stackUnderflow
    else match n with
      | 0 => .panic
      | k + 1 =>
        match s.stack[k]? with
        | some v => cont s fr rest (v :: s.stack.eraseIdx k)
        | none => .err .stackUnderflow
  | .reset n =>
    if fr.base + n > s.locals.length then .err .stackUnderflow
    else .next { s with locals := s.locals.take (fr.base + n), frames := advance fr :: rest }
  | .load n =>
    match s.locals[fr.base + n]? with
    | some v => cont s fr rest (v :: s.stack)
    | none => .err .variableUndefined
  | .store =>
    match s.stack with
    | v :: st => .next { s with stack := st, locals := s.locals ++ [v], frames := advance fr :: rest }
    | [] => .err .stackUnderflow
  | .tuple t =>
    match P.tuples[t]? with
    | none => .err .typeMismatch
    | some T =>
      let n := T.fields.length
      if s.stack.length < n then .err .stackUnderflow
      else cont s fr rest (.tuple t (s.stack.take n).reverse :: s.stack.drop n)
  | .get i =>
    match s.stack with
    | [] => .err .stackUnderflow
    | .tuple _ fs :: st =>
      match fs[i]? with
      | some v => cont s fr rest (v :: st)
      | none => .err .fieldAccessInvalid
    | _ :: _ => .err .typeMismatch
  | .isType t =>
    match s.stack with
    | [] => .err .stackUnderflow
    | v :: st => cont s fr rest ((if P.isCompat t v.tag then Val.ok else Val.nil) :: st)
  | .jump off => .next { s with frames := { fr with pc := jumpTarget fr.pc off } :: rest }
  | .jumpIf off =>
    match s.stack with
    | [] => .err .stackUnderflow
    | c :: st =>
      if c.isNil then cont s fr rest st
      else .next { s with stack := st, frames := { fr with pc := jumpTarget fr.pc off } :: rest }
  | .call =>
    match s.stack with
    | [] => .err .stackUnderflow
    | .fn f caps :: st =>
      match P.fns[f]? with
      | none => .err .functionUndefined
      | some _ =>
        match st with
        | [] => .err .stackUnderflow
        | arg :: st' =>
          .next { s with stack := arg :: st', locals := s.locals ++ caps,
                         frames := { fn := f, base := s.locals.length, caps := caps.length, pc := 0 } :: fr :: rest }
    | .builtin b :: st =>
      match st with
      | [] => .err .stackUnderflow
      | arg :: st' =>
        match P.builtins[b]? with
        | none => .err .invalidArgument
        | some info =>
          match B info.name arg with
          | .value v => cont s fr rest (v :: st')
          | .err e => .err e
          | .action => .yield s .call
          | .panic => .panic
    | _ :: _ => .err .typeMismatch
  | .tailCall true =>
    match s.stack with
    | [] => .err .stackUnderflow
    | arg :: st =>
      .next { s with stack := arg :: st, locals := s.locals.take (fr.base + fr.caps),
                     frames := { fr with pc := 0 } :: rest }
  | .tailCall false =>
    match s.stack with
    | [] => .err .stackUnderflow
    | [_] => .err .stackUnderflow
    | fv :: arg :: st =>
      match fv with
      | .fn f caps =>
        match P.fns[f]? with
        | none => .err .functionUndefined
        | some _ =>
          .next { s with stack := arg :: st, locals := s.locals.take fr.base ++ caps,
                         frames := { fn := f, base := fr.base, caps := caps.length, pc := 0 } :: rest }
      | _ => .err .callInvalid
  | .function f =>
    match P.fns[f]? with
    | none => .err .functionUndefined
    | some F =>
      if s.stack.length < F.captures then .err .stackUnderflow
      else cont s fr rest (.fn f (s.stack.take F.captures).reverse :: s.stack.drop F.captures)
  | .builtin b =>
    if b < P.builtins.size then cont s fr rest (.builtin b :: s.stack) else .err .builtinUndefined
  | .equal n =>
    if n > s.stack.length then .err .stackUnderflow
    else match (s.stack.take n).reverse with
      | [] => .panic
      | first :: others =>
        cont s fr rest ((if others.all (veq P first) then first else Val.nil) :: s.stack.drop n)
  | .not =>
    match s.stack with
    | [] => .err .stackUnderflow
    | v :: st => cont s fr rest ((if v.isNil then Val.ok else Val.nil) :: st)
  | .spawn => .yield s .spawn
  | .send => .yield s .send
  | .self => .yield s .self
  | .select => .yield s .select
  | .process pid f => .yield s (.process pid f)

/-- One step of the process: an instruction, or the auto-pop of an exhausted frame
    (`should_clear_locals = !persistent || !is_last_frame`), or completion. -/
def step (P : Prog) (B : BuiltinSem) (s : St) : Res :=
  match s.frames with
  | [] =>
    match s.stack with
    | v :: _ => .done v
    | [] => .err .stackUnderflow
  | fr :: rest =>
    match fetch P fr with
    | some i => exec P B s fr rest i
    | none =>
      let locals := if !s.persistent || !rest.isEmpty then s.locals.take fr.base else s.locals
      match rest with
      | [] => .next { s with locals := locals, frames := [] }
      | c :: cs => .next { s with locals := locals, frames := advance c :: cs }

/-- `s` reaches `t` by zero or more steps. -/
inductive Steps (P : Prog) (B : BuiltinSem) : St → St → Prop where
  | refl (s : St) : Steps P B s s
  | cons {s t u : St} : QM.Packaging.step P B s = Res.next t → Steps P B t u → Steps P B s u

theorem Steps.trans {P : Prog} {B : BuiltinSem} {s t u : St} (h1 : Steps P B s t) (h2 : Steps P B t u) :
    Steps P B s u := by
  induction h1 with
  | refl => exact h2
  | cons hs _ ih => exact .cons hs (ih h2)

theorem Steps.single {P : Prog} {B : BuiltinSem} {s t : St} (h : QM.Packaging.step P B s = Res.next t) : Steps P B s t :=
  .cons h (.refl t)

/-- Fuelled runner (driver / examples): the first non-`next` result, or `none` on fuel exhaustion. -/
def run (P : Prog) (B : BuiltinSem) : Nat → St → Option Res
  | 0, _ => none
  | fuel + 1, s =>
    match step P B s with
    | .next t => run P B fuel t
    | r => some r

/-- Start state of `spawn_process(entry, captures = [], argument)`. -/
def St.start (entry : Nat) (arg : Val) : St :=
  { stack := [arg], locals := [], frames := [{ fn := entry, base := 0, caps := 0, pc := 0 }] }

end QM.Packaging
