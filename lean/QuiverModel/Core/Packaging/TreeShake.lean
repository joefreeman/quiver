import QuiverModel.Core.Packaging.Renaming
/-
M-Packaging, part 4 — `tree_shake` itself (owner: C10).

Port of quiver-core/src/optimisation.rs `tree_shake(bytecode, entry)`, loop by loop:

  mark phase   `collect_type_refs` / `collect_tuple_refs` (mutually recursive, guarded by the insert
               into `used_types` / `used_tuples`), NIL and OK tuples first, then the BFS over functions
               from `entry` (per instruction: Function / Process → queue, Constant, Tuple (+ the first
               `Type::Tuple(id)` entry), IsType, Builtin), then the parameter / result types of the used
               builtins, then the **index-only entries** (fix 5a04882, F13): every `Type::Process{Some s,
               Some r}` for which some kept function's callable type has `receive = s ∧ result = r`,
               and every never-receiving `Type::Callable{p, r, _}` matching a kept builtin's (p, r);
  sweep phase  used sets sorted → remap tables (rank), functions / constants / tuples / builtins /
               types rebuilt through the tables (`remap_type`; instruction operands with `.unwrap()`,
               type ids with `.unwrap_or(id)`), resources = the used names sorted, entry remapped.

Rust `HashSet`s are duplicate-free lists here (insertion order is irrelevant: everything is sorted
before use). The two recursive collectors take fuel (one level per nested call and per element of a child
list; `collectFuel` always suffices, `C10.treeShake_fuel_suffices`) — exhaustion is reported as `none`, as is
every input on which the Rust indexes out of range (`bytecode.functions[old_id]`, … on a dangling id).
`legacy := true` gives the sweep before 5a04882 (no index-only entries), kept as a witness.
-/
namespace QM.Packaging

structure Marks where
  fns : List Nat := []
  consts : List Nat := []
  tuples : List Nat := []
  types : List Nat := []
  builtins : List Nat := []
  resources : List String := []
  deriving Repr, Inhabited

def insertNat (a : Nat) (l : List Nat) : List Nat := if l.contains a then l else a :: l
def insertStr (a : String) (l : List String) : List String := if l.contains a then l else a :: l

/-- children (type ids) of a type entry, in the order `collect_type_refs` visits them -/
def tyChildren : Ty → List Nat
  | .part _ fs => fs.map (·.2)
  | .callable p r v => [p, r, v]
  | .union ids => ids
  | .process s r => s.toList ++ r.toList
  | _ => []

mutual
/-- `collect_type_refs` -/
def collectType (P : Prog) : Nat → Nat → Marks → Option Marks
  | 0, _, _ => none
  | fuel + 1, t, m =>
    if m.types.contains t then some m
    else
      let m := { m with types := t :: m.types }
      match P.types[t]? with
      | none => some m
      | some (.tuple id) => collectTuple P fuel id m
      | some (.resource n) => some { m with resources := insertStr n m.resources }
      | some τ => collectTypes P fuel (tyChildren τ) m
/-- the `for` loops over child type ids -/
def collectTypes (P : Prog) : Nat → List Nat → Marks → Option Marks
  | 0, _, _ => none
  | _ + 1, [], m => some m
  | fuel + 1, t :: ts, m =>
    match collectType P fuel t m with
    | none => none
    | some m' => collectTypes P fuel ts m'
/-- `collect_tuple_refs` -/
def collectTuple (P : Prog) : Nat → Nat → Marks → Option Marks
  | 0, _, _ => none
  | fuel + 1, id, m =>
    if m.tuples.contains id then some m
    else
      let m := { m with tuples := id :: m.tuples }
      match P.tuples[id]? with
      | none => some m
      | some T => collectTypes P fuel (T.fields.map (·.2)) m
end

/-- fuel for one top-level call of a collector: every nested call either hits the guard or marks a new
    type / tuple id, and a `collectTypes` frame is entered once per child — bounded by the table sizes
    plus the total number of children -/
def collectFuel (P : Prog) : Nat :=
  4 + 2 * (P.types.size + P.tuples.size) +
    P.types.foldl (fun n τ => n + (tyChildren τ).length) 0 +
    P.tuples.foldl (fun n T => n + T.fields.length) 0

/-- position of the first `Type::Tuple(id)` entry -/
def firstTupleType (P : Prog) (id : Nat) : Option Nat :=
  P.types.toList.findIdx? (· == Ty.tuple id)

/-- the per-instruction part of the BFS body; returns the marks and the function ids to enqueue -/
def markInstrs (P : Prog) : List Instr → Marks → List Nat → Option (Marks × List Nat)
  | [], m, q => some (m, q)
  | i :: is, m, q =>
    match i with
    | .function id => markInstrs P is m (q ++ [id])
    | .process _ id => markInstrs P is m (q ++ [id])
    | .const id => markInstrs P is { m with consts := insertNat id m.consts } q
    | .builtin id => markInstrs P is { m with builtins := insertNat id m.builtins } q
    | .isType id =>
      match collectType P (collectFuel P) id m with
      | none => none
      | some m' => markInstrs P is m' q
    | .tuple id =>
      match collectTuple P (collectFuel P) id m with
      | none => none
      | some m1 =>
        match firstTupleType P id with
        | none => markInstrs P is m1 q
        | some t =>
          match collectType P (collectFuel P) t m1 with
          | none => none
          | some m2 => markInstrs P is m2 q
    | _ => markInstrs P is m q

/-- the BFS `while let Some(fn_id) = queue.pop_front()` -/
def markFns (P : Prog) : Nat → List Nat → Marks → Option Marks
  | 0, [], m => some m
  | 0, _ :: _, _ => none
  | _ + 1, [], m => some m
  | fuel + 1, f :: q, m =>
    if m.fns.contains f then markFns P fuel q m
    else
      let m := { m with fns := f :: m.fns }
      match P.fns[f]? with
      | none => markFns P fuel q m
      | some F =>
        match collectType P (collectFuel P) F.typeId m with
        | none => none
        | some m1 =>
          match markInstrs P F.instrs m1 q with
          | none => none
          | some (m2, q2) => markFns P fuel q2 m2

/-- every queue entry was pushed by an instruction (or is the entry) -/
def bfsFuel (P : Prog) : Nat := 2 + P.fns.foldl (fun n F => n + F.instrs.length) 0 + P.fns.size

def markBuiltins (P : Prog) : List Nat → Marks → Option Marks
  | [], m => some m
  | b :: bs, m =>
    match P.builtins[b]? with
    | none => markBuiltins P bs m
    | some B =>
      match collectType P (collectFuel P) B.paramType m with
      | none => none
      | some m1 =>
        match collectType P (collectFuel P) B.resultType m1 with
        | none => none
        | some m2 => markBuiltins P bs m2

/-- the filter that selects the index-only type entries (5a04882) -/
def isIndexOnly (P : Prog) (m : Marks) : Ty → Bool
  | .process (some send) (some recv) =>
    m.fns.any (fun f =>
      match P.fns[f]? with
      | some F =>
        match P.types[F.typeId]? with
        | some (.callable _ result fnRecv) => fnRecv == send && result == recv
        | _ => false
      | none => false)
  | .callable p r v =>
    P.isNeverTy v &&
      m.builtins.any (fun b =>
        match P.builtins[b]? with
        | some B => B.paramType == p && B.resultType == r
        | none => false)
  | _ => false

def indexOnly (P : Prog) (m : Marks) : List Nat :=
  (List.range P.types.size).filter (fun t =>
    match P.types[t]? with
    | some τ => isIndexOnly P m τ
    | none => false)

def markAll (P : Prog) (entry : Nat) (legacy : Bool) : Option Marks :=
  match collectTuple P (collectFuel P) 0 {} with
  | none => none
  | some m0 =>
    match collectTuple P (collectFuel P) 1 m0 with
    | none => none
    | some m1 =>
      match markFns P (bfsFuel P) [entry] m1 with
      | none => none
      | some m2 =>
        match markBuiltins P m2.builtins m2 with
        | none => none
        | some m3 =>
          if legacy then some m3
          else collectTypes P (collectFuel P + (indexOnly P m3).length + 1) (indexOnly P m3) m3

/-! ### Sweep -/

def insertAsc (a : Nat) : List Nat → List Nat
  | [] => [a]
  | b :: bs => if a ≤ b then a :: b :: bs else b :: insertAsc a bs

def sortAsc : List Nat → List Nat
  | [] => []
  | a :: as => insertAsc a (sortAsc as)

def insertStrAsc (a : String) : List String → List String
  | [] => [a]
  | b :: bs => if a ≤ b then a :: b :: bs else b :: insertStrAsc a bs

def sortStrAsc : List String → List String
  | [] => []
  | a :: as => insertStrAsc a (sortStrAsc as)

/-- `sorted.iter().enumerate().map(|(new, old)| (old, new))` -/
def rankMap (sorted : List Nat) : AMap := sorted.zipIdx

def orSelf (m : AMap) (i : Nat) : Nat := (m.get i).getD i

/-- `remap_type` (every lookup is `.unwrap_or(id)`) -/
def shakeTy (ρ : Ren) : Ty → Ty
  | .tuple id => .tuple (orSelf ρ.tuple id)
  | .part n fs => .part n (fs.map (fun p => (p.1, orSelf ρ.type p.2)))
  | .callable p r v => .callable (orSelf ρ.type p) (orSelf ρ.type r) (orSelf ρ.type v)
  | .union ids => .union (ids.map (orSelf ρ.type))
  | .process s r => .process (s.map (orSelf ρ.type)) (r.map (orSelf ρ.type))
  | t => t

/-- the instruction map of the sweep (every lookup is `.unwrap()`: `none` = panic) -/
def shakeInstr (ρ : Ren) : Instr → Option Instr := renameInstr ρ

def getAll {α : Type} (a : Array α) : List Nat → Option (List α)
  | [] => some []
  | i :: is =>
    match a[i]?, getAll a is with
    | some x, some xs => some (x :: xs)
    | _, _ => none

structure ShakeOut where
  prog : Prog
  entry : Nat
  ren : Ren
  marks : Marks

/-- the renaming the sweep builds from the marks -/
def shakeRen (P : Prog) (m : Marks) : Ren :=
  let sr := sortStrAsc m.resources
  { const := rankMap (sortAsc m.consts), fn := rankMap (sortAsc m.fns), tuple := rankMap (sortAsc m.tuples),
    type := rankMap (sortAsc m.types), builtin := rankMap (sortAsc m.builtins),
    resource := (List.range P.resources.size).filterMap (fun i =>
      match P.resources[i]? with
      | some n => (sr.findIdx? (· == n)).map (fun j => (i, j))
      | none => none) }

def shakeFn (ρ : Ren) (F : Fn) : Option Fn :=
  (mapOpt (shakeInstr ρ) F.instrs).map (fun is =>
    ({ instrs := is, captures := F.captures, typeId := orSelf ρ.type F.typeId } : Fn))

def shakeBuiltin (ρ : Ren) (B : BuiltinInfo) : BuiltinInfo :=
  { B with paramType := orSelf ρ.type B.paramType, resultType := orSelf ρ.type B.resultType }

def shakeTuple (ρ : Ren) (T : TupleInfo) : TupleInfo :=
  { T with fields := T.fields.map (fun p => (p.1, orSelf ρ.type p.2)) }

/-- the sweep phase. The lookup tables `compat` / `canon` / `fparam` / `bparam` of the result are left
    empty: they are recomputed when the bytecode is loaded. -/
def sweep (P : Prog) (entry : Nat) (m : Marks) : Option ShakeOut :=
  let ρ := shakeRen P m
  match getAll P.fns (sortAsc m.fns), getAll P.consts (sortAsc m.consts), getAll P.tuples (sortAsc m.tuples),
        getAll P.builtins (sortAsc m.builtins), getAll P.types (sortAsc m.types), ρ.fn.get entry with
  | some fs, some cs, some ts, some bs, some ys, some e' =>
    match mapOpt (shakeFn ρ) fs with
    | none => none
    | some fs' =>
      some { prog := { consts := cs.toArray, fns := fs'.toArray,
                       builtins := (bs.map (shakeBuiltin ρ)).toArray,
                       tuples := (ts.map (shakeTuple ρ)).toArray,
                       types := (ys.map (shakeTy ρ)).toArray,
                       resources := (sortStrAsc m.resources).toArray, compat := [], canon := #[] },
             entry := e', ren := ρ, marks := m }
  | _, _, _, _, _, _ => none

/-- `tree_shake`: mark, then sweep. -/
def treeShakeWith (legacy : Bool) (P : Prog) (entry : Nat) : Option ShakeOut :=
  match markAll P entry legacy with
  | none => none
  | some m => sweep P entry m

def treeShake (P : Prog) (entry : Nat) : Option ShakeOut := treeShakeWith false P entry

/-- Field-wise equality of the `Bytecode` part of two programs (`none` = equal, else the first
    differing table). -/
def bytecodeDiff (A B : Prog) : Option String :=
  if A.consts.toList != B.consts.toList then some "constants"
  else if A.fns.toList != B.fns.toList then some "functions"
  else if A.builtins.toList != B.builtins.toList then some "builtins"
  else if A.tuples.toList != B.tuples.toList then some "tuples"
  else if A.types.toList != B.types.toList then some "types"
  else if A.resources.toList != B.resources.toList then some "resources"
  else none

end QM.Packaging
