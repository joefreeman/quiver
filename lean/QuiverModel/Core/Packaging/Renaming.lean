/-
M-Packaging, part 1 — programs, index renamings and the renaming validator (import-free; owner: C10).

Mirrors
  quiver-core/src/bytecode.rs       `Instruction` (all 24 variants), `Function`, `Constant`, `Bytecode`,
                                    `ConcreteType` (= `Tag`)
  quiver-core/src/types.rs          `Type`, `TupleTypeInfo`, `BuiltinInfo`
  quiver-core/src/executor.rs       the tables an `Executor` consults at run time:
                                    `type_compatibility` (= `Prog.compat`), `canonical_tuples` (= `Prog.canon`)
  quiver-core/src/optimisation.rs   `tree_shake`        — what a packaging step must preserve
  quiver-environment/src/environment.rs  `merge_bytecode`, `remap_function`, `import_type`, `import_tuple`

A packaging step (tree-shake, merge behind other programs, a serde round trip) turns a program `P`
with entry `e` into `P'` with entry `e'`. It preserves behaviour when `P'` is a *consistent renaming*
of the part of `P` reachable from `e`: there are index maps `ρ = {const, fn, tuple, type, builtin,
resource}` — each injective, the resource map apart (it goes by name) — such that every reachable function of `P` is, instruction by
instruction, mapped to its image in `P'`, every table entry those functions refer to is mapped to its
ρ-image, and the run-time lookup tables (`compat`, `canon`) agree through ρ on everything a run can
consult. That is `IsRenaming`; `validateB` decides it for a *given* ρ; `recover` finds ρ by lock-step
traversal from the two entries (untrusted — only its output is validated); `checkRenaming` combines
them. `Theorems/C10.lean` proves `validateB ρ … = true → IsRenaming ρ …` and that execution commutes
with any `IsRenaming`.

Duplication note: `QuiverModel.Core.VM.Basic` (C07) has its own `Instr`/`Val`; this file keeps a
separate copy in namespace `QM.Packaging` because the C10 model needs the *type table* and the
run-time compatibility tables inside `Prog`, and must not break when M-VM is edited.
-/
namespace QM.Packaging

/-! ## Programs -/

/-- `bytecode.rs::Instruction`. -/
inductive Instr where
  | const (i : Nat)
  | pop
  | dup
  | pick (n : Nat)
  | rotate (n : Nat)
  | reset (n : Nat)
  | load (n : Nat)
  | store
  | tuple (id : Nat)
  | get (i : Nat)
  | isType (t : Nat)
  | jump (off : Int)
  | jumpIf (off : Int)
  | call
  | tailCall (recurse : Bool)
  | function (f : Nat)
  | builtin (b : Nat)
  | equal (n : Nat)
  | not
  | spawn
  | send
  | self
  | select
  | process (pid : Nat) (f : Nat)
  deriving DecidableEq, Repr, Inhabited

/-- `types.rs::Type`. -/
inductive Ty where
  | int
  | bin
  | ref
  | tuple (id : Nat)
  | part (name : Option String) (fields : List (String × Nat))
  | callable (param result receive : Nat)
  | cycle (depth : Nat)
  | union (ids : List Nat)
  | process (send receive : Option Nat)
  | resource (name : String)
  | var (name : String)
  deriving DecidableEq, Repr, Inhabited

/-- `bytecode.rs::Constant`. -/
inductive Const where
  | int (z : Int)
  | bin (bs : List UInt8)
  deriving DecidableEq, Repr, Inhabited

/-- `bytecode.rs::Function`. -/
structure Fn where
  instrs : List Instr
  captures : Nat
  typeId : Nat
  deriving DecidableEq, Repr, Inhabited

/-- `types.rs::BuiltinInfo`. -/
structure BuiltinInfo where
  name : String
  paramType : Nat
  resultType : Nat
  deriving DecidableEq, Repr, Inhabited

/-- `types.rs::TupleTypeInfo`. -/
structure TupleInfo where
  name : Option String
  fields : List (Option String × Nat)
  deriving DecidableEq, Repr, Inhabited

/-- `bytecode.rs::ConcreteType`: the tag `get_concrete_type` computes for a runtime value. -/
inductive Tag where
  | int | bin | ref
  | tuple (id : Nat)
  | fn (id : Nat)
  | builtin (id : Nat)
  | proc (fid : Nat)
  | res (rid : Nat)
  deriving DecidableEq, Repr, Inhabited

/-- A program as the packaging steps and the executor see it: the `Bytecode` tables plus the two
    lookup tables computed from them when the bytecode is loaded (`execute_bytecode_sync`,
    `merge_bytecode`): `compat` = non-empty rows of `type_compatibility` (row index, members),
    `canon` = `canonical_tuples`. -/
structure Prog where
  consts : Array Const
  fns : Array Fn
  builtins : Array BuiltinInfo
  tuples : Array TupleInfo
  types : Array Ty
  resources : Array String
  compat : List (Nat × List Tag)
  canon : Array Nat
  /-- `function_param_compatibility`: per function id, the tags its parameter type accepts
      (consulted by `check_message_compatible` when a select scans the mailbox) -/
  fparam : Array (List Tag) := #[]
  /-- `builtin_param_compatibility` -/
  bparam : Array (List Tag) := #[]
  deriving Repr, Inhabited

/-- `check_type_compatible`: `type_compatibility.get(t).map(|s| s.contains(tag)).unwrap_or(false)`. -/
def Prog.isCompat (P : Prog) (t : Nat) (c : Tag) : Bool :=
  match P.compat.lookup t with
  | some row => row.contains c
  | none => false

/-- `check_message_compatible` for a function source:
    `function_param_compatibility.get(f).map(|s| s.contains(tag)).unwrap_or(true)`. -/
def Prog.msgCompatFn (P : Prog) (f : Nat) (c : Tag) : Bool :=
  match P.fparam[f]? with
  | some row => row.contains c
  | none => true

/-- `check_message_compatible` for a builtin source. -/
def Prog.msgCompatBuiltin (P : Prog) (b : Nat) (c : Tag) : Bool :=
  match P.bparam[b]? with
  | some row => row.contains c
  | none => true

/-- `Executor::canonical_tuple`: `canonical_tuples.get(id).copied().unwrap_or(id)`. -/
def Prog.canonOf (P : Prog) (id : Nat) : Nat := (P.canon[id]?).getD id

/-- `Type::is_never` of a table entry. -/
def Prog.isNeverTy (P : Prog) (t : Nat) : Bool :=
  match P.types[t]? with
  | some (.union []) => true
  | _ => false

/-- Does the tag's *tag type* have an entry in the type table — i.e. does `TypeIndex::build`
    (compatibility.rs) find a type id for it? A tag without one (the primitives apart, below) is never a member of any compatibility
    row of this program (`compute_compatible_concrete_types` skips it), so what `IsType` answers for
    such a value is an artefact of the table, not of the value: the value lies outside the program's
    type universe. Functions are always resolvable (through their own `type_id`). For the three
    primitives `TypeIndex` keeps `Option<usize>`; without an entry the code falls back to a direct
    pattern match (`Integer` or `never` only), which differs from `is_compatible` for variable /
    union patterns — so a primitive without an entry is treated as absent too. -/
def Prog.tagPresent (P : Prog) : Tag → Bool
  | .int => P.types.toList.any (· == Ty.int)
  | .bin => P.types.toList.any (· == Ty.bin)
  | .ref => P.types.toList.any (· == Ty.ref)
  | .fn _ => true
  | .tuple t => P.types.toList.any (· == Ty.tuple t)
  | .builtin b =>
    match P.builtins[b]? with
    | some B => P.types.toList.any (fun τ => match τ with
        | .callable p r v => p == B.paramType && r == B.resultType && P.isNeverTy v
        | _ => false)
    | none => false
  | .proc f =>
    match P.fns[f]? with
    | some F =>
      match P.types[F.typeId]? with
      | some (.callable _ r v) => P.types.toList.any (· == Ty.process (some v) (some r))
      | _ => P.types.toList.any (· == Ty.process none none)
    | none => false
  | .res r =>
    match P.resources[r]? with
    | some n => P.types.toList.any (· == Ty.resource n)
    | none => false

/-! ## Renamings -/

/-- Finite partial map on indices (association list; first match wins). -/
abbrev AMap := List (Nat × Nat)

def AMap.get (m : AMap) (k : Nat) : Option Nat := m.lookup k

/-- The five index spaces a packaging step renumbers, plus resource-type ids (renumbered because
    `Bytecode.resources` is rebuilt: sorted by name in `tree_shake`, in type-table order in
    `collect_resource_names`). -/
structure Ren where
  const : AMap := []
  fn : AMap := []
  tuple : AMap := []
  type : AMap := []
  builtin : AMap := []
  resource : AMap := []
  deriving Repr, Inhabited

/-- `mapM` in `Option`, written out (easier to reason about than the monadic one). -/
def mapOpt {α β : Type} (f : α → Option β) : List α → Option (List β)
  | [] => some []
  | a :: as =>
    match f a, mapOpt f as with
    | some b, some bs => some (b :: bs)
    | _, _ => none

/-- The image of one instruction: `tree_shake`'s and `remap_function`'s instruction match (`remap_function` leaves
    the `f` of `Process(pid, f)` alone: `mergeInstr`). Index operands go through the corresponding map
    (undefined ⇒ no image); everything else is kept. -/
def renameInstr (ρ : Ren) : Instr → Option Instr
  | .const i => (ρ.const.get i).map .const
  | .tuple t => (ρ.tuple.get t).map .tuple
  | .isType t => (ρ.type.get t).map .isType
  | .function f => (ρ.fn.get f).map .function
  | .builtin b => (ρ.builtin.get b).map .builtin
  | .process pid f => (ρ.fn.get f).map (.process pid)
  | i => some i

def renameInstrs (ρ : Ren) (is : List Instr) : Option (List Instr) := mapOpt (renameInstr ρ) is

def renameOptTy (ρ : Ren) : Option Nat → Option (Option Nat)
  | none => some none
  | some t => (ρ.type.get t).map some

/-- The image of a type entry (`remap_type` in `tree_shake`, `import_type_value` in merge). -/
def renameTy (ρ : Ren) : Ty → Option Ty
  | .tuple id => (ρ.tuple.get id).map .tuple
  | .part n fs => (mapOpt (fun (p : String × Nat) => (ρ.type.get p.2).map (fun t => (p.1, t))) fs).map (.part n)
  | .callable p r v =>
    match ρ.type.get p, ρ.type.get r, ρ.type.get v with
    | some p', some r', some v' => some (.callable p' r' v')
    | _, _, _ => none
  | .union ids => (mapOpt ρ.type.get ids).map .union
  | .process s r =>
    match renameOptTy ρ s, renameOptTy ρ r with
    | some s', some r' => some (.process s' r')
    | _, _ => none
  | t => some t

def renameTag (ρ : Ren) : Tag → Option Tag
  | .int => some .int
  | .bin => some .bin
  | .ref => some .ref
  | .tuple t => (ρ.tuple.get t).map .tuple
  | .fn f => (ρ.fn.get f).map .fn
  | .builtin b => (ρ.builtin.get b).map .builtin
  | .proc f => (ρ.fn.get f).map .proc
  | .res r => (ρ.resource.get r).map .res

/-- Injective on its domain. -/
def AMap.Inj (m : AMap) : Prop := ∀ a b c, m.get a = some c → m.get b = some c → a = b

/-- The `IsType` operands of a function body. -/
def isTypeOps : List Instr → List Nat
  | [] => []
  | .isType t :: is => t :: isTypeOps is
  | _ :: is => isTypeOps is

/-- `P'` (entry `e'`) is a consistent renaming by `ρ` of the part of `P` reachable from `e`.
    The domain of `ρ.fn` is closed under reference because `renameInstrs` is defined only when every
    operand has an image; likewise for types/tuples through `renameTy` and the field maps. -/
structure IsRenaming (ρ : Ren) (P P' : Prog) (e e' : Nat) : Prop where
  entry : ρ.fn.get e = some e'
  inj_const : ρ.const.Inj
  inj_fn : ρ.fn.Inj
  inj_tuple : ρ.tuple.Inj
  inj_type : ρ.type.Inj
  inj_builtin : ρ.builtin.Inj
  /-- the runtime creates `Value::nil()` / `Value::ok()` with the fixed ids 0 and 1 -/
  nil_fixed : ρ.tuple.get 0 = some 0
  ok_fixed : ρ.tuple.get 1 = some 1
  fns : ∀ f f', ρ.fn.get f = some f' →
    ∃ F F', P.fns[f]? = some F ∧ P'.fns[f']? = some F' ∧ F'.captures = F.captures ∧
      renameInstrs ρ F.instrs = some F'.instrs ∧ ρ.type.get F.typeId = some F'.typeId
  consts : ∀ c c', ρ.const.get c = some c' → ∃ k, P.consts[c]? = some k ∧ P'.consts[c']? = some k
  tuples : ∀ t t', ρ.tuple.get t = some t' →
    ∃ T T', P.tuples[t]? = some T ∧ P'.tuples[t']? = some T' ∧ T'.name = T.name ∧
      T'.fields.map (·.1) = T.fields.map (·.1) ∧
      mapOpt (fun (p : Option String × Nat) => ρ.type.get p.2) T.fields = some (T'.fields.map (·.2))
  builtins : ∀ b b', ρ.builtin.get b = some b' →
    ∃ B B', P.builtins[b]? = some B ∧ P'.builtins[b']? = some B' ∧ B'.name = B.name ∧
      ρ.type.get B.paramType = some B'.paramType ∧ ρ.type.get B.resultType = some B'.resultType
  types : ∀ t t', ρ.type.get t = some t' →
    ∃ τ τ', P.types[t]? = some τ ∧ P'.types[t']? = some τ' ∧ renameTy ρ τ = some τ'
  resources : ∀ r r', ρ.resource.get r = some r' →
    ∃ n, P.resources[r]? = some n ∧ P'.resources[r']? = some n
  /-- what `IsType` answers: the two compatibility tables agree through ρ on every pattern type a
      reachable function tests against and every tag a reachable value can carry **whose tag type
      has an entry in `P`'s type table** (`tagPresent`). For a tag without an entry `P` answers
      "no" whatever the pattern; a packaging that adds the entry (merging behind a program that
      has it) may answer "yes". Such a value is outside `P`'s type universe — the compiler registers
      the static type of every scrutinee, so it never reaches the test; the execution theorem
      carries that as the hypothesis `IsTypeSafe` (see `Theorems/C10.lean` and notes/C10.md). -/
  compat : ∀ f f' F, ρ.fn.get f = some f' → P.fns[f]? = some F → ∀ t, t ∈ isTypeOps F.instrs →
    ∀ t', ρ.type.get t = some t' → ∀ c c', renameTag ρ c = some c' → P.tagPresent c = true →
      P.isCompat t c = P'.isCompat t' c'
  /-- what a select's mailbox scan consults (`check_message_compatible`): which messages a receive
      function / builtin accepts — F13 lives here for typed receives of process values -/
  fparam : ∀ f f', ρ.fn.get f = some f' → ∀ c c', renameTag ρ c = some c' → P.tagPresent c = true →
    P.msgCompatFn f c = P'.msgCompatFn f' c'
  bparam : ∀ b b', ρ.builtin.get b = some b' → ∀ c c', renameTag ρ c = some c' → P.tagPresent c = true →
    P.msgCompatBuiltin b c = P'.msgCompatBuiltin b' c'
  /-- what `Equal` consults: tuple ids are compared through `canonical_tuples` -/
  canon : ∀ a a' b b', ρ.tuple.get a = some a' → ρ.tuple.get b = some b' →
    (P.canonOf a = P.canonOf b ↔ P'.canonOf a' = P'.canonOf b')

/-- The strict form: the compatibility rows agree on **every** tag in the domain of ρ, present or
    not. Under it execution commutes with no side condition on the run (`C10.run_commutes_strict`).
    The validator reports for each pair whether the strict form holds (`strict=true`). -/
structure IsRenamingStrict (ρ : Ren) (P P' : Prog) (e e' : Nat) : Prop extends IsRenaming ρ P P' e e' where
  compat_all : ∀ f f' F, ρ.fn.get f = some f' → P.fns[f]? = some F → ∀ t, t ∈ isTypeOps F.instrs →
    ∀ t', ρ.type.get t = some t' → ∀ c c', renameTag ρ c = some c' → P.isCompat t c = P'.isCompat t' c'

/-! ## The validator (decides `IsRenaming` for a given ρ) -/

/-- No two entries share a value ⇒ the map is injective on its domain. -/
def distinctB : List Nat → Bool
  | [] => true
  | a :: as => !as.contains a && distinctB as

def AMap.injB (m : AMap) : Bool := distinctB (m.map (·.2))

def fnOK (ρ : Ren) (P P' : Prog) (p : Nat × Nat) : Bool :=
  match P.fns[p.1]?, P'.fns[p.2]? with
  | some F, some F' =>
    F'.captures == F.captures && renameInstrs ρ F.instrs == some F'.instrs &&
      ρ.type.get F.typeId == some F'.typeId
  | _, _ => false

def constOK (P P' : Prog) (p : Nat × Nat) : Bool :=
  match P.consts[p.1]?, P'.consts[p.2]? with
  | some k, some k' => k == k'
  | _, _ => false

def tupleOK (ρ : Ren) (P P' : Prog) (p : Nat × Nat) : Bool :=
  match P.tuples[p.1]?, P'.tuples[p.2]? with
  | some T, some T' =>
    T'.name == T.name && T'.fields.map (·.1) == T.fields.map (·.1) &&
      mapOpt (fun (q : Option String × Nat) => ρ.type.get q.2) T.fields == some (T'.fields.map (·.2))
  | _, _ => false

def builtinOK (ρ : Ren) (P P' : Prog) (p : Nat × Nat) : Bool :=
  match P.builtins[p.1]?, P'.builtins[p.2]? with
  | some B, some B' =>
    B'.name == B.name && ρ.type.get B.paramType == some B'.paramType &&
      ρ.type.get B.resultType == some B'.resultType
  | _, _ => false

def typeOK (ρ : Ren) (P P' : Prog) (p : Nat × Nat) : Bool :=
  match P.types[p.1]?, P'.types[p.2]? with
  | some τ, some τ' => renameTy ρ τ == some τ'
  | _, _ => false

def resourceOK (P P' : Prog) (p : Nat × Nat) : Bool :=
  match P.resources[p.1]?, P'.resources[p.2]? with
  | some n, some n' => n == n'
  | _, _ => false

/-- Every tag in the domain of `renameTag ρ`, with its image. -/
def tagPairs (ρ : Ren) : List (Tag × Tag) :=
  [(.int, .int), (.bin, .bin), (.ref, .ref)] ++
  ρ.tuple.map (fun p => (Tag.tuple p.1, Tag.tuple p.2)) ++
  ρ.fn.map (fun p => (Tag.fn p.1, Tag.fn p.2)) ++
  ρ.builtin.map (fun p => (Tag.builtin p.1, Tag.builtin p.2)) ++
  ρ.fn.map (fun p => (Tag.proc p.1, Tag.proc p.2)) ++
  ρ.resource.map (fun p => (Tag.res p.1, Tag.res p.2))

/-- …restricted to the tags whose tag type has an entry in `P`. -/
def presentPairs (ρ : Ren) (P : Prog) : List (Tag × Tag) := (tagPairs ρ).filter (fun cc => P.tagPresent cc.1)

/-- One pattern type: the rows agree on every tag pair. -/
def compatRowOK (P P' : Prog) (tags : List (Tag × Tag)) (t t' : Nat) : Bool :=
  tags.all (fun cc => P.isCompat t cc.1 == P'.isCompat t' cc.2)

/-- All `IsType` operands of one mapped function. -/
def compatFnOK (ρ : Ren) (P P' : Prog) (tags : List (Tag × Tag)) (p : Nat × Nat) : Bool :=
  match P.fns[p.1]? with
  | some F =>
    (isTypeOps F.instrs).all (fun t =>
      match ρ.type.get t with
      | some t' => compatRowOK P P' tags t t'
      | none => true)
  | none => true

def fparamOK (P P' : Prog) (tags : List (Tag × Tag)) (p : Nat × Nat) : Bool :=
  tags.all (fun cc => P.msgCompatFn p.1 cc.1 == P'.msgCompatFn p.2 cc.2)

def bparamOK (P P' : Prog) (tags : List (Tag × Tag)) (p : Nat × Nat) : Bool :=
  tags.all (fun cc => P.msgCompatBuiltin p.1 cc.1 == P'.msgCompatBuiltin p.2 cc.2)

def canonOK (ρ : Ren) (P P' : Prog) : Bool :=
  ρ.tuple.all (fun a => ρ.tuple.all (fun b =>
    (P.canonOf a.1 == P.canonOf b.1) == (P'.canonOf a.2 == P'.canonOf b.2)))

/-- The named checks, in the order they are reported. -/
def checks (ρ : Ren) (P P' : Prog) (e e' : Nat) : List (String × Bool) :=
  [ ("entry", ρ.fn.get e == some e'),
    ("inj-const", ρ.const.injB),
    ("inj-fn", ρ.fn.injB),
    ("inj-tuple", ρ.tuple.injB),
    ("inj-type", ρ.type.injB),
    ("inj-builtin", ρ.builtin.injB),
    ("nil-fixed", ρ.tuple.get 0 == some 0),
    ("ok-fixed", ρ.tuple.get 1 == some 1),
    ("fns", ρ.fn.all (fnOK ρ P P')),
    ("consts", ρ.const.all (constOK P P')),
    ("tuples", ρ.tuple.all (tupleOK ρ P P')),
    ("builtins", ρ.builtin.all (builtinOK ρ P P')),
    ("types", ρ.type.all (typeOK ρ P P')),
    ("resources", ρ.resource.all (resourceOK P P')),
    ("compat", ρ.fn.all (compatFnOK ρ P P' (presentPairs ρ P))),
    ("fparam", ρ.fn.all (fparamOK P P' (presentPairs ρ P))),
    ("bparam", ρ.builtin.all (bparamOK P P' (presentPairs ρ P))),
    ("canon", canonOK ρ P P') ]

def validateB (ρ : Ren) (P P' : Prog) (e e' : Nat) : Bool := (checks ρ P P' e e').all (·.2)

/-- The additional check of the strict form. -/
def strictB (ρ : Ren) (P P' : Prog) : Bool := ρ.fn.all (compatFnOK ρ P P' (tagPairs ρ))

/-- Name of the first failing check (diagnostics only). -/
def firstFailing (cs : List (String × Bool)) : Option String :=
  (cs.find? (fun c => !c.2)).map (·.1)

/-! ## Recovering ρ by lock-step traversal (untrusted; its output is validated) -/

inductive Item where
  | fn (a b : Nat)
  | ty (a b : Nat)
  | tup (a b : Nat)
  | bi (a b : Nat)
  deriving Repr

/-- Try to add `a ↦ b` to a map. `ok none` = already there; `ok (some m')` = added;
    `error` = conflicts with an existing entry (not a function / not injective). -/
def addPair (what : String) (m : AMap) (a b : Nat) : Except String (Option AMap) :=
  match m.lookup a with
  | some b0 => if b0 == b then .ok none else .error s!"{what} {a} maps to both {b0} and {b}"
  | none =>
    if (m.map (·.2)).contains b then .error s!"{what} {b} is the image of two different entries (second: {a})"
    else .ok (some ((a, b) :: m))

/-- Lock-step comparison of two instructions: constructor and non-index operands must agree; index
    operands are returned as work items / constant pairs. -/
def pairInstr (i i' : Instr) : Option (List Item × List (Nat × Nat)) :=
  match i, i' with
  | .const a, .const b => some ([], [(a, b)])
  | .tuple a, .tuple b => some ([.tup a b], [])
  | .isType a, .isType b => some ([.ty a b], [])
  | .function a, .function b => some ([.fn a b], [])
  | .builtin a, .builtin b => some ([.bi a b], [])
  | .process p a, .process q b => if p == q then some ([.fn a b], []) else none
  | a, b => if a == b then some ([], []) else none

def pairInstrs : Nat → List Instr → List Instr → Except String (List Item × List (Nat × Nat))
  | _, [], [] => .ok ([], [])
  | pc, i :: is, i' :: is' =>
    match pairInstr i i' with
    | none => .error s!"pc {pc}: {repr i} vs {repr i'}"
    | some (w, c) =>
      match pairInstrs (pc + 1) is is' with
      | .ok (w', c') => .ok (w ++ w', c ++ c')
      | .error e => .error e
  | pc, _, _ => .error s!"pc {pc}: instruction lists differ in length"

def pairOptTy : Option Nat → Option Nat → Option (List Item)
  | none, none => some []
  | some a, some b => some [.ty a b]
  | _, _ => none

def zipItems (f : Nat → Nat → Item) : List Nat → List Nat → Option (List Item)
  | [], [] => some []
  | a :: as, b :: bs => (zipItems f as bs).map (f a b :: ·)
  | _, _ => none

/-- Lock-step comparison of two type entries. -/
def pairTy (τ τ' : Ty) : Option (List Item) :=
  match τ, τ' with
  | .tuple a, .tuple b => some [.tup a b]
  | .part n fs, .part n' fs' =>
    if n == n' && fs.map (·.1) == fs'.map (·.1) then zipItems .ty (fs.map (·.2)) (fs'.map (·.2)) else none
  | .callable p r v, .callable p' r' v' => some [.ty p p', .ty r r', .ty v v']
  | .union ids, .union ids' => zipItems .ty ids ids'
  | .process s r, .process s' r' =>
    match pairOptTy s s', pairOptTy r r' with
    | some a, some b => some (a ++ b)
    | _, _ => none
  | a, b => if a == b then some [] else none

def addConsts (m : AMap) : List (Nat × Nat) → Except String AMap
  | [] => .ok m
  | (a, b) :: rest =>
    match addPair "constant" m a b with
    | .ok none => addConsts m rest
    | .ok (some m') => addConsts m' rest
    | .error e => .error e

def recoverLoop (P P' : Prog) : Nat → List Item → Ren → Except String Ren
  | 0, [], ρ => .ok ρ
  | 0, _ :: _, _ => .error "fuel-out"
  | _ + 1, [], ρ => .ok ρ
  | fuel + 1, it :: work, ρ =>
    match it with
    | .fn a b =>
      match addPair "function" ρ.fn a b with
      | .error e => .error e
      | .ok none => recoverLoop P P' fuel work ρ
      | .ok (some m) =>
        match P.fns[a]?, P'.fns[b]? with
        | some F, some F' =>
          if F.captures != F'.captures then .error s!"function {a}/{b}: capture counts {F.captures} vs {F'.captures}"
          else match pairInstrs 0 F.instrs F'.instrs with
            | .error e => .error s!"function {a}/{b}: {e}"
            | .ok (w, cs) =>
              match addConsts ρ.const cs with
              | .error e => .error s!"function {a}/{b}: {e}"
              | .ok cm => recoverLoop P P' fuel (Item.ty F.typeId F'.typeId :: w ++ work) { ρ with fn := m, const := cm }
        | _, _ => .error s!"function {a}/{b}: index out of range"
    | .ty a b =>
      match addPair "type" ρ.type a b with
      | .error e => .error e
      | .ok none => recoverLoop P P' fuel work ρ
      | .ok (some m) =>
        match P.types[a]?, P'.types[b]? with
        | some τ, some τ' =>
          match pairTy τ τ' with
          | none => .error s!"type {a}/{b}: {repr τ} vs {repr τ'}"
          | some w => recoverLoop P P' fuel (w ++ work) { ρ with type := m }
        | _, _ => .error s!"type {a}/{b}: index out of range"
    | .tup a b =>
      match addPair "tuple" ρ.tuple a b with
      | .error e => .error e
      | .ok none => recoverLoop P P' fuel work ρ
      | .ok (some m) =>
        match P.tuples[a]?, P'.tuples[b]? with
        | some T, some T' =>
          if T.name != T'.name || T.fields.map (·.1) != T'.fields.map (·.1) then
            .error s!"tuple {a}/{b}: name or labels differ"
          else match zipItems .ty (T.fields.map (·.2)) (T'.fields.map (·.2)) with
            | none => .error s!"tuple {a}/{b}: arity"
            | some w => recoverLoop P P' fuel (w ++ work) { ρ with tuple := m }
        | _, _ => .error s!"tuple {a}/{b}: index out of range"
    | .bi a b =>
      match addPair "builtin" ρ.builtin a b with
      | .error e => .error e
      | .ok none => recoverLoop P P' fuel work ρ
      | .ok (some m) =>
        match P.builtins[a]?, P'.builtins[b]? with
        | some B, some B' =>
          if B.name != B'.name then .error s!"builtin {a}/{b}: {B.name} vs {B'.name}"
          else recoverLoop P P' fuel (Item.ty B.paramType B'.paramType :: Item.ty B.resultType B'.resultType :: work)
                 { ρ with builtin := m }
        | _, _ => .error s!"builtin {a}/{b}: index out of range"

/-- Resource-type ids are matched by name. -/
def resourceMap (P P' : Prog) : AMap :=
  (List.range P.resources.size).filterMap (fun i =>
    match P.resources[i]? with
    | some n =>
      match P'.resources.toList.findIdx? (· == n) with
      | some j => some (i, j)
      | none => none
    | none => none)

def tySize : Ty → Nat
  | .part _ fs => 1 + fs.length
  | .union ids => 1 + ids.length
  | _ => 4

/-- A bound on the number of work items the traversal can process (every item is an edge of the
    program graph or one of the three roots). -/
def recoverFuel (P : Prog) : Nat :=
  16 + 2 * (P.fns.foldl (fun n F => n + 2 + F.instrs.length) 0 +
            P.types.foldl (fun n τ => n + tySize τ) 0 +
            P.tuples.foldl (fun n T => n + 1 + T.fields.length) 0 +
            3 * P.builtins.size)

def recover (P P' : Prog) (e e' : Nat) : Except String Ren :=
  recoverLoop P P' (recoverFuel P) [.tup 0 0, .tup 1 1, .fn e e'] { resource := resourceMap P P' }

/-- The validator: recover ρ from the entries, then validate it. `some ρ` = `P'` is proved to be a
    consistent renaming of the reachable part of `P`. -/
def checkRenaming (P P' : Prog) (e e' : Nat) : Option Ren :=
  match recover P P' e e' with
  | .ok ρ => if validateB ρ P P' e e' then some ρ else none
  | .error _ => none

/-! Diagnostics (driver output only; nothing is proved about them). -/

def findSome' {α β : Type} (f : α → Option β) : List α → Option β
  | [] => none
  | a :: as => match f a with
    | some b => some b
    | none => findSome' f as

def explainCompat (ρ : Ren) (P P' : Prog) : Option String :=
  let tags := presentPairs ρ P
  findSome' (fun (p : Nat × Nat) =>
    match P.fns[p.1]? with
    | none => none
    | some F =>
      findSome' (fun t =>
        match ρ.type.get t with
        | none => none
        | some t' =>
          findSome' (fun (cc : Tag × Tag) =>
            if P.isCompat t cc.1 == P'.isCompat t' cc.2 then none
            else some s!"function {p.1}/{p.2} IsType {t}/{t'} tag {repr cc.1}/{repr cc.2}: {P.isCompat t cc.1} vs {P'.isCompat t' cc.2}") tags)
        (isTypeOps F.instrs)) ρ.fn

def explainFparam (ρ : Ren) (P P' : Prog) : Option String :=
  let tags := presentPairs ρ P
  findSome' (fun (p : Nat × Nat) =>
    findSome' (fun (cc : Tag × Tag) =>
      if P.msgCompatFn p.1 cc.1 == P'.msgCompatFn p.2 cc.2 then none
      else some s!"function {p.1}/{p.2} tag {repr cc.1}/{repr cc.2}: {P.msgCompatFn p.1 cc.1} vs {P'.msgCompatFn p.2 cc.2}") tags) ρ.fn

def explainBparam (ρ : Ren) (P P' : Prog) : Option String :=
  let tags := presentPairs ρ P
  findSome' (fun (p : Nat × Nat) =>
    findSome' (fun (cc : Tag × Tag) =>
      if P.msgCompatBuiltin p.1 cc.1 == P'.msgCompatBuiltin p.2 cc.2 then none
      else some s!"builtin {p.1}/{p.2} tag {repr cc.1}/{repr cc.2}: {P.msgCompatBuiltin p.1 cc.1} vs {P'.msgCompatBuiltin p.2 cc.2}") tags) ρ.builtin

/-- How many (IsType operand, tag) pairs disagree on tags *without* an entry in `P` (exempt from
    `IsRenaming.compat`; reported in the evidence so the reader sees how often the exemption is used). -/
def exemptCount (ρ : Ren) (P P' : Prog) : Nat :=
  let tags := (tagPairs ρ).filter (fun cc => !P.tagPresent cc.1)
  ρ.fn.foldl (fun n p =>
    match P.fns[p.1]? with
    | none => n
    | some F =>
      (isTypeOps F.instrs).foldl (fun n t =>
        match ρ.type.get t with
        | none => n
        | some t' => n + (tags.filter (fun cc => P.isCompat t cc.1 != P'.isCompat t' cc.2)).length) n) 0

def explainPairs (what : String) (m : AMap) (ok : Nat × Nat → Bool) : Option String :=
  (m.find? (fun p => !ok p)).map (fun p => s!"{what} {p.1}/{p.2}")

def explain (ρ : Ren) (P P' : Prog) (e e' : Nat) : String :=
  match firstFailing (checks ρ P P' e e') with
  | none => "?"
  | some name =>
    let detail : Option String :=
      if name == "compat" then explainCompat ρ P P'
      else if name == "fparam" then explainFparam ρ P P'
      else if name == "bparam" then explainBparam ρ P P'
      else if name == "fns" then explainPairs "function" ρ.fn (fnOK ρ P P')
      else if name == "consts" then explainPairs "constant" ρ.const (constOK P P')
      else if name == "tuples" then explainPairs "tuple" ρ.tuple (tupleOK ρ P P')
      else if name == "builtins" then explainPairs "builtin" ρ.builtin (builtinOK ρ P P')
      else if name == "types" then explainPairs "type" ρ.type (typeOK ρ P P')
      else none
    s!"{name} {detail.getD ""}"

/-- Same, with the reason for a rejection (driver output). -/
def checkRenamingExplain (P P' : Prog) (e e' : Nat) : Except String Ren :=
  match recover P P' e e' with
  | .ok ρ =>
    if validateB ρ P P' e e' then .ok ρ
    else .error s!"validate {explain ρ P P' e e'}"
  | .error msg => .error s!"recover {msg}"

end QM.Packaging
