import QuiverModel.Core.VM.Basic
import QuiverModel.Core.Outcome
/-
M-Equal (owner: C13) — structural equality of runtime values, the canonical tuple-shape table,
erasure to structural values, `Equal(n)`, ref minting.

Imports only `Core/VM/Basic` (import-free, owner C07) for `Val` / `ValList` / `Bin` / `Const`, and
`Core/Outcome`.

Mirrors
  quiver-core/src/compatibility.rs   `compute_canonical_tuples`            → `canonicalTuples`
  quiver-core/src/executor.rs        `canonical_tuple`                     → `Ctx.canonOf`
                                     `values_equal` (every arm, same order) → `valuesEqual`
                                     `handle_equal`                        → `equalN`
                                     `Value::is_nil` + `handle_not`        → `matchVerdict`
                                     `create_ref`                          → `mintRef`, `createRef`
                                     `handle_self` (function index of the handle) → hypothesis `WF … pf`

Representation decisions
  * The executor's `canonical_tuples : Vec<usize>` is the field `Ctx.canon`; it is *stored* state,
    replaced wholesale at every `update_program` by `compute_canonical_tuples(all tuples)`
    (`execute.rs:58`, `environment.rs:977`).  `Ctx.ofProgram` builds that state.
  * A heap slot holds a *rope* (`binary.rs::BinaryData`: Owned / Zeroed / Slice / Concat / Tiled);
    `values_equal` reads it through `len()` (the O(1) field-based length, used as a fast path) and
    `to_vec()` (flattening) — `Rope.len`, `Rope.toVec`. The comparison must not depend on the rope
    shape: that is `binEqual_eq` under `Rope.LenOK` (the invariant the smart constructors
    `concat` / `slice` / `tiled` establish: the stored length is the flattened length).
    The constants table is `List Const`.  A heap slot / constant index out of range, or a constant
    that is an integer, makes the comparison `false` exactly like the `if let (Some…, Some…) … else false`.
  * Stack: head = top (as in `Core/VM/Step.lean::handleEqual`).
-/
namespace QM.Equal
open QM.VM

/-- `TupleTypeInfo` as far as `compute_canonical_tuples` reads it: the name and the field *labels*
(`info.fields.iter().map(|(label, _)| label.clone())` — the field types are dropped). -/
structure TupleInfo where
  name : Option String
  labels : List (Option String)
  deriving DecidableEq, Repr, Inhabited

/-- The key of the `by_shape` map. -/
abbrev Shape := Option String × List (Option String)

def TupleInfo.shape (t : TupleInfo) : Shape := (t.name, t.labels)

/-- `HashMap::get` on an association list (first hit; keys are unique by construction). -/
def lookupShape (s : Shape) : List (Shape × Nat) → Option Nat
  | [] => none
  | (k, v) :: rest => if k = s then some v else lookupShape s rest

/-- The `.enumerate().map(|(id, info)| *by_shape.entry(shape).or_insert(id))` loop:
`seen` is `by_shape`, `id` the running index. -/
def canonGo (seen : List (Shape × Nat)) (id : Nat) : List TupleInfo → List Nat
  | [] => []
  | t :: ts =>
    match lookupShape t.shape seen with
    | some j => j :: canonGo seen (id + 1) ts
    | none => id :: canonGo ((t.shape, id) :: seen) (id + 1) ts

/-- `compatibility.rs::compute_canonical_tuples`. -/
def canonicalTuples (ts : List TupleInfo) : List Nat := canonGo [] 0 ts

/-- `binary.rs::BinaryData` (the `Rc`s are sharing only). -/
inductive Rope where
  | owned (bytes : List UInt8)
  | zeroed (n : Nat)
  | slice (parent : Rope) (offset length : Nat)
  | concat (left right : Rope) (total : Nat)
  | tiled (unit : Rope) (count : Nat)
  deriving Repr, Inhabited

def usizeMax : Nat := 2 ^ 64 - 1

/-- `BinaryData::len` — O(1), from the stored fields (`saturating_mul` for `Tiled`). -/
def Rope.len : Rope → Nat
  | .owned bs => bs.length
  | .zeroed n => n
  | .slice _ _ l => l
  | .concat _ _ t => t
  | .tiled u c => min (u.len * c) usizeMax

/-- `BinaryData::to_vec` / `write_to_vec`. (`Slice` is `parent_vec[offset..offset+length]`, a Rust
panic when out of range; `BinaryData::slice` checks the bounds — `Rope.LenOK`.) -/
def Rope.toVec : Rope → List UInt8
  | .owned bs => bs
  | .zeroed n => List.replicate n 0
  | .slice p off l => (p.toVec.drop off).take l
  | .concat l r _ => l.toVec ++ r.toVec
  | .tiled u c => (List.replicate c u.toVec).flatten

/-- The invariant the constructors `BinaryData::{new, zeroed, concat, slice}` establish; `tiled` checks
nothing, its clause holds of what `allocate_binary_data` admits (`len ≤ MAX_BINARY_SIZE`). -/
def Rope.LenOK : Rope → Prop
  | .owned _ => True
  | .zeroed _ => True
  | .slice p off l => p.LenOK ∧ off + l ≤ p.len
  | .concat l r t => l.LenOK ∧ r.LenOK ∧ t = l.len + r.len
  | .tiled u c => u.LenOK ∧ u.len * c ≤ usizeMax

def Rope.lenOKB : Rope → Bool
  | .owned _ => true
  | .zeroed _ => true
  | .slice p off l => p.lenOKB && decide (off + l ≤ p.len)
  | .concat l r t => l.lenOKB && r.lenOKB && decide (t = l.len + r.len)
  | .tiled u c => u.lenOKB && decide (u.len * c ≤ usizeMax)

/-- `value.rs::MAX_BINARY_SIZE`, enforced by `allocate_binary_data` on `data.len()`. -/
def maxBinarySize : Nat := 16 * 1024 * 1024

/-- `BinaryData::concat`. -/
def Rope.mkConcat (l r : Rope) : Rope := .concat l r (l.len + r.len)

/-- `BinaryData::slice` (bounds check, empty slice, full slice, proper slice). -/
def Rope.mkSlice (p : Rope) (off l : Nat) : Option Rope :=
  if off > p.len ∨ off + l > p.len then none
  else if l = 0 then some (.owned [])
  else if off = 0 ∧ l = p.len then some p
  else some (.slice p off l)

/-- `BinaryData::tiled` (degenerate cases normalised). -/
def Rope.mkTiled (u : Rope) (c : Nat) : Rope :=
  if c = 0 ∨ u.len = 0 then .owned []
  else if c = 1 then u
  else .tiled u c

/-- What the executor holds when it compares: the canonical table, the constants, the heap
(materialised), plus the tuple table the canonical table was computed from (read by `erase` and `WF`). -/
structure Ctx where
  tuples : List TupleInfo
  canon : List Nat
  consts : List Const
  heap : List Rope
  deriving Repr, Inhabited

/-- The context a fully updated executor has for program tables `tuples`, `consts`. -/
def Ctx.ofProgram (tuples : List TupleInfo) (consts : List Const) (heap : List Rope) : Ctx :=
  { tuples := tuples, canon := canonicalTuples tuples, consts := consts, heap := heap }

/-- `Executor::canonical_tuple`: `.get(id).copied().unwrap_or(id)`. -/
def Ctx.canonOf (X : Ctx) (id : Nat) : Nat := (X.canon[id]?).getD id

/-- `get_constant(i)` matched against `Some(Constant::Binary(bytes))`. -/
def Ctx.constBytes (X : Ctx) (i : Nat) : Option (List UInt8) :=
  match X.consts[i]? with
  | some (.bin bs) => some bs
  | _ => none

/-- `self.heap.get(i)` then `.to_vec()`. -/
def Ctx.heapBytes (X : Ctx) (i : Nat) : Option (List UInt8) := (X.heap[i]?).map Rope.toVec

/-- The `(Value::Binary(a), Value::Binary(b))` arm, its four sub-arms in source order. -/
def binEqual (X : Ctx) : Bin → Bin → Bool
  | .const ia, .const ib =>
    match X.constBytes ia, X.constBytes ib with
    | some a, some b => a == b
    | _, _ => false
  | .heap ia, .heap ib =>
    match X.heap[ia]?, X.heap[ib]? with
    | some a, some b => if a.len != b.len then false else a.toVec == b.toVec
    | _, _ => false
  | .const ic, .heap ih =>
    match X.constBytes ic, X.heapBytes ih with
    | some c, some h => c == h
    | _, _ => false
  | .heap ih, .const ic =>
    match X.constBytes ic, X.heapBytes ih with
    | some c, some h => c == h
    | _, _ => false

mutual
/-- `Executor::values_equal`, arm for arm, same order. (The `Resource` arm — same resource id, the
resource type id is not compared — exists since `fix: a resource handle never compared equal to
itself`; before, two resources fell to `_ => false`.) -/
def valuesEqual (X : Ctx) : Val → Val → Bool
  | .int a, .int b => a == b
  | .bin a, .bin b => binEqual X a b
  | .tup ta ea, .tup tb eb =>
    X.canonOf ta == X.canonOf tb && (ea.length == eb.length && zipAllEqual X ea eb)
  | .fn ia ca, .fn ib cb => ia == ib && (ca.length == cb.length && zipAllEqual X ca cb)
  | .builtin a, .builtin b => a == b
  | .proc a fa, .proc b fb => a == b && fa == fb
  | .ref a, .ref b => a == b
  | .res a _, .res b _ => a == b
  | _, _ => false
/-- `xs.iter().zip(ys.iter()).all(|(a, b)| self.values_equal(a, b))` (stops at the shorter). -/
def zipAllEqual (X : Ctx) : ValList → ValList → Bool
  | .cons a as, .cons b bs => valuesEqual X a b && zipAllEqual X as bs
  | _, _ => true
end

/-- `handle_equal(count)` on the value stack (head = top). `count > len` is `StackUnderflow`;
`count = 0` indexes `values[0]` of an empty vector: a Rust panic; otherwise the `count` popped
values are replaced by a *verdict*: `Ok` if all are equal to the first (deepest) of them, NIL
otherwise. (Until `fix: pin and repeated-binder equality failed on equal nil values` the code
pushed the first value itself; see `equalNLegacy`.) -/
def equalN (X : Ctx) (count : Nat) (stack : List Val) : Outcome (List Val) :=
  if count > stack.length then .err .stackUnderflow
  else
    match (stack.take count).reverse with
    | [] => .panic
    | first :: rest =>
      let allEqual := (first :: rest).all (fun v => valuesEqual X first v)
      .ok ((if allEqual then Val.ok else Val.nil) :: stack.drop count)

/-- The pre-fix `handle_equal` (pushes `first.clone()`), kept to state what the repaired defect was. -/
def equalNLegacy (X : Ctx) (count : Nat) (stack : List Val) : Outcome (List Val) :=
  if count > stack.length then .err .stackUnderflow
  else
    match (stack.take count).reverse with
    | [] => .panic
    | first :: rest =>
      let allEqual := (first :: rest).all (fun v => valuesEqual X first v)
      .ok ((if allEqual then first else Val.nil) :: stack.drop count)

/-- How every compiled pattern requirement consumes the result of `Equal(2)`
(`pattern.rs::generate_pattern_code`: `Equal(2); Not; JumpIf fail`): the requirement *holds* iff
the value `Equal` left on the stack is not NIL. `a` is the matched value (pushed first), `b` the
pinned variable / literal / other occurrence of the binder. -/
def verdictOf (o : Outcome (List Val)) : Outcome Bool :=
  match o with
  | .ok (r :: _) => .ok (!r.isNil)
  | .ok [] => .panic
  | .err e => .err e
  | .panic => .panic

def matchVerdict (X : Ctx) (a b : Val) : Outcome Bool := verdictOf (equalN X 2 [b, a])

def matchVerdictLegacy (X : Ctx) (a b : Val) : Outcome Bool := verdictOf (equalNLegacy X 2 [b, a])

/-! ### Structural values and erasure -/

mutual
/-- Structural values (DESIGN §4 `V`): what a value *is*, independent of representation. Tuple ids
are replaced by name + field labels, binary handles by their bytes, a process handle by the
process id alone ("the same process"). Functions keep the index of their definition. -/
inductive SV where
  | int (z : Int)
  | bin (bytes : List UInt8)
  | ref (r : Nat)
  | tup (name : Option String) (labels : List (Option String)) (fields : SVList)
  | fn (idx : Nat) (captures : SVList)
  | builtin (id : Nat)
  | proc (pid : Nat)
  | res (rid : Nat)
  /-- an ill-formed runtime value (dangling tuple id / binary handle): erased to a marker -/
  | bad
  deriving DecidableEq, Repr
inductive SVList where
  | nil
  | cons (v : SV) (vs : SVList)
  deriving DecidableEq, Repr
end

def Ctx.bytesOf (X : Ctx) : Bin → Option (List UInt8)
  | .const i => X.constBytes i
  | .heap i => X.heapBytes i

mutual
def erase (X : Ctx) : Val → SV
  | .int z => .int z
  | .bin b => match X.bytesOf b with
    | some bs => .bin bs
    | none => .bad
  | .ref r => .ref r
  | .tup id fs => match X.tuples[id]? with
    | some t => .tup t.name t.labels (eraseList X fs)
    | none => .bad
  | .fn idx caps => .fn idx (eraseList X caps)
  | .builtin id => .builtin id
  | .proc pid _ => .proc pid
  | .res rid _ => .res rid
def eraseList (X : Ctx) : ValList → SVList
  | .nil => .nil
  | .cons v vs => .cons (erase X v) (eraseList X vs)
end

/-! ### Well-formedness (the hypotheses of `valuesEqual_iff_erase`) -/

mutual
/-- A runtime value the executor can actually hold under `X`: tuple ids in range with the
declared arity, binary handles pointing at bytes, and every process handle carrying the function
index `pf pid` the process was started with (`Executor.process_function_indices`). Every producer
of a `Value::Process` uses that index: `notify_spawn`, `handle_self` (since `fix: the self handle
of a process changed after a named tail call`; before, it read `frames.first()`, which a named
tail call replaces — finding C13-B), and `Instruction::Process` re-materialising an existing handle. -/
def WF (X : Ctx) (pf : Nat → Nat) : Val → Prop
  | .int _ => True
  | .bin b => (X.bytesOf b).isSome
  | .ref _ => True
  | .tup id fs => (∃ t, X.tuples[id]? = some t ∧ t.labels.length = fs.length) ∧ WFList X pf fs
  | .fn _ caps => WFList X pf caps
  | .builtin _ => True
  | .proc pid f => f = pf pid
  | .res _ _ => True
def WFList (X : Ctx) (pf : Nat → Nat) : ValList → Prop
  | .nil => True
  | .cons v vs => WF X pf v ∧ WFList X pf vs
end

mutual
/-- Decidable version of `WF` for the driver / harness, without the clause on process handles (any
`proc` is accepted here; their coherence is checked apart). -/
def wfB (X : Ctx) : Val → Bool
  | .int _ => true
  | .bin b => (X.bytesOf b).isSome
  | .ref _ => true
  | .tup id fs => (match X.tuples[id]? with
      | some t => t.labels.length == fs.length
      | none => false) && wfListB X fs
  | .fn _ caps => wfListB X caps
  | .builtin _ => true
  | .proc _ _ => true
  | .res _ _ => true
def wfListB (X : Ctx) : ValList → Bool
  | .nil => true
  | .cons v vs => wfB X v && wfListB X vs
end

/-! ### Producers of process handles -/

/-- What the spawner receives (`worker.rs`: `notify_spawn(pid, Value::Process(spawned_pid,
function_index))`), with `function_index` the function the process is started with — the value
`spawn_process` records in `process_function_indices`. -/
def spawnHandle (pid fidx : Nat) : Val := .proc pid fidx

/-- `handle_self`: the index the process was started with (`process_function_indices.get(pid)`),
falling back to the first frame's function only if there is none. -/
def selfHandle (started : Nat → Option Nat) (firstFrameFn pid : Nat) : Val :=
  .proc pid ((started pid).getD firstFrameFn)

/-- `handle_self` before `fix: the self handle of a process changed after a named tail call`:
always the first frame's function — which `TailCall(false)` replaces. -/
def selfHandleLegacy (firstFrameFn pid : Nat) : Val := .proc pid firstFrameFn

/-! ### Ref minting (`Executor::create_ref`) -/

/-- `((self.worker_id as u64) << 48) | self.next_ref` on machine words. -/
def mintRef (w : UInt16) (c : UInt64) : UInt64 := (w.toUInt64 <<< 48) ||| c

/-- `create_ref`: returns the ref and the incremented counter. `self.next_ref += 1` overflows at
`2^64 - 1`: a panic with overflow checks (debug / the harness profile), wrap-around in release —
modelled as `panic`. -/
def createRef (w : UInt16) (c : UInt64) : Outcome (UInt64 × UInt64) :=
  if c = 0xFFFFFFFFFFFFFFFF then .panic else .ok (mintRef w c, c + 1)

/-- A system of workers, each with its own counter (`Executor.next_ref`, starts at 0); worker ids
are the indices `0 .. n-1` (`Worker::new(.., worker_id)`, distinct `u16`s). -/
structure MintState where
  counters : List UInt64
  /-- every ref minted so far, newest first, with the worker that minted it -/
  minted : List (Nat × UInt64)
  deriving Repr

def MintState.init (n : Nat) : MintState := ⟨List.replicate n 0, []⟩

/-- Worker `w` (any process on it) executes `create_ref`. -/
def MintState.mint (s : MintState) (w : Nat) : Option MintState :=
  match s.counters[w]? with
  | none => none
  | some c =>
    match createRef (UInt16.ofNat w) c with
    | .ok (r, c') => some ⟨s.counters.set w c', (w, r) :: s.minted⟩
    | _ => none

/-- Run a schedule of mint events (which worker mints next). -/
def MintState.run (s : MintState) : List Nat → Option MintState
  | [] => some s
  | w :: ws => match s.mint w with
    | some s' => s'.run ws
    | none => none

end QM.Equal
