/-
M-Text, part 2 — the string-literal functions of `parser.rs` and `format.rs` over `List Char`
(imports Core/Text/Doc only).

Rust                                            here
----                                            ----
parser.rs  parse_string_content                 `decodeSingle`
parser.rs  string_segments (text part)          `stringSegments` (stops at the first hole)
parser.rs  is_hspace                            `isHspace`
parser.rs  multiline_dedent                     `multilineDedent`
parser.rs  process_multiline_string             `processMultilineString`
parser.rs  process_multiline_segments (text)    `processMultilineSegments` (stops at the first hole)
format.rs  escape_single_line_text              `escapeSingle`
format.rs  escape_multiline_text                `escapeMultiText`
format.rs  protect_trailing_spaces              `protectTrailingSpaces`
format.rs  multiline_string_doc (text only)     `multilineLines` (the escaped, protected lines), `multilineDoc`
format.rs  literal_placeholder / expand_literals `literalPlaceholder`, `expandLiterals`
format.rs  collapse_blanks                      `collapseBlanks`  (on `rustLines`/`isWhitespace` of
                                                  Core/Text/Doc)

A Rust `&str`/`String` is a `List Char`; byte offsets are sums of `Char.utf8Size`.
-/
import QuiverModel.Core.Text.Doc
namespace QM.Text

/-- UTF-8 length in bytes (`str::len`). -/
def utf8Len : List Char → Nat
  | [] => 0
  | c :: cs => c.utf8Size + utf8Len cs

/-! ### `parse_string_content` (pattern position, after the closing quote has been located) -/

/-- The error value of `parse_string_content`: byte offset of the backslash relative to the start of
    the literal's content, the `length` field of the reported span (2 = backslash + character, 1 = a
    lone backslash at the end) and the offending escape text. -/
structure EscapeError where
  escapeOffset : Nat
  length : Nat
  escape : List Char
  deriving Repr, DecidableEq

/-- The escape table shared by `parse_string_content` and `string_segments` (the `match` on the
    character after the backslash): `\"`, `\\`, `\n`, `\r`, `\t`, `\{`; anything else is invalid. -/
def singleEscape (e : Char) : Option Char :=
  if e = '"' then some '"'
  else if e = '\\' then some '\\'
  else if e = 'n' then some '\n'
  else if e = 'r' then some '\r'
  else if e = 't' then some '\t'
  else if e = '{' then some '{'
  else none

/-- `parse_string_content`: `offset` is the running byte offset (the code adds `1` for the escaped
    character of a valid escape — they are all ASCII). -/
def decodeSingleAux (offset : Nat) : List Char → Except EscapeError (List Char)
  | [] => .ok []
  | c :: rest =>
    if c = '\\' then
      match rest with
      | [] => .error ⟨offset, 1, ['\\']⟩
      | e :: rest' =>
        match singleEscape e with
        | some d => (decodeSingleAux (offset + 2) rest').map (d :: ·)
        | none => .error ⟨offset, 2, ['\\', e]⟩
    else (decodeSingleAux (offset + c.utf8Size) rest).map (c :: ·)

def decodeSingle (cs : List Char) : Except EscapeError (List Char) := decodeSingleAux 0 cs

/-! ### `string_segments` (term position): scan and decode in one pass, up to the first hole -/

inductive SegResult where
  /-- closing quote found: decoded text of the (only) text segment, and the input after the quote -/
  | closed (text : List Char) (rest : List Char)
  /-- an unescaped `{` opens an interpolation hole: decoded text so far and the input from the `{` -/
  | hole (text : List Char) (rest : List Char)
  /-- end of input before the closing quote (nom `Eof` failure located at the opening quote) -/
  | unterminated
  /-- invalid escape (nom `MapRes` failure located at the opening quote) -/
  | badEscape
  deriving Repr, DecidableEq

/-- `text.extend_from_slice(d)` before the rest of the scan -/
def SegResult.push (d : Char) : SegResult → SegResult
  | .closed t r => .closed (d :: t) r
  | .hole t r => .hole (d :: t) r
  | .unterminated => .unterminated
  | .badEscape => .badEscape

/-- The loop of `string_segments` on the input after the opening quote. -/
def stringSegments : List Char → SegResult
  | [] => .unterminated
  | c :: rest =>
    if c = '"' then .closed [] rest
    else if c = '{' then .hole [] (c :: rest)
    else if c = '\\' then
      match rest with
      | [] => .unterminated
      | e :: rest' =>
        match singleEscape e with
        | some d => (stringSegments rest').push d
        | none => .badEscape
    else (stringSegments rest).push c

/-! ### `multiline_dedent` -/

/-- `is_hspace` -/
def isHspace (c : Char) : Bool := c = ' ' || c = '\t'

/-- `raw.replace("\r\n", "\n").replace('\r', "\n")` -/
def normalizeNewlines : List Char → List Char
  | [] => []
  | '\r' :: '\n' :: rest => '\n' :: normalizeNewlines rest
  | '\r' :: rest => '\n' :: normalizeNewlines rest
  | c :: rest => c :: normalizeNewlines rest

/-- `str::split_once('\n')` -/
def splitOnceNl : List Char → Option (List Char × List Char)
  | [] => none
  | c :: rest =>
    if c = '\n' then some ([], rest)
    else
      match splitOnceNl rest with
      | some (a, b) => some (c :: a, b)
      | none => none

/-- `str::split('\n')` (always at least one piece) -/
def splitNl : List Char → List (List Char)
  | [] => [[]]
  | c :: rest =>
    if c = '\n' then [] :: splitNl rest
    else
      match splitNl rest with
      | l :: ls => (c :: l) :: ls
      | [] => [[c]]

/-- `str::rsplit_once('\n')`: everything before the last newline, and what follows it. -/
def rsplitOnceNl (cs : List Char) : Option (List Char × List Char) :=
  match (splitNl cs).reverse with
  | [] => none
  | [_] => none
  | last :: revInit => some (joinNl revInit.reverse, last)

/-- `str::strip_prefix` -/
def stripPrefix : List Char → List Char → Option (List Char)
  | [], cs => some cs
  | _ :: _, [] => none
  | p :: ps, c :: cs => if p = c then stripPrefix ps cs else none

/-- The loop over `body.split('\n')` of `multiline_dedent`: `none` when a non-blank line is indented
    less than the margin. Lines are joined with `\n`. -/
def dedentLines (margin : List Char) : List (List Char) → Option (List (List Char))
  | [] => some []
  | line :: rest =>
    match dedentLines margin rest with
    | none =>
      -- the Rust loop returns at the *first* offending line; the result is `None` either way
      none
    | some out =>
      if line.all isHspace then some ([] :: out)
      else
        match stripPrefix margin line with
        | some l => some (l :: out)
        | none => none

def multilineDedent (raw : List Char) : Option (List Char) :=
  let normalized := normalizeNewlines raw
  match splitOnceNl normalized with
  | none => none
  | some (first, afterOpen) =>
    if !first.all isHspace then none
    else
      let (body, margin) :=
        match rsplitOnceNl afterOpen with
        | some (b, m) => (b, m)
        | none => ([], afterOpen)
      if !margin.all isHspace then none
      else
        match dedentLines margin (splitNl body) with
        | some ls => some (joinNl ls)
        | none => none

/-! ### `process_multiline_string` / `process_multiline_segments` -/

def dropHspace : List Char → List Char
  | [] => []
  | c :: rest => if isHspace c then dropHspace rest else c :: rest

theorem dropHspace_length_le (cs : List Char) : (dropHspace cs).length ≤ cs.length := by
  induction cs with
  | nil => simp [dropHspace]
  | cons c rest ih => simp only [dropHspace]; split <;> simp <;> omega

/-- The escape table of the multi-line forms: the single-line set plus `\s` (a strip-proof space).
    (`\<newline>`, the line continuation, is handled separately.) -/
def multiEscape (e : Char) : Option Char :=
  if e = '"' then some '"'
  else if e = '\\' then some '\\'
  else if e = 'n' then some '\n'
  else if e = 'r' then some '\r'
  else if e = 't' then some '\t'
  else if e = 's' then some ' '
  else if e = '{' then some '{'
  else none

/-- The escape/strip/continuation pass of `process_multiline_string` over the de-indented text.
    `pending` is the buffered horizontal whitespace (in order). `none` = invalid escape. -/
def processEscapes (pending : List Char) (cs : List Char) : Option (List Char) :=
  match cs with
  | [] => some []
  | c :: rest =>
    if c = ' ' || c = '\t' then processEscapes (pending ++ [c]) rest
    else if c = '\n' then (processEscapes [] rest).map ('\n' :: ·)
    else if c = '\\' then
      match rest with
      | [] => none
      | e :: rest' =>
        if e = '\n' then (processEscapes [] (dropHspace rest')).map (pending ++ ·)
        else
          match multiEscape e with
          | some d => (processEscapes [] rest').map (fun o => pending ++ d :: o)
          | none => none
    else (processEscapes [] rest).map (fun o => pending ++ c :: o)
termination_by cs.length
decreasing_by
  all_goals simp_wf
  all_goals first
    | omega
    | (have := dropHspace_length_le rest'; omega)

/-- `process_multiline_string` (pattern position: `{` is literal). -/
def processMultilineString (raw : List Char) : Option (List Char) :=
  match multilineDedent raw with
  | none => none
  | some d => processEscapes [] d

inductive MlSegResult where
  /-- no hole: the single text segment -/
  | text (t : List Char)
  /-- an unescaped `{`: decoded text run before it (pending whitespace kept) and the de-indented
      source from the `{` on (what `block` is then run on) -/
  | hole (t : List Char) (rest : List Char)
  | malformed
  deriving Repr, DecidableEq

/-- prepend decoded text to the result of the rest of the scan -/
def MlSegResult.prepend (pre : List Char) : MlSegResult → MlSegResult
  | .text t => .text (pre ++ t)
  | .hole t rest => .hole (pre ++ t) rest
  | .malformed => .malformed

/-- The loop of `process_multiline_segments` up to the first hole. -/
def processSegments (pending : List Char) (cs : List Char) : MlSegResult :=
  match cs with
  | [] => .text []
  | c :: rest =>
    if c = ' ' || c = '\t' then processSegments (pending ++ [c]) rest
    else if c = '\n' then (processSegments [] rest).prepend ['\n']
    else if c = '{' then .hole pending (c :: rest)
    else if c = '\\' then
      match rest with
      | [] => .malformed
      | e :: rest' =>
        if e = '\n' then (processSegments [] (dropHspace rest')).prepend pending
        else
          match multiEscape e with
          | some d => (processSegments [] rest').prepend (pending ++ [d])
          | none => .malformed
    else (processSegments [] rest).prepend (pending ++ [c])
termination_by cs.length
decreasing_by
  all_goals simp_wf
  all_goals first
    | omega
    | (have := dropHspace_length_le rest'; omega)

/-- `process_multiline_segments` (term position) up to the first hole. -/
def processMultilineSegments (raw : List Char) : MlSegResult :=
  match multilineDedent raw with
  | none => .malformed
  | some d => processSegments [] d

/-! ### `format.rs`: escaping -/

/-- `escape_single_line_text` -/
def escapeSingle : List Char → List Char
  | [] => []
  | c :: rest =>
    (if c = '\\' then ['\\', '\\']
     else if c = '"' then ['\\', '"']
     else if c = '{' then ['\\', '{']
     else if c = '\n' then ['\\', 'n']
     else if c = '\r' then ['\\', 'r']
     else if c = '\t' then ['\\', 't']
     else [c]) ++ escapeSingle rest

/-- `escape_multiline_text` (one `\n`-free fragment) -/
def escapeMultiText : List Char → List Char
  | [] => []
  | c :: rest =>
    (if c = '\\' then ['\\', '\\']
     else if c = '"' then ['\\', '"']
     else if c = '{' then ['\\', '{']
     else if c = '\r' then ['\\', 'r']
     else if c = '\t' then ['\\', 't']
     else [c]) ++ escapeMultiText rest

/-- number of trailing `' '` (`line.len() - line.trim_end_matches(' ').len()`) -/
def trailingSpaces : List Char → Nat
  | [] => 0
  | c :: t =>
    if t.all (· = ' ') then (if c = ' ' then t.length + 1 else t.length) else trailingSpaces t

/-- `protect_trailing_spaces`: the trailing run of `' '` becomes `\s` each. -/
def protectTrailingSpaces (line : List Char) : List Char :=
  let k := trailingSpaces line
  line.take (line.length - k) ++ (List.replicate k ['\\', 's']).flatten

/-- The content lines `multiline_string_doc` emits for a text-only string: the value split at
    `\n`, each part escaped, trailing spaces protected. -/
def multilineLines (value : List Char) : List (List Char) :=
  (splitNl value).map (fun l => protectTrailingSpaces (escapeMultiText l))

/-- decimal digits of `n` (`format!("{}", index)`) -/
def natDigits (n : Nat) : List Char := (toString n).toList

/-- `literal_placeholder(index)`: a NUL followed by the index. No other laid-out line starts with a
    NUL, so a line is a placeholder exactly when its first non-space character is NUL. -/
def literalPlaceholder (index : Nat) : List Char := '\x00' :: natDigits index

/-- `multiline_string_doc` (since a7d7642): the delimiters around ONE placeholder line; the content
    lines (`multilineLines`) are kept in the literal store under `index` and put back by
    `expandLiterals` after layout and `collapse_blanks`. -/
def multilineDoc (index : Nat) : Doc :=
  .concat [.text ['"', '"', '"'], .hardline, .text (literalPlaceholder index), .hardline,
    .text ['"', '"', '"']]

/-- `str::parse::<usize>()` on the text after the NUL: an optional `+`, then one or more ASCII
    digits, value below 2^64. -/
def parseUsize (cs : List Char) : Option Nat :=
  let ds := match cs with
    | '+' :: rest => rest
    | _ => cs
  if ds.isEmpty || !ds.all (fun c => '0' ≤ c && c ≤ '9') then none
  else
    let n := ds.foldl (fun acc c => acc * 10 + (c.toNat - '0'.toNat)) 0
    if n < 2 ^ 64 then some n else none

/-- One line of `expand_literals`: the lines it contributes to the output. `none` = the index is not
    in the store (`literals[index]` would panic — cannot happen for text the formatter produced). -/
def expandLine (literals : List (List (List Char))) (line : List Char) : Option (List (List Char)) :=
  let indent := line.takeWhile (· = ' ')
  let rest := line.dropWhile (· = ' ')
  match rest with
  | '\x00' :: digits =>
    match parseUsize digits with
    | some index =>
      match literals[index]? with
      | some content => some (content.map (fun l => if l.isEmpty then [] else indent ++ l))
      | none => none
    | none => some [line]
  | _ => some [line]

/-- `expand_literals(text, literals)`: every output line is followed by `\n`. -/
def expandLiterals (text : List Char) (literals : List (List (List Char))) : Option (List Char) :=
  ((rustLines text).mapM (expandLine literals)).map
    (fun ls => (ls.flatten.map (· ++ ['\n'])).flatten)

/-- One content line as `expand_literals` emits it: empty if the line is empty, else indented. -/
def indentLine (margin L : List Char) : List Char := if L.isEmpty then [] else margin ++ L

/-- The text between the `"""` delimiters of a formatted literal whose placeholder line sat at
    indentation `margin`: the newline after the opening delimiter, the content lines (`indentLine`)
    separated by newlines, a newline and the margin before the closing delimiter. -/
def renderedRaw (margin : List Char) (Ls : List (List Char)) : List Char :=
  '\n' :: (joinNl (Ls.map (indentLine margin)) ++ '\n' :: margin)

/-! ### `collapse_blanks` -/

/-- `str::trim` is empty -/
def isBlankLine (l : List Char) : Bool := l.all isWhitespace

/-- the `for line in text.lines()` loop -/
def collapseLoop (prevBlank : Bool) : List (List Char) → List (List Char)
  | [] => []
  | l :: ls =>
    let blank := isBlankLine l
    if blank && prevBlank then collapseLoop prevBlank ls
    else (if blank then [] else l) :: collapseLoop blank ls

/-- `while lines.last().is_some_and(|l| l.is_empty()) { lines.pop() }` -/
def dropTrailingEmpty (ls : List (List Char)) : List (List Char) :=
  (ls.reverse.dropWhile (·.isEmpty)).reverse

/-- `collapse_blanks` -/
def collapseBlanks (text : List Char) : List Char :=
  joinNl (dropTrailingEmpty (collapseLoop true (rustLines text))) ++ ['\n']

end QM.Text
