/-
M-Text, part 4 — the FRAGMENT PORT: for a fragment of the language both directions of the formatter are
modelled,

  * AST → `Doc`: the builders of `quiver-compiler/src/format.rs` on that fragment, on top of the `Doc`
    engine of Core/Text/Doc (`format_program` → `statement_doc` → `sequence_doc_with` → `chain_doc` →
    `term_doc` → `tuple_doc` → `bracketed` → `field_doc` → `chain_doc` …), and
  * text → AST: the productions of `quiver-compiler/src/parser.rs` that the fragment reaches
    (`program`, `sequence`, `seq_sep`, `tuple_term`, `tuple_field_list`, `tuple_field`, `identifier`,
    `tuple_name`), written with the nom combinator layer of Core/Parse/Type (`wsc`, `commaWsc`,
    `seqSep`, `sepList0/1`, `delimited`, … — the same token/white-space layer as the type-grammar port,
    not a second one),

so that "format, then parse, gives the program back" is a statement about two models that are both
tied to the implementation by the differential of `harness/src/bin/c17` (requests `frag-*`).

The fragment: ONE statement that is a sequence of one or more steps ("tall" steps set
off by blank lines); each step and each field value a CHAIN of one or more terms (juxtaposition
`[x, y] f`, pipelines `a ~> f`, chains ending in a container); a term is a bare identifier, an
identifier with accessors (`x.f.0`), a bare tuple name `A`, an integer or binary literal, a single-line
string without holes, or a tuple `[…]` / `A[…]` with unnamed or named (`x: t`) fields; no trivia.

Rust (format.rs)                          here
----------------                          ----
break_if_wider_than                       `breakIfWiderThan`
bracketed(open, close, items, true)       `bracketed`
tuple_doc                                 `termDoc (.tup name fs)`  (`[]` / `A` when there is no field)
render_access (a bare identifier)         `termDoc (.leaf n)`
field_doc (no trivia)                     `fieldDocOf`  = concat [nil, value, nil], value = chain_doc or
                                          concat [text "x: ", chain_doc]
chain_doc (no pattern, one term)          `chainDoc`   = concat [nil, group (break_if_wider_than …)]
chain_doc (several terms), chain_terms_doc `multiChainDoc`, `chainParts` (flattened head before a container,
                                          else group; `line` + `ifBreak("~> ")` after a call-ender)
render_literal, single_line_string_doc    `intText`, `binText`, `strText`
is_tall_step, sequence_doc_with           `isTall`, `restDocs`, `sequenceDoc` = group (concat [first,
                                          nest 0 (concat rest)]), separator `seqSepDoc` = concat
                                          [ifBreak(nil, ","), line] or two hard lines around a tall step
format_program (one statement)            `programDoc`, `fmtFrag`

Rust (parser.rs)                          here
----------------                          ----
tuple_field                               `fieldP`   (named alternative | chain)
tuple_field_list in brackets              `bracketsP`
tuple_term (three alternatives)           `tupleP`
string_term, literal                      `stringP`, `literalP` (`integerP`, `binaryP`)
primary → string | literal | tuple |      `termP`
  access (identifier)
chain_inner                               `chainP` (`chainSep` = alt((ws1 "~>" ws1), hspace1))
sequence                                  `sequenceP`
program                                   `programP`

The productions that the fragment cannot reach (spreads — fail at the first character; the speculative
`pattern =` alternative of `chain` — fails at the `=`; type alias — fails at the first character; the
other primaries) are left out of the fragment parser; that it agrees with the real parser on the
fragment's texts is what the differential checks.
-/
import QuiverModel.Core.Prelude
import QuiverModel.Core.Parse.Type
import QuiverModel.Core.Text.Doc
import QuiverModel.Core.Text.Scan
namespace QM.Text

/-- `format.rs::break_if_wider_than` -/
def breakIfWiderThan (inner : Doc) (threshold : Nat) : Doc :=
  match flatWidth inner threshold with
  | some _ => inner
  | none => .concat [inner, .breakParent]

/-- `format.rs::bracketed(open, "]", items, trailing = true)` -/
def bracketed (opn : List Char) (items : List Doc) : Doc :=
  Doc.mkGroup (.concat [
    .text opn,
    .nest 2 (.concat [.softline, Doc.join (.concat [.text [','], .line]) items,
      .ifBreak (.text [',']) .nil]),
    .softline,
    .text [']']])

end QM.Text

namespace QM.Frag
open QM.Text QM.Parse

/-- `AccessPath`: `.field` or `.index` behind an access -/
inductive Acc where
  | field (name : Str)
  | index (i : Nat)
  deriving Repr, Inhabited

mutual
/-- The fragment: `Term::Access` of an identifier (bare or with accessors), literals, single-line
    strings, and `Term::Tuple`s — anonymous `[…]`, named `A[…]`, or the bare tuple name `A` (no
    fields) — whose fields are chains of the fragment, unnamed or named (`x: t`). -/
inductive T where
  | leaf (name : Str)
  /-- `Term::Access` of an identifier with accessors: `name.field.0` (`path` non-empty) -/
  | acc (name : Str) (path : List Acc)
  /-- `Term::Literal(Literal::Integer(i))` -/
  | int (i : Int)
  /-- `Term::Literal(Literal::Binary(bytes))` -/
  | bin (bytes : List Nat)
  /-- `Term::String(StringStyle::Single, segments, _)` without holes: no segment for the empty
      string, else one `Text` segment with the UTF-8 bytes of `value` -/
  | str (value : Str)
  | tup (name : Option Str) (fields : List F)
  /-- a chain of SEVERAL terms `first more…` (`Chain { terms }`, `more` non-empty). A chain of one term
      is represented by that term itself: fields and steps hold a `T` that is either a term or a
      `chain`; the terms of a chain are never chains (`T.WF`). -/
  | chain (first : T) (more : List T)
inductive F where
  | mk (label : Option Str) (value : T)
end

instance : Inhabited T := ⟨.leaf []⟩
instance : Inhabited F := ⟨.mk none default⟩

/-- a term (`primary`), not a chain of several terms -/
def isPrim : T → Bool
  | .chain _ _ => false
  | _ => true

/-- `is_call_ender`: `Term::Access` (an identifier, bare or with accessors) -/
def isIdent : T → Bool
  | .leaf _ => true
  | .acc _ _ => true
  | _ => false

/-- `is_breakable_container`: a tuple with fields -/
def isContainer : T → Bool
  | .tup _ (_ :: _) => true
  | _ => false

/-- an optional name is in the language of the given lexical class -/
def optOk (ok : Str → Bool) : Option Str → Prop
  | none => True
  | some n => ok n = true

mutual
/-- every leaf and field label is an `identifier`, every tuple name a `tuple_name` of the language -/
def T.WF : T → Prop
  | .leaf n => isIdentStr n = true
  | .acc n p => isIdentStr n = true ∧ p ≠ [] ∧
      ∀ a ∈ p, match a with
        | .field f => isIdentStr f = true
        | .index i => i < 2 ^ 64
  | .int _ => True
  | .bin bs => ∀ b ∈ bs, b < 256
  | .str _ => True
  | .tup name fs => optOk isTupleNameStr name ∧ F.WFList fs
  | .chain t more => more ≠ [] ∧ isPrim t = true ∧ T.WF t ∧ T.WFTerms more
/-- the further terms of a chain: terms, well-formed -/
def T.WFTerms : List T → Prop
  | [] => True
  | t :: ts => (isPrim t = true ∧ T.WF t) ∧ T.WFTerms ts
def F.WF : F → Prop
  | .mk l t => optOk isIdentStr l ∧ T.WF t
def F.WFList : List F → Prop
  | [] => True
  | f :: fs => F.WF f ∧ F.WFList fs
end

/-! ### AST → Doc (format.rs) -/

/-- one accessor as `render_access` writes it -/
def accText : Acc → Str
  | .field f => '.' :: f
  | .index i => '.' :: Parse.natDigits i

def pathText : List Acc → Str
  | [] => []
  | a :: p => accText a ++ pathText p

/-- `render_access` of an identifier with accessors -/
def accessText (name : Str) (path : List Acc) : Str := name ++ pathText path

/-- `BigInt::to_string` -/
def intText (i : Int) : Str := if i < 0 then '-' :: Parse.natDigits i.natAbs else Parse.natDigits i.natAbs

/-- `hex::encode`: two lower-case digits per byte -/
def hexText : List Nat → Str
  | [] => []
  | b :: bs => QM.hexChar (b / 16) :: QM.hexChar (b % 16) :: hexText bs

/-- `render_literal` of a binary: `0x` and the hex digits -/
def binText (bs : List Nat) : Str := '0' :: 'x' :: hexText bs

/-- `single_line_string_doc` of a string without holes: the re-escaped text between quotes -/
def strText (v : Str) : Str := '"' :: (escapeSingle v ++ ['"'])

/-- `CHAIN_SOFT_WIDTH` -/
def chainSoftWidth : Nat := 50
/-- `WIDTH` -/
def pageWidth : Nat := 100

/-- `chain_doc` of a chain without pattern and with the single term whose doc is `term` -/
def chainDoc (term : Doc) : Doc :=
  .concat [.nil, Doc.mkGroup (breakIfWiderThan (.concat [term]) chainSoftWidth)]

/-- the parts of `chain_terms_doc` after the first term: after a call-ender a `line` and the `~> ` that
    shows only when the chain is broken, else a space; `prev` = the previous term is a call-ender -/
def chainParts : Bool → List Bool → List Doc → List Doc
  | prev, e :: es, d :: ds =>
    (if prev then [.line, .ifBreak (.text ['~', '>', ' ']) .nil] else [.text [' ']]) ++ d :: chainParts e es ds
  | _, _, _ => []

/-- `[..].join(" ")` -/
def joinSp : List Str → Str
  | [] => []
  | [s] => s
  | s :: ss => s ++ ' ' :: joinSp ss

/-- `chain_doc` of a chain of several terms without pattern: `enders` = `is_call_ender` per term,
    `lastContainer` = `is_breakable_container(last)`, `docs` = `term_doc` per term. A chain ending in a
    container keeps its head flat on one line (unless a head term forces a break); otherwise
    `group(break_if_wider_than(chain_terms_doc, 50))`. -/
def multiChainDoc (enders : List Bool) (lastContainer : Bool) (docs : List Doc) : Doc :=
  match enders, docs with
  | e :: es, d :: ds =>
    if lastContainer && !(docs.dropLast.any forcesBreak) then
      .concat [.nil, .text (joinSp (docs.dropLast.map flatten)), .text [' '], docs.getLastD d]
    else
      .concat [.nil, Doc.mkGroup (breakIfWiderThan (.concat (d :: chainParts e es ds)) chainSoftWidth)]
  | _, _ => .nil

/-- `field_doc` without trivia around the field's value doc -/
def fieldDoc (value : Doc) : Doc := .concat [.nil, value, .nil]

/-- the text in front of the fields: the tuple name (if any) and `[` -/
def openText (name : Option Str) : Str := name.getD [] ++ ['[']

/-- a tuple without fields: `[]`, or the bare name -/
def emptyText : Option Str → Str
  | none => ['[', ']']
  | some n => n

mutual
/-- `term_doc` (`render_access` of a bare identifier; `tuple_doc`) -/
def termDoc : T → Doc
  | .leaf n => .text n
  | .acc n p => .text (accessText n p)
  | .int i => .text (intText i)
  | .bin bs => .text (binText bs)
  | .str v => .text (strText v)
  | .tup name fs => if fs.isEmpty then .text (emptyText name) else bracketed (openText name) (fieldDocs fs)
  | .chain t more =>
    multiChainDoc (isIdent t :: more.map isIdent) (isContainer ((t :: more).getLastD t))
      (termDoc t :: termDocs more)
def termDocs : List T → List Doc
  | [] => []
  | t :: ts => termDoc t :: termDocs ts
/-- `field_doc`: `chain_doc`, behind `name: ` for a named field -/
def fieldDocOf : F → Doc
  | .mk none t => fieldDoc (if isPrim t then chainDoc (termDoc t) else termDoc t)
  | .mk (some l) t =>
    fieldDoc (.concat [.text (l ++ [':', ' ']), if isPrim t then chainDoc (termDoc t) else termDoc t])
def fieldDocs : List F → List Doc
  | [] => []
  | f :: fs => fieldDocOf f :: fieldDocs fs
end

/-- `chain_doc` of a field value or step: of the one-term chain `t`, or of the chain `t` is -/
def chainDocOf (t : T) : Doc := if isPrim t then chainDoc (termDoc t) else termDoc t

/-- `is_tall_step`: a pipeline (a call-ender before the last term) that does not end in a container
    and whose doc forces a break -/
def isTall (t : T) (body : Doc) : Bool :=
  match t with
  | .chain f more =>
    !isContainer ((f :: more).getLastD f) && ((f :: more).dropLast.any isIdent) && forcesBreak body
  | _ => false

/-- the step separator of `sequence_doc_with`: `, ` inline, a bare newline when the sequence is broken
    (comma and newline are synonyms) -/
def seqSepDoc : Doc := .concat [.ifBreak .nil (.text [',']), .line]

/-- the `rest` of `sequence_doc_with`: separator and item for every step after the first; a "tall"
    step is set off from its neighbours by a blank line (two hard lines) instead. No step of the
    fragment starts with `(` (`glued`) or with a block (`needs_explicit_comma`). `prevTall` = the
    previous step is tall. -/
def restDocs : Bool → List T → List Doc
  | _, [] => []
  | prevTall, t :: ts =>
    let tall := isTall t (chainDocOf t)
    (if prevTall || tall then [.hardline, .hardline] else [seqSepDoc]) ++
      fieldDoc (chainDocOf t) :: restDocs tall ts

/-- `sequence_doc_with` without trivia: `group(concat [first, nest(0, concat rest)])` -/
def sequenceDoc : List T → Doc
  | [] => Doc.mkGroup (.concat [.nil, .nest 0 (.concat [])])
  | t :: ts =>
    Doc.mkGroup (.concat [fieldDoc (chainDocOf t), .nest 0 (.concat (restDocs (isTall t (chainDocOf t)) ts))])

/-- the `Doc` of `format_program` for the program whose only statement is the sequence of the chains
    `ts` (the parser makes ONE sequence of all the comma/newline-separated expressions) -/
def programDoc (ts : List T) : Doc := .concat [sequenceDoc ts]

/-- a program of the fragment: at least one step, all well-formed -/
def WFProg (ts : List T) : Prop := ts ≠ [] ∧ ∀ t ∈ ts, T.WF t

/-- `format_program` on the fragment: lay out at `WIDTH`, collapse blank lines, expand the (absent)
    literal placeholders. -/
def fmtFrag (ts : List T) : List Char :=
  match expandLiterals (collapseBlanks (print (programDoc ts) pageWidth)) [] with
  | some out => out
  | none => "<panic: literal index out of range>".toList

/-! ### text → AST (parser.rs) -/

/-- `hspace1` -/
def hspace1 : P Unit := fun i =>
  match i with
  | c :: r => if Parse.isHspace c then .ok () (r.dropWhile Parse.isHspace) else .err i .space
  | [] => .err i .space

/-- the separator of `chain_inner`: `alt((tuple((ws1, tag("~>"), ws1)), hspace1))` -/
def chainSep : P Unit := alt (seq ws1 (seq (ptag ['~', '>']) ws1)) hspace1

/-- `chain` = `chain_inner` = `separated_list1(chainSep, primary)` (the speculative `pattern =`
    alternative fails at the `=`); one term is that term, several are a `chain` -/
def chainP (term : P T) : P T :=
  pmap (sepList1 chainSep term) fun
    | [t] => t
    | t :: ts => .chain t ts
    | [] => default

/-- `tuple_field`: `separated_pair(identifier, (char(':'), ws1), chain)` for a named field, else the
    chain (the two spread alternatives in between fail at the first character on fragment texts). -/
def fieldP (term : P T) : P F :=
  alt
    (bind identifier fun n => seq (pchar ':') (seq ws1 (pmap term (F.mk (some n)))))
    (pmap term (F.mk none))

/-- `delimited(pair(char('['), wsc), tuple_field_list, pair(wsc, char(']')))` with
    `tuple_field_list = terminated(separated_list0(tuple((wsc, char(','), wsc)), tuple_field),
    opt(pair(wsc, char(','))))` -/
def bracketsP (field : P F) : P (List F) :=
  delimited (seq (pchar '[') wsc)
    (before (sepList0 commaWsc field) (opt (seq wsc (pchar ','))))
    (seq wsc (pchar ']'))

/-- `tuple_term`: `Name[…]`, `[…]`, or a bare `Name` not followed by `(` (which would make it a
    partial pattern/type). -/
def tupleP (field : P F) : P T :=
  alt (bind tupleName fun n => pmap (bracketsP field) (T.tup (some n)))
    (alt (pmap (bracketsP field) (T.tup none))
      (bind tupleName fun n => pmap (peekNot (seq ws0 (pchar '('))) (fun _ => T.tup (some n) [])))

/-- `digit1` -/
def digit1 : P Str := fun i =>
  let ds := i.takeWhile isDigit
  if ds.isEmpty then .err i .digit else .ok ds (i.dropWhile isDigit)

/-- `integer_literal`: `pair(opt(char('-')), map_res(digit1, parse::<BigInt>))` (a `BigInt` never
    overflows) -/
def integerP : P Int :=
  bind (opt (pchar '-')) fun sign =>
    pmap digit1 fun ds => if sign.isSome then -(digitsVal ds : Int) else (digitsVal ds : Int)

def isHexDigit (c : Char) : Bool := (QM.hexDigit c).isSome

/-- `binary_literal`: `preceded(tag("0x"), take_while(is_ascii_hexdigit))`, then `hex::decode`. (An odd
    number of digits is a nom `Failure` in the Rust; the model has no hard failures and answers a
    plain error — fragment texts never get there.) -/
def binaryP : P (List Nat) :=
  seq (ptag ['0', 'x']) fun i =>
    match QM.parseHexNat (i.takeWhile isHexDigit) with
    | some bs => .ok bs (i.dropWhile isHexDigit)
    | none => .err i .verify

/-- `literal` = `alt((binary_literal, integer_literal))` -/
def literalP : P T := alt (pmap binaryP T.bin) (pmap integerP T.int)

/-- `string_term` for a single-line string without holes: `"""` goes to the multi-line alternative
    (outside the fragment: plain error here); else `string_segments` after the opening quote must reach
    the closing quote without meeting an unescaped `{` (hole), a bad escape or the end of the input
    (nom `Failure`s in the Rust, plain errors in the model). -/
def stringP : P T := fun i =>
  match i with
  | '"' :: body =>
    if startsTripleQuote i then .err i .tag
    else
      match stringSegments body with
      | .closed text rest => .ok (.str text) rest
      | _ => .err i .verify
  | _ => .err i .char

/-- `accessor`: an index (`usize`) or a field name -/
def accessorP : P Acc := alt (pmap usize Acc.index) (pmap identifier Acc.field)

/-- `access` with an identifier as its source: the identifier, then `many0(preceded('.', accessor))` -/
def accessP : P T :=
  bind identifier fun n =>
    pmap (many0 (seq (pchar '.') accessorP)) fun p => if p.isEmpty then .leaf n else .acc n p

/-- `primary` restricted to the fragment (string | literal | tuple | access of a bare identifier — in the order
    of the Rust `alt`; `decimal_term` / `fraction_term`, tried before `literal`, fail when the digits are
    not followed by `.` / `/`, which the round-trip lemmas exclude by `Frag.Stop` of
    Lemmas/Text/Fragment); the recursion through
    `tuple_field` → `chain` → `primary` is tied by fuel as in Core/Parse/Type (`Res.out` = fuel
    exhausted). -/
def termP : Nat → P T
  | 0 => fun _ => .out
  | n + 1 => alt stringP (alt literalP (alt (tupleP (fieldP (chainP (termP n)))) accessP))

/-- `eof` -/
def peof : P Unit := fun i =>
  match i with
  | [] => .ok () []
  | _ :: _ => .err i .eof

/-- `sequence` = `terminated(separated_list1(seq_sep, chain), opt(seq_sep))` (the speculative
    `pattern =` alternative of `chain` fails at the `=`). -/
def sequenceP (n : Nat) : P (List T) := before (sepList1 seqSep (chainP (termP n))) (opt seqSep)

/-- `program` = `delimited(ws_with_comments, terminated(separated_list0(seq_sep, top_level_item),
    opt(seq_sep)), pair(ws_with_comments, eof))`; `top_level_item` = type alias (fails at the first
    character on fragment texts) or `sequence`. The result lists the statements (sequences). -/
def programP : P (List (List T)) := fun i =>
  seq wsc (before (before (sepList0 seqSep (sequenceP (i.length + 1))) (opt seqSep)) (seq wsc peof)) i

end QM.Frag
