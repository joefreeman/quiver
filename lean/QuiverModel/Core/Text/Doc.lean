/-
M-Text, part 1 — the `Doc` layout algebra of `quiver-compiler/src/pretty.rs`, mirrored node for node
and loop for loop (import-free: core Lean only).

Rust                                   here
----                                   ----
enum Mode {Flat, Break}                `Mode`
enum Doc {Nil, Text, Line, SoftLine,   `Doc` (same eleven constructors; `Text` carries the list of
  HardLine, Concat, Nest, Group,        `char`s of the Rust `String`, so `s.chars().count()` is
  IfBreak, LineSuffix, BreakParent}     `List.length`)
group / join                           `Doc.mkGroup`, `Doc.join`
forces_break                           `forcesBreak`
type Frame = (usize, Mode, &Doc)       `Frame`
print (loop over stack + suffixes)     `printLoop` (one equation per `match` arm of the Rust loop);
                                        the output `String` is produced as a list of `Piece`s
                                        (`out.push_str(s)` = `.atom s`, `out.push(' ')` = `.sp`,
                                        `newline(&mut out, indent)` = `.nl indent`) and rendered by
                                        `renderPieces`; `print` = `strip_trailing_whitespace` of it
fits                                   `fitsLoop` (`remaining as isize` = `toIsize`)
flatten / flat_width                   `flattenLoop` / `flatWidthLoop` (the explicit `Vec<&Doc>` stack)
strip_trailing_whitespace              `stripTrailingWhitespace` (`str::lines` + `trim_end` + join)

Termination of the four loops is by a size measure on the pending stack (+ the buffered line
suffixes for `print`): no fuel anywhere.

Machine integers: `usize`/`isize` are 64 bit. The only place where the width is observable is
`fits`' `remaining as isize` (a width ≥ 2^63 wraps to a negative number and every group breaks):
mirrored by `toIsize`. `indent + extra`, `col += …` and `width += …` are modelled in `Nat`
(an overflow needs ≥ 2^64 columns of text or nesting).
-/
namespace QM.Text

inductive Mode where
  | flat
  | brk
  deriving DecidableEq, Repr, Inhabited

inductive Doc where
  | nil
  | text (s : List Char)
  | line
  | softline
  | hardline
  | concat (ds : List Doc)
  | nest (extra : Nat) (d : Doc)
  | group (d : Doc) (shouldBreak : Bool)
  | ifBreak (broken flat : Doc)
  | lineSuffix (d : Doc)
  | breakParent
  deriving Repr, Inhabited

/-! ### Size measure (termination of the loops) -/

mutual
/-- `lineSuffix` weighs 2 so that moving its content to the suffix buffer (weight `size + 1`) and
    later back onto the stack (weight `size`) both decrease the measure. -/
def Doc.size : Doc → Nat
  | .concat ds => 1 + Doc.sizeList ds
  | .nest _ d => 1 + d.size
  | .group d _ => 1 + d.size
  | .ifBreak b f => 1 + b.size + f.size
  | .lineSuffix d => 2 + d.size
  | .nil | .text _ | .line | .softline | .hardline | .breakParent => 1
def Doc.sizeList : List Doc → Nat
  | [] => 0
  | d :: ds => d.size + Doc.sizeList ds
end

theorem Doc.size_pos (d : Doc) : 0 < d.size := by
  cases d <;> simp [Doc.size] <;> omega

theorem Doc.sizeList_append (a b : List Doc) :
    Doc.sizeList (a ++ b) = Doc.sizeList a + Doc.sizeList b := by
  induction a with
  | nil => simp [Doc.sizeList]
  | cons d ds ih => simp [Doc.sizeList, ih]; omega

/-! ### `forces_break`, `group`, `join` -/

mutual
def forcesBreak : Doc → Bool
  | .hardline | .breakParent => true
  | .concat ds => forcesBreakAny ds
  | .nest _ d => forcesBreak d
  | .group _ sb => sb
  | .ifBreak _ f => forcesBreak f
  | .nil | .text _ | .line | .softline | .lineSuffix _ => false
/-- `docs.iter().any(forces_break)` -/
def forcesBreakAny : List Doc → Bool
  | [] => false
  | d :: ds => forcesBreak d || forcesBreakAny ds
end

/-- `pretty::group`: the flag is precomputed from the content. -/
def Doc.mkGroup (d : Doc) : Doc := .group d (forcesBreak d)

/-- `pretty::join` -/
def Doc.joinList (sep : Doc) : List Doc → List Doc
  | [] => []
  | [d] => [d]
  | d :: ds => d :: sep :: Doc.joinList sep ds

def Doc.join (sep : Doc) (ds : List Doc) : Doc := .concat (Doc.joinList sep ds)

/-! ### Frames -/

structure Frame where
  indent : Nat
  mode : Mode
  doc : Doc
  deriving Repr, Inhabited

def framesSize : List Frame → Nat
  | [] => 0
  | f :: fs => f.doc.size + framesSize fs

/-- Weight of the buffered line suffixes: one more than their size each. -/
def sufSize : List Frame → Nat
  | [] => 0
  | f :: fs => f.doc.size + 1 + sufSize fs

theorem framesSize_append (a b : List Frame) :
    framesSize (a ++ b) = framesSize a + framesSize b := by
  induction a with
  | nil => simp [framesSize]
  | cons f fs ih => simp [framesSize, ih]; omega

/-- `for child in docs.iter().rev() { stack.push((indent, mode, child)) }`: the children as
    frames, first child on top. -/
def mkFrames (i : Nat) (m : Mode) : List Doc → List Frame
  | [] => []
  | d :: ds => ⟨i, m, d⟩ :: mkFrames i m ds

theorem framesSize_map (i : Nat) (m : Mode) (ds : List Doc) :
    framesSize (mkFrames i m ds) = Doc.sizeList ds := by
  induction ds with
  | nil => simp [framesSize, Doc.sizeList, mkFrames]
  | cons d ds ih => simp [framesSize, Doc.sizeList, mkFrames, ih]

theorem sufSize_append (a b : List Frame) : sufSize (a ++ b) = sufSize a + sufSize b := by
  induction a with
  | nil => simp [sufSize]
  | cons f fs ih => simp [sufSize, ih]; omega

theorem sufSize_eq (s : List Frame) : sufSize s = framesSize s + s.length := by
  induction s with
  | nil => simp [sufSize, framesSize]
  | cons f fs ih => simp [sufSize, framesSize, ih]; omega

/-! ### `fits` -/

/-- `n as isize` for a `usize` `n` (two's complement, 64 bit). -/
def toIsize (n : Nat) : Int :=
  if n % 2 ^ 64 < 2 ^ 63 then ((n % 2 ^ 64 : Nat) : Int) else ((n % 2 ^ 64 : Nat) : Int) - 2 ^ 64

/-- `local.pop().or_else(|| rest[rest_top - 1])`: the next frame of `fits`, from the local stack
    first and then from the continuation (which is only read). -/
def popFrame : List Frame → List Frame → Option (Frame × List Frame × List Frame)
  | f :: loc, rest => some (f, loc, rest)
  | [], f :: rest => some (f, [], rest)
  | [], [] => none

theorem popFrame_size {loc rest : List Frame} {f : Frame} {loc' rest' : List Frame}
    (h : popFrame loc rest = some (f, loc', rest')) :
    f.doc.size + framesSize loc' + framesSize rest' = framesSize loc + framesSize rest := by
  cases loc with
  | cons g l => simp [popFrame] at h; obtain ⟨rfl, rfl, rfl⟩ := h; simp [framesSize]
  | nil =>
    cases rest with
    | nil => simp [popFrame] at h
    | cons g r => simp [popFrame] at h; obtain ⟨rfl, rfl, rfl⟩ := h; simp [framesSize]

set_option linter.unusedVariables false in
/-- The `while remaining >= 0` loop of `fits`. `loc` is the local stack (head = top), `rest` the
    continuation (the print stack, head = top, read top first and never modified). -/
def fitsLoop (remaining : Int) (loc rest : List Frame) : Bool :=
  if remaining < 0 then false
  else
    match h : popFrame loc rest with
    | none => true
    | some (f, loc', rest') =>
      match hd : f.doc with
      | .nil => fitsLoop remaining loc' rest'
      | .text s => fitsLoop (remaining - (s.length : Int)) loc' rest'
      | .concat ds => fitsLoop remaining (mkFrames f.indent f.mode ds ++ loc') rest'
      | .nest extra d => fitsLoop remaining (⟨f.indent + extra, f.mode, d⟩ :: loc') rest'
      | .line =>
        match f.mode with
        | .flat => fitsLoop (remaining - 1) loc' rest'
        | .brk => true
      | .softline =>
        match f.mode with
        | .flat => fitsLoop remaining loc' rest'
        | .brk => true
      | .hardline => true
      | .lineSuffix _ => fitsLoop remaining loc' rest'
      | .breakParent => fitsLoop remaining loc' rest'
      | .ifBreak b fl =>
        match f.mode with
        | .brk => fitsLoop remaining (⟨f.indent, .brk, b⟩ :: loc') rest'
        | .flat => fitsLoop remaining (⟨f.indent, .flat, fl⟩ :: loc') rest'
      | .group d sb => fitsLoop remaining (⟨f.indent, if sb then .brk else .flat, d⟩ :: loc') rest'
termination_by framesSize loc + framesSize rest
decreasing_by
  all_goals
    have hsz := popFrame_size h
    simp only [hd, Doc.size, framesSize, framesSize_append, framesSize_map] at hsz ⊢
    try split
    all_goals omega

/-- `fits(remaining, indent, group_inner, rest)` -/
def fits (remaining : Nat) (indent : Nat) (inner : Doc) (rest : List Frame) : Bool :=
  fitsLoop (toIsize remaining) [⟨indent, .flat, inner⟩] rest

/-! ### `print` -/

/-- What `print` appends to `out`: `push_str(s)` of a `Text`, a single space (flat `Line`), or
    `newline(out, indent)`. -/
inductive Piece where
  | atom (s : List Char)
  | sp
  | nl (indent : Nat)
  deriving Repr, DecidableEq, Inhabited

def Piece.render : Piece → List Char
  | .atom s => s
  | .sp => [' ']
  | .nl n => '\n' :: List.replicate n ' '

def renderPieces : List Piece → List Char
  | [] => []
  | p :: ps => p.render ++ renderPieces ps

set_option linter.unusedVariables false in
set_option linter.unusedSimpArgs false in
/-- The main `loop` of `print`: `stack` has its top at the head; `suffixes` is in push order
    (`suffixes.push` appends; `stack.extend(suffixes.drain(..).rev())` puts the first one on top).
    Returns the pieces appended to `out` from this state on. -/
def printLoop (width : Nat) (col : Nat) (stack suffixes : List Frame) : List Piece :=
  match stack with
  | [] =>
    match suffixes with
    | [] => []
    | s :: ss => printLoop width col (s :: ss) []
  | f :: st =>
    match hd : f.doc with
    | .nil => printLoop width col st suffixes
    | .breakParent => printLoop width col st suffixes
    | .text s => .atom s :: printLoop width (col + s.length) st suffixes
    | .concat ds => printLoop width col (mkFrames f.indent f.mode ds ++ st) suffixes
    | .nest extra d => printLoop width col (⟨f.indent + extra, f.mode, d⟩ :: st) suffixes
    | .lineSuffix d => printLoop width col st (suffixes ++ [⟨f.indent, f.mode, d⟩])
    | .line =>
      match f.mode with
      | .flat => .sp :: printLoop width (col + 1) st suffixes
      | .brk =>
        match suffixes with
        | [] => .nl f.indent :: printLoop width f.indent st []
        | s :: ss => printLoop width col ((s :: ss) ++ f :: st) []
    | .softline =>
      match f.mode with
      | .flat => printLoop width col st suffixes
      | .brk =>
        match suffixes with
        | [] => .nl f.indent :: printLoop width f.indent st []
        | s :: ss => printLoop width col ((s :: ss) ++ f :: st) []
    | .hardline =>
      match suffixes with
      | [] => .nl f.indent :: printLoop width f.indent st []
      | s :: ss => printLoop width col ((s :: ss) ++ f :: st) []
    | .ifBreak b fl =>
      match f.mode with
      | .brk => printLoop width col (⟨f.indent, .brk, b⟩ :: st) suffixes
      | .flat => printLoop width col (⟨f.indent, .flat, fl⟩ :: st) suffixes
    | .group d sb =>
      let mode := if sb || !fits (width - col) f.indent d st then Mode.brk else Mode.flat
      printLoop width col (⟨f.indent, mode, d⟩ :: st) suffixes
termination_by framesSize stack + sufSize suffixes
decreasing_by
  all_goals
    simp only [framesSize, sufSize, framesSize_append, framesSize_map,
      sufSize_append, sufSize_eq, List.length_cons, List.length_append, List.length_nil]
    try simp only [hd]
    try simp only [Doc.size]
    try split
    all_goals omega

/-! ### `strip_trailing_whitespace` -/

/-- `char::is_whitespace` (Unicode `White_Space`). -/
def isWhitespace (c : Char) : Bool :=
  let n := c.toNat
  (0x09 ≤ n && n ≤ 0x0D) || n == 0x20 || n == 0x85 || n == 0xA0 || n == 0x1680 ||
  (0x2000 ≤ n && n ≤ 0x200A) || n == 0x2028 || n == 0x2029 || n == 0x202F || n == 0x205F ||
  n == 0x3000

/-- `str::trim_end` -/
def trimEnd (cs : List Char) : List Char := (cs.reverse.dropWhile isWhitespace).reverse

/-- `str::lines`: split after every `\n`; the `\n` and a `\r` directly before it are not part of the
    line; a final piece without `\n` is a line if it is non-empty (and keeps a trailing `\r`). -/
def rustLinesAux (cur : List Char) : List Char → List (List Char)
  | [] => if cur.isEmpty then [] else [cur.reverse]
  | c :: rest =>
    if c = '\n' then
      (match cur with
       | '\r' :: cur' => cur'.reverse
       | _ => cur.reverse) :: rustLinesAux [] rest
    else rustLinesAux (c :: cur) rest

def rustLines (cs : List Char) : List (List Char) := rustLinesAux [] cs

/-- `[..].join("\n")` -/
def joinNl : List (List Char) → List Char
  | [] => []
  | [l] => l
  | l :: ls => l ++ '\n' :: joinNl ls

def stripTrailingWhitespace (cs : List Char) : List Char :=
  joinNl ((rustLines cs).map trimEnd)

/-- The raw `out` string of `print` before `strip_trailing_whitespace`. -/
def printPieces (d : Doc) (width : Nat) : List Piece :=
  printLoop width 0 [⟨0, .brk, d⟩] []

/-- `pretty::print(doc, width)` -/
def print (d : Doc) (width : Nat) : List Char :=
  stripTrailingWhitespace (renderPieces (printPieces d width))

/-! ### `flatten`, `flat_width` -/

set_option linter.unusedVariables false in
/-- The `while let Some(doc) = stack.pop()` loop of `flatten` (head = top of stack). -/
def flattenLoop (stack : List Doc) : List Char :=
  match stack with
  | [] => []
  | d :: st =>
    match hd : d with
    | .nil => flattenLoop st
    | .softline => flattenLoop st
    | .breakParent => flattenLoop st
    | .text s => s ++ flattenLoop st
    | .line => ' ' :: flattenLoop st
    | .hardline => '\n' :: flattenLoop st
    | .concat ds => flattenLoop (ds ++ st)
    | .nest _ inner => flattenLoop (inner :: st)
    | .group inner _ => flattenLoop (inner :: st)
    | .lineSuffix inner => flattenLoop (inner :: st)
    | .ifBreak _ fl => flattenLoop (fl :: st)
termination_by Doc.sizeList stack
decreasing_by
  all_goals
    simp only [Doc.size, Doc.sizeList, Doc.sizeList_append] at *
    omega

/-- `pretty::flatten(doc)` -/
def flatten (d : Doc) : List Char := stripTrailingWhitespace (flattenLoop [d])

set_option linter.unusedVariables false in
/-- The loop of `flat_width`: `none` on a `HardLine`/`BreakParent` or as soon as `width > max`. -/
def flatWidthLoop (max : Nat) (width : Nat) (stack : List Doc) : Option Nat :=
  match stack with
  | [] => some width
  | d :: st =>
    match hd : d with
    | .nil => if width > max then none else flatWidthLoop max width st
    | .softline => if width > max then none else flatWidthLoop max width st
    | .lineSuffix _ => if width > max then none else flatWidthLoop max width st
    | .text s => if width + s.length > max then none else flatWidthLoop max (width + s.length) st
    | .line => if width + 1 > max then none else flatWidthLoop max (width + 1) st
    | .hardline => none
    | .breakParent => none
    | .concat ds => if width > max then none else flatWidthLoop max width (ds ++ st)
    | .nest _ inner => if width > max then none else flatWidthLoop max width (inner :: st)
    | .group inner _ => if width > max then none else flatWidthLoop max width (inner :: st)
    | .ifBreak _ fl => if width > max then none else flatWidthLoop max width (fl :: st)
termination_by Doc.sizeList stack
decreasing_by
  all_goals
    simp only [Doc.size, Doc.sizeList, Doc.sizeList_append] at *
    omega

/-- `pretty::flat_width(doc, max)` -/
def flatWidth (d : Doc) (max : Nat) : Option Nat := flatWidthLoop max 0 [d]

end QM.Text
