import QuiverModel.Core.Types.Narrow
/-
M-Soundness, part 1 (import-free: core Lean + the M-Types table only): the *generic-call guard* of
the compiler — unification of a parameter type that mentions type variables with the type of the
argument, and substitution of the resulting bindings into the function's result type.

Mirrors, arm by arm and in source order,
  * /repo/quiver-compiler/src/compiler/typing.rs  `contains_variables`, `substitute`, `unify`
    — as of fixes 8f4b36d (a concrete union argument must unify in EVERY variant with a non-union
    parameter), e4496af (the union/union arm adopts the bindings of the matching attempt), e097c86 (order of
    the parameter's variants in that arm) and repair 10 (the caller's type variables are opaque). The rules
    before these fixes are kept as switches of `Rules` (`UnionArgRule.anyVariant` …), so that
    `Theorems/C01.lean` can show, by evaluation, that soundness depends on them.
  * `union_type_ids` is `QM.Types.unionIds` (C09's module `Core/Types/Narrow.lean`, read-only).

Conventions
  * The Rust functions take `&mut Program`: they register new types (widened unions, substituted
    tuples). The model threads the table and returns it — *also when unification fails*, because a
    failed attempt inside the union arms may already have registered a widened union and later ids
    depend on it (ids of the model coincide with the ids of the implementation on an identical
    table).
  * `HashMap<String, usize>` bindings are an association list (`Bindings`); only `get`/`insert`
    are ever used, and the one iteration (`for (k, v) in temp_bindings` in the union/union arm)
    treats every key independently, so iteration order is unobservable. The driver prints
    bindings sorted by name.
  * A Rust `Err(_)` is `none` in the *inner* option of `URes`; running out of fuel is `none` in
    the *outer* option (reported by the driver as `fuel-out`, never defaulted).
  * `cf` is the fuel handed to the `is_compatible` call made while merging bindings and to
    `contains_variables` in the tuple arm.
-/
namespace QM.Soundness
open QM.Types

abbrev Bindings := List (Name × Nat)

/-- `bindings.get(name).copied()`. -/
def Bindings.get (b : Bindings) (n : Name) : Option Nat := List.lookup n b

/-- `bindings.insert(name, id)`: replace in place, or append. -/
def Bindings.insert : Bindings → Name → Nat → Bindings
  | [], n, v => [(n, v)]
  | (k, w) :: rest, n, v => if k = n then (k, v) :: rest else (k, w) :: Bindings.insert rest n v

/-- The rule for "non-union parameter, union argument". -/
inductive UnionArgRule where
  /-- current code (fix 8f4b36d): every variant of the argument must unify. -/
  | everyVariant
  /-- the code before the fix: the first variant that unifies decides. -/
  | anyVariant
  deriving DecidableEq, Repr

/-- The rule for a `Cycle` (back-reference) on either side. -/
inductive CycleRule where
  /-- current code: a back-reference unifies with anything, nothing is checked or bound. -/
  | lenient
  /-- a conservative alternative used to *classify* findings: a back-reference unifies only with a
  back-reference of the same depth. Not what the code does. -/
  | strict
  deriving DecidableEq, Repr

/-- The rule for the bindings of a matched variant in the union/union arm. -/
inductive MergeRule where
  /-- current code (fix e4496af): `*bindings = temp_bindings` — the attempt's bindings, which started
  from the current ones and hold whatever widening the variant required, are adopted. -/
  | adopt
  /-- the code before e4496af: the attempt's bindings are merged one by one, and a binding that is
  not assignable to the existing one is *skipped* (dropping the widening). -/
  | skipIncompatible
  deriving DecidableEq, Repr

/-- In which order the union/union arm tries the PARAMETER's variants for one argument variant. -/
inductive VariantOrder where
  /-- current code (fix e097c86): the structured variants first, the bare type variables last
  (stable otherwise) — a variable unifies with anything by widening, so in `'t | []` against
  `'int | []` it must not be offered the argument's `[]` before the parameter's own `[]`. -/
  | structuredFirst
  /-- the code before e097c86: declaration order. -/
  | declared
  deriving DecidableEq, Repr

/-- Whose type variables the ARGUMENT's type mentions. -/
inductive ScopeRule where
  /-- repair 10: the caller's — opaque to the callee: never looked up in the bindings (which belong
  to the parameter's variables), never skipped when spelled like the variable being bound, and a
  structured parameter position cannot take one. -/
  | callerOpaque
  /-- the code before it: a variable in the argument's type is resolved through the callee's
  bindings when it is spelled like one of them (a generic function calling another one with the
  same type-parameter names), and binding a variable to a like-named variable is skipped. Crosswise
  arguments make the bindings cyclic and the resolution never ends; `['a, 'a]` against `['a, 'int]`
  binds `'a := 'int` only. -/
  | sharedNames
  deriving DecidableEq, Repr

/-- The switches of the unification algorithm. `Rules.current` is the code as it is. -/
structure Rules where
  unionArg : UnionArgRule := .everyVariant
  cycle : CycleRule := .lenient
  merge : MergeRule := .adopt
  order : VariantOrder := .structuredFirst
  scope : ScopeRule := .callerOpaque
  deriving DecidableEq, Repr

def Rules.current : Rules := {}
/-- the code before fix 8f4b36d. -/
def Rules.beforeF6 : Rules := { unionArg := .anyVariant }
/-- the code before fix e4496af. -/
def Rules.beforeMergeFix : Rules := { merge := .skipIncompatible }
/-- the code before fix e097c86. -/
def Rules.beforeOrderFix : Rules := { order := .declared }
/-- the code before repair 10 (caller's and callee's type variables share one name space). -/
def Rules.sharedNames : Rules := { scope := .sharedNames }

/-! ### `contains_variables` -/

/-- `contains_variables(type_id, lookup)`; `none` = out of fuel. The Rust `||` / `any` chains
short-circuit, which is unobservable here (no side effects), except for fuel: a short-circuit can
answer `true` where the full exploration would run out of fuel, so the model short-circuits too. -/
def containsVariables (T : Table) : Nat → Nat → Option Bool
  | 0, _ => none
  | fuel + 1, id =>
    let anyL : List Nat → Option Bool := fun ids =>
      ids.foldl (fun acc i =>
        match acc with
        | none => none
        | some true => some true
        | some false => containsVariables T fuel i) (some false)
    match T.types[id]? with
    | none => some false
    | some ty =>
      match ty with
      | .variable _ => some true
      | .union vs => anyL vs
      | .callable p r c => anyL [p, r, c]
      | .process s r => anyL (s.toList ++ r.toList)
      | .tuple tid =>
        match T.tuples[tid]? with
        | some info => anyL (info.fields.map (·.2))
        | none => some false
      | .part _ fs => anyL (fs.map (·.2))
      | .integer | .binary | .reference | .cycle _ | .resource _ => some false

/-! ### `substitute` -/

/-- Result of a table-threading operation that yields an id; `none` = out of fuel. -/
abbrev SRes := Option (Table × Nat)

/-- `ids.iter().map(|&v| substitute(v, …)).collect()` — left to right, threading the table. -/
def mapIds (f : Table → Nat → SRes) : Table → List Nat → Option (Table × List Nat)
  | T, [] => some (T, [])
  | T, x :: xs =>
    match f T x with
    | none => none
    | some (T1, y) =>
      match mapIds f T1 xs with
      | none => none
      | some (T2, ys) => some (T2, y :: ys)

/-- `substitute(type_id, bindings, program)`. -/
def substitute (b : Bindings) : Nat → Table → Nat → SRes
  | 0, _, _ => none
  | fuel + 1, T, id =>
    match T.types[id]? with
    | none => some (T, id)
    | some ty =>
      match ty with
      | .variable n => some (T, (b.get n).getD id)
      | .union vs =>
        match mapIds (substitute b fuel) T vs with
        | none => none
        | some (T1, vs') => some (unionIds T1 vs')
      | .tuple tid =>
        match T.tuples[tid]? with
        | none => some (T, id)
        | some info =>
          match mapIds (substitute b fuel) T (info.fields.map (·.2)) with
          | none => none
          | some (T1, ids') =>
            if ids' = info.fields.map (·.2) then some (T1, id)
            else
              let (T2, ntid) := T1.registerTuple info.name ((info.fields.map (·.1)).zip ids')
              some (T2.registerType (.tuple ntid))
      | .part name fs =>
        match mapIds (substitute b fuel) T (fs.map (·.2)) with
        | none => none
        | some (T1, ids') =>
          if ids' = fs.map (·.2) then some (T1, id)
          else some (T1.registerType (.part name ((fs.map (·.1)).zip ids')))
      | .integer | .binary | .reference | .cycle _ | .resource _ => some (T, id)
      | .callable p r c =>
        match substitute b fuel T p with
        | none => none
        | some (T1, p') =>
          match substitute b fuel T1 r with
          | none => none
          | some (T2, r') =>
            match substitute b fuel T2 c with
            | none => none
            | some (T3, c') =>
              if p' = p ∧ r' = r ∧ c' = c then some (T3, id)
              else some (T3.registerType (.callable p' r' c'))
      | .process s r =>
        let subOpt : Table → Option Nat → Option (Table × Option Nat) := fun T o =>
          match o with
          | none => some (T, none)
          | some x => (substitute b fuel T x).map (fun (T', y) => (T', some y))
        match subOpt T s with
        | none => none
        | some (T1, s') =>
          match subOpt T1 r with
          | none => none
          | some (T2, r') =>
            if s' = s ∧ r' = r then some (T2, id)
            else some (T2.registerType (.process s' r'))

/-! ### `unify` -/

/-- outer `none` = out of fuel; inner `none` = `Err(_)` (bindings are then discarded by every
caller); the table is returned in both cases. -/
abbrev URes := Option (Table × Option Bindings)

/-- `for x in xs { unify(bindings, …)? }` — sequential, first `Err` aborts. -/
def allU {α : Type} (f : Table → Bindings → α → URes) : Table → Bindings → List α → URes
  | T, b, [] => some (T, some b)
  | T, b, x :: xs =>
    match f T b x with
    | none => none
    | some (T1, none) => some (T1, none)
    | some (T1, some b1) => allU f T1 b1 xs

/-- `for x in xs { let mut temp = bindings.clone(); if unify(&mut temp, …).is_ok() { return
Some(temp) } }` — every attempt starts from the same `b`; the table is threaded through failed
attempts. Inner `none` = no attempt succeeded. -/
def firstU {α : Type} (f : Table → Bindings → α → URes) : Table → Bindings → List α → URes
  | T, _, [] => some (T, none)
  | T, b, x :: xs =>
    match f T b x with
    | none => none
    | some (T1, some b1) => some (T1, some b1)
    | some (T1, none) => firstU f T1 b xs

/-- the merge loop of the union/union arm BEFORE e4496af:
`for (k, v) in temp { if let Some(e) = bindings.get(k) && !is_compatible(v, e) { continue } bindings.insert(k, v) }`.
`none` = the compatibility check ran out of fuel. -/
def mergeBindings (mr : MergeRule) (T : Table) (cf : Nat) : Bindings → Bindings → Option Bindings
  | b, [] => some b
  | b, (k, v) :: rest =>
    match b.get k with
    | none => mergeBindings mr T cf (b.insert k v) rest
    | some e =>
      match isCompatible T cf v e with
      | none => none
      | some false => mergeBindings mr T cf b rest
      | some true => mergeBindings mr T cf (b.insert k v) rest

/-- what the union/union arm does with the bindings `temp` of a successful attempt. -/
def adoptBindings (mr : MergeRule) (T : Table) (cf : Nat) (b temp : Bindings) : Option Bindings :=
  match mr with
  | .adopt => some temp
  | .skipIncompatible => mergeBindings mr T cf b temp

/-- `sort_by_key(|id| matches!(lookup_type(id), Some(Type::Variable(_))))` — a stable sort on a
Boolean key: the non-variables in their order, then the variables in theirs. -/
def orderVariants (o : VariantOrder) (T : Table) (pvs : List Nat) : List Nat :=
  match o with
  | .declared => pvs
  | .structuredFirst =>
    let isVar : Nat → Bool := fun i => match T.types[i]? with | some (.variable _) => true | _ => false
    pvs.filter (fun i => !isVar i) ++ pvs.filter isVar

/-- the outer loop of the union/union arm: every concrete variant must unify with some pattern
variant (first match), whose bindings are merged. -/
def unionUnion (mr : MergeRule) (cf : Nat) (rec : Table → Bindings → Nat → Nat → URes) (pvs : List Nat) :
    Table → Bindings → List Nat → URes
  | T, b, [] => some (T, some b)
  | T, b, cv :: cvs =>
    match firstU (fun T' b' pv => rec T' b' pv cv) T b pvs with
    | none => none
    | some (T1, none) => some (T1, none)
    | some (T1, some temp) =>
      match adoptBindings mr T1 cf b temp with
      | none => none
      | some b1 => unionUnion mr cf rec pvs T1 b1 cvs

/-- `Option`-typed component of a process type: both present → unify, both absent → ok, else Err. -/
def unifyOpt (rec : Table → Bindings → Nat → Nat → URes) (T : Table) (b : Bindings) :
    Option Nat → Option Nat → URes
  | some x, some y => rec T b x y
  | none, none => some (T, some b)
  | _, _ => some (T, none)

/-- The `match (&pattern, &concrete)` of `unify`, arms in source order; `rec` is the recursive
call. `p`/`a` are the ids, `tp`/`ta` the looked-up types. -/
def unifyStep (rules : Rules) (cf : Nat) (rec : Table → Bindings → Nat → Nat → URes)
    (T : Table) (b : Bindings) (p a : Nat) (tp ta : Ty) : URes :=
  match tp, ta with
  -- pattern is a variable: bind it, or widen the existing binding
  | .variable name, _ =>
    let resolved : Nat :=
      match rules.scope, ta with
      | .sharedNames, .variable cn => (b.get cn).getD a
      | _, _ => a
    match b.get name with
    | some existing =>
      if existing ≠ resolved then
        let (T1, w) := unionIds T [existing, resolved]
        some (T1, some (b.insert name w))
      else some (T, some b)
    | none =>
      if rules.scope = .sharedNames ∧ T.types[resolved]? = some (.variable name) then some (T, some b)
      else some (T, some (b.insert name resolved))
  -- concrete is a variable: the caller's (opaque: Err); before repair 10 resolved through the bindings
  | _, .variable name =>
    match rules.scope with
    | .callerOpaque => some (T, none)
    | .sharedNames =>
      match b.get name with
      | some r => rec T b p r
      | none => some (T, none)
  | .integer, .integer => some (T, some b)
  | .binary, .binary => some (T, some b)
  | .process s1 r1, .process s2 r2 =>
    match unifyOpt rec T b s1 s2 with
    | none => none
    | some (T1, none) => some (T1, none)
    | some (T1, some b1) => unifyOpt rec T1 b1 r1 r2
  | .tuple i1, .tuple i2 =>
    -- the same tuple type on both sides needs no look inside — unless (repair 10) it mentions type
    -- variables: the parameter's are the callee's, the argument's the caller's, spelled alike
    if i1 = i2 ∧ (rules.scope = .sharedNames ∨ containsVariables T cf p = some false) then some (T, some b)
    else
      match T.tuples[i1]?, T.tuples[i2]? with
      | some info1, some info2 =>
        if info1.name ≠ info2.name then some (T, none)
        else if info1.fields.length ≠ info2.fields.length then some (T, none)
        else
          allU (fun T' b' (f : (Option Name × Nat) × (Option Name × Nat)) =>
                  if f.1.1 ≠ f.2.1 then some (T', none) else rec T' b' f.1.2 f.2.2)
               T b (info1.fields.zip info2.fields)
      | _, _ => some (T, none)
  | .part pn pfs, .tuple c =>
    match T.tuples[c]? with
    | none => some (T, none)
    | some ci =>
      if pn.isSome ∧ ci.name ≠ pn then some (T, none)
      else
        allU (fun T' b' (pf : Name × Nat) =>
                match ci.fields.find? (fun cf' => cf'.1 = some pf.1) with
                | none => some (T', none)
                | some cfld => rec T' b' pf.2 cfld.2)
             T b pfs
  | .part pn pfs, .part cn cfs =>
    if pn.isSome ∧ cn ≠ pn then some (T, none)
    else
      allU (fun T' b' (pf : Name × Nat) =>
              match cfs.find? (fun cf' => cf'.1 = pf.1) with
              | none => some (T', none)
              | some cfld => rec T' b' pf.2 cfld.2)
           T b pfs
  | .callable p1 r1 c1, .callable p2 r2 c2 =>
    allU (fun T' b' (q : Nat × Nat) => rec T' b' q.1 q.2) T b [(p1, p2), (r1, r2), (c1, c2)]
  -- a back-reference on either side unifies with anything (no constraint is checked)
  | .cycle d1, _ =>
    match rules.cycle with
    | .lenient => some (T, some b)
    | .strict => if ta = .cycle d1 then some (T, some b) else some (T, none)
  | _, .cycle _ =>
    match rules.cycle with
    | .lenient => some (T, some b)
    | .strict => some (T, none)
  -- never
  | .union [], _ => some (T, some b)
  | _, .union [] => some (T, some b)
  | .union pvs, .union cvs => unionUnion rules.merge cf rec (orderVariants rules.order T pvs) T b cvs
  -- union parameter, non-union argument: first variant that unifies
  | .union pvs, _ => firstU (fun T' b' pv => rec T' b' pv a) T b pvs
  -- non-union parameter, union argument
  | _, .union cvs =>
    match rules.unionArg with
    | .everyVariant => allU (fun T' b' cv => rec T' b' p cv) T b cvs
    | .anyVariant => firstU (fun T' b' cv => rec T' b' p cv) T b cvs
  | _, _ => some (T, none)

/-- `unify(bindings, pattern_id, concrete_id, program)` under the given rules. -/
def unifyWith (rules : Rules) (cf : Nat) : Nat → Table → Bindings → Nat → Nat → URes
  | 0, _, _, _, _ => none
  | fuel + 1, T, b, p, a =>
    match T.types[p]?, T.types[a]? with
    | some tp, some ta => unifyStep rules cf (unifyWith rules cf fuel) T b p a tp ta
    | _, _ => some (T, some b)

/-- The code as it is now. -/
def unify (cf : Nat) : Nat → Table → Bindings → Nat → Nat → URes := unifyWith Rules.current cf

/-- The code before fix 8f4b36d (F6). -/
def unifyAnyVariant (cf : Nat) : Nat → Table → Bindings → Nat → Nat → URes := unifyWith Rules.beforeF6 cf

/-! ### The generic-call guard of `apply_value_to_type`

```
if contains_variables(param) || contains_variables(result) {
    let mut bindings = HashMap::new();
    unify(&mut bindings, param, arg, program)?;
    substitute(result, &bindings, program)
} else { if !is_compatible(arg, param) { Err } … }
```
-/

inductive CallVerdict where
  | accept (T : Table) (result : Nat)
  | reject (T : Table)
  | fuelOut
  deriving DecidableEq, Repr

/-- the `Callable` branch of `apply_value_to_type` up to (not including) dispatch-table
specialisation and `resolve_function_cycles`. -/
def callGuard (rules : Rules) (fuel : Nat) (T : Table) (param result arg : Nat) : CallVerdict :=
  match containsVariables T fuel param, containsVariables T fuel result with
  | some hp, some hr =>
    if hp || hr then
      match unifyWith rules fuel fuel T [] param arg with
      | none => .fuelOut
      | some (T1, none) => .reject T1
      | some (T1, some b) =>
        match substitute b fuel T1 result with
        | none => .fuelOut
        | some (T2, r) => .accept T2 r
    else
      match isCompatible T fuel arg param with
      | none => .fuelOut
      | some true => .accept T result
      | some false => .reject T
  | _, _ => .fuelOut

end QM.Soundness
