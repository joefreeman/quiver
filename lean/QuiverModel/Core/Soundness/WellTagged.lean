import QuiverModel.Core.VM.Step
import QuiverModel.Core.Types.Inh
/-
M-Soundness, part 2 (imports C07's M-VM and C09's M-Types only): the runtime invariant the
compiler's guards are meant to establish.

A VM value is *well tagged* when every tuple node `Tuple(id, fs)` in it is what its tag claims:
`fs` has the arity of tuple id `id` and `fs[i]` — erased to a structural value — inhabits the
declared type of field `i` of `id` (`inh`, C09). This is what C08's `isType_sound` assumes of a value
(its hypothesis `inh … id v`): the runtime type test `IsType` looks at the tuple id only and trusts the field types registered for it.

`erase` resolves tuple ids to names and labels (C13's `erase`), binaries to (irrelevant) bytes,
functions / builtins / processes to the id of their declared type through the maps of `Decls`.
-/
namespace QM.Soundness
open QM.Types QM.VM

/-- declared types of code objects: `Function::type_id`, the callable type of a builtin, the
`Type::Process` derived from a function's callable type. -/
structure Decls where
  fnTy : Nat → Nat
  builtinTy : Nat → Nat
  procTy : Nat → Nat

mutual
/-- structural value of a VM value. -/
def erase (T : Table) (D : Decls) : Val → V
  | .int z => .int z
  | .bin _ => .bin []
  | .ref r => .ref r
  | .tup id fs =>
    match T.tuples[id]? with
    | some info => .tup info.name (eraseFields T D (info.fields.map (·.1)) fs)
    | none => .tup none (eraseFields T D [] fs)
  | .fn idx _ => .fn (D.fnTy idx)
  | .builtin id => .fn (D.builtinTy id)
  | .proc _ fidx => .proc (D.procTy fidx)
  | .res _ ty => .res ty
/-- fields, labelled position by position (surplus fields stay unlabelled). -/
def eraseFields (T : Table) (D : Decls) : List (Option Name) → ValList → VFields
  | _, .nil => .nil
  | [], .cons v vs => .cons none (erase T D v) (eraseFields T D [] vs)
  | l :: ls, .cons v vs => .cons l (erase T D v) (eraseFields T D ls vs)
end

mutual
/-- every tuple node of the value is what its tag claims. -/
def WT (T : Table) (D : Decls) : Val → Prop
  | .tup id fs => ∃ info, T.tuples[id]? = some info ∧ FieldsWT T D info.fields fs
  | .fn _ caps => AllWT T D caps
  | _ => True
/-- positional: same length, every field well tagged and inside the declared field type. -/
def FieldsWT (T : Table) (D : Decls) : List (Option Name × Nat) → ValList → Prop
  | [], .nil => True
  | f :: rest, .cons v vs => WT T D v ∧ inh T [] f.2 (erase T D v) ∧ FieldsWT T D rest vs
  | [], .cons _ _ => False
  | _ :: _, .nil => False
def AllWT (T : Table) (D : Decls) : ValList → Prop
  | .nil => True
  | .cons v vs => WT T D v ∧ AllWT T D vs
end

/-- all values of a list are well tagged. -/
def ListWT (T : Table) (D : Decls) (l : List Val) : Prop := ∀ v ∈ l, WT T D v

/-- the values a process holds: stack, locals, mailbox, the sources and the pending message of an
active select, and a produced result. -/
structure ProcWT (T : Table) (D : Decls) (p : Proc) : Prop where
  stack : ListWT T D p.stack
  locals : ListWT T D p.locals
  mailbox : ListWT T D p.mailbox
  sources : ∀ st, p.selectState = some st → ListWT T D st.sources
  receiving : ∀ st k m, p.selectState = some st → st.receiving = some (k, m) → WT T D m
  result : ∀ v, p.result = some (.ok v) → WT T D v

/-- the values an action carries to the rest of the system. -/
def ActionWT (T : Table) (D : Decls) : Option Action → Prop
  | some (.spawn _ caps arg) => ListWT T D caps ∧ WT T D arg
  | some (.deliver _ v) => WT T D v
  | _ => True

/-- `Program::new()`: tuple 0 is nil, tuple 1 is `Ok`, both without fields. -/
def TableInit (T : Table) : Prop :=
  (∃ n, T.tuples[0]? = some ⟨n, []⟩) ∧ (∃ n, T.tuples[1]? = some ⟨n, []⟩)

/-- the popped values are typed like the fields of tuple id `id` (what the compiler has to have
checked when it emits `Tuple(id)`): same number, each inside its field type. -/
def FieldsTyped (T : Table) (D : Decls) : List (Option Name × Nat) → List Val → Prop
  | [], [] => True
  | f :: rest, v :: vs => inh T [] f.2 (erase T D v) ∧ FieldsTyped T D rest vs
  | _, _ => False

/-- **The obligations**: what has to hold at an instruction for well-taggedness to survive it.
Everything that is not listed needs nothing. -/
def Obligation (T : Table) (D : Decls) (O : Oracle) (P : Prog) (p : Proc) : Instr → Prop
  /- `Tuple(id)`: the compiler's obligation — the values it packs are typed like the fields of the
  tuple id it chose -/
  | .tuple id =>
    ∀ size, P.tuples[id]? = some size → size ≤ p.stack.length →
      ∃ info, T.tuples[id]? = some info ∧ FieldsTyped T D info.fields (p.stack.take size).reverse
  /- `Call` of a builtin: the builtin's result is well tagged (C12 / `builtin_result_typed`) -/
  | .call =>
    ∀ id param rest v, p.stack = .builtin id :: param :: rest → O.builtin id param = .value v → WT T D v
  /- `Select`: what the rest of the system hands over (an awaited result, a message) is well
  tagged — the same invariant of the *other* processes -/
  | .select =>
    (∀ v, O.select = .complete v → WT T D v) ∧ (∀ k m, O.select = .callReceive k m → WT T D m)
  | _ => True

end QM.Soundness
