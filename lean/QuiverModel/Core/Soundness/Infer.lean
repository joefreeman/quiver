import QuiverModel.Core.RefSem.Syntax
import QuiverModel.Core.Soundness.FieldAccess
import QuiverModel.Core.Soundness.Sequence
import QuiverModel.Lemmas.Soundness.UnifySound
import QuiverModel.Generated.BuiltinSigs
/-
M-Soundness, part 5: a typed FRAGMENT of the compiler's inference, over the documented core syntax
(`QM.RefSem`, owner C02 — imported, not copied).

`inferProgram` types first-order programs without function literals or recursion — `,`-sequences of chains,
blocks whose branches dispatch on first-order patterns (with forward narrowing and certified complements),
each chain an optional binding `x = …` and terms that are literals, tuple constructions (named / anonymous, labelled
fields, each field a chain), variable reads with `.label` / `.index` accessors, `~` with accessors,
in-chain binders `=x`, calls of the pure builtins of the reference evaluator through the
REGENERATED signature table (`Generated/BuiltinSigs.lean`), and applications of environment
functions guarded by `unify` / `substitute` (`Unify.lean`). It composes three rules that
have models of their own: `getFieldByNameWith` (`FieldAccess.lean`) for `.label`, the nil
bookkeeping of `Sequence.lean` for `,`, and the generic-call guard.

Types are ids of ONE fixed table `T` (the compiled program's own registry, sent by the harness):
`infer` never registers a type — where the compiler would (`union_type_ids`, `register_tuple`) it
looks the type up and answers `none` ("outside the fragment for this table") when it is missing or
when registering would grow the table. First-orderness of the types it combines is checked
computationally (`foV`), so the soundness proof needs no side invariant.

Like the compiler, `infer` resolves `.label` to a position: it returns the ELABORATED program
(`.label l` replaced by `.index i`), and soundness is stated for that program — the one that runs.
-/
namespace QM.Soundness
open QM.Types QM.RefSem

/-- what a successful match tells about the matched value (`apply_narrowing` on the success path). -/
inductive NarrowRule where
  /-- no forward narrowing (step 1 of the block fragment) -/
  | none
  /-- current code (47b34c5): the scrutinee is narrowed to the MATCHED type -/
  | matched
  /-- before 47b34c5: narrowed to `result_type`, which carries nil as the "may fail" marker — a
  nil variant of the scrutinee survives a refutable match -/
  | withNilMarker
  deriving DecidableEq, Repr

/-- which patterns' failure narrows the block parameter for the LATER branches (complement). -/
inductive ComplRule where
  /-- no complement narrowing -/
  | off
  /-- current code: only patterns whose failure is a fact about the TYPE of the value
  (`prevents_complement_narrowing`: no literal, pin or equality requirement) -/
  | faithful
  /-- mutation: a literal pattern also counts as covering its whole type -/
  | alsoValuePatterns
  deriving DecidableEq, Repr

/-- the rules under test (defaults = the code as it is). -/
structure InferCfg where
  seq : SeqRule := .accumulated
  idx : IndexRule := .always
  unify : Rules := Rules.current
  narrow : NarrowRule := .matched
  compl : ComplRule := .faithful
  /-- fuel of the table functions (`foV`, `getFieldByName`, `unify`, `substitute`): `fuel + 2` -/
  fuel : Nat := 30

/-! ### Look-ups in the fixed table -/

def indexOf {α : Type} [DecidableEq α] (a : α) : List α → Nat → Option Nat
  | [], _ => none
  | x :: xs, k => if x = a then some k else indexOf a xs (k + 1)

def findType (T : Table) (ty : Types.Ty) : Option Nat := indexOf ty T.types 0

/-- the type id of the tuple type `name[fields]`, when both registries have it. -/
def tupleType (T : Table) (name : Option Name) (fields : List (Option Name × Nat)) : Option Nat :=
  match indexOf (⟨name, fields⟩ : TupleInfo) T.tuples 0 with
  | some id => findType T (.tuple id)
  | none => none

def isNilTy (T : Table) (t : Nat) : Bool :=
  match T.types[t]? with
  | some (.tuple id) =>
    match T.tuples[id]? with
    | some ⟨none, []⟩ => true
    | _ => false
  | _ => false

/-- can a value of type `t` be nil? Conservative (`true`) wherever the answer is not structural. -/
def nilIn (T : Table) : Nat → Nat → Bool
  | 0, _ => true
  | n + 1, t =>
    match T.types[t]? with
    | some .integer => false
    | some .binary => false
    | some (.tuple _) => isNilTy T t
    | some (.union ids) => ids.any (nilIn T n)
    | _ => true

/-- `union_type_ids(program, [x, y])`, provided it is already in the table. -/
def unionPair (T : Table) (fuel x y : Nat) : Option Nat :=
  if foV T fuel x && foV T fuel y then
    (if (unionIds T [x, y]).1 = T then some (unionIds T [x, y]).2 else none)
  else none

/-- the union of the collected field types (at most two distinct ones in the fragment). -/
def unionOfTypes (T : Table) (fuel : Nat) (tys : List Nat) : Option Nat :=
  if tys.all (foV T fuel) then
    match tys.eraseDups with
    | [a] => some a
    | [a, b] => unionPair T fuel a b
    | _ => none
  else none

/-- `union_type_ids(program, ids)`, provided it is already in the table. -/
def unionMany (T : Table) (fuel : Nat) (ids : List Nat) : Option Nat :=
  if ids.all (foV T fuel) then
    (if (unionIds T ids).1 = T then some (unionIds T ids).2 else none)
  else none

/-- `without_nil`: the threaded value of a sequence is not nil. -/
def withoutNil (T : Table) (fuel t : Nat) : Option Nat :=
  if foV T fuel t then
    match (flat1 T t).filter (fun i => !isNilTy T i) with
    | [] => none
    | rest => unionMany T fuel rest
  else none

/-! ### Builtins: the shapes of the regenerated signature table the reference evaluator covers -/

inductive Shape where
  | i | b | ii | bb
  deriving DecidableEq, Repr

open QM.Builtins in
def shapeOf : TSpec → Option Shape
  | .integer => some .i
  | .binary => some .b
  | .tuple none [(none, .integer), (none, .integer)] => some .ii
  | .tuple none [(none, .binary), (none, .binary)] => some .bb
  | _ => none

/-- (parameter shape, result shape) of builtin `name` according to the regenerated table. -/
def builtinShape (name : String) : Option (Shape × Shape) :=
  match List.lookup name QM.Generated.builtinSigs with
  | some (p, r, _) =>
    match shapeOf p, shapeOf r with
    | some sp, some sr => some (sp, sr)
    | _, _ => none
  | none => none

def shapeTy (T : Table) : Shape → Option Nat
  | .i => findType T .integer
  | .b => findType T .binary
  | .ii =>
    match findType T .integer with
    | some i => tupleType T none [(none, i), (none, i)]
    | none => none
  | .bb =>
    match findType T .binary with
    | some i => tupleType T none [(none, i), (none, i)]
    | none => none

/-- the builtins `RefSem.evalBuiltin` implements. -/
def refBuiltins : List String :=
  ["integer_add", "integer_subtract", "integer_multiply", "integer_divide", "integer_modulo",
   "integer_compare", "integer_abs", "binary_length", "binary_concat"]

/-! ### Environments -/

/-- variable ↦ type id (innermost first, like `RefSem.Env`). -/
abbrev TEnv := List (String × Nat)

def tlookup (Γ : TEnv) (x : String) : Option Nat :=
  match Γ with
  | [] => none
  | (y, t) :: rest => if x = y then some t else tlookup rest x

/-- environment functions: name ↦ (parameter type, result type). -/
abbrev FEnv := List (String × Nat × Nat)

def flookup (Φ : FEnv) (x : String) : Option (Nat × Nat) :=
  match Φ with
  | [] => none
  | (y, pr) :: rest => if x = y then some pr else flookup rest x

structure Ctx where
  cfg : InferCfg
  T : Table
  nm : String → Name
  Φ : FEnv

/-! ### Accessors -/

def isTupleTy (T : Table) (i : Nat) : Bool :=
  match T.types[i]? with
  | some (.tuple _) => true
  | _ => false

/-- by-name access is in the fragment on a tuple type and on a flat union of tuple types. -/
def labelOk (c : Ctx) (t : Nat) : Bool :=
  match c.T.types[t]? with
  | some (.tuple _) => true
  | some (.union ids) => ids.all (isTupleTy c.T)
  | _ => false

/-- one accessor on a value of type `t`: the type read and the POSITION it is compiled to. -/
def inferAcc (c : Ctx) (t : Nat) : Acc → Option (Nat × Acc)
  | .label l =>
    if labelOk c t then
      match getFieldByNameWith c.cfg.idx c.T (c.cfg.fuel + 2) t (c.nm l) with
      | .ok idx tys =>
        match unionOfTypes c.T (c.cfg.fuel + 2) tys with
        | some u => some (u, .index idx)
        | none => none
      | _ => none
    else none
  | .index i =>
    match c.T.types[t]? with
    | some (.tuple id) =>
      match c.T.tuples[id]? with
      | some info =>
        match info.fields[i]? with
        | some (_, ft) => some (ft, .index i)
        | none => none
      | none => none
    | _ => none

def inferAccs (c : Ctx) : Nat → List Acc → Option (Nat × List Acc)
  | t, [] => some (t, [])
  | t, a :: rest =>
    match inferAcc c t a with
    | some (t1, a') =>
      match inferAccs c t1 rest with
      | some (t2, rest') => some (t2, a' :: rest')
      | none => none
    | none => none

/-! ### The generic-call guard (apply_value_to_type, generic branch) -/

/-- result type of applying a function `p -> r` to an argument of type `a`: unification of the
parameter with the argument, substitution into the result. The table must already be closed under
both (and under instantiating the parameter, which the proof uses). -/
def inferCall (c : Ctx) (p r a : Nat) : Option Nat :=
  let f := c.cfg.fuel + 2
  if patT c.T f p && argT c.T f a then
    match unifyWith c.cfg.unify f f c.T [] p a with
    | some (T1, some σ) =>
      if T1 = c.T then
        match substitute σ f c.T p, substitute σ f c.T r with
        | some (T2, _), some (T3, r') => if T2 = c.T ∧ T3 = c.T then some r' else none
        | _, _ => none
      else none
    | _ => none
  else none

/-! ### Patterns (analyze_pattern, for the first-order shapes of the fragment)

binder, `_`, integer / binary literal, `='int` / `='bin`, exact tuple pattern with sub-patterns.
`seen` = the names bound so far by THIS pattern (a repeated name would be an equality test: outside). -/

structure PatRes where
  /-- the bindings the pattern makes, innermost (last bound) first -/
  binds : TEnv
  /-- the type of the values on which the pattern can succeed (`matched_type`) -/
  matched : Nat
  /-- the pattern succeeds on every value of the scrutinee type (no run-time requirement) -/
  irref : Bool
  /-- the part of the scrutinee type the pattern is about (independent of the narrowing rule) -/
  covered : Nat
  /-- the pattern succeeds on EVERY value of `covered` (its failure is a fact about the type) -/
  faithful : Bool

/-- the tuple variant `k` has the name, arity and labels of the pattern. -/
def tupleShape (c : Ctx) (n : Option String) (labels : List (Option String)) (k : Nat) : Option TupleInfo :=
  match c.T.types[k]? with
  | some (.tuple id) =>
    match c.T.tuples[id]? with
    | some info =>
      if info.name = n.map c.nm ∧ info.fields.map (·.1) = labels.map (fun l => l.map c.nm) then some info
      else none
    | none => none
  | _ => none

/-- what the scrutinee is narrowed to when a pattern whose matched type is `m` succeeded. -/
def narrowTo (c : Ctx) (t m : Nat) (irref : Bool) : Option Nat :=
  match c.cfg.narrow with
  | .none => some t
  | .matched => some m
  | .withNilMarker =>
    if !irref && nilIn c.T (c.cfg.fuel + 2) t then
      match tupleType c.T none [] with
      | some n => unionPair c.T (c.cfg.fuel + 2) m n
      | none => none
    else some m

/-- literal patterns and `='int` / `='bin`: the leaf type must be a variant of the scrutinee. -/
def leafRes (c : Ctx) (t : Nat) (ty : Types.Ty) (isTest : Bool) : Option PatRes :=
  match findType c.T ty with
  | some i =>
    if (flat1 c.T t).contains i then
      let irref := isTest && decide (t = i)
      match narrowTo c t i irref with
      | some m => some ⟨[], m, irref, i, isTest⟩
      | none => none
    else none
  | none => none

/-- `'int`, `'bin` or a tuple type. -/
def simpleTy (T : Table) (j : Nat) : Bool :=
  match T.types[j]? with
  | some .integer => true
  | some .binary => true
  | some (.tuple _) => true
  | _ => false

/-- a tuple pattern is in the fragment on a flat union of `'int` / `'bin` / tuple types. -/
def tupScrutOk (c : Ctx) (t : Nat) : Bool :=
  foV c.T (c.cfg.fuel + 2) t && (flat1 c.T t).all (simpleTy c.T)

mutual
  def inferPat (c : Ctx) (seen : List String) (t : Nat) : Pat → Option PatRes
    | .bind x => if seen.contains x then none else some ⟨[(x, t)], t, true, t, true⟩
    | .wild => some ⟨[], t, true, t, true⟩
    | .lit (.int _) => leafRes c t .integer false
    | .lit (.bin _) => leafRes c t .binary false
    | .type .int => leafRes c t .integer true
    | .type .bin => leafRes c t .binary true
    | .tup n pfs =>
      if !tupScrutOk c t then none else
      match (flat1 c.T t).filter (fun k => (tupleShape c n (pfs.map (·.1)) k).isSome) with
      | [k] =>
        match tupleShape c n (pfs.map (·.1)) k with
        | some info =>
          match inferPatFields c seen (info.fields.map (·.2)) pfs with
          | some (binds, ms, irr) =>
            -- fields narrowed by the sub-patterns: the reconstructed tuple type (outside unless
            -- the sub-patterns leave the field types as they are)
            if ms = info.fields.map (·.2) then
              let irref := irr && decide (t = k)
              match narrowTo c t k irref with
              | some m => some ⟨binds, m, irref, k, irr⟩
              | none => none
            else none
          | none => none
        | none => none
      | _ => none
    | _ => none
  def inferPatFields (c : Ctx) (seen : List String) :
      List Nat → List (Option String × Pat) → Option (TEnv × List Nat × Bool)
    | [], [] => some ([], [], true)
    | ft :: fts, (_, p) :: ps =>
      match inferPat c seen ft p with
      | some r =>
        match inferPatFields c (r.binds.map (·.1) ++ seen) fts ps with
        | some (bs, ms, irr) => some (bs ++ r.binds, (if c.cfg.narrow = .none then ft else r.matched) :: ms, r.irref && irr)
        | none => none
      | none => none
    | _, _ => none
end

def labelSeen (label : Option String) (seen : List String) : Bool :=
  match label with
  | some l => seen.contains l
  | none => false

def pushLabel (label : Option String) (seen : List String) : List String :=
  match label with
  | some l => l :: seen
  | none => seen

def okTy (c : Ctx) : Option Nat := tupleType c.T (some (c.nm "Ok")) []
def nilTy (c : Ctx) : Option Nat := tupleType c.T none []

/-- the type of a match verdict: `Ok`, or `Ok | []` when the pattern can fail. -/
def verdictTy (c : Ctx) (irref : Bool) : Option Nat :=
  match okTy c with
  | some ok =>
    if irref then some ok
    else
      match nilTy c with
      | some n => unionPair c.T (c.cfg.fuel + 2) ok n
      | none => none
  | none => none

/-- a pattern applied to a value of type `t` in context `Γ`: verdict type, context afterwards. -/
def applyPat (c : Ctx) (Γ : TEnv) (t : Nat) (p : Pat) : Option (Nat × TEnv × PatRes) :=
  match inferPat c [] t p with
  | some r =>
    match verdictTy c r.irref with
    | some vt => some (vt, r.binds ++ Γ, r)
    | none => none
  | none => none

/-- the variable whose value a chain `x =P` matches, and the pattern. -/
def scrutVar (ch : Chain) : Option (String × Pat) :=
  match ch with
  | .mk none [.access (.var x) [], .mtch p] => some (x, p)
  | _ => none

/-- `apply_narrowing` for a chain `x =P` that succeeded: `x` is recorded with the narrowed type. -/
def narrowVar (c : Ctx) (Γ Γ1 : TEnv) (ch : Chain) : TEnv :=
  match scrutVar ch with
  | some (x, p) =>
    match tlookup Γ x with
    | some t0 =>
      match inferPat c [] t0 p with
      | some r => if (r.binds.map (·.1)).contains x then Γ1 else (x, r.matched) :: Γ1
      | none => Γ1
    | none => Γ1
  | none => Γ1

/-- the block parameter as a branch's consequence sees it: narrowed by a leading `=P`. -/
def narrowParam (c : Ctx) (ft : Nat) (cond : List Chain) : Nat :=
  match cond with
  | .mk none [.mtch p] :: _ =>
    (match inferPat c [] ft p with
     | some r => r.matched
     | none => ft)
  | _ => ft

/-- `compile_sequence`: the last chain's type, with nil added when the nil bookkeeping of
`Sequence.lean` (under the configured rule) says the sequence can short-circuit. -/
def seqType (c : Ctx) (ts : List Nat) : Option Nat :=
  match ts.getLast? with
  | none => none
  | some tl =>
    if seqNilable c.cfg.seq (ts.map (nilIn c.T (c.cfg.fuel + 2))) then
      match nilTy c with
      | some n => unionPair c.T (c.cfg.fuel + 2) tl n
      | none => none
    else some tl

/-- the pattern of a branch that is a pure dispatch on the block parameter: `| =P => …`. -/
def dispatchPat (cond : List Chain) : Option Pat :=
  match cond with
  | [.mk none [.mtch p]] => some p
  | _ => none

/-- `compute_complement(a, k)` (C09's model of narrowing.rs, the code as it is) for a scrutinee `a`
that is a flat union of simple types: `some none` = never (nothing is left), `some (some r)` = the
type `r` of what is left. The answer is accepted only with a CERTIFICATE checked here: every
variant of `a` other than `k` is a variant of `r` (which is what the soundness proof uses — C09's
`complement_keeps` needs well-labelled values, which the typing relation does not carry). -/
def complementIn (c : Ctx) (a k : Nat) : Option (Option Nat) :=
  if tupScrutOk c a then
    match QM.Types.complement QM.Types.Variant.current (c.cfg.fuel + 2) (c.cfg.fuel + 2) c.T a k with
    | some (T', r) =>
      if T' = c.T then
        let others := (flat1 c.T a).filter (fun j => j != k)
        if others.isEmpty then (if c.T.types[r]? = some (.union []) then some none else none)
        else if others.all (fun j => (flat1 c.T r).contains j) then some (some r) else none
      else none
    | none => none
  else none

/-- the parameter type the LATER branches see after this branch failed, and whether nothing is
left (the block is exhaustive). -/
def nextParam (c : Ctx) (ft : Nat) (cond : List Chain) : Option (Nat × Bool) :=
  match dispatchPat cond with
  | some p =>
    match inferPat c [] ft p with
    | some r =>
      if c.cfg.compl = .off then some (ft, false)
      else if r.faithful || (c.cfg.compl = .alsoValuePatterns) then
        match complementIn c ft r.covered with
        | some none => some (ft, true)
        | some (some r') => some (r', false)
        | none => none
      else some (ft, false)
    | none => some (ft, false)
  | none => some (ft, false)

/-- is the block exhaustive? The last branch decides: its condition cannot be nil. -/
def exhaustiveFlag (c : Ctx) (isLast : Bool) (tc : Nat) (exRest : Bool) : Bool :=
  if isLast then !nilIn c.T (c.cfg.fuel + 2) tc else exRest

/-! ### Terms, chains, fields, sequences, blocks

`ro` ("refutable patterns allowed"): a pattern that can fail yields nil and leaves its variables
unbound, so it may only end a chain of a SEQUENCE (which short-circuits), never a tuple-field chain. -/

mutual
  /-- `inferTerm c Γ ft t` : the flowing value has type `ft`; answers the type of the term's value,
  the environment afterwards and the elaborated term. -/
  def inferTerm (c : Ctx) (Γ : TEnv) (ft : Nat) : Term → Option (Nat × TEnv × Term)
    | .lit (.int z) =>
      match findType c.T .integer with
      | some t => some (t, Γ, .lit (.int z))
      | none => none
    | .lit (.bin bs) =>
      match findType c.T .binary with
      | some t => some (t, Γ, .lit (.bin bs))
      | none => none
    | .tuple name fields =>
      match (match name with
             | .anon => some (none : Option String)
             | .named n => some (some n)
             | .inherit => none) with
      | none => none
      | some tn =>
        match inferFields c Γ ft [] fields with
        | some (ftys, Γ', fields') =>
          match tupleType c.T (tn.map c.nm) (ftys.map fun f => (f.1.map c.nm, f.2)) with
          | some t => some (t, Γ', .tuple name fields')
          | none => none
        | none => none
    | .mtch (.bind x) =>
      match okTy c with
      | some ok => some (ok, (x, ft) :: Γ, .mtch (.bind x))
      | none => none
    | .access .ripple accs =>
      match inferAccs c ft accs with
      | some (t, accs') => some (t, Γ, .access .ripple accs')
      | none => none
    | .access (.var x) accs =>
      match tlookup Γ x with
      | some t =>
        match inferAccs c t accs with
        | some (t', accs') => some (t', Γ, .access (.var x) accs')
        | none => none
      | none =>
        -- an environment function applied to the flowing value
        match accs, flookup c.Φ x with
        | [], some (p, r) =>
          match inferCall c p r ft with
          | some r' => some (r', Γ, .access (.var x) [])
          | none => none
        | _, _ => none
    | .access (.builtin name) [] =>
      if refBuiltins.contains name then
        match builtinShape name with
        | some (sp, sr) =>
          match shapeTy c.T sp, shapeTy c.T sr with
          | some pt, some rt => if pt = ft then some (rt, Γ, .access (.builtin name) []) else none
          | _, _ => none
        | none => none
      else none
    -- `{ | cond => cons | … }` : compile_scoped_expression; the flowing value is the block's
    -- parameter; bindings made inside do not escape
    | .block (.mk branches) =>
      match inferBranches c Γ ft branches with
      | some (tys, exhaustive, brs') =>
        match nilTy c with
        | some n =>
          match unionMany c.T (c.cfg.fuel + 2) (if exhaustive then tys else tys ++ [n]) with
          | some t => some (t, Γ, .block (.mk brs'))
          | none => none
        | none => none
      | none => none
    | _ => none

  /-- a chain's terms. With `ro`, the LAST term may be a pattern that can fail. -/
  def inferTerms (c : Ctx) (ro : Bool) (Γ : TEnv) (ft : Nat) :
      List Term → Option (Nat × TEnv × List Term)
    | [] => some (ft, Γ, [])
    | [.mtch p] =>
      match applyPat c Γ ft p with
      | some (vt, Γ', r) => if ro || r.irref then some (vt, Γ', [.mtch p]) else none
      | none => none
    | t :: ts =>
      match inferTerm c Γ ft t with
      | some (t1, Γ1, t') =>
        match inferTerms c ro Γ1 t1 ts with
        | some (t2, Γ2, ts') => some (t2, Γ2, t' :: ts')
        | none => none
      | none => none

  /-- answers (type, context afterwards, elaborated chain). -/
  def inferChain (c : Ctx) (ro : Bool) (Γ : TEnv) (ft : Nat) : Chain → Option (Nat × TEnv × Chain)
    | .mk pat terms =>
      match pat with
      | none =>
        match inferTerms c ro Γ ft terms with
        | some (t, Γ', terms') => some (t, Γ', .mk none terms')
        | none => none
      | some p =>
        match inferTerms c false Γ ft terms with
        | some (t, Γ', terms') =>
          match applyPat c Γ' t p with
          | some (vt, Γ'', r) => if ro || r.irref then some (vt, Γ'', .mk (some p) terms') else none
          | none => none
        | none => none

  /-- the fields of a tuple construction, left to right; `seen` = the labels so far (a repeated
  label would overwrite in place: outside the fragment). Answers (label, type) per field. -/
  def inferFields (c : Ctx) (Γ : TEnv) (ft : Nat) (seen : List String) :
      List Field → Option (List (Option String × Nat) × TEnv × List Field)
    | [] => some ([], Γ, [])
    | .val label ch :: rest =>
      if labelSeen label seen then none
      else
        match inferChain c false Γ ft ch with
        | some (t, Γ1, ch') =>
          match inferFields c Γ1 ft (pushLabel label seen) rest with
          | some (ftys, Γ2, rest') => some ((label, t) :: ftys, Γ2, .val label ch' :: rest')
          | none => none
        | none => none
    | .spread _ :: _ => none

  /-- the chains of a sequence: each later chain starts from the previous result without nil.
  Answers the chains' own types (in order), the context after ALL chains, the elaborated chains. A
  successful `x =P` records the narrowed type of `x` in the context. -/
  def inferSeqChains (c : Ctx) (Γ : TEnv) (ft : Nat) : List Chain → Option (List Nat × TEnv × List Chain)
    | [] => some ([], Γ, [])
    | ch :: rest =>
      match inferChain c true Γ ft ch with
      | some (t, Γ1, ch') =>
        let Γ2 : TEnv := narrowVar c Γ Γ1 ch
        match rest with
        | [] => some ([t], Γ2, [ch'])
        | _ :: _ =>
          match withoutNil c.T (c.cfg.fuel + 2) t with
          | some t' =>
            match inferSeqChains c Γ2 t' rest with
            | some (ts, Γ3, rest') => some (t :: ts, Γ3, ch' :: rest')
            | none => none
          | none => none
      | none => none

  /-- the branches of a block. Answers the branches' result types, whether the block is exhaustive
  (the last branch's condition cannot be nil), the elaborated branches. -/
  def inferBranches (c : Ctx) (Γ : TEnv) (ft : Nat) : List Branch → Option (List Nat × Bool × List Branch)
    | [] => some ([], false, [])
    | .mk cond cons :: rest =>
      match inferSeqChains c Γ ft cond with
      | some (ts, Γ1, cond') =>
        match seqType c ts with
        | some tc =>
          match inferCons c Γ1 (narrowParam c ft cond) tc rest.isEmpty cons with
          | some (tb, cons') =>
            match nextParam c ft cond with
            | some (ft', nev) =>
              match inferBranches c Γ ft' rest with
              | some (tys, ex, rest') =>
                some (tb :: tys, nev || exhaustiveFlag c rest.isEmpty tc ex, .mk cond' cons' :: rest')
              | none => none
            | none => none
          | none => none
        | none => none
      | none => none

  /-- a branch's result: the consequence's type (typed with the narrowed parameter `ftc`), or the
  condition's own type `tc` — without nil unless the branch is the last one. -/
  def inferCons (c : Ctx) (Γ1 : TEnv) (ftc tc : Nat) (isLast : Bool) :
      Option (List Chain) → Option (Nat × Option (List Chain))
    | none =>
      if isLast then some (tc, none)
      else
        match withoutNil c.T (c.cfg.fuel + 2) tc with
        | some t => some (t, none)
        | none => none
    | some cs =>
      match inferSeqChains c Γ1 ftc cs with
      | some (ts2, _, cs') =>
        match seqType c ts2 with
        | some t => some (t, some cs')
        | none => none
      | none => none
end

/-- a sequence: its type and the elaborated chains. -/
def inferSeq (c : Ctx) (Γ : TEnv) (ft : Nat) (cs : List Chain) : Option (Nat × List Chain) :=
  match inferSeqChains c Γ ft cs with
  | some (ts, _, cs') =>
    match seqType c ts with
    | some t => some (t, cs')
    | none => none
  | none => none

/-- a whole program: one sequence starting from nil. -/
def inferProgram (c : Ctx) (Γ : TEnv) (cs : List Chain) : Option (Nat × List Chain) :=
  match nilTy c with
  | some n => inferSeq c Γ n cs
  | none => none

end QM.Soundness
