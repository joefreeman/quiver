import QuiverModel.Core.Types.Basic
/-
M-Soundness, part 3: by-name field access on a possibly-union type.

Mirrors /repo/quiver-compiler/src/compiler/type_queries.rs `has_non_tuple_variant`,
`extract_field_sources`, `get_field_from_source`, `get_field_by_name` (as of 548536f): the access
`e.x` is compiled to ONE positional `Get(index)`, so it is accepted only when the value cannot be a
non-tuple, every variant has the field, and every variant has it at the SAME index.
`IndexRule.skipSeenTypes` is an alternative that skips the same-index check for a variant whose
field type was already collected (a seeded defect, kept so that `Theorems/C01.lean` can show the
check is necessary).
-/
namespace QM.Soundness
open QM.Types

inductive FieldSource where
  | tuple (id : Nat)
  | part (fields : List (Name × Nat))
  deriving DecidableEq, Repr

/-- `has_non_tuple_variant`; `none` = out of fuel. -/
def hasNonTupleVariant (T : Table) : Nat → Nat → Option Bool
  | 0, _ => none
  | fuel + 1, t =>
    match T.types[t]? with
    | some (.union ids) =>
      ids.foldl (fun acc i =>
        match acc with
        | none => none
        | some true => some true
        | some false => hasNonTupleVariant T fuel i) (some false)
    | some .integer | some .binary | some .reference | some (.callable _ _ _) | some (.process _ _)
    | some (.resource _) => some true
    | _ => some false

/-- `flat_map` step over the variants of a union. -/
def appendSources (acc r : Option (List FieldSource)) : Option (List FieldSource) :=
  match acc, r with
  | some l, some l' => some (l ++ l')
  | _, _ => none

/-- `extract_field_sources`. -/
def extractFieldSources (T : Table) : Nat → Nat → Option (List FieldSource)
  | 0, _ => none
  | fuel + 1, t =>
    match T.types[t]? with
    | none => some []
    | some (.tuple id) => some [.tuple id]
    | some (.part _ fs) => some [.part fs]
    | some (.union ids) =>
      ids.foldl (fun acc i => appendSources acc (extractFieldSources T fuel i)) (some [])
    | some _ => some []

/-- first index whose label is `name`, with the field type there. -/
def findLabelled (name : Name) : List (Option Name × Nat) → Nat → Option (Nat × Nat)
  | [], _ => none
  | (l, t) :: rest, i => if l = some name then some (i, t) else findLabelled name rest (i + 1)

def findNamed (name : Name) : List (Name × Nat) → Nat → Option (Nat × Nat)
  | [], _ => none
  | (l, t) :: rest, i => if l = name then some (i, t) else findNamed name rest (i + 1)

/-- `get_field_from_source`. -/
def fieldFromSource (T : Table) (name : Name) : FieldSource → Option (Nat × Nat)
  | .tuple id =>
    match T.tuples[id]? with
    | some info => findLabelled name info.fields 0
    | none => none
  | .part fs => findNamed name fs 0

inductive IndexRule where
  /-- the code: every variant is compared with the common index. -/
  | always
  /-- seeded alternative: a variant whose field type was already collected is skipped. -/
  | skipSeenTypes
  deriving DecidableEq, Repr

inductive FieldVerdict where
  | ok (index : Nat) (types : List Nat)
  | nonTuple
  | notFound
  | fuelOut
  deriving DecidableEq, Repr

/-- the loop over the sources. -/
def fieldLoop (rule : IndexRule) (T : Table) (name : Name) :
    List FieldSource → Option Nat → List Nat → FieldVerdict
  | [], common, results =>
    match common, results with
    | some i, _ :: _ => .ok i results
    | _, _ => .notFound
  | src :: rest, common, results =>
    match fieldFromSource T name src with
    | none => .notFound
    | some (idx, ft) =>
      if rule = .skipSeenTypes ∧ results.contains ft then fieldLoop rule T name rest common results
      else
        match common with
        | some prev =>
          if prev ≠ idx then .notFound else fieldLoop rule T name rest common (results ++ [ft])
        | none => fieldLoop rule T name rest (some idx) (results ++ [ft])

/-- `get_field_by_name(program, type_id, field_name, _)`. -/
def getFieldByNameWith (rule : IndexRule) (T : Table) (fuel : Nat) (t : Nat) (name : Name) : FieldVerdict :=
  match extractFieldSources T fuel t, hasNonTupleVariant T fuel t with
  | some sources, some nt =>
    if sources.isEmpty || nt then .nonTuple else fieldLoop rule T name sources none []
  | _, _ => .fuelOut

def getFieldByName : Table → Nat → Nat → Name → FieldVerdict := getFieldByNameWith .always

end QM.Soundness
