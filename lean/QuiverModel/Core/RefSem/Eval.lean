import QuiverModel.Core.RefSem.Syntax
/-
M-RefSem, evaluator — a fuelled big-step **reference semantics of the documented core language**,
written from `docs/spec.md` (not from the compiler): the comments quote the sentence of the spec each
rule formalises. Independent of M-VM (imports the syntax only).

Judgement forms (all take the *flowing value* `flow` — "`~` always names the value to the left"):

  evalExpr  fuel env flow e      : Res Val             a block body `{ b₁ | b₂ | … }`
  evalSeq   fuel env flow cs     : Res (Val × Env)     `c₁, c₂, …`   (fallible pipe)
  evalChain fuel env flow c      : Res (Val × Env)     `p = t₁ t₂ …` (infallible pipe)
  evalTerms / evalTerm           : Res (Val × Env)     one term transforms the flowing value
  evalFields                     : Res (fields × Env)  tuple fields, each receives a copy of `flow`
  apply     fuel f arg           : Res Val             function application

`Env` is the list of visible bindings, innermost first. The enclosing function's parameter `$` and
the function itself (target of `^`) live in the same list under the reserved names `"$"` and `"^"`
(no identifier can be spelled that way), so closures capture them like everything else.

A name maps to `none` when it was bound by a pattern whose match *failed*: the spec says the
variables of a pattern "are in scope afterwards" but fixes no value for them in that case; reading
such a name is `Res.unspec` (the correspondence check skips these programs, and counts them).
-/
namespace QM.RefSem

/-- Runtime values, structurally: tuples carry their name and field labels, binaries their bytes. -/
inductive Val where
  | int (z : Int)
  | bin (bs : List UInt8)
  | tup (name : Option String) (fields : List (Option String × Val))
  /-- a function value: its parameter is nil (`nilary`), its body, and the bindings it captured -/
  | clo (nilary : Bool) (body : Option Expr) (env : List (String × Option Val))
  | builtin (name : String)
  deriving Inhabited

abbrev Env := List (String × Option Val)
abbrev Fields := List (Option String × Val)

/-- Result of evaluation. `fuelOut` is its own outcome; `err` is a runtime error of the given class
(only value-domain errors of builtins); `unspec` marks programs outside what the spec fixes
(ill-typed operations that the static checker is supposed to exclude, equality of functions, reads
of variables of a failed match). -/
inductive Res (α : Type) where
  | ok (a : α)
  | fuelOut
  | err (cls : String)
  | unspec (why : String)
  deriving Inhabited

namespace Val
/-- `[]` -/
def nil : Val := .tup none []
/-- `Ok` -/
def okv : Val := .tup (some "Ok") []

def isNil : Val → Bool
  | .tup none [] => true
  | _ => false

def isCallable : Val → Bool
  | .clo .. => true
  | .builtin _ => true
  | _ => false
end Val

/-! ### Structural equality ("Refs support equality and pattern matching"; literal and pin patterns) -/

mutual
  /-- `none` when the answer would depend on comparing two function values (not fixed by the spec). -/
  def Val.eqv : Val → Val → Option Bool
    | .int a, .int b => some (decide (a = b))
    | .bin a, .bin b => some (decide (a = b))
    | .tup n fs, .tup m gs => if n = m then eqvFields fs gs else some false
    | .clo .., .clo .. => none
    | .clo .., .builtin _ => none
    | .builtin _, .clo .. => none
    | .builtin _, .builtin _ => none
    | _, _ => some false
  def eqvFields : Fields → Fields → Option Bool
    | [], [] => some true
    | (l, v) :: fs, (m, w) :: gs =>
      if l = m then
        match Val.eqv v w with
        | some true => eqvFields fs gs
        | r => r
      else some false
    | _, _ => some false
end

/-! ### Environment -/

def lookup (env : Env) (x : String) : Option (Option Val) :=
  match env with
  | [] => none
  | (y, v) :: rest => if x = y then some v else lookup rest x

/-- Read a variable: unbound names are excluded statically (`unspec`), names of a failed match too. -/
def readVar (env : Env) (x : String) : Res Val :=
  match lookup env x with
  | some (some v) => .ok v
  | some none => .unspec "read of a variable bound by a failed match"
  | none => .unspec "unbound variable"

/-! ### Field access (spec §Field access: `point.x`, `tuple.0`, chained) -/

def fieldByLabel (fs : Fields) (l : String) : Option Val :=
  match fs with
  | [] => none
  | (some m, v) :: rest => if l = m then some v else fieldByLabel rest l
  | (none, _) :: rest => fieldByLabel rest l

def fieldByIndex (fs : Fields) (i : Nat) : Option Val :=
  match fs, i with
  | [], _ => none
  | (_, v) :: _, 0 => some v
  | _ :: rest, i + 1 => fieldByIndex rest i

def project1 (v : Val) (a : Acc) : Res Val :=
  match v, a with
  | .tup _ fs, .label l =>
    match fieldByLabel fs l with
    | some w => .ok w
    | none => .unspec "ill-typed access: no such field"
  | .tup _ fs, .index i =>
    match fieldByIndex fs i with
    | some w => .ok w
    | none => .unspec "ill-typed access: no such position"
  | _, _ => .unspec "ill-typed access: not a tuple"

def project (v : Val) (accs : List Acc) : Res Val :=
  match accs with
  | [] => .ok v
  | a :: rest =>
    match project1 v a with
    | .ok w => project w rest
    | r => r

/-! ### Run-time type tests of first-order types (type patterns) -/

mutual
  def hasType : Ty → Val → Bool
    | .int, .int _ => true
    | .bin, .bin _ => true
    | .tup n tfs, .tup m fs => decide (n = m) && hasTypeFields tfs fs
    | .part n tfs, .tup m fs =>
      (match n with | none => true | some _ => decide (n = m)) && hasTypePart tfs fs
    | .union alts, v => hasTypeAny alts v
    | _, _ => false
  def hasTypeFields : List (Option String × Ty) → Fields → Bool
    | [], [] => true
    | (l, t) :: ts, (m, v) :: fs => decide (l = m) && hasType t v && hasTypeFields ts fs
    | _, _ => false
  def hasTypePart : List (String × Ty) → Fields → Bool
    | [], _ => true
    | (l, t) :: ts, fs =>
      (match fieldByLabel fs l with
       | some v => hasType t v
       | none => false) && hasTypePart ts fs
  def hasTypeAny : List Ty → Val → Bool
    | [], _ => false
    | t :: ts, v => hasType t v || hasTypeAny ts v
end

/-! ### Pattern matching (spec §Pattern matching)

`matchPat env p v acc` extends the bindings `acc` made so far *by this pattern* (innermost first),
or fails. "Identifiers in patterns bind by default"; a repeated identifier inside one pattern tests
equality with its first occurrence; `&x` tests equality with the visible binding of `x`. -/

inductive MRes where
  | matched (bs : Env)
  | failed
  | unspec (why : String)
  deriving Inhabited

def eqTest (a b : Val) (bs : Env) : MRes :=
  match Val.eqv a b with
  | some true => .matched bs
  | some false => .failed
  | none => .unspec "equality of function values"

def bindVar (x : String) (v : Val) (acc : Env) : MRes :=
  match lookup acc x with
  | some (some w) => eqTest w v acc
  | some none => .unspec "repeated binder after failure"
  | none => .matched ((x, some v) :: acc)

def litVal : Lit → Val
  | .int z => .int z
  | .bin bs => .bin bs

/-- bind every labelled field under its label (`*`) -/
def bindStar (fs : Fields) (acc : Env) : MRes :=
  match fs with
  | [] => .matched acc
  | (some l, v) :: rest =>
    match bindVar l v acc with
    | .matched acc' => bindStar rest acc'
    | r => r
  | (none, _) :: rest => bindStar rest acc

mutual
  def matchPat (env : Env) : Pat → Val → Env → MRes
    | .bind x, v, acc => bindVar x v acc
    | .wild, _, acc => .matched acc
    | .lit l, v, acc => eqTest (litVal l) v acc
    | .pin x, v, acc =>
      match lookup env x with
      | some (some w) => eqTest w v acc
      | some none => .unspec "pin of a variable bound by a failed match"
      | none => .unspec "pin of an unbound variable"
    | .tup n pfs, v, acc =>
      match v with
      | .tup m fs => if n = m then matchFields env pfs fs acc else .failed
      | _ => .failed
    | .part n pfs, v, acc =>
      match v with
      | .tup m fs =>
        if (match n with | none => true | some _ => decide (n = m)) then matchPart env pfs fs acc
        else .failed
      | _ => .failed
    | .star n, v, acc =>
      match v with
      | .tup m fs =>
        if (match n with | none => true | some _ => decide (n = m)) then bindStar fs acc else .failed
      | _ => .failed
    | .type t, v, acc => if hasType t v then .matched acc else .failed
    | .alt ps, v, acc => matchAlt env ps v acc
    | .as t x, v, acc => if hasType t v then bindVar x v acc else .failed
  /-- exact tuple pattern: same arity, same label (or none) at each position -/
  def matchFields (env : Env) : List (Option String × Pat) → Fields → Env → MRes
    | [], [], acc => .matched acc
    | (l, p) :: ps, (m, v) :: fs, acc =>
      if l = m then
        match matchPat env p v acc with
        | .matched acc' => matchFields env ps fs acc'
        | r => r
      else .failed
    | _, _, _ => .failed
  /-- partial pattern: each listed label must be present -/
  def matchPart (env : Env) : List (String × Option Pat) → Fields → Env → MRes
    | [], _, acc => .matched acc
    | (l, op) :: ps, fs, acc =>
      match fieldByLabel fs l with
      | none => .failed
      | some v =>
        match (match op with
               | none => bindVar l v acc
               | some p => matchPat env p v acc) with
        | .matched acc' => matchPart env ps fs acc'
        | r => r
  /-- alternation: "matches if any alternative matches" (the first that does) -/
  def matchAlt (env : Env) : List Pat → Val → Env → MRes
    | [], _, _ => .failed
    | p :: ps, v, acc =>
      match matchPat env p v acc with
      | .failed => matchAlt env ps v acc
      | r => r
end

mutual
  /-- the variables a pattern binds -/
  def patVars : Pat → List String
    | .bind x => [x]
    | .tup _ pfs => patVarsFields pfs
    | .part _ pfs => patVarsPart pfs
    | .alt ps => patVarsAlt ps
    | .as _ x => [x]
    | _ => []
  def patVarsFields : List (Option String × Pat) → List String
    | [] => []
    | (_, p) :: ps => patVars p ++ patVarsFields ps
  def patVarsPart : List (String × Option Pat) → List String
    | [] => []
    | (l, none) :: ps => l :: patVarsPart ps
    | (_, some p) :: ps => patVars p ++ patVarsPart ps
  /-- "Every alternative must bind the same set of variables": the first alternative's. -/
  def patVarsAlt : List Pat → List String
    | [] => []
    | p :: _ => patVars p
end

/-- Is `=p` a bare binder or placeholder ("always succeeds — it binds any value, including `[]`")? -/
def Pat.irrefutable : Pat → Bool
  | .bind _ => true
  | .wild => true
  | _ => false

/-- `*` binds names that depend on the value; on failure nothing is known about them. -/
def Pat.hasStar : Pat → Bool
  | .star _ => true
  | _ => false

/-- A match "evaluates to `Ok` if it succeeds and nil (`[]`) if it fails — the matched value does not
flow onward, but any variables the pattern binds are in scope afterwards." -/
def doMatch (env : Env) (p : Pat) (v : Val) : Res (Val × Env) :=
  match matchPat env p v [] with
  | .matched bs => .ok (Val.okv, bs ++ env)
  | .failed => .ok (Val.nil, (patVars p).map (fun x => (x, none)) ++ env)
  | .unspec why => .unspec why

/-! ### Builtins (by name; the handful generated programs use) -/

def int2 (arg : Val) : Option (Int × Int) :=
  match arg with
  | .tup _ [(_, .int a), (_, .int b)] => some (a, b)
  | _ => none

def evalBuiltin (name : String) (arg : Val) : Res Val :=
  let ill : Res Val := .unspec "ill-typed builtin argument"
  match name with
  | "integer_add" => match int2 arg with | some (a, b) => .ok (.int (a + b)) | none => ill
  | "integer_subtract" => match int2 arg with | some (a, b) => .ok (.int (a - b)) | none => ill
  | "integer_multiply" => match int2 arg with | some (a, b) => .ok (.int (a * b)) | none => ill
  | "integer_divide" =>
    match int2 arg with
    | some (a, b) => if b = 0 then .err "InvalidArgument" else .ok (.int (Int.tdiv a b))
    | none => ill
  | "integer_modulo" =>
    match int2 arg with
    | some (a, b) => if b = 0 then .err "InvalidArgument" else .ok (.int (Int.tmod a b))
    | none => ill
  | "integer_compare" =>
    match int2 arg with
    | some (a, b) => .ok (.int (if a < b then -1 else if a > b then 1 else 0))
    | none => ill
  | "integer_abs" => match arg with | .int a => .ok (.int (Int.ofNat a.natAbs)) | _ => ill
  | "binary_length" => match arg with | .bin bs => .ok (.int (Int.ofNat bs.length)) | _ => ill
  | "binary_concat" =>
    match arg with
    | .tup _ [(_, .bin a), (_, .bin b)] => .ok (.bin (a ++ b))
    | _ => ill
  | _ => .unspec "builtin outside the fragment"

/-! ### Spreads (spec §Spread operator): later fields override earlier ones with the same label, in
place; new labels and unlabelled fields append. -/

def setOrAppend (acc : Fields) (l : Option String) (v : Val) : Fields :=
  match l with
  | none => acc ++ [(none, v)]
  | some lab =>
    if acc.any (fun f => f.1 = some lab) then
      acc.map (fun f => if f.1 = some lab then (f.1, v) else f)
    else acc ++ [(some lab, v)]

def spreadInto (acc : Fields) (src : Fields) : Fields :=
  src.foldl (fun a f => setOrAppend a f.1 f.2) acc

/-! ### The evaluator -/

namespace Res
/-- sequencing: everything but `ok` (fuel exhaustion, errors, unspecified) propagates -/
def bind {α β : Type} (r : Res α) (f : α → Res β) : Res β :=
  match r with
  | .ok a => f a
  | .fuelOut => .fuelOut
  | .err c => .err c
  | .unspec y => .unspec y
end Res

/-- the name a tuple term gets: `Name[…]`, `[…]`, or inherited from the first spread's source -/
def tupleName (name : TupName) (inh : Option (Option String)) : Option String :=
  match name with
  | .anon => none
  | .named s => some s
  | .inherit => (match inh with | some n => n | none => none)

mutual

  /-- Function application. "Functions always have a single parameter"; the parameter is reachable as
  `$`; "`#'int` is equivalent to `#'int { $ }`". The body is a block whose parameter is the argument. -/
  def apply : Nat → Val → Val → Res Val
    | 0, _, _ => .fuelOut
    | fuel + 1, f, arg =>
      match f with
      | .clo _ none _ => .ok arg
      | .clo _ (some body) cenv => evalExpr fuel (("$", some arg) :: ("^", some f) :: cenv) arg body
      | .builtin name => evalBuiltin name arg
      | _ => .unspec "ill-typed call: not callable"

  /-- A callable term receiving the flowing value: "Callable terms are called with the value — unless
  the callable is nilary (its parameter is nil), in which case it ignores the flowing value and is
  called with nil". -/
  def callFlow : Nat → Val → Val → Res Val
    | 0, _, _ => .fuelOut
    | fuel + 1, f, flow =>
      match f with
      | .clo true _ _ => apply fuel f Val.nil
      | _ => apply fuel f flow

  /-- Blocks (spec §Blocks, §Branches, §Condition-consequence). "each branch starts from the block's
  parameter"; "If a branch's sequence evaluates to nil, execution jumps to the next branch, or, if
  there are no more branches, the block evaluates to nil"; "If the condition doesn't evaluate to nil,
  then the consequence will be executed, and then execution will jump to the end of the block, taking
  the value of the consequence … if a consequence fails, execution jumps to the end rather than to
  the next branch". The consequence is a new sequence, so it too starts from the block's parameter;
  it sees the condition's bindings. Bindings of a branch are local to it. -/
  def evalExpr : Nat → Env → Val → Expr → Res Val
    | 0, _, _, _ => .fuelOut
    | _ + 1, _, _, .mk [] => .ok Val.nil
    | fuel + 1, env, flow, .mk (.mk cond cons :: rest) =>
      (evalSeq fuel env flow cond).bind fun (v, env') =>
        if v.isNil then evalExpr fuel env flow (.mk rest)
        else
          match cons with
          | none => .ok v
          | some cs => (evalSeq fuel env' flow cs).bind fun (w, _) => .ok w

  /-- Sequences (spec §Expressions). "A sequence threads and is fallible: each step starts from the
  previous step's result, and if a step evaluates to nil the rest of the sequence short-circuits and
  the whole sequence evaluates to nil. Variable bindings persist across steps." -/
  def evalSeq : Nat → Env → Val → List Chain → Res (Val × Env)
    | 0, _, _, _ => .fuelOut
    | _ + 1, env, flow, [] => .ok (flow, env)
    | fuel + 1, env, flow, c :: cs =>
      (evalChain fuel env flow c).bind fun (v, env') =>
        match cs with
        | [] => .ok (v, env')
        | _ :: _ => if v.isNil then .ok (Val.nil, env') else evalSeq fuel env' v cs

  /-- Chains (spec §Chains). "The first term starts from the chain's input; each subsequent term
  transforms the flowing value. A chain is an infallible pipe: nil flows through it like any other
  value." With a binding pattern (`p = …`) the chain's value is matched and the verdict is its
  result. -/
  def evalChain : Nat → Env → Val → Chain → Res (Val × Env)
    | 0, _, _, _ => .fuelOut
    | fuel + 1, env, flow, .mk pat terms =>
      (evalTerms fuel env flow terms).bind fun (v, env') =>
        match pat with
        | none => .ok (v, env')
        | some p => doMatch env' p v

  def evalTerms : Nat → Env → Val → List Term → Res (Val × Env)
    | 0, _, _, _ => .fuelOut
    | _ + 1, env, flow, [] => .ok (flow, env)
    | fuel + 1, env, flow, t :: ts =>
      (evalTerm fuel env flow t).bind fun (v, env') => evalTerms fuel env' v ts

  /-- One term receiving the flowing value (spec §Chains, "When a term receives a value"). -/
  def evalTerm : Nat → Env → Val → Term → Res (Val × Env)
    | 0, _, _, _ => .fuelOut
    -- "Literals and tuples replace the value (discarding it)"
    | _ + 1, env, _, .lit l => .ok (litVal l, env)
    -- "The flowing value is also passed into the fields of a tuple that is constructed in the chain"
    | fuel + 1, env, flow, .tuple name fields =>
      (evalFields fuel env flow fields [] none).bind fun (fs, inh, env') =>
        .ok (.tup (tupleName name inh) fs, env')
    -- "`e =x` … is an in-chain match"
    | _ + 1, env, flow, .mtch p => doMatch env p flow
    -- "Blocks create new scopes. Variables assigned within a block shadow outer variables but don't
    --  affect them" — the environment after the block is the one before it.
    | fuel + 1, env, flow, .block e => (evalExpr fuel env flow e).bind fun v => .ok (v, env)
    -- a function literal is a value (closure over the visible bindings); it is not called
    | _ + 1, env, _, .fn nilary body => .ok (.clo nilary body env, env)
    -- "Variables depend on their type: callable variables are called, others replace the value";
    -- `~` is the flowing value itself (never called: "no bare ripple application")
    | fuel + 1, env, flow, .access s accs =>
      match s with
      | .ripple => (project flow accs).bind fun v => .ok (v, env)
      | .builtin name => (callFlow fuel (.builtin name) flow).bind fun v => .ok (v, env)
      | .var x =>
        (readVar env x).bind fun b => (project b accs).bind fun v =>
          if v.isCallable then (callFlow fuel v flow).bind fun w => .ok (w, env) else .ok (v, env)
      | .param =>
        (readVar env "$").bind fun b => (project b accs).bind fun v =>
          if v.isCallable then (callFlow fuel v flow).bind fun w => .ok (w, env) else .ok (v, env)
    -- "`&f` references `f` without calling it"
    | _ + 1, env, _, .ref s accs =>
      match s with
      | .ripple => .unspec "cannot reference ripple"
      | .builtin name => .ok (.builtin name, env)
      | .var x => (readVar env x).bind fun b => (project b accs).bind fun v => .ok (v, env)
      | .param => (readVar env "$").bind fun b => (project b accs).bind fun v => .ok (v, env)
    -- "Use `^` for tail-recursive calls. Like any call it is argument-first"; `^f` names another
    -- function. (The driver only accepts tail calls in tail position, where a call's value *is* the
    -- function's value.)
    | fuel + 1, env, flow, .tail none =>
      (readVar env "^").bind fun f => (callFlow fuel f flow).bind fun w => .ok (w, env)
    | fuel + 1, env, flow, .tail (some (x, accs)) =>
      (readVar env x).bind fun b => (project b accs).bind fun f =>
        (callFlow fuel f flow).bind fun w => .ok (w, env)
    -- "`^~` … hands the flowing value (which must be a nilary function) a nil argument"
    | fuel + 1, env, flow, .tailRipple =>
      match flow with
      | .clo true _ _ => (apply fuel flow Val.nil).bind fun w => .ok (w, env)
      | _ => .unspec "ill-typed ^~: not a nilary function"

  /-- Tuple fields: "Each field/argument receives its own copy" of the flowing value; bindings made
  in a field stay visible (a tuple is not a scope). `inh` is the name of the first spread's source. -/
  def evalFields : Nat → Env → Val → List Field → Fields → Option (Option String)
      → Res (Fields × Option (Option String) × Env)
    | 0, _, _, _, _, _ => .fuelOut
    | _ + 1, env, _, [], acc, inh => .ok (acc, inh, env)
    | fuel + 1, env, flow, .val label c :: rest, acc, inh =>
      (evalChain fuel env flow c).bind fun (v, env') =>
        evalFields fuel env' flow rest (setOrAppend acc label v) inh
    | fuel + 1, env, flow, .spread src :: rest, acc, inh =>
      (match src with
       | none => Res.ok flow
       | some x => readVar env x).bind fun sv =>
        match sv with
        | .tup n fs =>
          evalFields fuel env flow rest (spreadInto acc fs) (match inh with | none => some n | some _ => inh)
        | _ => .unspec "ill-typed spread: not a tuple"
end

/-- A whole program "is a single sequence"; it starts from nil and has no `$`. -/
def evalProgram (fuel : Nat) (steps : List Chain) : Res Val :=
  (evalSeq fuel [] Val.nil steps).bind fun (v, _) => .ok v

end QM.RefSem
