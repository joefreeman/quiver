import QuiverModel.Core.RefSem.Compile3
/-
M-RefSem ↔ M-VM, fragment compiler with NAMED TAIL CALLS (`compile5`), C02 stretch goal part 8:
Compile4.lean (…, function literals with captures, calls, `^`, builtin calls)
  + `^x`   the tail call of the callable variable `x` with the flowing value: `Load(slot x), TailCall(false)`; the
           VM replaces the frame by one of the callee over ITS captures (same locals base) and runs the callee's
           code in it — what that yields is the result of the enclosing function.
The syntax and the definitions are those of Compile4 written out again with the one constructor added (this file does
not import Compile4); the meaning of `^x` is `exit (app x flow)`.
-/
namespace QM.RefSem.C5
open QM.VM
open QM.RefSem.C1 (Sub Pat1 slot compilePat patBinds evalPat wfPat wfProg)
open QM.RefSem.C2 (resetIf)

mutual
  inductive T4 where
    | int (z : Int) (cidx : Nat)
    | ripple
    | tup (id : Nat) (fields : Fs4)
    /-- read the variable `x` (it replaces the flowing value) -/
    | var (x : String)
    /-- `=p` -/
    | mtch (p : Pat1)
    /-- `{ | cond₁ => cons₁ | cond₂ | … }` -/
    | block (bs : Brs4)
    /-- a function literal `#T { … }`: function `fi` of the program with the captured variables `caps`
    (in capture order); it replaces the flowing value -/
    | fnlit (fi : Nat) (caps : List String)
    /-- the callable variable `x` applied to the flowing value -/
    | call (x : String)
    /-- the NILARY callable variable `x` in a chain: it ignores the flowing value and is called with nil -/
    | callNil (x : String)
    /-- `^`: tail call of the enclosing function with the flowing value -/
    | tailSelf
    /-- builtin `bi` applied to the flowing value -/
    | bcall (bi : Nat)
    /-- `^x`: tail call of the callable variable `x` with the flowing value -/
    | tailNamed (x : String)
  inductive Ch4 where
    | nil
    | cons (t : T4) (rest : Ch4)
  inductive Fs4 where
    | nil
    | cons (c : Ch4) (rest : Fs4)
  /-- `c₁, c₂, …` -/
  inductive Sq4 where
    | last (c : Ch4)
    | cons (c : Ch4) (rest : Sq4)
  inductive OSq4 where
    | none
    | some (s : Sq4)
  /-- the branches of a block: condition, optional consequence -/
  inductive Brs4 where
    | nil
    | cons (cond : Sq4) (cons : OSq4) (rest : Brs4)
end

def Brs4.isNil : Brs4 → Bool
  | .nil => true
  | .cons _ _ _ => false

def Fs4.length : Fs4 → Nat
  | .nil => 0
  | .cons _ r => r.length + 1

/-- `Load(slot)` of each captured variable, in capture order -/
def loadsOf (Γ : List String) : List String → List Instr
  | [] => []
  | c :: r => .load ((slot Γ c).getD 0) :: loadsOf Γ r

mutual
  /-- code and the compile-time locals afterwards -/
  def compileT (Γ : List String) : T4 → List Instr × List String
    | .int _ i => ([.pop, .constant i], Γ)
    | .ripple => ([], Γ)
    | .tup id fs =>
      let r := compileFs Γ fs 0
      (r.1 ++ [.tuple id, .rotate 2, .pop], r.2)
    | .var x => ([.pop, .load ((slot Γ x).getD 0)], Γ)
    | .mtch p => (compilePat p, Γ ++ patBinds p)
    -- compile_scoped_expression: the parameter goes to slot `n = local_count`; branches; the parameter
    -- clear `Reset(n)`; then, if any branch needs one, a jump over the cleanup blocks and the cleanup
    -- blocks. Afterwards `local_count` is what it was.
    | .block bs =>
      let r := compileBrs (Γ ++ [""]) Γ.length bs 0 true
      ([.store] ++ (r.1 ++ ([.reset Γ.length] ++
        ((if r.2 = [] then [] else [.jump ((r.2.length : Nat) : Int)]) ++ r.2))), Γ)
    -- compile_function (use site): drop the flowing value, push the captured values, `Function(fi)`
    | .fnlit fi caps => ([.pop] ++ (loadsOf Γ caps ++ [.function fi]), Γ)
    -- compile_access of a callable variable: the flowing value stays as the argument
    | .call x => ([.load ((slot Γ x).getD 0), .call], Γ)
    -- a nilary callee: the flowing value is replaced by nil under the function
    | .callNil x => ([.load ((slot Γ x).getD 0), .rotate 2, .pop, .tuple 0, .rotate 2, .call], Γ)
    | .tailSelf => ([.tailCall true], Γ)
    | .bcall bi => ([.builtin bi, .call], Γ)
    -- compile_tail_call: the function on top of the argument, `TailCall(false)`
    | .tailNamed x => ([.load ((slot Γ x).getD 0), .tailCall false], Γ)
  def compileCh (Γ : List String) : Ch4 → List Instr × List String
    | .nil => ([], Γ)
    | .cons t r =>
      let a := compileT Γ t
      let b := compileCh a.2 r
      (a.1 ++ b.1, b.2)
  def compileFs (Γ : List String) : Fs4 → Nat → List Instr × List String
    | .nil, _ => ([], Γ)
    | .cons c r, k =>
      let a := compileCh Γ c
      let b := compileFs a.2 r (k + 1)
      ([.pick k] ++ a.1 ++ b.1, b.2)
  def compileSq (Γ : List String) : Sq4 → List Instr × List String
    | .last c => compileCh Γ c
    | .cons c r =>
      let a := compileCh Γ c
      let b := compileSq a.2 r
      (a.1 ++ ([.duplicate, .not, .jumpIf (b.1.length : Int)] ++ b.1), b.2)
  /-- The branches from a given one on: (main code, cleanup blocks). `Γp` = the slot names with the
  block parameter (slot `n`) as last; `k` = number of cleanup blocks of earlier branches; `first` = no
  earlier branch (a later branch starts by popping the failed condition's nil). The main code of the
  branches ends exactly at the parameter clear (position `PC`); the cleanup blocks start at
  `PC + 2` (after `Reset(n)` and the jump over them), two instructions each.
    bodiless branch:  [Pop] Load(n) cond [Reset(n+1)] [Duplicate JumpIf(→PC)]
    with consequence: [Pop] Load(n) cond Duplicate Not JumpIf(→T) Pop Load(n) cons [Reset(n+1)] [Jump(→PC)]
       T = the next branch (the parameter clear for the last one) — via this branch's cleanup block
       `Reset(n+1), Jump(→ back to the next branch / PC)` if the condition has bindings -/
  def compileBrs (Γp : List String) (n : Nat) : Brs4 → Nat → Bool → List Instr × List Instr
    | .nil, _, _ => ([], [])
    | .cons cond .none rest, k, first =>
      let c := compileSq Γp cond
      let r := compileBrs Γp n rest k false
      ((if first then [] else [.pop]) ++ ([.load n] ++ (c.1 ++ (resetIf c.2.length n ++
        ((if rest.isNil then [] else [.duplicate, .jumpIf (r.1.length : Int)]) ++ r.1)))), r.2)
    | .cons cond (.some cons) rest, k, first =>
      let c := compileSq Γp cond
      let needs : Bool := decide (c.2.length > n + 1)
      let r := compileBrs Γp n rest (if needs then k + 1 else k) false
      let cc := compileSq c.2 cons
      let ej : List Instr := if rest.isNil then [] else [.jump (r.1.length : Int)]
      -- length of `Pop, Load(n), cons, [Reset(n+1)], [Jump]`
      let tailLen : Nat := 2 + cc.1.length + (resetIf cc.2.length n).length + ej.length
      let off : Nat := if needs then tailLen + r.1.length + 2 + 2 * k else tailLen
      ((if first then [] else [.pop]) ++ ([.load n] ++ (c.1 ++ ([.duplicate, .not, .jumpIf (off : Int)] ++
        ([.pop, .load n] ++ (cc.1 ++ (resetIf cc.2.length n ++ (ej ++ r.1))))))),
       (if needs then [.reset (n + 1), .jump (-((r.1.length + 2 * k + 4 : Nat) : Int))] else []) ++ r.2)
end

/-! ### Meaning -/

/-- the captured values (`none`: a captured name has no slot) -/
def capVals (Γ : List String) (L : List Val) : List String → Option (List Val)
  | [] => some []
  | c :: r =>
    match (slot Γ c).bind (fun i => L[i]?), capVals Γ L r with
    | some v, some vs => some (v :: vs)
    | _, _ => none

/-- the outcome of a construct -/
inductive Out where
  /-- it ran to its end: value, the frame's locals -/
  | norm (v : Val) (L : List Val)
  /-- a `^` or `^x` was taken inside: the result of the whole function -/
  | exit (res : Val)

/-- what the meaning functions are parametric in -/
structure Sem where
  /-- applying a function value to an argument -/
  app : Val → Val → Option Val
  /-- a builtin on an argument -/
  bi : Nat → Val → Option Val
  /-- the function being executed (`none` at the top level) -/
  self : Option Val

mutual
  def evalT (cs : Sem) (Γ : List String) (L : List Val) (flow : Val) : T4 → Option Out
    | .int z _ => some (.norm (.int z) L)
    | .ripple => some (.norm flow L)
    | .tup id fs => (evalFs cs Γ L flow fs).map fun r => .norm (.tup id (ValList.ofList r.1)) r.2
    | .var x => (slot Γ x).bind fun i => (L[i]?).map fun v => .norm v L
    | .mtch p => (evalPat flow p).map fun r => .norm r.1 (L ++ r.2)
    -- "Blocks create new scopes": the locals afterwards are the locals before
    | .block bs =>
      (evalBrs cs (Γ ++ [""]) (L ++ [flow]) flow bs).map fun
        | .norm v _ => .norm v L
        | .exit res => .exit res
    | .fnlit fi caps => (capVals Γ L caps).map fun ws => .norm (.fn fi (ValList.ofList ws)) L
    | .call x => (slot Γ x).bind fun i => (L[i]?).bind fun fv => (cs.app fv flow).map fun res => .norm res L
    | .callNil x => (slot Γ x).bind fun i => (L[i]?).bind fun fv => (cs.app fv Val.nil).map fun res => .norm res L
    | .tailSelf => cs.self.bind fun sv => (cs.app sv flow).map fun res => .exit res
    | .bcall bi => (cs.bi bi flow).map fun v => .norm v L
    | .tailNamed x => (slot Γ x).bind fun i => (L[i]?).bind fun fv => (cs.app fv flow).map fun res => .exit res
  def evalCh (cs : Sem) (Γ : List String) (L : List Val) (flow : Val) : Ch4 → Option Out
    | .nil => some (.norm flow L)
    | .cons t r =>
      (evalT cs Γ L flow t).bind fun
        | .norm v L₁ => evalCh cs (compileT Γ t).2 L₁ v r
        | .exit res => some (.exit res)
  /-- every field starts from `flow`; bindings made in a field persist; a `^` inside a field has no
  meaning (the operand stack holds the tuple's earlier fields: not a tail position) -/
  def evalFs (cs : Sem) (Γ : List String) (L : List Val) (flow : Val) : Fs4 → Option (List Val × List Val)
    | .nil => some ([], L)
    | .cons c r =>
      (evalCh cs Γ L flow c).bind fun
        | .norm v L₁ => (evalFs cs (compileCh Γ c).2 L₁ flow r).map fun b => (v :: b.1, b.2)
        | .exit _ => none
  def evalSq (cs : Sem) (Γ : List String) (L : List Val) (flow : Val) : Sq4 → Option Out
    | .last c => evalCh cs Γ L flow c
    | .cons c r =>
      (evalCh cs Γ L flow c).bind fun
        | .norm v L₁ => if v.isNil then some (.norm v L₁) else evalSq cs (compileCh Γ c).2 L₁ v r
        | .exit res => some (.exit res)
  /-- the branches; `norm v Lp`: the block's value at the parameter clear, locals `Lp` -/
  def evalBrs (cs : Sem) (Γp : List String) (Lp : List Val) (flow : Val) : Brs4 → Option Out
    | .nil => some (.norm Val.nil Lp)
    | .cons cond .none rest =>
      (evalSq cs Γp Lp flow cond).bind fun
        | .norm v _ => if v.isNil then evalBrs cs Γp Lp flow rest else some (.norm v Lp)
        | .exit res => some (.exit res)
    | .cons cond (.some cons) rest =>
      (evalSq cs Γp Lp flow cond).bind fun
        | .norm v Lc =>
          if v.isNil then evalBrs cs Γp Lp flow rest
          else (evalSq cs (compileSq Γp cond).2 Lc flow cons).map fun
            | .norm w _ => .norm w Lp
            | .exit res => .exit res
        | .exit res => some (.exit res)
end

/-! ### Well-formedness -/

mutual
  def wfT (P : Prog) : T4 → Prop
    | .int z i => P.constants[i]? = some (.int z)
    | .ripple => True
    | .tup id fs => P.tuples[id]? = some fs.length ∧ wfFs P fs
    | .var _ => True
    | .mtch p => wfPat P p
    | .block bs => bs.isNil = false ∧ wfBrs P bs
    | .fnlit fi caps => ∃ fn, P.functions[fi]? = some fn ∧ fn.captures = caps.length
    | .call _ => True
    | .callNil _ => True
    | .tailSelf => True
    | .bcall bi => bi < P.builtins
    | .tailNamed _ => True
  def wfCh (P : Prog) : Ch4 → Prop
    | .nil => True
    | .cons t r => wfT P t ∧ wfCh P r
  def wfFs (P : Prog) : Fs4 → Prop
    | .nil => True
    | .cons c r => wfCh P c ∧ wfFs P r
  def wfSq (P : Prog) : Sq4 → Prop
    | .last c => wfCh P c
    | .cons c r => wfCh P c ∧ wfSq P r
  def wfBrs (P : Prog) : Brs4 → Prop
    | .nil => True
    | .cons cond .none rest => wfSq P cond ∧ wfBrs P rest
    | .cons cond (.some cons) rest => wfSq P cond ∧ wfSq P cons ∧ wfBrs P rest
end


/-! ### The function table and the meaning of application -/

/-- a function of the program: the names of its captures (its first locals) and its body -/
structure FnDef where
  caps : List String
  body : Brs4

abbrev FTab := List (Nat × FnDef)

/-- the function's code: its body as a block over the captures -/
def fnCode (d : FnDef) : List Instr := (compileT d.caps (.block d.body)).1

/-- applying `fv` to `arg` with at most `fuel` nested (and tail) calls -/
def callSem (Φ : FTab) (bi : Nat → Val → Option Val) : Nat → Val → Val → Option Val
  | 0, _, _ => none
  | fuel + 1, fv, arg =>
    match fv with
    | .fn fi cv =>
      match Φ.lookup fi with
      | some d =>
        if cv.toList.length = d.caps.length then
          match evalBrs ⟨callSem Φ bi fuel, bi, some fv⟩ (d.caps ++ [""]) (cv.toList ++ [arg]) arg d.body with
          | some (.norm v _) => some v
          | some (.exit res) => some res
          | none => none
        else none
      | none => none
    | _ => none

/-- the parameters of the meaning functions at the top level of the program, for a given fuel -/
def topSem (Φ : FTab) (bi : Nat → Val → Option Val) (fuel : Nat) : Sem := ⟨callSem Φ bi fuel, bi, none⟩

/-- the program's tables say what `Φ` says -/
def FnOK (P : Prog) (Φ : FTab) : Prop :=
  ∀ fi d, Φ.lookup fi = some d →
    ∃ fn, P.functions[fi]? = some fn ∧ fn.instructions = (fnCode d).toArray ∧
      fn.captures = d.caps.length ∧ d.body.isNil = false ∧ wfBrs P d.body ∧
      fn.instructions.size < 2 ^ 63 - 1

end QM.RefSem.C5
