import QuiverModel.Core.Builtins.Vector
/-
M-BuiltinSpec — plain reference models of the binary and vector builtins: flat byte strings
(`List UInt8`), unbounded integers, no rope, no checked arithmetic, no `panic` (`setBytes` keeps the
128-bit mask of the source). A builtin with a documented domain is
`if <domain> then ok <value> else err InvalidArgument`. The theorems `C12.*_refines`
state that the branch-by-branch models of `Binary.lean` / `Vector.lean` compute exactly these on
every stored rope of that content.
-/
namespace QM.Builtins.Spec
open QM.Bytes

/-- big-endian value of a byte string -/
def beNat : List UInt8 → Nat
  | [] => 0
  | b :: bs => b.toNat * 256 ^ bs.length + beNat bs

def binaryNew (size : Int) : Outcome (List UInt8) :=
  if 0 ≤ size ∧ size ≤ 16777216 then .ok (List.replicate size.toNat 0) else .err .invalidArgument

def binaryConcat (a b : List UInt8) : Outcome (List UInt8) :=
  if a.length + b.length ≤ 16777216 then .ok (a ++ b) else .err .invalidArgument

def binaryRepeat (v : List UInt8) (count : Int) : Outcome (List UInt8) :=
  if 0 ≤ count ∧ count < 18446744073709551616 ∧ v.length * count.toNat ≤ 16777216 then
    .ok (Rope.tile v count.toNat)
  else .err .invalidArgument

def binaryAnd (a b : List UInt8) : List UInt8 := List.zipWith (· &&& ·) a b

/-- the longer length; the shorter operand is padded with zero bytes -/
def padZip (f : UInt8 → UInt8 → UInt8) (a b : List UInt8) : List UInt8 :=
  (List.range (max a.length b.length)).map fun i => f (a.getD i 0) (b.getD i 0)

def binaryIndex (v : List UInt8) (byte off : Int) : Outcome (Option Nat) :=
  if 0 ≤ byte ∧ byte ≤ 255 ∧ 0 ≤ off ∧ off < 18446744073709551616 then
    .ok (Rope.findFrom v (UInt8.ofNat byte.toNat) off.toNat)
  else .err .invalidArgument

/-- logical shift of the whole string read as one big-endian number of `8 * length` bits:
    positive = left (bits leaving at the top are dropped), negative = right -/
def shiftValue (v : List UInt8) (amt : Int) : Nat :=
  if amt ≥ 0 then (beNat v * 2 ^ amt.toNat) % 2 ^ (8 * v.length) else beNat v / 2 ^ (-amt).toNat

/-- `binary_shift` on flat bytes: whole bytes are moved by `bits / 8`, the remaining `bits % 8`
    by the carry chains `shlBits` / `shrBits`; vacated positions are zero. Its numeric meaning is
    `shiftValue` (theorem `C12.binary_shift_value`). -/
def shiftBytes (v : List UInt8) (amt : Int) : List UInt8 :=
  let n := v.length
  let bits := amt.natAbs
  if amt = 0 then v
  else if bits ≥ 8 * n then List.replicate n 0
  else
    let bs := bits / 8
    let k := bits % 8
    if amt > 0 then (if k = 0 then v.drop bs else (shlBits k (v.drop bs)).1) ++ List.replicate bs 0
    else List.replicate bs 0 ++ (if k = 0 then v.take (n - bs) else shrBits k (v.take (n - bs)) 0)

def binaryShift (v : List UInt8) (amt : Int) : Outcome (List UInt8) :=
  if FitsI64 amt then .ok (shiftBytes v amt) else .err .invalidArgument

def popcount (v : List UInt8) : Nat := (v.map fun b => popcountNat 8 b.toNat).sum

/-- the bit window `[8*bo + bi, 8*bo + bi + nb)` lies inside a string of `n` bytes -/
def InWindow (n : Nat) (bo bi nb : Int) : Prop :=
  0 ≤ bo ∧ 0 ≤ bi ∧ bi ≤ 7 ∧ 1 ≤ nb ∧ nb ≤ 64 ∧ 8 * bo + bi + nb ≤ 8 * (n : Int)

instance (n : Nat) (bo bi nb : Int) : Decidable (InWindow n bo bi nb) := by
  unfold InWindow; exact inferInstance

/-- number of bits to the right of the window -/
def bitsRight (n : Nat) (bo bi nb : Int) : Nat := 8 * n - (8 * bo + bi + nb).toNat

/-- `binary_get`: the `nb`-bit big-endian field starting `bi` bits into byte `bo` -/
def binaryGet (v : List UInt8) (bo bi nb : Int) : Outcome Int :=
  if InWindow v.length bo bi nb then
    .ok (Int.ofNat ((beNat v / 2 ^ bitsRight v.length bo bi nb) % 2 ^ nb.toNat))
  else .err .invalidArgument

/-- the value a `binary_set` result must denote: the old number with the field replaced -/
def setValue (v : List UInt8) (bo bi value nb : Int) : Nat :=
  let sh := bitsRight v.length bo bi nb
  let old := (beNat v / 2 ^ sh) % 2 ^ nb.toNat
  beNat v - old * 2 ^ sh + value.toNat * 2 ^ sh

/-- domain of `binary_set`: a window inside the string and a value of at most `nb` bits that is
    also an `i64` (fields of 64 bits accept values below 2^63 only) -/
def SetDomain (n : Nat) (bo bi value nb : Int) : Prop :=
  InWindow n bo bi nb ∧ 0 ≤ value ∧ value.toNat < 2 ^ nb.toNat ∧ value ≤ 9223372036854775807

instance (n : Nat) (bo bi value nb : Int) : Decidable (SetDomain n bo bi value nb) := by
  unfold SetDomain; exact inferInstance

/-- `binary_set` on flat bytes: the (at most 9) bytes touched by the window are read as one
    number, the window is cleared and the value put in, and the bytes are written back. Its numeric
    meaning is `setValue`. -/
def setBytes (v : List UInt8) (bo bi value nb : Nat) : List UInt8 :=
  let last := (8 * bo + bi + nb + 7) / 8
  let cnt := last - bo
  let ba := cnt * 8 - bi - nb
  let cur := beNat ((v.drop bo).take cnt)
  let W : Nat := 340282366920938463463374607431768211456
  let newValue := (cur &&& (W - 1 - ((2 ^ nb - 1) * 2 ^ ba) % W)) ||| ((value * 2 ^ ba) % W)
  v.take bo ++ beBytes cnt newValue ++ v.drop last

def binarySet (v : List UInt8) (bo bi value nb : Int) : Outcome (List UInt8) :=
  if SetDomain v.length bo bi value nb then .ok (setBytes v bo.toNat bi.toNat value.toNat nb.toNat)
  else .err .invalidArgument

def binarySlice (v : List UInt8) (start stop : Int) : Outcome (List UInt8) :=
  if 0 ≤ start ∧ start ≤ stop ∧ stop ≤ v.length then
    .ok ((v.drop start.toNat).take (stop.toNat - start.toNat))
  else .err .invalidArgument

def AppendDomain (n : Nat) (value nb : Int) : Prop :=
  1 ≤ nb ∧ nb ≤ 8 ∧ 0 ≤ value ∧ value ≤ 9223372036854775807 ∧ value.toNat < 2 ^ (8 * nb.toNat) ∧
    (n : Int) + nb ≤ 16777216

instance (n : Nat) (value nb : Int) : Decidable (AppendDomain n value nb) := by
  unfold AppendDomain; exact inferInstance

/-- `binary_append` on its documented domain appends the `nb` big-endian bytes of the value -/
def binaryAppend (v : List UInt8) (value nb : Int) : Outcome (List UInt8) :=
  if AppendDomain v.length value nb then .ok (v ++ beBytes nb.toNat value.toNat) else .err .invalidArgument

/-! ### packed vectors: little-endian two's-complement lanes -/

/-- lane `i` of a packed vector with `w`-byte lanes -/
def laneAt (w : Nat) (v : List UInt8) (i : Nat) : Int :=
  signedOf (8 * w) (leNat ((v.drop (i * w)).take w))

/-- all lanes -/
def lanes (w : Nat) (v : List UInt8) : List Int := (List.range (v.length / w)).map (laneAt w v)

/-- the value fits a signed lane of `w` bytes -/
def LaneOK (w : Nat) (x : Int) : Prop := -(2 ^ (8 * w - 1) : Int) ≤ x ∧ x < (2 ^ (8 * w - 1) : Int)

instance (w : Nat) (x : Int) : Decidable (LaneOK w x) := by unfold LaneOK; exact inferInstance

def encode (w : Nat) (xs : List Int) : List UInt8 := xs.flatMap (pushLane w)

def WidthOK (w : Int) : Prop := w = 4 ∨ w = 8
instance (w : Int) : Decidable (WidthOK w) := by unfold WidthOK; exact inferInstance

/-- two buffers of the same whole number of lanes -/
def Aligned (w : Nat) (a b : List UInt8) : Prop := a.length = b.length ∧ a.length % w = 0
instance (w : Nat) (a b : List UInt8) : Decidable (Aligned w a b) := by unfold Aligned; exact inferInstance

/-- `vector_add/subtract/multiply`: the exact lane-wise result when every lane fits, else nil -/
def elementwise (op : Int → Int → Int) (a b : List UInt8) (width : Int) : Outcome (Option (List UInt8)) :=
  if WidthOK width then
    let w := width.toNat
    if Aligned w a b then
      let zs := List.zipWith op (lanes w a) (lanes w b)
      if ∀ z ∈ zs, LaneOK w z then .ok (some (encode w zs)) else .ok none
    else .ok none
  else .err .invalidArgument

/-- `vector_less_than/equal/greater_than`: one mask byte (1/0) per lane -/
def compare (pred : Int → Int → Bool) (a b : List UInt8) (width : Int) : Outcome (Option (List UInt8)) :=
  if WidthOK width then
    let w := width.toNat
    if Aligned w a b then
      .ok (some (List.zipWith (fun x y => if pred x y then (1 : UInt8) else 0) (lanes w a) (lanes w b)))
    else .ok none
  else .err .invalidArgument

/-- walk the mask and the data in lockstep, keeping the `w`-byte lanes whose mask byte is non-zero -/
def takeChunks (w : Nat) : List UInt8 → List UInt8 → List UInt8
  | [], _ => []
  | m :: ms, d => (if m ≠ 0 then d.take w else []) ++ takeChunks w ms (d.drop w)

/-- `vector_take`: the lanes whose mask byte is non-zero, in order -/
def vectorTake (data : List UInt8) (width : Int) (mask : List UInt8) : Outcome (Option (List UInt8)) :=
  if WidthOK width then
    let w := width.toNat
    if data.length % w = 0 ∧ mask.length = data.length / w then .ok (some (takeChunks w mask data))
    else .ok none
  else .err .invalidArgument

def vectorGet (v : List UInt8) (width index : Int) : Outcome (Option Int) :=
  if WidthOK width then
    let w := width.toNat
    if 0 ≤ index ∧ v.length % w = 0 ∧ index < (v.length / w : Nat) then .ok (some (laneAt w v index.toNat))
    else .ok none
  else .err .invalidArgument

def vectorPush (v : List UInt8) (width value : Int) : Outcome (Option (List UInt8)) :=
  if WidthOK width then
    let w := width.toNat
    if LaneOK w value ∧ v.length % w = 0 then
      if v.length + w ≤ 16777216 then .ok (some (v ++ pushLane w value)) else .err .invalidArgument
    else .ok none
  else .err .invalidArgument

def vectorSum (v : List UInt8) (width : Int) : Outcome (Option Int) :=
  if WidthOK width then
    let w := width.toNat
    if v.length % w = 0 then .ok (some (lanes w v).sum) else .ok none
  else .err .invalidArgument

def vectorDot (a b : List UInt8) (width : Int) : Outcome (Option Int) :=
  if WidthOK width then
    let w := width.toNat
    if Aligned w a b then .ok (some (List.zipWith (· * ·) (lanes w a) (lanes w b)).sum) else .ok none
  else .err .invalidArgument

end QM.Builtins.Spec
