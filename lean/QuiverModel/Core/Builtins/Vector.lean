import QuiverModel.Core.Builtins.Binary
/-
M-Builtins, packed-vector kernels — mirrors quiver-core/src/builtins/vector.rs (11 builtins).
A binary is a flat little-endian two's-complement array of `width`-byte lanes (`width ∈ {4, 8}`).
Every kernel validates the width first (`checked_width`), then flattens its binary arguments
(`Executor::materialize`, i.e. `to_vec`; `vector_push` reads the length only), then checks lengths;
`none` is the nil result `[]`.
Lane values are `Int`s inside the lane range; the `i64::checked_*` operations are the unbounded
operation followed by the range test.
-/
namespace QM.Builtins
open QM.Bytes

/-- `checked_width`: only 4- and 8-byte lanes -/
def checkedWidth (w : Int) : Outcome Nat :=
  (toI64Int w).bind fun w => if w = 4 ∨ w = 8 then .ok w.toNat else .err .invalidArgument

/-- little-endian value of a byte string -/
def leNat : List UInt8 → Nat
  | [] => 0
  | b :: bs => b.toNat + 256 * leNat bs

/-- two's-complement reading of an unsigned `bits`-bit value -/
def signedOf (bits : Nat) (n : Nat) : Int :=
  if n ≥ 2 ^ (bits - 1) then (n : Int) - (2 ^ bits : Nat) else (n : Int)

/-- `lane(bytes, width, i)`: `i * width` and `off + width` are unchecked, the slice is
    bounds-checked, any other width is `unreachable!()` -/
def lane (bytes : List UInt8) (w i : Nat) : Outcome Int :=
  (umul i w).bind fun off =>
    if w ≠ 4 ∧ w ≠ 8 then .panic
    else (uadd off w).bind fun e =>
      if e ≤ bytes.length then .ok (signedOf (8 * w) (leNat ((bytes.drop off).take w))) else .panic

/-- `fits(value, width)` -/
def fits (w : Nat) (v : Int) : Bool :=
  if w = 4 then decide (-2147483648 ≤ v ∧ v ≤ 2147483647) else decide (w = 8)

/-- `n` little-endian bytes of `x` -/
def leBytes : Nat → Nat → List UInt8
  | 0, _ => []
  | n + 1, x => UInt8.ofNat (x % 256) :: leBytes n (x / 256)

/-- `push_lane`: `(value as i32).to_le_bytes()` / `value.to_le_bytes()` -/
def pushLane (w : Nat) (v : Int) : List UInt8 :=
  leBytes w (v % ((2 ^ (8 * w) : Nat) : Int)).toNat

/-- `i64::checked_add` etc.: the exact result when it is an `i64` -/
def checked (op : Int → Int → Int) (x y : Int) : Option Int :=
  if FitsI64 (op x y) then some (op x y) else none

/-- the flattened bytes of a binary argument (`Executor::materialize`) -/
def flat (r : Rope) : Outcome (List UInt8) := (materialize r).map (·.1)

/-- lanes `i, i+1, …` (`fuel` of them) of `a` and `b` combined by `op`; `none` as soon as a result
    does not fit the lane -/
def elementwiseLoop (op : Int → Int → Option Int) (a b : List UInt8) (w : Nat) :
    Nat → Nat → Outcome (Option (List UInt8))
  | 0, _ => .ok (some [])
  | fuel + 1, i =>
    (lane a w i).bind fun x => (lane b w i).bind fun y =>
      match (op x y).filter (fits w) with
      | none => .ok none
      | some v => (elementwiseLoop op a b w fuel (i + 1)).map (Option.map (pushLane w v ++ ·))

def elementwise (op : Int → Int → Option Int) (a b : Rope) (width : Int) : Outcome (Option Rope) :=
  (checkedWidth width).bind fun w => (flat a).bind fun av => (flat b).bind fun bv =>
    if av.length ≠ bv.length ∨ av.length % w ≠ 0 then .ok none
    else (elementwiseLoop op av bv w (av.length / w) 0).bind fun
      | none => .ok none
      | some out => (alloc out).map some

def vectorAdd := elementwise (checked (· + ·))
def vectorSubtract := elementwise (checked (· - ·))
def vectorMultiply := elementwise (checked (· * ·))

def compareLoop (pred : Int → Int → Bool) (a b : List UInt8) (w : Nat) : Nat → Nat → Outcome (List UInt8)
  | 0, _ => .ok []
  | fuel + 1, i =>
    (lane a w i).bind fun x => (lane b w i).bind fun y =>
      (compareLoop pred a b w fuel (i + 1)).map ((if pred x y then (1 : UInt8) else 0) :: ·)

def compare (pred : Int → Int → Bool) (a b : Rope) (width : Int) : Outcome (Option Rope) :=
  (checkedWidth width).bind fun w => (flat a).bind fun av => (flat b).bind fun bv =>
    if av.length ≠ bv.length ∨ av.length % w ≠ 0 then .ok none
    else (compareLoop pred av bv w (av.length / w) 0).bind fun out => (alloc out).map some

def vectorLessThan := compare (fun x y => decide (x < y))
def vectorEqual := compare (fun x y => decide (x = y))
def vectorGreaterThan := compare (fun x y => decide (x > y))

/-- `for (i, &selected) in mask.iter().enumerate()`: `data[i * width..(i + 1) * width]` -/
def takeLoop (data : List UInt8) (w : Nat) : List UInt8 → Nat → Outcome (List UInt8)
  | [], _ => .ok []
  | sel :: rest, i =>
    if sel ≠ 0 then
      (umul i w).bind fun s => (umul (i + 1) w).bind fun e =>
        if s ≤ e ∧ e ≤ data.length then (takeLoop data w rest (i + 1)).map ((data.drop s).take (e - s) ++ ·)
        else .panic
    else takeLoop data w rest (i + 1)

def vectorTake (data : Rope) (width : Int) (mask : Rope) : Outcome (Option Rope) :=
  (checkedWidth width).bind fun w => (flat data).bind fun dv => (flat mask).bind fun mv =>
    if dv.length % w ≠ 0 ∨ mv.length ≠ dv.length / w then .ok none
    else (takeLoop dv w mv 0).bind fun out => (alloc out).map some

/-- `vector_get`: nil for a negative / out-of-range index or a ragged buffer:
    `i.saturating_add(1).saturating_mul(width) <= bytes.len()` -/
def vectorGet (r : Rope) (width index : Int) : Outcome (Option Int) :=
  (checkedWidth width).bind fun w => (flat r).bind fun bytes =>
    if 0 ≤ index ∧ index < 18446744073709551616 then       -- `index.try_into().ok()` to `usize`
      let i := index.toNat
      if bytes.length % w = 0 ∧ satMul (satAdd i 1) w ≤ bytes.length then (lane bytes w i).map some
      else .ok none
    else .ok none

/-- `vector_push`: nil when the value does not fit the lane or the buffer is ragged -/
def vectorPush (r : Rope) (width value : Int) : Outcome (Option Rope) :=
  (checkedWidth width).bind fun w =>
    if FitsI64 value ∧ fits w value then                    -- `value.try_into().ok().filter(fits)`
      let oldLen := r.len
      if oldLen % w ≠ 0 then .ok none
      else
        let laneRope := Rope.owned (pushLane w value)
        let appended : Outcome Rope := if oldLen = 0 then .ok laneRope else Rope.mkConcat r laneRope
        appended.bind fun a => (allocData a).map some
    else .ok none

def sumLoop (bytes : List UInt8) (w : Nat) : Nat → Nat → Int → Outcome Int
  | 0, _, acc => .ok acc
  | fuel + 1, i, acc => (lane bytes w i).bind fun x => sumLoop bytes w fuel (i + 1) (acc + x)

def vectorSum (r : Rope) (width : Int) : Outcome (Option Int) :=
  (checkedWidth width).bind fun w => (flat r).bind fun bytes =>
    if bytes.length % w ≠ 0 then .ok none
    else (sumLoop bytes w (bytes.length / w) 0 0).map some

def dotLoop (a b : List UInt8) (w : Nat) : Nat → Nat → Int → Outcome Int
  | 0, _, acc => .ok acc
  | fuel + 1, i, acc =>
    (lane a w i).bind fun x => (lane b w i).bind fun y => dotLoop a b w fuel (i + 1) (acc + x * y)

def vectorDot (a b : Rope) (width : Int) : Outcome (Option Int) :=
  (checkedWidth width).bind fun w => (flat a).bind fun av => (flat b).bind fun bv =>
    if av.length ≠ bv.length ∨ av.length % w ≠ 0 then .ok none
    else (dotLoop av bv w (av.length / w) 0 0).map some

end QM.Builtins
