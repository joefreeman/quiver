/-
Shape of the builtin signature table regenerated from the live registry
(`Generated/BuiltinSigs.lean`, written by `harness/src/bin/gen_builtins.rs` on every run) and the
model's own view of each builtin's signature. Owner: C12 (C01 may import `TSpec`/`builtinSigs`).
-/
namespace QM.Builtins

/-- `quiver_core::builtins::TypeSpec` -/
inductive TSpec where
  | integer
  | binary
  | reference
  | tuple (name : Option String) (fields : List (Option String × TSpec))
  | union (variants : List TSpec)
  | process
  | resource (name : String)
  deriving Repr, Inhabited

mutual
/-- structural equality test (kernel-reducible, so that `decide` can compare regenerated tables) -/
def TSpec.beq : TSpec → TSpec → Bool
  | .integer, .integer => true
  | .binary, .binary => true
  | .reference, .reference => true
  | .process, .process => true
  | .resource a, .resource b => a == b
  | .tuple n fs, .tuple m gs => n == m && TSpec.beqFields fs gs
  | .union vs, .union ws => TSpec.beqList vs ws
  | _, _ => false
def TSpec.beqFields : List (Option String × TSpec) → List (Option String × TSpec) → Bool
  | [], [] => true
  | (n, t) :: fs, (m, u) :: gs => n == m && TSpec.beq t u && TSpec.beqFields fs gs
  | _, _ => false
def TSpec.beqList : List TSpec → List TSpec → Bool
  | [], [] => true
  | t :: ts, u :: us => TSpec.beq t u && TSpec.beqList ts us
  | _, _ => false
end

namespace TSpec
def nil : TSpec := .tuple none []
/-- unnamed tuple of unnamed fields -/
def tup (fs : List TSpec) : TSpec := .tuple none (fs.map fun f => (none, f))
end TSpec

/-- result kinds of the modelled pure builtins -/
inductive RKind where
  | int | bin | intOrNil | binOrNil
  deriving DecidableEq, Repr

def RKind.toTSpec : RKind → TSpec
  | .int => .integer
  | .bin => .binary
  | .intOrNil => .union [.integer, .nil]
  | .binOrNil => .union [.binary, .nil]

/-- argument shapes of the modelled pure builtins -/
inductive PKind where
  | i | ii | b | bb | bi | bii | biii | biiii | bbi | bib
  deriving DecidableEq, Repr

def PKind.toTSpec : PKind → TSpec
  | .i => .integer
  | .ii => .tup [.integer, .integer]
  | .b => .binary
  | .bb => .tup [.binary, .binary]
  | .bi => .tup [.binary, .integer]
  | .bii => .tup [.binary, .integer, .integer]
  | .biii => .tup [.binary, .integer, .integer, .integer]
  | .biiii => .tup [.binary, .integer, .integer, .integer, .integer]
  | .bbi => .tup [.binary, .binary, .integer]
  | .bib => .tup [.binary, .integer, .binary]

/-- The signature the *model* gives each builtin: the argument extractor and the result wrapper
    used by `callBuiltin` (theorems `callBuiltin_result_kind`, `C12.result_inhabits_declared_spec`). -/
def modelSig : String → Option (PKind × RKind)
  | "integer_abs" | "integer_sqrt" | "integer_not" | "integer_popcount" => some (.i, .int)
  | "integer_add" | "integer_subtract" | "integer_multiply" | "integer_divide" | "integer_modulo"
  | "integer_gcd" | "integer_compare" | "integer_and" | "integer_or" | "integer_xor"
  | "integer_shift" => some (.ii, .int)
  | "binary_new" => some (.i, .bin)
  | "binary_length" | "binary_popcount" | "binary_hash32" | "binary_hash64" => some (.b, .int)
  | "binary_concat" | "binary_and" | "binary_or" | "binary_xor" => some (.bb, .bin)
  | "binary_repeat" | "binary_shift" => some (.bi, .bin)
  | "binary_not" => some (.b, .bin)
  | "binary_get" => some (.biii, .int)
  | "binary_set" => some (.biiii, .bin)
  | "binary_slice" | "binary_append" => some (.bii, .bin)
  | "binary_index" => some (.bii, .intOrNil)
  | "vector_add" | "vector_subtract" | "vector_multiply" | "vector_less_than" | "vector_equal"
  | "vector_greater_than" => some (.bbi, .binOrNil)
  | "vector_dot" => some (.bbi, .intOrNil)
  | "vector_take" => some (.bib, .binOrNil)
  | "vector_get" => some (.bii, .intOrNil)
  | "vector_push" => some (.bii, .binOrNil)
  | "vector_sum" => some (.bi, .intOrNil)
  | _ => none

end QM.Builtins
