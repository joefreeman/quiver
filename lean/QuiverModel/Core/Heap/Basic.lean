/-
M-Heap — the binary heap of one executor and its reference-count accounting.

Mirrors quiver-core/src/executor.rs (heap fields 226-246, `allocate_binary_data`,
`process_pending_free`, `retain`, `release`, the choke points `push_value` / `pop_value` /
`push_local` / `truncate_locals` / `replace_locals` / `release_orphan_locals`, `materialize`,
`cached_constant_binary`, `reachable_heap_indices`, `extract_heap_data` / `inject_heap_data`),
quiver-core/src/value.rs (`Value`, `Binary`) and quiver-core/src/process.rs (`Process`,
`SelectState`, `Frame`).

Import-free (core Lean only). Representation choices (documented, not observable):
* `stack`, `frames`, `free`, `pendingFree` are Rust `Vec`s used as stacks: the model keeps the
  *last pushed element at the head* of the list. `locals` and `mailbox` are kept in index order.
* `processes : FxHashMap<ProcessId, Process>` and `awaiting : HashMap<ProcessId, Option<Value>>`
  are association lists; `aset` replaces the first entry with the key or appends (= `insert`).
* a heap slot's `BinaryData` is `Data.owned bs` (the `Owned` constructor) or `Data.rope bs` (any
  other constructor, `bs` = its `to_vec()`); the rope algebra itself is M-Bytes (property C12).
* values are trees: `Arc` sharing of tuple payloads is invisible to `retain`/`release`, which walk
  into every tuple every time — so a slot's count is the number of *paths* from the roots.
* three ghost fields, erased by the driver (the third is `uaf`, see `State`): `transit` — handles that left a root by a *raw* move
  (`process.stack.pop()` without `release`) and are still counted (the "floating" term of `Acct`);
  `fresh` — slots handed out by `allocate` that have not been retained since (count 0 without ever
  having been queued in `pending_free`).
-/
namespace QM.Heap

abbrev Bytes := List UInt8

/-- `MAX_BINARY_SIZE` (value.rs) -/
def maxBinarySize : Nat := 16 * 1024 * 1024

/-- Content of one heap slot (`BinaryData`), abstracted to "flat or not" + its bytes. -/
inductive Data where
  | owned (bs : Bytes)
  | rope (bs : Bytes)
  deriving Repr, DecidableEq, Inhabited

/-- `BinaryData::to_vec` -/
def Data.toVec : Data → Bytes
  | .owned bs => bs
  | .rope bs => bs

/-- `value.rs::Binary` -/
inductive Bin where
  | const (i : Nat)
  | heap (i : Nat)
  deriving Repr, DecidableEq, Inhabited

/-- `value.rs::Value` -/
inductive Val where
  | int (z : Int)
  | bin (b : Bin)
  | ref (r : Nat)
  | tuple (id : Nat) (fs : List Val)
  | func (id : Nat) (caps : List Val)
  | builtin (id : Nat)
  | proc (pid fn : Nat)
  | resource (id ty : Nat)
  deriving Repr, Inhabited

namespace Val
/-- `Value::nil()` — tuple id `NIL = 0` -/
def nil : Val := .tuple 0 []
/-- `Value::ok()` — tuple id `OK = 1` -/
def ok : Val := .tuple 1 []
/-- `Value::is_nil` -/
def isNil : Val → Bool
  | .tuple 0 [] => true
  | _ => false
def heapBin (i : Nat) : Val := .bin (.heap i)
end Val

/-! ### Counting occurrences (what `retain` / `release` add and subtract) -/

mutual
/-- number of occurrences of `Binary::Heap(i)` in `v` (paths, with multiplicity) -/
def Val.count (i : Nat) : Val → Nat
  | .bin (.heap j) => if j = i then 1 else 0
  | .tuple _ fs => countList i fs
  | .func _ cs => countList i cs
  | _ => 0
def countList (i : Nat) : List Val → Nat
  | [] => 0
  | v :: vs => v.count i + countList i vs
end

mutual
/-- `collect_heap_indices` (as a list, in traversal order, with repetitions) -/
def Val.idxs : Val → List Nat
  | .bin (.heap j) => [j]
  | .tuple _ fs => idxsList fs
  | .func _ cs => idxsList cs
  | _ => []
def idxsList : List Val → List Nat
  | [] => []
  | v :: vs => v.idxs ++ idxsList vs
end

/-! ### Processes -/

/-- `process.rs::Frame` -/
structure Frame where
  fn : Nat
  localsBase : Nat
  capturesCount : Nat
  counter : Nat
  deriving Repr, Inhabited

/-- `process.rs::SelectState` -/
structure SelectState where
  frame : Nat
  instruction : Nat
  sources : List Val
  cursors : List Nat
  startTime : Option Nat
  receiving : Option (Nat × Val)
  deriving Repr, Inhabited

/-- `Option<Result<Value, Error>>` payload: errors carry no values -/
inductive Res where
  | ok (v : Val)
  | err
  deriving Repr, Inhabited

/-- `process.rs::Process` -/
structure Proc where
  stack : List Val := []
  locals : List Val := []
  frames : List Frame := []
  mailbox : List Val := []
  persistent : Bool := false
  result : Option Res := none
  selectState : Option SelectState := none
  awaiting : List (Nat × Option Val) := []
  deriving Repr, Inhabited

def Res.vals : Option Res → List Val
  | some (.ok v) => [v]
  | _ => []

def SelectState.vals (st : SelectState) : List Val :=
  st.sources ++ (match st.receiving with | some (_, m) => [m] | none => [])

def selVals : Option SelectState → List Val
  | some st => st.vals
  | none => []

def awaitingVals : List (Nat × Option Val) → List Val
  | [] => []
  | (_, some v) :: rest => v :: awaitingVals rest
  | (_, none) :: rest => awaitingVals rest

/-- every value `reachable_heap_indices` walks for one process, in its order -/
def Proc.roots (p : Proc) : List Val :=
  p.stack ++ p.locals ++ p.mailbox ++ Res.vals p.result ++ selVals p.selectState ++ awaitingVals p.awaiting

def Proc.count (i : Nat) (p : Proc) : Nat := countList i p.roots

/-! ### Association lists (`HashMap` keyed by process id) -/

def aget {α : Type} : List (Nat × α) → Nat → Option α
  | [], _ => none
  | (k', v) :: m, k => if k' = k then some v else aget m k

/-- `HashMap::insert`: replace the entry with key `k`, or add one -/
def aset {α : Type} : List (Nat × α) → Nat → α → List (Nat × α)
  | [], k, v => [(k, v)]
  | (k', v') :: m, k, v => if k' = k then (k, v) :: m else (k', v') :: aset m k v

/-! ### Executor state (heap part + roots) -/

structure State where
  heap : Array Data := #[]
  refcounts : Array Nat := #[]
  /-- reuse pool (`Vec`, head = last pushed = next popped) -/
  free : List Nat := []
  /-- deferred frees (`Vec`, head = last pushed = next popped) -/
  pendingFree : List Nat := []
  freed : Array Bool := #[]
  constantBinaries : Array (Option Bin) := #[]
  procs : List (Nat × Proc) := []
  /-- ghost: handles moved out of a root by a raw `pop`, still counted ("floating") -/
  transit : List Val := []
  /-- ghost: slots allocated and not retained since -/
  fresh : List Nat := []
  /-- ghost: one of the debug assertions of the heap would have fired (`retain` / `release` /
  `get_binary_data` / `materialize` of a freed slot — "use-after-free" — or a `release` underflow) -/
  uaf : Bool := false
  deriving Repr, Inhabited

/-- `Executor::new`: everything empty -/
def State.init : State := {}

namespace State

def rc (s : State) (i : Nat) : Nat := s.refcounts.getD i 0
def isFreed (s : State) (i : Nat) : Bool := s.freed.getD i false
def bytesAt (s : State) (i : Nat) : Bytes := (s.heap.getD i (.owned [])).toVec

def getProc (s : State) (pid : Nat) : Option Proc := aget s.procs pid
def setProc (s : State) (pid : Nat) (p : Proc) : State := { s with procs := aset s.procs pid p }

def procsCount (i : Nat) : List (Nat × Proc) → Nat
  | [] => 0
  | (_, p) :: rest => p.count i + procsCount i rest

def constCountL (i : Nat) : List (Option Bin) → Nat
  | [] => 0
  | some (.heap j) :: rest => (if j = i then 1 else 0) + constCountL i rest
  | _ :: rest => constCountL i rest

/-- occurrences of slot `i` in the constant-binary cache (a root) -/
def constCount (s : State) (i : Nat) : Nat := constCountL i s.constantBinaries.toList

/-- occurrences of `Binary::Heap(i)` reachable from the roots of every
process and from the constant cache, counted as `retain` counts them (one per path) -/
def countRefs (s : State) (i : Nat) : Nat := procsCount i s.procs + s.constCount i

/-- occurrences in handles that are in transit but still counted -/
def floating (s : State) (i : Nat) : Nat := countList i s.transit

def procsIdxs : List (Nat × Proc) → List Nat
  | [] => []
  | (_, p) :: rest => idxsList p.roots ++ procsIdxs rest

def constIdxs : List (Option Bin) → List Nat
  | [] => []
  | some (.heap j) :: rest => j :: constIdxs rest
  | _ :: rest => constIdxs rest

/-- `reachable_heap_indices` (as a list) -/
def reachable (s : State) : List Nat := procsIdxs s.procs ++ constIdxs s.constantBinaries.toList

end State

/-! ### `allocate_binary_data`, `process_pending_free`, `retain`, `release` -/

def Data.len (d : Data) : Nat := d.toVec.length

/-- `allocate_binary_data`: reuse the most recently freed slot if any, else grow. The slot starts
at count 0. `none` = `InvalidArgument` (size limit), state unchanged. -/
def allocate (s : State) (d : Data) : Option Nat × State :=
  if d.len > maxBinarySize then (none, s)
  else match s.free with
    | index :: rest =>
      (some index, { s with heap := s.heap.setIfInBounds index d,
                            refcounts := s.refcounts.setIfInBounds index 0,
                            freed := s.freed.setIfInBounds index false,
                            free := rest,
                            fresh := index :: s.fresh })
    | [] =>
      let index := s.heap.size
      (some index, { s with heap := s.heap.push d,
                            refcounts := s.refcounts.push 0,
                            freed := s.freed.push false,
                            fresh := index :: s.fresh })

/-- one iteration of the `while let Some(index) = pending_free.pop()` loop -/
def freeOne (s : State) (index : Nat) : State :=
  if s.rc index = 0 ∧ s.isFreed index = false then
    { s with heap := s.heap.setIfInBounds index (.owned []),
             freed := s.freed.setIfInBounds index true,
             free := index :: s.free }
  else s

def freeAll (s : State) : List Nat → State
  | [] => s
  | index :: rest => freeAll (freeOne s index) rest

/-- `process_pending_free` -/
def processPendingFree (s : State) : State :=
  freeAll { s with pendingFree := [] } s.pendingFree

def retainIdx (s : State) (idx : Nat) : State :=
  { s with refcounts := s.refcounts.modify idx (· + 1), fresh := s.fresh.filter (· != idx),
           uaf := s.uaf || s.isFreed idx }

/-- leaf case of `release`: `saturating_sub(1)`, queue the slot when it reaches 0 -/
def releaseIdx (s : State) (idx : Nat) : State :=
  let c := s.rc idx - 1
  { s with refcounts := s.refcounts.setIfInBounds idx c,
           pendingFree := if c = 0 then idx :: s.pendingFree else s.pendingFree,
           uaf := s.uaf || s.isFreed idx || s.rc idx == 0 }

mutual
/-- `retain` (deep) -/
def retain (s : State) : Val → State
  | .bin (.heap idx) => retainIdx s idx
  | .tuple _ fs => retainList s fs
  | .func _ cs => retainList s cs
  | _ => s
def retainList (s : State) : List Val → State
  | [] => s
  | v :: vs => retainList (retain s v) vs
end

mutual
/-- `release` (deep) -/
def release (s : State) : Val → State
  | .bin (.heap idx) => releaseIdx s idx
  | .tuple _ fs => releaseList s fs
  | .func _ cs => releaseList s cs
  | _ => s
def releaseList (s : State) : List Val → State
  | [] => s
  | v :: vs => releaseList (release s v) vs
end

/-- `get_binary_data` on every binary of `v` (what a builtin may read of its argument): the debug
assertion "access of freed heap slot" -/
def noteAccess (s : State) (v : Val) : State :=
  { s with uaf := s.uaf || v.idxs.any s.isFreed }

/-! ### Choke points. The Rust functions take `proc: &mut Process` (the running process, always
present); the model addresses it by id and leaves the state unchanged if the id is unknown. -/

/-- `push_value` -/
def pushValue (s : State) (pid : Nat) (v : Val) : State :=
  match s.getProc pid with
  | some p => (retain s v).setProc pid { p with stack := v :: p.stack }
  | none => s

/-- `pop_value` -/
def popValue (s : State) (pid : Nat) : Option Val × State :=
  match s.getProc pid with
  | some p =>
    match p.stack with
    | v :: rest => (some v, release (s.setProc pid { p with stack := rest }) v)
    | [] => (none, s)
  | none => (none, s)

/-- `push_local` -/
def pushLocal (s : State) (pid : Nat) (v : Val) : State :=
  match s.getProc pid with
  | some p => (retain s v).setProc pid { p with locals := p.locals ++ [v] }
  | none => s

/-- `truncate_locals` / `truncate_locals_pid` -/
def truncateLocals (s : State) (pid : Nat) (len : Nat) : State :=
  match s.getProc pid with
  | some p =>
    if p.locals.length > len then
      releaseList (s.setProc pid { p with locals := p.locals.take len }) (p.locals.drop len)
    else s
  | none => s

/-- `replace_locals`: retain the incoming bindings, swap, release the outgoing ones -/
def replaceLocals (s : State) (pid : Nat) (newLocals : List Val) : Bool × State :=
  match s.getProc pid with
  | none => (false, s)
  | some p =>
    (true, releaseList ((retainList s newLocals).setProc pid { p with locals := newLocals }) p.locals)

/-- the `iter_mut().enumerate()` loop of `release_orphan_locals`: returns (new locals, orphans) -/
def splitOrphans (keep : List Nat) : Nat → List Val → List Val × List Val
  | _, [] => ([], [])
  | index, v :: rest =>
    let (ls, os) := splitOrphans keep (index + 1) rest
    if keep.contains index then (v :: ls, os) else (Val.nil :: ls, v :: os)

/-- `release_orphan_locals` -/
def releaseOrphanLocals (s : State) (pid : Nat) (keep : List Nat) : Bool × State :=
  match s.getProc pid with
  | none => (false, s)
  | some p =>
    let (ls, os) := splitOrphans keep 0 p.locals
    (true, releaseList (s.setProc pid { p with locals := ls }) os)

/-- `materialize` on a heap binary: flatten in place; returns the bytes (without the assertion) -/
def materializeCore (s : State) (index : Nat) : Bytes × State :=
  match s.heap[index]? with
  | some (.owned bs) => (bs, s)
  | some (.rope bs) => (bs, { s with heap := s.heap.setIfInBounds index (.owned bs) })
  | none => ([], s)

/-- `materialize` with its debug assertion ("materialize of freed heap slot") -/
def materialize (s : State) (index : Nat) : Bytes × State :=
  ((materializeCore s index).1, { (materializeCore s index).2 with uaf := s.uaf || s.isFreed index })

/-- `Vec::resize(index + 1, None)` when `len <= index` -/
def resizeCache (c : Array (Option Bin)) (index : Nat) : Array (Option Bin) :=
  if c.size ≤ index then c ++ Array.replicate (index + 1 - c.size) none else c

/-- `cached_constant_binary`; `bytes` = `constants[index]` if it is a binary constant
(`none` → `ConstantUndefined`) -/
def cachedConstantBinary (s : State) (index : Nat) (bytes : Option Bytes) : Option Bin × State :=
  match s.constantBinaries[index]? with
  | some (some b) => (some b, s)
  | _ =>
    match bytes with
    | none => (none, s)
    | some bs =>
      match allocate s (.owned bs) with
      | (none, s) => (none, s)
      | (some idx, s) =>
        let s := { s with constantBinaries := (resizeCache s.constantBinaries index).setIfInBounds index (some (.heap idx)) }
        (some (.heap idx), retain s (.bin (.heap idx)))

/-! ### Cross-process transfer by copy -/

/-- insertion into a sorted, duplicate-free list: the step of `sortDedup` (`indices_vec`) -/
def insertSorted (x : Nat) : List Nat → List Nat
  | [] => [x]
  | y :: ys => if x < y then x :: y :: ys else if x = y then y :: ys else y :: insertSorted x ys

def sortDedup (xs : List Nat) : List Nat := xs.foldr insertSorted []

def indexOf (x : Nat) : List Nat → Option Nat
  | [] => none
  | y :: ys => if x = y then some 0 else (indexOf x ys).map (· + 1)

mutual
/-- `remap_heap_indices` with the map as a function; `none` = "index not in mapping" -/
def remap (f : Nat → Option Nat) : Val → Option Val
  | .bin (.heap j) => (f j).map (fun k => .bin (.heap k))
  | .tuple id fs => (remapList f fs).map (.tuple id)
  | .func id cs => (remapList f cs).map (.func id)
  | v => some v
def remapList (f : Nat → Option Nat) : List Val → Option (List Val)
  | [] => some []
  | v :: vs =>
    match remap f v, remapList f vs with
    | some v', some vs' => some (v' :: vs')
    | _, _ => none
end

/-- `extract_heap_data`: compact copy of the referenced slots + the value re-indexed into it -/
def extractHeapData (s : State) (v : Val) : Option (Val × List Bytes) :=
  let indices := sortDedup v.idxs
  if indices.all (· < s.heap.size) then
    (remap (fun j => indexOf j indices) v).map (fun v' => (v', indices.map s.bytesAt))
  else none

/-- allocate a list of slot contents in order; returns the new slot of every entry
(`none` = one allocation failed with `InvalidArgument`; the earlier ones stay allocated) -/
def allocMany (s : State) : List Data → Option (List Nat) × State
  | [] => (some [], s)
  | d :: rest =>
    match allocate s d with
    | (none, s) => (none, s)
    | (some idx, s) =>
      match allocMany s rest with
      | (some idxs, s) => (some (idx :: idxs), s)
      | (none, s) => (none, s)

/-- the allocation loop of `inject_heap_data` (`allocate_binary(bytes.clone())` per entry) -/
def allocAll (s : State) (heapData : List Bytes) : Option (List Nat) × State :=
  allocMany s (heapData.map Data.owned)

/-- `inject_heap_data` -/
def injectHeapData (s : State) (v : Val) (heapData : List Bytes) : Option Val × State :=
  match allocAll s heapData with
  | (none, s) => (none, s)
  | (some idxs, s) => (remap (fun j => idxs[j]?) v, s)

/-! ### Structural reading of a value against a heap (`erase`: slot numbers → bytes) -/

/-- structural values: binaries by content -/
inductive SVal where
  | int (z : Int)
  | bytes (bs : Bytes)
  | constBin (i : Nat)
  | ref (r : Nat)
  | tuple (id : Nat) (fs : List SVal)
  | func (id : Nat) (caps : List SVal)
  | builtin (id : Nat)
  | proc (pid fn : Nat)
  | resource (id ty : Nat)
  deriving Repr, Inhabited

mutual
def erase (look : Nat → Bytes) : Val → SVal
  | .int z => .int z
  | .bin (.heap j) => .bytes (look j)
  | .bin (.const i) => .constBin i
  | .ref r => .ref r
  | .tuple id fs => .tuple id (eraseList look fs)
  | .func id cs => .func id (eraseList look cs)
  | .builtin id => .builtin id
  | .proc p f => .proc p f
  | .resource a b => .resource a b
def eraseList (look : Nat → Bytes) : List Val → List SVal
  | [] => []
  | v :: vs => erase look v :: eraseList look vs
end

end QM.Heap
