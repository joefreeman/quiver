import QuiverModel.Core.Heap.Basic
/-
M-Heap, instruction layer: every VM instruction handler, notification handler and bookkeeping block
of quiver-core/src/executor.rs (and the three `Worker` functions that move values:
`resume_process`, `compact_locals`, the `Err` branch of `notify_result` as it was before bc74ad3) described by its
*value-movement pattern*: which values it pops, pushes, copies, retains, releases — in the order the
code does it, including what is left behind when it fails half-way. Everything that does not move
values (type tests, arithmetic, scheduling sets, the instruction counter of a jump) is either a
parameter or left out; parameters are universally quantified in the theorems.

Raw moves (`process.stack.pop()` / `.push(..)` without `release` / `retain`) go through the ghost
`transit` list so that every primitive step has a meaning for the accounting equation.
-/
namespace QM.Heap
open State

/-- `process.rs::Action` (what leaves `step` for the worker) -/
inductive Action where
  | spawn (caller fn : Nat) (captures : List Val) (argument : Val)
  | deliver (target : Nat) (value : Val)
  | await (targets : List Nat) (caller : Nat)
  | effect (pid : Nat)
  deriving Repr, Inhabited

/-- result of a handler: `Ok(None)`, `Err(_)`, `Ok(Some(action))`, or `Ok(None)` after
`mark_selecting` (the time slice ends) -/
inductive Out where
  | ok
  | fail
  | act (a : Action)
  | wait
  deriving Repr, Inhabited

/-! ### primitive steps that are not choke points -/

/-- update the frame stack of a process (no values involved) -/
def modFrames (s : State) (pid : Nat) (f : List Frame → List Frame) : State :=
  match s.getProc pid with
  | some p => s.setProc pid { p with frames := f p.frames }
  | none => s

/-- `if let Some(frame) = proc.frames.last_mut() { frame.counter += 1 }` -/
def bumpTop : List Frame → List Frame
  | f :: rest => { f with counter := f.counter + 1 } :: rest
  | [] => []

def bump (s : State) (pid : Nat) : State := modFrames s pid bumpTop

/-- `frame.counter = target` on the top frame -/
def setCounter (target : Nat) : List Frame → List Frame
  | f :: rest => { f with counter := target } :: rest
  | [] => []

/-- `*proc.frames.last_mut().unwrap() = Frame::new(..)` -/
def replaceTop (nf : Frame) : List Frame → List Frame
  | _ :: rest => nf :: rest
  | [] => []

/-- raw `process.stack.pop()`: the handle leaves the root still counted -/
def rawPop (s : State) (pid : Nat) : Option Val × State :=
  match s.getProc pid with
  | some p =>
    match p.stack with
    | v :: rest => (some v, { (s.setProc pid { p with stack := rest }) with transit := v :: s.transit })
    | [] => (none, s)
  | none => (none, s)

/-- `release(&value)` of the handle in transit at position `k`, which is then an uncounted local -/
def releaseTransit (s : State) (k : Nat) : State :=
  match s.transit[k]? with
  | some v => release { s with transit := s.transit.eraseIdx k } v
  | none => s

/-- raw `process.stack.push(value)` of the handle in transit at position `k` -/
def rawPushTransit (s : State) (pid : Nat) (k : Nat) : State :=
  match s.transit[k]?, s.getProc pid with
  | some v, some p => { (s.setProc pid { p with stack := v :: p.stack }) with transit := s.transit.eraseIdx k }
  | _, _ => s

/-- the Rust local holding the handle in transit at position `k` goes out of scope without a
`release` (an early `?` return, a `match` arm that ignores it): the handle is gone, its count stays.
Accounting-neutral only when the value mentions no heap slot. -/
def dropTransit (s : State) (k : Nat) : State := { s with transit := s.transit.eraseIdx k }

/-- raw `process.stack.push(value)` of a value built on the spot (`Value::Process(..)`) -/
def rawPush (s : State) (pid : Nat) (v : Val) : State :=
  match s.getProc pid with
  | some p => s.setProc pid { p with stack := v :: p.stack }
  | none => s

/-! ### hot instructions (`execute_hot`) -/

inductive Const where
  | int (z : Int)
  | bin (bs : Bytes)
  deriving Repr, Inhabited

/-- `handle_constant`; `c = constants.get(index)` -/
def handleConstant (s : State) (pid index : Nat) (c : Option Const) : State × Out :=
  match c with
  | none => (s, .fail)
  | some (.int z) => (bump (pushValue s pid (.int z)) pid, .ok)
  | some (.bin bs) =>
    match cachedConstantBinary s index (some bs) with
    | (none, s) => (s, .fail)
    | (some b, s) => (bump (pushValue s pid (.bin b)) pid, .ok)

/-- `handle_pop` -/
def handlePop (s : State) (pid : Nat) : State × Out :=
  match popValue s pid with
  | (none, s) => (s, .fail)
  | (some _, s) => (bump s pid, .ok)

def stackOf (s : State) (pid : Nat) : List Val :=
  match s.getProc pid with
  | some p => p.stack
  | none => []

def localsOf (s : State) (pid : Nat) : List Val :=
  match s.getProc pid with
  | some p => p.locals
  | none => []

def framesOf (s : State) (pid : Nat) : List Frame :=
  match s.getProc pid with
  | some p => p.frames
  | none => []

/-- `handle_duplicate` -/
def handleDuplicate (s : State) (pid : Nat) : State × Out :=
  match stackOf s pid with
  | v :: _ => (bump (pushValue s pid v) pid, .ok)
  | [] => (s, .fail)

/-- `handle_pick` (`n` counts from the top) -/
def handlePick (s : State) (pid n : Nat) : State × Out :=
  match (stackOf s pid)[n]? with
  | some v => (bump (pushValue s pid v) pid, .ok)
  | none => (s, .fail)

/-- `handle_rotate`: `stack.remove(len - n)` then `push` — pure reordering, no accounting.
(`n = 0` would index out of range in `Vec::remove`; the compiler never emits it: modelled as failure.) -/
def handleRotate (s : State) (pid n : Nat) : State × Out :=
  match s.getProc pid with
  | none => (s, .fail)
  | some p =>
    if n = 0 ∨ p.stack.length < n then (s, .fail)
    else
      match p.stack[n - 1]? with
      | some item => (bump (s.setProc pid { p with stack := item :: p.stack.eraseIdx (n - 1) }) pid, .ok)
      | none => (s, .fail)

/-- `handle_load` -/
def handleLoad (s : State) (pid index : Nat) : State × Out :=
  match framesOf s pid with
  | [] => (s, .fail)
  | frame :: _ =>
    match (localsOf s pid)[frame.localsBase + index]? with
    | some v => (bump (pushValue s pid v) pid, .ok)
    | none => (s, .fail)

/-- `handle_store` -/
def handleStore (s : State) (pid : Nat) : State × Out :=
  match popValue s pid with
  | (none, s) => (s, .fail)
  | (some v, s) => (bump (pushLocal s pid v) pid, .ok)

/-- `for _ in 0..n { values.push(self.pop_value(proc).ok_or(StackUnderflow)?) }`: the values in pop
order; on underflow the values popped so far have been released and are dropped -/
def popN (s : State) (pid : Nat) : Nat → Option (List Val) × State
  | 0 => (some [], s)
  | n + 1 =>
    match popValue s pid with
    | (none, s) => (none, s)
    | (some v, s) =>
      match popN s pid n with
      | (some vs, s) => (some (v :: vs), s)
      | (none, s) => (none, s)

/-- `handle_tuple`; `size = tuples.get(type_id)` -/
def handleTuple (s : State) (pid typeId : Nat) (size : Option Nat) : State × Out :=
  match size with
  | none => (s, .fail)
  | some n =>
    match popN s pid n with
    | (none, s) => (s, .fail)
    | (some vs, s) => (bump (pushValue s pid (.tuple typeId vs.reverse)) pid, .ok)

/-- `handle_get` -/
def handleGet (s : State) (pid index : Nat) : State × Out :=
  match popValue s pid with
  | (none, s) => (s, .fail)
  | (some (.tuple _ elements), s) =>
    match elements[index]? with
    | some element => (bump (pushValue s pid element) pid, .ok)
    | none => (s, .fail)
  | (some _, s) => (s, .fail)

/-- `handle_is_type`; `isMatch` is the table lookup -/
def handleIsType (s : State) (pid : Nat) (isMatch : Val → Bool) : State × Out :=
  match popValue s pid with
  | (none, s) => (s, .fail)
  | (some v, s) => (bump (pushValue s pid (if isMatch v then Val.ok else Val.nil)) pid, .ok)

/-- `handle_jump`: `counter.wrapping_add_signed(offset + 1)`; `target` is the resulting counter -/
def handleJump (s : State) (pid : Nat) (target : Nat) : State × Out :=
  (modFrames s pid (setCounter target), .ok)

/-- `handle_jump_if` -/
def handleJumpIf (s : State) (pid : Nat) (target : Nat) : State × Out :=
  match popValue s pid with
  | (none, s) => (s, .fail)
  | (some c, s) =>
    if !c.isNil then (modFrames s pid (setCounter target), .ok)
    else (bump s pid, .ok)

def pushLocals (s : State) (pid : Nat) : List Val → State
  | [] => s
  | c :: cs => pushLocals (pushLocal s pid c) pid cs

/-- what a builtin does to the heap: given its argument it allocates new slots (in this order;
`none` = it fails before allocating) and builds its result from the argument and the new slots
(`none` = `Err(_)` after the allocations). `isAction` = it returns `BuiltinResult::Action` (an effect
request) instead of a value. -/
structure BuiltinRun where
  allocs : Val → Option (List Data)
  result : Val → List Nat → Option Val
  isAction : Bool := false

/-- `handle_call`. `fnExists` = `get_function(function_index).is_some()`; `run` = the builtin
(`none` = "Unrecognised builtin"). -/
def handleCall (s : State) (pid : Nat) (fnExists : Nat → Bool) (run : Nat → Option BuiltinRun) : State × Out :=
  match stackOf s pid with
  | [] => (s, .fail)
  | .func functionIndex captures :: _ =>
    if !fnExists functionIndex then (s, .fail)
    else
      let s := (popValue s pid).2
      match popValue s pid with
      | (none, s) => (s, .fail)
      | (some parameter, s) =>
        let localsBase := (localsOf s pid).length
        let s := pushValue s pid parameter
        let s := pushLocals s pid captures
        (modFrames s pid (fun fs => ⟨functionIndex, localsBase, captures.length, 0⟩ :: fs), .ok)
  | .builtin builtinId :: _ =>
    let s := (popValue s pid).2
    match popValue s pid with
    | (none, s) => (s, .fail)
    | (some parameter, s) =>
      match run builtinId with
      | none => (s, .fail)
      | some r =>
        let s := noteAccess s parameter
        match r.allocs parameter with
        | none => (s, .fail)
        | some ds =>
        match allocMany s ds with
        | (none, s) => (s, .fail)
        | (some idxs, s) =>
          match r.result parameter idxs with
          | none => (s, .fail)
          | some value =>
            if r.isAction then (s, .act (.effect pid))
            else (bump (pushValue s pid value) pid, .ok)
  | _ :: _ => (s, .fail)

/-- `handle_tail_call` -/
def handleTailCall (s : State) (pid : Nat) (recurse : Bool) (fnExists : Nat → Bool) : State × Out :=
  if recurse then
    match popValue s pid with
    | (none, s) => (s, .fail)
    | (some argument, s) =>
      match framesOf s pid with
      | [] => (s, .fail)
      | frame :: _ =>
        let s := truncateLocals s pid (frame.localsBase + frame.capturesCount)
        let s := pushValue s pid argument
        (modFrames s pid (replaceTop ⟨frame.fn, frame.localsBase, frame.capturesCount, 0⟩), .ok)
  else
    match popValue s pid with
    | (none, s) => (s, .fail)
    | (some functionValue, s) =>
      match popValue s pid with
      | (none, s) => (s, .fail)
      | (some argument, s) =>
        match functionValue with
        | .func functionIndex captures =>
          if !fnExists functionIndex then (s, .fail)
          else
            match framesOf s pid with
            | [] => (s, .fail)
            | frame :: _ =>
              let s := truncateLocals s pid frame.localsBase
              let s := pushLocals s pid captures
              let s := pushValue s pid argument
              (modFrames s pid (replaceTop ⟨functionIndex, frame.localsBase, captures.length, 0⟩), .ok)
        | _ => (s, .fail)

/-- `handle_function`; `captureCount = get_function(function_index).map(|f| f.captures)` -/
def handleFunction (s : State) (pid functionIndex : Nat) (captureCount : Option Nat) : State × Out :=
  match captureCount with
  | none => (s, .fail)
  | some n =>
    match popN s pid n with
    | (none, s) => (s, .fail)
    | (some vs, s) => (bump (pushValue s pid (.func functionIndex vs.reverse)) pid, .ok)

/-- `handle_reset` -/
def handleReset (s : State) (pid index : Nat) : State × Out :=
  match framesOf s pid with
  | [] => (s, .fail)
  | frame :: _ =>
    let target := frame.localsBase + index
    if target > (localsOf s pid).length then (s, .fail)
    else (bump (truncateLocals s pid target) pid, .ok)

/-- `handle_builtin` -/
def handleBuiltin (s : State) (pid index : Nat) (exists_ : Bool) : State × Out :=
  if !exists_ then (s, .fail)
  else (bump (pushValue s pid (.builtin index)) pid, .ok)

/-- `handle_equal`; `eqv` = `values_equal`. The result is a verdict: `Ok` or nil (since 6e33e91 the
compared value itself is no longer pushed). (`count = 0` would index `values[0]` out of range; the
compiler never emits it: modelled as failure.) -/
def handleEqual (s : State) (pid count : Nat) (eqv : State → Val → Val → Bool) : State × Out :=
  if count > (stackOf s pid).length ∨ count = 0 then (s, .fail)
  else
    match popN s pid count with
    | (none, s) => (s, .fail)
    | (some vs, s) =>
      match vs.reverse with
      | [] => (s, .fail)
      | first :: rest =>
        let result := if (first :: rest).all (eqv s first) then Val.ok else Val.nil
        (bump (pushValue s pid result) pid, .ok)

/-- `handle_not` -/
def handleNot (s : State) (pid : Nat) : State × Out :=
  match popValue s pid with
  | (none, s) => (s, .fail)
  | (some v, s) => (bump (pushValue s pid (if v.isNil then Val.ok else Val.nil)) pid, .ok)

/-! ### `values_equal` -/

mutual
/-- `values_equal`; `canon` = `canonical_tuple`, `constBytes` = the binary constants -/
def valuesEqual (canon : Nat → Nat) (constBytes : Nat → Option Bytes) (s : State) : Val → Val → Bool
  | .int a, .int b => a == b
  | .bin (.const a), .bin (.const b) =>
    match constBytes a, constBytes b with
    | some x, some y => x == y
    | _, _ => false
  | .bin (.heap a), .bin (.heap b) =>
    match s.heap[a]?, s.heap[b]? with
    | some x, some y => x.toVec == y.toVec
    | _, _ => false
  | .bin (.const c), .bin (.heap h) =>
    match constBytes c, s.heap[h]? with
    | some x, some y => x == y.toVec
    | _, _ => false
  | .bin (.heap h), .bin (.const c) =>
    match constBytes c, s.heap[h]? with
    | some x, some y => x == y.toVec
    | _, _ => false
  | .tuple ta ea, .tuple tb eb =>
    canon ta == canon tb && ea.length == eb.length && valuesEqualList canon constBytes s ea eb
  | .func ia ca, .func ib cb =>
    ia == ib && ca.length == cb.length && valuesEqualList canon constBytes s ca cb
  | .builtin a, .builtin b => a == b
  | .proc a fa, .proc b fb => a == b && fa == fb
  | .ref a, .ref b => a == b
  | _, _ => false
def valuesEqualList (canon : Nat → Nat) (constBytes : Nat → Option Bytes) (s : State) : List Val → List Val → Bool
  | a :: as, b :: bs => valuesEqual canon constBytes s a b && valuesEqualList canon constBytes s as bs
  | _, _ => true
end

/-! ### cold instructions other than `Select` -/

def isReceiving (s : State) (pid : Nat) : Bool :=
  match s.getProc pid with
  | some p => match p.selectState with
    | some st => st.receiving.isSome
    | none => false
  | none => false

/-- `handle_spawn`: raw-pop function and argument, release both, hand them to the `Spawn` action -/
def handleSpawn (s : State) (pid : Nat) : State × Out :=
  if isReceiving s pid then (s, .fail)
  else
    match rawPop s pid with
    | (none, s) => (s, .fail)
    | (some functionValue, s) =>
      match rawPop s pid with
      | (none, s) => (dropTransit s 0, .fail)     -- `?`: the popped function value is dropped, still counted
      | (some argument, s) =>
        -- transit = [argument, functionValue]
        let s := releaseTransit s 1
        let s := releaseTransit s 0
        match functionValue with
        | .func idx caps => (s, .act (.spawn pid idx caps argument))
        | _ => (s, .fail)

/-- `handle_send` -/
def handleSend (s : State) (pid : Nat) : State × Out :=
  if isReceiving s pid then (s, .fail)
  else
    match rawPop s pid with
    | (none, s) => (s, .fail)
    | (some targetValue, s) =>
      match rawPop s pid with
      | (none, s) => (dropTransit s 0, .fail)     -- `?`: the popped target is dropped, still counted
      | (some message, s) =>
        -- transit = [message, targetValue]
        let s := releaseTransit s 0
        -- transit = [targetValue]
        match targetValue with
        | .proc targetPid _ => (bump (rawPushTransit s pid 0) pid, .act (.deliver targetPid message))
        | _ => (dropTransit s 0, .fail)

/-- `handle_self`; `startedWith = process_function_indices.get(&pid)` (since 4f13f02 the handle
names the function the process was started with); without it, the first frame's function, failing
with `FrameUnderflow` when there is no frame -/
def handleSelf (s : State) (pid : Nat) (startedWith : Option Nat) : State × Out :=
  match startedWith with
  | some index => (bump (rawPush s pid (.proc pid index)) pid, .ok)
  | none =>
    match (framesOf s pid).getLast? with
    | none => (s, .fail)
    | some first => (bump (rawPush s pid (.proc pid first.fn)) pid, .ok)

/-- `handle_process_ref` -/
def handleProcessRef (s : State) (pid processId functionIndex : Nat) : State × Out :=
  (bump (rawPush s pid (.proc processId functionIndex)) pid, .ok)

/-! ### notifications and process creation -/

/-- `spawn_process` (after fd2e22f: one injection for captures and argument together).
`functionIndex = none` creates the sleeping REPL process. -/
def spawnProcess (s : State) (id : Nat) (functionIndex : Option Nat) (captures : List Val) (argument : Val)
    (heapData : List Bytes) (persistent : Bool) : State × Out :=
  match functionIndex with
  | none => (s.setProc id { persistent := persistent, result := some (.ok Val.nil) }, .ok)
  | some fi =>
    let s := s.setProc id { persistent := persistent }
    match injectHeapData s (.tuple 0 (captures ++ [argument])) heapData with
    | (some (.tuple _ injected), s) =>
      match injected.reverse with
      | injectedArg :: revCaps =>
        let s := pushLocals s id revCaps.reverse
        let s := pushValue s id injectedArg
        (modFrames s id (fun fs => ⟨fi, 0, captures.length, 0⟩ :: fs), .ok)
      | [] => (s, .fail)
    | (_, s) => (s, .fail)

/-- `notify_spawn`: raw push of the pid value -/
def notifySpawn (s : State) (id : Nat) (spawned fn : Nat) : State :=
  bump (rawPush s id (.proc spawned fn)) id

/-- store into `awaiting`, returning the previous entry -/
def awaitingInsert (s : State) (pid target : Nat) (v : Option Val) : Option (Option Val) × State :=
  match s.getProc pid with
  | some p => (aget p.awaiting target, s.setProc pid { p with awaiting := aset p.awaiting target v })
  | none => (none, s)

/-- `notify_result` (after 795fca7 and bc74ad3): only a process that has not finished and whose
current select still awaits the target stores the result — checked *before* the injection, so an
ignored result allocates nothing; a replaced stored result is released -/
def notifyResult (s : State) (awaiter awaited : Nat) (result : Val) (heap : List Bytes) : State × Out :=
  match s.getProc awaiter with
  | none => (s, .ok)
  | some p0 =>
    if p0.result.isNone && (aget p0.awaiting awaited).isSome then
      match injectHeapData s result heap with
      | (none, s) => (s, .fail)
      | (some injected, s) =>
        match s.getProc awaiter with
        | none => (s, .ok)
        | some p =>
          let s := retain s injected
          let previous := aget p.awaiting awaited
          let s := s.setProc awaiter { p with awaiting := aset p.awaiting awaited (some injected) }
          match previous with
          | some (some old) => (release s old, .ok)
          | _ => (s, .ok)
    else (s, .ok)

/-- `notify_result` as it was before 795fca7 / bc74ad3: unconditional store, the replaced value is
not released (kept to show the theorem depends on the repair) -/
def notifyResultUnfixed (s : State) (awaiter awaited : Nat) (result : Val) (heap : List Bytes) : State × Out :=
  match injectHeapData s result heap with
  | (none, s) => (s, .fail)
  | (some injected, s) =>
    match s.getProc awaiter with
    | none => (s, .ok)
    | some p =>
      let s := retain s injected
      (s.setProc awaiter { p with awaiting := aset p.awaiting awaited (some injected) }, .ok)

/-- `notify_message` -/
def notifyMessage (s : State) (id : Nat) (message : Val) (heap : List Bytes) : State × Out :=
  match injectHeapData s message heap with
  | (none, s) => (s, .fail)
  | (some injected, s) =>
    match s.getProc id with
    | none => (s, .ok)
    | some p => ((retain s injected).setProc id { p with mailbox := p.mailbox ++ [injected] }, .ok)

/-- `notify_effect_completion`; `result = none` is the `Err(msg)` case -/
def notifyEffectCompletion (s : State) (pid : Nat) (result : Option Val) (heap : List Bytes) : State × Out :=
  match result with
  | some v =>
    match injectHeapData s v heap with
    | (none, s) => (s, .fail)
    | (some injected, s) =>
      match s.getProc pid with
      | none => (retain s injected, .fail)
      | some p => (bump ((retain s injected).setProc pid { p with stack := injected :: p.stack }) pid, .ok)
  | none =>
    match s.getProc pid with
    | none => (s, .fail)
    | some p => (s.setProc pid { p with result := some .err, frames := [] }, .ok)

/-- the `Err(error)` arm of the step loop (and, before bc74ad3, of `Worker::notify_result` and of
the completion block for every process that had ever awaited the failing one):
`process.result = Some(Err(error)); process.frames.clear()` — an *overwrite* of `result` -/
def setError (s : State) (pid : Nat) : State :=
  match s.getProc pid with
  | some p => s.setProc pid { p with result := some .err, frames := [] }
  | none => s

/-- `Worker::resume_process` (REPL): the previous result moves back onto the stack (raw) -/
def resumeProcess (s : State) (id functionIndex : Nat) : State × Out :=
  match s.getProc id with
  | none => (s, .fail)
  | some p =>
    match p.result with
    | some (.ok v) =>
      if p.persistent then
        (s.setProc id { p with result := none, stack := v :: p.stack,
                               frames := ⟨functionIndex, 0, 0, 0⟩ :: p.frames }, .ok)
      else (s, .fail)
    | _ => (s, .fail)

/-- `Worker::compact_locals` -/
def compactLocals (s : State) (pid : Nat) (keepIndices : List Nat) : State × Out :=
  match s.getProc pid with
  | none => (s, .fail)
  | some p =>
    match keepIndices.mapM (fun i => p.locals[i]?) with
    | none => (s, .fail)
    | some newLocals => ((replaceLocals s pid newLocals).2, .ok)

/-! ### the bookkeeping of `step` after the time slice -/

/-- one iteration of the auto-pop loop: pop the exhausted frame, optionally truncate locals.
`skipIncrement` is computed as in the code from the select state. -/
def popFrame (s : State) (pid : Nat) : State :=
  match s.getProc pid with
  | none => s
  | some p =>
    match p.frames with
    | [] => s
    | frame :: rest =>
      let isLast := rest.isEmpty
      let shouldClear := !p.persistent || !isLast
      let skip := match p.selectState with
        | some st =>
          st.frame == rest.length - 1 && st.instruction == (match rest with | f :: _ => f.counter | [] => 0)
        | none => false
      let rest' := if skip then rest else bumpTop rest
      let s := s.setProc pid { p with frames := rest' }
      if shouldClear then truncateLocals s pid frame.localsBase else s

/-- completion block, first part: the result value moves (raw) from the stack into `result` -/
def finish (s : State) (pid : Nat) : State × Out :=
  match s.getProc pid with
  | none => (s, .ok)
  | some p =>
    match p.result with
    | some .err => (s, .ok)
    | _ =>
      match p.stack with
      | [] => (s.setProc pid { p with result := some .err }, .fail)
      | v :: rest => (s.setProc pid { p with stack := rest, result := some (.ok v) }, .ok)

/-- the processes of this executor whose `awaiting` map has the key `pid` -/
def awaitersOf (s : State) (pid : Nat) : List Nat :=
  (s.procs.filter (fun e => (aget e.2.awaiting pid).isSome)).map (·.1)

def notifyAll (pid : Nat) (v : Val) : State → List Nat → State
  | s, [] => s
  | s, a :: rest => notifyAll pid v (notifyResult s a pid v []).1 rest

/-- completion block, second part: `notify_result(awaiter, current_pid, result_value.clone(), vec![])`
for every awaiter on the same executor (errors of the call are ignored: with an empty heap list the
injection fails for a result that holds heap binaries, which then travels through the environment
instead). A failure is recorded in `awaiting_failed` (no values; kept by the driver). -/
def notifyAwaiters (s : State) (pid : Nat) : State :=
  match s.getProc pid with
  | some p =>
    match p.result with
    | some (.ok v) => notifyAll pid v s (awaitersOf s pid)
    | _ => s
  | none => s

/-! ### the roots a finished process leaves behind (finding F17, repaired in /repo by 4dd92c6)

Before 4dd92c6 a finished process keeps everything it still roots for the life of the worker: operands
beneath the result (a tail call inside a tuple field abandons the fields built so far; an error exit
abandons the whole stack and the locals), unreceived or later-arriving messages, the select state and
awaited results of a select cut short by an error. All of it stays counted AND reachable (the
accounting equation holds), but nothing can ever use it. `finish` and `notifyMessage` above mirror that
state of the code; the functions below model the code since 4dd92c6 (`release_dead_roots`, the guarded
`notify_message`); the driver switches them on when the source under test contains `release_dead_roots`. -/

def insertStored (e : Nat × Val) : List (Nat × Val) → List (Nat × Val)
  | [] => [e]
  | x :: xs => if e.1 ≤ x.1 then e :: x :: xs else x :: insertStored e xs

/-- the stored awaited results, ordered by target (`stored.sort_by_key`) -/
def storedSorted : List (Nat × Option Val) → List (Nat × Val)
  | [] => []
  | (t, some v) :: rest => insertStored (t, v) (storedSorted rest)
  | (_, none) :: rest => storedSorted rest

/-- what `release_dead_roots` releases, in its order -/
def deadRoots (p : Proc) : List Val :=
  p.stack.reverse ++
    (if p.persistent then []
     else p.locals ++ p.mailbox ++ selVals p.selectState ++ (storedSorted p.awaiting).map (·.2))

/-- the process after `release_dead_roots` -/
def withoutDeadRoots (p : Proc) : Proc :=
  if p.persistent then { p with stack := [] }
  else { p with stack := [], locals := [], mailbox := [], selectState := none, awaiting := [] }

/-- `release_dead_roots` -/
def releaseDeadRoots (s : State) (pid : Nat) : State :=
  match s.getProc pid with
  | none => s
  | some p => releaseList (s.setProc pid (withoutDeadRoots p)) (deadRoots p)

/-- `deliverable` of the repaired `notify_message` -/
def deliverable (p : Proc) : Bool :=
  match p.result with
  | none => true
  | some (.ok _) => p.persistent
  | some .err => false

/-- the repaired `notify_message`: a message for an unknown process, or for one that has finished
and cannot be resumed, is dropped BEFORE its heap data is copied in -/
def notifyMessageGuarded (s : State) (id : Nat) (message : Val) (heap : List Bytes) : State × Out :=
  match s.getProc id with
  | some p => if deliverable p then notifyMessage s id message heap else (s, .ok)
  | none => (s, .ok)

end QM.Heap
