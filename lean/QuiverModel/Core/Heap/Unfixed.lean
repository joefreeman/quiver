import QuiverModel.Core.Heap.Select
/-
Variants of M-Heap functions as the code was BEFORE the repairs 27c635d (F7), 795fca7 (F14),
fd2e22f (F15) and bc74ad3 (F16). They are not used by the model; `Theorems/C06.lean` shows with
concrete, kernel-evaluated witnesses that each of them breaks the property — so the theorems visibly
depend on the repairs. (`callReceiveFunctionUnfixed` is in `Select.lean`, `notifyResultUnfixed` in
`Instr.lean`; the F16 variant is `setError` applied to a process that has already completed.) The
repaired transfer `transferAll` and the helper `readBins` of the F15 witness are here too.
-/
namespace QM.Heap
open State

/-- `Worker::handle_action(Action::Spawn)` before fd2e22f: every capture and the argument extracted
separately (each with compact indices starting at 0), the heap lists concatenated -/
def extractEachUnfixed (s : State) : List Val → Option (List Val × List Bytes)
  | [] => some ([], [])
  | v :: vs =>
    match extractHeapData s v, extractEachUnfixed s vs with
    | some (v', hd), some (vs', hds) => some (v' :: vs', hd ++ hds)
    | _, _ => none

/-- `spawn_process` before fd2e22f: `inject_heap_data(value, &heap_data)` once per value, each time
with the WHOLE concatenated heap -/
def injectEachUnfixed (s : State) (heapData : List Bytes) : List Val → Option (List Val) × State
  | [] => (some [], s)
  | v :: vs =>
    match injectHeapData s v heapData with
    | (none, s) => (none, s)
    | (some w, s) =>
      match injectEachUnfixed s heapData vs with
      | (some ws, s) => (some (w :: ws), s)
      | (none, s) => (none, s)

/-- the repaired transfer: one extraction and one injection for all values together -/
def transferAll (src dst : State) (vs : List Val) : Option (List Val) × State :=
  match extractHeapData src (.tuple 0 vs) with
  | some (v', hd) =>
    match injectHeapData dst v' hd with
    | (some (.tuple _ ws), s) => (some ws, s)
    | (_, s) => (none, s)
  | none => (none, dst)

def transferAllUnfixed (src dst : State) (vs : List Val) : Option (List Val) × State :=
  match extractEachUnfixed src vs with
  | some (vs', hd) => injectEachUnfixed dst hd vs'
  | none => (none, dst)

/-- the bytes the binaries among `vs` read against heap `s` -/
def readBins (s : State) (vs : List Val) : List Bytes :=
  vs.filterMap (fun v => match v with | .bin (.heap j) => some (s.bytesAt j) | _ => none)

end QM.Heap
