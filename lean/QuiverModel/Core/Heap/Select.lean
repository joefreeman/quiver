import QuiverModel.Core.Heap.Exec
/-
M-Heap, the select machinery of quiver-core/src/executor.rs (`handle_select`,
`handle_select_continuation`, `initialize_select`, `process_select_sources`,
`handle_select_process`, `handle_select_receive`, `handle_receive_result`,
`scan_mailbox_for_message`, `call_receive_function`, `complete_select`), at commit bc74ad3 and later:
the awaits of a select end with it (`complete_select` removes the `awaiting` entries of its process
sources and releases the stored results), a replaced stored result is released (795fca7), and the
message of an abandoned filter call is released (27c635d).

What does not move values is a parameter (`SelEnv`): the clock, the precomputed message/parameter
compatibility, whether a receive source is type-only, which awaited targets are known to have
failed (`awaiting_failed` holds errors only).

Every root change is written as a *move into / out of the ghost `transit` list* followed by
`release` / `retain` of the handle in transit, so that each primitive step keeps the accounting
equation; the transit positions are ghost data (only the order of the `release` calls is real, and
it is the order of the Rust code).
-/
namespace QM.Heap
open State

structure SelEnv where
  now : Nat := 0
  /-- `check_message_compatible(message, source)` -/
  compat : Val → Val → Bool := fun _ _ => true
  /-- `is_type_only`: a body-less function or any builtin -/
  typeOnly : Val → Bool := fun _ => true
  /-- `awaiting_failed.contains_key(target)` -/
  failed : Nat → Bool := fun _ => false
  fnExists : Nat → Bool := fun _ => true
  run : Nat → Option BuiltinRun := fun _ => none

/-! ### primitives -/

/-- release the first `n` handles in transit, head first -/
def releaseTransitN (s : State) : Nat → State
  | 0 => s
  | n + 1 => releaseTransitN (releaseTransit s 0) n

/-- `retain(&v)` of a handle the Rust code holds in a local; it is counted from now on. Ghost: the
handle is filed at position `k` of `transit`. -/
def retainIntoTransit (s : State) (k : Nat) (v : Val) : State :=
  { retain s v with transit := s.transit.take k ++ [v] ++ s.transit.drop k }

def isReceiveSource : Val → Bool
  | .func _ _ => true
  | .builtin _ => true
  | _ => false

def pidTargets : List Val → List Nat
  | [] => []
  | .proc p _ :: rest => p :: pidTargets rest
  | _ :: rest => pidTargets rest

def topCounter : List Frame → Nat
  | f :: _ => f.counter
  | [] => 0

/-- the loop `for target in &pid_targets { awaiting.insert(target, None) }` collecting replaced
stored results -/
def resetAwaits (aw : List (Nat × Option Val)) : List Nat → List (Nat × Option Val) × List Val
  | [] => (aw, [])
  | t :: ts =>
    let prev := aget aw t
    let r := resetAwaits (aset aw t none) ts
    (r.1, match prev with | some (some old) => old :: r.2 | _ => r.2)

def aremove {α : Type} : List (Nat × α) → Nat → List (Nat × α)
  | [], _ => []
  | (k', v) :: m, k => if k' = k then m else (k', v) :: aremove m k

/-- the loop of `complete_select` over the process sources: `awaiting.remove(target)` collecting
stored results -/
def removeAwaits (aw : List (Nat × Option Val)) : List Val → List (Nat × Option Val) × List Val
  | [] => (aw, [])
  | .proc t _ :: rest =>
    let prev := aget aw t
    let r := removeAwaits (aremove aw t) rest
    (r.1, match prev with | some (some v) => v :: r.2 | _ => r.2)
  | _ :: rest => removeAwaits aw rest

def recvList : Option (Nat × Val) → List Val
  | some (_, m) => [m]
  | none => []

/-! ### `complete_select` -/

def completeSelect (s : State) (pid : Nat) (result : Val) : State × Out :=
  match s.getProc pid with
  | none => (s, .fail)
  | some p =>
    match p.selectState with
    | some st =>
      let (aw', stored) := removeAwaits p.awaiting st.sources
      -- `select_state.take()` + `awaiting.remove(..)`: the handles leave their roots
      let s := { (s.setProc pid { p with selectState := none, awaiting := aw' }) with
                 transit := st.sources ++ recvList st.receiving ++ stored ++ s.transit }
      -- release the sources, then the in-flight message
      let s := releaseTransitN s (st.sources.length + (recvList st.receiving).length)
      -- retain the result, then release the stored values
      let s := retainIntoTransit s stored.length result
      let s := releaseTransitN s stored.length
      -- `process.stack.push(result)`
      (bump (rawPushTransit s pid 0) pid, .ok)
    | none =>
      let s := retainIntoTransit s 0 result
      (bump (rawPushTransit s pid 0) pid, .ok)

/-! ### `call_receive_function` -/

def setCursor (cs : List Nat) (i v : Nat) : List Nat := cs.set i v

/-- update of the mutable part of a select state -/
def SelectState.upd (st : SelectState) (cursors : List Nat) (receiving : Option (Nat × Val)) : SelectState :=
  { st with cursors := cursors, receiving := receiving }

/-- `call_receive_function` (after 27c635d: the abandoned message is released) -/
def callReceiveFunction (env : SelEnv) (s : State) (pid receiveIdx msgIdx : Nat) (message source : Val) :
    State × Out :=
  match s.getProc pid with
  | none => (s, .fail)
  | some p =>
    let s1 := retain s message
    match p.selectState with
    | some st =>
      -- `state.receiving.replace(..)`: the previous message (if any) leaves its root
      let st' := st.upd (setCursor st.cursors receiveIdx msgIdx) (some (receiveIdx, message))
      let s2 := { (s1.setProc pid { p with selectState := some st' }) with
                  transit := recvList st.receiving ++ s1.transit }
      let s3 := releaseTransitN s2 (recvList st.receiving).length
      let s4 := pushValue s3 pid message
      let s5 := pushValue s4 pid source
      handleCall s5 pid env.fnExists env.run
    | none =>
      -- no select state: the retained clone is never stored (cannot happen: only called from
      -- `process_select_sources`, which requires the state)
      let s2 := { s1 with transit := message :: s1.transit }
      let s4 := pushValue s2 pid message
      let s5 := pushValue s4 pid source
      handleCall s5 pid env.fnExists env.run

/-- `call_receive_function` as it was before 27c635d: `state.receiving = Some(..)` overwrites the
pending message without releasing it -/
def callReceiveFunctionUnfixed (env : SelEnv) (s : State) (pid receiveIdx msgIdx : Nat) (message source : Val) :
    State × Out :=
  match s.getProc pid with
  | none => (s, .fail)
  | some p =>
    let s1 := retain s message
    match p.selectState with
    | some st =>
      let st' := st.upd (setCursor st.cursors receiveIdx msgIdx) (some (receiveIdx, message))
      let s2 := s1.setProc pid { p with selectState := some st' }
      let s4 := pushValue s2 pid message
      let s5 := pushValue s4 pid source
      handleCall s5 pid env.fnExists env.run
    | none => (s1, .fail)

/-! ### receive sources -/

inductive SelectResult where
  | complete (v : Val)
  | calledFunction
  | continue_
  | error

/-- `mailbox.remove(msg_idx)` + `release(removed)` -/
def removeMessage (s : State) (pid msgIdx : Nat) : State :=
  match s.getProc pid with
  | none => s
  | some p =>
    match p.mailbox[msgIdx]? with
    | some m =>
      let s := { (s.setProc pid { p with mailbox := p.mailbox.eraseIdx msgIdx }) with transit := m :: s.transit }
      releaseTransit s 0
    | none => s

/-- `handle_receive_result` -/
def handleReceiveResult (s : State) (pid receiveIdx : Nat) (messageValue : Val) (receiveResult : Option Val) :
    State × Option (Option Val) :=
  match receiveResult with
  | none => (s, none)                       -- `Err(InvalidArgument)`
  | some result =>
    if !result.isNil then
      match s.getProc pid with
      | none => (s, none)
      | some p =>
        match p.selectState with
        | none => (s, none)
        | some st =>
          let msgIdx := st.cursors.getD receiveIdx 0
          (removeMessage s pid msgIdx, some (some messageValue))
    else
      match s.getProc pid with
      | none => (s, none)
      | some p =>
        match p.selectState with
        | some st =>
          -- `cursors[receive_idx] += 1; receiving.take()` + release of the held message
          let st' := st.upd (setCursor st.cursors receiveIdx (st.cursors.getD receiveIdx 0 + 1)) none
          let s := { (s.setProc pid { p with selectState := some st' }) with
                     transit := recvList st.receiving ++ s.transit }
          (releaseTransitN s (recvList st.receiving).length, some none)
        | none => (s, some none)

/-- the `for (msg_idx, message) in mailbox.iter().enumerate().skip(cursor)` loop: the first
compatible message at or after `cursor`, or the cursor after all skipped messages -/
def scanFrom (compat : Val → Bool) : Nat → List Val → Sum (Nat × Val) Nat
  | idx, [] => .inr idx
  | idx, m :: rest => if compat m then .inl (idx, m) else scanFrom compat (idx + 1) rest

/-- `scan_mailbox_for_message` -/
def scanMailboxForMessage (env : SelEnv) (s : State) (pid receiveIdx : Nat) (source : Val) (snap : SelectState) :
    State × SelectResult :=
  match s.getProc pid with
  | none => (s, .error)
  | some p =>
    let cursor := match p.selectState with
      | some st => st.cursors.getD receiveIdx 0
      | none => 0
    match scanFrom (fun m => env.compat m source) cursor (p.mailbox.drop cursor) with
    | .inl (msgIdx, message) =>
      if env.typeOnly source then (removeMessage s pid msgIdx, .complete message)
      else
        match callReceiveFunction env s pid receiveIdx msgIdx message source with
        | (s, .fail) => (s, .error)
        | (s, _) => (s, .calledFunction)
    | .inr cursor' =>
      if cursor' > snap.cursors.getD receiveIdx 0 then
        match p.selectState with
        | some st =>
          if receiveIdx < st.cursors.length then
            (s.setProc pid { p with selectState := some { st with cursors := setCursor st.cursors receiveIdx cursor' } },
             .continue_)
          else (s, .continue_)
        | none => (s, .continue_)
      else (s, .continue_)

/-- `handle_select_receive` -/
def handleSelectReceive (env : SelEnv) (s : State) (pid srcIdx : Nat) (source : Val) (snap : SelectState)
    (receiveResult : Option Val) : State × SelectResult :=
  let receiveIdx := ((snap.sources.take srcIdx).filter isReceiveSource).length
  match snap.receiving with
  | some (idx, messageValue) =>
    if idx = receiveIdx then
      match handleReceiveResult s pid receiveIdx messageValue receiveResult with
      | (s, none) => (s, .error)
      | (s, some (some value)) => (s, .complete value)
      | (s, some none) => scanMailboxForMessage env s pid receiveIdx source snap
    else scanMailboxForMessage env s pid receiveIdx source snap
  | none => scanMailboxForMessage env s pid receiveIdx source snap

/-! ### `process_select_sources` -/

/-- `handle_select_timeout`: `timeout_ms.to_i64().unwrap_or(i64::MAX).max(0) as u64` -/
def timeoutExpired (timeout : Int) (start now : Nat) : Bool :=
  let t : Nat :=
    if timeout < -9223372036854775808 ∨ timeout > 9223372036854775807 then 9223372036854775807
    else if timeout < 0 then 0 else timeout.toNat
  decide (now - start ≥ t)

def awaitedResult (s : State) (pid target : Nat) : Option Val :=
  match s.getProc pid with
  | some p => match aget p.awaiting target with
    | some (some v) => some v
    | _ => none
  | none => none

/-- the `for (src_idx, source) in select_state.sources.iter().enumerate()` loop over the snapshot -/
def processSources (env : SelEnv) (pid : Nat) (snap : SelectState) (receiveResult : Option Val) (startTime : Nat) :
    State → Nat → List Val → State × Out
  | s, _, [] => (s, .wait)        -- no source ready: `mark_selecting`
  | s, srcIdx, source :: rest =>
    match source with
    | .int timeout =>
      if timeoutExpired timeout startTime env.now then completeSelect s pid Val.nil
      else processSources env pid snap receiveResult startTime s (srcIdx + 1) rest
    | .proc target _ =>
      if env.failed target then (s, .fail)
      else
        match awaitedResult s pid target with
        | some v => completeSelect s pid v
        | none => processSources env pid snap receiveResult startTime s (srcIdx + 1) rest
    | .func _ _ | .builtin _ =>
      match handleSelectReceive env s pid srcIdx source snap receiveResult with
      | (s, .complete v) => completeSelect s pid v
      | (s, .calledFunction) => (s, .ok)
      | (s, .error) => (s, .fail)
      | (s, .continue_) => processSources env pid snap receiveResult startTime s (srcIdx + 1) rest
    | _ => (s, .fail)

/-! ### `handle_select` -/

/-- `handle_select_continuation`: `none` = error; `some none` = not a continuation;
`some (some verdict)` = the verdict of the receive function, popped raw and released -/
def handleSelectContinuation (s : State) (pid : Nat) : State × Option (Option Val) :=
  match s.getProc pid with
  | none => (s, none)
  | some p =>
    match p.selectState with
    | none => (s, some none)
    | some st =>
      if st.frame != p.frames.length - 1 || st.instruction != topCounter p.frames then (s, none)
      else if st.receiving.isSome then
        match rawPop s pid with
        | (none, s) => (s, none)
        | (some verdict, s) => (releaseTransit s 0, some (some verdict))
      else (s, some none)

/-- the sources of a select: the elements of a tuple, or the single value -/
def sourcesOf : Val → List Val
  | .tuple _ elements => elements
  | single => [single]

/-- the `SelectState` built by `initialize_select` -/
def newSelectState (p : Proc) (sources : List Val) (now : Nat) : SelectState :=
  { frame := p.frames.length - 1, instruction := topCounter p.frames, sources := sources,
    cursors := List.replicate (sources.filter isReceiveSource).length 0,
    startTime := if (pidTargets sources).isEmpty then some now else none, receiving := none }

/-- `initialize_select` -/
def initializeSelect (env : SelEnv) (s : State) (pid : Nat) : State × Out :=
  match rawPop s pid with
  | (none, s) => (s, .fail)
  | (some value, s) =>
    match s.getProc pid with
    | none => (s, .fail)
    | some p =>
      let st := newSelectState p (sourcesOf value) env.now
      let targets := pidTargets (sourcesOf value)
      if targets.isEmpty then
        -- the popped value becomes the source list (a move: same handles, same counts)
        ({ (s.setProc pid { p with selectState := some st }) with transit := s.transit.tail }, .ok)
      else
        let ra := resetAwaits p.awaiting targets
        let s := { (s.setProc pid { p with selectState := some st, awaiting := ra.1 }) with
                   transit := ra.2 ++ s.transit.tail }
        (releaseTransitN s ra.2.length, .act (.await targets pid))

/-- `handle_select` -/
def handleSelect (env : SelEnv) (s : State) (pid : Nat) : State × Out :=
  match handleSelectContinuation s pid with
  | (s, none) => (s, .fail)
  | (s, some receiveResult) =>
    match s.getProc pid with
    | none => (s, .fail)
    | some p =>
      match p.selectState with
      | none =>
        -- `receive_result.is_none()` here (a verdict implies a select state)
        initializeSelect env s pid
      | some st =>
        -- `ensure_select_start_time`
        let startTime := st.startTime.getD env.now
        let s := match st.startTime with
          | some _ => s
          | none => s.setProc pid { p with selectState := some { st with startTime := some env.now } }
        let snap : SelectState := match st.startTime with
          | some _ => st
          | none => { st with startTime := some env.now }
        processSources env pid snap receiveResult startTime s 0 snap.sources

/-- one iteration of the instruction loop of `step` on a `Select` instruction (handler + `Err` arm) -/
def stepSelect (env : SelEnv) (s : State) (pid : Nat) : State × Out :=
  match handleSelect env s pid with
  | (s, .fail) => (setError s pid, .fail)
  | r => r

/-! ### variant: a select with process sources waits for its await answers
(`notes/C05-fixes/01-select-waits-for-its-await-answer.patch`, `SelectState.unanswered`)

`unanswered` holds process ids only (no values); like `awaiting_failed` it is kept by the driver and
reaches the model as one bit: `pending` = "the current select state has an unanswered target". This is
`handle_select` of /repo since b0190c3 (`answers_pending`); `handleSelect` above is the code before it.
A select whose gate is closed evaluates NOTHING (no start time, no source, nothing consumed) and goes
back to `selecting`; only the continuation check of phase 1 has run before. With `pending = false`
this is `handleSelect`. -/

def hasSelectStateB (s : State) (pid : Nat) : Bool :=
  match s.getProc pid with
  | some p => p.selectState.isSome
  | none => false

/-- `handle_select` with the gate between phases 2 and 3 -/
def handleSelectWaiting (env : SelEnv) (pending : Bool) (s : State) (pid : Nat) : State × Out :=
  match handleSelectContinuation s pid with
  | (s1, none) => (s1, .fail)
  | (s1, some _) =>
    if pending && hasSelectStateB s1 pid then (s1, .wait)     -- `mark_selecting`, `Ok(None)`
    else handleSelect env s pid

/-- one iteration of the instruction loop on a `Select` instruction, repaired variant -/
def stepSelectWaiting (env : SelEnv) (pending : Bool) (s : State) (pid : Nat) : State × Out :=
  match handleSelectWaiting env pending s pid with
  | (s, .fail) => (setError s pid, .fail)
  | r => r

end QM.Heap
