/-
M-Parse, part 1 — the TYPE-EXPRESSION sub-language of `quiver-compiler/src/parser.rs` (the "Type
parsers" section, `type_alias`, and the tail of `program` that decides what happens to the text after
an alias) and of `quiver-compiler/src/format.rs` (the "Types" section: `render_type` & co, the
`Statement::TypeAlias` arm of `statement_doc`, `union_alias_doc`).  Core Lean only (no Mathlib).

A Rust `&str` is a `List Char` (as everywhere in M-Text); a nom `Span` is the *remaining input*, so a
nom error `Error { input, code }` is `Res.err input code` and its byte offset in the source is
`utf8Len source - utf8Len input` (`SourceSpan::from_span(e.input)`).

Rust (parser.rs)                       here
----------------                       ----
nom combinators (7.1.3, default        `pchar`, `ptag`, `alt`, `opt`, `bind`/`seq`/`before`, `pmap`,
  `nom::error::Error`: `alt` reports   `verify`, `peekNot`, `many0`, `sepList0`, `sepList1` (with nom's
  the LAST alternative's error)        "parser must consume" checks: codes `many0` / `sepList`)
ws0 / ws1 / wsc / ws_with_comments     `ws0`, `ws1`, `wsc` (= `ws_with_comments`: same language)
identifier / type_name / tuple_name    `identifier`, `typeName`, `tupleName`
resource_type(_name)                   `resourceType`
import                                 `importPath`
field_type / field_type_list           `fieldType`, `fieldTypeList`
partial_type / tuple_type              `partialType`, `tupleType`
type_parameter / self_default_type     `typeParameter`, `selfDefaultType`
module_type / type_identifier          `moduleType`, `typeIdentifier` (`identifierToType`)
type_cycle                             `typeCycle` (`usize`: `digit1` + `str::parse::<usize>`)
process_type / function_type           `processType`, `functionType`
function_input_type = _output_type     `functionIoType` (the two Rust functions have identical bodies)
base_type / intersection_type          `baseTypeWith`, `intersectionType`
type_definition                        `typeDefinitionWith`; the recursive knot is tied by fuel:
                                       `knot n`, `parseType i = (knot (i.length + 1)).td i`
type_alias                             `typeAlias`
seq_sep, tail of `program`             `seqSep`, `programVerdict`

Rust (format.rs)                       here
----------------                       ----
render_type / _atom / _union_member    `printTy`, `printAtom`, `printMember`
render_type_arguments / _tuple_type    `angle (printTys …)`, the `.tuple` clause of `printTy`
render_field_type / _process_type      `printField`, the `.proc` clauses of `printTy`
render_type_parameters                 `printParams`
statement_doc (TypeAlias arm),         `aliasDoc`, `unionAliasDoc`, `fmtAlias` (through the `Doc`
  union_alias_doc, format_program      engine of Core/Text/Doc and `collapseBlanks`/`expandLiterals`)

Recursion.  The grammar is not structurally recursive on the text, so the two recursive entry points
(`type_definition`, `base_type`) are passed around as a `Knot` and the knot is tied by a fuel counter
(`knot`).  Every recursive call happens after at least one character was consumed, hence fuel
`length + 1` always suffices (`Lemmas/Parse/Grammar.lean`: `knot_safe`, `knot_mono`); `Res.out` (fuel
exhausted) is a separate outcome, never silently mapped to an error.  The repetition combinators carry
their own counter, initialised with the input length + 1.
-/
import QuiverModel.Core.Text.Escape
namespace QM.Parse
open QM.Text (Doc utf8Len)

abbrev Str := List Char

/-! ### AST (ast.rs: `Type`, `TupleType`, `FieldType`, `FunctionType`, `UnionType`, `ProcessType`,
`PrimitiveType`; `Statement::TypeAlias`) -/

inductive Prim where
  | int | bin | ref
  deriving Repr, DecidableEq, Inhabited

mutual
inductive Ty where
  | prim (p : Prim)
  /-- `Type::Tuple(TupleType { name, fields, is_partial })` -/
  | tuple (name : Option Str) (fields : List Field) (isPartial : Bool)
  | func (input output : Ty)
  | union (types : List Ty)
  | inter (types : List Ty)
  | ident (name : Str) (args : List Ty)
  | cycle (level : Option Nat)
  | proc (recv ret : Option Ty)
  | resource (name : Str)
  | modty (module : List Str) (member : Option Str) (args : List Ty)
  | selfDefault (args : List Ty)
inductive Field where
  | field (name : Option Str) (ty : Ty)
  | spread (id : Option Str) (args : List Ty)
end

instance : Inhabited Ty := ⟨.cycle none⟩
instance : Inhabited Field := ⟨.spread none []⟩

/-- `Statement::TypeAlias { name, type_parameters, type_definition }` (spans are not modelled). -/
structure Alias where
  name : Option Str
  params : List Str
  ty : Ty

/-! ### Results -/

/-- The `nom::error::ErrorKind` codes that the type grammar can produce. -/
inductive Code where
  | char | tag | satisfy | digit | multispace | space | crlf | mapRes | verify | not | many0 | sepList | eof
  deriving Repr, DecidableEq, Inhabited

/-- `IResult<Span, α>` + fuel exhaustion. -/
inductive Res (α : Type) where
  | ok (a : α) (rest : Str)
  /-- `Err(nom::Err::Error(Error { input: pos, code }))` (the type grammar has no `Failure`) -/
  | err (pos : Str) (code : Code)
  /-- fuel exhausted (never for fuel ≥ length + 1) -/
  | out
  deriving Inhabited

abbrev P (α : Type) := Str → Res α

/-! ### Combinators (nom 7.1.3 semantics) -/

/-- sequencing with a dependent continuation: `let (rest, a) = p(input)?; q(a)(rest)` -/
@[inline] def bind {α β : Type} (p : P α) (q : α → P β) : P β := fun i =>
  match p i with
  | .ok a r => q a r
  | .err e c => .err e c
  | .out => .out

/-- `preceded(p, q)` -/
@[inline] def seq {α β : Type} (p : P α) (q : P β) : P β := bind p (fun _ => q)

/-- `terminated(p, q)` -/
@[inline] def before {α β : Type} (p : P α) (q : P β) : P α := fun i =>
  match p i with
  | .ok a r =>
    match q r with
    | .ok _ r' => .ok a r'
    | .err e c => .err e c
    | .out => .out
  | .err e c => .err e c
  | .out => .out

/-- `delimited(o, p, c)` -/
@[inline] def delimited {α β γ : Type} (o : P α) (p : P β) (c : P γ) : P β := seq o (before p c)

/-- `map(p, f)` -/
@[inline] def pmap {α β : Type} (p : P α) (f : α → β) : P β := fun i =>
  match p i with
  | .ok a r => .ok (f a) r
  | .err e c => .err e c
  | .out => .out

/-- `value((), p)` -/
@[inline] def void {α : Type} (p : P α) : P Unit := pmap p (fun _ => ())

/-- `alt((p, q))`: ordered choice; when both fail the error is `q`'s (`Error::or` keeps the later). -/
@[inline] def alt {α : Type} (p q : P α) : P α := fun i =>
  match p i with
  | .err _ _ => q i
  | r => r

/-- `opt(p)` -/
@[inline] def opt {α : Type} (p : P α) : P (Option α) := fun i =>
  match p i with
  | .ok a r => .ok (some a) r
  | .err _ _ => .ok none i
  | .out => .out

/-- `verify(p, f)`: error `Verify` at the *start* of the input. -/
@[inline] def verify {α : Type} (p : P α) (f : α → Bool) : P α := fun i =>
  match p i with
  | .ok a r => if f a then .ok a r else .err i .verify
  | .err e c => .err e c
  | .out => .out

/-- `peek(not(p))` -/
@[inline] def peekNot {α : Type} (p : P α) : P Unit := fun i =>
  match p i with
  | .ok _ _ => .err i .not
  | .err _ _ => .ok () i
  | .out => .out

/-- `char(c)` -/
def pchar (c : Char) : P Unit := fun i =>
  match i with
  | d :: r => if d = c then .ok () r else .err i .char
  | [] => .err i .char

def isPrefix : Str → Str → Bool
  | [], _ => true
  | _ :: _, [] => false
  | a :: as, b :: bs => a = b && isPrefix as bs

/-- `tag(s)` -/
def ptag (s : Str) : P Unit := fun i =>
  if isPrefix s i then .ok () (i.drop s.length) else .err i .tag

/-- The loop of `many0(p)`; the counter is initialised with `length + 1` by `many0`. -/
def many0Loop {α : Type} (p : P α) : Nat → P (List α)
  | 0, _ => .out
  | n + 1, i =>
    match p i with
    | .err _ _ => .ok [] i
    | .out => .out
    | .ok a r =>
      -- "infinite loop check: the parser must always consume"
      if r.length = i.length then .err i .many0
      else
        match many0Loop p n r with
        | .ok as r' => .ok (a :: as) r'
        | .err e c => .err e c
        | .out => .out

def many0 {α : Type} (p : P α) : P (List α) := fun i => many0Loop p (i.length + 1) i

/-- The `loop` of `separated_list0/1(sep, p)` after the first element. -/
def sepLoop {α β : Type} (sep : P β) (p : P α) : Nat → P (List α)
  | 0, _ => .out
  | n + 1, i =>
    match sep i with
    | .err _ _ => .ok [] i
    | .out => .out
    | .ok _ i1 =>
      if i1.length = i.length then .err i1 .sepList
      else
        match p i1 with
        | .err _ _ => .ok [] i
        | .out => .out
        | .ok a i2 =>
          match sepLoop sep p n i2 with
          | .ok as r' => .ok (a :: as) r'
          | .err e c => .err e c
          | .out => .out

/-- `separated_list1(sep, p)` -/
def sepList1 {α β : Type} (sep : P β) (p : P α) : P (List α) := fun i =>
  match p i with
  | .ok a r =>
    match sepLoop sep p (r.length + 1) r with
    | .ok as r' => .ok (a :: as) r'
    | .err e c => .err e c
    | .out => .out
  | .err e c => .err e c
  | .out => .out

/-- `separated_list0(sep, p)` -/
def sepList0 {α β : Type} (sep : P β) (p : P α) : P (List α) := fun i =>
  match p i with
  | .ok a r =>
    match sepLoop sep p (r.length + 1) r with
    | .ok as r' => .ok (a :: as) r'
    | .err e c => .err e c
    | .out => .out
  | .err _ _ => .ok [] i
  | .out => .out

/-! ### Character classes and lexical parsers -/

def isLower (c : Char) : Bool := 97 ≤ c.toNat && c.toNat ≤ 122
def isUpper (c : Char) : Bool := 65 ≤ c.toNat && c.toNat ≤ 90
def isDigit (c : Char) : Bool := 48 ≤ c.toNat && c.toNat ≤ 57
/-- `c.is_ascii_alphanumeric() || c == '_'` -/
def isIdentBody (c : Char) : Bool := isLower c || isUpper c || isDigit c || c = '_'
/-- nom `multispace`: space, tab, CR, LF -/
def isMultispace (c : Char) : Bool := c = ' ' || c = '\t' || c = '\r' || c = '\n'
/-- nom `space`: space, tab -/
def isHspace (c : Char) : Bool := c = ' ' || c = '\t'

/-- `ws0` = `multispace0` -/
def ws0 : P Unit := fun i => .ok () (i.dropWhile isMultispace)

/-- `ws1` = `multispace1` -/
def ws1 : P Unit := fun i =>
  match i with
  | c :: r => if isMultispace c then .ok () (r.dropWhile isMultispace) else .err i .multispace
  | [] => .err i .multispace

/-- What `wsc` / `ws_with_comments` skip: whitespace and `//` comments (a comment ends before `\n` or
    `\r`, which the next round of `multispace1` then consumes). `inComment` = inside a comment. -/
def skipWsc (inComment : Bool) : Str → Str
  | [] => []
  | c :: r =>
    if inComment then
      if c = '\n' || c = '\r' then skipWsc false r else skipWsc true r
    else if isMultispace c then skipWsc false r
    else
      match c, r with
      | '/', '/' :: r' => skipWsc true r'
      | _, _ => c :: r

/-- `wsc` (and `ws_with_comments`): `many0(alt((multispace1, comment, preceded(multispace0, comment))))`
    — always succeeds. -/
def wsc : P Unit := fun i => .ok () (skipWsc false i)

/-- `identifier`: `[a-z][A-Za-z0-9_]*\??!?` -/
def identifier : P Str := fun i =>
  match i with
  | c :: r =>
    if isLower c then
      let body := r.takeWhile isIdentBody
      let r1 := r.dropWhile isIdentBody
      match r1 with
      | '?' :: '!' :: r3 => .ok (c :: body ++ ['?', '!']) r3
      | '?' :: r2 => .ok (c :: body ++ ['?']) r2
      | '!' :: r2 => .ok (c :: body ++ ['!']) r2
      | _ => .ok (c :: body) r1
    else .err i .satisfy
  | [] => .err i .satisfy

/-- `tuple_name` (= `resource_type_name`): `[A-Z][A-Za-z0-9_]*` -/
def tupleName : P Str := fun i =>
  match i with
  | c :: r =>
    if isUpper c then .ok (c :: r.takeWhile isIdentBody) (r.dropWhile isIdentBody)
    else .err i .satisfy
  | [] => .err i .satisfy

/-- `type_name` = `preceded(char('\''), identifier)` -/
def typeName : P Str := seq (pchar '\'') identifier

/-- `import` = `preceded(char('%'), separated_list1(char('/'), identifier))` -/
def importPath : P (List Str) := seq (pchar '%') (sepList1 (pchar '/') identifier)

def digitsVal (ds : Str) : Nat := ds.foldl (fun acc c => acc * 10 + (c.toNat - 48)) 0

/-- `map_res(digit1, |s| s.parse::<usize>())`: `MapRes` at the start when the value needs more than
    64 bits. -/
def usize : P Nat := fun i =>
  let ds := i.takeWhile isDigit
  if ds.isEmpty then .err i .digit
  else if digitsVal ds < 2 ^ 64 then .ok (digitsVal ds) (i.dropWhile isDigit)
  else .err i .mapRes

/-! ### The type grammar -/

/-- The two recursive entry points. -/
structure Knot where
  /-- `type_definition` -/
  td : P Ty
  /-- `base_type` -/
  bt : P Ty

/-- `tuple((ws0, char(','), ws0))` -/
def commaWs0 : P Unit := seq ws0 (seq (pchar ',') ws0)
/-- `tuple((wsc, char(','), wsc))` -/
def commaWsc : P Unit := seq wsc (seq (pchar ',') wsc)
/-- `tuple((ws1, tag("->"), ws1))` -/
def arrow : P Unit := seq ws1 (seq (ptag ['-', '>']) ws1)
/-- `tuple((wsc, char(c), wsc))` -/
def barOp (c : Char) : P Unit := seq wsc (seq (pchar c) wsc)

/-- `delimited(char('<'), separated_list1(tuple((ws0, char(','), ws0)), type_definition), char('>'))` -/
def typeArgs (k : Knot) : P (List Ty) :=
  delimited (pchar '<') (sepList1 commaWs0 k.td) (pchar '>')

def optArgs (k : Knot) : P (List Ty) := pmap (opt (typeArgs k)) (fun a => a.getD [])

/-- `resource_type` -/
def resourceType : P Ty := pmap (seq (pchar '\\') tupleName) Ty.resource

/-- `field_type` -/
def fieldType (k : Knot) : P Field :=
  alt
    (seq (ptag ['.', '.', '.'])
      (pmap (opt (bind typeName fun id => pmap (opt (typeArgs k)) fun a => (id, a)))
        fun
          | some (id, a) => Field.spread (some id) (a.getD [])
          | none => Field.spread none []))
  (alt
    (bind identifier fun n => seq (pchar ':') (seq ws1 (pmap k.td fun t => Field.field (some n) t)))
    (pmap k.td fun t => Field.field none t))

/-- `field_type_list` -/
def fieldTypeList (k : Knot) : P (List Field) :=
  before (sepList0 commaWsc (fieldType k)) (opt (seq wsc (pchar ',')))

/-- `delimited(pair(char(o), wsc), field_type_list, pair(wsc, char(c)))` -/
def fieldsIn (o c : Char) (k : Knot) : P (List Field) :=
  delimited (seq (pchar o) wsc) (fieldTypeList k) (seq wsc (pchar c))

def Field.isNamed : Field → Bool
  | .field (some _) _ => true
  | _ => false

def Field.isSpread : Field → Bool
  | .spread _ _ => true
  | _ => false

/-- `partial_type` -/
def partialType (k : Knot) : P Ty :=
  alt
    (bind tupleName fun n => pmap (fieldsIn '(' ')' k) fun fs => Ty.tuple (some n) fs true)
    (verify (pmap (fieldsIn '(' ')' k) fun fs => Ty.tuple none fs true)
      fun
        | .tuple _ fs _ => fs.isEmpty || fs.any Field.isNamed
        | _ => false)

/-- the closure of the `'alias[...]` arm: bare `...` becomes `...'alias` -/
def Field.inheritSpread (id : Str) : Field → Field
  | .spread none args => .spread (some id) args
  | f => f

/-- `tuple_type` -/
def tupleType (k : Knot) : P Ty :=
  alt
    (bind tupleName fun n => pmap (fieldsIn '[' ']' k) fun fs => Ty.tuple (some n) fs false)
  (alt
    (verify
      (bind typeName fun id => pmap (fieldsIn '[' ']' k) fun fs =>
        Ty.tuple (some id) (fs.map (Field.inheritSpread id)) false)
      fun
        | .tuple _ fs _ => fs.any Field.isSpread
        | _ => false)
  (alt
    (pmap (fieldsIn '[' ']' k) fun fs => Ty.tuple none fs false)
    (bind tupleName fun n => pmap (peekNot (seq ws0 (pchar '('))) fun _ => Ty.tuple (some n) [] false)))

/-- `type_parameter` -/
def typeParameter : P Ty :=
  pmap (delimited (pchar '<') typeName (pchar '>')) fun n => Ty.ident n []

/-- `self_default_type` -/
def selfDefaultType (k : Knot) : P Ty :=
  seq (pchar '\'') (pmap (optArgs k) Ty.selfDefault)

/-- `module_type` -/
def moduleType (k : Knot) : P Ty :=
  seq (pchar '\'')
    (bind importPath fun m =>
      bind (opt (seq (pchar '.') identifier)) fun mem =>
        pmap (optArgs k) fun a => Ty.modty m mem a)

/-- `identifier_to_type` -/
def identifierToType (n : Str) : Ty :=
  if n = ['i', 'n', 't'] then .prim .int
  else if n = ['b', 'i', 'n'] then .prim .bin
  else if n = ['r', 'e', 'f'] then .prim .ref
  else .ident n []

/-- `type_identifier` -/
def typeIdentifier (k : Knot) : P Ty :=
  bind typeName fun n => pmap (opt (typeArgs k)) fun
    | none => identifierToType n
    | some a => Ty.ident n a

/-- `type_cycle` -/
def typeCycle : P Ty := seq (pchar '^') (pmap (opt usize) Ty.cycle)

/-- `process_type` -/
def processType (k : Knot) : P Ty :=
  alt
    (delimited (pchar '(')
      (alt
        (pmap (seq (seq (pchar '@') (seq ws0 (seq (ptag ['-', '>']) ws1))) k.bt)
          fun r => Ty.proc none (some r))
        (seq (pchar '@')
          (bind k.bt fun a => seq arrow (pmap k.bt fun r => Ty.proc (some a) (some r)))))
      (pchar ')'))
    (seq (pchar '@') (pmap (opt k.bt) fun a => Ty.proc a none))

/-- `delimited(pair(char('('), ws0), type_definition, pair(ws0, char(')')))` -/
def groupType (k : Knot) : P Ty :=
  delimited (seq (pchar '(') ws0) k.td (seq ws0 (pchar ')'))

/-- `function_input_type` and `function_output_type` (identical bodies) -/
def functionIoType (k : Knot) : P Ty :=
  alt (partialType k)
  (alt (groupType k)
  (alt (tupleType k)
  (alt resourceType
  (alt typeCycle
  (alt (processType k)
  (alt (moduleType k)
  (alt (typeIdentifier k)
       (selfDefaultType k))))))))

/-- `function_type` -/
def functionType (k : Knot) : P Ty :=
  seq (pchar '#')
    (bind (functionIoType k) fun a => seq arrow (pmap (functionIoType k) fun b => Ty.func a b))

/-- `base_type` -/
def baseTypeWith (k : Knot) : P Ty :=
  alt (tupleType k)
  (alt (partialType k)
  (alt resourceType
  (alt typeCycle
  (alt (processType k)
  (alt typeParameter
  (alt (moduleType k)
  (alt (groupType k)
  (alt (typeIdentifier k)
       (selfDefaultType k)))))))))

/-- `intersection_type`, over a given `base_type` -/
def intersectionType (bt : P Ty) : P Ty :=
  bind bt fun first =>
    pmap (many0 (seq (barOp '&') bt)) fun rest =>
      if rest.isEmpty then first else Ty.inter (first :: rest)

/-- `type_definition`, over the knot (function types) and a given `base_type` -/
def typeDefinitionWith (k : Knot) (bt : P Ty) : P Ty :=
  alt (functionType k)
    (seq (opt (barOp '|'))
      (bind (intersectionType bt) fun first =>
        pmap (many0 (seq (barOp '|') (intersectionType bt))) fun rest =>
          if rest.isEmpty then first else Ty.union (first :: rest)))

/-! ### The left-factored grammar (repair of C18-F1: /repo 33df1c7 + notes/C18-fixes/03) — the model of
/repo from 33df1c7 up to 1d93429 (the code itself is the grammar `knotG` further down); the alternatives above (`partialType`, `processType`, `groupType` inside `baseTypeWith` /
`functionIoType`) are the grammar before the repair and stay as the other side of the equality

`base_type`, `function_input_type` and `function_output_type` hand every `(`-headed type to ONE
function that reads the field list once and decides afterwards (partial type / parenthesised process
form / grouping). `Theorems/C18Types.lean: partial_or_group_factored_eq` proves that this grammar and
the one above are the same function of the input. The Rust function shares the one parse between
the three decisions; the model recomputes nothing either: `parenType` is a pure function of the
results of `parenList` and `parenProcessType`. -/

/-- `separated_list0(sep, p)` that also reports where the first element ended -/
def sepList0Pos {α β : Type} (sep : P β) (p : P α) : P (List α × Option Str) := fun i =>
  match p i with
  | .ok a r =>
    match sepLoop sep p (r.length + 1) r with
    | .ok as r' => .ok (a :: as, some r) r'
    | .err e c => .err e c
    | .out => .out
  | .err _ _ => .ok ([], none) i
  | .out => .out

/-- run `f` with the current input as an argument (`let start = input;`) -/
@[inline] def withInput {α : Type} (f : Str → P α) : P α := fun i => f i i

/-- `named_partial_type` (the first arm of `partial_type`) -/
def namedPartialType (k : Knot) : P Ty :=
  bind tupleName fun n => pmap (fieldsIn '(' ')' k) fun fs => Ty.tuple (some n) fs true

/-- `paren_process_type` (the first arm of `process_type`) -/
def parenProcessType (k : Knot) : P Ty :=
  delimited (pchar '(')
    (alt
      (pmap (seq (seq (pchar '@') (seq ws0 (seq (ptag ['-', '>']) ws1))) k.bt)
        fun r => Ty.proc none (some r))
      (seq (pchar '@')
        (bind k.bt fun a => seq arrow (pmap k.bt fun r => Ty.proc (some a) (some r)))))
    (pchar ')')

/-- `at_process_type` (the second arm of `process_type`) -/
def atProcessType (k : Knot) : P Ty := seq (pchar '@') (pmap (opt k.bt) fun a => Ty.proc a none)

/-- what `paren_type` remembers of its one parse: the fields, where the first field ended, the
    input behind `(`, the input behind `(` + whitespace and comments -/
structure ParenList where
  fields : List Field
  firstEnd : Option Str
  afterOpen : Str
  content : Str

/-- `(` `wsc` and the field list of `paren_type` -/
def parenList (k : Knot) : P ParenList :=
  seq (pchar '(') (withInput fun afterOpen =>
    seq wsc (withInput fun content =>
      pmap (sepList0Pos commaWsc (fieldType k)) fun r => ⟨r.1, r.2, afterOpen, content⟩))

/-- `preceded(opt(pair(wsc, char(','))), pair(wsc, char(')')))` -/
def closeParen : P Unit := seq (opt (seq wsc (pchar ','))) (seq wsc (pchar ')'))

def isPartialFields (fs : List Field) : Bool := fs.isEmpty || fs.any Field.isNamed

def headIs (c : Char) : Str → Bool
  | d :: _ => d = c
  | [] => false

/-- the grouping decision of `paren_type`: a single positional field, separated from the
    parentheses by whitespace only (or by comments in front of a leading `|`), no trailing comma -/
def groupDecision (i : Str) (l : Option ParenList) : Res Ty :=
  match l with
  | some ⟨[Field.field none t], some firstEnd, afterOpen, content⟩ =>
    if (afterOpen.dropWhile isMultispace).length = content.length || headIs '|' content then
      match seq ws0 (pchar ')') firstEnd with
      | .ok _ rest => .ok t rest
      | _ => .err i .verify
    else .err i .verify
  | _ => .err i .verify

/-- the decisions of `paren_type` behind the partial-type test, in the order of the alternatives of
    the caller: `base_type` tries the process form before the grouping (`groupFirst = false`),
    `function_input_type` / `function_output_type` the grouping first -/
def parenAfterPartial (groupFirst : Bool) (i : Str) (l : Option ParenList) (q : Res Ty) : Res Ty :=
  if groupFirst then
    match groupDecision i l with
    | .ok t r => .ok t r
    | _ =>
      match q with
      | .ok t r => .ok t r
      | .out => .out
      | .err _ _ => .err i .verify
  else
    match q with
    | .ok t r => .ok t r
    | .out => .out
    | .err _ _ => groupDecision i l

/-- `paren_type(input, group_before_process)` -/
def parenType (groupFirst : Bool) (k : Knot) : P Ty := fun i =>
  match parenList k i with
  | .out => .out
  | .err _ _ => parenAfterPartial groupFirst i none (parenProcessType k i)
  | .ok l position =>
    match closeParen position with
    | .ok _ rest =>
      if isPartialFields l.fields then .ok (.tuple none l.fields true) rest
      else parenAfterPartial groupFirst i (some l) (parenProcessType k i)
    | _ => parenAfterPartial groupFirst i (some l) (parenProcessType k i)

/-- the patched `function_input_type` / `function_output_type` -/
def functionIoTypeF (k : Knot) : P Ty :=
  alt (namedPartialType k)
  (alt (parenType true k)
  (alt (tupleType k)
  (alt resourceType
  (alt typeCycle
  (alt (atProcessType k)
  (alt (moduleType k)
  (alt (typeIdentifier k)
       (selfDefaultType k))))))))

def functionTypeF (k : Knot) : P Ty :=
  seq (pchar '#')
    (bind (functionIoTypeF k) fun a => seq arrow (pmap (functionIoTypeF k) fun b => Ty.func a b))

/-- the patched `base_type` -/
def baseTypeF (k : Knot) : P Ty :=
  alt (tupleType k)
  (alt (namedPartialType k)
  (alt (parenType false k)
  (alt resourceType
  (alt typeCycle
  (alt (atProcessType k)
  (alt typeParameter
  (alt (moduleType k)
  (alt (typeIdentifier k)
       (selfDefaultType k)))))))))

def typeDefinitionF (k : Knot) (bt : P Ty) : P Ty :=
  alt (functionTypeF k)
    (seq (opt (barOp '|'))
      (bind (intersectionType bt) fun first =>
        pmap (many0 (seq (barOp '|') (intersectionType bt))) fun rest =>
          if rest.isEmpty then first else Ty.union (first :: rest)))

def Knot.stepF (k : Knot) : Knot :=
  { bt := baseTypeF k, td := typeDefinitionF k (baseTypeF k) }

/-- the patched grammar with a given fuel -/
def knotF : Nat → Knot
  | 0 => { td := fun _ => .out, bt := fun _ => .out }
  | n + 1 => (knotF n).stepF

/-- the patched `type_definition(input)` -/
def parseTypeF : P Ty := fun i => (knotF (i.length + 1)).td i

/-! ### The grammar since /repo 1d93429 (repair of the fifth exponential form, notes/C18-fixes/04) — THE
MODEL OF THE CODE: as the left-factored grammar above, but the parenthesised process forms `(@-> t)` /
`(@t -> t)` are continued from the first field that `paren_type` has already read, instead of being
parsed by a separate alternative. `Theorems/C18Types.lean: receive_factored_eq` proves that it is the
same function of the input (`Lemmas/Parse/Receive.lean`). -/

/-- `paren_process_from_first` (/repo 1d93429): the parenthesised process forms `(@-> t)` /
    `(@t -> t)`, continued from the first field that `paren_type` has already read -/
def parenProcessFromFirst (k : Knot) (i : Str) (l : Option ParenList) : Res Ty :=
  match l with
  | some ⟨Field.field none (Ty.proc recv none) :: _, some firstEnd, afterOpen, _⟩ =>
    if headIs '@' afterOpen then
      match (match recv with
             | none => seq ws0 (seq (ptag ['-', '>']) ws1)
             | some _ => arrow) firstEnd with
      | .ok _ r1 =>
        match k.bt r1 with
        | .ok ret r2 =>
          match pchar ')' r2 with
          | .ok _ rest => .ok (.proc recv (some ret)) rest
          | _ => .err i .verify
        | .err _ _ => .err i .verify
        | .out => .out
      | _ => .err i .verify
    else .err i .verify
  | _ => .err i .verify

/-- `paren_type(input, group_before_process)` since 1d93429 -/
def parenTypeG (groupFirst : Bool) (k : Knot) : P Ty := fun i =>
  match parenList k i with
  | .out => .out
  | .err _ _ => parenAfterPartial groupFirst i none (.err i .verify)
  | .ok l position =>
    match closeParen position with
    | .ok _ rest =>
      if isPartialFields l.fields then .ok (.tuple none l.fields true) rest
      else parenAfterPartial groupFirst i (some l) (parenProcessFromFirst k i (some l))
    | _ => parenAfterPartial groupFirst i (some l) (parenProcessFromFirst k i (some l))

def functionIoTypeG (k : Knot) : P Ty :=
  alt (namedPartialType k)
  (alt (parenTypeG true k)
  (alt (tupleType k)
  (alt resourceType
  (alt typeCycle
  (alt (atProcessType k)
  (alt (moduleType k)
  (alt (typeIdentifier k)
       (selfDefaultType k))))))))

def functionTypeG (k : Knot) : P Ty :=
  seq (pchar '#')
    (bind (functionIoTypeG k) fun a => seq arrow (pmap (functionIoTypeG k) fun b => Ty.func a b))

def baseTypeG (k : Knot) : P Ty :=
  alt (tupleType k)
  (alt (namedPartialType k)
  (alt (parenTypeG false k)
  (alt resourceType
  (alt typeCycle
  (alt (atProcessType k)
  (alt typeParameter
  (alt (moduleType k)
  (alt (typeIdentifier k)
       (selfDefaultType k)))))))))

def typeDefinitionG (k : Knot) (bt : P Ty) : P Ty :=
  alt (functionTypeG k)
    (seq (opt (barOp '|'))
      (bind (intersectionType bt) fun first =>
        pmap (many0 (seq (barOp '|') (intersectionType bt))) fun rest =>
          if rest.isEmpty then first else Ty.union (first :: rest)))

def Knot.stepG (k : Knot) : Knot :=
  { bt := baseTypeG k, td := typeDefinitionG k (baseTypeG k) }

def knotG : Nat → Knot
  | 0 => { td := fun _ => .out, bt := fun _ => .out }
  | n + 1 => (knotG n).stepG


/-- the patched `type_definition(input)` -/
def parseTypeG : P Ty := fun i => (knotG (i.length + 1)).td i

/-- One unfolding of the grammar: the new `base_type` calls the old knot only after consuming a
    character; the new `type_definition` uses the new `base_type` at the same position. -/
def Knot.step (k : Knot) : Knot :=
  { bt := baseTypeWith k, td := typeDefinitionWith k (baseTypeWith k) }

def knot : Nat → Knot
  | 0 => { td := fun _ => .out, bt := fun _ => .out }
  | n + 1 => (knot n).step

/-- `type_definition` with a given fuel -/
def typeDefinition (fuel : Nat) : P Ty := (knot fuel).td

/-- `type_definition(input)`: fuel `length + 1` is always enough (`knot_safe`). -/
def parseType : P Ty := fun i => typeDefinition (i.length + 1) i

/-- `base_type(input)` -/
def parseBaseType : P Ty := fun i => (knot (i.length + 1)).bt i

/-- `function_input_type(input)` -/
def parseFunctionIoType : P Ty := fun i => functionIoType (knot (i.length + 1)) i

/-- the patched `base_type(input)` -/
def parseBaseTypeF : P Ty := fun i => (knotF (i.length + 1)).bt i

/-- `base_type(input)` of the code (1d93429) -/
def parseBaseTypeG : P Ty := fun i => (knotG (i.length + 1)).bt i

/-- `function_input_type(input)` of the code (1d93429) -/
def parseFunctionIoTypeG : P Ty := fun i => functionIoTypeG (knotG (i.length + 1)) i

/-- the patched `function_input_type(input)` -/
def parseFunctionIoTypeF : P Ty := fun i => functionIoTypeF (knotF (i.length + 1)) i

/-- `inline_type_expression` (a type in pattern position: `=T`, `(T)x`): a parenthesised type
    (with `wsc`, unlike the grouping of `base_type`), a module type, a type name, `'`, or a partial
    type (the unchanged `partial_type`) -/
def inlineTypeExpression (k : Knot) : P Ty :=
  alt (delimited (seq (pchar '(') wsc) k.td (seq wsc (pchar ')')))
  (alt (moduleType k)
  (alt (typeIdentifier k)
  (alt (selfDefaultType k)
       (partialType k))))

/-- `inline_type_expression(input)` -/
def parseInlineTypeF : P Ty := fun i => inlineTypeExpression (knotF (i.length + 1)) i

/-- `inline_type_expression(input)` of the code (1d93429) -/
def parseInlineTypeG : P Ty := fun i => inlineTypeExpression (knotG (i.length + 1)) i

/-- `type_alias` (over the `type_definition` of the code, which is the same function as the original
    one: `partial_or_group_factored_eq`, `receive_factored_eq`) -/
def typeAlias : P Alias :=
  bind (seq (pchar '\'') (opt identifier)) fun name =>
    bind (opt (delimited (pchar '<') (sepList1 commaWs0 typeName) (pchar '>'))) fun ps =>
      seq (seq ws0 (seq (pchar '=') ws0)) (pmap parseTypeG fun t => ⟨name, ps.getD [], t⟩)

/-! ### The tail of `program` after a leading alias

`program = delimited(ws_with_comments, terminated(separated_list0(seq_sep, top_level_item),
opt(seq_sep)), pair(ws_with_comments, eof))`, `top_level_item = alt((type_alias, sequence))`.
Only `type_alias` is modelled, so the verdict says what `parse` must return as far as that determines
it. -/

/-- `line_ending`: `\n` or `\r\n` -/
def lineEnding : P Unit := fun i =>
  match i with
  | '\n' :: r => .ok () r
  | '\r' :: '\n' :: r => .ok () r
  | _ => .err i .crlf

/-- `many0(alt((space1, comment)))`, the leading part of `seq_sep` -/
def skipHspaceComments (inComment : Bool) : Str → Str
  | [] => []
  | c :: r =>
    if inComment then
      if c = '\n' || c = '\r' then c :: r else skipHspaceComments true r
    else if isHspace c then skipHspaceComments false r
    else
      match c, r with
      | '/', '/' :: r' => skipHspaceComments true r'
      | _, _ => c :: r

/-- the trailing part of `seq_sep`: `many0(alt((multispace1, comment, char(','))))` -/
def skipSepTail (inComment : Bool) : Str → Str
  | [] => []
  | c :: r =>
    if inComment then
      if c = '\n' || c = '\r' then skipSepTail false r else skipSepTail true r
    else if isMultispace c || c = ',' then skipSepTail false r
    else
      match c, r with
      | '/', '/' :: r' => skipSepTail true r'
      | _, _ => c :: r

/-- `seq_sep` -/
def seqSep : P Unit := fun i =>
  let i1 := skipHspaceComments false i
  match alt (pchar ',') lineEnding i1 with
  | .ok _ i2 => .ok () (skipSepTail false i2)
  | .err e c => .err e c
  | .out => .out

/-- What `parse(source)` must do, as far as the alias grammar decides it. -/
inductive Verdict where
  /-- `Ok(Program { statements: [TypeAlias a] })` -/
  | aliasOnly (a : Alias)
  /-- `Err` with nom code `Eof` exactly at `pos` (nothing can follow the alias there) -/
  | aliasThenErr (a : Alias) (pos : Str)
  /-- a separator follows the alias; the next top-level item starts at `pos`: `Ok` with first
      statement `a`, or `Err` at or after `pos` -/
  | aliasThenMore (a : Alias) (pos : Str)
  /-- `type_alias` fails at the start (`sequence` decides; the result never starts with an alias) -/
  | notAlias (pos : Str) (code : Code)
  | fuelOut

/-- `program` on a source whose first item is tried as a type alias. -/
def programVerdict (source : Str) : Verdict :=
  let i0 := skipWsc false source
  match typeAlias i0 with
  | .out => .fuelOut
  | .err e c => .notAlias e c
  | .ok a rest =>
    match seqSep rest with
    | .ok _ r1 => if r1.isEmpty then .aliasOnly a else .aliasThenMore a r1
    | _ =>
      let r2 := skipWsc false rest
      if r2.isEmpty then .aliasOnly a else .aliasThenErr a r2

/-! ### The printer (format.rs, "Types") -/

def sepBy (sep : Str) : List Str → Str
  | [] => []
  | [x] => x
  | x :: xs => x ++ sep ++ sepBy sep xs

/-- Rust `{}` of a `usize` -/
def natDigits (n : Nat) : Str :=
  if h : n < 10 then [Char.ofNat (48 + n)]
  else natDigits (n / 10) ++ [Char.ofNat (48 + n % 10)]
decreasing_by omega

def startsLower : Str → Bool
  | c :: _ => isLower c
  | [] => false

/-- `matches!(name.as_str(), "int" | "bin" | "ref")` -/
def isPrimName (n : Str) : Bool :=
  n = ['i', 'n', 't'] || n = ['b', 'i', 'n'] || n = ['r', 'e', 'f']

/-- the parentheses of `render_type_atom`: around an intersection or a function type, and around the
    `<'int>` reference form (not accepted bare as a function input/output) -/
def atomWrap (t : Ty) (s : Str) : Str :=
  match t with
  | .inter _ | .func _ _ => '(' :: s ++ [')']
  | .ident n [] => if isPrimName n then '(' :: s ++ [')'] else s
  | _ => s

/-- the parentheses of `render_union_member`: around a function type -/
def memberWrap (t : Ty) (s : Str) : Str :=
  match t with
  | .func _ _ => '(' :: s ++ [')']
  | _ => s

/-- `<a, b>` for a non-empty list of rendered arguments, otherwise empty -/
def angle (xs : List Str) : Str :=
  if xs.isEmpty then [] else '<' :: sepBy [',', ' '] xs ++ ['>']

mutual
/-- `render_type` -/
def printTy : Ty → Str
  | .prim .int => ['\'', 'i', 'n', 't']
  | .prim .bin => ['\'', 'b', 'i', 'n']
  | .prim .ref => ['\'', 'r', 'e', 'f']
  | .ident n args =>
    -- a reference named like a primitive keeps the `<'…>` form (it would read back as the primitive)
    if args.isEmpty && isPrimName n then '<' :: '\'' :: n ++ ['>']
    else '\'' :: n ++ angle (printTys args)
  | .tuple name fields isPartial =>
    -- `render_tuple_type`
    let nm : Str := match name with
      | some n => if startsLower n then '\'' :: n else n
      | none => []
    match fields with
    | [] => if isPartial then nm ++ ['(', ')'] else if name.isSome then nm else ['[', ']']
    | f :: fs =>
      if isPartial then nm ++ '(' :: sepBy [',', ' '] (printFieldsL (f :: fs)) ++ [')']
      else nm ++ '[' :: sepBy [',', ' '] (printFieldsL (f :: fs)) ++ [']']
  | .func i o => '#' :: atomWrap i (printTy i) ++ [' ', '-', '>', ' '] ++ atomWrap o (printTy o)
  | .union ts => '(' :: sepBy [' ', '|', ' '] (printMembersL ts) ++ [')']
  | .inter ts => sepBy [' ', '&', ' '] (printAtomsL ts)
  | .cycle none => ['^']
  | .cycle (some n) => '^' :: natDigits n
  | .proc (some a) none => '@' :: atomWrap a (printTy a)
  | .proc none none => ['@']
  | .proc none (some r) => ['(', '@', '-', '>', ' '] ++ atomWrap r (printTy r) ++ [')']
  | .proc (some a) (some r) =>
    '(' :: '@' :: atomWrap a (printTy a) ++ [' ', '-', '>', ' '] ++ atomWrap r (printTy r) ++ [')']
  | .resource n => '\\' :: n
  | .modty m mem args =>
    '\'' :: '%' :: sepBy ['/'] m ++ (match mem with | some x => '.' :: x | none => []) ++
      angle (printTys args)
  | .selfDefault args => '\'' :: angle (printTys args)
/-- `.map(render_type)` -/
def printTys : List Ty → List Str
  | [] => []
  | t :: ts => printTy t :: printTys ts
/-- `.map(render_type_atom)` -/
def printAtomsL : List Ty → List Str
  | [] => []
  | t :: ts => atomWrap t (printTy t) :: printAtomsL ts
/-- `.map(render_union_member)` -/
def printMembersL : List Ty → List Str
  | [] => []
  | t :: ts => memberWrap t (printTy t) :: printMembersL ts
/-- `render_field_type` -/
def printField : Field → Str
  | .field (some n) t => n ++ ':' :: ' ' :: printTy t
  | .field none t => printTy t
  | .spread none _ => ['.', '.', '.']
  | .spread (some id) args => '.' :: '.' :: '.' :: '\'' :: id ++ angle (printTys args)
/-- `.map(render_field_type)` -/
def printFieldsL : List Field → List Str
  | [] => []
  | f :: fs => printField f :: printFieldsL fs
end

/-- `render_type_atom` -/
def printAtom (t : Ty) : Str := atomWrap t (printTy t)
/-- `render_union_member` -/
def printMember (t : Ty) : Str := memberWrap t (printTy t)
/-- the members of a union joined by `" | "` (a bare union, as on the right of an alias) -/
def printMembers (ts : List Ty) : Str := sepBy [' ', '|', ' '] (printMembersL ts)

/-- `render_type_parameters` -/
def printParams (ps : List Str) : Str :=
  if ps.isEmpty then [] else '<' :: sepBy [',', ' '] (ps.map ('\'' :: ·)) ++ ['>']

/-- the left-hand side of an alias: `'name<'a, 'b> =` -/
def aliasLhs (name : Option Str) (ps : List Str) : Str :=
  '\'' :: (name.getD []) ++ printParams ps ++ [' ', '=']

/-- the flat (single-line) text of an alias statement: what `statement_doc` lays out when the line
    fits (a union right-hand side is written bare, its members by `render_union_member`). -/
def printAlias (a : Alias) : Str :=
  match a.ty with
  | .union ts => aliasLhs a.name a.params ++ ' ' :: printMembers ts
  | t => aliasLhs a.name a.params ++ ' ' :: printTy t

/-- what the broken layout of a union alias puts in front of every member -/
def brkSep : Str := ['\n', ' ', ' ', '|', ' ']

/-- the members of a union alias in the broken layout (behind `'name =`) -/
def brokenMembers (ts : List Ty) : Str := (ts.map (brkSep ++ printMember ·)).flatten

/-- the broken layout of a union alias, one member per line (without the final newline):
    `'name<'a> =⏎  | m1⏎  | m2 …`. `Theorems/C18Types.lean: alias_statement_layouts`: `fmtAlias` is
    `printAlias` or this. -/
def brokenAlias (name : Option Str) (ps : List Str) (ts : List Ty) : Str :=
  aliasLhs name ps ++ brokenMembers ts

/-- the parts of `union_alias_doc`: per member a `line`, `leading_bar(index == 0)`, the member text -/
def unionAliasParts (first : Bool) : List Ty → List Doc
  | [] => []
  | t :: rest =>
    Doc.line ::
    (if first then Doc.ifBreak (.text ['|', ' ']) .nil else Doc.text ['|', ' ']) ::
    Doc.text (printMember t) :: unionAliasParts false rest

/-- `union_alias_doc` -/
def unionAliasDoc (ts : List Ty) : Doc :=
  Doc.mkGroup (.nest 2 (.concat (unionAliasParts true ts)))

/-- the `Statement::TypeAlias` arm of `statement_doc` (no trivia) -/
def aliasDoc (a : Alias) : Doc :=
  let body := match a.ty with
    | .union ts => Doc.concat [.text (aliasLhs a.name a.params), unionAliasDoc ts]
    | t => Doc.text (aliasLhs a.name a.params ++ ' ' :: printTy t)
  .concat [.nil, body, .nil]

/-- `format_program` on a program that consists of this one alias and has no trivia: layout at width
    100, `collapse_blanks`, `expand_literals` (no literals). -/
def fmtAlias (a : Alias) : Str :=
  match QM.Text.expandLiterals
      (QM.Text.collapseBlanks (QM.Text.print (Doc.join .hardline [aliasDoc a]) 100)) [] with
  | some out => out
  | none => []

/-! ### Well-formed type ASTs (what the parser can produce) -/

/-- `identifier`'s language: `[a-z][A-Za-z0-9_]*\??!?` -/
def isIdentStr : Str → Bool
  | [] => false
  | c :: r =>
    isLower c &&
      (let r1 := r.dropWhile isIdentBody
       r1 = [] || r1 = ['?'] || r1 = ['!'] || r1 = ['?', '!'])

/-- `tuple_name`'s language: `[A-Z][A-Za-z0-9_]*` -/
def isTupleNameStr : Str → Bool
  | [] => false
  | c :: r => isUpper c && r.all isIdentBody

def Field.isBareSpread : Field → Bool
  | .spread none _ => true
  | _ => false

mutual
/-- Decidable well-formedness: every AST returned by `parseType` satisfies it (`parseType_wf`), and
    every AST satisfying it is re-read from its printed form (`roundtrip`). -/
def Ty.wf : Ty → Bool
  | .prim _ => true
  | .tuple name fields isPartial =>
    Field.wfList fields &&
    (match name with
     | none => !isPartial || fields.isEmpty || fields.any Field.isNamed
     | some n =>
       isTupleNameStr n ||
         (isIdentStr n && !isPartial && fields.any Field.isSpread && !fields.any Field.isBareSpread))
  | .func i o => i.wf && o.wf
  | .union ts => decide (2 ≤ ts.length) && Ty.wfList ts
  | .inter ts => decide (2 ≤ ts.length) && Ty.wfList ts
  | .ident n args => isIdentStr n && Ty.wfList args
  | .cycle none => true
  | .cycle (some n) => decide (n < 2 ^ 64)
  | .proc a r => Ty.wfOpt a && Ty.wfOpt r
  | .resource n => isTupleNameStr n
  | .modty m mem args =>
    !m.isEmpty && m.all isIdentStr && (match mem with | some x => isIdentStr x | none => true) &&
      Ty.wfList args
  | .selfDefault args => Ty.wfList args
def Ty.wfList : List Ty → Bool
  | [] => true
  | t :: ts => t.wf && Ty.wfList ts
def Ty.wfOpt : Option Ty → Bool
  | none => true
  | some t => t.wf
def Field.wf : Field → Bool
  | .field none t => t.wf
  | .field (some n) t => isIdentStr n && t.wf
  | .spread none args => args.isEmpty
  | .spread (some id) args => isIdentStr id && Ty.wfList args
def Field.wfList : List Field → Bool
  | [] => true
  | f :: fs => f.wf && Field.wfList fs
end

/-- The well-formedness predicate of the round-trip theorems. -/
def WFType (t : Ty) : Prop := t.wf = true
instance (t : Ty) : Decidable (WFType t) := inferInstanceAs (Decidable (t.wf = true))

def Alias.wf (a : Alias) : Bool :=
  (match a.name with | some n => isIdentStr n | none => true) && a.params.all isIdentStr && a.ty.wf

end QM.Parse
