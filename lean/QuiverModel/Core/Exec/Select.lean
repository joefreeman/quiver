import QuiverModel.Core.Outcome
/-
M-Exec, part 1: the select state machine of ONE executor (quiver-core/src/executor.rs, the
`handle_select` family ≈ 2125–2710, `notify_message`, `notify_result`, `mark_*`,
`check_expired_timeouts`, `next_timeout_ms`; quiver-core/src/process.rs `SelectState`, `Process`).

What is abstract here (and concrete in other builders' models):
* a *value* is any type `V`; what a select yields is `Yield V` (`nil` = the `[]` a timeout yields);
* a receive source is `receive typeOk filter`: `typeOk` stands for `check_message_compatible`
  (the precomputed parameter-compatibility set), `filter = none` is a body-less receiver
  (`instructions.is_empty()` or a builtin: "type only"), `filter = some f` is a receiver with a body;
  `f m` is what the body leaves on the stack when run on `m` (`ret r`), or the runtime error it dies
  with (`fail e` – this includes the forbidden operations spawn / send / nested select);
* the process body around the select is abstract: the machine is driven by *events* — the Select
  instruction is executed (`handleSelect`), a message is appended (`notifyMessage`), an awaited
  result or failure arrives (`notifyResultOk` / `notifyFailure`), `mark_active`, the clock (an input of
  every call, as in `Executor::step(max_units, current_time_ms)`).

Everything else follows the Rust code branch by branch, in the same order; comments name the Rust
function being mirrored. Index panics of the Rust code (`state.cursors[receive_idx]`) are the
explicit outcome `panic`, proved unreachable under the invariant `cursors.length = #receive sources`.
-/
namespace QM.Exec

/-- What a select pushes: a message / an awaited result (`value v`) or the nil of a timeout. -/
inductive Yield (V : Type) where
  | value (v : V)
  | nil
  deriving DecidableEq, Repr, Inhabited

/-- How the body of a receive function ends when run on a message. -/
inductive FilterRes (V : Type) where
  /-- it returned `r` (left on the stack); `Yield.nil` is Quiver's `[]` -/
  | ret (r : Yield V)
  /-- it raised a runtime error: the process dies inside the filter -/
  | fail (e : ErrClass)

/-- Result of an awaited process (as the specification and the completion notifications see it). -/
inductive Res (V : Type) where
  | ok (v : V)
  | err (e : ErrClass)
  deriving DecidableEq, Repr

/-- A select source as popped from the stack (`Value::Process | Function/Builtin | Integer | other`). -/
inductive Source (V : Type) where
  | await (pid : Nat)
  | receive (typeOk : V → Bool) (filter : Option (V → FilterRes V))
  | timeout (ms : Int)
  /-- `Value::Resource` (→ TypeMismatch) or any other value (→ InvalidArgument) -/
  | invalid (e : ErrClass)

def Source.isReceive {V} : Source V → Bool
  | .receive _ _ => true
  | _ => false

/-- `process.rs::SelectState` without `frame`/`instruction` (the body is abstract, see above). -/
structure SelState (V : Type) where
  sources : List (Source V)
  cursors : List Nat
  startTime : Option Nat
  receiving : Option (Nat × V)

/-- `HashMap<ProcessId, Option<Value>>` as an association list (first match wins; `amInsert`
    removes older entries for the key, so keys stay unique). -/
abbrev AMap (α : Type) := List (Nat × α)

def amLookup {α} (k : Nat) : AMap α → Option α
  | [] => none
  | (k', v) :: rest => if k' = k then some v else amLookup k rest

def amInsert {α} (k : Nat) (v : α) (m : AMap α) : AMap α :=
  (k, v) :: m.filter (fun e => e.1 != k)

def amRemove {α} (k : Nat) (m : AMap α) : AMap α := m.filter (fun e => e.1 != k)

/-- The part of `process.rs::Process` the select machinery touches. `result = some (err e)` stands
    for `result = Some(Err(e))` with `frames` cleared (a failed process), `some (ok v)` for a
    process that finished normally. `awaitingFailed` is `Process.awaiting_failed` (fix bc74ad3: a
    failed target is a *ready source* of the current select, not an out-of-band kill). -/
structure Proc (V : Type) where
  mailbox : List V := []
  awaiting : AMap (Option V) := []
  awaitingFailed : AMap ErrClass := []
  sel : Option (SelState V) := none
  result : Option (Res V) := none

def Proc.failed {V} (p : Proc V) : Option ErrClass :=
  match p.result with
  | some (.err e) => some e
  | _ => none

/-- Outcome of one execution of the Select instruction. -/
inductive StepRes (V : Type) where
  /-- `complete_select`: state torn down, value pushed, counter advanced -/
  | completed (y : Yield V)
  /-- `SelectResult::CalledFunction`: a receive function body now runs on the `receiving` message -/
  | calledFilter
  /-- no source ready: `mark_selecting` -/
  | parked
  /-- `initialize_select` with process sources: `mark_selecting` + `Action::Await{targets}` -/
  | awaitAction (targets : List Nat)
  /-- `initialize_select` without process sources: `Ok(None)`, the instruction runs again -/
  | initialized
  /-- `Err(e)` — the error arm of `Executor::step` then fails the process -/
  | failed (e : ErrClass)
  /-- a Rust index panic (unreachable under the invariants, see `Theorems/C05`, `C15`) -/
  | panic
  deriving DecidableEq, Repr

/-! ## Timeouts: `handle_select_timeout`, and the i64 clamp of `process_select_sources` -/

def i64Max : Int := 9223372036854775807
def i64Min : Int := -9223372036854775808
def u64Max : Nat := 18446744073709551615

/-- `timeout_ms.to_i64().unwrap_or(i64::MAX)`: out of range on EITHER side becomes `i64::MAX`. -/
def toI64OrMax (ms : Int) : Int := if i64Min ≤ ms ∧ ms ≤ i64Max then ms else i64Max

/-- `timeout_ms.max(0) as u64` after the clamp: the effective duration. -/
def effDur (ms : Int) : Nat := (max (toI64OrMax ms) 0).toNat

/-- `elapsed >= timeout` with `elapsed = current_time_ms.saturating_sub(start_time)`. -/
def expired (ms : Int) (start now : Nat) : Bool := decide (effDur ms ≤ now - start)

/-! ## `initialize_select` -/

def pidTargets {V} : List (Source V) → List Nat
  | [] => []
  | .await p :: rest => p :: pidTargets rest
  | _ :: rest => pidTargets rest

def receiveCount {V} : List (Source V) → Nat
  | [] => 0
  | .receive _ _ :: rest => receiveCount rest + 1
  | _ :: rest => receiveCount rest

/-- `for target in &pid_targets { process.awaiting.insert(*target, None) }` -/
def registerAwaits {V} : List Nat → AMap (Option V) → AMap (Option V)
  | [], m => m
  | t :: rest, m => registerAwaits rest (amInsert t none m)

def initializeSelect {V} (p : Proc V) (srcs : List (Source V)) (now : Nat) : Proc V × StepRes V :=
  let targets := pidTargets srcs
  let st : SelState V :=
    { sources := srcs, cursors := List.replicate (receiveCount srcs) 0,
      startTime := if targets.isEmpty then some now else none, receiving := none }
  if targets.isEmpty then ({ p with sel := some st }, .initialized)
  else ({ p with sel := some st, awaiting := registerAwaits targets p.awaiting }, .awaitAction targets)

/-! ## The receive machinery -/

/-- The loop `for (msg_idx, message) in mailbox.iter().enumerate().skip(cursor)` of
    `scan_mailbox_for_message`, run on the remaining messages `msgs` whose first element has index
    `idx`; `cursor` is the loop-carried local. `inl (i, m)`: first type-compatible message;
    `inr c`: none, `c` = final value of the local `cursor`. -/
def scanFrom {V} (typeOk : V → Bool) : List V → Nat → Nat → Sum (Nat × V) Nat
  | [], _, cursor => .inr cursor
  | m :: rest, idx, _cursor => if typeOk m then .inl (idx, m) else scanFrom typeOk rest (idx + 1) (idx + 1)

inductive HR (V : Type) where
  | accept (m : V)
  | rejected
  | error (e : ErrClass)
  | panic

/-- `handle_receive_result`: the verdict of the receive function that just returned. -/
def handleReceiveResult {V} (mb : List V) (st : SelState V) (ridx : Nat) (m : V) :
    Option (Yield V) → List V × SelState V × HR V
  | none => (mb, st, .error .invalidArgument)
  | some (.value _) =>
    -- non-nil: accept — remove mailbox[cursors[ridx]] (if in range) and yield the *message*
    (mb.eraseIdx (st.cursors.getD ridx 0), st, .accept m)
  | some .nil =>
    -- nil: `state.cursors[receive_idx] += 1; state.receiving.take()`
    if ridx < st.cursors.length then
      (mb, { st with cursors := st.cursors.set ridx (st.cursors.getD ridx 0 + 1), receiving := none }, .rejected)
    else (mb, st, .panic)

inductive RecvRes (V : Type) where
  | complete (m : V)
  | called
  | continue_
  | error (e : ErrClass)
  | panic

/-- `scan_mailbox_for_message` (+ `call_receive_function` for a receiver with a body). `st` is the
    live state, `snapshot` the clone taken at the top of `process_select_sources`. -/
def scanMailbox {V} (mb : List V) (st snapshot : SelState V) (ridx : Nat)
    (typeOk : V → Bool) (filter : Option (V → FilterRes V)) : List V × SelState V × RecvRes V :=
  let cursor := st.cursors.getD ridx 0
  match scanFrom typeOk (mb.drop cursor) cursor cursor with
  | .inl (msgIdx, m) =>
    match filter with
    | none =>
      -- type-only receiver: `mailbox.remove(msg_idx)`, complete with the message
      (mb.eraseIdx msgIdx, st, .complete m)
    | some _ =>
      -- `call_receive_function`: `receiving.replace((receive_idx, message))` — a previously held
      -- message (a lower-priority filter whose verdict is pending) is dropped from the slot (since
      -- fix 27c635d also released); it STAYS in the mailbox and its source's cursor still points at it —
      -- then `cursors[receive_idx] = msg_idx` and the body is called.
      if ridx < st.cursors.length then
        (mb, { st with receiving := some (ridx, m), cursors := st.cursors.set ridx msgIdx }, .called)
      else (mb, st, .panic)
  | .inr cursor' =>
    -- "Update cursor to reflect all skipped messages" (`List.set` is a no-op out of range, as the
    -- guard `receive_idx < state.cursors.len()`)
    if cursor' > snapshot.cursors.getD ridx 0 then
      (mb, { st with cursors := st.cursors.set ridx cursor' }, .continue_)
    else (mb, st, .continue_)

/-- `handle_select_receive` -/
def handleSelectReceive {V} (mb : List V) (st snapshot : SelState V) (ridx : Nat)
    (typeOk : V → Bool) (filter : Option (V → FilterRes V)) (verdict : Option (Yield V)) :
    List V × SelState V × RecvRes V :=
  match snapshot.receiving with
  | some (idx, m) =>
    if idx = ridx then
      match handleReceiveResult mb st ridx m verdict with
      | (mb', st', .accept v) => (mb', st', .complete v)
      | (mb', st', .rejected) => scanMailbox mb' st' snapshot ridx typeOk filter
      | (mb', st', .error e) => (mb', st', .error e)
      | (mb', st', .panic) => (mb', st', .panic)
    else scanMailbox mb st snapshot ridx typeOk filter
  | none => scanMailbox mb st snapshot ridx typeOk filter

/-- The loop of `process_select_sources` over the remaining sources; `ridx` = number of receive
    sources before the head (`receive_idx` of `handle_select_receive`). The result `completed`
    stands for `complete_select` (the caller discards the state). -/
def scanSources {V} (aw : AMap (Option V)) (awf : AMap ErrClass) (snapshot : SelState V)
    (verdict : Option (Yield V)) (start now : Nat) :
    List (Source V) → Nat → List V → SelState V → List V × SelState V × StepRes V
  | [], _, mb, st => (mb, st, .parked)
  | .timeout ms :: rest, r, mb, st =>
    if expired ms start now then (mb, st, .completed .nil)
    else scanSources aw awf snapshot verdict start now rest r mb st
  | .await t :: rest, r, mb, st =>
    -- `handle_select_process`: a failed target propagates its error (`Err`), a stored result completes
    match amLookup t awf with
    | some e => (mb, st, .failed e)
    | none =>
      match amLookup t aw with
      | some (some v) => (mb, st, .completed (.value v))
      | _ => scanSources aw awf snapshot verdict start now rest r mb st
  | .receive ty f :: rest, r, mb, st =>
    match handleSelectReceive mb st snapshot r ty f verdict with
    | (mb', st', .complete m) => (mb', st', .completed (.value m))
    | (mb', st', .called) => (mb', st', .calledFilter)
    | (mb', st', .continue_) => scanSources aw awf snapshot verdict start now rest (r + 1) mb' st'
    | (mb', st', .error e) => (mb', st', .failed e)
    | (mb', st', .panic) => (mb', st', .panic)
  | .invalid e :: _, _, mb, st => (mb, st, .failed e)

/-- `complete_select`, the part on `awaiting` / `awaiting_failed`: the awaits registered for this
    select end with it — for every process source the entries are removed. -/
def dropAwaits {V α} : List (Source V) → AMap α → AMap α
  | [], m => m
  | .await t :: rest, m => dropAwaits rest (amRemove t m)
  | _ :: rest, m => dropAwaits rest m

/-- Phases 3 and 4 of `handle_select` on an existing state: `ensure_select_start_time`, then
    `process_select_sources`. -/
def reenterSelect {V} (p : Proc V) (st : SelState V) (verdict : Option (Yield V)) (now : Nat) :
    Proc V × StepRes V :=
  let start := st.startTime.getD now
  let st1 : SelState V := { st with startTime := some start }
  match scanSources p.awaiting p.awaitingFailed st1 verdict start now st1.sources 0 p.mailbox st1 with
  | (mb', _, .completed y) =>
    ({ p with mailbox := mb', sel := none, awaiting := dropAwaits st.sources p.awaiting,
              awaitingFailed := dropAwaits st.sources p.awaitingFailed }, .completed y)
  | (mb', st', r) => ({ p with mailbox := mb', sel := some st' }, r)

/-- `handle_select`. `stackSources` is what `initialize_select` would pop (used only when there is
    no select state); `stackTop` is the value on top of the stack (popped as the verdict only when
    `receiving` is set — `handle_select_continuation`). -/
def handleSelect {V} (p : Proc V) (now : Nat) (stackSources : List (Source V)) (stackTop : Yield V) :
    Proc V × StepRes V :=
  match p.sel with
  | none => initializeSelect p stackSources now
  | some st =>
    let verdict := if st.receiving.isSome then some stackTop else none
    reenterSelect p st verdict now

/-- `handleSelect` followed by the error arm of `Executor::step` (`result = Err(e)`, frames cleared;
    the select state is left in place). -/
def stepSelect {V} (p : Proc V) (now : Nat) (stackSources : List (Source V)) (stackTop : Yield V) :
    Proc V × StepRes V :=
  match handleSelect p now stackSources stackTop with
  | (p', .failed e) => ({ p' with result := some (.err e) }, .failed e)
  | r => r

/-! ## The r-th receive source, and the verdict a *pure* filter produces -/

def nthRecv {V} : List (Source V) → Nat → Option ((V → Bool) × Option (V → FilterRes V))
  | [], _ => none
  | .receive ty f :: _, 0 => some (ty, f)
  | .receive _ _ :: rest, n + 1 => nthRecv rest n
  | .await _ :: rest, n => nthRecv rest n
  | .timeout _ :: rest, n => nthRecv rest n
  | .invalid _ :: rest, n => nthRecv rest n

/-- What the pending receive function returns on the held message (filters are pure functions of the
    message). `none` when nothing is pending or the slot does not name a receiver with a body. -/
def pendingFilterRes {V} (st : SelState V) : Option (FilterRes V) :=
  match st.receiving with
  | none => none
  | some (idx, m) =>
    match nthRecv st.sources idx with
    | some (_, some f) => some (f m)
    | _ => none

/-- One execution of the Select instruction in a run where receive functions are pure: the value on
    the stack is what the pending filter returns on the held message; if the filter raises instead,
    the process fails inside it (the Select instruction is never re-executed). -/
def stepSelectPure {V} (p : Proc V) (now : Nat) (stackSources : List (Source V)) : Proc V × StepRes V :=
  match p.sel.bind pendingFilterRes with
  | some (.fail e) => ({ p with result := some (.err e) }, .failed e)
  | some (.ret r) => stepSelect p now stackSources r
  | none => stepSelect p now stackSources .nil

/-! ## The abstract specification -/

/-- A message is *accepted* by a receive source: type-compatible and (if there is a body) the
    filter returns a non-nil value. -/
def accepts {V} (typeOk : V → Bool) (filter : Option (V → FilterRes V)) (m : V) : Bool :=
  typeOk m && (match filter with
    | none => true
    | some f => match f m with
      | .ret (.value _) => true
      | _ => false)

def firstIdx {V} (q : V → Bool) : List V → Option Nat
  | [] => none
  | x :: xs => if q x then some 0 else (firstIdx q xs).map (· + 1)

inductive SpecOutcome (V : Type) where
  /-- the select yields `y`; `taken` = index of the mailbox message it consumes, if any -/
  | yields (y : Yield V) (taken : Option Nat)
  /-- the first ready source is a failed process (its error propagates) or an invalid source -/
  | fails (e : ErrClass)
  | notReady
  deriving DecidableEq, Repr

/-- `selectSpec sources mailbox results start now`: the first source, in written order, that is
    ready — an awaited process with a known result, a receive source with the earliest accepted
    message, a timeout with `now − start ≥ duration`. -/
def selectSpec {V} (mailbox : List V) (results : Nat → Option (Res V)) (start now : Nat) :
    List (Source V) → SpecOutcome V
  | [] => .notReady
  | .await t :: rest =>
    match results t with
    | some (.ok v) => .yields (.value v) none
    | some (.err e) => .fails e
    | none => selectSpec mailbox results start now rest
  | .receive ty f :: rest =>
    match firstIdx (accepts ty f) mailbox with
    | some i =>
      match mailbox[i]? with
      | some m => .yields (.value m) (some i)
      | none => .notReady  -- unreachable (`firstIdx_lt`)
    | none => selectSpec mailbox results start now rest
  | .timeout ms :: rest =>
    if effDur ms ≤ now - start then .yields .nil none
    else selectSpec mailbox results start now rest
  | .invalid e :: _ => .fails e

/-- What a process knows about its awaited targets, as specification results: a recorded failure,
    else a stored value. -/
def Proc.knownResults {V} (p : Proc V) : Nat → Option (Res V) := fun t =>
  match amLookup t p.awaitingFailed with
  | some e => some (.err e)
  | none =>
    match amLookup t p.awaiting with
    | some (some v) => some (.ok v)
    | _ => none

/-! ## Notifications (one process) -/

/-- `notify_message`: append to the mailbox (the wake-up is at `Exec` level). -/
def Proc.pushMessage {V} (p : Proc V) (m : V) : Proc V := { p with mailbox := p.mailbox ++ [m] }

/-- `still_awaiting` of `notify_result` / `notify_failure`: the process has no result yet and its
    current select registered the target. -/
def Proc.stillAwaiting {V} (p : Proc V) (awaited : Nat) : Bool :=
  p.result.isNone && (amLookup awaited p.awaiting).isSome

/-- `Executor::notify_result` (success): store in `awaiting` — only while still awaited. -/
def Proc.storeResult {V} (p : Proc V) (awaited : Nat) (v : V) : Proc V :=
  if p.stillAwaiting awaited then { p with awaiting := amInsert awaited (some v) p.awaiting } else p

/-- `Executor::notify_failure`, the recording part. -/
def Proc.recordFailure {V} (p : Proc V) (awaited : Nat) (e : ErrClass) : Proc V :=
  { p with awaitingFailed := amInsert awaited e p.awaitingFailed }

/-- The error arm of `Executor::step` / `notify_effect_completion`: `result = Some(Err(e))`,
    `frames.clear()`. -/
def Proc.failWith {V} (p : Proc V) (e : ErrClass) : Proc V := { p with result := some (.err e) }

/-! ## The executor: process table, run queue, parked set -/

structure Exec (V : Type) where
  procs : AMap (Proc V) := []
  queue : List Nat := []
  /-- `selecting: HashSet<ProcessId>` -/
  selecting : List Nat := []
  /-- `spawning`, `effecting: HashSet<ProcessId>` (used by Core/Exec/Error.lean: status, effect completions) -/
  spawning : List Nat := []
  effecting : List Nat := []

def Exec.getProc {V} (ex : Exec V) (pid : Nat) : Option (Proc V) := amLookup pid ex.procs

def Exec.setProc {V} (ex : Exec V) (pid : Nat) (p : Proc V) : Exec V :=
  { ex with procs := amInsert pid p ex.procs }

/-- `if self.selecting.remove(&id) { self.queue.push_back(id) }` -/
def Exec.wake {V} (ex : Exec V) (pid : Nat) : Exec V :=
  if pid ∈ ex.selecting then
    { ex with selecting := ex.selecting.filter (· != pid), queue := ex.queue ++ [pid] }
  else ex

/-- `mark_selecting`: insert into the set, `queue.retain(|p| p != id)`. -/
def Exec.markSelecting {V} (ex : Exec V) (pid : Nat) : Exec V :=
  { ex with selecting := if pid ∈ ex.selecting then ex.selecting else ex.selecting ++ [pid],
            queue := ex.queue.filter (· != pid) }

/-- `notify_message` -/
def Exec.notifyMessage {V} (ex : Exec V) (pid : Nat) (m : V) : Exec V :=
  let ex1 := match ex.getProc pid with
    | some p => ex.setProc pid (p.pushMessage m)
    | none => ex
  ex1.wake pid

/-- `Executor::notify_result`: store (if still awaited), then re-queue if selecting (unconditional). -/
def Exec.notifyResultOk {V} (ex : Exec V) (awaiter awaited : Nat) (v : V) : Exec V :=
  let ex1 := match ex.getProc awaiter with
    | some p => ex.setProc awaiter (p.storeResult awaited v)
    | none => ex
  ex1.wake awaiter

/-- `Executor::notify_failure` (also the `Err` arm of `Worker::notify_result`): ignored unless the
    awaiter still awaits the target; else recorded as a ready source, and the awaiter re-queued. -/
def Exec.notifyFailure {V} (ex : Exec V) (awaiter awaited : Nat) (e : ErrClass) : Exec V :=
  match ex.getProc awaiter with
  | some p =>
    if p.stillAwaiting awaited then (ex.setProc awaiter (p.recordFailure awaited e)).wake awaiter
    else ex
  | none => ex

/-- The awaiter loop at the end of `Executor::step`, for one awaiter: when process `finished` (on the
    same executor) ends with `r`, every process whose `awaiting` map *contains the key* is notified. -/
def Exec.notifyFinished {V} (ex : Exec V) (awaiter finished : Nat) (r : Res V) : Exec V :=
  match ex.getProc awaiter with
  | some p =>
    if (amLookup finished p.awaiting).isSome then
      match r with
      | .ok v => ex.notifyResultOk awaiter finished v
      | .err e => ex.notifyFailure awaiter finished e
    else ex
  | none => ex

/-- PRE-FIX behaviour (before bc74ad3), kept only for the witness theorems `C05.old_*`: the `Err` arm
    of `Worker::notify_result` and of the awaiter loop set `result = Err(e)` on the awaiter
    unconditionally, and `complete_select` left the `awaiting` entries behind. -/
def Exec.killAwaiterOld {V} (ex : Exec V) (awaiter : Nat) (e : ErrClass) : Exec V :=
  match ex.getProc awaiter with
  | some p => ex.setProc awaiter (p.failWith e)
  | none => ex

/-- `mark_active` (`update_await_results` when no result was included): leave `spawning` /
    `selecting`, and be queued if it was in either. -/
def Exec.markActive {V} (ex : Exec V) (pid : Nat) : Exec V :=
  let was := decide (pid ∈ ex.spawning ∨ pid ∈ ex.selecting)
  let ex1 := { ex with spawning := ex.spawning.filter (· != pid), selecting := ex.selecting.filter (· != pid) }
  if was then { ex1 with queue := ex1.queue ++ [pid] } else ex1

/-- One execution of the Select instruction by the running process `pid` (already popped from the
    queue by `step`), including the `mark_selecting` of the parking outcomes. -/
def Exec.select {V} (ex : Exec V) (pid now : Nat) (stackSources : List (Source V)) (stackTop : Yield V) :
    Exec V × Option (StepRes V) :=
  match ex.getProc pid with
  | none => (ex, none)
  | some p =>
    let (p', r) := stepSelect p now stackSources stackTop
    let ex1 := ex.setProc pid p'
    match r with
    | .parked => (ex1.markSelecting pid, some r)
    | .awaitAction _ => (ex1.markSelecting pid, some r)
    | _ => (ex1, some r)

/-- `Exec.select` with the verdict of a pure receive function (`stepSelectPure`). -/
def Exec.selectPure {V} (ex : Exec V) (pid now : Nat) (stackSources : List (Source V)) :
    Exec V × Option (StepRes V) :=
  match ex.getProc pid with
  | none => (ex, none)
  | some p =>
    let (p', r) := stepSelectPure p now stackSources
    let ex1 := ex.setProc pid p'
    match r with
    | .parked => (ex1.markSelecting pid, some r)
    | .awaitAction _ => (ex1.markSelecting pid, some r)
    | _ => (ex1, some r)

/-! ## Histories of one process: the events that can happen to it around its selects -/

inductive Event (V : Type) where
  /-- `notify_message` -/
  | msg (m : V)
  /-- `notify_result` (success) for an awaited process -/
  | resultOk (pid : Nat) (v : V)
  /-- `notify_failure` for an awaited process -/
  | failure (pid : Nat) (e : ErrClass)
  /-- the process executes its Select instruction (entry or re-entry) at clock `now`; `srcs` is what
      is on the stack (read only when a new select starts) -/
  | select (now : Nat) (srcs : List (Source V))

def Proc.step {V} (p : Proc V) : Event V → Proc V
  | .msg m => p.pushMessage m
  | .resultOk pid v => p.storeResult pid v
  | .failure pid e => if p.stillAwaiting pid then p.recordFailure pid e else p
  | .select now srcs => if p.result.isSome then p else (stepSelectPure p now srcs).1

def Proc.run {V} (p : Proc V) : List (Event V) → Proc V
  | [] => p
  | e :: es => (p.step e).run es

/-! ## Expiry: `check_expired_timeouts`, `next_timeout_ms` -/

def Source.timeoutDur {V} : Source V → Option Nat
  | .timeout ms => some (effDur ms)
  | _ => none

/-- the filter predicate of `check_expired_timeouts` for one process -/
def Proc.timeoutExpired {V} (p : Proc V) (now : Nat) : Bool :=
  match p.sel with
  | some st =>
    match st.startTime with
    | some s => st.sources.any (fun src => match src with
        | .timeout ms => expired ms s now
        | _ => false)
    | none => false
  | none => false

def Exec.isExpired {V} (ex : Exec V) (now : Nat) (pid : Nat) : Bool :=
  match ex.getProc pid with
  | some p => p.timeoutExpired now
  | none => false

/-- `check_expired_timeouts` (the order in which several expired processes are queued is the
    iteration order of a `HashSet` in Rust; here: the order of the `selecting` list). -/
def Exec.checkExpiredTimeouts {V} (ex : Exec V) (now : Nat) : Exec V :=
  let exp := ex.selecting.filter (ex.isExpired now)
  { ex with queue := ex.queue ++ exp, selecting := ex.selecting.filter (fun pid => !(ex.isExpired now pid)) }

def listMin : List Nat → Option Nat
  | [] => none
  | x :: xs => match listMin xs with
    | none => some x
    | some m => some (min x m)

/-- `start_time.saturating_add(min timeout)` of one parked process -/
def Proc.nextExpiry {V} (p : Proc V) : Option Nat :=
  match p.sel with
  | some st =>
    match st.startTime with
    | some s =>
      match listMin (st.sources.filterMap Source.timeoutDur) with
      | some t => some (min (s + t) u64Max)
      | none => none
    | none => none
  | none => none

/-- `next_timeout_ms` -/
def Exec.nextTimeoutMs {V} (ex : Exec V) : Option Nat :=
  listMin (ex.selecting.filterMap (fun pid => (ex.getProc pid).bind Proc.nextExpiry))

/-! ## Variant: the select waits for its await answer (`notes/C05-fixes/01-select-waits-for-its-await-answer.patch`)

Before /repo b0190c3 a select with process sources parks after `Action::Await`, but anything wakes it — a message, an
await answer that concerns an earlier select — and it then walks its sources with the targets still
unknown. The patch (b0190c3) adds `SelectState.unanswered` (the process sources whose worker has not answered
yet): the select evaluates NOTHING while the list is non-empty, every answer (result, failure, the
"not finished, you are registered" placeholder) removes its target and wakes the select.

The list is kept beside the process record (`ExecW.unanswered`), so that every definition and theorem
above stays the function before b0190c3: with the flag off the list is always empty and `ExecW.selectPure` IS
`Exec.selectPure` (`C05.variant_off_is_head`). -/

structure Variant where
  /-- `false` = the code before /repo b0190c3 -/
  selectWaitsForAnswer : Bool := false
  /-- notes/C06-fixes/01 (`release_dead_roots`): a NON-persistent process that finishes or fails gives up its
      mailbox, select state (with `unanswered`), `awaiting` and `awaiting_failed` at the end of the executor step
      (after the same-executor awaiters were notified); `notify_message` drops a message for a process that is
      unknown, has failed, or has finished and is not persistent. `false` = the code without the repair. -/
  releaseDead : Bool := false
  deriving DecidableEq, Repr

structure ExecW (V : Type) where
  ex : Exec V := {}
  /-- `SelectState.unanswered` per process (absent = empty) -/
  unanswered : AMap (List Nat) := []

/-- `select_state.unanswered` of `pid` -/
def ExecW.un {V} (w : ExecW V) (pid : Nat) : List Nat := (amLookup pid w.unanswered).getD []

/-- `Executor::mark_answered`: `state.unanswered.retain(|t| *t != awaited)` -/
def ExecW.markAnswered {V} (w : ExecW V) (awaiter awaited : Nat) : ExecW V :=
  { w with unanswered := amInsert awaiter ((w.un awaiter).filter (· != awaited)) w.unanswered }

def ExecW.stillAwaiting {V} (w : ExecW V) (awaiter awaited : Nat) : Bool :=
  match w.ex.getProc awaiter with
  | some p => p.stillAwaiting awaited
  | none => false

def ExecW.notifyMessage {V} (w : ExecW V) (pid : Nat) (m : V) : ExecW V :=
  { w with ex := w.ex.notifyMessage pid m }

/-- `notify_result`: inside `if still_awaiting`, after the store, `mark_answered` -/
def ExecW.notifyResultOk {V} (w : ExecW V) (awaiter awaited : Nat) (v : V) : ExecW V :=
  let w1 := if w.stillAwaiting awaiter awaited then w.markAnswered awaiter awaited else w
  { w1 with ex := w.ex.notifyResultOk awaiter awaited v }

/-- `notify_failure`: after the `still_awaiting` test, record + `mark_answered` -/
def ExecW.notifyFailure {V} (w : ExecW V) (awaiter awaited : Nat) (e : ErrClass) : ExecW V :=
  let w1 := if w.stillAwaiting awaiter awaited then w.markAnswered awaiter awaited else w
  { w1 with ex := w.ex.notifyFailure awaiter awaited e }

/-- the awaiter loop of `Executor::step` for one awaiter (`Exec.notifyFinished`) -/
def ExecW.notifyFinished {V} (w : ExecW V) (awaiter finished : Nat) (r : Res V) : ExecW V :=
  match w.ex.getProc awaiter with
  | some p =>
    if (amLookup finished p.awaiting).isSome then
      match r with
      | .ok v => w.notifyResultOk awaiter finished v
      | .err e => w.notifyFailure awaiter finished e
    else w
  | none => w

/-- `Executor::notify_pending` (a `None` entry of an UpdateAwaitResults): the target's worker answered
    "not finished yet, you are registered". The caller (`update_await_results`) wakes the awaiter. -/
def ExecW.notifyPending {V} (w : ExecW V) (awaiter awaited : Nat) : ExecW V := w.markAnswered awaiter awaited

def ExecW.wake {V} (w : ExecW V) (pid : Nat) : ExecW V := { w with ex := w.ex.wake pid }

/-- One execution of the Select instruction under the variant. A new select lists its process
    sources as unanswered (flag on); an existing one with unanswered targets parks again without
    looking at any source (`handle_select`, between phases 2 and 3). -/
def ExecW.selectPure {V} (v : Variant) (w : ExecW V) (pid now : Nat) (stackSources : List (Source V)) :
    ExecW V × Option (StepRes V) :=
  match w.ex.getProc pid with
  | none => (w, none)
  | some p =>
    match p.sel with
    | none =>
      ({ ex := (w.ex.selectPure pid now stackSources).1,
         unanswered := amInsert pid (if v.selectWaitsForAnswer then pidTargets stackSources else []) w.unanswered },
       (w.ex.selectPure pid now stackSources).2)
    | some _ =>
      if (w.un pid).isEmpty then
        ({ w with ex := (w.ex.selectPure pid now stackSources).1 }, (w.ex.selectPure pid now stackSources).2)
      else ({ w with ex := w.ex.markSelecting pid }, some .parked)

/-! ### Variant `releaseDead` (notes/C06-fixes/01) -/

/-- what `release_dead_roots` leaves of a non-persistent process record: the result, nothing else -/
def Proc.releaseDead {V} (p : Proc V) : Proc V :=
  { p with mailbox := [], awaiting := [], awaitingFailed := [], sel := none }

/-- `deliverable` of `notify_message` under the variant: the process exists and can still receive -/
def Proc.deliverable {V} (p : Proc V) (persistent : Bool) : Bool :=
  match p.result with
  | none => true
  | some (.ok _) => persistent
  | some (.err _) => false

/-- `release_dead_roots(pid)` at the end of the finished block of `Executor::step` (non-persistent process) -/
def Exec.releaseDead {V} (ex : Exec V) (pid : Nat) : Exec V :=
  match ex.getProc pid with
  | some p => ex.setProc pid p.releaseDead
  | none => ex

/-- `notify_message` under the variant: a message that can never be received is dropped (the wake-up stays) -/
def Exec.notifyMessageV {V} (v : Variant) (persistent : Nat → Bool) (ex : Exec V) (pid : Nat) (m : V) : Exec V :=
  if v.releaseDead then
    match ex.getProc pid with
    | some p => if p.deliverable (persistent pid) then ex.notifyMessage pid m else ex.wake pid
    | none => ex.wake pid
  else ex.notifyMessage pid m

def ExecW.releaseDead {V} (w : ExecW V) (pid : Nat) : ExecW V :=
  { ex := w.ex.releaseDead pid, unanswered := amInsert pid [] w.unanswered }

/-! ### "Ready" at system level

`selectSpec` above is relative to what the process KNOWS. The documented priority ("prioritising `p1` if
both are already finished") is about what is TRUE: a target that had finished before the select started
is ready, whether or not the answer has reached the process. `certain t` = the result of `t` if `t` had
finished when the select was initialised. -/

def sysResults {V} (known certain : Nat → Option (Res V)) : Nat → Option (Res V) := fun t =>
  match known t with
  | some r => some r
  | none => certain t

def selectSpecSys {V} (mailbox : List V) (known certain : Nat → Option (Res V)) (start now : Nat)
    (srcs : List (Source V)) : SpecOutcome V :=
  selectSpec mailbox (sysResults known certain) start now srcs

end QM.Exec
