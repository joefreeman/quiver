import QuiverModel.Core.Exec.Select
/-
M-Exec, part 2: failure containment. The error arm and the completion bookkeeping of
`Executor::step` (quiver-core/src/executor.rs ≈1115–1340), `notify_effect_completion`, and the
worker-side await protocol of quiver-environment/src/worker.rs (`query_and_await`,
`update_await_results`, `notify_result`, `deliver_message`, `check_completed_processes`,
`Worker::step`), as far as needed to state: an error terminates only the process it occurs in; it
reaches exactly the processes whose CURRENT select awaits that process — recorded as a ready source
(`notify_failure`, fix bc74ad3) and propagated by their select in source order; a worker step never
returns an internal error for commands that respect the routing invariant.

Abstract: the body of a process. A time slice of the running process is an INPUT: the new state of
that process (`Proc`) and how the slice ended (`SliceEnd`). What the model computes is everything
the executor and the worker do *around* it — to the other processes, the queues, the wire.
Values on the wire carry a flag `wf` ("the heap indices of the value fit its heap vector"):
`inject_heap_data` fails exactly on `wf = false`, which surfaces as `EnvironmentError::HeapData` from
`Worker::step`. Extraction from the executor's own heap is total here (its soundness is C06's).
-/
namespace QM.Exec

/-- How the time slice of the running process ended. -/
inductive SliceEnd (V : Type) where
  /-- time slice exhausted, or yielded after a routing action (Send, …): re-queued -/
  | yields
  /-- the last frame was exhausted with `v` on the stack: `result = Ok(v)` -/
  | finishes (v : V)
  /-- an instruction returned `Err(e)` — a builtin domain error, an operation that is not allowed
      inside a receive function, a failed await source reached by a select, … -/
  | raises (e : ErrClass)
  /-- the process parked itself in `selecting` (`mark_selecting` inside the Select instruction) -/
  | parksSelecting
  /-- the process parked itself in `spawning` (`mark_spawning` inside the Spawn instruction) -/
  | parksSpawning
  /-- the slice ended with `Action::RequestEffect`: the executor re-queues the process, then
      `Worker::handle_action` calls `mark_effecting` (insert into `effecting`, remove from the queue) -/
  | parksEffecting
  /-- the last frame was exhausted with an empty stack: `result = Err(StackUnderflow)` and an early
      `return` that skips the awaiter loop -/
  | finishesEmpty

/-- `get_status` (executor.rs): queue first, then the parked sets, then the result. -/
inductive Status where
  | active | waiting | failed | completed
  deriving DecidableEq, Repr

def Exec.status {V} (ex : Exec V) (pid : Nat) (p : Proc V) : Status :=
  if pid ∈ ex.queue then .active
  else if pid ∈ ex.spawning ∨ pid ∈ ex.selecting ∨ pid ∈ ex.effecting then .waiting
  else match p.result with
    | some (.err _) => .failed
    | some (.ok _) => .completed  -- `Sleeping` for a persistent process; treated alike by the callers
    | none => .active

/-- processes whose `awaiting` map contains the key (`awaiters` of the loop in `step`) -/
def Exec.awaitersOf {V} (ex : Exec V) (pid : Nat) : List Nat :=
  (ex.procs.map (·.1)).filter (fun k =>
    match ex.getProc k with
    | some p => (amLookup pid p.awaiting).isSome
    | none => false)

/-- what the awaiter loop does to ONE awaiter's process record -/
def Proc.notified {V} (p : Proc V) (pid : Nat) : Res V → Proc V
  | .ok v => p.storeResult pid v
  | .err e => if p.stillAwaiting pid then p.recordFailure pid e else p

def notifyAll {V} (pid : Nat) (r : Res V) : List Nat → Exec V → Exec V
  | [], ex => ex
  | a :: rest, ex => notifyAll pid r rest (ex.notifyFinished a pid r)

/-- The `finished` branch of `Executor::step`: the awaiter loop over the processes of this executor
    (the order is `HashMap` iteration order in Rust; here: table order — the notifications to
    different awaiters commute except for the order in which they are re-queued). -/
def Exec.announce {V} (ex : Exec V) (pid : Nat) (r : Res V) : Exec V :=
  notifyAll pid r (ex.awaitersOf pid) ex

/-- `Executor::step` after the instructions of the slice have run: `p'` is the running process's
    state after the slice (an input), `e` how it ended. -/
def Exec.endSlice {V} (ex : Exec V) (pid : Nat) (p' : Proc V) : SliceEnd V → Exec V
  | .yields =>
    let ex1 := ex.setProc pid p'
    -- `should_requeue = !spawning.contains && !selecting.contains`
    if pid ∈ ex1.spawning ∨ pid ∈ ex1.selecting then ex1 else { ex1 with queue := ex1.queue ++ [pid] }
  | .parksSelecting => (ex.setProc pid p').markSelecting pid
  | .parksSpawning =>
    let ex1 := ex.setProc pid p'
    { ex1 with spawning := if pid ∈ ex1.spawning then ex1.spawning else ex1.spawning ++ [pid],
               queue := ex1.queue.filter (· != pid) }
  | .parksEffecting =>
    let ex1 := ex.setProc pid p'
    { ex1 with effecting := if pid ∈ ex1.effecting then ex1.effecting else ex1.effecting ++ [pid],
               queue := ex1.queue.filter (· != pid) }
  | .finishes v =>
    (ex.setProc pid { p' with result := some (.ok v) }).announce pid (.ok v)
  | .raises e =>
    -- error arm: `result = Some(Err(e)); frames.clear()`; then the `finished` branch
    (ex.setProc pid { p' with result := some (.err e) }).announce pid (.err e)
  | .finishesEmpty =>
    ex.setProc pid { p' with result := some (.err .stackUnderflow) }

/-- A process that is popped from the queue with no frames left (a failed process that was re-queued:
    by `notify_effect_completion`'s error arm, by a message / expiry while it sat in `selecting`)
    goes through the `finished` branch: its stored error is announced (again). -/
def Exec.popFinished {V} (ex : Exec V) (pid : Nat) : Exec V :=
  match ex.getProc pid with
  | some p =>
    match p.result with
    | some (.err e) => ex.announce pid (.err e)
    | _ => ex
  | none => ex

/-- `notify_effect_completion`. `none` = `Err("Process not found")` (an internal error of the worker
    step); a failed effect sets the error and clears the frames — the process is re-queued (if it was
    effecting) and announced by its next (empty) slice. -/
def Exec.notifyEffectCompletion {V} (ex : Exec V) (pid : Nat) (r : Option V) : Option (Exec V) :=
  let wasEffecting := decide (pid ∈ ex.effecting)
  let ex0 := { ex with effecting := ex.effecting.filter (· != pid) }
  match ex0.getProc pid with
  | none => none
  | some p =>
    let ex1 := match r with
      | some _ => ex0.setProc pid p   -- value pushed, counter advanced (body abstract)
      | none => ex0.setProc pid { p with result := some (.err .invalidArgument) }
    some (if wasEffecting then { ex1 with queue := ex1.queue ++ [pid] } else ex1)

/-! ## The worker around the executor -/

/-- a value on the wire with its heap: `wf = false` makes `inject_heap_data` fail -/
structure Wire (V : Type) where
  val : V
  wf : Bool := true

inductive WireRes (V : Type) where
  | ok (w : Wire V)
  | err (e : ErrClass)

/-- `Event::ProcessResults { awaiter, results }` -/
structure ProcessResults (V : Type) where
  awaiter : Nat
  results : AMap (Option (Res V))

structure Worker (V : Type) where
  ex : Exec V := {}
  /-- `awaited: HashSet<ProcessId>` -/
  awaited : List Nat := []
  /-- `awaiters_for_target: HashMap<ProcessId, Vec<ProcessId>>` -/
  awaitersFor : AMap (List Nat) := []
  /-- which implementation is mirrored (configuration: no function changes it). `{}` = /repo before b0190c3 and 4dd92c6;
      `selectWaitsForAnswer` = notes/C05-fixes/01 (a FAILED target is answered in the first answer) -/
  variant : Variant := {}
  /-- pids of persistent processes on this worker (configuration; the REPL process) — read by the variant
      `releaseDead` only -/
  persistent : List Nat := []

/-- internal errors `Worker::step` can return (`EnvironmentError`) -/
inductive IErr where
  | heapData | processNotFound | executor | functionNotFound | processFailed | processNotSleeping
  deriving DecidableEq, Repr

inductive Cmd (V : Type) where
  /-- `SpawnProcess` / `StartProcess` with an existing function: a new process, queued -/
  | spawn (pid : Nat) (functionExists : Bool)
  | deliver (target : Nat) (m : Wire V)
  | updateAwaitResults (awaiter : Nat) (results : AMap (Option (WireRes V)))
  | queryAndAwait (awaiter : Nat) (targets : List Nat)
  | effectCompletion (pid : Nat) (r : Option (Wire V))
  | notifySpawn (pid : Nat)
  /-- `ResumeProcess` (REPL): errors unless the process exists and sleeps; a FAILED process is left alone -/
  | resume (pid : Nat) (functionExists : Bool)

/-- `Worker::notify_result` for one `(awaited, Some(result))` entry of `update_await_results`. -/
def Worker.notifyResult {V} (w : Worker V) (awaiter awaited : Nat) : WireRes V → Except IErr (Worker V)
  | .ok wire =>
    -- `Executor::notify_result`: the still-awaiting test comes BEFORE `inject_heap_data`
    match w.ex.getProc awaiter with
    | some p =>
      if p.stillAwaiting awaited ∧ wire.wf = false then .error .heapData
      else .ok { w with ex := w.ex.notifyResultOk awaiter awaited wire.val }
    | none => .ok { w with ex := w.ex.wake awaiter }
  | .err e => .ok { w with ex := w.ex.notifyFailure awaiter awaited e }

def Worker.notifyResults {V} (w : Worker V) (awaiter : Nat) :
    AMap (Option (WireRes V)) → Bool → Except IErr (Worker V × Bool)
  | [], any => .ok (w, any)
  | (_, none) :: rest, any => w.notifyResults awaiter rest any
  | (awaited, some r) :: rest, _ =>
    match w.notifyResult awaiter awaited r with
    | .ok w' => w'.notifyResults awaiter rest true
    | .error e => .error e

/-- `update_await_results`: every included result is notified; then ANY await answer — even one
    without results, or whose only results concern a target the awaiter no longer waits for — wakes a
    parked select (`wake_selecting`; fixes c08a680: only a select, never a process waiting for a spawn
    reply, and 755cedc: always, not only when no result was included). -/
def Worker.updateAwaitResults {V} (w : Worker V) (awaiter : Nat) (results : AMap (Option (WireRes V))) :
    Except IErr (Worker V) :=
  match w.notifyResults awaiter results false with
  | .ok (w', _) => .ok { w' with ex := w'.ex.wake awaiter }
  | .error e => .error e

/-- `query_and_await` for one target: answer with the result if the target's *status* is completed,
    else register the awaiter (this includes a FAILED target: its error is reported by the
    `check_completed_processes` at the end of the same worker step). -/
def Worker.completedValue {V} (w : Worker V) (target : Nat) : Option V :=
  match w.ex.getProc target with
  | some p =>
    match w.ex.status target p, p.result with
    | .completed, some (.ok v) => some v
    | _, _ => none
  | none => none

/-- `is_completed` of `query_and_await` with the result to include. Before /repo b0190c3: `Completed | Sleeping` only.
    Variant `selectWaitsForAnswer`: `Failed` as well — the error belongs in this answer, not in a second
    message after a placeholder. -/
def Worker.completedResult {V} (w : Worker V) (target : Nat) : Option (Res V) :=
  match w.completedValue target with
  | some v => some (.ok v)
  | none =>
    if w.variant.selectWaitsForAnswer then
      match w.ex.getProc target with
      | some p =>
        match w.ex.status target p, p.result with
        | .failed, some (.err e) => some (.err e)
        | _, _ => none
      | none => none
    else none

def Worker.queryOne {V} (w : Worker V) (awaiter target : Nat) : Worker V × (Nat × Option (Res V)) :=
  match w.completedResult target with
  | some r => (w, (target, some r))
  | none =>
    ({ w with awaited := if target ∈ w.awaited then w.awaited else w.awaited ++ [target],
              awaitersFor := amInsert target ((amLookup target w.awaitersFor).getD [] ++ [awaiter]) w.awaitersFor },
     (target, none))

def Worker.queryAll {V} (w : Worker V) (awaiter : Nat) : List Nat → Worker V × AMap (Option (Res V))
  | [] => (w, [])
  | t :: rest =>
    let (w1, r) := w.queryOne awaiter t
    let (w2, rs) := w1.queryAll awaiter rest
    (w2, r :: rs)

/-- `query_and_await`: one `ProcessResults` event with an entry for every target -/
def Worker.queryAndAwait {V} (w : Worker V) (awaiter : Nat) (targets : List Nat) :
    Worker V × ProcessResults V :=
  let (w', rs) := w.queryAll awaiter targets
  (w', { awaiter := awaiter, results := rs })

/-- `check_completed_processes`, the awaited part: every awaited process that now has a result
    (value or error) is reported to each registered awaiter and forgotten. -/
def Worker.checkOne {V} (w : Worker V) (pid : Nat) : Worker V × List (ProcessResults V) :=
  match (w.ex.getProc pid).bind (·.result) with
  | some r =>
    let awaiters := (amLookup pid w.awaitersFor).getD []
    ({ w with awaitersFor := amRemove pid w.awaitersFor, awaited := w.awaited.filter (· != pid) },
     awaiters.map (fun a => { awaiter := a, results := [(pid, some r)] }))
  | none => (w, [])

def Worker.checkAll {V} (w : Worker V) : List Nat → Worker V × List (ProcessResults V)
  | [] => (w, [])
  | pid :: rest =>
    let (w1, evs) := w.checkOne pid
    let (w2, evs') := w1.checkAll rest
    (w2, evs ++ evs')

def Worker.checkCompleted {V} (w : Worker V) : Worker V × List (ProcessResults V) := w.checkAll w.awaited

/-- `handle_command` for the commands that concern processes. -/
def Worker.handleCommand {V} (w : Worker V) : Cmd V → Except IErr (Worker V × List (ProcessResults V))
  | .spawn pid fnOk =>
    if fnOk then .ok ({ w with ex := { (w.ex.setProc pid {}) with queue := w.ex.queue ++ [pid] } }, [])
    else .error .functionNotFound
  | .deliver target m =>
    -- `notify_message`: inject first (an error even if the target does not exist), then append, wake
    -- variant `releaseDead`: the deliverability test comes first — a message for a process that is unknown here,
    -- has failed, or has finished and is not persistent is dropped before its heap data is copied in
    if w.variant.releaseDead &&
        !(match w.ex.getProc target with
          | some p => p.deliverable (decide (target ∈ w.persistent))
          | none => false) then .ok ({ w with ex := w.ex.wake target }, [])
    else if m.wf then .ok ({ w with ex := w.ex.notifyMessage target m.val }, []) else .error .heapData
  | .updateAwaitResults awaiter results =>
    match w.updateAwaitResults awaiter results with
    | .ok w' => .ok (w', [])
    | .error e => .error e
  | .queryAndAwait awaiter targets =>
    let (w', ev) := w.queryAndAwait awaiter targets
    .ok (w', [ev])
  | .effectCompletion pid r =>
    match r with
    | some wire =>
      if wire.wf then
        match w.ex.notifyEffectCompletion pid (some wire.val) with
        | some ex' => .ok ({ w with ex := ex' }, [])
        | none => .error .executor
      else .error .executor
    | none =>
      match w.ex.notifyEffectCompletion pid none with
      | some ex' => .ok ({ w with ex := ex' }, [])
      | none => .error .executor
  | .notifySpawn pid =>
    -- `notify_spawn`: nothing happens for an unknown process
    match w.ex.getProc pid with
    | some _ =>
      let was := decide (pid ∈ w.ex.spawning)
      let ex1 := { w.ex with spawning := w.ex.spawning.filter (· != pid) }
      .ok ({ w with ex := if was then { ex1 with queue := ex1.queue ++ [pid] } else ex1 }, [])
    | none => .ok ({ w with ex := { w.ex with spawning := w.ex.spawning.filter (· != pid) } }, [])
  | .resume pid fnOk =>
    if !fnOk then .error .functionNotFound
    else match w.ex.getProc pid with
      | none => .error .processNotFound
      | some p =>
        match p.result with
        -- /repo 6b45f34: a failed process is left alone (the result request that follows reports its
        -- error); before, `Err(ProcessFailed)` left `Worker::step` and stopped the worker
        | some (.err _) => .ok (w, [])
        | some (.ok _) => .ok ({ w with ex := { (w.ex.setProc pid { p with result := none }) with queue := w.ex.queue ++ [pid] } }, [])
        | none => .error .processNotSleeping

def Worker.handleCommands {V} (w : Worker V) : List (Cmd V) → Except IErr (Worker V × List (ProcessResults V))
  | [] => .ok (w, [])
  | c :: rest =>
    match w.handleCommand c with
    | .error e => .error e
    | .ok (w1, evs) =>
      match w1.handleCommands rest with
      | .error e => .error e
      | .ok (w2, evs') => .ok (w2, evs ++ evs')

/-- What the executor's `step` did in this worker step: nothing (`queue` empty), or the slice of the
    front process. -/
inductive Slice (V : Type) where
  | idle
  | ran (p' : Proc V) (how : SliceEnd V)
  /-- the popped process had no frames left (a re-queued failed process) -/
  | ranFinished

/-- `Executor::step`: expiry check, pop the front of the queue, the slice, the bookkeeping. -/
def Exec.step {V} (ex : Exec V) (now : Nat) (slice : Slice V) : Exec V :=
  let ex1 := ex.checkExpiredTimeouts now
  match ex1.queue with
  | [] => ex1
  | pid :: rest =>
    let ex2 := { ex1 with queue := rest }
    match slice with
    | .idle => ex2
    | .ran p' how => ex2.endSlice pid p' how
    | .ranFinished => ex2.popFinished pid

/-- does the slice run the finished block of `Executor::step` (the process ends in this step)? -/
def Slice.endsProcess {V} : Slice V → Bool
  | .ranFinished => true
  | .ran _ (.finishes _) => true
  | .ran _ (.raises _) => true
  | .ran _ .finishesEmpty => true
  | _ => false

/-- Variant `releaseDead` (notes/C06-fixes/01): the finished block ends with `release_dead_roots(current_pid)` —
    whenever it runs, ALSO in the instruction-less pass of a process that was failed from outside (effect error:
    result set, frames cleared, re-queued) and is popped with no frames left. A persistent process keeps its
    mailbox and await state. `ex'` is the executor after the step, `w1` the worker before it. -/
def Worker.releaseAfterStep {V} (w1 : Worker V) (now : Nat) (slice : Slice V) (ex' : Exec V) : Exec V :=
  if w1.variant.releaseDead && slice.endsProcess then
    match (w1.ex.checkExpiredTimeouts now).queue with
    | pid :: _ => if pid ∈ w1.persistent then ex' else ex'.releaseDead pid
    | [] => ex'
  else ex'

/-- `Worker::step`: commands, one executor step, `check_completed_processes`. (`handle_action`
    only extracts and forwards — total here, see the header.) -/
def Worker.step {V} (w : Worker V) (now : Nat) (cmds : List (Cmd V)) (slice : Slice V) :
    Except IErr (Worker V × List (ProcessResults V)) :=
  match w.handleCommands cmds with
  | .error e => .error e
  | .ok (w1, evs) =>
    let w2 := { w1 with ex := w1.releaseAfterStep now slice (w1.ex.step now slice) }
    let (w3, evs') := w2.checkCompleted
    .ok (w3, evs ++ evs')

end QM.Exec
