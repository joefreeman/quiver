import QuiverModel.Core.Builtins.Integer
/-
M-Num — hand translation of `std/num.qv` (function by function, branch by branch, in source order)
and of the literal desugaring in `quiver-compiler/src/parser.rs` (`reduce_rational`,
`decimal_parts`, `fraction_parts`, `rational_term`).

Conventions of the translation
* A Quiver value that may be nil is an `Option`: nil = `none`.
* Every builtin call goes through the integer model of `QuiverModel.Core.Builtins.Integer`
  (`i*` wrappers below).  A builtin *error* (division / modulo by zero, square root of a negative)
  is NOT turned into nil: it stays visible as `Res.err`, a Rust panic as `Res.panic`.
* The two self tail calls (`^` in `reduce` and `sqfree`) are loops; Lean wants them total, so they
  carry a fuel counter and answer `Res.fuelOut` when it runs out.  `reduce` gets fuel 2 (it calls
  itself at most once), `sqfree` gets fuel `m.toNat + 2`; theorems `C20.reduce_never_fuelOut` (every
  input) / `C20.sqfree_terminates` (the one call shape `[1, n, 2] sqfree`) show the fuel is never
  exhausted there, i.e. the loops terminate.
* A literal pattern `=-1` / `=0` / `=1` on the result of `__integer_compare__` is `if c = -1 …`;
  a failing pattern makes the condition nil, i.e. control goes to the next branch.
* Arguments are evaluated left to right, as the compiler emits them.
-/
namespace QM.Num
open QM QM.Builtins

/-- Outcome of a modelled `num.qv` function. -/
inductive Res (α : Type) where
  | ok (v : α)
  | err (e : ErrClass)
  | panic
  | fuelOut
  deriving DecidableEq, Repr

namespace Res
def bind {α β} (o : Res α) (f : α → Res β) : Res β :=
  match o with
  | .ok v => f v
  | .err e => .err e
  | .panic => .panic
  | .fuelOut => .fuelOut

def isOk {α} : Res α → Bool
  | .ok _ => true
  | _ => false
end Res

instance : Monad Res where
  pure := .ok
  bind := Res.bind

def lift {α} : Outcome α → Res α
  | .ok v => .ok v
  | .err e => .err e
  | .panic => .panic

/-! ### builtin calls used by num.qv -/
def iAdd (a b : Int) : Res Int := lift (integerAdd a b)
def iSub (a b : Int) : Res Int := lift (integerSubtract a b)
def iMul (a b : Int) : Res Int := lift (integerMultiply a b)
def iDiv (a b : Int) : Res Int := lift (integerDivide a b)
def iMod (a b : Int) : Res Int := lift (integerModulo a b)
def iGcd (a b : Int) : Res Int := lift (integerGcd a b)
def iCompare (a b : Int) : Res Int := lift (integerCompare a b)
def iAbs (a : Int) : Res Int := lift (integerAbs a)
def iSqrt (a : Int) : Res Int := lift (integerSqrt a)

/-! ### values -/

/-- `Rational[n, d]` -/
structure Rt where
  n : Int
  d : Int
  deriving DecidableEq, Repr, Inhabited

/-- `'coeff = 'int | 'rational` -/
inductive Coeff where
  | int (z : Int)
  | rat (n d : Int)
  deriving DecidableEq, Repr, Inhabited

/-- `' = 'coeff | 'surd`; `'opt` is `Option Num`. -/
inductive Num where
  | int (z : Int)
  | rat (n d : Int)
  | surd (a b : Coeff) (n : Int)
  deriving DecidableEq, Repr, Inhabited

def Coeff.toNum : Coeff → Num
  | .int z => .int z
  | .rat n d => .rat n d

def Rt.toCoeff (r : Rt) : Coeff := .rat r.n r.d
def Rt.toNum (r : Rt) : Num := .rat r.n r.d

/-! ### rational kernel -/

/-- `reduce`, with the self tail call of the first branch as a fuelled loop. -/
def reduceF : Nat → Rt → Res Rt
  | 0, _ => .fuelOut
  | fuel + 1, ⟨n, d⟩ => do
    let c ← iCompare d 0
    if c = -1 then do
      let n' ← iMul n (-1)
      let d' ← iMul d (-1)
      reduceF fuel ⟨n', d'⟩
    else do
      let g ← iGcd n d
      let n' ← iDiv n g
      let d' ← iDiv d g
      pure ⟨n', d'⟩

def reduce (r : Rt) : Res Rt := reduceF 2 r

/-- `lower = #'coeff { =Rational[n, 1] => n | =x => x }` -/
def lower : Coeff → Coeff
  | .rat n 1 => .int n
  | x => x

/-- `to_rational` -/
def toRational : Coeff → Rt
  | .rat n d => ⟨n, d⟩
  | .int n => ⟨n, 1⟩

def rsign (r : Rt) : Res Int := iCompare r.n 0

def rneg (r : Rt) : Res Rt := do
  let n' ← iMul r.n (-1)
  reduce ⟨n', r.d⟩

def radd (x y : Rt) : Res Rt := do
  let ad ← iMul x.n y.d
  let cb ← iMul y.n x.d
  let s ← iAdd ad cb
  let bd ← iMul x.d y.d
  reduce ⟨s, bd⟩

def rsub (x y : Rt) : Res Rt := do
  let ad ← iMul x.n y.d
  let cb ← iMul y.n x.d
  let s ← iSub ad cb
  let bd ← iMul x.d y.d
  reduce ⟨s, bd⟩

def rmul (x y : Rt) : Res Rt := do
  let ac ← iMul x.n y.n
  let bd ← iMul x.d y.d
  reduce ⟨ac, bd⟩

def rquot (x y : Rt) : Res Rt := do
  let ad ← iMul x.n y.d
  let bc ← iMul x.d y.n
  reduce ⟨ad, bc⟩

def rcompare (x y : Rt) : Res Int := do
  let ad ← iMul x.n y.d
  let cb ← iMul y.n x.d
  iCompare ad cb

/-! ### surd kernel -/

/-- `sqfree = #['int, 'int, 'int] { =[k, m, d] … }` as a fuelled loop. -/
def sqfreeF : Nat → Int → Int → Int → Res (Int × Int)
  | 0, _, _, _ => .fuelOut
  | fuel + 1, k, m, d => do
    let dd ← iMul d d
    let c ← iCompare dd m
    if c = 1 then pure (k, m)
    else do
      let dd2 ← iMul d d
      let r ← iMod m dd2
      if r = 0 then do
        let k' ← iMul k d
        let dd3 ← iMul d d
        let m' ← iDiv m dd3
        sqfreeF fuel k' m' d
      else do
        let d' ← iAdd d 1
        sqfreeF fuel k m d'

/-- `[k, m, d] sqfree`; the fuel bound is justified by `C20.sqfree_terminates`. -/
def sqfree (k m d : Int) : Res (Int × Int) := sqfreeF (m.toNat + 2) k m d

/-- `explode` -/
def explode : Num → Rt × Rt × Int
  | .surd a b n => (toRational a, toRational b, n)
  | .int z => (toRational (.int z), ⟨0, 1⟩, 1)
  | .rat n d => (toRational (.rat n d), ⟨0, 1⟩, 1)

/-- `radical`: the shared radical, or nil. -/
def radical (b1 : Rt) (n1 : Int) (b2 : Rt) (n2 : Int) : Res (Option Int) := do
  let s1 ← rsign b1
  if s1 = 0 then pure (some n2)
  else do
    let s2 ← rsign b2
    if s2 = 0 then pure (some n1)
    else do
      let c ← iCompare n1 n2
      if c = 0 then pure (some n1) else pure none

/-- `build` -/
def build (a b : Rt) (n : Int) : Res Num := do
  let c ← iCompare n 1
  if c = 0 then do
    let r ← radd a b
    pure (lower r.toCoeff).toNum
  else do
    let s ← rsign b
    if s = 0 then pure (lower a.toCoeff).toNum
    else pure (.surd (lower a.toCoeff) (lower b.toCoeff) n)

/-- `ssign` -/
def ssign (a b : Rt) (n : Int) : Res Int := do
  let sb ← rsign b
  let c0 ← iCompare sb 0
  if c0 = 0 then rsign a
  else do
    let a2 ← rmul a a
    let bb ← rmul b b
    let b2n ← rmul bb ⟨n, 1⟩
    let dsign ← rcompare a2 b2n
    let sa ← rsign a
    let c1 ← iCompare sb 0
    if c1 = 1 then do
      let c2 ← iCompare sa 0
      if c2 = -1 then iMul dsign (-1) else pure 1
    else do
      let c3 ← iCompare sa 0
      if c3 = 1 then pure dsign else pure (-1)

def surdAdd (x y : Num) : Res (Option Num) :=
  match explode x, explode y with
  | (a1, b1, n1), (a2, b2, n2) => do
    match ← radical b1 n1 b2 n2 with
    | none => pure none
    | some n => do
      let a ← radd a1 a2
      let b ← radd b1 b2
      let z ← build a b n
      pure (some z)

def surdSub (x y : Num) : Res (Option Num) :=
  match explode x, explode y with
  | (a1, b1, n1), (a2, b2, n2) => do
    match ← radical b1 n1 b2 n2 with
    | none => pure none
    | some n => do
      let a ← rsub a1 a2
      let b ← rsub b1 b2
      let z ← build a b n
      pure (some z)

def surdMul (x y : Num) : Res (Option Num) :=
  match explode x, explode y with
  | (a1, b1, n1), (a2, b2, n2) => do
    match ← radical b1 n1 b2 n2 with
    | none => pure none
    | some n => do
      let a1a2 ← rmul a1 a2
      let b1b2 ← rmul b1 b2
      let b1b2n ← rmul b1b2 ⟨n, 1⟩
      let a ← radd a1a2 b1b2n
      let a1b2 ← rmul a1 b2
      let a2b1 ← rmul a2 b1
      let b ← radd a1b2 a2b1
      let z ← build a b n
      pure (some z)

def surdDiv (x y : Num) : Res (Option Num) :=
  match explode x, explode y with
  | (a1, b1, n1), (a2, b2, n2) => do
    match ← radical b1 n1 b2 n2 with
    | none => pure none
    | some n => do
      let a2a2 ← rmul a2 a2
      let b2b2 ← rmul b2 b2
      let b2b2n ← rmul b2b2 ⟨n, 1⟩
      let dd ← rsub a2a2 b2b2n
      let s ← rsign dd
      if s = 0 then pure none
      else do
        let a1a2 ← rmul a1 a2
        let b1b2 ← rmul b1 b2
        let b1b2n ← rmul b1b2 ⟨n, 1⟩
        let na ← rsub a1a2 b1b2n
        let a ← rquot na dd
        let b1a2 ← rmul b1 a2
        let a1b2 ← rmul a1 b2
        let nb ← rsub b1a2 a1b2
        let b ← rquot nb dd
        let z ← build a b n
        pure (some z)

def surdCompare (x y : Num) : Res (Option Int) :=
  match explode x, explode y with
  | (a1, b1, n1), (a2, b2, n2) => do
    match ← radical b1 n1 b2 n2 with
    | none => pure none
    | some n => do
      let a ← rsub a1 a2
      let b ← rsub b1 b2
      let s ← ssign a b n
      pure (some s)

/-- view of a non-surd number as a coefficient -/
def Num.coeff? : Num → Option Coeff
  | .int z => some (.int z)
  | .rat n d => some (.rat n d)
  | .surd _ _ _ => none

/-- `compare = #['opt, 'opt] { … }` — seven branches in source order. -/
def compare : Option Num → Option Num → Res (Option Int)
  | none, _ => pure none
  | _, none => pure none
  | some (.surd a b n), some y => surdCompare (.surd a b n) y
  | some x, some (.surd a b n) => surdCompare x (.surd a b n)
  | some (.rat a b), some (.int y) => do let c ← rcompare ⟨a, b⟩ (toRational (.int y)); pure (some c)
  | some (.rat a b), some (.rat c d) => do let r ← rcompare ⟨a, b⟩ (toRational (.rat c d)); pure (some r)
  | some (.int x), some (.rat c d) => do let r ← rcompare (toRational (.int x)) ⟨c, d⟩; pure (some r)
  | some (.int x), some (.int y) => do let c ← iCompare x y; pure (some c)

/-- `to_int` -/
def toInt : Option Num → Res (Option Int)
  | some (.surd a b n) => do
    let ar := toRational a
    let br := toRational b
    let sgn ← ssign ar br n
    let c ← iCompare sgn 0
    let (pq : Rt × Rt) ← (if c = -1 then do
        let x ← rneg ar
        let y ← rneg br
        pure (x, y)
      else pure (ar, br))
    match pq with
    | (⟨pa, qa⟩, ⟨pb, qb⟩) => do
      let p ← iMul pa qb
      let q ← iMul pb qa
      let d ← iMul qa qb
      let qq ← iMul q q
      let qqn ← iMul qq n
      let s ← iSqrt qqn
      let c1 ← iCompare q 0
      let nlo ← (if c1 = 1 then iAdd p s
        else do
          let s1 ← iAdd s 1
          iSub p s1)
      let t ← iDiv nlo d
      let r ← iMul sgn t
      pure (some r)
  | some (.int z) =>
    match toRational (.int z) with
    | ⟨m, d⟩ => do let t ← iDiv m d; pure (some t)
  | some (.rat n d') =>
    match toRational (.rat n d') with
    | ⟨m, d⟩ => do let t ← iDiv m d; pure (some t)
  | none => pure none

/-- `sign = #'opt { [$, 0] compare }` -/
def sign (x : Option Num) : Res (Option Int) := compare x (some (.int 0))

/-- `min`: `[x, y] compare` is its own step, so a nil comparison (incompatible radicals)
short-circuits to nil; then `{ | =1 => y | x }`. -/
def min : Option Num → Option Num → Res (Option Num)
  | none, _ => pure none
  | some _, none => pure none
  | some x, some y => do
    match ← compare (some x) (some y) with
    | none => pure none
    | some c => if c = 1 then pure (some y) else pure (some x)

/-- `max` -/
def max : Option Num → Option Num → Res (Option Num)
  | none, _ => pure none
  | some _, none => pure none
  | some x, some y => do
    match ← compare (some x) (some y) with
    | none => pure none
    | some c => if c = -1 then pure (some y) else pure (some x)

/-- `clamp`: `[x, lo] compare, { | =-1 => lo | [x, hi] compare, { | =1 => hi | x } }` — each
comparison is a step of a sequence, nil short-circuits; `hi` is only looked at when `x ≥ lo`. -/
def clamp : Option Num → Option Num → Option Num → Res (Option Num)
  | none, _, _ => pure none
  | some _, none, _ => pure none
  | some _, some _, none => pure none
  | some x, some lo, some hi => do
    match ← compare (some x) (some lo) with
    | none => pure none
    | some c =>
      if c = -1 then pure (some lo)
      else do
        match ← compare (some x) (some hi) with
        | none => pure none
        | some c' => if c' = 1 then pure (some hi) else pure (some x)

/-- `floor` (as of 1b40f7e): `| =[] => [] | =x => { t = x to_int, { | [x, t] compare =-1 => … | t } }`.
For nil the first branch's condition is the matched nil, so control reaches `=x`, whose bare binder
matches nil as well and again yields nil: the block is nil. For a number `t = x to_int` is an
integer (the `none` arm below is the bare binder letting a nil `t` through: the comparison is then
nil, the `=-1` test fails and the result is `t`, i.e. nil). -/
def floor : Option Num → Res (Option Int)
  | none => pure none
  | some x => do
    match ← toInt (some x) with
    | none => pure none
    | some t => do
      let c ← compare (some x) (some (.int t))
      if c = some (-1) then do let r ← iSub t 1; pure (some r) else pure (some t)

/-- `ceil` (same shape as `floor`) -/
def ceil : Option Num → Res (Option Int)
  | none => pure none
  | some x => do
    match ← toInt (some x) with
    | none => pure none
    | some t => do
      let c ← compare (some x) (some (.int t))
      if c = some 1 then do let r ← iAdd t 1; pure (some r) else pure (some t)

/-- `round`: the first branch (`=[] => []`) and a nil `floor` both end in nil. -/
def round : Option Num → Res (Option Int)
  | none => pure none
  | some x => do
    match ← floor (some x) with
    | none => pure none
    | some f => do
      let f2 ← iMul f 2
      let f21 ← iAdd f2 1
      let mid : Num := .rat f21 2
      let c ← compare (some x) (some mid)
      if c = some 1 then do let r ← iAdd f 1; pure (some r)
      else do
        let c' ← compare (some x) (some mid)
        if c' = some (-1) then pure (some f)
        else do
          let c'' ← iCompare f 0
          if c'' = -1 then pure (some f)
          else do let r ← iAdd f 1; pure (some r)

/-! ### the exported record -/

def numer : Option Num → Res (Option Int)
  | some (.surd _ _ _) => pure none
  | some (.rat n _) => pure (some n)
  | some (.int z) => pure (some z)
  | none => pure none

def denom : Option Num → Res (Option Int)
  | some (.surd _ _ _) => pure none
  | some (.rat _ d) => pure (some d)
  | some (.int _) => pure (some 1)
  | none => pure none

/-- body of the `'coeff` branch of `sqrt` -/
def sqrtCoeff (c : Coeff) : Res (Option Num) :=
  match toRational c with
  | ⟨p, q⟩ => do
    let c1 ← iCompare p 0
    if c1 = -1 then pure none
    else do
      let c2 ← iCompare p 0
      if c2 = 0 then pure (some (.int 0))
      else do
        let pq ← iMul p q
        let (k, m) ← sqfree 1 pq 2
        let b ← reduce ⟨k, q⟩
        let z ← build ⟨0, 1⟩ b m
        pure (some z)

def sqrt : Option Num → Res (Option Num)
  | some (.surd _ _ _) => pure none
  | some (.int z) => sqrtCoeff (.int z)
  | some (.rat n d) => sqrtCoeff (.rat n d)
  | none => pure none

def add : Option Num → Option Num → Res (Option Num)
  | none, _ => pure none
  | _, none => pure none
  | some (.surd a b n), some y => surdAdd (.surd a b n) y
  | some x, some (.surd a b n) => surdAdd x (.surd a b n)
  | some (.rat a b), some (.int y) => do let r ← radd ⟨a, b⟩ (toRational (.int y)); pure (some r.toNum)
  | some (.rat a b), some (.rat c d) => do let r ← radd ⟨a, b⟩ (toRational (.rat c d)); pure (some r.toNum)
  | some (.int x), some (.rat c d) => do let r ← radd (toRational (.int x)) ⟨c, d⟩; pure (some r.toNum)
  | some (.int a), some (.int b) => do let r ← iAdd a b; pure (some (.int r))

def sub : Option Num → Option Num → Res (Option Num)
  | none, _ => pure none
  | _, none => pure none
  | some (.surd a b n), some y => surdSub (.surd a b n) y
  | some x, some (.surd a b n) => surdSub x (.surd a b n)
  | some (.rat a b), some (.int y) => do let r ← rsub ⟨a, b⟩ (toRational (.int y)); pure (some r.toNum)
  | some (.rat a b), some (.rat c d) => do let r ← rsub ⟨a, b⟩ (toRational (.rat c d)); pure (some r.toNum)
  | some (.int x), some (.rat c d) => do let r ← rsub (toRational (.int x)) ⟨c, d⟩; pure (some r.toNum)
  | some (.int a), some (.int b) => do let r ← iSub a b; pure (some (.int r))

def mul : Option Num → Option Num → Res (Option Num)
  | none, _ => pure none
  | _, none => pure none
  | some (.surd a b n), some y => surdMul (.surd a b n) y
  | some x, some (.surd a b n) => surdMul x (.surd a b n)
  | some (.rat a b), some (.int y) => do let r ← rmul ⟨a, b⟩ (toRational (.int y)); pure (some r.toNum)
  | some (.rat a b), some (.rat c d) => do let r ← rmul ⟨a, b⟩ (toRational (.rat c d)); pure (some r.toNum)
  | some (.int x), some (.rat c d) => do let r ← rmul (toRational (.int x)) ⟨c, d⟩; pure (some r.toNum)
  | some (.int a), some (.int b) => do let r ← iMul a b; pure (some (.int r))

/-- last branch of `div`: both operands int/rational -/
def divCoeff (x y : Coeff) : Res (Option Num) :=
  match toRational x, toRational y with
  | ⟨a, b⟩, ⟨c, d⟩ =>
    if c = 0 then pure none
    else do
      let ad ← iMul a d
      let bc ← iMul b c
      let r ← reduce ⟨ad, bc⟩
      pure (some r.toNum)

def div : Option Num → Option Num → Res (Option Num)
  | none, _ => pure none
  | _, none => pure none
  | some (.surd a b n), some y => surdDiv (.surd a b n) y
  | some x, some (.surd a b n) => surdDiv x (.surd a b n)
  | some (.rat a b), some (.int y) => divCoeff (.rat a b) (.int y)
  | some (.rat a b), some (.rat c d) => divCoeff (.rat a b) (.rat c d)
  | some (.int x), some (.rat c d) => divCoeff (.int x) (.rat c d)
  | some (.int x), some (.int y) => divCoeff (.int x) (.int y)

def neg : Option Num → Res (Option Num)
  | some (.surd a b n) => do
    let a' ← rneg (toRational a)
    let b' ← rneg (toRational b)
    let z ← build a' b' n
    pure (some z)
  | some (.rat m d) => do
    let m' ← iMul m (-1)
    let r ← reduce ⟨m', d⟩
    pure (some r.toNum)
  | some (.int z) => do let r ← iMul z (-1); pure (some (.int r))
  | none => pure none

def abs : Option Num → Res (Option Num)
  | some (.surd a b n) => do
    let ar := toRational a
    let br := toRational b
    let s ← ssign ar br n
    if s = -1 then do
      let a' ← rneg ar
      let b' ← rneg br
      let z ← build a' b' n
      pure (some z)
    else pure (some (.surd a b n))
  | some (.rat m d) => do let m' ← iAbs m; pure (some (.rat m' d))
  | some (.int z) => do let r ← iAbs z; pure (some (.int r))
  | none => pure none

/-- `eq?: #['opt, 'opt] { compare =0, Ok }` — `some ()` is `Ok`. -/
def eqQ (x y : Option Num) : Res (Option Unit) := do
  let c ← compare x y
  if c = some 0 then pure (some ()) else pure none
def ltQ (x y : Option Num) : Res (Option Unit) := do
  let c ← compare x y
  if c = some (-1) then pure (some ()) else pure none
def leQ (x y : Option Num) : Res (Option Unit) := do
  let c ← compare x y
  if c = some (-1) then pure (some ()) else if c = some 0 then pure (some ()) else pure none
def gtQ (x y : Option Num) : Res (Option Unit) := do
  let c ← compare x y
  if c = some 1 then pure (some ()) else pure none
def geQ (x y : Option Num) : Res (Option Unit) := do
  let c ← compare x y
  if c = some 0 then pure (some ()) else if c = some 1 then pure (some ()) else pure none

/-! ### literal desugaring (`parser.rs`) -/

/-- `reduce_rational` (num-bigint `gcd` is non-negative; `/` truncates) -/
def reduceRational (numer denom : Int) : Int × Int :=
  let g : Int := Int.ofNat (Int.gcd numer denom)
  if g = 0 then (numer, denom) else (Int.tdiv numer g, Int.tdiv denom g)

/-- value of a decimal digit string (`str::parse::<BigInt>`), most significant digit first -/
def digitsVal (ds : List Nat) : Nat := ds.foldl (fun acc d => acc * 10 + d) 0

/-- `decimal_parts`: sign, integer-part digits, fraction-part digits -/
def decimalParts (neg : Bool) (ip fp : List Nat) : Int × Int :=
  let magnitude : Int := Int.ofNat (digitsVal (ip ++ fp))
  let numer := if neg then -magnitude else magnitude
  (numer, (10 : Int) ^ fp.length)

/-- `fraction_parts`: `none` is the parse error for a zero denominator -/
def fractionParts (neg : Bool) (np dp : List Nat) : Option (Int × Int) :=
  let magnitude : Int := Int.ofNat (digitsVal np)
  let numer := if neg then -magnitude else magnitude
  let denom : Int := Int.ofNat (digitsVal dp)
  if denom = 0 then none else some (numer, denom)

/-- `rational_term` -/
def rationalTerm (nd : Int × Int) : Num :=
  match reduceRational nd.1 nd.2 with
  | (n, d) => .rat n d

def decimalLit (neg : Bool) (ip fp : List Nat) : Num := rationalTerm (decimalParts neg ip fp)
def fractionLit (neg : Bool) (np dp : List Nat) : Option Num :=
  (fractionParts neg np dp).map rationalTerm

end QM.Num
