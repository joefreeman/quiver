/-
M-Sys — protocol-level model of the Quiver environment/worker system (import-free).

Mirrors, at message level:
  /repo/quiver-environment/src/environment.rs  `Environment::step`, `handle_event`, `handle_spawn`,
      `handle_deliver`, `handle_await_processes`, `handle_process_results` (after fix b8eb814: a later
      completion is MERGED into a worker's pending answer), `process_router`, `next_process_id`
  /repo/quiver-environment/src/worker.rs       `Worker::step` (drain visible commands, one executor
      step, `handle_action`, `check_completed_processes`), `query_and_await`, `update_await_results`,
      `notify_result`, `awaited` / `awaiters_for_target`, `get_result`
  /repo/quiver-core/src/executor.rs            `step` (time slice, park on spawn/select, requeue rule,
      finished branch with same-worker awaiter notification), `notify_message`, `notify_result`,
      `notify_spawn`, `mark_active`, `mark_selecting`, `mark_spawning`, `check_expired_timeouts`,
      the select instruction (`initialize_select`, `process_select_sources`) at source granularity.

A process's *program* is abstracted to a script of actions (`Act`): what instructions compute between
two routed actions is irrelevant to the routing protocol.  One execution of a `Select` instruction, one
`Send`, one `Spawn`, the failing instruction of `fail`, and running off the end of the function are
the "attempts" a time slice is made of; `Choice.worker … fuel …` says how many attempts the slice
contains (the real slice length in instructions decides that; the theorems quantify over every
`fuel`, hence over every quantum).

Iteration orders of Rust hash maps/sets that are observable (order of re-queueing, order of emitted
events) are parameters of the choice (`ordQ`, `ordE`); the theorems quantify over them as well.

Deviation (documented): after the first `EnvironmentError` (`fault := true`) the real `step` returns
early and drops the rest of its batch; the model keeps going.  `fault` is sticky, the routing invariant
(`RInv`, which every other invariant comes with) includes `fault = false`, and the harness treats any real fault as a
violation.
-/
namespace QM.Sys

/-- Variants of the runtime mirrored by the model: each flag is one repair of the code (a commit of /repo, named
below); `false` = the code before that commit, `true` = from it on.  /repo HEAD contains all three commits, so it is
the configuration with all three flags `true`.  Every definition that depends on a
flag takes the configuration as an instance argument, so every theorem of the library is a theorem
about EVERY configuration unless it names one.
* `selectWaits` — /repo b0190c3, notes/C05-fixes/01 (`SelectState.unanswered`).
* `releaseDead` — /repo 4dd92c6, notes/C06-fixes/01 (`release_dead_roots`, `notify_message` drops for dead receivers).
* `exitReports` — /repo 5cb2956, notes/C14-fixes/01: the worker reports every terminated process
  (`Event::ProcessExited`) from `check_completed_processes`, before any ProcessResults carrying its
  result; the environment only uses it for resources (no routing, no awaits). -/
class Cfg where
  exitReports : Bool := false
  /-- notes/C05-fixes/01: a select with process sources evaluates nothing until every target has been
  answered (result, failure or the "registered" placeholder); an already failed target is answered
  with its error in the first answer -/
  selectWaits : Bool := false
  /-- notes/C06-fixes/01: at completion a process that cannot be resumed releases its mailbox, select
  state and stored await answers; `notify_message` drops a message for a failed or finished
  non-persistent process before injecting it -/
  releaseDead : Bool := false

/-- all three flags off: the system code as of /repo 1d93429, the parent of the first of the three commits (5cb2956,
b0190c3, 4dd92c6).  It is NOT /repo HEAD, which has all three repairs (all flags `true`). -/
@[instance_reducible] def Cfg.head : Cfg := {}

/-- default configuration (used where no configuration is in scope): all flags off, see `Cfg.head` -/
instance (priority := low) instCfgDefault : Cfg := Cfg.head

variable [Cfg]

abbrev Pid := Nat
abbrev Wid := Nat
/-- Flattened canonical value: a tuple is `-1 :: items ++ [-2]`, an integer is itself (≥ 0). -/
abbrev Val := List Int

def Val.nil : Val := [-1, -2]
def Val.tuple (items : List Val) : Val := (-1 : Int) :: (items.flatten ++ [-2])

/-- Result of a process: a value or (the class of) a runtime error. -/
inductive Res where
  | ok (v : Val)
  | err
  deriving DecidableEq, Repr, Inhabited

/-- A message `[tag, seq]`; `src` is a ghost field (the sending process). -/
structure Msg where
  src : Pid
  tag : Nat
  seq : Nat
  deriving DecidableEq, Repr, Inhabited

def Msg.val (m : Msg) : Val := Val.tuple [[(m.tag : Int)], [(m.seq : Int)]]

/-- What a receive source accepts (type-only receive of every message type = `any`; a pure filter on
the tag = `tag k`; a type-only receive of one message type = `range lo hi`: message types are
classes of tags). -/
inductive Filter where
  | any
  | tag (k : Nat)
  | range (lo hi : Nat)
  deriving DecidableEq, Repr, Inhabited

def Filter.accepts : Filter → Msg → Bool
  | .any, _ => true
  | .tag k, m => m.tag == k
  | .range lo hi, m => decide (lo ≤ m.tag) && decide (m.tag < hi)

/-- Select sources; `proc r` awaits the process held in register `r`. -/
inductive Src where
  | proc (reg : Nat)
  | recv (f : Filter)
  | timeout (ms : Nat)
  deriving DecidableEq, Repr, Inhabited

/-- Abstract actions of a process script.  Register 0 holds the process's own pid, registers
1… the pids passed at spawn, then the pids of its own children in spawn order. -/
inductive Act where
  | send (reg : Nat) (tag : Nat) (seq : Nat)
  | spawn (fn : Nat) (pass : List Nat)
  | select (srcs : List Src)
  | fail
  deriving DecidableEq, Repr, Inhabited

abbrev Script := List Act
abbrev Prog := List Script

/-! ### small map / set helpers (lists as sets, functions as maps) -/

def upd {α : Type} (f : Nat → α) (i : Nat) (v : α) : Nat → α := fun j => if j = i then v else f j

@[simp] theorem upd_same {α : Type} (f : Nat → α) (i : Nat) (v : α) : upd f i v i = v := by simp [upd]
@[simp] theorem upd_other {α : Type} (f : Nat → α) (i j : Nat) (v : α) (h : j ≠ i) : upd f i v j = f j := by
  simp [upd, h]

def sinsert (l : List Nat) (x : Nat) : List Nat := if x ∈ l then l else l ++ [x]
def serase (l : List Nat) (x : Nat) : List Nat := l.filter (· ≠ x)

/-- Iterate the set `s` in the order given by the hint `ord` (first occurrences; elements the hint
does not mention come last, in `s` order). Always a permutation of `s` when `s` has no duplicates. -/
def orderBy : List Nat → List Nat → List Nat
  | [], s => s
  | o :: ord, s => if o ∈ s then o :: orderBy ord (serase s o) else orderBy ord s

def alookup {β : Type} : List (Nat × β) → Nat → Option β
  | [], _ => none
  | (k, v) :: rest, x => if k = x then some v else alookup rest x

def ainsert {β : Type} : List (Nat × β) → Nat → β → List (Nat × β)
  | [], x, v => [(x, v)]
  | (k, w) :: rest, x, v => if k = x then (k, v) :: rest else (k, w) :: ainsert rest x v

/-- `HashMap::extend`. -/
def aextend {β : Type} (m : List (Nat × β)) (more : List (Nat × β)) : List (Nat × β) :=
  more.foldl (fun acc kv => ainsert acc kv.1 kv.2) m

/-! ### processes -/

structure Proc where
  fn : Nat
  pc : Nat
  regs : List Pid
  /-- what the process has obtained from its selects so far (its result is the tuple of these) -/
  acc : List Val
  mailbox : List Msg
  /-- `Process.awaiting`: awaited pid ↦ result once known; the entries of a select's process sources
  are dropped by `complete_select` -/
  awaiting : List (Pid × Option Val)
  /-- `Process.awaiting_failed`: awaited pids (of the current select) known to have failed -/
  awaitFailed : List Pid
  /-- `SelectState.unanswered` (variant `selectWaits`; maintained always, read only by the variant):
  process sources of the current select whose worker has not answered the await yet -/
  unanswered : List Pid := []
  /-- the `Spawn` instruction at `pc` has been executed (operands popped, `Action::Spawn` emitted)
  and `notify_spawn` has not yet advanced the counter -/
  spawnIssued : Bool
  /-- `select_state.is_some()` -/
  selInit : Bool
  /-- `select_state.start_time` -/
  selStart : Option Nat
  result : Option Res
  persistent : Bool
  deriving Repr, Inhabited

def Proc.fresh (fn : Nat) (regs : List Pid) : Proc :=
  { fn := fn, pc := 0, regs := regs, acc := [], mailbox := [], awaiting := [], awaitFailed := [], spawnIssued := false, selInit := false,
    selStart := none, result := none, persistent := false }

/-- `spawn_process(id, None, …, persistent = true)`: a sleeping persistent process. -/
def Proc.sleeping (self : Pid) : Proc :=
  { Proc.fresh 0 [self] with result := some (.ok Val.nil), persistent := true }

def Proc.reg (p : Proc) (r : Nat) : Pid := p.regs.getD r 0

def Proc.script (prog : Prog) (p : Proc) : Script := prog.getD p.fn []

/-- the result of a finished process: `[script index, item₁, item₂, …]` -/
def Proc.value (p : Proc) : Val := Val.tuple ([(p.fn : Int)] :: p.acc)

/-- can the process still receive a message (`notify_message`, variant `releaseDead`)?  Not once it has
failed, nor once it has finished unless it is persistent (then it only sleeps). -/
def Proc.deliverable (x : Proc) : Bool :=
  match x.result with
  | none => true
  | some (.ok _) => x.persistent
  | some .err => false

/-- `release_dead_roots` (variant `releaseDead`), the part the protocol model sees: a process that is
not persistent gives up its mailbox, its select state and its stored await answers. -/
def Proc.releaseDead (x : Proc) : Proc :=
  if x.persistent then x
  else { x with mailbox := [], awaiting := [], awaitFailed := [], selInit := false, selStart := none, unanswered := [] }

/-- pid targets of a select (`initialize_select`: the process sources, in order). -/
def selTargets (p : Proc) : List Src → List Pid
  | [] => []
  | .proc r :: rest => p.reg r :: selTargets p rest
  | _ :: rest => selTargets p rest

def firstAccepted (f : Filter) : List Msg → Option (Msg × List Msg)
  | [] => none
  | m :: rest =>
    if f.accepts m then some (m, rest)
    else match firstAccepted f rest with
      | some (x, rest') => some (x, m :: rest')
      | none => none

/-- Readiness of a select source in the process's local state. -/
inductive Ready where
  | no
  /-- ready: the value the select yields and the mailbox afterwards -/
  | yes (v : Val) (mb : List Msg)
  /-- an awaited target failed: the select propagates the error (`handle_select_process`) -/
  | fail
  deriving Repr, Inhabited

/-- Is this single source ready in the process's local state (at clock `now`, select started at
`start`)? -/
def srcReady (p : Proc) (now start : Nat) : Src → Ready
  | .proc r =>
    if p.reg r ∈ p.awaitFailed then .fail
    else match alookup p.awaiting (p.reg r) with
    | some (some v) => .yes v p.mailbox
    | _ => .no
  | .recv f =>
    match firstAccepted f p.mailbox with
    | some (m, rest) => .yes m.val rest
    | none => .no
  | .timeout ms => if now - start ≥ ms then .yes Val.nil p.mailbox else .no

/-- `process_select_sources`: sources in written order, the first ready one decides. -/
def firstReady (p : Proc) (now start : Nat) : List Src → Ready
  | [] => .no
  | s :: rest =>
    match srcReady p now start s with
    | .no => firstReady p now start rest
    | r => r

/-- How a time slice ends. -/
inductive Outcome where
  /-- slice exhausted (or ended at a function return) with nothing routed -/
  | cont
  /-- `Action::Deliver` -/
  | send (target : Pid) (m : Msg)
  /-- `mark_spawning` + `Action::Spawn` -/
  | spawn (fn : Nat) (regs : List Pid)
  /-- `initialize_select` with process sources: `mark_selecting` + `Action::Await` -/
  | awaitInit (targets : List Pid)
  /-- no source ready: `mark_selecting` -/
  | blocked
  /-- an instruction failed: `result = Err`, frames cleared -/
  | failed
  /-- ran off the end of the function: frames exhausted -/
  | done
  deriving Repr, Inhabited

/-- One time slice of process `self`: at most `fuel` attempts (see the file header). -/
def slice (prog : Prog) (now : Nat) (self : Pid) : Nat → Proc → Proc × Outcome
  | 0, p => (p, .cont)
  | fuel + 1, p =>
    match (p.script prog)[p.pc]? with
    | none => (p, .done)
    | some (.send r tag seq) =>
      ({ p with pc := p.pc + 1 }, .send (p.reg r) { src := self, tag := tag, seq := seq })
    | some (.spawn fn pass) =>
      -- a re-executed Spawn (the process was woken while parked in `spawning`) finds its operands
      -- gone: `Err(StackUnderflow)` in statement position
      if p.spawnIssued then ({ p with result := some .err }, .failed)
      else ({ p with spawnIssued := true }, .spawn fn (pass.map p.reg))
    | some .fail => ({ p with result := some .err }, .failed)
    | some (.select srcs) =>
      if !p.selInit then
        -- initialize_select
        let ts := selTargets p srcs
        if ts.isEmpty then
          slice prog now self fuel { p with selInit := true, selStart := some now }
        else
          ({ p with selInit := true, selStart := none, unanswered := ts,
                    awaiting := ts.foldl (fun a t => ainsert a t none) p.awaiting }, .awaitInit ts)
      else if Cfg.selectWaits && !p.unanswered.isEmpty then
        -- variant `selectWaits`: answers pending — `mark_selecting`, nothing is evaluated
        (p, .blocked)
      else
        -- ensure_select_start_time + process_select_sources
        let start := p.selStart.getD now
        let p1 := { p with selStart := some start }
        match firstReady p1 now start srcs with
        | .yes v mb =>
          -- complete_select: the awaits registered for this select end with it
          let ts := selTargets p srcs
          slice prog now self fuel
            { p1 with pc := p.pc + 1, selInit := false, selStart := none, acc := p.acc ++ [v], mailbox := mb,
                      unanswered := [],
                      awaiting := p.awaiting.filter (fun kv => kv.1 ∉ ts),
                      awaitFailed := p.awaitFailed.filter (· ∉ ts) }
        | .fail => ({ p1 with result := some .err }, .failed)
        | .no => (p1, .blocked)

/-! ### messages between environment and workers (`messages.rs`) -/

abbrev Results := List (Pid × Option Res)

inductive Cmd where
  /-- UpdateProgram / CompactLocals / … : no effect on the routing protocol -/
  | misc
  /-- StartProcess {id, function_index: None} -/
  | start (p : Pid)
  | resume (p : Pid) (fn : Nat)
  /-- SpawnProcess {id, function_index, captures…}: `regs` = pids handed to the child -/
  | spawn (p : Pid) (fn : Nat) (regs : List Pid)
  | notifySpawn (caller : Pid) (newPid : Pid)
  | deliver (target : Pid) (m : Msg)
  | queryAwait (awaiter : Pid) (targets : List Pid)
  | updateAwait (awaiter : Pid) (results : Results)
  | getResult (req : Nat) (p : Pid)
  deriving DecidableEq, Repr, Inhabited

inductive Evt where
  /-- SpawnAction; `coloc` = owner process of the first resource among captures/argument, if any -/
  | spawn (caller : Pid) (fn : Nat) (regs : List Pid) (coloc : Option Pid)
  | deliver (target : Pid) (m : Msg)
  | await (awaiter : Pid) (targets : List Pid)
  | procResults (awaiter : Pid) (results : Results)
  | resultResp (req : Nat) (r : Res)
  /-- ProcessExited (variant `exitReports`): the process has terminated -/
  | exited (p : Pid)
  deriving DecidableEq, Repr, Inhabited

/-! ### worker -/

structure WorkerSt where
  /-- keys of `Executor.processes` in insertion order -/
  pids : List Pid
  procs : Pid → Option Proc
  queue : List Pid
  spawning : List Pid
  selecting : List Pid
  awaited : List Pid
  awaitersFor : Pid → List Pid
  resultReqKeys : List Pid
  resultReqs : Pid → List Nat
  deriving Inhabited

def WorkerSt.empty : WorkerSt :=
  { pids := [], procs := fun _ => none, queue := [], spawning := [], selecting := [], awaited := [],
    awaitersFor := fun _ => [], resultReqKeys := [], resultReqs := fun _ => [] }

def WorkerSt.setProc (w : WorkerSt) (p : Pid) (x : Proc) : WorkerSt :=
  { w with procs := upd w.procs p (some x), pids := sinsert w.pids p }

/-- apply `f` to process `p` if it exists -/
def WorkerSt.modProc (w : WorkerSt) (p : Pid) (f : Proc → Proc) : WorkerSt :=
  match w.procs p with
  | some x => { w with procs := upd w.procs p (some (f x)) }
  | none => w

/-- `selecting.remove(&id)` then `queue.push_back(id)` if it was there. -/
def WorkerSt.wakeSelecting (w : WorkerSt) (p : Pid) : WorkerSt :=
  if p ∈ w.selecting then { w with selecting := serase w.selecting p, queue := w.queue ++ [p] } else w

/-- `Executor::mark_active`. -/
def WorkerSt.markActive (w : WorkerSt) (p : Pid) : WorkerSt :=
  if p ∈ w.spawning ∨ p ∈ w.selecting then
    { w with spawning := serase w.spawning p, selecting := serase w.selecting p, queue := w.queue ++ [p] }
  else w

/-- does the awaiter's current select still await the target (`still_awaiting`)? -/
def Proc.stillAwaiting (x : Proc) (awaited : Pid) : Bool :=
  x.result.isNone && (alookup x.awaiting awaited).isSome

/-- `Executor::notify_result` (Ok value): stored only if still awaited; re-queue if parked. -/
def WorkerSt.notifyResultOk (w : WorkerSt) (awaiter awaited : Pid) (v : Val) : WorkerSt :=
  (w.modProc awaiter (fun x =>
    if x.stillAwaiting awaited then
      { x with awaiting := ainsert x.awaiting awaited (some v), unanswered := x.unanswered.filter (· ≠ awaited) }
    else x)).wakeSelecting awaiter

/-- `Executor::notify_failure`: a failed target is a ready source of the awaiter's current select. -/
def WorkerSt.notifyFailure (w : WorkerSt) (awaiter awaited : Pid) : WorkerSt :=
  match w.procs awaiter with
  | some x =>
    if x.stillAwaiting awaited then
      (w.modProc awaiter (fun x => { x with awaitFailed := sinsert x.awaitFailed awaited,
                                            unanswered := x.unanswered.filter (· ≠ awaited) })).wakeSelecting awaiter
    else w
  | none => w

/-- `Executor::notify_pending` (variant `selectWaits`): the target's worker has answered "not finished,
you are registered" -/
def WorkerSt.notifyPending (w : WorkerSt) (awaiter awaited : Pid) : WorkerSt :=
  w.modProc awaiter (fun x => { x with unanswered := x.unanswered.filter (· ≠ awaited) })

/-- `Worker::notify_result`. -/
def WorkerSt.notifyResult (w : WorkerSt) (awaiter awaited : Pid) : Res → WorkerSt
  | .ok v => w.notifyResultOk awaiter awaited v
  | .err => w.notifyFailure awaiter awaited

/-- `get_status` ∈ {Completed, Sleeping}. -/
def WorkerSt.completedStatus (w : WorkerSt) (p : Pid) : Option Res :=
  match w.procs p with
  | none => none
  | some x =>
    if p ∈ w.queue then none
    else if p ∈ w.spawning ∨ p ∈ w.selecting then none
    else match x.result with
      | some (.ok v) => some (.ok v)
      -- variant `selectWaits`: a failed process is complete as well (its error is in this answer)
      | some .err => if Cfg.selectWaits then some .err else none
      | none => none

def WorkerSt.resultOf (w : WorkerSt) (p : Pid) : Option Res :=
  match w.procs p with
  | some x => x.result
  | none => none

/-! ### environment -/

structure PendingAwait where
  expected : List Wid
  responses : List (Wid × Results)
  deriving Repr, Inhabited

structure Env where
  router : Pid → Option Wid
  pending : Pid → Option PendingAwait
  nextPid : Nat
  /-- answered requests (`pending_requests`) -/
  results : List (Nat × Res)
  deriving Inhabited

/-! ### the system -/

structure Sys where
  n : Nat
  prog : Prog
  env : Env
  wk : Wid → WorkerSt
  cmdQ : Wid → List Cmd
  evtQ : Wid → List Evt
  now : Nat
  /-- an `EnvironmentError` was returned by `Environment::step` / `Worker::step` -/
  fault : Bool
  /- ghost history -/
  /-- (receiver, message) in the order the sends were handled by the senders' workers -/
  sent : List (Pid × Msg)
  /-- (receiver, message) in the order `notify_message` handled them for a process the worker knows:
  appended to the mailbox (all of them unless variant `releaseDead` is on, see `deadDropped`) -/
  appended : List (Pid × Msg)
  /-- (receiver, message) dropped by `notify_message` because the process does not exist -/
  dropped : List (Pid × Msg)
  /-- (caller, new pid) for every SpawnAction handled by the environment -/
  spawned : List (Pid × Pid)
  /-- (caller, new pid) for every NotifySpawn applied by a worker; Bool = caller was re-queued -/
  spawnNotified : List (Pid × Pid × Bool)
  /-- (awaiter, target) for every completed target a worker reported in a ProcessResults event -/
  reported : List (Pid × Pid)
  /-- (awaiter, target) for every result (or error) applied to the awaiter by its worker -/
  learned : List (Pid × Pid)
  /-- variant `releaseDead`: the entries of `appended` that `notify_message` did NOT put into the mailbox
  because the receiver had failed or had finished and cannot be resumed -/
  deadDropped : List (Pid × Msg) := []
  deriving Inhabited

def Sys.pushCmd (s : Sys) (w : Wid) (c : Cmd) : Sys := { s with cmdQ := upd s.cmdQ w (s.cmdQ w ++ [c]) }
def Sys.pushEvt (s : Sys) (w : Wid) (e : Evt) : Sys := { s with evtQ := upd s.evtQ w (s.evtQ w ++ [e]) }
def Sys.setWk (s : Sys) (w : Wid) (x : WorkerSt) : Sys := { s with wk := upd s.wk w x }
def Sys.setFault (s : Sys) : Sys := { s with fault := true }

/-! #### environment handlers -/

/-- Placement of a new process: on the worker of the owner of the first resource it is handed, else
round-robin by pid. -/
def placement (s : Sys) (coloc : Option Pid) (newPid : Pid) : Wid :=
  match coloc.bind s.env.router with
  | some w => w
  | none => newPid % s.n

/-- `handle_spawn`. -/
def handleSpawn (s : Sys) (caller : Pid) (fn : Nat) (regs : List Pid) (coloc : Option Pid) : Sys :=
  let newPid := s.env.nextPid
  let w := placement s coloc newPid
  let s1 := { s with env := { s.env with nextPid := newPid + 1, router := upd s.env.router newPid (some w) } }
  let s2 := s1.pushCmd w (.spawn newPid fn regs)
  match s2.env.router caller with
  | none => s2.setFault
  | some cw => { s2.pushCmd cw (.notifySpawn caller newPid) with spawned := s2.spawned ++ [(caller, newPid)] }

/-- `handle_deliver`. -/
def handleDeliver (s : Sys) (target : Pid) (m : Msg) : Sys :=
  match s.env.router target with
  | none => s.setFault
  | some w => s.pushCmd w (.deliver target m)

/-- workers of the targets in first-occurrence order (`targets_by_worker.keys()`) -/
def targetWorkers (router : Pid → Option Wid) : List Pid → List Wid
  | [] => []
  | t :: rest =>
    let ws := targetWorkers router rest
    match router t with
    | some w => w :: ws.filter (· ≠ w)
    | none => ws

/-- `handle_await_processes`. -/
def handleAwait (s : Sys) (awaiter : Pid) (targets : List Pid) : Sys :=
  if targets.any (fun t => (s.env.router t).isNone) then s.setFault
  else
    let ws := targetWorkers s.env.router targets
    let s1 := { s with env := { s.env with pending := upd s.env.pending awaiter (some { expected := ws, responses := [] }) } }
    ws.foldl (fun acc w => acc.pushCmd w (.queryAwait awaiter (targets.filter (fun t => s.env.router t = some w)))) s1

/-- how `handle_process_results` combines a worker's new answer with its pending one -/
def mergeAnswer (old : Option Results) (new : Results) : Results :=
  match old with
  | some r => aextend r new
  | none => new

/-- the pre-b8eb814 behaviour: `responses.insert(worker_id, results)` -/
def replaceAnswer (_old : Option Results) (new : Results) : Results := new

/-- The three places where the code was repaired after defects this model exposed; the current
rules are `Rules.current`, the earlier ones are kept to show that the theorems depend on the fixes. -/
structure Rules where
  /-- `handle_process_results`: how a worker's later answer is combined with its pending one -/
  combine : Option Results → Results → Results
  /-- `update_await_results`: how the awaiter is woken after the answer's results have been applied -/
  emptyWake : WorkerSt → Pid → WorkerSt
  /-- … only if the answer carries no result at all (before fix 755cedc) -/
  wakeOnlyIfEmpty : Bool

/-- `handle_process_results`, parametric in how a worker's answers are combined. -/
def handleProcResultsWith (combine : Option Results → Results → Results)
    (s : Sys) (awaiter : Pid) (results : Results) : Sys :=
  let sender : Option Wid := match results with
    | [] => none
    | (p, _) :: _ => s.env.router p
  match s.env.pending awaiter with
  | some pa =>
    match sender with
    | none => s
    | some w =>
      let responses := ainsert pa.responses w (combine (alookup pa.responses w) results)
      let expected := pa.expected.filter (· ≠ w)
      if expected.isEmpty then
        let all : Results := (responses.map (·.2)).flatten
        let s1 := { s with env := { s.env with pending := upd s.env.pending awaiter none } }
        match s1.env.router awaiter with
        | none => s1.setFault
        | some aw => s1.pushCmd aw (.updateAwait awaiter all)
      else
        { s with env := { s.env with pending := upd s.env.pending awaiter (some { expected := expected, responses := responses }) } }
  | none =>
    match s.env.router awaiter with
    | none => s.setFault
    | some aw => s.pushCmd aw (.updateAwait awaiter results)

def handleEventWith (combine : Option Results → Results → Results) (s : Sys) : Evt → Sys
  | .spawn caller fn regs coloc => handleSpawn s caller fn regs coloc
  | .deliver t m => handleDeliver s t m
  | .await a ts => handleAwait s a ts
  | .procResults a rs => handleProcResultsWith combine s a rs
  | .resultResp req r => { s with env := { s.env with results := s.env.results ++ [(req, r)] } }
  -- `handle_process_exited`: resources only — nothing the protocol model has
  | .exited _ => s

/-- the environment consumes the first queued event of worker `w` -/
def envStep1With (combine : Option Results → Results → Results) (s : Sys) (w : Wid) : Sys :=
  match s.evtQ w with
  | [] => s
  | e :: rest => handleEventWith combine { s with evtQ := upd s.evtQ w rest } e

/-! #### worker command handlers -/

/-- `query_and_await`: returns the new worker state and the results map (the reported targets are `reportedOf` of it). -/
def queryTargets (w : WorkerSt) (awaiter : Pid) : List Pid → WorkerSt × Results
  | [] => (w, [])
  | t :: rest =>
    match w.completedStatus t with
    | some r =>
      ((queryTargets w awaiter rest).1, ainsert (queryTargets w awaiter rest).2 t (some r))
    | none =>
      let w1 := { w with awaited := sinsert w.awaited t, awaitersFor := upd w.awaitersFor t (w.awaitersFor t ++ [awaiter]) }
      ((queryTargets w1 awaiter rest).1, ainsert (queryTargets w1 awaiter rest).2 t none)

def reportedOf (awaiter : Pid) (rs : Results) : List (Pid × Pid) :=
  rs.filterMap (fun tr => match tr.2 with | some _ => some (awaiter, tr.1) | none => none)

/-- `update_await_results`: a present result is applied (`notify_result`), a placeholder marks its target answered
(`notify_pending`); the wake-up that follows is in `handleCmdWith`. -/
def applyResults (w : WorkerSt) (awaiter : Pid) : Results → WorkerSt
  | [] => w
  | (t, some r) :: rest => applyResults (w.notifyResult awaiter t r) awaiter rest
  | (t, none) :: rest => applyResults (w.notifyPending awaiter t) awaiter rest

def handleCmdWith (R : Rules) (s : Sys) (i : Wid) : Cmd → Sys
  | .misc => s
  | .start p => s.setWk i ((s.wk i).setProc p (Proc.sleeping p))
  | .resume p fn =>
    let w := s.wk i
    if fn ≥ s.prog.length then s.setFault
    else match w.procs p with
    | none => s.setFault
    | some x =>
      match x.result with
      | some (.ok _) =>
        if x.persistent then
          s.setWk i { w with procs := upd w.procs p (some { x with result := none, fn := fn, pc := 0, acc := [] }),
                             queue := w.queue ++ [p] }
        else s.setFault
      | _ => s.setFault
  | .spawn p fn regs =>
    let w := s.wk i
    if fn ≥ s.prog.length then s.setFault
    else s.setWk i { (w.setProc p (Proc.fresh fn (p :: regs))) with queue := w.queue ++ [p] }
  | .notifySpawn caller newPid =>
    let w := s.wk i
    let was := decide (caller ∈ w.spawning)
    let w1 := { w with spawning := serase w.spawning caller }
    match w1.procs caller with
    | none => { s.setWk i w1 with spawnNotified := s.spawnNotified ++ [(caller, newPid, false)] }
    | some x =>
      let w2 := { w1 with procs := upd w1.procs caller (some { x with regs := x.regs ++ [newPid], pc := x.pc + 1, spawnIssued := false }) }
      let w3 := if was then { w2 with queue := w2.queue ++ [caller] } else w2
      { s.setWk i w3 with spawnNotified := s.spawnNotified ++ [(caller, newPid, was)] }
  | .deliver t m =>
    let w := s.wk i
    match w.procs t with
    | some x =>
      if Cfg.releaseDead && !x.deliverable then
        -- variant `releaseDead`: handled (`appended` = handled by `notify_message` for a known process)
        -- but not put into the mailbox of a process that can never receive it
        { s.setWk i (w.wakeSelecting t) with appended := s.appended ++ [(t, m)], deadDropped := s.deadDropped ++ [(t, m)] }
      else
      let w1 := { w with procs := upd w.procs t (some { x with mailbox := x.mailbox ++ [m] }) }
      { s.setWk i (w1.wakeSelecting t) with appended := s.appended ++ [(t, m)] }
    | none => { s.setWk i (w.wakeSelecting t) with dropped := s.dropped ++ [(t, m)] }
  | .queryAwait a ts =>
    let q := queryTargets (s.wk i) a ts
    { (s.setWk i q.1).pushEvt i (.procResults a q.2) with reported := s.reported ++ reportedOf a q.2 }
  | .updateAwait a rs =>
    let w := s.wk i
    let w1 := applyResults w a rs
    let w' := if R.wakeOnlyIfEmpty && rs.any (fun tr => tr.2.isSome) then w1 else R.emptyWake w1 a
    { s.setWk i w' with learned := s.learned ++ reportedOf a rs }
  | .getResult req p =>
    let w := s.wk i
    match w.procs p with
    | none => s.setFault
    | some x =>
      match x.result with
      | some r => s.pushEvt i (.resultResp req r)
      | none => s.setWk i { w with resultReqKeys := sinsert w.resultReqKeys p, resultReqs := upd w.resultReqs p (w.resultReqs p ++ [req]) }

/-- worker `i` consumes its first queued command -/
def cmdStep1With (R : Rules) (s : Sys) (i : Wid) : Sys :=
  match s.cmdQ i with
  | [] => s
  | c :: rest => handleCmdWith R { s with cmdQ := upd s.cmdQ i rest } i c

/-! #### executor step -/

/-- does a parked select have an expired timeout (`check_expired_timeouts`)? -/
def timeoutExpired (now : Nat) (start : Nat) : List Src → Bool
  | [] => false
  | .timeout ms :: rest => decide (now - start ≥ ms) || timeoutExpired now start rest
  | _ :: rest => timeoutExpired now start rest

def currentSelect (prog : Prog) (x : Proc) : Option (List Src) :=
  match (x.script prog)[x.pc]? with
  | some (.select srcs) => some srcs
  | _ => none

def procExpired (prog : Prog) (now : Nat) (x : Proc) : Bool :=
  x.selInit &&
  match x.selStart, currentSelect prog x with
  | some start, some srcs => timeoutExpired now start srcs
  | _, _ => false

def WorkerSt.expired (w : WorkerSt) (prog : Prog) (now : Nat) : List Pid :=
  w.selecting.filter (fun p => match w.procs p with
    | some x => procExpired prog now x
    | none => false)

/-- `check_expired_timeouts`. -/
def WorkerSt.checkExpired (w : WorkerSt) (prog : Prog) (now : Nat) (ordQ : List Pid) : WorkerSt :=
  let ex := orderBy ordQ (w.expired prog now)
  { w with queue := w.queue ++ ex, selecting := w.selecting.filter (· ∉ ex) }

/-- the result a finishing process stores: the error already set during execution, else its value -/
def Proc.finalRes (x : Proc) : Res :=
  match x.result with
  | some .err => .err
  | _ => .ok x.value

/-- processes on this executor whose `awaiting` map has the key `cur` -/
def WorkerSt.localAwaiters (w : WorkerSt) (cur : Pid) : List Pid :=
  w.pids.filter (fun a => match w.procs a with
    | some y => (alookup y.awaiting cur).isSome
    | none => false)

/-- variant `releaseDead`: `release_dead_roots` for the process that has just finished -/
def WorkerSt.release (w : WorkerSt) (cur : Pid) : WorkerSt :=
  if Cfg.releaseDead then w.modProc cur Proc.releaseDead else w

/-- The finished branch of `Executor::step`: store the result and notify the awaiters that live on
the same executor (`notify_result` / `notify_failure`). -/
def WorkerSt.finish (w : WorkerSt) (cur : Pid) (x : Proc) (ordQ : List Pid) : WorkerSt :=
  let w1 := { w with procs := upd w.procs cur (some { x with result := some x.finalRes }) }
  ((orderBy ordQ (w1.localAwaiters cur)).foldl (fun acc a => acc.notifyResult a cur x.finalRes) w1).release cur

/-- does a finishing process only go to sleep (persistent and successful)? -/
def Proc.sleepsAfter (x : Proc) : Bool :=
  x.persistent && (match x.finalRes with | .ok _ => true | .err => false)

/-- variant `exitReports`: the worker reports the process that terminated in this step
(`take_exited` in `check_completed_processes`: after the step's action — a finishing step has none —
and before the ProcessResults / ResultResponse events of the same worker step) -/
def Sys.noteExit (s : Sys) (i : Wid) (cur : Pid) (x : Proc) : Sys :=
  if Cfg.exitReports && !x.sleepsAfter then s.pushEvt i (.exited cur) else s

/-- One `Executor::step` of worker `i` followed by `handle_action`. -/
def execStep (s : Sys) (i : Wid) (fuel : Nat) (ordQ : List Pid) : Sys :=
  let w0 := (s.wk i).checkExpired s.prog s.now ordQ
  match w0.queue with
  | [] => s.setWk i w0
  | cur :: rest =>
    let w1 := { w0 with queue := rest }
    match w1.procs cur with
    | none => s.setWk i w1
    | some x =>
      if x.result = some .err then
        -- frames were cleared by an error propagated earlier: finished branch at once
        (s.setWk i (w1.finish cur x ordQ)).noteExit i cur x
      else
        let (x', out) := slice s.prog s.now cur fuel x
        let w2 := { w1 with procs := upd w1.procs cur (some x') }
        match out with
        | .cont => s.setWk i { w2 with queue := w2.queue ++ [cur] }
        | .send t m =>
          { (s.setWk i { w2 with queue := w2.queue ++ [cur] }).pushEvt i (.deliver t m) with
              sent := s.sent ++ [(t, m)] }
        | .spawn fn regs =>
          (s.setWk i { w2 with spawning := sinsert w2.spawning cur }).pushEvt i (.spawn cur fn regs none)
        | .awaitInit ts =>
          (s.setWk i { w2 with selecting := sinsert w2.selecting cur }).pushEvt i (.await cur ts)
        | .blocked => s.setWk i { w2 with selecting := sinsert w2.selecting cur }
        | .failed => (s.setWk i (w2.finish cur x' ordQ)).noteExit i cur x'
        | .done => (s.setWk i (w2.finish cur x' ordQ)).noteExit i cur x'

/-! #### check_completed_processes -/

def completedAwaited (w : WorkerSt) : List Pid :=
  w.awaited.filter (fun t => (w.resultOf t).isSome)

/-- report one completed awaited target to all its awaiters -/
def reportTarget (s : Sys) (i : Wid) (t : Pid) : Sys :=
  let w := s.wk i
  match w.resultOf t with
  | none => s
  | some r =>
    let s1 := (w.awaitersFor t).foldl (fun acc a =>
      { acc.pushEvt i (.procResults a [(t, some r)]) with reported := acc.reported ++ [(a, t)] }) s
    s1.setWk i { w with awaitersFor := upd w.awaitersFor t [], awaited := serase w.awaited t }

def answerRequests (s : Sys) (i : Wid) (p : Pid) : Sys :=
  let w := s.wk i
  match w.resultOf p with
  | none => s
  | some r =>
    let s1 := (w.resultReqs p).foldl (fun acc req => acc.pushEvt i (.resultResp req r)) s
    s1.setWk i { w with resultReqKeys := serase w.resultReqKeys p, resultReqs := upd w.resultReqs p [] }

/-- `check_completed_processes`. -/
def checkStep (s : Sys) (i : Wid) (ordE : List Pid) : Sys :=
  let s1 := (orderBy ordE (completedAwaited (s.wk i))).foldl (fun acc t => reportTarget acc i t) s
  (s1.wk i).resultReqKeys.foldl (fun acc p => answerRequests acc i p) s1

/-! #### scheduler choices (exactly `qverif::sim::Choice`, plus the slice/iteration parameters) -/

inductive Choice where
  /-- environment step; `vis[w]` = how many queued events of worker `w` it may consume -/
  | env (vis : List Nat)
  /-- worker step: sees at most `vis` queued commands; the time slice contains `fuel` attempts -/
  | worker (i : Wid) (vis : Nat) (fuel : Nat) (ordQ : List Pid) (ordE : List Pid)
  | tick (ms : Nat)
  deriving Repr, Inhabited

def iter {α : Type} (f : α → α) : Nat → α → α
  | 0, a => a
  | k + 1, a => iter f k (f a)

/-- `Environment::step`: collect up to `vis[w]` events of each worker (in worker order), handle them. -/
def envStepWith (combine : Option Results → Results → Results) (s : Sys) (vis : List Nat) : Sys :=
  (List.range s.n).foldl (fun acc w =>
    iter (fun a => envStep1With combine a w) (min (vis.getD w (acc.evtQ w).length) (acc.evtQ w).length) acc) s

/-- `Worker::step`. -/
def workerStepWith (R : Rules) (s : Sys) (i : Wid) (vis fuel : Nat) (ordQ ordE : List Pid) : Sys :=
  let s1 := iter (fun a => cmdStep1With R a i) (min vis (s.cmdQ i).length) s
  checkStep (execStep s1 i fuel ordQ) i ordE

def sysStepWith (R : Rules) (s : Sys) : Choice → Sys
  | .env vis => envStepWith R.combine s vis
  | .worker i vis fuel ordQ ordE => if i < s.n then workerStepWith R s i vis fuel ordQ ordE else s
  | .tick ms => { s with now := s.now + ms }

/-- The code as it is now: answers merged (b8eb814); every await answer wakes the awaiter's select
(755cedc), and only a select (c08a680). -/
def Rules.current : Rules := { combine := mergeAnswer, emptyWake := WorkerSt.wakeSelecting, wakeOnlyIfEmpty := false }
/-- Before fix b8eb814: a later answer of a worker replaces its pending one. -/
def Rules.replaceAnswers : Rules := { Rules.current with combine := replaceAnswer }
/-- Before fix 755cedc: the awaiter is woken only by an answer without any result. -/
def Rules.wakeOnlyOnEmptyAnswer : Rules := { Rules.current with wakeOnlyIfEmpty := true }
/-- Before fix c08a680: an empty answer calls `mark_active`, which also un-parks a spawner. -/
def Rules.markActiveOnEmpty : Rules := { Rules.current with emptyWake := WorkerSt.markActive, wakeOnlyIfEmpty := true }

abbrev handleCmd := handleCmdWith Rules.current
abbrev cmdStep1 := cmdStep1With Rules.current
abbrev handleEvent := handleEventWith mergeAnswer
abbrev envStep1 := envStep1With mergeAnswer
abbrev envStep := envStepWith mergeAnswer
abbrev workerStep := workerStepWith Rules.current

/-- The system as the code is now. -/
def sysStep : Sys → Choice → Sys := sysStepWith Rules.current

def run (s : Sys) (cs : List Choice) : Sys := cs.foldl sysStep s
def runWith (R : Rules) (s : Sys) (cs : List Choice) : Sys := cs.foldl (sysStepWith R) s

/-- State right after `Repl::new` (persistent process 0 asleep on worker 0) and `Repl::evaluate`
of a program whose top-level script is `prog[0]` (commands queued, nothing consumed yet). -/
def Sys.init (n : Nat) (prog : Prog) (req : Nat) : Sys :=
  { n := n, prog := prog,
    env := { router := upd (fun _ => none) 0 (some 0), pending := fun _ => none, nextPid := 1, results := [] },
    wk := upd (fun _ => WorkerSt.empty) 0 (WorkerSt.empty.setProc 0 (Proc.sleeping 0)),
    cmdQ := fun w => if w = 0 then [.misc, .misc, .resume 0 0, .getResult req 0] else if w < n then [.misc] else [],
    evtQ := fun _ => [], now := 0, fault := false,
    sent := [], appended := [], dropped := [], spawned := [], spawnNotified := [], reported := [], learned := [] }

/-! #### quiescence (`Sim::quiescent`) -/

def WorkerSt.hasTimeout (w : WorkerSt) (prog : Prog) : Bool :=
  w.selecting.any (fun p => match w.procs p with
    | some x => x.selInit && x.selStart.isSome &&
        (match currentSelect prog x with
         | some srcs => srcs.any (fun s => match s with | .timeout _ => true | _ => false)
         | none => false)
    | none => false)

def Sys.idle (s : Sys) : Prop :=
  ∀ w, w < s.n → s.cmdQ w = [] ∧ s.evtQ w = [] ∧ (s.wk w).queue = []

def Sys.quiescent (s : Sys) : Prop :=
  s.idle ∧ ∀ w, w < s.n → (s.wk w).hasTimeout s.prog = false

end QM.Sys
