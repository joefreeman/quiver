import QuiverModel.Core.Prelude
import QuiverModel.Core.VM.Check
/-
Wire format of programs and annotations shared by the M-VM drivers (`qm_c07`, `qm_c16`; owner C07).

  (prog (consts n) (tuples arity…) (types n) (builtins n) (fn captures Op:arg …)…)
  (fn captures Op:arg …)
Instruction tokens: the Rust variant name, then `:`-separated arguments (`Jump:-3`, `TailCall:1`,
`Process:4:2`, `Pop`). Annotations: `h:l`, `h:l:<guard>` (`Guard.render`) or `_`.
-/
open QM QM.VM

namespace QM.VM.Wire


def parseInstr (tok : String) : Option Instr :=
  match tok.splitOn ":" with
  | ["Constant", a] => a.toNat?.map .constant
  | ["Pop"] => some .pop
  | ["Duplicate"] => some .duplicate
  | ["Pick", a] => a.toNat?.map .pick
  | ["Rotate", a] => a.toNat?.map .rotate
  | ["Reset", a] => a.toNat?.map .reset
  | ["Load", a] => a.toNat?.map .load
  | ["Store"] => some .store
  | ["Tuple", a] => a.toNat?.map .tuple
  | ["Get", a] => a.toNat?.map .get
  | ["IsType", a] => a.toNat?.map .isType
  | ["Jump", a] => a.toInt?.map .jump
  | ["JumpIf", a] => a.toInt?.map .jumpIf
  | ["Call"] => some .call
  | ["TailCall", a] => a.toNat?.map (fun n => .tailCall (n != 0))
  | ["Function", a] => a.toNat?.map .function
  | ["Builtin", a] => a.toNat?.map .builtin
  | ["Equal", a] => a.toNat?.map .equal
  | ["Not"] => some .not
  | ["Spawn"] => some .spawn
  | ["Send"] => some .send
  | ["Self_"] => some .self_
  | ["Select"] => some .select
  | ["Process", a, b] => match a.toNat?, b.toNat? with
    | some x, some y => some (.process x y)
    | _, _ => none
  | _ => none

def parseFn : List Sx → Option Function
  | cap :: instrs =>
    match cap.asNat, instrs.mapM (fun x => x.asAtom.bind parseInstr) with
    | some c, some is => some { instructions := is.toArray, captures := c, typeId := 0 }
    | _, _ => none
  | [] => none

def parseProg (items : List Sx) : Option Prog :=
  let rec go (items : List Sx) (P : Prog) : Option Prog :=
    match items with
    | [] => some P
    | .list [.atom "consts", n] :: rest =>
      n.asNat.bind (fun k => go rest { P with constants := Array.replicate k (.int 0) })
    | .list (.atom "tuples" :: ars) :: rest =>
      (ars.mapM Sx.asNat).bind (fun l => go rest { P with tuples := l.toArray })
    | .list [.atom "types", n] :: rest => n.asNat.bind (fun k => go rest { P with types := k })
    | .list [.atom "builtins", n] :: rest => n.asNat.bind (fun k => go rest { P with builtins := k })
    | .list (.atom "fn" :: f) :: rest =>
      (parseFn f).bind (fun fn => go rest { P with functions := P.functions.push fn })
    | _ => none
  go items { constants := #[], functions := #[], tuples := #[], types := 0, builtins := 0 }

def renderAnn : Option Ann → String
  | some a => if a.guard = .none then s!"{a.height}:{a.locals}" else s!"{a.height}:{a.locals}:{a.guard.render}"
  | none => "_"

def renderAnns (anns : Anns) : String := " ".intercalate (anns.toList.map renderAnn)

def parseGuard (tok : String) : Option Guard :=
  if tok = "z" then some .nilTop
  else
    match tok.toList with
    | 't' :: r => (String.ofList r).toNat?.map .top
    | 'd' :: r => (String.ofList r).toNat?.map .dup
    | 'n' :: r => (String.ofList r).toNat?.map .neg
    | _ => none

/-- `h:l` (no guard) or `h:l:<guard>` with `<guard>` = `t<g>` | `d<g>` | `n<g>` | `z`. -/
def parseAnn (tok : String) : Option (Option Ann) :=
  if tok = "_" then some none
  else match tok.splitOn ":" with
    | [h, l] => match h.toNat?, l.toNat? with
      | some x, some y => some (some ⟨x, y, .none⟩)
      | _, _ => none
    | [h, l, g] => match h.toNat?, l.toNat?, parseGuard g with
      | some x, some y, some z => some (some ⟨x, y, z⟩)
      | _, _, _ => none
    | _ => none


def emptyProg : Prog := { constants := #[], functions := #[], tuples := #[], types := 0, builtins := 0 }

/-- Handles the program-loading requests; `none` if the request is something else. -/
def loadStep (P : Prog) (req : List Sx) : Option (Prog × String) :=
  match req with
  | [.list (.atom "prog" :: items)] =>
    match parseProg items with
    | some P' => some (P', s!"ok {P'.functions.size}")
    | none => some (P, "bad-request")
  | [.list (.atom "fn" :: f)] =>
    match parseFn f with
    | some fn => some ({ P with functions := P.functions.push fn }, s!"ok {P.functions.size}")
    | none => some (P, "bad-request")
  | _ => none

end QM.VM.Wire
