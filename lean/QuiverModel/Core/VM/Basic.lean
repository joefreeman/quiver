/-
M-VM, part 1 — data (import-free).

Mirrors
  quiver-core/src/value.rs      `Value`, `Binary`
  quiver-core/src/bytecode.rs   `Instruction` (all 24 variants), `Function`, `Constant`
  quiver-core/src/process.rs    `Frame`, `Process`, `SelectState`, `Action`
  quiver-core/src/executor.rs   the program tables an `Executor` holds (`constants`, `functions`,
                                `tuples` = arities, `builtins`, `types`/`type_compatibility` = a count here)

Representation decisions (stable API — see notes/C07.md):
  * `Proc.stack`  : `List Val`, **head = top of stack** (Rust: `Vec`, last = top).
  * `Proc.locals` : `List Val`, index 0 first (Rust order); `Store` appends at the end.
  * `Proc.frames` : `List Frame`, **head = current frame** (Rust: `Vec`, last = current);
                    `frames.getLast?` is Rust's `frames.first()`.
  * `usize` quantities are `Nat` (sizes are far below 2^64; the one place where wrap-around is
    observable — `Jump` — is modelled with the code's `wrapping_add_signed`, see `jumpTarget`).
  * Membership of the process in the executor's `spawning` / `selecting` / `effecting` sets is the
    field `Proc.park`.
-/
namespace QM.VM

/-- `value.rs::Binary`. -/
inductive Bin where
  | const (idx : Nat)
  | heap (idx : Nat)
  deriving DecidableEq, Repr, Inhabited

mutual
/-- `value.rs::Value`. `ref` is the u64 `(worker << 48) | counter`; `int` is a BigInt. -/
inductive Val where
  | int (z : Int)
  | bin (b : Bin)
  | ref (r : Nat)
  | tup (id : Nat) (fields : ValList)
  | fn (idx : Nat) (captures : ValList)
  | builtin (id : Nat)
  | proc (pid : Nat) (fidx : Nat)
  | res (rid : Nat) (ty : Nat)
  deriving DecidableEq, Repr
/-- Payload list of a tuple / closure (declared mutually so that `DecidableEq` derives). -/
inductive ValList where
  | nil
  | cons (v : Val) (vs : ValList)
  deriving DecidableEq, Repr
end

namespace ValList
def toList : ValList → List Val
  | .nil => []
  | .cons v vs => v :: vs.toList
def ofList : List Val → ValList
  | [] => .nil
  | v :: vs => .cons v (ofList vs)
@[simp] theorem toList_ofList (l : List Val) : (ofList l).toList = l := by
  induction l with
  | nil => rfl
  | cons v vs ih => simp [ofList, toList, ih]
@[simp] theorem ofList_toList : (l : ValList) → ofList l.toList = l
  | .nil => rfl
  | .cons v vs => by simp [ofList, toList, ofList_toList vs]
def length (l : ValList) : Nat := l.toList.length
@[simp] theorem toList_nil : ValList.nil.toList = [] := rfl
@[simp] theorem toList_cons (v : Val) (vs : ValList) : (ValList.cons v vs).toList = v :: vs.toList := rfl
end ValList

instance : Inhabited Val := ⟨.tup 0 .nil⟩

namespace Val
/-- `types::NIL = 0`, `types::OK = 1`. -/
def nil : Val := .tup 0 .nil
def ok : Val := .tup 1 .nil
/-- `Value::is_nil`: tuple id NIL with no fields. -/
def isNil : Val → Bool
  | .tup 0 .nil => true
  | _ => false
def typeName : Val → String
  | .int _ => "integer" | .bin _ => "binary" | .ref _ => "ref" | .tup _ _ => "tuple"
  | .fn _ _ => "function" | .builtin _ => "builtin" | .proc _ _ => "process" | .res _ _ => "resource"
end Val

/-- `bytecode.rs::Instruction`, same order. Jump offsets are `isize`. -/
inductive Instr where
  | constant (i : Nat)
  | pop
  | duplicate
  | pick (n : Nat)
  | rotate (n : Nat)
  | reset (n : Nat)
  | load (i : Nat)
  | store
  | tuple (id : Nat)
  | get (i : Nat)
  | isType (id : Nat)
  | jump (off : Int)
  | jumpIf (off : Int)
  | call
  | tailCall (recurse : Bool)
  | function (i : Nat)
  | builtin (i : Nat)
  | equal (n : Nat)
  | not
  | spawn
  | send
  | self_
  | select
  | process (pid : Nat) (fidx : Nat)
  deriving DecidableEq, Repr, Inhabited

/-- `bytecode.rs::Constant`; the bytes of a binary constant are irrelevant at this level. -/
inductive Const where
  | int (z : Int)
  | bin (bytes : List UInt8)
  deriving DecidableEq, Repr, Inhabited

/-- `bytecode.rs::Function`. -/
structure Function where
  instructions : Array Instr
  captures : Nat
  typeId : Nat
  deriving Repr, Inhabited

/-- The tables of a loaded program as the executor sees them. `tuples[i]` is the arity of tuple
id `i` (`Executor.tuples : Vec<usize>`); `types` / `builtins` are table sizes. -/
structure Prog where
  constants : Array Const
  functions : Array Function
  tuples : Array Nat
  types : Nat
  builtins : Nat
  deriving Repr, Inhabited

/-- `process.rs::Frame`. -/
structure Frame where
  functionIndex : Nat
  localsBase : Nat
  capturesCount : Nat
  counter : Nat
  deriving DecidableEq, Repr, Inhabited

/-- `Frame::new`. -/
def Frame.new (fi lb cc : Nat) : Frame := ⟨fi, lb, cc, 0⟩

/-- `process.rs::SelectState` at the shape level: `frame` / `instruction` locate the `Select`
being evaluated, `sources` are the popped sources, `receiving` is the message a filter function is
currently being run on. (`cursors`, `start_time` belong to M-Exec / C05.) -/
structure SelectState where
  frame : Nat
  instruction : Nat
  sources : List Val
  receiving : Option (Nat × Val)
  deriving Repr, Inhabited

/-- Which of the executor's parking sets the process is in. -/
inductive Park where
  | none
  | spawning
  | selecting
  | effecting
  deriving DecidableEq, Repr, Inhabited

/-- Runtime errors. The first block mirrors `error.rs::Error` by class; `tupleUndefined` is the
`TypeMismatch{expected: "known tuple type"}` that `handle_tuple` raises for an unknown tuple id;
`panic` is a Rust panic (index out of bounds in `functions[frame.function_index]`, `values[0]` of
`Equal(0)`, `stack.remove(len)` of `Rotate(0)`, `offset + 1` overflow); `builtinFailed` is whatever
error class a builtin implementation returned; `awaitedFailed` is the error of *another* process
that this one awaited in a `Select` (propagated by `handle_select_process`); `oracleInvalid` marks an
oracle answer that is not a possible behaviour in the current state (never produced by the executor). -/
inductive Err where
  | stackUnderflow
  | callInvalid
  | functionUndefined (i : Nat)
  | builtinUndefined (i : Nat)
  | frameUnderflow
  | variableUndefined (i : Nat)
  | constantUndefined (i : Nat)
  | fieldAccessInvalid (i : Nat)
  | typeMismatch
  | invalidArgument
  | operationNotAllowed
  | tupleUndefined (id : Nat)
  | panic
  | builtinFailed (cls : String)
  | awaitedFailed (cls : String)
  | oracleInvalid
  deriving DecidableEq, Repr, Inhabited

namespace Err
/-- Error class name as `qverif::canon::error_class` prints it. -/
def className : Err → String
  | stackUnderflow => "StackUnderflow" | callInvalid => "CallInvalid"
  | functionUndefined _ => "FunctionUndefined" | builtinUndefined _ => "BuiltinUndefined"
  | frameUnderflow => "FrameUnderflow" | variableUndefined _ => "VariableUndefined"
  | constantUndefined _ => "ConstantUndefined" | fieldAccessInvalid _ => "FieldAccessInvalid"
  | typeMismatch => "TypeMismatch" | invalidArgument => "InvalidArgument"
  | operationNotAllowed => "OperationNotAllowed" | tupleUndefined _ => "TypeMismatch"
  | panic => "panic" | builtinFailed c => c | awaitedFailed c => c | oracleInvalid => "oracle-invalid"

/-- *Structural* failures — the ones C07 excludes for checked programs: the bytecode itself is
malformed (underflow, undefined local/constant/function/builtin/tuple id, frame underflow, a Rust
panic). Everything else is a failure of the *values* (C01) or of the environment. -/
def isStructural : Err → Bool
  | stackUnderflow | functionUndefined _ | builtinUndefined _ | frameUnderflow
  | variableUndefined _ | constantUndefined _ | tupleUndefined _ | panic => true
  | _ => false
end Err

/-- `process.rs::Action` (payloads that matter at this level). -/
inductive Action where
  | spawn (fidx : Nat) (captures : List Val) (argument : Val)
  | deliver (target : Nat) (value : Val)
  | await (targets : List Nat)
  | requestEffect
  deriving Repr, Inhabited

/-- `process.rs::Process` (+ `pid`, `park`, which the executor keeps beside it). -/
structure Proc where
  pid : Nat := 0
  stack : List Val := []
  locals : List Val := []
  frames : List Frame := []
  mailbox : List Val := []
  persistent : Bool := false
  result : Option (Except Err Val) := none
  selectState : Option SelectState := none
  park : Park := .none
  deriving Inhabited

/-- The state `Executor::spawn_process(id, Some(fi), captures, argument, _, persistent)` creates. -/
def Proc.spawn (pid fi : Nat) (captures : List Val) (argument : Val) (persistent : Bool := false) : Proc :=
  { pid := pid, stack := [argument], locals := captures,
    frames := [Frame.new fi 0 captures.length], persistent := persistent }

/-- Function record of a frame, as `functions[frame.function_index]` (out of range = Rust panic). -/
def Prog.fnOf (P : Prog) (f : Frame) : Option Function := P.functions[f.functionIndex]?

/-- `Executor::current_instruction`: `none` when there is no frame, or the counter is outside the
function (frame exhausted). `panic` on a frame whose function index is out of range is handled by
the caller (`Step.lean`). -/
def Prog.currentInstr (P : Prog) (p : Proc) : Option Instr :=
  match p.frames with
  | [] => none
  | f :: _ =>
    match P.functions[f.functionIndex]? with
    | none => none
    | some fn => fn.instructions[f.counter]?

end QM.VM
