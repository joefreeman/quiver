import QuiverModel.Core.VM.Basic
/-
M-VM, part 2 — one instruction / one scheduler-visible transition of a single process
(owner: C07; used by C01, C02, C13, C16).

Mirrors `quiver-core/src/executor.rs`:
  `execute_hot` handlers  handle_constant … handle_not            → `handle*` below, same checks in
                                                                     the same order, same error class
  `execute_cold` handlers handle_spawn / send / self / process_ref / select (shape level)
  `Executor::step`        the frame auto-pop loop                  → `popFrame`
                          "finished" bookkeeping                   → `finish`
  `notify_spawn`, `notify_effect_completion`, `notify_message`,
  `notify_result`/timeouts (re-queue of a selecting process)       → `Event`s of `transition`

What is abstracted (an `Oracle`, chosen freshly at every step — theorems quantify over all of them):
  * `isType v id`      the verdict of `check_type_compatible` (C08 owns the table),
  * `valuesEqual a b`  `values_equal` (C13),
  * `builtin id v`     the result of running builtin `id` on `v`: a value, an error class, an
                       effect request, or "no implementation registered",
  * `select`           what `process_select_sources` decides on this execution of `Select`:
                       complete with a value / run the filter function `sources[k]` on a message /
                       park / fail (resource or invalid source, or the propagated error of an
                       awaited process that failed). Mailbox scanning, cursors, time-outs
                       and await bookkeeping are M-Exec (C05); here only their effect on the shape
                       of the process is modelled.
Binary constants are pushed as `bin (const i)` (the executor pushes the cached heap handle of
constant `i`; slot numbers are never compared). Refcounting (`retain`/`release`) is M-Heap (C06).
`usize` counters do not overflow (sizes ≪ 2^64) except through `Jump`, which uses `jumpTarget`.
-/
namespace QM.VM

inductive BuiltinOut where
  | value (v : Val)
  | fail (cls : String)
  | action
  | unrecognised
  deriving Repr, Inhabited

inductive SelectDecision where
  /-- `complete_select(pid, v)` -/
  | complete (v : Val)
  /-- `call_receive_function` with `source = sources[srcIdx]` (a function with a body) on `msg` -/
  | callReceive (srcIdx : Nat) (msg : Val)
  /-- no source ready: `mark_selecting` -/
  | park
  /-- `TypeMismatch` (resource source) -/
  | failType
  /-- `InvalidArgument` (invalid select source / missing receive result) -/
  | failInvalid
  /-- an awaited source has failed: `handle_select_process` propagates that process's error
  (`awaiting_failed`, repo commit bc74ad3) -/
  | failAwaited (cls : String)
  deriving Repr, Inhabited

structure Oracle where
  isType : Val → Nat → Bool
  valuesEqual : Val → Val → Bool
  builtin : Nat → Val → BuiltinOut
  select : SelectDecision

abbrev Res := Except Err (Proc × Option Action)

namespace Proc

/-- `frame.counter += 1` on the current frame (`if let Some(frame) = frames.last_mut()`). -/
def bump (p : Proc) : Proc :=
  match p.frames with
  | [] => p
  | f :: r => { p with frames := { f with counter := f.counter + 1 } :: r }

def push (p : Proc) (v : Val) : Proc := { p with stack := v :: p.stack }

/-- Set the current frame's counter. -/
def setCounter (p : Proc) (c : Nat) : Proc :=
  match p.frames with
  | [] => p
  | f :: r => { p with frames := { f with counter := c } :: r }

end Proc

/-- `counter.wrapping_add_signed(offset + 1)` on a 64-bit `usize`. -/
def jumpTarget (counter : Nat) (off : Int) : Nat :=
  (((counter : Int) + off + 1) % (2 ^ 64 : Int)).toNat

/-- `isize::MAX`: `offset + 1` overflows (panic with overflow checks). -/
def isizeMax : Int := 2 ^ 63 - 1

def ok (p : Proc) : Res := .ok (p, none)

def handleConstant (P : Prog) (p : Proc) (i : Nat) : Res :=
  match P.constants[i]? with
  | none => .error (.constantUndefined i)
  | some (.int z) => ok ((p.push (.int z)).bump)
  | some (.bin _) => ok ((p.push (.bin (.const i))).bump)

def handlePop (p : Proc) : Res :=
  match p.stack with
  | [] => .error .stackUnderflow
  | _ :: s => ok ({ p with stack := s }.bump)

def handleDuplicate (p : Proc) : Res :=
  match p.stack with
  | [] => .error .stackUnderflow
  | v :: s => ok ({ p with stack := v :: v :: s }.bump)

def handlePick (p : Proc) (n : Nat) : Res :=
  match p.stack[n]? with
  | none => .error .stackUnderflow
  | some v => ok ((p.push v).bump)

/-- `stack.remove(len - n)` then push: the item at depth `n-1` moves to the top. `n = 0` is
`remove(len)`: index out of bounds (panic). -/
def handleRotate (p : Proc) (n : Nat) : Res :=
  if p.stack.length < n then .error .stackUnderflow
  else
    match n with
    | 0 => .error .panic
    | k + 1 =>
      match p.stack[k]? with
      | none => .error .stackUnderflow
      | some item => ok ({ p with stack := item :: p.stack.eraseIdx k }.bump)

def handleLoad (p : Proc) (i : Nat) : Res :=
  match p.frames with
  | [] => .error .frameUnderflow
  | f :: _ =>
    match p.locals[f.localsBase + i]? with
    | none => .error (.variableUndefined i)
    | some v => ok ((p.push v).bump)

def handleStore (p : Proc) : Res :=
  match p.stack with
  | [] => .error .stackUnderflow
  | v :: s => ok ({ p with stack := s, locals := p.locals ++ [v] }.bump)

def handleTuple (P : Prog) (p : Proc) (id : Nat) : Res :=
  match P.tuples[id]? with
  | none => .error (.tupleUndefined id)
  | some size =>
    if p.stack.length < size then .error .stackUnderflow
    else
      let values := (p.stack.take size).reverse
      ok ({ p with stack := .tup id (ValList.ofList values) :: p.stack.drop size }.bump)

def handleGet (p : Proc) (i : Nat) : Res :=
  match p.stack with
  | [] => .error .stackUnderflow
  | .tup _ els :: s =>
    match els.toList[i]? with
    | none => .error (.fieldAccessInvalid i)
    | some e => ok ({ p with stack := e :: s }.bump)
  | _ :: _ => .error .typeMismatch

def handleIsType (O : Oracle) (p : Proc) (id : Nat) : Res :=
  match p.stack with
  | [] => .error .stackUnderflow
  | v :: s => ok ({ p with stack := (if O.isType v id then Val.ok else Val.nil) :: s }.bump)

def handleJump (p : Proc) (off : Int) : Res :=
  if off = isizeMax then .error .panic
  else
    match p.frames with
    | [] => ok p
    | f :: _ => ok (p.setCounter (jumpTarget f.counter off))

def handleJumpIf (p : Proc) (off : Int) : Res :=
  match p.stack with
  | [] => .error .stackUnderflow
  | c :: s =>
    let p1 := { p with stack := s }
    if !c.isNil then
      if off = isizeMax then .error .panic
      else
        match p1.frames with
        | [] => ok p1
        | f :: _ => ok (p1.setCounter (jumpTarget f.counter off))
    else ok p1.bump

def handleCall (O : Oracle) (P : Prog) (p : Proc) : Res :=
  match p.stack with
  | [] => .error .stackUnderflow
  | .fn fi caps :: s =>
    match P.functions[fi]? with
    | none => .error (.functionUndefined fi)
    | some _ =>
      match s with
      | [] => .error .stackUnderflow
      | param :: s' =>
        let lb := p.locals.length
        ok { p with stack := param :: s', locals := p.locals ++ caps.toList,
                    frames := Frame.new fi lb caps.toList.length :: p.frames }
  | .builtin id :: s =>
    match s with
    | [] => .error .stackUnderflow
    | param :: s' =>
      match O.builtin id param with
      | .unrecognised => .error .invalidArgument
      | .fail cls => .error (.builtinFailed cls)
      | .value v => ok ({ p with stack := v :: s' }.bump)
      | .action => .ok ({ p with stack := s', park := .effecting }, some .requestEffect)
  | _ :: _ => .error .typeMismatch

def handleTailCall (P : Prog) (p : Proc) (recurse : Bool) : Res :=
  if recurse then
    match p.stack with
    | [] => .error .stackUnderflow
    | arg :: s =>
      match p.frames with
      | [] => .error .frameUnderflow
      | f :: r =>
        ok { p with stack := arg :: s, locals := p.locals.take (f.localsBase + f.capturesCount),
                    frames := Frame.new f.functionIndex f.localsBase f.capturesCount :: r }
  else
    match p.stack with
    | [] => .error .stackUnderflow
    | fv :: s =>
      match s with
      | [] => .error .stackUnderflow
      | arg :: s' =>
        match fv with
        | .fn fi caps =>
          match P.functions[fi]? with
          | none => .error (.functionUndefined fi)
          | some _ =>
            match p.frames with
            | [] => .error .frameUnderflow
            | f :: r =>
              ok { p with stack := arg :: s',
                          locals := p.locals.take f.localsBase ++ caps.toList,
                          frames := Frame.new fi f.localsBase caps.toList.length :: r }
        | _ => .error .callInvalid

def handleFunction (P : Prog) (p : Proc) (i : Nat) : Res :=
  match P.functions[i]? with
  | none => .error (.functionUndefined i)
  | some fn =>
    if p.stack.length < fn.captures then .error .stackUnderflow
    else
      let caps := (p.stack.take fn.captures).reverse
      ok ({ p with stack := .fn i (ValList.ofList caps) :: p.stack.drop fn.captures }.bump)

def handleReset (p : Proc) (n : Nat) : Res :=
  match p.frames with
  | [] => .error .frameUnderflow
  | f :: _ =>
    if f.localsBase + n > p.locals.length then .error .stackUnderflow
    else ok ({ p with locals := p.locals.take (f.localsBase + n) }.bump)

def handleBuiltin (P : Prog) (p : Proc) (i : Nat) : Res :=
  if i ≥ P.builtins then .error (.builtinUndefined i)
  else ok ((p.push (.builtin i)).bump)

def handleEqual (O : Oracle) (p : Proc) (n : Nat) : Res :=
  if n > p.stack.length then .error .stackUnderflow
  else
    match (p.stack.take n).reverse with
    | [] => .error .panic
    | first :: rest =>
      let allEq := (first :: rest).all (fun v => O.valuesEqual first v)
      -- a verdict (`Ok` / nil), not the compared value (repo commit 1355722)
      ok ({ p with stack := (if allEq then Val.ok else Val.nil) :: p.stack.drop n }.bump)

def handleNot (p : Proc) : Res :=
  match p.stack with
  | [] => .error .stackUnderflow
  | v :: s => ok ({ p with stack := (if v.isNil then Val.ok else Val.nil) :: s }.bump)

/-- "inside a receive function": `select_state.receiving.is_some()`. -/
def Proc.isReceiving (p : Proc) : Bool :=
  match p.selectState with
  | some st => st.receiving.isSome
  | none => false

def handleSpawn (p : Proc) : Res :=
  if p.isReceiving then .error .operationNotAllowed
  else
    match p.stack with
    | [] => .error .stackUnderflow
    | fv :: s =>
      match s with
      | [] => .error .stackUnderflow
      | arg :: s' =>
        match fv with
        | .fn fi caps =>
          .ok ({ p with stack := s', park := .spawning }, some (.spawn fi caps.toList arg))
        | _ => .error .typeMismatch

def handleSend (p : Proc) : Res :=
  if p.isReceiving then .error .operationNotAllowed
  else
    match p.stack with
    | [] => .error .stackUnderflow
    | target :: s =>
      match s with
      | [] => .error .stackUnderflow
      | message :: s' =>
        match target with
        | .proc tp _ => .ok ({ p with stack := target :: s' }.bump, some (.deliver tp message))
        | _ => .error .typeMismatch

def handleSelf (p : Proc) : Res :=
  match p.frames.getLast? with
  | none => .error .frameUnderflow
  | some f0 => ok ((p.push (.proc p.pid f0.functionIndex)).bump)

def handleProcessRef (p : Proc) (pid fidx : Nat) : Res :=
  ok ((p.push (.proc pid fidx)).bump)

/-- Sources of a `Select`: the elements of a tuple, or the single value. -/
def selectSources : Val → List Val
  | .tup _ els => els.toList
  | v => [v]

def pidTargets (sources : List Val) : List Nat :=
  sources.filterMap (fun s => match s with | .proc q _ => some q | _ => none)

/-- Counter of the current frame (`frames.last().map(|f| f.counter).unwrap_or(0)`). -/
def Proc.curCounter (p : Proc) : Nat :=
  match p.frames with
  | [] => 0
  | f :: _ => f.counter

/-- `process_select_sources` as decided by the oracle, from a process whose select state `st` is
installed and whose pending verdict (if any) has been popped. -/
def selectDecide (O : Oracle) (P : Prog) (p : Proc) (st : SelectState) : Res :=
  match O.select with
  | .complete v =>
    ok ({ p with selectState := none, stack := v :: p.stack }.bump)
  | .callReceive k msg =>
    match st.sources[k]? with
    | some (.fn fi caps) =>
      -- receiving := (k, msg); push message, push source; handle_call
      handleCall O P { p with selectState := some { st with receiving := some (k, msg) },
                              stack := .fn fi caps :: msg :: p.stack }
    | _ => .error .oracleInvalid
  | .park => ok { p with selectState := some { st with receiving := none }, park := .selecting }
  | .failType => .error .typeMismatch
  | .failInvalid => .error .invalidArgument
  | .failAwaited cls => .error (.awaitedFailed cls)

def handleSelect (O : Oracle) (P : Prog) (p : Proc) : Res :=
  match p.selectState with
  | some st =>
    -- handle_select_continuation
    if st.frame ≠ p.frames.length - 1 ∨ st.instruction ≠ p.curCounter then .error .invalidArgument
    else
      match st.receiving with
      | some _ =>
        match p.stack with
        | [] => .error .stackUnderflow
        | _verdict :: s => selectDecide O P { p with stack := s } st
      | none => selectDecide O P p st
  | none =>
    -- initialize_select
    match p.stack with
    | [] => .error .stackUnderflow
    | v :: s =>
      let sources := selectSources v
      let st : SelectState :=
        { frame := p.frames.length - 1, instruction := p.curCounter, sources := sources, receiving := none }
      let targets := pidTargets sources
      if targets.isEmpty then ok { p with stack := s, selectState := some st }
      else .ok ({ p with stack := s, selectState := some st, park := .selecting }, some (.await targets))

/-- `execute_hot` / `execute_cold` dispatch. -/
def stepInstr (O : Oracle) (P : Prog) (p : Proc) : Instr → Res
  | .constant i => handleConstant P p i
  | .pop => handlePop p
  | .duplicate => handleDuplicate p
  | .pick n => handlePick p n
  | .rotate n => handleRotate p n
  | .reset n => handleReset p n
  | .load i => handleLoad p i
  | .store => handleStore p
  | .tuple id => handleTuple P p id
  | .get i => handleGet p i
  | .isType id => handleIsType O p id
  | .jump off => handleJump p off
  | .jumpIf off => handleJumpIf p off
  | .call => handleCall O P p
  | .tailCall r => handleTailCall P p r
  | .function i => handleFunction P p i
  | .builtin i => handleBuiltin P p i
  | .equal n => handleEqual O p n
  | .not => handleNot p
  | .spawn => handleSpawn p
  | .send => handleSend p
  | .self_ => handleSelf p
  | .select => handleSelect O P p
  | .process pid fidx => handleProcessRef p pid fidx

/-- One round of the frame auto-pop loop of `Executor::step` on a process whose current frame is
exhausted: pop it, bump the caller's counter unless the caller sits on the active `Select`,
truncate locals to the popped frame's base unless this was the last frame of a persistent
process. -/
def popFrame (p : Proc) : Proc :=
  match p.frames with
  | [] => p
  | f :: rest =>
    let isLast := rest.isEmpty
    let shouldClear := !p.persistent || !isLast
    let skip :=
      match p.selectState with
      | some st =>
        st.frame == rest.length - 1 &&
          st.instruction == (match rest with | [] => 0 | g :: _ => g.counter)
      | none => false
    let rest' :=
      if skip then rest
      else match rest with
        | [] => []
        | g :: r => { g with counter := g.counter + 1 } :: r
    { p with frames := rest', locals := if shouldClear then p.locals.take f.localsBase else p.locals }

/-- "finished" bookkeeping of `Executor::step` (no frames left): the result is popped from the
stack; an empty stack is `StackUnderflow`. -/
def finish (p : Proc) : Proc :=
  match p.result with
  | some _ => p
  | none =>
    match p.stack with
    | [] => { p with result := some (.error .stackUnderflow) }
    | v :: s => { p with stack := s, result := some (.ok v) }

/-- What can happen to a process. `run O` is one unit of `Executor::step` for a queued process;
the others are the executor's `notify_*` entry points. -/
inductive Event where
  | run (O : Oracle)
  /-- `notify_spawn(id, pid_value)` -/
  | spawned (v : Val)
  /-- `notify_effect_completion(id, Ok(v) | Err(_))` -/
  | effectDone (r : Option Val)
  /-- a selecting process is re-queued (`notify_result`, expired time-out) -/
  | wake
  /-- `notify_message(id, m)` -/
  | deliver (m : Val)

/-- One transition; `none` = the event is not enabled in this state. An `error e` is terminal
(`proc.result = Some(Err(e)); proc.frames.clear()`). -/
def transition (P : Prog) (p : Proc) : Event → Option Res
  | .run O =>
    if p.park ≠ .none ∨ p.result.isSome then none
    else
      match p.frames with
      | [] => some (ok (finish p))
      | f :: _ =>
        match P.functions[f.functionIndex]? with
        | none => some (.error .panic)
        | some fn =>
          match fn.instructions[f.counter]? with
          | none => some (ok (popFrame p))
          | some i => some (stepInstr O P p i)
  | .spawned v =>
    if p.park = .spawning then some (ok ({ p with stack := v :: p.stack, park := .none }.bump)) else none
  | .effectDone r =>
    if p.park = .effecting then
      match r with
      | some v => some (ok ({ p with stack := v :: p.stack, park := .none }.bump))
      | none => some (.error .invalidArgument)
    else none
  | .wake =>
    if p.park = .selecting then some (ok { p with park := .none }) else none
  | .deliver m =>
    some (ok { p with mailbox := p.mailbox ++ [m],
                      park := if p.park = .selecting then .none else p.park })

end QM.VM
