/-
M-Sys, resource part (property C14) — import-free, executable.

Mirrors, branch by branch and in source order,
  * quiver-environment/src/environment.rs : `resource_ownership`, `handle_effect_request`,
    `report_effect_error`, `handle_effect_completion`, `transfer_resource_ownership`,
    `handle_deliver`, `handle_spawn` (incl. the co-location rule, which reads the ownership map),
    `handle_process_results → cleanup_process_resources`, `start_process`, and the
    `process_completions` prologue of `Environment::step`;
  * quiver-core/src/effects.rs : `Effect::resource_id`, `EffectBackend::{execute,
    process_completions, close_resource}`;
  * quiver-io/src/effects.rs + native_backend.rs at the level "which resource id an effect uses /
    creates / closes": ids come from a counter starting at 1 and are never reused, `execute` of a
    using/closing effect on an id that is not in the registry fails at submission, accept/connect
    allocate the new id when their completion is collected.

The backend is a LOG (`executed`, `closeCalls`) plus the id allocator and the registry of open ids.
Whether the outside world lets an operation succeed is an input bit (`w`) of the event.

What is NOT modelled here: message routing / await bookkeeping (`pending_awaits`, forwarding of
`UpdateAwaitResults`) — that is M-Sys proper (`Core/Sys`, properties C04/C15); a missing backend
(`effect_backend = None`: `handle_effect_request` returns an `EnvironmentError`, cleanup is skipped);
resource *types* (`\File` vs `\Dir` — a static matter).
-/
namespace QM.Resources

abbrev Pid := Nat
abbrev Rid := Nat
abbrev Wid := Nat

/-! ## Values, as far as resources are concerned (`quiver_core::value::Value`) -/

/-- `Value::Resource` / `Value::Tuple(_, fields)` / `Value::Function(_, captures)` / everything
else (integers, binaries, process ids, builtins: `_ => {}` in `transfer_resource_ownership`). -/
inductive Val where
  | res (r : Rid)
  | tuple (fields : List Val)
  | func (captures : List Val)
  | other
  deriving Repr, Inhabited

mutual
/-- Every resource id occurring in a value, in traversal order, through tuples and captures. -/
def Val.resources : Val → List Rid
  | .res r => [r]
  | .tuple fs => resourcesList fs
  | .func cs => resourcesList cs
  | .other => []
def resourcesList : List Val → List Rid
  | [] => []
  | v :: vs => v.resources ++ resourcesList vs
end

/-! ## The ownership map (`HashMap<ResourceId, ProcessId>`) as an association list -/

abbrev Own := List (Rid × Pid)

/-- `HashMap::get` -/
def ownGet : Own → Rid → Option Pid
  | [], _ => none
  | (k, p) :: t, r => if k = r then some p else ownGet t r

/-- `HashMap::remove` -/
def ownErase (m : Own) (r : Rid) : Own := m.filter (fun e => e.1 ≠ r)

/-- `HashMap::insert` (replaces an existing entry) -/
def ownInsert (m : Own) (r : Rid) (p : Pid) : Own := (r, p) :: ownErase m r

/-- `.iter().filter(|(_, owner)| **owner == process_id).map(|(rid, _)| *rid).collect()` -/
def ownedBy (m : Own) (p : Pid) : List Rid := (m.filter (fun e => e.2 = p)).map (·.1)

def ownKeys (m : Own) : List Rid := m.map (·.1)

mutual
/-- `transfer_resource_ownership(value, new_owner)` -/
def transfer (m : Own) (v : Val) (q : Pid) : Own :=
  match v with
  | .res r => ownInsert m r q
  | .tuple fs => transferList m fs q
  | .func cs => transferList m cs q
  | .other => m
/-- `for field in fields.iter() { self.transfer_resource_ownership(field, new_owner) }` -/
def transferList (m : Own) (vs : List Val) (q : Pid) : Own :=
  match vs with
  | [] => m
  | v :: rest => transferList (transfer m v q) rest q
end

/-! ## Effects (`quiver_io::NativeEffect`) -/

inductive Kind where
  | fileOpen | fileRead | fileWrite | fileFlush | fileClose
  | stat
  | readDirOpen | readDirNext | readDirClose
  | dnsResolve | dnsNext | dnsClose
  | tcpConnect | tcpListen | tcpListenerAccept | tcpListenerClose
  | tcpSocketRead | tcpSocketWrite | tcpSocketClose
  deriving DecidableEq, Repr, Inhabited

/-- `Effect::resource_id()` is `Some(_)` exactly for these kinds (quiver-io/src/effects.rs). -/
def Kind.usesResource : Kind → Bool
  | .fileOpen | .stat | .readDirOpen | .dnsResolve | .tcpConnect | .tcpListen => false
  | .fileRead | .fileWrite | .fileFlush | .fileClose | .readDirNext | .readDirClose
  | .dnsNext | .dnsClose | .tcpListenerAccept | .tcpListenerClose
  | .tcpSocketRead | .tcpSocketWrite | .tcpSocketClose => true

/-- How the native backend treats a kind at the level of resource ids. -/
inductive Shape where
  | createSync    -- allocates an id in `execute`, immediate `Ok(Resource(id))`
  | createAsync   -- tcp_connect: submitted; the id is allocated when the completion is collected
  | statLike      -- no resource at all, immediate
  | useSync       -- registry lookup, immediate
  | useAsync      -- registry lookup, submitted to the ring
  | acceptAsync   -- registry lookup, submitted; completion allocates a new id
  | closeSync     -- registry remove, immediate
  deriving DecidableEq, Repr

def Kind.shape : Kind → Shape
  | .fileOpen | .readDirOpen | .dnsResolve | .tcpListen => .createSync
  | .tcpConnect => .createAsync
  | .stat => .statLike
  | .readDirNext | .dnsNext => .useSync
  | .fileRead | .fileWrite | .fileFlush | .tcpSocketRead | .tcpSocketWrite => .useAsync
  | .tcpListenerAccept => .acceptAsync
  | .fileClose | .readDirClose | .dnsClose | .tcpSocketClose | .tcpListenerClose => .closeSync

/-- An effect: its kind and (for the kinds that operate on an existing resource) the id. -/
structure Effect where
  kind : Kind
  rid : Rid := 0
  deriving DecidableEq, Repr, Inhabited

def Effect.resourceId (e : Effect) : Option Rid :=
  if e.kind.usesResource then some e.rid else none

/-! ## The backend: a log + the id allocator + the registry -/

/-- What a completion carries, as far as `handle_effect_completion` can tell. -/
inductive Res where
  | okRes (r : Rid)   -- `Ok((Value::Resource(r, _), _))`
  | okOther           -- `Ok((v, _))`, `v` not a bare resource
  | err               -- `Err(_)`
  deriving DecidableEq, Repr, Inhabited

inductive Pending where
  | plain (ok : Bool)      -- Read / Write / Flush in flight
  | creating (ok : Bool)   -- Accept / Connect in flight: success allocates a fresh id at collection
  deriving DecidableEq, Repr, Inhabited

/-- Result of `EffectBackend::execute`. -/
inductive Reply where
  | immediate (r : Res)   -- `Ok(Some(result))`
  | submitted             -- `Ok(None)`
  | failed                -- `Err(error)`
  deriving DecidableEq, Repr, Inhabited

structure Backend where
  /-- every `execute(pid, effect)` call, oldest first -/
  executed : List (Pid × Effect) := []
  /-- every `close_resource(id)` call, oldest first -/
  closeCalls : List Rid := []
  /-- ghost: every close (explicit close effect or `close_resource`) that removed an open id -/
  effClosed : List Rid := []
  /-- `next_resource_id` -/
  nextRid : Rid := 1
  /-- keys of `resources` -/
  openSet : List Rid := []
  /-- `pending` (FIFO of submitted operations) -/
  pending : List (Pid × Pending) := []
  deriving Repr, Inhabited

def Backend.alloc (b : Backend) : Backend × Rid :=
  ({ b with nextRid := b.nextRid + 1, openSet := b.nextRid :: b.openSet }, b.nextRid)

/-- `EffectBackend::execute(process_id, effect)`; `w` = the outside world lets it succeed. -/
def Backend.execute (b : Backend) (p : Pid) (e : Effect) (w : Bool) : Backend × Reply :=
  let b := { b with executed := b.executed ++ [(p, e)] }
  match e.kind.shape with
  | .createSync =>
    if w then let (b', r) := b.alloc; (b', .immediate (.okRes r)) else (b, .failed)
  | .createAsync => ({ b with pending := b.pending ++ [(p, .creating w)] }, .submitted)
  | .statLike => if w then (b, .immediate .okOther) else (b, .failed)
  | .useSync =>
    if e.rid ∈ b.openSet then (if w then (b, .immediate .okOther) else (b, .failed))
    else (b, .failed)
  | .useAsync =>
    if e.rid ∈ b.openSet then ({ b with pending := b.pending ++ [(p, .plain w)] }, .submitted)
    else (b, .failed)
  | .acceptAsync =>
    if e.rid ∈ b.openSet then ({ b with pending := b.pending ++ [(p, .creating w)] }, .submitted)
    else (b, .failed)
  | .closeSync =>
    if e.rid ∈ b.openSet then
      ({ b with openSet := b.openSet.filter (· ≠ e.rid), effClosed := b.effClosed ++ [e.rid] },
        .immediate .okOther)
    else (b, .failed)

/-- `EffectBackend::close_resource(id)`: remove from the registry; no-op if absent. -/
def Backend.closeResource (b : Backend) (r : Rid) : Backend :=
  { b with
    closeCalls := b.closeCalls ++ [r]
    openSet := b.openSet.filter (· ≠ r)
    effClosed := if r ∈ b.openSet then b.effClosed ++ [r] else b.effClosed }

/-- Collect one finished operation (`handle_*_completion`). -/
def Backend.completeOne (b : Backend) (x : Pid × Pending) : Backend × (Pid × Res) :=
  match x.2 with
  | .plain ok => (b, (x.1, if ok then .okOther else .err))
  | .creating true => let (b', r) := b.alloc; (b', (x.1, .okRes r))
  | .creating false => (b, (x.1, .err))

def Backend.completeAll (b : Backend) : List (Pid × Pending) → Backend × List (Pid × Res)
  | [] => (b, [])
  | x :: xs =>
    let (b1, c) := b.completeOne x
    let (b2, cs) := b1.completeAll xs
    (b2, c :: cs)

/-- `EffectBackend::process_completions()`: the `n` oldest submitted operations have finished. -/
def Backend.processCompletions (b : Backend) (n : Nat) : Backend × List (Pid × Res) :=
  let done := b.pending.take n
  { b with pending := b.pending.drop n }.completeAll done

/-! ## The environment -/

/-- Commands the environment sends to workers (only those this model is concerned with). -/
inductive Cmd where
  | effectCompletion (p : Pid) (r : Res)
  | spawnProcess (w : Wid) (id : Pid)
  | notifySpawn (caller : Pid) (spawned : Pid)
  | deliverMessage (target : Pid)
  | startProcess (w : Wid) (id : Pid)
  deriving DecidableEq, Repr, Inhabited

/-- `EnvironmentError`s a handler can return early with. -/
inductive Fault where
  | processNotFound (p : Pid)
  deriving DecidableEq, Repr, Inhabited

structure Env where
  owner : Own := []
  router : List (Pid × Wid) := []
  nextPid : Pid := 0
  nWorkers : Nat := 1
  /-- `persistent_processes`: processes started through `start_process` (the REPL's process, the main
  process of `quiv run`): a successful result of such a process means "sleeping until resumed" -/
  persistent : List Pid := []
  /-- `exited_processes` (repair of F10, /repo 5cb2956): processes whose `ProcessExited` has been handled. They own
  nothing: what they owned was closed then, what is handed to them later is closed on arrival. -/
  exited : List Pid := []
  backend : Backend := {}
  out : List Cmd := []
  faults : List Fault := []
  deriving Repr, Inhabited

def routeGet : List (Pid × Wid) → Pid → Option Wid
  | [], _ => none
  | (k, w) :: t, p => if k = p then some w else routeGet t p

/-- `report_effect_error(process_id, _)` -/
def reportEffectError (s : Env) (p : Pid) : Env :=
  match routeGet s.router p with
  | none => { s with faults := s.faults ++ [.processNotFound p] }
  | some _ => { s with out := s.out ++ [.effectCompletion p .err] }

/-- `handle_effect_completion(process_id, result)`: register a created resource to the requesting
process FIRST, then forward the completion. -/
def handleEffectCompletion (s : Env) (p : Pid) (res : Res) : Env :=
  let s := match res with
    | .okRes r => { s with owner := ownInsert s.owner r p }
    | _ => s
  match routeGet s.router p with
  | none => { s with faults := s.faults ++ [.processNotFound p] }
  | some _ => { s with out := s.out ++ [.effectCompletion p res] }

/-- The ownership check of `handle_effect_request`: `Some(rid) = effect.resource_id() &&
Some(owner) = resource_ownership.get(rid) && owner != process_id`. -/
def violatesOwnership (m : Own) (p : Pid) (e : Effect) : Bool :=
  match e.resourceId with
  | none => false
  | some r =>
    match ownGet m r with
    | none => false
    | some o => o != p

/-- `handle_effect_request(process_id, effect)` -/
def handleEffectRequest (s : Env) (p : Pid) (e : Effect) (w : Bool) : Env :=
  if violatesOwnership s.owner p e then reportEffectError s p
  else
    let (b', reply) := s.backend.execute p e w
    let s := { s with backend := b' }
    match reply with
    | .immediate res => handleEffectCompletion s p res
    | .submitted => s
    | .failed => reportEffectError s p

def handleCompletionsList (s : Env) : List (Pid × Res) → Env
  | [] => s
  | (p, r) :: rest => handleCompletionsList (handleEffectCompletion s p r) rest

/-- Prologue of `Environment::step`: collect finished operations and forward each. -/
def handleCompletions (s : Env) (n : Nat) : Env :=
  let (b', cs) := s.backend.processCompletions n
  handleCompletionsList { s with backend := b' } cs

/-- The co-location rule of `handle_spawn`: the first *top-level* resource among captures ++
[argument] whose owner is known and routed decides the worker; otherwise round-robin. -/
def colocate (m : Own) (router : List (Pid × Wid)) : List Val → Option Wid
  | [] => none
  | .res r :: rest =>
    match (ownGet m r).bind (routeGet router) with
    | some w => some w
    | none => colocate m router rest
  | _ :: rest => colocate m router rest

/-- `handle_spawn(caller, _, captures, argument, _)` -/
def handleSpawn (s : Env) (caller : Pid) (captures : List Val) (argument : Val) : Env :=
  let newPid := s.nextPid
  let w := (colocate s.owner s.router (captures ++ [argument])).getD (newPid % s.nWorkers)
  let s1 : Env :=
    { s with
      nextPid := s.nextPid + 1
      router := (newPid, w) :: s.router.filter (fun e => e.1 ≠ newPid)
      owner := transfer (transferList s.owner captures newPid) argument newPid
      out := s.out ++ [Cmd.spawnProcess w newPid] }
  match routeGet s1.router caller with
  | none => { s1 with faults := s1.faults ++ [Fault.processNotFound caller] }
  | some _ => { s1 with out := s1.out ++ [Cmd.notifySpawn caller newPid] }

/-- `start_process(_)` (the REPL's persistent process, `quiv run`'s main process). -/
def startProcess (s : Env) : Env :=
  let pid := s.nextPid
  let w := pid % s.nWorkers
  { s with nextPid := pid + 1
           router := (pid, w) :: s.router.filter (fun e => e.1 ≠ pid)
           persistent := pid :: s.persistent
           out := s.out ++ [.startProcess w pid] }

def closeAll (b : Backend) : List Rid → Backend
  | [] => b
  | r :: rs => closeAll (b.closeResource r) rs

def eraseAll (m : Own) : List Rid → Own
  | [] => m
  | r :: rs => eraseAll (ownErase m r) rs

/-- `cleanup_process_resources(process_id)`: close every resource registered to `process_id` and
drop its registration. (The Rust loop interleaves `close_resource` and `remove`; the two touch
disjoint state, so the model does all closes then all removes.) -/
def cleanupProcessResources (s : Env) (p : Pid) : Env :=
  let rs := ownedBy s.owner p
  { s with backend := closeAll s.backend rs, owner := eraseAll s.owner rs }

/-- `handle_deliver(target, message, _)`: transfer first; if the target has already terminated
(`exited_processes`, repair of F10b) what the message carries is closed at once; then route. -/
def handleDeliver (s : Env) (target : Pid) (msg : Val) : Env :=
  let s : Env := { s with owner := transfer s.owner msg target }
  let s : Env := if s.exited.contains target then cleanupProcessResources s target else s
  match routeGet s.router target with
  | none => { s with faults := s.faults ++ [.processNotFound target] }
  | some _ => { s with out := s.out ++ [.deliverMessage target] }

/-- `handle_process_exited(process_id)` (repair of F10): the worker reports the termination of
every process, awaited or not (a persistent process that merely went to sleep is not reported);
everything it still owns is closed now. -/
def handleProcessExited (s : Env) (p : Pid) : Env :=
  cleanupProcessResources { s with exited := p :: s.exited } p

/-- One entry of a `ProcessResultsMap`: `None` / `Some(Ok(_))` / `Some(Err(_))`. -/
inductive Rep where
  | pending
  | ok
  | failed
  deriving DecidableEq, Repr, Inhabited

/-- Does `handle_process_results` clean up for this entry? (since the repair 200f50e)
`let sleeping = persistent_processes.contains(pid) && matches!(result, Some(Ok(_)));`
`if result.is_some() && !sleeping { cleanup_process_resources(pid) }` -/
def cleans (persistent : List Pid) (x : Pid × Rep) : Bool :=
  let sleeping := persistent.contains x.1 && x.2 == .ok
  x.2 != .pending && !sleeping

/-- The rule BEFORE the repair (finding F14/F38): `if result.is_some()`. -/
def cleansOld (x : Pid × Rep) : Bool := x.2 != .pending

/-- The cleanup loop over the entries already classified (Bool = "clean this one up"). -/
def handleCleanups (s : Env) : List (Pid × Bool) → Env
  | [] => s
  | (p, true) :: rest => handleCleanups (cleanupProcessResources s p) rest
  | (_, false) :: rest => handleCleanups s rest

/-- The resource part of `handle_process_results(awaiter, results)`: for every entry, in order,
decide `cleans` and clean up. (`persistent_processes` is not touched by a cleanup, so classifying
all entries first and then looping is the same computation as the Rust loop.) -/
def handleProcessResults (s : Env) (rs : List (Pid × Rep)) : Env :=
  handleCleanups s (rs.map fun x => (x.1, cleans s.persistent x))

/-- The same with the pre-repair rule (kept for the F14 witness). -/
def handleProcessResultsOld (s : Env) (rs : List (Pid × Rep)) : Env :=
  handleCleanups s (rs.map fun x => (x.1, cleansOld x))

/-! ## Histories -/

/-- What the environment sees, plus `terminate` (a worker-side fact the environment does not see;
since the repair of F10 the worker then emits `ProcessExited`, which the environment handles as the
event `exited`).
`send`'s sender and `results`' awaiter are ghosts: `DeliverAction` carries only the target and the
cleanup in `handle_process_results` does not look at the awaiter. -/
inductive Event where
  | start
  | request (p : Pid) (e : Effect) (w : Bool)
  | completions (n : Nat)
  | send (sender target : Pid) (msg : Val)
  | spawn (caller : Pid) (captures : List Val) (argument : Val)
  | terminate (p : Pid)
  | exited (p : Pid)
  | results (awaiter : Pid) (rs : List (Pid × Rep))
  deriving Repr, Inhabited

/-- The scenario vocabulary of the property statement, as abbreviations. -/
def Event.open (p : Pid) : Event := .request p { kind := .fileOpen } true
def Event.use (p : Pid) (r : Rid) : Event := .request p { kind := .fileRead, rid := r } true
def Event.close (p : Pid) (r : Rid) : Event := .request p { kind := .fileClose, rid := r } true
def Event.awaitReport (awaiter p : Pid) : Event := .results awaiter [(p, .ok)]
def Event.awaitFailure (awaiter p : Pid) : Event := .results awaiter [(p, .failed)]

/-- Environment + ghost facts about the workers. -/
structure Sys where
  env : Env := {}
  /-- ghost: processes that are dead: body finished (non-persistent) or failed (persistent) -/
  terminated : List Pid := []
  /-- ghost: processes for which some `ProcessResults` carried `Some(result)` -/
  reported : List Pid := []
  deriving Repr, Inhabited

def reportedOf (rs : List (Pid × Rep)) : List Pid := (rs.filter (·.2 != .pending)).map (·.1)

def step (s : Sys) : Event → Sys
  | .start => { s with env := startProcess s.env }
  | .request p e w => { s with env := handleEffectRequest s.env p e w }
  | .completions n => { s with env := handleCompletions s.env n }
  | .send _ target msg => { s with env := handleDeliver s.env target msg }
  | .spawn caller caps arg => { s with env := handleSpawn s.env caller caps arg }
  | .terminate p => { s with terminated := p :: s.terminated }
  | .exited p => { s with env := handleProcessExited s.env p }
  | .results _ rs =>
    { s with env := handleProcessResults s.env rs, reported := reportedOf rs ++ s.reported }

def run (s : Sys) : List Event → Sys
  | [] => s
  | ev :: rest => run (step s ev) rest

def init (nWorkers : Nat := 1) : Sys := { env := { nWorkers := nWorkers } }

/-! ## What workers guarantee about the events they emit (well-formed histories) -/

/-- Resource handles cannot be forged: every id carried by a message / spawn / request has been
handed out by the backend. -/
def handlesExist (s : Sys) : Event → Bool
  | .send _ _ msg => msg.resources.all (· < s.env.backend.nextRid)
  | .spawn _ caps arg => (resourcesList caps ++ arg.resources).all (· < s.env.backend.nextRid)
  | .request _ e _ =>
    match e.resourceId with
    | some r => r < s.env.backend.nextRid
    | none => true
  | _ => true

/-- A terminated process emits nothing; a worker reports `Some(result)` only for a process whose
body has finished, or — `query_and_await` treats `Sleeping` like `Completed` — `Some(Ok(_))` for a
persistent process that sleeps between two resumptions. For a persistent process "terminated" means
failed (it can never be resumed); a sleeping one is alive. A process terminates only once, exists,
and is not waiting for an effect; `ProcessExited` is sent only for a terminated process. -/
def livenessOk (s : Sys) : Event → Bool
  | .request p _ _ => !s.terminated.contains p
  | .send p _ _ => !s.terminated.contains p
  | .spawn p _ _ => !s.terminated.contains p
  | .terminate p =>
    !s.terminated.contains p && decide (p < s.env.nextPid) &&
      !(s.env.backend.pending.map (·.1)).contains p
  | .exited p => s.terminated.contains p
  | .results _ rs =>
    rs.all fun x => x.2 == .pending || s.terminated.contains x.1 ||
      (s.env.persistent.contains x.1 && x.2 == .ok)
  | _ => true

def eventOk (s : Sys) (ev : Event) : Bool := handlesExist s ev && livenessOk s ev

def wfFrom (s : Sys) : List Event → Bool
  | [] => true
  | ev :: rest => eventOk s ev && wfFrom (step s ev) rest

end QM.Resources
