import QuiverModel.Core.Types.Basic
/-
M-Types, part 5 (imports Core/Types only): the precomputed runtime compatibility tables and the runtime type
test.

Mirrors
  * /repo/quiver-core/src/compatibility.rs   `TypeIndex::build`, `extract_function_type_info`,
        `compute_compatible_concrete_types`, `compute_type_compatibility`,
        `compute_param_compatibility`, `compute_canonical_tuples`
  * /repo/quiver-core/src/bytecode.rs        `ConcreteType`
  * /repo/quiver-core/src/executor.rs        `check_type_compatible`
        (`handle_is_type`), `check_message_compatible` (permissive when the table has no entry);
        `get_concrete_type` (value ↦ tag) is not modelled

The runtime never inspects the structure of a value: it maps the value to its concrete tag
(`CTag`), and looks the tag up in a set computed per pattern type when the program is loaded. A tag
is accepted iff *the type id the index associates with the tag* is assignable to the pattern
(`is_compatible`); a tag with no associated type entry is never accepted (with one fallback for
int / bin / ref, mirrored below).
-/
namespace QM.Types

/-- `ConcreteType`. -/
inductive CTag where
  | integer
  | binary
  | reference
  | tuple (id : Nat)
  | function (id : Nat)
  | builtin (id : Nat)
  | process (fn : Nat)
  | resource (id : Nat)
  deriving DecidableEq, Repr, Inhabited

/-- what the compatibility computation reads of a `Function`: its `type_id` and the type ids of
its `IsType` instructions. -/
structure FnInfo where
  typeId : Nat
  isTypes : List Nat
  deriving DecidableEq, Repr, Inhabited

/-- `CompatibilityInput` (`builtins`: `(param_type, result_type)`; `resources`: resource names,
index = resource type id). -/
structure CInput where
  table : Table
  functions : List FnInfo
  builtins : List (Nat × Nat)
  resources : List Name
  deriving Repr, Inhabited

/-- `TypeIndex`: first occurrence of each concrete shape in the type table. The hash maps are
association lists (first insertion wins: `entry(..).or_insert`). -/
structure TypeIndex where
  integer : Option Nat := none
  binary : Option Nat := none
  reference : Option Nat := none
  /-- tuple id ↦ type id of `Type::Tuple(tuple_id)` -/
  tupleToType : List (Nat × Nat) := []
  /-- (parameter, result) ↦ type id of a never-receiving `Type::Callable` -/
  callableToType : List ((Nat × Nat) × Nat) := []
  /-- (send, receive) ↦ type id of `Type::Process` -/
  processToType : List ((Option Nat × Option Nat) × Nat) := []
  /-- resource name ↦ type id of `Type::Resource` -/
  resourceToType : List (Name × Nat) := []
  deriving Repr, Inhabited

def isNeverTy : Ty → Bool
  | .union [] => true
  | _ => false

/-- insert unless the key is present (`entry(k).or_insert(v)`, `get_or_insert`). -/
def insertFirst {κ : Type} [DecidableEq κ] (k : κ) (v : Nat) (m : List (κ × Nat)) : List (κ × Nat) :=
  if m.any (fun e => decide (e.1 = k)) then m else m ++ [(k, v)]

def lookupFirst {κ : Type} [DecidableEq κ] (k : κ) (m : List (κ × Nat)) : Option Nat :=
  (m.find? (fun e => decide (e.1 = k))).map (·.2)

/-- one step of the single pass of `TypeIndex::build` (type `ty` at index `i`). -/
def TypeIndex.step (T : Table) (idx : TypeIndex) (i : Nat) (ty : Ty) : TypeIndex :=
  match ty with
  | .integer => { idx with integer := idx.integer.orElse (fun _ => some i) }
  | .binary => { idx with binary := idx.binary.orElse (fun _ => some i) }
  | .reference => { idx with reference := idx.reference.orElse (fun _ => some i) }
  | .tuple tid =>
    -- `tuple_to_type.get_mut(tuple_id)`: only tuple ids inside the tuple table get a slot
    if tid < T.tuples.length then { idx with tupleToType := insertFirst tid i idx.tupleToType }
    else idx
  | .callable p r c =>
    if (T.types[c]?).map isNeverTy = some true then
      { idx with callableToType := insertFirst (p, r) i idx.callableToType }
    else idx
  | .process s r => { idx with processToType := insertFirst (s, r) i idx.processToType }
  | .resource n => { idx with resourceToType := insertFirst n i idx.resourceToType }
  | _ => idx

def TypeIndex.buildFrom (T : Table) : TypeIndex → Nat → List Ty → TypeIndex
  | idx, _, [] => idx
  | idx, i, ty :: rest => TypeIndex.buildFrom T (idx.step T i ty) (i + 1) rest

/-- `TypeIndex::build`. -/
def TypeIndex.build (T : Table) : TypeIndex := TypeIndex.buildFrom T {} 0 T.types

/-- `extract_function_type_info`: (parameter, callable type id, process send, process receive). -/
def extractFn (T : Table) (f : FnInfo) : Nat × Nat × Option Nat × Option Nat :=
  match T.types[f.typeId]? with
  | some (.callable p r c) => (p, f.typeId, some c, some r)
  | _ => (0, f.typeId, none, none)

/-- the type id whose assignability to the pattern decides whether tag `c` is accepted;
`none` = the index has no entry for the tag (then the tag is never accepted, except for the
int / bin / ref fallback in `tagAccepts`). -/
def tagType (inp : CInput) (idx : TypeIndex) : CTag → Option Nat
  | .integer => idx.integer
  | .binary => idx.binary
  | .reference => idx.reference
  | .tuple tid => lookupFirst tid idx.tupleToType
  | .function fid => (inp.functions[fid]?).map (fun f => (extractFn inp.table f).2.1)
  | .builtin bid => (inp.builtins[bid]?).bind (fun b => lookupFirst (b.1, b.2) idx.callableToType)
  | .process fid =>
    (inp.functions[fid]?).bind (fun f =>
      let e := extractFn inp.table f
      lookupFirst (e.2.2.1, e.2.2.2) idx.processToType)
  | .resource rid => (inp.resources[rid]?).bind (fun n => lookupFirst n idx.resourceToType)

/-- when the table has no `Type::Integer` (resp. Binary, Reference) entry at all, the code compares
the pattern directly: it accepts the tag iff the pattern IS that primitive type — or the empty
union (`never`), which is how the code is written. -/
def primFallback (T : Table) (pattern : Nat) (prim : Ty) : Bool :=
  match T.types[pattern]? with
  | some ty => decide (ty = prim) || isNeverTy ty
  | none => false

/-- is tag `c` put into the set of `pattern`? `none` = `is_compatible` ran out of fuel. -/
def tagAccepts (inp : CInput) (idx : TypeIndex) (fuel : Nat) (pattern : Nat) (c : CTag) : Option Bool :=
  match tagType inp idx c with
  | some id => isCompatible inp.table fuel id pattern
  | none =>
    match c with
    | .integer => some (primFallback inp.table pattern .integer)
    | .binary => some (primFallback inp.table pattern .binary)
    | .reference => some (primFallback inp.table pattern .reference)
    | _ => some false

/-- every tag the computation iterates over, in its order: int, bin, ref, all tuple ids, all
function ids (as functions), all builtin ids, all function ids (as processes), all resource ids. -/
def allTags (inp : CInput) : List CTag :=
  [.integer, .binary, .reference] ++
    (List.range inp.table.tuples.length).map .tuple ++
    (List.range inp.functions.length).map .function ++
    (List.range inp.builtins.length).map .builtin ++
    (List.range inp.functions.length).map .process ++
    (List.range inp.resources.length).map .resource

def filterTags (f : CTag → Option Bool) : List CTag → Option (List CTag)
  | [] => some []
  | c :: rest =>
    match f c, filterTags f rest with
    | some true, some r => some (c :: r)
    | some false, some r => some r
    | _, _ => none

/-- `compute_compatible_concrete_types(pattern_id, ..)` (as a list without duplicates). -/
def compatSet (inp : CInput) (idx : TypeIndex) (fuel : Nat) (pattern : Nat) : Option (List CTag) :=
  filterTags (tagAccepts inp idx fuel pattern) (allTags inp)

def listMapO {α β : Type} (f : α → Option β) : List α → Option (List β)
  | [] => some []
  | x :: xs =>
    match f x, listMapO f xs with
    | some y, some ys => some (y :: ys)
    | _, _ => none

/-- `compute_type_compatibility`: a set per type id; only ids used by some `IsType` instruction
(and inside the type table) are computed, all others are empty. -/
def typeCompat (inp : CInput) (fuel : Nat) : Option (List (List CTag)) :=
  let idx := TypeIndex.build inp.table
  let patterns := inp.functions.flatMap (·.isTypes)
  listMapO (fun t => if patterns.contains t then compatSet inp idx fuel t else some [])
    (List.range inp.table.types.length)

/-- `compute_param_compatibility`: per function (its parameter type; 0 when its `type_id` is not
a callable) and per builtin (its declared parameter type). -/
def paramCompat (inp : CInput) (fuel : Nat) : Option (List (List CTag) × List (List CTag)) :=
  let idx := TypeIndex.build inp.table
  match listMapO (fun f => compatSet inp idx fuel (extractFn inp.table f).1) inp.functions,
        listMapO (fun (b : Nat × Nat) => compatSet inp idx fuel b.1) inp.builtins with
  | some fs, some bs => some (fs, bs)
  | _, _ => none

/-- `compute_canonical_tuples`: the lowest tuple id with the same name and field labels. -/
def canonicalTuples (tuples : List TupleInfo) : List Nat :=
  let shape : TupleInfo → Option Name × List (Option Name) := fun i => (i.name, i.fields.map (·.1))
  (List.range tuples.length).map (fun id =>
    match tuples[id]? with
    | none => id
    | some info =>
      match (List.range tuples.length).find? (fun j =>
        match tuples[j]? with
        | some other => decide (shape other = shape info)
        | none => false) with
      | some j => j
      | none => id)

/-! ### the runtime test -/

/-- `check_type_compatible`: the tag is in the set of the pattern; no set ⇒ no match. -/
def isType (tc : List (List CTag)) (pattern : Nat) (c : CTag) : Bool :=
  match tc[pattern]? with
  | some set => set.contains c
  | none => false

/-- what a receive source is at runtime -/
inductive Source where
  | function (id : Nat)
  | builtin (id : Nat)
  | other
  deriving DecidableEq, Repr, Inhabited

/-- `check_message_compatible`: mailbox filtering by the source's parameter table; PERMISSIVE when
the table has no entry for the source (`unwrap_or(true)`) and for every other kind of source. -/
def checkMessage (fp bp : List (List CTag)) (msg : CTag) : Source → Bool
  | .function f =>
    match fp[f]? with
    | some set => set.contains msg
    | none => true
  | .builtin b =>
    match bp[b]? with
    | some set => set.contains msg
    | none => true
  | .other => true

end QM.Types
