import QuiverModel.Core.Types.Basic
/-
M-Types, part 2 (imports Core/Types only): union construction and the narrowing operations.

Mirrors
  * /repo/quiver-compiler/src/compiler/typing.rs     `union_type_ids`
  * /repo/quiver-compiler/src/compiler/narrowing.rs  `intersect_types`, `intersect_pair`,
        `compute_complement`, `subtract_one`, `contains_cycle`, `get_type_variants`

These functions register new types, so they take and return the table (`&mut Program`), in
exactly the registration order of the Rust code (ids of the results coincide with the ids the
implementation returns on an identical table). Recursion is fuelled; `none` = out of fuel.
`rf` is the fuel handed to the `is_compatible` / `types_overlap` calls made inside.
-/
namespace QM.Types

/-- `get_type_variants` / `get_type_variants_readonly`. -/
def getVariants (T : Table) (id : Nat) : List Nat :=
  match T.types[id]? with
  | none => []
  | some (.union ids) => ids
  | some _ => [id]

/-- first loop of `union_type_ids`: flatten one level of unions. -/
def flattenIds (T : Table) : List Nat → List Nat
  | [] => []
  | id :: rest =>
    (match T.types[id]? with
     | some (.union vs) => vs
     | _ => [id]) ++ flattenIds T rest

/-- `filter(|id| seen.insert(*id))`: keep first occurrences. -/
def dedupKeep : List Nat → List Nat → List Nat
  | _, [] => []
  | seen, x :: xs =>
    if seen.contains x then dedupKeep seen xs else x :: dedupKeep (x :: seen) xs

/-- `union_type_ids(program, type_ids)`. -/
def unionIds (T : Table) (ids : List Nat) : Table × Nat :=
  match dedupKeep [] (flattenIds T ids) with
  | [] => T.never
  | [x] => (T, x)
  | u => T.registerType (.union u)

/-! ### `contains_cycle` -/

def anyC (f : List Nat → Nat → Option (Bool × List Nat)) :
    List Nat → List Nat → Option (Bool × List Nat)
  | [], seen => some (false, seen)
  | c :: cs, seen =>
    match f seen c with
    | none => none
    | some (true, seen') => some (true, seen')
    | some (false, seen') => anyC f cs seen'

/-- `contains_cycle(type_id, program, seen)`; returns the verdict and the updated `seen`. -/
def containsCycleAux (vr : Variant) (T : Table) : Nat → List Nat → Nat → Option (Bool × List Nat)
  | 0, _, _ => none
  | fuel + 1, seen, id =>
    if seen.contains id then some (false, seen)
    else
      let seen' := id :: seen
      match T.types[id]? with
      | some (.cycle _) => some (true, seen')
      | some (.union ids) => anyC (containsCycleAux vr T fuel) ids seen'
      | some (.tuple tid) =>
        match T.tuples[tid]? with
        | some info => anyC (containsCycleAux vr T fuel) (info.fields.map (·.2)) seen'
        | none => some (false, seen')
      | some (.part _ fields) => anyC (containsCycleAux vr T fuel) (fields.map (·.2)) seen'
      -- a back-reference can also sit inside a function or process type (fix 9604765)
      | some (.callable p r c) =>
        if vr.cycleCheckSkipsCallable then some (false, seen')
        else anyC (containsCycleAux vr T fuel) [p, r, c] seen'
      | some (.process s r) =>
        if vr.cycleCheckSkipsCallable then some (false, seen')
        else anyC (containsCycleAux vr T fuel) (s.toList ++ r.toList) seen'
      | _ => some (false, seen')

/-- `contains_cycle(id, program, &mut Vec::new())`. Every call below the top pushes a new id onto
`seen` or returns at once, so `types.length + 2` levels should always suffice (not proved: the driver
reports `fuel-out` if this were ever wrong). -/
def containsCycle (vr : Variant) (T : Table) (id : Nat) : Option Bool :=
  (containsCycleAux vr T (T.types.length + 2) [] id).map (·.1)

/-- some position carries different labels in the two field lists -/
def labelsDiffer (f1 f2 : List (Option Name × Nat)) : Bool :=
  (f1.zip f2).any (fun p => decide (p.1.1 ≠ p.2.1))

/-! ### `intersect_types` / `intersect_pair` -/

abbrev TRes := Option (Table × Nat)

/-- the field loop of the tuple arm of `intersect_pair`; inner `none` = "some field intersection
is never" (early `return never`; registrations made so far persist). -/
def intersectFields (rec : Table → Nat → Nat → TRes) (never : Nat) :
    Table → List ((Option Name × Nat) × (Option Name × Nat)) →
      Option (Table × Option (List (Option Name × Nat)))
  | T, [] => some (T, some [])
  | T, p :: rest =>
    match rec T p.1.2 p.2.2 with
    | none => none
    | some (T1, fi) =>
      if fi = never then some (T1, none)
      else
        match intersectFields rec never T1 rest with
        | none => none
        | some (T2, none) => some (T2, none)
        | some (T2, some fs) => some (T2, some ((p.1.1, fi) :: fs))

/-- the tuple arm of `intersect_pair` (after `never` has been registered). -/
def meetTuple (vr : Variant) (rec : Table → Nat → Nat → TRes) (T : Table) (never id1 id2 : Nat) :
    TRes :=
  match T.tuples[id1]?, T.tuples[id2]? with
  | some i1, some i2 =>
    if i1.name ≠ i2.name ∨ i1.fields.length ≠ i2.fields.length then some (T, never)
    -- tuples whose field labels differ share no value (fix e0ad7de)
    else if !vr.narrowIgnoresLabels && labelsDiffer i1.fields i2.fields then some (T, never)
    else
      match intersectFields rec never T (i1.fields.zip i2.fields) with
      | none => none
      | some (T1, none) => some (T1, never)
      | some (T1, some fields) =>
        let r := T1.registerTuple i1.name fields
        some (r.1.registerType (.tuple r.2))
  | _, _ => some (T, never)

/-- the field loop of the partial arm of `intersect_pair` over the LEFT operand's fields: a field the
right operand also names (`find`: its first field of that label) gets the intersection of the two field
types; inner `none` = "that intersection is never" (early `return never`; registrations persist). -/
def meetPartFields (rec : Table → Nat → Nat → TRes) (never : Nat) (fields2 : List (Name × Nat)) :
    Table → List (Name × Nat) → Option (Table × Option (List (Name × Nat)))
  | T, [] => some (T, some [])
  | T, f1 :: rest =>
    match fields2.find? (fun f2 => f2.1 == f1.1) with
    | some f2 =>
      match rec T f1.2 f2.2 with
      | none => none
      | some (T1, both) =>
        if both = never then some (T1, none)
        else
          match meetPartFields rec never fields2 T1 rest with
          | none => none
          | some (T2, none) => some (T2, none)
          | some (T2, some fs) => some (T2, some ((f1.1, both) :: fs))
    | none =>
      match meetPartFields rec never fields2 T rest with
      | none => none
      | some (T2, none) => some (T2, none)
      | some (T2, some fs) => some (T2, some (f1 :: fs))

/-- `name1.or_else(|| name2)` -/
def orName : Option Name → Option Name → Option Name
  | some n, _ => some n
  | none, n2 => n2

/-- the partial-vs-partial arm of `intersect_pair` (fix 02d463a): the partial type with the
fields of both, the left operand's first, then the right operand's new ones. -/
def meetPart (rec : Table → Nat → Nat → TRes) (T : Table) (never : Nat) (n1 : Option Name)
    (fs1 : List (Name × Nat)) (n2 : Option Name) (fs2 : List (Name × Nat)) : TRes :=
  if n1.isSome ∧ n2.isSome ∧ n1 ≠ n2 then some (T, never)
  else
    match meetPartFields rec never fs2 T fs1 with
    | none => none
    | some (T1, none) => some (T1, never)
    | some (T1, some fields) =>
      some (T1.registerType
        (.part (orName n1 n2) (fields ++ fs2.filter (fun f2 => !fs1.any (fun f1 => f1.1 == f2.1)))))

/-- the `_` arm of `intersect_pair`: keep the left operand iff the two overlap. -/
def meetFallback (rf : Nat) (T : Table) (never a b : Nat) : TRes :=
  match typesOverlap T rf a b with
  | none => none
  | some true => some (T, a)
  | some false => some (T, never)

/-- `intersect_pair(a, b, program)` with `intersect_types` abstracted as `rec`. -/
def intersectPair (vr : Variant) (rf : Nat) (rec : Table → Nat → Nat → TRes) (T : Table) (a b : Nat) :
    TRes :=
  if a = b then some (T, a)
  else
    let Tn := T.never
    let T := Tn.1
    let never := Tn.2
    match T.types[a]?, T.types[b]? with
    | some ta, some tb =>
      match ta, tb with
      | .variable _, _ => some (T, a)
      | _, .variable _ => some (T, a)
      | .cycle _, _ => some (T, a)
      | _, .cycle _ => some (T, a)
      | .integer, .integer => some (T, a)
      | .binary, .binary => some (T, a)
      | .reference, .reference => some (T, a)
      | .tuple id1, .tuple id2 => meetTuple vr rec T never id1 id2
      | .part n1 fs1, .part n2 fs2 =>
        if vr.partialIntersectKeepsLeft then meetFallback rf T never a b
        else if vr.partialIntersectUnguarded then meetPart rec T never n1 fs1 n2 fs2
        else
          -- `contains_cycle(a) || contains_cycle(b)` (short-circuit; fix 7120dc6): a variant taken out of
          -- its recursive union keeps the old answer
          match containsCycle vr T a with
          | none => none
          | some true => meetFallback rf T never a b
          | some false =>
            match containsCycle vr T b with
            | none => none
            | some true => meetFallback rf T never a b
            | some false => meetPart rec T never n1 fs1 n2 fs2
      | _, _ => meetFallback rf T never a b
    | _, _ => some (T, never)

/-- the double loop of `intersect_types`: collect the non-never pieces. -/
def intersectLoopB (pair : Table → Nat → Nat → TRes) (never av : Nat) :
    Table → List Nat → Option (Table × List Nat)
  | T, [] => some (T, [])
  | T, bv :: rest =>
    match pair T av bv with
    | none => none
    | some (T1, piece) =>
      match intersectLoopB pair never av T1 rest with
      | none => none
      | some (T2, ps) => some (T2, if piece = never then ps else piece :: ps)

def intersectLoopA (pair : Table → Nat → Nat → TRes) (never : Nat) (bvs : List Nat) :
    Table → List Nat → Option (Table × List Nat)
  | T, [] => some (T, [])
  | T, av :: rest =>
    match intersectLoopB pair never av T bvs with
    | none => none
    | some (T1, ps1) =>
      match intersectLoopA pair never bvs T1 rest with
      | none => none
      | some (T2, ps2) => some (T2, ps1 ++ ps2)

/-- `intersect_types(a_id, b_id, program)`. -/
def intersect (vr : Variant) (rf : Nat) : Nat → Table → Nat → Nat → TRes
  | 0, _, _, _ => none
  | fuel + 1, T, a, b =>
    let avs := getVariants T a
    let bvs := getVariants T b
    let Tn := T.never
    match intersectLoopA (intersectPair vr rf (intersect vr rf fuel)) Tn.2 bvs Tn.1 avs with
    | none => none
    | some (T1, pieces) => some (unionIds T1 pieces)

/-! ### `compute_complement` / `subtract_one` -/

abbrev LRes := Option (Table × List Nat)

/-- replace the type of field `i` (`fields[i].1 = t`). -/
def setFieldType (fields : List (Option Name × Nat)) (i : Nat) (t : Nat) :
    List (Option Name × Nat) :=
  match fields[i]? with
  | some f => fields.set i (f.1, t)
  | none => fields

/-- the field loop of the tuple arm of `subtract_one` (`i` = index of the head of the list). -/
def subtractFields (rec : Table → Nat → Nat → TRes) (never : Nat) (name : Option Name)
    (fields1 : List (Option Name × Nat)) :
    Table → Nat → List ((Option Name × Nat) × (Option Name × Nat)) → LRes
  | T, _, [] => some (T, [])
  | T, i, p :: rest =>
    match rec T p.1.2 p.2.2 with
    | none => none
    | some (T1, fc) =>
      if fc = never then subtractFields rec never name fields1 T1 (i + 1) rest
      else
        let r := T1.registerTuple name (setFieldType fields1 i fc)
        let r2 := r.1.registerType (.tuple r.2)
        match subtractFields rec never name fields1 r2.1 (i + 1) rest with
        | none => none
        | some (T3, out) => some (T3, r2.2 :: out)

def isCycleTy : Ty → Bool
  | .cycle _ => true
  | _ => false

/-- `contains_cycle(a) || contains_cycle(b)` (short-circuit, fresh `seen` each). -/
def cyclicPair (vr : Variant) (T : Table) (a b : Nat) : Option Bool :=
  match containsCycle vr T a with
  | none => none
  | some ca => if ca then some true else containsCycle vr T b

/-- the `is_compatible` / `types_overlap` shortcuts of `subtract_one` (skipped for cyclic types):
`some (some out)` = decided, `some none` = go on structurally, `none` = out of fuel. -/
def diffShortcut (rf : Nat) (T : Table) (cyclic : Bool) (a b : Nat) : Option (Option (List Nat)) :=
  if cyclic then some none
  else
    match isCompatible T rf a b with
    | none => none
    | some true => some (some [])
    | some false =>
      match typesOverlap T rf a b with
      | none => none
      | some false => some (some [a])
      | some true => some none

/-- the tuple arm of `subtract_one` (after `never` has been registered):
`[A] ∖ [b]` = union over i of `[A₀, …, Aᵢ∖bᵢ, …, Aₙ]`. -/
def diffTuple (vr : Variant) (rec : Table → Nat → Nat → TRes) (T : Table) (never a id1 id2 : Nat) :
    LRes :=
  match T.tuples[id1]?, T.tuples[id2]? with
  | some i1, some i2 =>
    if i1.name ≠ i2.name ∨ i1.fields.length ≠ i2.fields.length then some (T, [a])
    -- tuples whose field labels differ share no value: nothing to subtract (fix e0ad7de)
    else if !vr.narrowIgnoresLabels && labelsDiffer i1.fields i2.fields then some (T, [a])
    else subtractFields rec never i1.name i1.fields T 0 (i1.fields.zip i2.fields)
  | _, _ => some (T, [a])

/-- `subtract_one(a, b, program)` with `compute_complement` abstracted as `rec`. -/
def subtractOne (vr : Variant) (rf : Nat) (rec : Table → Nat → Nat → TRes) (T : Table) (a b : Nat) :
    LRes :=
  if a = b then some (T, [])
  else
    match T.types[a]?, T.types[b]? with
    | some ta, some tb =>
      if isCycleTy ta || isCycleTy tb then some (T, [a])
      else
        match cyclicPair vr T a b with
        | none => none
        | some cyclic =>
          match diffShortcut rf T cyclic a b with
          | none => none
          | some (some out) => some (T, out)
          | some none =>
            -- `let never = program.never();` happens before the structural match
            match ta, tb with
            | .tuple id1, .tuple id2 => diffTuple vr rec T.never.1 T.never.2 a id1 id2
            | _, _ => some (T.never.1, [a])
    | _, _ => some (T, [a])

/-- `for piece in pieces { next.extend(subtract_one(piece, nv, program)) }`. -/
def subtractPieces (sub : Table → Nat → Nat → LRes) (nv : Nat) : Table → List Nat → LRes
  | T, [] => some (T, [])
  | T, piece :: rest =>
    match sub T piece nv with
    | none => none
    | some (T1, out1) =>
      match subtractPieces sub nv T1 rest with
      | none => none
      | some (T2, out2) => some (T2, out1 ++ out2)

/-- `for nv in narrowed_variants { pieces = … }`. -/
def complementLoop (sub : Table → Nat → Nat → LRes) : Table → List Nat → List Nat → LRes
  | T, pieces, [] => some (T, pieces)
  | T, pieces, nv :: rest =>
    match subtractPieces sub nv T pieces with
    | none => none
    | some (T1, next) => complementLoop sub T1 next rest

/-- `compute_complement(original_id, narrowed_id, program)`. -/
def complement (vr : Variant) (rf : Nat) : Nat → Table → Nat → Nat → TRes
  | 0, _, _, _ => none
  | fuel + 1, T, original, narrowed =>
    let nvs := getVariants T narrowed
    let pieces := getVariants T original
    match complementLoop (subtractOne vr rf (complement vr rf fuel)) T pieces nvs with
    | none => none
    | some (T1, out) => some (unionIds T1 out)

end QM.Types
