import QuiverModel.Core.Types.Basic
/-
M-Types, part 6 (imports Core/Types only): renaming of type / tuple ids — what tree shaking
(`optimisation::tree_shake`), merging (`Environment::merge_bytecode`, `import_type`) and module
import do to a type table. Tuple names, labels and resource names are not renamed.
-/
namespace QM.Types

/-- rename the ids mentioned by a type (`ρ` type ids, `τ` tuple ids) -/
def Ty.rename (ρ τ : Nat → Nat) : Ty → Ty
  | .tuple id => .tuple (τ id)
  | .part n fs => .part n (fs.map (fun f => (f.1, ρ f.2)))
  | .callable p r c => .callable (ρ p) (ρ r) (ρ c)
  | .union ids => .union (ids.map ρ)
  | .process s r => .process (s.map ρ) (r.map ρ)
  | .integer => .integer
  | .binary => .binary
  | .reference => .reference
  | .cycle d => .cycle d
  | .resource n => .resource n
  | .variable n => .variable n

def TupleInfo.rename (ρ : Nat → Nat) (i : TupleInfo) : TupleInfo :=
  ⟨i.name, i.fields.map (fun f => (f.1, ρ f.2))⟩

/-- `T'` contains a `(ρ, τ)`-renamed copy of `T`: the entry at the image of an id is the renamed
entry (and the image of a missing id is missing); `ρ`, `τ` are injective. -/
structure Embeds (ρ τ : Nat → Nat) (T T' : Table) : Prop where
  injTy : ∀ a b, ρ a = ρ b → a = b
  injTu : ∀ a b, τ a = τ b → a = b
  types : ∀ t, T'.types[ρ t]? = (T.types[t]?).map (Ty.rename ρ τ)
  tuples : ∀ i, T'.tuples[τ i]? = (T.tuples[i]?).map (TupleInfo.rename ρ)

def Stk.map (ρ : Nat → Nat) (s : Stk) : Stk := ⟨s.l.map ρ, s.r.map ρ⟩

def mapAsm (ρ : Nat → Nat) (s : Asm) : Asm := s.map (fun p => (ρ p.1, ρ p.2.1, p.2.2.map ρ))

def mapRes (ρ : Nat → Nat) (r : Res) : Res := r.map (fun p => (p.1, mapAsm ρ p.2))

end QM.Types
