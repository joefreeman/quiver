import QuiverModel.Core.Types.Basic
/-
M-Types, part 4 (imports Core/Types only): decidable well-formedness classes of type ids, used as hypotheses of
the C09 / C08 theorems and checked by the harness on every generated table.

  * `Table.orderedB`  — every id mentioned by a type is smaller than the id of the type itself and
                        every tuple id resolves (what `register_*` without forward references
                        produces: the id graph is a DAG, recursion only through `Cycle`);
  * `foB`             — first-order, cycle-free: only int/bin/ref/resource/tuple/partial/union
                        nodes are reachable;
  * `closedB`         — closed and contractive: no `Variable`; process types have both directions;
                        every `Cycle d` points at an enclosing boundary (union or callable) and a
                        tuple / partial / callable / process constructor lies between that boundary
                        and the `Cycle`.
-/
namespace QM.Types

def Table.fieldTypes (T : Table) (tid : Nat) : List Nat :=
  match T.tuples[tid]? with
  | some i => i.fields.map (·.2)
  | none => []

/-- type ids directly mentioned by a type. -/
def Ty.children (T : Table) : Ty → List Nat
  | .tuple id => T.fieldTypes id
  | .part _ fs => fs.map (·.2)
  | .callable p r c => [p, r, c]
  | .union ids => ids
  | .process s r => s.toList ++ r.toList
  | _ => []

def Ty.tupleOk (T : Table) : Ty → Bool
  | .tuple id => decide (id < T.tuples.length)
  | _ => true

def orderedFrom (T : Table) : Nat → List Ty → Bool
  | _, [] => true
  | i, t :: rest => (t.children T).all (fun c => decide (c < i)) && t.tupleOk T && orderedFrom T (i + 1) rest

def Table.orderedB (T : Table) : Bool := orderedFrom T 0 T.types

def Ty.isFO : Ty → Bool
  | .integer | .binary | .reference | .resource _ | .tuple _ | .part _ _ | .union _ => true
  | _ => false

/-- first-order and cycle-free, explored `n` levels deep. -/
def foB (T : Table) : Nat → Nat → Bool
  | 0, _ => false
  | n + 1, t =>
    match T.types[t]? with
    | none => false
    | some ty => ty.isFO && ty.tupleOk T && (ty.children T).all (foB T n)

def Ty.isRFO : Ty → Bool
  | .integer | .binary | .reference | .resource _ | .tuple _ | .part _ _ | .union _ | .cycle _ => true
  | _ => false

/-- first-order with recursion: only int/bin/ref/resource/tuple/partial/union/`Cycle` nodes are
reachable (no callable, process or variable), explored `n` levels deep. -/
def rfoB (T : Table) : Nat → Nat → Bool
  | 0, _ => false
  | n + 1, t =>
    match T.types[t]? with
    | none => false
    | some ty => ty.isRFO && ty.tupleOk T && (ty.children T).all (rfoB T n)

/-- closed and contractive below the boundaries whose guard flags are `gs` (top first:
`gs[d-1]` = "a constructor has been crossed since the d-th enclosing boundary"). -/
def closedB (T : Table) : Nat → List Bool → Nat → Bool
  | 0, _, _ => false
  | n + 1, gs, t =>
    match T.types[t]? with
    | none => false
    | some ty =>
      match ty with
      | .integer | .binary | .reference | .resource _ => true
      | .variable _ => false
      | .cycle d => decide (d ≠ 0) && (gs[d - 1]?).getD false
      | .union ids => ids.all (closedB T n (false :: gs))
      | .tuple id =>
        match T.tuples[id]? with
        | none => false
        | some info => info.fields.all (fun f => closedB T n (gs.map (fun _ => true)) f.2)
      | .part _ fs => fs.all (fun f => closedB T n (gs.map (fun _ => true)) f.2)
      | .callable p r c =>
        let gs' := true :: gs.map (fun _ => true)
        closedB T n gs' p && closedB T n gs' r && closedB T n gs' c
      | .process s r =>
        match s, r with
        | some s, some r =>
          closedB T n (gs.map (fun _ => true)) s && closedB T n (gs.map (fun _ => true)) r
        | _, _ => false

/-- no partial type names a field twice (the compiler accepts such a type; the partial-vs-partial arm
then looks only at the FIRST field of that name, so such a type is not even assignable to itself once
the two sides sit below different enclosing types) -/
def Table.partsDistinctB (T : Table) : Bool :=
  T.types.all (fun ty => match ty with
    | .part _ fs => decide ((fs.map (·.1)).Nodup)
    | _ => true)

def PartsDistinct (T : Table) : Prop := T.partsDistinctB = true

def Ordered (T : Table) : Prop := T.orderedB = true
def FO (T : Table) (t : Nat) : Prop := ∃ n, foB T n t = true
def Closed (T : Table) (t : Nat) : Prop := ∃ n, closedB T n [] t = true
def RFO (T : Table) (t : Nat) : Prop := ∃ n, rfoB T n t = true

instance (T : Table) : Decidable (Ordered T) := inferInstanceAs (Decidable (_ = true))

end QM.Types
