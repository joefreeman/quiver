import QuiverModel.Core.Types.Basic
import QuiverModel.Core.Types.Shape
/-
M-Types, part 3 (imports Core/Types only): structural values and inhabitation — the *meaning* of a type id,
independent of `checkRel`, used as the oracle of C09 / C08 / C01.

Structural values `V` carry no table indices: a tuple is its name and its labelled fields (this is
`erase` of a runtime `Value::Tuple(id, …)` — C13). Function and process values carry the id of
their *declared* type (`Function::type_id`, resp. the `Type::Process` derived from it), because a
function has no structure a type could be checked against: `fn d` inhabits a callable type `t` iff
the declared type `d` is assignable to `t` (this is exactly what the runtime does for
`ConcreteType::Function`, compatibility.rs). So for callable/process types "inhabitation" is
*defined* through `checkRel`; the independent content of the semantics is the first-order part.

`Cycle d` means "the d-th enclosing boundary, counted upwards from here" where boundaries are the
union and callable nodes on the path from the root (typing.rs `resolve_ast_type_impl`:
`recursion_depth` is incremented exactly at `ast::Type::Union` and `ast::Type::Function`;
compiler.rs `resolve_function_cycles` says the same). `inhB` therefore keeps the stack of enclosing
boundaries (top first) and, on `Cycle d`, continues *at* boundary `st[d-1]` with the stack that
encloses that boundary (`st.drop d`) — de Bruijn style. On every table in which a path never meets
the same boundary id twice without passing a `Cycle` (all tables built through `register_*`
without forward references) this is the stack discipline `check_type_relation` implements on its
right-hand side with `if !type_stack.contains(..) { push }` and, on resolution, `split_off` (`Stk.resolved`:
the same `drop d`); on other tables the two can differ (the checker does not push an id that is already on its
stack), and the difference is a property of the checker, not of the meaning.

A dangling `Cycle` (depth 0 or deeper than the stack) and a missing id denote the empty type;
`Variable` denotes everything (closed types contain neither).
-/
namespace QM.Types

mutual
inductive V where
  | int (z : Int)
  | bin (bs : List UInt8)
  | ref (r : Nat)
  | tup (name : Option Name) (fields : VFields)
  | fn (decl : Nat)
  | proc (decl : Nat)
  | res (name : Name)
  deriving DecidableEq, Repr
inductive VFields where
  | nil
  | cons (label : Option Name) (v : V) (rest : VFields)
  deriving DecidableEq, Repr
end

instance : Inhabited V := ⟨.int 0⟩
instance : Inhabited VFields := ⟨.nil⟩

def VFields.toList : VFields → List (Option Name × V)
  | .nil => []
  | .cons l v rest => (l, v) :: rest.toList

def VFields.ofList : List (Option Name × V) → VFields
  | [] => .nil
  | (l, v) :: rest => .cons l v (VFields.ofList rest)

theorem VFields.toList_ofList (l : List (Option Name × V)) : (VFields.ofList l).toList = l := by
  induction l with
  | nil => rfl
  | cons p rest ih => cases p; simp [VFields.ofList, VFields.toList, ih]

theorem VFields.ofList_toList : (fs : VFields) → VFields.ofList fs.toList = fs
  | .nil => rfl
  | .cons l v rest => by simp [VFields.ofList, VFields.toList, VFields.ofList_toList rest]

/-- no label occurs twice among the fields -/
def labelsDistinct : List (Option Name × V) → Bool
  | [] => true
  | q :: rest =>
    (match q.1 with
     | none => true
     | some n => !(rest.any (fun r => decide (r.1 = some n)))) && labelsDistinct rest

mutual
/-- well-labelled: no tuple inside the value carries the same label twice (the only values the
language can build: `[x: 1, x: 2]` is rejected with `FieldDuplicated`). -/
def V.wf : V → Bool
  | .tup _ fs => labelsDistinct fs.toList && fs.wfAll
  | _ => true
def VFields.wfAll : VFields → Bool
  | .nil => true
  | .cons _ v rest => v.wf && rest.wfAll
end

/-- positional match of a tuple's declared fields against a value's fields: same length, same
labels, each value accepted by `f` at the declared field type. -/
def fieldsB (f : Nat → V → Bool) : List (Option Name × Nat) → VFields → Bool
  | [], .nil => true
  | p :: rest, .cons l' v vs => decide (p.1 = l') && f p.2 v && fieldsB f rest vs
  | _, _ => false

/-- some field of the value is labelled `name` and accepted by `f` at type `t`. -/
def hasFieldB (f : Nat → V → Bool) (name : Name) (t : Nat) : VFields → Bool
  | .nil => false
  | .cons l v vs => (decide (l = some name) && f t v) || hasFieldB f name t vs

/-- Fuelled Boolean inhabitation: does `v` inhabit type `t`, `st` being the boundaries that
enclose `t` (top first)? `false` when the fuel runs out (see `inhB_mono`). -/
def inhB (T : Table) : Nat → List Nat → Nat → V → Bool
  | 0, _, _, _ => false
  | fuel + 1, st, t, v =>
    match T.types[t]? with
    | none => false
    | some ty =>
      match ty with
      | .integer => match v with | .int _ => true | _ => false
      | .binary => match v with | .bin _ => true | _ => false
      | .reference => match v with | .ref _ => true | _ => false
      | .resource r => match v with | .res r' => decide (r = r') | _ => false
      | .variable _ => true
      | .cycle d =>
        match resolveCycle st d with
        | none => false
        | some id => inhB T fuel (st.drop d) id v
      | .union ids => ids.any (fun i => inhB T fuel (t :: st) i v)
      | .tuple id =>
        match T.tuples[id]?, v with
        | some info, .tup name fs => decide (name = info.name) && fieldsB (inhB T fuel st) info.fields fs
        | _, _ => false
      | .part pn pfs =>
        match v with
        | .tup name fs =>
          (pn.isNone || decide (name = pn)) &&
            pfs.all (fun pf => hasFieldB (inhB T fuel st) pf.1 pf.2 fs)
        | _ => false
      | .callable _ _ _ =>
        match v with
        | .fn d =>
          (match T.types[d]? with | some (.callable _ _ _) => true | _ => false) &&
          (match checkRel T .all fuel [] ⟨[], st⟩ d t with | some (true, _) => true | _ => false)
        | _ => false
      | .process _ _ =>
        match v with
        | .proc d =>
          (match T.types[d]? with | some (.process _ _) => true | _ => false) &&
          (match checkRel T .all fuel [] ⟨[], st⟩ d t with | some (true, _) => true | _ => false)
        | _ => false

/-- `v` inhabits type `t` under the enclosing boundaries `st`. -/
def inh (T : Table) (st : List Nat) (t : Nat) (v : V) : Prop := ∃ fuel, inhB T fuel st t v = true

/-! ### Enumeration of inhabitants (harness oracle) -/

def maxOpt : Option Name → Nat
  | none => 0
  | some n => n

/-- a name (label) that occurs nowhere in the table. -/
def freshName (T : Table) : Name :=
  let tyMax : Ty → Nat := fun t =>
    match t with
    | .part n fs => max (maxOpt n) (fs.foldl (fun m f => max m f.1) 0)
    | .resource r => r
    | .variable r => r
    | _ => 0
  let a := T.types.foldl (fun m t => max m (tyMax t)) 0
  let b := T.tuples.foldl
    (fun m i => max m (max (maxOpt i.name) (i.fields.foldl (fun m f => max m (maxOpt f.1)) 0))) 0
  max a b + 1

/-- all ways to pick one value per field (capped at `cap` results). -/
def prodFields (cap : Nat) : List (Option Name × List V) → List VFields
  | [] => [.nil]
  | p :: rest =>
    let tails := prodFields cap rest
    (p.2.flatMap (fun v => tails.map (fun tl => VFields.cons p.1 v tl))).take cap

def dedupNames : List (Option Name) → List (Option Name)
  | [] => []
  | x :: xs => if xs.contains x then dedupNames xs else x :: dedupNames xs

/-- tuple names a value of an unnamed partial may carry: none, every name of the table, a fresh one. -/
def candidateNames (T : Table) : List (Option Name) :=
  dedupNames
    ([none, some (freshName T)] ++ T.tuples.map (·.name) ++
      T.types.filterMap (fun t => match t with | .part (some n) _ => some (some n) | _ => none))

def optFields (f : Nat → Option V) : List (Option Name × Nat) → Option VFields
  | [] => some .nil
  | p :: rest =>
    match f p.2, optFields f rest with
    | some v, some vs => some (.cons p.1 v vs)
    | _, _ => none

/-- one cheap inhabitant of `t` (if one is found within `fuel` unfoldings): used by `enumVals` for
the fields a partial type does not constrain, so that the enumeration does not fan out there. -/
def defaultVal (T : Table) : Nat → List Nat → Nat → Option V
  | 0, _, _ => none
  | fuel + 1, st, t =>
    match T.types[t]? with
    | none => none
    | some ty =>
      match ty with
      | .integer => some (.int 0)
      | .binary => some (.bin [])
      | .reference => some (.ref 0)
      | .resource r => some (.res r)
      | .variable _ => some (.int 0)
      | .cycle d =>
        match resolveCycle st d with
        | none => none
        | some id => defaultVal T fuel (st.drop d) id
      | .union ids => ids.findSome? (fun i => defaultVal T fuel (t :: st) i)
      | .tuple id =>
        match T.tuples[id]? with
        | none => none
        | some info => (optFields (defaultVal T fuel st) info.fields).map (fun fs => V.tup info.name fs)
      | .part pn pfs =>
        (optFields (defaultVal T fuel st) (pfs.map (fun pf => (some pf.1, pf.2)))).map
          (fun fs => V.tup pn fs)
      | .callable _ _ _ => if closedB T (T.types.length + 1) [] t then some (.fn t) else none
      | .process _ _ => if closedB T (T.types.length + 1) [] t then some (.proc t) else none

/-- Type-directed enumeration of (a representative set of) inhabitants of `t` under `st`:
at most `width` values per union variant / field, `fuel` unfoldings deep. Every value returned is
re-checked with `inhB` by `enumInh`, so the enumerator itself is not trusted. For partial types it
produces the near-miss shapes: exact fields, an extra labelled / unlabelled field, reversed
order, other names, the labels of every other partial type of the table appended, and every
tuple of the table that carries the labels. -/
def enumVals (T : Table) (width : Nat) : Nat → List Nat → Nat → List V
  | 0, _, _ => []
  | fuel + 1, st, t =>
    match T.types[t]? with
    | none => []
    | some ty =>
      match ty with
      | .integer => [.int 0, .int 7]
      | .binary => [.bin [], .bin [0]]
      | .reference => [.ref 0]
      | .resource r => [.res r]
      | .variable _ => [.int 0]
      | .cycle d =>
        match resolveCycle st d with
        | none => []
        | some id => enumVals T width fuel (st.drop d) id
      | .union ids => ids.flatMap (fun i => (enumVals T width fuel (t :: st) i).take width)
      | .tuple id =>
        match T.tuples[id]? with
        | none => []
        | some info =>
          (prodFields (width * width)
            (info.fields.map (fun f => (f.1, (enumVals T width fuel st f.2).take width)))).map
            (fun fs => V.tup info.name fs)
      | .part pn pfs =>
        let base : List (Option Name × List V) :=
          pfs.map (fun pf => (some pf.1, (enumVals T width fuel st pf.2).take width))
        let names : List (Option Name) :=
          match pn with
          | some p => [some p]
          | none => candidateNames T
        let fresh := freshName T
        let has : Name → Bool := fun l => pfs.any (fun pf => pf.1 == l)
        -- labels of the other partial types, appended
        let others : List (List (Option Name × List V)) :=
          T.types.filterMap (fun u =>
            match u with
            | .part _ qfs =>
              let extra := qfs.filter (fun q => !has q.1)
              if extra.isEmpty then none
              else some (base ++ extra.map (fun q => (some q.1, (defaultVal T fuel [] q.2).toList)))
            | _ => none)
        -- tuples of the table that carry all the labels
        let carriers : List (Option Name × List (Option Name × List V)) :=
          T.tuples.filterMap (fun info =>
            if pfs.all (fun pf => info.fields.any (fun f => f.1 == some pf.1)) then
              some (info.name, info.fields.map (fun f =>
                match f.1 with
                | some l =>
                  match pfs.find? (fun pf => pf.1 == l) with
                  | some pf => (f.1, (enumVals T width fuel st pf.2).take width)
                  | none => (f.1, (defaultVal T fuel [] f.2).toList)
                | none => (f.1, (defaultVal T fuel [] f.2).toList)))
            else none)
        let layouts : List (List (Option Name × List V)) :=
          [base, base ++ [(some fresh, [V.int 0])], (none, [V.int 0]) :: base, base.reverse] ++ others
        let cap := width * width
        (names.flatMap (fun n =>
          layouts.flatMap (fun lay => (prodFields cap lay).map (fun fs => V.tup n fs)))) ++
        (carriers.flatMap (fun c =>
          if pn.isNone || c.1 == pn then (prodFields cap c.2).map (fun fs => V.tup c.1 fs) else []))
      | .callable _ _ _ =>
        -- function values: one per CLOSED callable type of the table (a declared type is closed)
        (List.range T.types.length).filterMap (fun (d : Nat) =>
          match T.types[d]? with
          | some (Ty.callable _ _ _) => if closedB T (T.types.length + 1) [] d then some (V.fn d) else none
          | _ => none)
      | .process _ _ =>
        (List.range T.types.length).filterMap (fun (d : Nat) =>
          match T.types[d]? with
          | some (Ty.process _ _) => if closedB T (T.types.length + 1) [] d then some (V.proc d) else none
          | _ => none)

/-- enumerated values that `inhB` confirms as inhabitants of `t` (top level: empty stack). -/
def enumInh (T : Table) (width efuel ifuel : Nat) (t : Nat) : List V :=
  (enumVals T width efuel [] t).filter (fun v => inhB T ifuel [] t v)

end QM.Types
