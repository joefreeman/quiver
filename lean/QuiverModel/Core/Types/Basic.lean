/-
M-Types, part 1 (import-free): the type table and the structural type relation.

Mirrors, branch by branch and in source order,
  * /repo/quiver-core/src/types.rs      `Type`, `TupleTypeInfo`, `check_type_relation`,
                                        `is_compatible` (mode ALL), `types_overlap` (mode ANY)
                                        — as of the fix commits 6273050 (partial name rule),
                                        e428d71 (assumption set restored when a union check fails),
                                        f506776 / 5646380 / f3628e7 (overlap of partial types), and of the
                                        repairs of the recursive arms 30aca33, fd75268, 4bee69d, ecfc5db,
                                        dc4f190 (see `Variant`);
  * /repo/quiver-core/src/program.rs    `Program::register_type / register_tuple / never` (dedup).

Conventions (shared API — C01, C08, C10, C13 import this read-only):
  * names (tuple names, field labels, resource names, type-variable names) are interned `Nat`s
    (`Name`); the harness sends the same interning to the driver;
  * `Table.types[i]?` / `Table.tuples[i]?` are `Program::lookup_type / lookup_tuple`;
  * the Rust `HashSet<Assumption>` (two ids and the two stacks) of coinductive assumptions is a list (`Asm` of
    `AKey`s); only
    membership is ever observed, and a key is inserted only after the membership test failed, so
    the list stays duplicate-free; "snapshot / restore" is "keep the old list";
  * the Rust `type_stack: Vec<usize>` (push at the end) is a list with the TOP FIRST, so
    `type_stack[len - d]` is `st[d-1]?`;
  * every function that mirrors unbounded Rust recursion takes `fuel` and answers `none` when it
    runs out (reported by the driver as `fuel-out`, never defaulted).
-/
namespace QM.Types

abbrev Name := Nat

/-- `quiver_core::types::Type`. All nested references are type ids into `Table.types`
(`tuple id` is a tuple id into `Table.tuples`). `part` is `Type::Partial` (`partial` is a Lean
keyword). -/
inductive Ty where
  | integer
  | binary
  | reference
  | tuple (id : Nat)
  | part (name : Option Name) (fields : List (Name × Nat))
  | callable (parameter result receive : Nat)
  | cycle (depth : Nat)
  | union (ids : List Nat)
  | process (send receive : Option Nat)
  | resource (name : Name)
  | variable (name : Name)
  deriving DecidableEq, Repr, Inhabited

/-- `TupleTypeInfo`. -/
structure TupleInfo where
  name : Option Name
  fields : List (Option Name × Nat)
  deriving DecidableEq, Repr, Inhabited

/-- The two registries of a `Program` that the type relation reads. -/
structure Table where
  types : List Ty
  tuples : List TupleInfo
  deriving DecidableEq, Repr, Inhabited

/-- `UnionMode`. -/
inductive Mode where
  | all
  | any
  deriving DecidableEq, Repr, Inhabited

/-- The two stacks of enclosing boundary types (each top first): `l` for the left (self) type, `r`
for the right (pattern) type — the Rust `self_stack` / `type_stack` (fix fd75268; before it there was
only the right one, and a left-hand `Cycle` was resolved on it). -/
structure Stk where
  l : List Nat := []
  r : List Nat := []
  deriving DecidableEq, Repr, Inhabited

/-- a coinductive assumption: the two ids and the stacks of enclosing types it was made under (fix
dc4f190; before it the stacks were not part of the key: `{}` with `Variant.asmKeyedByIdsOnly`) -/
abbrev AKey := Nat × Nat × Stk

abbrev Asm := List AKey

/-- Result of a (sub-)check: the verdict and the assumption set afterwards; `none` = out of fuel. -/
abbrev Res := Option (Bool × Asm)

/-- `iter.all(..)` over a check that mutates the assumption set: stops at the first `false`. -/
def allS {α : Type} (f : Asm → α → Res) : List α → Asm → Res
  | [], s => some (true, s)
  | x :: xs, s =>
    match f s x with
    | none => none
    | some (false, s') => some (false, s')
    | some (true, s') => allS f xs s'

/-- `iter.any(..)` over a check that mutates the assumption set: stops at the first `true`. -/
def anyS {α : Type} (f : Asm → α → Res) : List α → Asm → Res
  | [], s => some (false, s)
  | x :: xs, s =>
    match f s x with
    | none => none
    | some (true, s') => some (true, s')
    | some (false, s') => anyS f xs s'

/-- `type_stack[len - depth]` with the Rust guards: `None` when `len < depth` or `depth = 0`
(index `len` is out of range) — both are answered `true` by the checker. -/
def resolveCycle (st : List Nat) (d : Nat) : Option Nat :=
  if d = 0 then none else st[d - 1]?

/-- `if !type_stack.contains(&id) { type_stack.push(id) }` (the matching `pop` is implicit: the
stack is passed down, never returned). -/
def pushStack (st : List Nat) (id : Nat) : List Nat :=
  if st.contains id then st else id :: st

/-- Historical variants of the relation: each flag re-enables the behaviour a `fix:` commit
removed. The model of the code as it is NOW is the default `{}` (all flags off); the flags exist
only so that `Theorems/C09.lean` can state, kernel-checked, that each repaired defect was a real
counter-example under the old rule (and that it is gone under the current one). -/
structure Variant where
  /-- before 6273050: partial-vs-partial compared names only when BOTH were present -/
  nameRuleBothOnly : Bool := false
  /-- before e428d71: assumptions made below a failing union check were kept -/
  keepFailedAssumptions : Bool := false
  /-- before f506776: the ALL-mode name rule also ran in overlap mode -/
  nameRuleAllInAny : Bool := false
  /-- before 5646380: in overlap mode every pattern field had to exist in self (and any, not the
  first, field of that name could match) -/
  partFieldsAnyStrict : Bool := false
  /-- before f3628e7: partial-vs-tuple had no arm (always unrelated) -/
  noPartTupleArm : Bool := false
  /-- before 30aca33: the callable arm recorded no coinductive assumption (a `Cycle` pointing at a
  function type looped for ever: R4) -/
  callableNoAssumption : Bool := false
  /-- before e0ad7de: `intersect_pair` / `subtract_one` compared tuple types by name and arity only,
  never by field labels (narrowing functions, `Narrow.lean`) -/
  narrowIgnoresLabels : Bool := false
  /-- before 9604765: `contains_cycle` did not look inside callable / process types -/
  cycleCheckSkipsCallable : Bool := false
  /-- before fd75268: a left-hand `Cycle` was resolved on the RIGHT-hand stack (and the stacks were
  not swapped in contravariant positions): R1 -/
  leftCycleOnRightStack : Bool := false
  /-- before fd75268: two `Cycle`s of the same depth were taken for the same recursive type without
  resolving them -/
  cycleSameDepthShortcut : Bool := false
  /-- before 4bee69d: equal ids were taken for equal types even below different enclosing types
  (their back-references then mean different things) -/
  equalIdsIgnoreContext : Bool := false
  /-- before ecfc5db: a resolved `Cycle` went on with the whole stack of the place where the
  back-reference stood; its target was then "already on the stack", not pushed again, and the `Cycle`s
  inside it were counted from the entries between the reference and the target (R6) -/
  cycleKeepsInnerStack : Bool := false
  /-- before dc4f190: a coinductive assumption was keyed by the two ids alone, although an id with
  back-references means another type below other enclosing types; for a function type shared by two
  unions the assumption made for one direction answered the converse question of the parameter (R7) -/
  asmKeyedByIdsOnly : Bool := false
  /-- before 02d463a: `intersect_pair` had no arm for two partial types and fell back to "keep the left
  operand if the two overlap" — a written `'readable & 'writable` resolved to `'readable` alone
  (narrowing functions, `Narrow.lean`) -/
  partialIntersectKeepsLeft : Bool := false
  /-- between 02d463a and 7120dc6: the partial-vs-partial arm of `intersect_pair` was taken also when an
  operand contains a `Cycle` — a variant taken out of its recursive union — and copied the back-reference
  out of the union it points to (R8) -/
  partialIntersectUnguarded : Bool := false
  deriving DecidableEq, Repr, Inhabited


def Stk.pushL (s : Stk) (id : Nat) : Stk := { s with l := pushStack s.l id }
def Stk.pushR (s : Stk) (id : Nat) : Stk := { s with r := pushStack s.r id }
/-- contravariant positions: the two sides swap roles, and so do their stacks -/
def Stk.swap (s : Stk) : Stk := ⟨s.r, s.l⟩

/-- the same id is the same type when its back-references mean the same on both sides: the two
sides sit below the same enclosing types (fix 4bee69d); for overlap the optimistic answer is the safe
one, so there the same id always overlaps itself -/
def sameContext (vr : Variant) (mode : Mode) (st : Stk) : Bool :=
  vr.equalIdsIgnoreContext || (match mode with | .any => true | .all => false) || decide (st.l = st.r)

/-- the key under which the pair `(a, b)` is assumed and looked up at the stacks `st` -/
def akey (vr : Variant) (st : Stk) (a b : Nat) : AKey :=
  (a, b, if vr.asmKeyedByIdsOnly then {} else st)

@[simp] theorem akey_fst (vr : Variant) (st : Stk) (a b : Nat) : (akey vr st a b).1 = a := rfl
@[simp] theorem akey_snd (vr : Variant) (st : Stk) (a b : Nat) : (akey vr st a b).2.1 = b := rfl

/-- Restore the snapshot when a union check fails (fix e428d71). -/
def restoreOnFail (vr : Variant) (snapshot : Asm) : Res → Res
  | none => none
  | some (true, s') => some (true, s')
  | some (false, s') => some (false, if vr.keepFailedAssumptions then s' else snapshot)

abbrev Rec := Asm → Stk → Nat → Nat → Res

/-- the stacks with which a resolved `Cycle d` goes on: the `d` entries down to and including the
target are set aside on the stack it was resolved on (`split_off(lookup_index)`, fix ecfc5db; the target
pushes itself again) — the discipline `inhB` has (`st.drop d`). Before the fix: unchanged. -/
def Stk.resolved (vr : Variant) (onRight : Bool) (st : Stk) (d : Nat) : Stk :=
  if vr.cycleKeepsInnerStack then st
  else (if onRight then { st with r := st.r.drop d } else { st with l := st.l.drop d })

/-- `(Type::Cycle(depth), _)`: resolve on the stack, else `true` ("coinductive reasoning"). -/
def cycleLeft (vr : Variant) (rec : Rec) (asm : Asm) (st : Stk) (d b : Nat) : Res :=
  match resolveCycle (if vr.leftCycleOnRightStack then st.r else st.l) d with
  | none => some (true, asm)
  | some sid => rec asm (st.resolved vr vr.leftCycleOnRightStack d) sid b

/-- `(_, Type::Cycle(depth))`. -/
def cycleRight (vr : Variant) (rec : Rec) (asm : Asm) (st : Stk) (a d : Nat) : Res :=
  match resolveCycle st.r d with
  | none => some (true, asm)
  | some sid => rec asm (st.resolved vr true d) a sid

/-- `(Type::Union(variants), _)` with a non-empty left union. -/
def unionLeft (vr : Variant) (mode : Mode) (rec : Rec) (asm : Asm) (st : Stk) (a b : Nat)
    (vs : List Nat) : Res :=
  restoreOnFail vr asm
    (match mode with
     | .all => allS (fun s v => rec s (st.pushL a) v b) vs (akey vr st a b :: asm)
     | .any => anyS (fun s v => rec s (st.pushL a) v b) vs (akey vr st a b :: asm))

/-- `(_, Type::Union(variants))`. -/
def unionRight (vr : Variant) (rec : Rec) (asm : Asm) (st : Stk) (a b : Nat) (vs : List Nat) :
    Res :=
  restoreOnFail vr asm (anyS (fun s v => rec s (st.pushR b) a v) vs (akey vr st a b :: asm))

/-- the zipped field loop of the tuple-vs-tuple arm. -/
def tupleFields (rec : Rec) (st : Stk)
    (zipped : List ((Option Name × Nat) × (Option Name × Nat))) (asm : Asm) : Res :=
  allS (fun s p => if p.1.1 = p.2.1 then rec s st p.1.2 p.2.2 else some (false, s)) zipped asm

/-- `(Type::Tuple(id1), Type::Tuple(id2))`. -/
def tupleTuple (vr : Variant) (T : Table) (mode : Mode) (rec : Rec) (asm : Asm) (st : Stk) (i1 i2 : Nat) : Res :=
  if i1 = i2 ∧ sameContext vr mode st = true then some (true, asm)
  else
    match T.tuples[i1]?, T.tuples[i2]? with
    | some info1, some info2 =>
      if info1.name = info2.name ∧ info1.fields.length = info2.fields.length then
        tupleFields rec st (info1.fields.zip info2.fields) asm
      else some (false, asm)
    | _, _ => some (false, asm)

/-- every partial field exists in the concrete tuple with a related type (`all` of `any`). -/
def tuplePartFields (rec : Rec) (st : Stk) (cfs : List (Option Name × Nat))
    (pfs : List (Name × Nat)) (asm : Asm) : Res :=
  allS (fun s (pf : Name × Nat) =>
          anyS (fun s' (cf : Option Name × Nat) =>
                  if cf.1 = some pf.1 then rec s' st cf.2 pf.2 else some (false, s'))
               cfs s)
       pfs asm

/-- `(Type::Tuple(concrete_id), Type::Partial { .. })`. -/
def tuplePart (T : Table) (rec : Rec) (asm : Asm) (st : Stk) (c : Nat) (pn : Option Name)
    (pfs : List (Name × Nat)) : Res :=
  match T.tuples[c]? with
  | none => some (false, asm)
  | some ci =>
    if pn.isSome ∧ ci.name ≠ pn then some (false, asm)
    else tuplePartFields rec st ci.fields pfs asm

/-- the name rule of the partial-vs-partial arm. Assignability: a named pattern only admits that
name (fix 6273050); overlap: only two different names exclude each other (fix f506776). -/
def nameConflict (vr : Variant) (mode : Mode) (n1 n2 : Option Name) : Bool :=
  match mode with
  | .all =>
    if vr.nameRuleBothOnly then n1.isSome && n2.isSome && decide (n1 ≠ n2)
    else n2.isSome && decide (n1 ≠ n2)
  | .any =>
    if vr.nameRuleAllInAny then n2.isSome && decide (n1 ≠ n2)
    else n1.isSome && n2.isSome && decide (n1 ≠ n2)

/-- the field loop of the partial-vs-partial arm: `fields1.iter().find(name)` takes the FIRST
field of self with that name; a field self does not mention fails assignability and is
unconstrained for overlap (fix 5646380). -/
def partPartFields (vr : Variant) (mode : Mode) (rec : Rec) (st : Stk)
    (fs1 fs2 : List (Name × Nat)) (asm : Asm) : Res :=
  if vr.partFieldsAnyStrict then
    allS (fun s (f2 : Name × Nat) =>
            anyS (fun s' (f1 : Name × Nat) =>
                    if f1.1 = f2.1 then rec s' st f1.2 f2.2 else some (false, s'))
                 fs1 s)
         fs2 asm
  else
    allS (fun s (f2 : Name × Nat) =>
            match fs1.find? (fun f1 => f1.1 == f2.1) with
            | some f1 => rec s st f1.2 f2.2
            | none => some (match mode with | .all => false | .any => true, s))
         fs2 asm

/-- `(Type::Partial { .. }, Type::Partial { .. })`. -/
def partPart (vr : Variant) (mode : Mode) (rec : Rec) (asm : Asm) (st : Stk)
    (n1 : Option Name) (fs1 : List (Name × Nat)) (n2 : Option Name) (fs2 : List (Name × Nat)) : Res :=
  if nameConflict vr mode n1 n2 then some (false, asm)
  else partPartFields vr mode rec st fs1 fs2 asm

/-- every partial field exists in the concrete tuple with a related type, partial on the LEFT. -/
def partTupleFields (rec : Rec) (st : Stk) (cfs : List (Option Name × Nat))
    (pfs : List (Name × Nat)) (asm : Asm) : Res :=
  allS (fun s (pf : Name × Nat) =>
          anyS (fun s' (cf : Option Name × Nat) =>
                  if cf.1 = some pf.1 then rec s' st pf.2 cf.2 else some (false, s'))
               cfs s)
       pfs asm

/-- `(Type::Partial { .. }, Type::Tuple(id)) if mode == Any` (fix f3628e7); in ALL mode the pair
falls to `_ => false`. -/
def partTuple (vr : Variant) (T : Table) (mode : Mode) (rec : Rec) (asm : Asm) (st : Stk)
    (pn : Option Name) (pfs : List (Name × Nat)) (c : Nat) : Res :=
  match mode, vr.noPartTupleArm with
  | .all, _ => some (false, asm)
  | .any, true => some (false, asm)
  | .any, false =>
    match T.tuples[c]? with
    | none => some (false, asm)
    | some ci =>
      if pn.isSome ∧ ci.name ≠ pn then some (false, asm)
      else partTupleFields rec st ci.fields pfs asm

/-- one direction of a process type: checked only when both sides know it. -/
def optRel (rec : Rec) (asm : Asm) (st : Stk) : Option Nat → Option Nat → Res
  | some x, some y => rec asm st x y
  | _, _ => some (true, asm)

/-- `(Type::Process { .. }, Type::Process { .. })`: both sub-checks are always evaluated
(`let send_ok = …; let receive_ok = …; send_ok && receive_ok`). -/
def processProcess (rec : Rec) (asm : Asm) (st : Stk) (s1 r1 s2 r2 : Option Nat) : Res :=
  match optRel rec asm st s1 s2 with
  | none => none
  | some (sendOk, asm1) =>
    match optRel rec asm1 st r1 r2 with
    | none => none
    | some (recvOk, asm2) => some (sendOk && recvOk, asm2)

/-- `(Type::Callable { .. }, Type::Callable { .. })`: each side is pushed on its own stack;
parameter contravariant && result covariant && receive contravariant (short-circuit). -/
def callableCallable (vr : Variant) (rec : Rec) (asm : Asm) (st : Stk) (a b : Nat)
    (p1 r1 c1 p2 r2 c2 : Nat) : Res :=
  -- both callables are pushed on their own stacks; contravariant positions swap the stacks
  let st' := (st.pushR b).pushL a
  let stc := if vr.leftCycleOnRightStack then st' else st'.swap
  match rec asm stc p2 p1 with
  | none => none
  | some (false, s1) => some (false, s1)
  | some (true, s1) =>
    match rec s1 st' r1 r2 with
    | none => none
    | some (false, s2) => some (false, s2)
    | some (true, s2) => rec s2 stc c2 c1

/-- The `match (self_type, pattern_type)` of `check_type_relation`, arms in source order, with
the recursive call abstracted as `rec` (so that facts about one unfolding are stated once). -/
def relStep (vr : Variant) (T : Table) (mode : Mode) (rec : Rec)
    (asm : Asm) (st : Stk) (a b : Nat) (ta tb : Ty) : Res :=
  match ta, tb with
  -- empty union on the left: bottom type
  | .union [], _ => some (match mode with | .all => true | .any => false, asm)
  | .integer, .integer => some (true, asm)
  | .binary, .binary => some (true, asm)
  | .reference, .reference => some (true, asm)
  | .resource r1, .resource r2 => some (decide (r1 = r2), asm)
  | .variable _, _ => some (true, asm)
  | _, .variable _ => some (true, asm)
  | .cycle d1, .cycle d2 =>
    -- (before fd75268: same depth ⇒ `true`) the pair falls to the arm `(Type::Cycle(depth), _)`
    if vr.cycleSameDepthShortcut = true ∧ d1 = d2 then some (true, asm) else cycleLeft vr rec asm st d1 b
  | .cycle d, _ => cycleLeft vr rec asm st d b
  | _, .cycle d => cycleRight vr rec asm st a d
  | .union vs, _ => unionLeft vr mode rec asm st a b vs
  | _, .union vs => unionRight vr rec asm st a b vs
  | .tuple i1, .tuple i2 => tupleTuple vr T mode rec asm st i1 i2
  | .tuple c, .part pn pfs => tuplePart T rec asm st c pn pfs
  | .part n1 fs1, .part n2 fs2 => partPart vr mode rec asm st n1 fs1 n2 fs2
  | .part pn pfs, .tuple c => partTuple vr T mode rec asm st pn pfs c
  | .process s1 r1, .process s2 r2 => processProcess rec asm st s1 r1 s2 r2
  | .callable p1 r1 c1, .callable p2 r2 c2 =>
    -- the pair is recorded as a coinductive assumption and dropped again on failure, as in the
    -- union arms (fix 30aca33)
    if vr.callableNoAssumption then callableCallable vr rec asm st a b p1 r1 c1 p2 r2 c2
    else restoreOnFail vr asm (callableCallable vr rec (akey vr st a b :: asm) st a b p1 r1 c1 p2 r2 c2)
  | _, _ => some (false, asm)

/-- `check_type_relation(self_id, pattern_id, lookup, mode, assumptions, type_stack)`. -/
def checkRelV (vr : Variant) (T : Table) (mode : Mode) : Nat → Asm → Stk → Nat → Nat → Res
  | 0, _, _, _, _ => none
  | fuel + 1, asm, st, a, b =>
    if a = b ∧ sameContext vr mode st = true then some (true, asm)
    else if asm.contains (akey vr st a b) then some (true, asm)
    else
      match T.types[a]?, T.types[b]? with
      | some ta, some tb => relStep vr T mode (checkRelV vr T mode fuel) asm st a b ta tb
      | _, _ => some (false, asm)

/-- the relation of the code as it is now -/
abbrev Variant.current : Variant := {}

def checkRel (T : Table) (mode : Mode) : Nat → Asm → Stk → Nat → Nat → Res :=
  checkRelV Variant.current T mode

/-- `is_compatible(self_id, pattern_id, lookup)`; `none` = out of fuel. -/
def isCompatible (T : Table) (fuel : Nat) (a b : Nat) : Option Bool :=
  (checkRel T .all fuel [] {} a b).map (·.1)

/-- `types_overlap(self_id, pattern_id, lookup)`; `none` = out of fuel. -/
def typesOverlap (T : Table) (fuel : Nat) (a b : Nat) : Option Bool :=
  (checkRel T .any fuel [] {} a b).map (·.1)

/-! ### Registration (`Program::register_type`, `register_tuple`, `never`) -/

/-- Index of the first element equal to `x`, if any (`iter().position(..)`). -/
def position {α : Type} [DecidableEq α] (x : α) : List α → Option Nat
  | [] => none
  | y :: ys => if y = x then some 0 else (position x ys).map (· + 1)

def Table.registerType (T : Table) (t : Ty) : Table × Nat :=
  match position t T.types with
  | some i => (T, i)
  | none => ({ T with types := T.types ++ [t] }, T.types.length)

def Table.registerTuple (T : Table) (name : Option Name) (fields : List (Option Name × Nat)) :
    Table × Nat :=
  match position (⟨name, fields⟩ : TupleInfo) T.tuples with
  | some i => (T, i)
  | none => ({ T with tuples := T.tuples ++ [⟨name, fields⟩] }, T.tuples.length)

def Table.never (T : Table) : Table × Nat := T.registerType (.union [])

/-- `Program::new()`: tuple 0 is NIL (`[]`), tuple 1 is `Ok`; `okName` is the interned "Ok". -/
def Table.initial (okName : Name) : Table :=
  { types := [], tuples := [⟨none, []⟩, ⟨some okName, []⟩] }

end QM.Types
