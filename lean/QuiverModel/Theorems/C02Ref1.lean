import QuiverModel.Theorems.C02Loc1
import QuiverModel.Lemmas.RefSem.Slot
import QuiverModel.Theorems.C02
/-
C02 (compiler correctness), on C02Loc1 — **compiled execution = reference semantics, with LOCALS and BINDINGS**: the
bridge of the straight-line part of Compile1 (integer literals, `~`, nested tuples, variable reads,
the binder match `=x` / `x = e` and the placeholder `=_`, sequences with the nil short-circuit) to
M-RefSem's evaluator.

* `EnvRel` — what the compile-time slot names, the frame's locals and the reference evaluator's
  environment have to do with each other: the value in the slot a name resolves to (`slot Γ x`, the
  LAST binding) is the value the environment gives the name (`lookup env x`, the NEWEST binding);
* `ref1_evalT/Ch/Fs`, `ref1_evalSq` — the meaning functions of Compile1 (`evalT … evalSq`: value and
  locals afterwards) compute, name-resolved, what `QM.RefSem.evalTerm … evalSeq` compute (value and
  environment afterwards), and keep `EnvRel` and the alignment invariant;
* `compileSq1_agrees_with_reference` — with `compileSq1_correct`: the VM run of the compiled code leaves
  the value the reference evaluator computes.

Refutable patterns are not in this bridge: the reference evaluator leaves the variables of a FAILED
match without a value (reading one is `unspecified`), the compiled code nil-fills them; and a tuple
pattern is checked against name and width dynamically there, by static type here. Both sides are tied
to the real VM by the differentials instead.
-/
open QM.RefSem.C1 C02.Bridge

namespace C02R

/-- tuple ids 0 / 1 are the unnamed nil and `Ok` -/
def NmOk (nm : Nat → Option String) : Prop := nm 0 = none ∧ nm 1 = some "Ok"

mutual
  /-- the straight-line part: only binder / placeholder matches; tuple ids canonical w.r.t. nil -/
  def okT (nm : Nat → Option String) : T1 → Prop
    | .int _ _ => True
    | .ripple => True
    | .tup id fs => (fs = .nil → (nm id = none ↔ id = 0)) ∧ (id = 0 → fs = .nil) ∧ okFs nm fs
    | .var _ => True
    | .mtch (.top (.bind _)) => True
    | .mtch (.top .wild) => True
    | .mtch _ => False
  def okCh (nm : Nat → Option String) : Ch1 → Prop
    | .nil => True
    | .cons t r => okT nm t ∧ okCh nm r
  def okFs (nm : Nat → Option String) : Fs1 → Prop
    | .nil => True
    | .cons c r => okCh nm c ∧ okFs nm r
end

def okSq (nm : Nat → Option String) : Sq1 → Prop
  | .last c => okCh nm c
  | .cons c r => okCh nm c ∧ okSq nm r

mutual
  def toRefT (nm : Nat → Option String) : T1 → QM.RefSem.Term
    | .int z _ => .lit (.int z)
    | .ripple => .access .ripple []
    | .tup id fs => .tuple (nameOf (nm id)) (toRefFs nm fs)
    | .var x => .access (.var x) []
    | .mtch (.top (.bind x)) => .mtch (.bind x)
    | .mtch _ => .mtch .wild
  def toRefCh (nm : Nat → Option String) : Ch1 → List QM.RefSem.Term
    | .nil => []
    | .cons t r => toRefT nm t :: toRefCh nm r
  def toRefFs (nm : Nat → Option String) : Fs1 → List QM.RefSem.Field
    | .nil => []
    | .cons c r => .val none (.mk none (toRefCh nm c)) :: toRefFs nm r
end

def toRefSq (nm : Nat → Option String) : Sq1 → List QM.RefSem.Chain
  | .last c => [.mk none (toRefCh nm c)]
  | .cons c r => .mk none (toRefCh nm c) :: toRefSq nm r

/-- the slot a name resolves to holds the value the reference environment gives the name -/
def EnvRel (nm : Nat → Option String) (Γ : List String) (L : List QM.VM.Val) (env : QM.RefSem.Env) : Prop :=
  ∀ x i, slot Γ x = some i →
    ∃ w, L[i]? = some w ∧ QM.RefSem.lookup env x = some (some (erase nm w)) ∧ C02S.NilOk nm w

theorem EnvRel.push {nm : Nat → Option String} {Γ : List String} {L : List QM.VM.Val} {env : QM.RefSem.Env}
    (h : EnvRel nm Γ L env) (hal : L.length = Γ.length) (x : String) (v : QM.VM.Val) (hv : C02S.NilOk nm v) :
    EnvRel nm (Γ ++ [x]) (L ++ [v]) ((x, some (erase nm v)) :: env) := by
  intro y i hy
  by_cases hyx : y = x
  · subst hyx
    rw [slot_append_self] at hy
    simp only [Option.some.injEq] at hy
    subst hy
    exact ⟨v, by rw [← hal]; simp, by simp [QM.RefSem.lookup], hv⟩
  · rw [slot_append_ne Γ x y hyx] at hy
    obtain ⟨w, hw, hl, hn⟩ := h y i hy
    have hi := slot_lt Γ y i hy
    exact ⟨w, by rw [List.getElem?_append_left (by omega)]; exact hw, by simp [QM.RefSem.lookup, hyx, hl], hn⟩

theorem erase_not_callable (nm : Nat → Option String) (v : QM.VM.Val) : (erase nm v).isCallable = false := by
  cases v <;> simp [erase, QM.RefSem.Val.isCallable]

theorem erase_ok {nm : Nat → Option String} (h : NmOk nm) : erase nm QM.VM.Val.ok = QM.RefSem.Val.okv := by
  simp [QM.VM.Val.ok, erase, eraseL, h.2, QM.RefSem.Val.okv]

theorem nilOk_ok {nm : Nat → Option String} (h : NmOk nm) : C02S.NilOk nm QM.VM.Val.ok := by
  unfold C02S.NilOk
  rw [erase_ok h]
  rfl

theorem nilOk_int (nm : Nat → Option String) (z : Int) : C02S.NilOk nm (.int z) := by
  simp [C02S.NilOk, erase, QM.RefSem.Val.isNil, QM.VM.Val.isNil]

theorem Fs1_length_zero (fs : Fs1) (h : fs.length = 0) : fs = .nil := by
  cases fs with
  | nil => rfl
  | cons c r => simp [Fs1.length] at h

mutual
  theorem ref1_evalT (nm : Nat → Option String) (hnm : NmOk nm) :
      (t : T1) → (Γ : List String) → (L : List QM.VM.Val) → (flow v : QM.VM.Val) → (L' : List QM.VM.Val) →
      (env : QM.RefSem.Env) → okT nm t → L.length = Γ.length → EnvRel nm Γ L env → C02S.NilOk nm flow →
      evalT Γ L flow t = some (v, L') →
      ∃ env', EnvRel nm (compileT Γ t).2 L' env' ∧ C02S.NilOk nm v ∧ L'.length = (compileT Γ t).2.length ∧
        ∃ N, ∀ fuel, N ≤ fuel →
          QM.RefSem.evalTerm fuel env (erase nm flow) (C02R.toRefT nm t) = .ok (erase nm v, env')
    | .int z i => fun Γ L flow v L' env _ hal hE _ hev => by
      simp only [evalT, Option.some.injEq, Prod.mk.injEq] at hev
      obtain ⟨rfl, rfl⟩ := hev
      refine ⟨env, hE, nilOk_int nm z, hal, 1, fun fuel h => ?_⟩
      obtain ⟨k, rfl, -⟩ := fuel_split 1 (N := 0) h
      simp [C02R.toRefT, QM.RefSem.evalTerm, QM.RefSem.litVal, erase]
    | .ripple => fun Γ L flow v L' env _ hal hE hf hev => by
      simp only [evalT, Option.some.injEq, Prod.mk.injEq] at hev
      obtain ⟨rfl, rfl⟩ := hev
      refine ⟨env, hE, hf, hal, 1, fun fuel h => ?_⟩
      obtain ⟨k, rfl, -⟩ := fuel_split 1 (N := 0) h
      simp [C02R.toRefT, QM.RefSem.evalTerm, QM.RefSem.project, QM.RefSem.Res.bind]
    | .tup id fs => fun Γ L flow v L' env hok hal hE hf hev => by
      simp only [evalT, Option.map_eq_some_iff] at hev
      obtain ⟨⟨vs, L''⟩, hfs, hv⟩ := hev
      simp only [Prod.mk.injEq] at hv
      obtain ⟨rfl, rfl⟩ := hv
      obtain ⟨env', hE', hal', hlen, N, hN⟩ := ref1_evalFs nm hnm fs Γ L flow vs L'' env 0 [] hok.2.2 hal hE hf hfs
      refine ⟨env', hE', ?_, hal', N + 1, fun fuel h => ?_⟩
      · exact C02S.nilOk_tup nm id vs (fun h0 => hok.1 (Fs1_length_zero fs (by rw [← hlen, h0]; rfl)))
          (fun h0 => List.eq_nil_of_length_eq_zero (by rw [hlen, hok.2.1 h0]; rfl))
      · obtain ⟨k, rfl, hk⟩ := fuel_split 1 h
        simp only [C02R.toRefT, QM.RefSem.evalTerm]
        rw [hN k hk]
        simp [QM.RefSem.Res.bind, erase, eraseL_ofList, tupleName_nameOf]
    | .var x => fun Γ L flow v L' env _ hal hE _ hev => by
      simp only [evalT, Option.bind_eq_some_iff, Option.map_eq_some_iff] at hev
      obtain ⟨i, hi, w, hw, hv⟩ := hev
      simp only [Prod.mk.injEq] at hv
      obtain ⟨rfl, rfl⟩ := hv
      obtain ⟨w', hw', hl, hn⟩ := hE x i hi
      rw [hw] at hw'
      simp only [Option.some.injEq] at hw'
      subst hw'
      refine ⟨env, hE, hn, hal, 1, fun fuel h => ?_⟩
      obtain ⟨k, rfl, -⟩ := fuel_split 1 (N := 0) h
      simp [C02R.toRefT, QM.RefSem.evalTerm, QM.RefSem.readVar, hl, QM.RefSem.project, QM.RefSem.Res.bind,
        erase_not_callable]
    | .mtch (.top (.bind x)) => fun Γ L flow v L' env _ hal hE hf hev => by
      simp only [evalT, evalPat, subPasses, subBound, if_true, Option.map_some, Option.some.injEq,
        Prod.mk.injEq] at hev
      obtain ⟨rfl, rfl⟩ := hev
      refine ⟨(x, some (erase nm flow)) :: env, ?_, nilOk_ok hnm, ?_, 1, fun fuel h => ?_⟩
      · simpa [compileT, patBinds, subBinds] using hE.push hal x flow hf
      · simp [compileT, patBinds, subBinds, hal]
      · obtain ⟨k, rfl, -⟩ := fuel_split 1 (N := 0) h
        simp [C02R.toRefT, QM.RefSem.evalTerm, C02.match_verdict_binder, erase_ok hnm]
    | .mtch (.top .wild) => fun Γ L flow v L' env _ hal hE _ hev => by
      simp only [evalT, evalPat, subPasses, subBound, if_true, Option.map_some, Option.some.injEq,
        Prod.mk.injEq, List.append_nil] at hev
      obtain ⟨rfl, rfl⟩ := hev
      refine ⟨env, by simpa [compileT, patBinds, subBinds] using hE, nilOk_ok hnm,
        by simp [compileT, patBinds, subBinds, hal], 1, fun fuel h => ?_⟩
      obtain ⟨k, rfl, -⟩ := fuel_split 1 (N := 0) h
      simp [C02R.toRefT, QM.RefSem.evalTerm, C02.match_verdict_placeholder, erase_ok hnm]
    | .mtch (.top (.lit _ _)) => fun _ _ _ _ _ _ hok _ _ _ _ => by simp [okT] at hok
    | .mtch (.tup _) => fun _ _ _ _ _ _ hok _ _ _ _ => by simp [okT] at hok
  theorem ref1_evalCh (nm : Nat → Option String) (hnm : NmOk nm) :
      (c : Ch1) → (Γ : List String) → (L : List QM.VM.Val) → (flow v : QM.VM.Val) → (L' : List QM.VM.Val) →
      (env : QM.RefSem.Env) → okCh nm c → L.length = Γ.length → EnvRel nm Γ L env → C02S.NilOk nm flow →
      evalCh Γ L flow c = some (v, L') →
      ∃ env', EnvRel nm (compileCh Γ c).2 L' env' ∧ C02S.NilOk nm v ∧ L'.length = (compileCh Γ c).2.length ∧
        ∃ N, ∀ fuel, N ≤ fuel →
          QM.RefSem.evalTerms fuel env (erase nm flow) (C02R.toRefCh nm c) = .ok (erase nm v, env')
    | .nil => fun Γ L flow v L' env _ hal hE hf hev => by
      simp only [evalCh, Option.some.injEq, Prod.mk.injEq] at hev
      obtain ⟨rfl, rfl⟩ := hev
      refine ⟨env, hE, hf, hal, 1, fun fuel h => ?_⟩
      obtain ⟨k, rfl, -⟩ := fuel_split 1 (N := 0) h
      simp [C02R.toRefCh, QM.RefSem.evalTerms]
    | .cons t r => fun Γ L flow v L' env hok hal hE hf hev => by
      simp only [evalCh, Option.bind_eq_some_iff] at hev
      obtain ⟨⟨v₁, L₁⟩, ht, hr⟩ := hev
      obtain ⟨env₁, hE₁, hn₁, hal₁, N₁, h₁⟩ := ref1_evalT nm hnm t Γ L flow v₁ L₁ env hok.1 hal hE hf ht
      obtain ⟨env₂, hE₂, hn₂, hal₂, N₂, h₂⟩ := ref1_evalCh nm hnm r _ L₁ v₁ v L' env₁ hok.2 hal₁ hE₁ hn₁ hr
      refine ⟨env₂, hE₂, hn₂, hal₂, max N₁ N₂ + 1, fun fuel h => ?_⟩
      obtain ⟨k, rfl, hk⟩ := fuel_split 1 h
      simp only [C02R.toRefCh, QM.RefSem.evalTerms]
      rw [h₁ k (Nat.le_trans (Nat.le_max_left _ _) hk)]
      simp only [QM.RefSem.Res.bind]
      exact h₂ k (Nat.le_trans (Nat.le_max_right _ _) hk)
  theorem ref1_evalFs (nm : Nat → Option String) (hnm : NmOk nm) :
      (fs : Fs1) → (Γ : List String) → (L : List QM.VM.Val) → (flow : QM.VM.Val) → (vs L' : List QM.VM.Val) →
      (env : QM.RefSem.Env) → (k : Nat) → (acc : QM.RefSem.Fields) → okFs nm fs → L.length = Γ.length →
      EnvRel nm Γ L env → C02S.NilOk nm flow → evalFs Γ L flow fs = some (vs, L') →
      ∃ env', EnvRel nm (compileFs Γ fs k).2 L' env' ∧ L'.length = (compileFs Γ fs k).2.length ∧
        vs.length = fs.length ∧
        ∃ N, ∀ fuel, N ≤ fuel →
          QM.RefSem.evalFields fuel env (erase nm flow) (C02R.toRefFs nm fs) acc none =
            .ok (acc ++ vs.map (fun v => (none, erase nm v)), none, env')
    | .nil => fun Γ L flow vs L' env k acc _ hal hE _ hev => by
      simp only [evalFs, Option.some.injEq, Prod.mk.injEq] at hev
      obtain ⟨rfl, rfl⟩ := hev
      refine ⟨env, hE, hal, rfl, 1, fun fuel h => ?_⟩
      obtain ⟨j, rfl, -⟩ := fuel_split 1 (N := 0) h
      simp [C02R.toRefFs, QM.RefSem.evalFields]
    | .cons c r => fun Γ L flow vs L' env k acc hok hal hE hf hev => by
      simp only [evalFs, Option.bind_eq_some_iff, Option.map_eq_some_iff] at hev
      obtain ⟨⟨v₁, L₁⟩, hc, ⟨vs₂, L₂⟩, hr, hv⟩ := hev
      simp only [Prod.mk.injEq] at hv
      obtain ⟨rfl, rfl⟩ := hv
      obtain ⟨env₁, hE₁, _, hal₁, N₁, h₁⟩ := ref1_evalCh nm hnm c Γ L flow v₁ L₁ env hok.1 hal hE hf hc
      obtain ⟨env₂, hE₂, hal₂, hlen₂, N₂, h₂⟩ := ref1_evalFs nm hnm r _ L₁ flow vs₂ L₂ env₁ (k + 1)
        (acc ++ [(none, erase nm v₁)]) hok.2 hal₁ hE₁ hf hr
      refine ⟨env₂, hE₂, hal₂, by simp [Fs1.length, hlen₂],
        max N₁ N₂ + 2, fun fuel h => ?_⟩
      obtain ⟨j, rfl, hk⟩ := fuel_split 2 h
      simp only [C02R.toRefFs, QM.RefSem.evalFields, QM.RefSem.evalChain]
      rw [h₁ j (Nat.le_trans (Nat.le_max_left _ _) hk)]
      simp only [QM.RefSem.Res.bind, QM.RefSem.setOrAppend]
      rw [h₂ (j + 1) (Nat.le_succ_of_le (Nat.le_trans (Nat.le_max_right _ _) hk))]
      simp
end

theorem toRefSq_ne (nm : Nat → Option String) (sq : Sq1) : C02R.toRefSq nm sq ≠ [] := by
  cases sq <;> simp [C02R.toRefSq]

/-- sequences: the reference evaluator short-circuits exactly where the compiled code jumps -/
theorem ref1_evalSq (nm : Nat → Option String) (hnm : NmOk nm) :
    (sq : Sq1) → (Γ : List String) → (L : List QM.VM.Val) → (flow v : QM.VM.Val) → (L' : List QM.VM.Val) →
    (env : QM.RefSem.Env) → okSq nm sq → L.length = Γ.length → EnvRel nm Γ L env → C02S.NilOk nm flow →
    evalSq Γ L flow sq = some (v, L') →
    ∃ env', C02S.NilOk nm v ∧ ∃ N, ∀ fuel, N ≤ fuel →
      QM.RefSem.evalSeq fuel env (erase nm flow) (C02R.toRefSq nm sq) = .ok (erase nm v, env')
  | .last c => fun Γ L flow v L' env hok hal hE hf hev => by
    simp only [evalSq] at hev
    obtain ⟨env', _, hn, _, N, hN⟩ := ref1_evalCh nm hnm c Γ L flow v L' env hok hal hE hf hev
    refine ⟨env', hn, N + 2, fun fuel h => ?_⟩
    obtain ⟨k, rfl, hk⟩ := fuel_split 2 h
    simp only [C02R.toRefSq, QM.RefSem.evalSeq, QM.RefSem.evalChain]
    rw [hN k hk]
    simp [QM.RefSem.Res.bind]
  | .cons c r => fun Γ L flow v L' env hok hal hE hf hev => by
    simp only [evalSq, Option.bind_eq_some_iff] at hev
    obtain ⟨⟨v₁, L₁⟩, hc, hr⟩ := hev
    obtain ⟨env₁, hE₁, hn₁, hal₁, N₁, h₁⟩ := ref1_evalCh nm hnm c Γ L flow v₁ L₁ env hok.1 hal hE hf hc
    by_cases hv : v₁.isNil = true
    · simp only [hv, if_true, Option.some.injEq, Prod.mk.injEq] at hr
      obtain ⟨rfl, rfl⟩ := hr
      refine ⟨env₁, hn₁, N₁ + 2, fun fuel h => ?_⟩
      obtain ⟨k, rfl, hk⟩ := fuel_split 2 h
      simp only [C02R.toRefSq, QM.RefSem.evalSeq, QM.RefSem.evalChain]
      rw [h₁ k hk]
      simp only [QM.RefSem.Res.bind]
      cases hrs : C02R.toRefSq nm r with
      | nil => exact absurd hrs (toRefSq_ne nm r)
      | cons c' cs' =>
        have he : (erase nm v₁).isNil = true := by rw [hn₁]; exact hv
        simp only [he, if_true]
        rw [ref_isNil_eq _ he]
    · have hv' : v₁.isNil = false := by simpa using hv
      simp only [hv', Bool.false_eq_true, if_false] at hr
      obtain ⟨env₂, hn₂, N₂, h₂⟩ := ref1_evalSq nm hnm r _ L₁ v₁ v L' env₁ hok.2 hal₁ hE₁ hn₁ hr
      refine ⟨env₂, hn₂, max N₁ N₂ + 2, fun fuel h => ?_⟩
      obtain ⟨k, rfl, hk⟩ := fuel_split 2 h
      simp only [C02R.toRefSq, QM.RefSem.evalSeq, QM.RefSem.evalChain]
      rw [h₁ k (Nat.le_trans (Nat.le_max_left _ _) hk)]
      simp only [QM.RefSem.Res.bind]
      cases hrs : C02R.toRefSq nm r with
      | nil => exact absurd hrs (toRefSq_ne nm r)
      | cons c' cs' =>
        have he : (erase nm v₁).isNil = false := by rw [hn₁]; exact hv'
        simp only [he, Bool.false_eq_true, if_false]
        rw [← hrs]
        exact h₂ (k + 1) (Nat.le_succ_of_le (Nat.le_trans (Nat.le_max_right _ _) hk))

/-- **Compiled execution = reference semantics, with locals and bindings.** A process of M-VM whose
current function contains the code Compile1's `compileSq` emits for the straight-line sequence `sq` (compiled with
the slot names `Γ`) at `pc`, whose frame's locals `L` are aligned with `Γ` and hold what the reference
environment `env` gives the names (`EnvRel`), with the flowing value on top of the stack, reaches the
end of that code by `Executor::step` units alone, and the value it leaves is — name-resolved — the value
M-RefSem's `evalSeq` computes for the sequence from `env` and the name-resolved flowing value. -/
theorem compileSq1_agrees_with_reference (O : QM.VM.Oracle) (P : QM.VM.Prog) (hO : C02L.OracleIntEq O)
    (hP : wfProg P) (nm : Nat → Option String) (hnm : NmOk nm) (fn : QM.VM.Function) (f : QM.VM.Frame)
    (r : List QM.VM.Frame) (pre : List QM.VM.Val) (hfn : P.functions[f.functionIndex]? = some fn)
    (hsz : fn.instructions.size < 2 ^ 63 - 1) (sq : Sq1) (Γ : List String) (pc : Nat) (flow : QM.VM.Val)
    (rest L : List QM.VM.Val) (v : QM.VM.Val) (L' : List QM.VM.Val) (env : QM.RefSem.Env)
    (hl : C02S.Located fn.instructions pc (compileSq Γ sq).1) (hw : wfSq P sq) (hok : okSq nm sq)
    (hal : L.length = Γ.length) (hE : EnvRel nm Γ L env) (hflow : C02S.NilOk nm flow)
    (hev : evalSq Γ L flow sq = some (v, L'))
    (p : QM.VM.Proc) (hp : C02L.InvL p f r pre pc (flow :: rest) L) :
    ∃ q env' N, C02S.TRuns O P p q ∧
      C02L.InvL q f r pre (pc + (compileSq Γ sq).1.length) (v :: rest) L' ∧
      ∀ fuel, N ≤ fuel →
        QM.RefSem.evalSeq fuel env (erase nm flow) (C02R.toRefSq nm sq) = .ok (erase nm v, env') := by
  obtain ⟨q, hq, hinv⟩ := C02L.compileSq1_correct O P hO hP fn f r pre hfn hsz sq Γ pc flow rest L v L' hl hw hal hev p hp
  obtain ⟨env', _, N, hN⟩ := ref1_evalSq nm hnm sq Γ L flow v L' env hok hal hE hflow hev
  exact ⟨q, env', N, hq, hinv, hN⟩

mutual
  /-- every variable read resolves to a slot (following the compile-time slot names) -/
  def boundT : List String → T1 → Prop
    | Γ, .var x => (slot Γ x).isSome
    | Γ, .tup _ fs => boundFs Γ fs
    | _, _ => True
  def boundCh : List String → Ch1 → Prop
    | _, .nil => True
    | Γ, .cons t r => boundT Γ t ∧ boundCh (compileT Γ t).2 r
  def boundFs : List String → Fs1 → Prop
    | _, .nil => True
    | Γ, .cons c r => boundCh Γ c ∧ boundFs (compileCh Γ c).2 r
end

def boundSq : List String → Sq1 → Prop
  | Γ, .last c => boundCh Γ c
  | Γ, .cons c r => boundCh Γ c ∧ boundSq (compileCh Γ c).2 r

theorem compileFs_snd_indep : (fs : Fs1) → (Γ : List String) → (k k' : Nat) →
    (compileFs Γ fs k).2 = (compileFs Γ fs k').2
  | .nil, Γ, k, k' => rfl
  | .cons c r, Γ, k, k' => by simp only [compileFs]; exact compileFs_snd_indep r _ _ _

mutual
  theorem evalT_defined (nm : Nat → Option String) :
      (t : T1) → (Γ : List String) → (L : List QM.VM.Val) → (flow : QM.VM.Val) → okT nm t → boundT Γ t →
      L.length = Γ.length → ∃ v L', evalT Γ L flow t = some (v, L') ∧ L'.length = (compileT Γ t).2.length
    | .int z i => fun Γ L flow _ _ hal => ⟨.int z, L, rfl, hal⟩
    | .ripple => fun Γ L flow _ _ hal => ⟨flow, L, rfl, hal⟩
    | .tup id fs => fun Γ L flow hok hb hal => by
      obtain ⟨vs, L', h, hl⟩ := evalFs_defined nm fs Γ L flow 0 hok.2.2 hb hal
      exact ⟨.tup id (QM.VM.ValList.ofList vs), L', by simp [evalT, h], hl⟩
    | .var x => fun Γ L flow _ hb hal => by
      simp only [boundT] at hb
      obtain ⟨i, hi⟩ := Option.isSome_iff_exists.mp hb
      have hlt := slot_lt Γ x i hi
      have : i < L.length := by omega
      exact ⟨L[i], L, by simp [evalT, hi, List.getElem?_eq_getElem this], hal⟩
    | .mtch (.top (.bind x)) => fun Γ L flow _ _ hal =>
      ⟨QM.VM.Val.ok, L ++ [flow], by simp [evalT, evalPat, subPasses, subBound],
        by simp [compileT, patBinds, subBinds, hal]⟩
    | .mtch (.top .wild) => fun Γ L flow _ _ hal =>
      ⟨QM.VM.Val.ok, L, by simp [evalT, evalPat, subPasses, subBound],
        by simp [compileT, patBinds, subBinds, hal]⟩
    | .mtch (.top (.lit _ _)) => fun _ _ _ hok _ _ => by simp [okT] at hok
    | .mtch (.tup _) => fun _ _ _ hok _ _ => by simp [okT] at hok
  theorem evalCh_defined (nm : Nat → Option String) :
      (c : Ch1) → (Γ : List String) → (L : List QM.VM.Val) → (flow : QM.VM.Val) → okCh nm c → boundCh Γ c →
      L.length = Γ.length → ∃ v L', evalCh Γ L flow c = some (v, L') ∧ L'.length = (compileCh Γ c).2.length
    | .nil => fun Γ L flow _ _ hal => ⟨flow, L, rfl, hal⟩
    | .cons t r => fun Γ L flow hok hb hal => by
      obtain ⟨v₁, L₁, h₁, l₁⟩ := evalT_defined nm t Γ L flow hok.1 hb.1 hal
      obtain ⟨v₂, L₂, h₂, l₂⟩ := evalCh_defined nm r _ L₁ v₁ hok.2 hb.2 l₁
      exact ⟨v₂, L₂, by simp [evalCh, h₁, h₂], l₂⟩
  theorem evalFs_defined (nm : Nat → Option String) :
      (fs : Fs1) → (Γ : List String) → (L : List QM.VM.Val) → (flow : QM.VM.Val) → (k : Nat) → okFs nm fs →
      boundFs Γ fs → L.length = Γ.length →
      ∃ vs L', evalFs Γ L flow fs = some (vs, L') ∧ L'.length = (compileFs Γ fs k).2.length
    | .nil => fun Γ L flow k _ _ hal => ⟨[], L, rfl, hal⟩
    | .cons c r => fun Γ L flow k hok hb hal => by
      obtain ⟨v₁, L₁, h₁, l₁⟩ := evalCh_defined nm c Γ L flow hok.1 hb.1 hal
      obtain ⟨vs₂, L₂, h₂, l₂⟩ := evalFs_defined nm r _ L₁ flow (k + 1) hok.2 hb.2 l₁
      exact ⟨v₁ :: vs₂, L₂, by simp [evalFs, h₁, h₂], l₂⟩
end

theorem evalSq_defined (nm : Nat → Option String) :
    (sq : Sq1) → (Γ : List String) → (L : List QM.VM.Val) → (flow : QM.VM.Val) → okSq nm sq → boundSq Γ sq →
    L.length = Γ.length → ∃ v L', evalSq Γ L flow sq = some (v, L')
  | .last c => fun Γ L flow hok hb hal => by
    obtain ⟨v, L', h, _⟩ := evalCh_defined nm c Γ L flow hok hb hal
    exact ⟨v, L', by simpa [evalSq] using h⟩
  | .cons c r => fun Γ L flow hok hb hal => by
    obtain ⟨v₁, L₁, h₁, l₁⟩ := evalCh_defined nm c Γ L flow hok.1 hb.1 hal
    by_cases hv : v₁.isNil = true
    · exact ⟨v₁, L₁, by simp [evalSq, h₁, hv]⟩
    · obtain ⟨v₂, L₂, h₂⟩ := evalSq_defined nm r _ L₁ v₁ hok.2 hb.2 l₁
      exact ⟨v₂, L₂, by simp [evalSq, h₁, hv, h₂]⟩

/-- `compileSq1_agrees_with_reference` without presupposing the meaning function's value: for a
straight-line sequence whose variable reads resolve, the compiled code RUNS to a value, and that value
is the reference evaluator's. -/
theorem compileSq1_runs_to_reference_value (O : QM.VM.Oracle) (P : QM.VM.Prog) (hO : C02L.OracleIntEq O)
    (hP : wfProg P) (nm : Nat → Option String) (hnm : NmOk nm) (fn : QM.VM.Function) (f : QM.VM.Frame)
    (r : List QM.VM.Frame) (pre : List QM.VM.Val) (hfn : P.functions[f.functionIndex]? = some fn)
    (hsz : fn.instructions.size < 2 ^ 63 - 1) (sq : Sq1) (Γ : List String) (pc : Nat) (flow : QM.VM.Val)
    (rest L : List QM.VM.Val) (env : QM.RefSem.Env)
    (hl : C02S.Located fn.instructions pc (compileSq Γ sq).1) (hw : wfSq P sq) (hok : okSq nm sq)
    (hb : boundSq Γ sq) (hal : L.length = Γ.length) (hE : EnvRel nm Γ L env) (hflow : C02S.NilOk nm flow)
    (p : QM.VM.Proc) (hp : C02L.InvL p f r pre pc (flow :: rest) L) :
    ∃ q v L' env' N, C02S.TRuns O P p q ∧
      C02L.InvL q f r pre (pc + (compileSq Γ sq).1.length) (v :: rest) L' ∧
      ∀ fuel, N ≤ fuel →
        QM.RefSem.evalSeq fuel env (erase nm flow) (C02R.toRefSq nm sq) = .ok (erase nm v, env') := by
  obtain ⟨v, L', hev⟩ := evalSq_defined nm sq Γ L flow hok hb hal
  obtain ⟨q, env', N, h1, h2, h3⟩ := compileSq1_agrees_with_reference O P hO hP nm hnm fn f r pre hfn hsz sq Γ pc
    flow rest L v L' env hl hw hok hal hE hflow hev p hp
  exact ⟨q, v, L', env', N, h1, h2, h3⟩

end C02R
