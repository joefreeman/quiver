import QuiverModel.Theorems.C04
import QuiverModel.Lemmas.Exec.Error
import QuiverModel.Lemmas.Exec.SysBridge
import QuiverModel.Lemmas.Exec.FailChain
import QuiverModel.Lemmas.Exec.QueueOrder
/-
C15 — Failures are contained and propagate only to awaiters; workers never crash. Property theorems
only (`C15.<name>`); model: Core/Exec/Error.lean on top of Core/Exec/Select.lean, and M-Sys for the
system-level statements; helper lemmas: Lemmas/Exec/Error.lean (executor), Lemmas/Exec/SysBridge.lean (the links of
the failure chain on M-Sys), Lemmas/Exec/FailChain.lean (the chain as an invariant), Lemmas/Exec/QueueOrder.lean
(the positional facts about the queues).
-/
namespace C15
open QM QM.Exec
variable {V : Type}

/-- The error arm of `Executor::step` (`raises e`): the failing process gets `result = Err e`; every
    OTHER process record keeps its result, mailbox, select state and `awaiting` map — the only field
    that can change is `awaiting_failed` (of a process whose current select awaits the failed one). -/
theorem error_terminates_only_self (ex : Exec V) (pid : Nat) (p' : Proc V) (e : ErrClass) :
    (∃ pf, (ex.endSlice pid p' (.raises e)).getProc pid = some pf ∧ pf.result = some (.err e)) ∧
    ∀ q pq, q ≠ pid → ex.getProc q = some pq →
      ∃ pq', (ex.endSlice pid p' (.raises e)).getProc q = some pq' ∧
        pq'.result = pq.result ∧ pq'.mailbox = pq.mailbox ∧ pq'.sel = pq.sel ∧ pq'.awaiting = pq.awaiting := by
  constructor
  · refine ⟨_, announce_getProc _ pid (.err e) pid _ (getProc_setProc_self ex pid _), ?_⟩
    simp only [Proc.notifiedIfKey]
    split
    · exact (notified_frame _ pid (.err e)).1
    · rfl
  · intro q pq hq hp
    have h1 : (ex.setProc pid { p' with result := some (.err e) }).getProc q = some pq := by
      rw [getProc_setProc_ne _ _ _ _ hq]; exact hp
    refine ⟨_, announce_getProc _ pid (.err e) q pq h1, ?_⟩
    simp only [Proc.notifiedIfKey]
    split
    · obtain ⟨a, b, c⟩ := notified_frame pq pid (.err e)
      exact ⟨a, b, c, notified_err_awaiting pq pid e⟩
    · exact ⟨rfl, rfl, rfl, rfl⟩

/-- A process that does not await the failed one is untouched: same record, same place in the run
    queue / parked set. -/
theorem non_awaiters_unaffected (ex : Exec V) (pid : Nat) (p' : Proc V) (e : ErrClass) (q : Nat) (pq : Proc V)
    (hq : q ≠ pid) (hp : ex.getProc q = some pq) (hno : amLookup pid pq.awaiting = none) :
    (ex.endSlice pid p' (.raises e)).getProc q = some pq ∧
    (q ∈ (ex.endSlice pid p' (.raises e)).queue ↔ q ∈ ex.queue) ∧
    (q ∈ (ex.endSlice pid p' (.raises e)).selecting ↔ q ∈ ex.selecting) := by
  have h1 : (ex.setProc pid { p' with result := some (.err e) }).getProc q = some pq := by
    rw [getProc_setProc_ne _ _ _ _ hq]; exact hp
  have hnk : ¬ (amLookup pid pq.awaiting).isSome = true := by simp [hno]
  refine ⟨?_, ?_⟩
  · have := announce_getProc _ pid (.err e) q pq h1
    simp only [Proc.notifiedIfKey, hnk] at this
    exact this
  · have hnot : q ∉ (ex.setProc pid { p' with result := some (.err e) }).awaitersOf pid := by
      intro h; exact hnk ((mem_awaitersOf _ pid q pq h1).mp h)
    exact notifyAll_sets pid (.err e) _ _ q hnot

/-- The same holds for a process that DID await the failed one in an earlier select that has
    completed, and for one that has itself finished or failed: `still_awaiting` is false, the
    failure is ignored (/repo from bc74ad3; `C05.old_failure_overwrote_finished_result` is the behaviour before it). -/
theorem stale_awaiters_unaffected (ex : Exec V) (pid : Nat) (p' : Proc V) (e : ErrClass) (q : Nat) (pq : Proc V)
    (hq : q ≠ pid) (hp : ex.getProc q = some pq) (hstale : pq.stillAwaiting pid = false) :
    (ex.endSlice pid p' (.raises e)).getProc q = some pq := by
  have h1 : (ex.setProc pid { p' with result := some (.err e) }).getProc q = some pq := by
    rw [getProc_setProc_ne _ _ _ _ hq]; exact hp
  have := announce_getProc _ pid (.err e) q pq h1
  show ((ex.setProc pid { p' with result := some (.err e) }).announce pid (.err e)).getProc q = some pq
  rw [this]
  simp only [Proc.notifiedIfKey, Proc.notified, hstale]
  split <;> simp

/-- Awaiting BEFORE the failure (same worker): a process whose current select awaits the failing
    process gets the failure recorded as a ready source of that select — with the same error — and,
    if it was parked, is put back on the run queue. -/
theorem awaiters_fail_same_error_before (ex : Exec V) (pid : Nat) (p' : Proc V) (e : ErrClass) (q : Nat)
    (pq : Proc V) (hq : q ≠ pid) (hp : ex.getProc q = some pq) (haw : pq.stillAwaiting pid = true) :
    ∃ pq', (ex.endSlice pid p' (.raises e)).getProc q = some pq' ∧
      pq'.knownResults pid = some (.err e) ∧ pq'.result = pq.result ∧ pq'.sel = pq.sel ∧
      pq'.mailbox = pq.mailbox := by
  have h1 : (ex.setProc pid { p' with result := some (.err e) }).getProc q = some pq := by
    rw [getProc_setProc_ne _ _ _ _ hq]; exact hp
  have hk : (amLookup pid pq.awaiting).isSome = true := by
    simp only [Proc.stillAwaiting, Bool.and_eq_true] at haw; exact haw.2
  refine ⟨_, announce_getProc _ pid (.err e) q pq h1, ?_⟩
  simp only [Proc.notifiedIfKey, hk, if_true, Proc.notified, haw]
  exact ⟨by simp [Proc.knownResults, Proc.recordFailure, amLookup_insert_self], rfl, rfl, rfl⟩

/-- The error a select raises is the recorded error of one of its own awaited processes (or that of
    an invalid source): what travels along a chain of awaiters is the SAME error. -/
theorem select_error_is_awaited_error (mb : List V) (results : Nat → Option (Res V)) (start now : Nat) :
    ∀ (srcs : List (Source V)) (e : ErrClass), selectSpec mb results start now srcs = .fails e →
      (∃ t, Source.await t ∈ srcs ∧ results t = some (.err e)) ∨ Source.invalid e ∈ srcs := by
  exact fun _ _ h => selectSpec_fails h

/-- … and the awaiter's select does propagate it: a select that awaits only the failed process
    (`!p`, the common form) fails with exactly that error at its next execution. -/
theorem single_await_propagates (p : Proc V) (st : SelState V) (now : Nat) (srcs : List (Source V)) (top : Yield V)
    (t : Nat) (e : ErrClass) (hsel : p.sel = some st) (hsrc : st.sources = [.await t])
    (hrecv : st.receiving = none) (hf : amLookup t p.awaitingFailed = some e) :
    (stepSelect p now srcs top).2 = .failed e ∧ (stepSelect p now srcs top).1.result = some (.err e) := by
  simp [stepSelect, handleSelect, hsel, reenterSelect, hsrc, hrecv, scanSources, hf]

/-- Awaiting AFTER the failure: the target has already failed when the await query of a (single
    target) select reaches its worker. `query_and_await` answers "not completed" (a failed process is
    not `Completed`) and registers the awaiter; the `check_completed_processes` that ends the same
    worker step then reports the error — the same `e` — to that awaiter. -/
theorem awaiters_fail_same_error_after (w : Worker V) (a t : Nat) (pt : Proc V) (e : ErrClass)
    (hv : w.variant.selectWaitsForAnswer = false)
    (hp : w.ex.getProc t = some pt) (hr : pt.result = some (.err e)) :
    (w.queryAndAwait a [t]).2.results = [(t, none)] ∧
    ∃ ev ∈ (w.queryAndAwait a [t]).1.checkCompleted.2, ev.awaiter = a ∧ ev.results = [(t, some (.err e))] := by
  obtain ⟨h1, h2, h3, l, h4, h5⟩ := queryOne_failed w a t pt e hv hp hr
  have hq : w.queryAndAwait a [t] = ((w.queryOne a t).1, { awaiter := a, results := [(w.queryOne a t).2] }) := by
    simp [Worker.queryAndAwait, Worker.queryAll]
  rw [hq]
  refine ⟨by simp [h1], ?_⟩
  unfold Worker.checkCompleted
  exact checkAll_reports t a (.err e) _ _ l pt h3 (by rw [h2]; exact hp) hr h4 h5

/-- Variant `selectWaitsForAnswer` (notes/C05-fixes/01): the error of an already failed target is IN the
    first answer — no placeholder, no registration, no second message, hence no window in which the
    awaiter's select could complete through a later source (finding C05-F2, failed target). -/
theorem awaiters_fail_same_error_after_waits (w : Worker V) (a t : Nat) (pt : Proc V) (e : ErrClass)
    (hv : w.variant.selectWaitsForAnswer = true)
    (hp : w.ex.getProc t = some pt) (hr : pt.result = some (.err e)) (hst : w.ex.status t pt = .failed) :
    w.queryAndAwait a [t] = (w, { awaiter := a, results := [(t, some (.err e))] }) := by
  simp [Worker.queryAndAwait, Worker.queryAll, queryOne_failed_waits w a t pt e hv hp hr hst]

/-- … and when that report reaches the awaiter's worker (`update_await_results` → `notify_result`
    `Err` arm → `notify_failure`), the failure is recorded for the awaiter's select with the same
    error, provided it still awaits the target; nothing else about the awaiter changes. -/
theorem late_report_is_recorded (w : Worker V) (a t : Nat) (pa : Proc V) (e : ErrClass)
    (hp : w.ex.getProc a = some pa) (haw : pa.stillAwaiting t = true) :
    ∃ w' pa', w.updateAwaitResults a [(t, some (.err e))] = .ok w' ∧ w'.ex.getProc a = some pa' ∧
      pa'.knownResults t = some (.err e) ∧ pa'.result = pa.result ∧ pa'.mailbox = pa.mailbox ∧ pa'.sel = pa.sel := by
  refine ⟨{ w with ex := (w.ex.notifyFailure a t e).wake a }, pa.recordFailure t e, ?_, ?_, ?_, rfl, rfl, rfl⟩
  · simp [Worker.updateAwaitResults, Worker.notifyResults, Worker.notifyResult]
  · simp only [Exec.notifyFailure, hp, haw, if_true, getProc_wake, getProc_setProc_self]
  · simp [Proc.knownResults, Proc.recordFailure, amLookup_insert_self]

/-- Any await answer — with results, without, or with results the awaiter no longer cares about —
    leaves no parked select behind (/repo from 755cedc; before it an answer whose only entry was a stale
    failure was ignored AND did not wake: the select never started, its timeout never ran). -/
theorem await_answer_always_wakes (w w' : Worker V) (a : Nat) (results : AMap (Option (WireRes V)))
    (h : w.updateAwaitResults a results = .ok w') : a ∉ w'.ex.selecting := by
  unfold Worker.updateAwaitResults at h
  cases hn : w.notifyResults a results false with
  | error e => rw [hn] at h; cases h
  | ok x =>
    obtain ⟨w1, any⟩ := x
    rw [hn] at h
    simp only [Except.ok.injEq] at h
    subst h
    simp only []
    unfold Exec.wake
    split
    · simp [List.mem_filter]
    · assumption

/-- A failed effect (`EffectCompletion { result: Err(..) }`: backend error, ownership violation)
    fails the requesting process only, and re-queues it so that its failure is announced. -/
theorem effect_error_fails_only_requester (ex ex' : Exec V) (pid : Nat)
    (h : ex.notifyEffectCompletion pid none = some ex') :
    (∃ p', ex'.getProc pid = some p' ∧ p'.result = some (.err .invalidArgument)) ∧
    (∀ q, q ≠ pid → ex'.getProc q = ex.getProc q) ∧
    (pid ∈ ex.effecting → pid ∈ ex'.queue) := by
  rw [notifyEffectCompletion_eq] at h
  cases hp : ex.getProc pid with
  | none => rw [hp] at h; cases h
  | some p =>
    rw [hp] at h
    cases h
    dsimp only
    refine ⟨?_, fun q hq => ?_, fun hin => ?_⟩
    · split
      · exact ⟨_, getProc_setProc_self _ pid _, rfl⟩
      · exact ⟨_, getProc_setProc_self _ pid _, rfl⟩
    · split <;> exact getProc_setProc_ne _ pid q _ hq
    · rw [if_pos (decide_eq_true hin)]
      exact List.mem_append_right _ List.mem_cons_self

/-- What the routing invariants of the environment guarantee about a command (and nothing more is
    needed): values on the wire are well formed, functions exist, effect completions and resumes
    address an existing (resp. sleeping) process of THIS worker. -/
def CmdOK (w : Worker V) : Cmd V → Prop
  | .spawn _ fnOk => fnOk = true
  | .deliver _ m => m.wf = true
  | .updateAwaitResults _ results => ∀ k wire, (k, some (WireRes.ok wire)) ∈ results → wire.wf = true
  | .queryAndAwait _ _ => True
  | .effectCompletion pid r => (w.ex.getProc pid).isSome = true ∧ ∀ wire, r = some wire → wire.wf = true
  | .notifySpawn _ => True
  -- /repo from 6b45f34: a FAILED process may be addressed as well (it is left alone)
  | .resume pid fnOk => fnOk = true ∧ ∃ p r, w.ex.getProc pid = some p ∧ p.result = some r

theorem notifyResults_total (awaiter : Nat) : ∀ (results : AMap (Option (WireRes V))) (w : Worker V) (any : Bool),
    (∀ k wire, (k, some (WireRes.ok wire)) ∈ results → wire.wf = true) →
    ∃ w' any', w.notifyResults awaiter results any = .ok (w', any') := by
  intro results
  induction results with
  | nil => intro w any _; exact ⟨w, any, rfl⟩
  | cons x rest ih =>
    intro w any h
    obtain ⟨k, r⟩ := x
    have hrest : ∀ k wire, (k, some (WireRes.ok wire)) ∈ rest → wire.wf = true :=
      fun k wire hm => h k wire (List.mem_cons_of_mem _ hm)
    cases r with
    | none => simp only [Worker.notifyResults]; exact ih w any hrest
    | some r =>
      cases r with
      | err e => simp only [Worker.notifyResults, Worker.notifyResult]; exact ih _ true hrest
      | ok wire =>
        have hwf : wire.wf = true := h k wire List.mem_cons_self
        simp only [Worker.notifyResults, Worker.notifyResult]
        cases hp : w.ex.getProc awaiter with
        | none => simp only []; exact ih _ true hrest
        | some p =>
          have hn : ¬ (p.stillAwaiting k = true ∧ wire.wf = false) := by simp [hwf]
          simp only []
          rw [if_neg hn]
          exact ih _ true hrest

theorem handle_command_total (w : Worker V) (c : Cmd V) (h : CmdOK w c) :
    ∃ w' evs, w.handleCommand c = .ok (w', evs) := by
  cases c with
  | spawn pid fnOk => simp only [CmdOK] at h; simp [Worker.handleCommand, h]
  | deliver t m =>
    simp only [CmdOK] at h
    simp only [Worker.handleCommand, h, if_true]
    generalize (w.variant.releaseDead &&
        !(match w.ex.getProc t with
          | some p => p.deliverable (decide (t ∈ w.persistent))
          | none => false)) = c
    cases c <;> simp
  | updateAwaitResults a results =>
    simp only [CmdOK] at h
    obtain ⟨w', any', hr⟩ := notifyResults_total a results w false h
    simp only [Worker.handleCommand, Worker.updateAwaitResults, hr]
    exact ⟨_, _, rfl⟩
  | queryAndAwait a ts => simp [Worker.handleCommand]
  | effectCompletion pid r =>
    simp only [CmdOK] at h
    obtain ⟨h1, h2⟩ := h
    have hex : ∀ x, ∃ ex', w.ex.notifyEffectCompletion pid x = some ex' := by
      intro x
      obtain ⟨p, hp⟩ := Option.isSome_iff_exists.1 h1
      rw [notifyEffectCompletion_eq, hp]
      exact ⟨_, rfl⟩
    cases r with
    | none =>
      obtain ⟨ex', he⟩ := hex none
      simp [Worker.handleCommand, he]
    | some wire =>
      obtain ⟨ex', he⟩ := hex (some wire.val)
      simp [Worker.handleCommand, h2 wire rfl, he]
  | notifySpawn pid =>
    simp only [Worker.handleCommand]
    cases w.ex.getProc pid <;> simp
  | resume pid fnOk =>
    simp only [CmdOK] at h
    obtain ⟨h1, p, r, h2, h3⟩ := h
    cases r <;> simp [Worker.handleCommand, h1, h2, h3]

/-- /repo 6b45f34 (finding C15-F2): resuming a FAILED persistent process — what `Repl::evaluate` does for the
    line after a runtime error — is not an internal error of the worker: nothing changes, nothing is sent
    (the result request that follows reports the process's error; before 6b45f34 `Err(ProcessFailed)` left
    `Worker::step` and the worker stopped). -/
theorem resume_of_failed_process_is_no_op (w : Worker V) (pid : Nat) (p : Proc V) (e : ErrClass)
    (hp : w.ex.getProc pid = some p) (hr : p.result = some (.err e)) :
    w.handleCommand (.resume pid true) = .ok (w, []) := by
  simp [Worker.handleCommand, hp, hr]

/-- Variant `releaseDead` (notes/C06-fixes/01): a message for a process that has FAILED (or is unknown here, or has
    finished and is not persistent) is dropped: no mailbox grows, no heap data is looked at (so not even a
    malformed wire value is an error), only the wake-up of `notify_message` stays. -/
theorem message_to_dead_process_is_dropped (w : Worker V) (t : Nat) (m : Wire V) (p : Proc V) (e : ErrClass)
    (hv : w.variant.releaseDead = true) (hp : w.ex.getProc t = some p) (hr : p.result = some (.err e)) :
    w.handleCommand (.deliver t m) = .ok ({ w with ex := w.ex.wake t }, []) := by
  simp [Worker.handleCommand, hv, hp, Proc.deliverable, hr]

/-- … and without the repair (the flag off) the dead process's mailbox still grows. -/
theorem message_to_dead_process_is_stored_without_repair (w : Worker V) (t : Nat) (m : Wire V)
    (hv : w.variant.releaseDead = false) (hwf : m.wf = true) :
    w.handleCommand (.deliver t m) = .ok ({ w with ex := w.ex.notifyMessage t m.val }, []) := by
  simp [Worker.handleCommand, hv, hwf]

/-- Variant `releaseDead`: the release runs with EVERY pass through the finished block — also the instruction-less
    pass of a process failed from outside (effect error) that is popped with no frames left (`ranFinished`): the
    non-persistent process at the front of the queue is released. -/
theorem release_after_finished_pass (w1 : Worker V) (now : Nat) (ex' : Exec V) (pid : Nat) (rest : List Nat)
    (hv : w1.variant.releaseDead = true) (hq : (w1.ex.checkExpiredTimeouts now).queue = pid :: rest)
    (hp : pid ∉ w1.persistent) :
    w1.releaseAfterStep now .ranFinished ex' = ex'.releaseDead pid := by
  simp [Worker.releaseAfterStep, hv, Slice.endsProcess, hq, hp]

/-- … a persistent process (the REPL process) keeps its mailbox and await state, and without the repair nothing is
    released at all. -/
theorem no_release_for_persistent_or_without_repair (w1 : Worker V) (now : Nat) (slice : Slice V) (ex' : Exec V) :
    (w1.variant.releaseDead = false → w1.releaseAfterStep now slice ex' = ex') ∧
    (∀ pid rest, (w1.ex.checkExpiredTimeouts now).queue = pid :: rest → pid ∈ w1.persistent →
      w1.releaseAfterStep now slice ex' = ex') := by
  refine ⟨fun hv => by simp [Worker.releaseAfterStep, hv], fun pid rest hq hp => ?_⟩
  unfold Worker.releaseAfterStep
  split
  · simp [hq, hp]
  · rfl

/-- commands are `CmdOK` in the state in which each of them is handled -/
def CmdsOK : Worker V → List (Cmd V) → Prop
  | _, [] => True
  | w, c :: rest => CmdOK w c ∧ ∀ w' evs, w.handleCommand c = .ok (w', evs) → CmdsOK w' rest

theorem handle_commands_total : ∀ (cmds : List (Cmd V)) (w : Worker V), CmdsOK w cmds →
    ∃ w' evs, w.handleCommands cmds = .ok (w', evs) := by
  intro cmds
  induction cmds with
  | nil => intro w _; exact ⟨w, [], rfl⟩
  | cons c rest ih =>
    intro w h
    obtain ⟨h1, h2⟩ := h
    obtain ⟨w1, evs, hc⟩ := handle_command_total w c h1
    obtain ⟨w2, evs', hr⟩ := ih w1 (h2 w1 evs hc)
    exact ⟨w2, evs ++ evs', by simp [Worker.handleCommands, hc, hr]⟩

/-- On the model, `Worker::step` never returns an internal error (which would end the worker loop and
    silently hang every process on it) as long as the commands it consumes respect `CmdOK` — whatever
    the processes do: every way a slice can end (`SliceEnd`, including a raised error and an empty
    stack) is handled without an error, and the select machine inside it has no `panic` outcome
    (`C05.select_outcomes`). -/
theorem worker_step_total (w : Worker V) (now : Nat) (cmds : List (Cmd V)) (slice : Slice V)
    (h : CmdsOK w cmds) : ∃ w' evs, w.step now cmds slice = .ok (w', evs) := by
  obtain ⟨w1, evs, hc⟩ := handle_commands_total cmds w h
  simp only [Worker.step, hc]
  exact ⟨_, _, rfl⟩

/-- Conversely, the internal errors of the model are exactly the violations of `CmdOK`: e.g. an
    effect completion for a process this worker does not have. -/
theorem effect_completion_for_unknown_process_is_an_internal_error (w : Worker V) (pid : Nat)
    (h : w.ex.getProc pid = none) : w.handleCommand (.effectCompletion pid none) = .error .executor := by
  have : w.ex.notifyEffectCompletion pid none = none := by
    rw [notifyEffectCompletion_eq, h]; rfl
  simp [Worker.handleCommand, this]


/-- pid 0 = F (running), 1 = A parked in `!F`, 2 = B parked on a receive (a bystander), 3 = C parked
    in `! [F, 50]`-like select whose await entry is there as well (a second awaiter) -/
def exExec : Exec Nat :=
  { procs := [(0, {}),
              (1, { awaiting := [(0, none)],
                    sel := some { sources := [.await 0], cursors := [], startTime := some 0, receiving := none } }),
              (2, { sel := some { sources := [.receive (fun _ => true) none], cursors := [0], startTime := some 0,
                                  receiving := none } }),
              (3, { awaiting := [(0, none)],
                    sel := some { sources := [.timeout 50, .await 0], cursors := [], startTime := some 0,
                                  receiving := none } })],
    selecting := [1, 2, 3] }

/-- F raises: A and C have the failure recorded and are woken; B is untouched and stays parked. -/
example :
    let ex' := exExec.endSlice 0 {} (.raises .invalidArgument)
    (ex'.getProc 0).map (·.result) = some (some (.err .invalidArgument)) ∧
    (ex'.getProc 1).map (·.awaitingFailed) = some [(0, .invalidArgument)] ∧
    (ex'.getProc 3).map (·.awaitingFailed) = some [(0, .invalidArgument)] ∧
    (ex'.getProc 2).map (·.awaitingFailed) = some [] ∧ (ex'.getProc 2).map (·.result) = some none ∧
    ex'.queue = [1, 3] ∧ ex'.selecting = [2] := by decide

/-- A's next slice: its select raises the same error; C's select at t=10 raises it too (its timeout
    has not expired), at t=60 it yields the nil of the higher-priority timeout instead. -/
example :
    let ex' := exExec.endSlice 0 {} (.raises .invalidArgument)
    (stepSelectPure ((ex'.getProc 1).getD {}) 10 []).2 = .failed .invalidArgument ∧
    (stepSelectPure ((ex'.getProc 3).getD {}) 10 []).2 = .failed .invalidArgument ∧
    (stepSelectPure ((ex'.getProc 3).getD {}) 60 []).2 = .completed .nil := by decide

/-- the hypotheses of `awaiters_fail_same_error_after` / `late_report_is_recorded` on a worker whose
    process 0 has failed: awaiter 7 asks late and is told -/
example :
    let w : Worker Nat := { ex := { procs := [(0, { result := some (.err .invalidArgument) })] } }
    ((w.queryAndAwait 7 [0]).1.checkCompleted.2.map (fun ev => (ev.awaiter, ev.results))) =
      [(7, [(0, some (.err .invalidArgument))])] := by decide


/-! ## The environment side (M-Sys of C04, imported): failure propagation across workers

`QM.Sys` (Core/Sys/Basic.lean, owned by C04) models `Environment::step`, `handle_await_processes`,
`handle_process_results`, `process_router` and the workers' await registry at message level; `fault`
records an `EnvironmentError`. The theorems below are about `QM.Sys.run (Sys.init n prog req) cs` for
EVERY choice sequence `cs` (any interleaving, partial visibility, slice length, hash order, ticks), any
worker count and any well-formed program, or about a handler on EVERY state. `routing_invariant`, `environment_step_total`,
`event_pids_routed`, `worker_step_total_composed` and `failure_recorded_and_select_woken` take no `[QM.Sys.Cfg]` argument: they are
stated for the default configuration (all flags off); the section `FailChain` is for every configuration. -/

/-- the routing invariant after every choice sequence: `C04.routing_invariant` -/
theorem routing_invariant (n : Nat) (prog : QM.Sys.Prog) (req : Nat) (hn : 0 < n) (hwf : QM.Sys.ProgWF prog)
    (cs : List QM.Sys.Choice) :
    QM.Sys.PreStart (QM.Sys.run (QM.Sys.Sys.init n prog req) cs) ∨ QM.Sys.RInv (QM.Sys.run (QM.Sys.Sys.init n prog req) cs) :=
  C04.routing_invariant n prog req hn hwf cs

/-- (b) **`Environment::step` (and `Worker::step`) never returns an `EnvironmentError`** on any event
(command) batch the composed system can produce: no `?` site is reached, so no event of a batch is ever
dropped. -/
theorem environment_step_total (n : Nat) (prog : QM.Sys.Prog) (req : Nat) (hn : 0 < n) (hwf : QM.Sys.ProgWF prog)
    (cs : List QM.Sys.Choice) : (QM.Sys.run (QM.Sys.Sys.init n prog req) cs).fault = false :=
  C04.no_fault n prog req hn hwf cs

/-- … because **every pid named in a queued event has a router entry** (the `process_router` lookups of
`handle_spawn`, `handle_deliver`, `handle_await_processes`, `handle_process_results` cannot fail). -/
theorem event_pids_routed (n : Nat) (prog : QM.Sys.Prog) (req : Nat) (hn : 0 < n) (hwf : QM.Sys.ProgWF prog)
    (cs : List QM.Sys.Choice) (w : Nat) (e : QM.Sys.Evt)
    (he : e ∈ (QM.Sys.run (QM.Sys.Sys.init n prog req) cs).evtQ w) :
    match e with
    | .spawn c _ regs _ => (QM.Sys.run (QM.Sys.Sys.init n prog req) cs).env.router c = some w ∧
        ∀ q ∈ regs, ((QM.Sys.run (QM.Sys.Sys.init n prog req) cs).env.router q).isSome
    | .deliver t _ => ((QM.Sys.run (QM.Sys.Sys.init n prog req) cs).env.router t).isSome
    | .await a ts => (QM.Sys.run (QM.Sys.Sys.init n prog req) cs).env.router a = some w ∧
        ∀ t ∈ ts, ((QM.Sys.run (QM.Sys.Sys.init n prog req) cs).env.router t).isSome
    | .procResults a rs => ((QM.Sys.run (QM.Sys.Sys.init n prog req) cs).env.router a).isSome ∧
        ∀ tr ∈ rs, (QM.Sys.run (QM.Sys.Sys.init n prog req) cs).env.router tr.1 = some w
    | .resultResp _ _ => True
    | .exited _ => True := by
  rcases routing_invariant n prog req hn hwf cs with h | h
  · rw [h.evtQ w] at he; simp at he
  · have := h.evts w e he
    cases e with
    | spawn c fn regs co => exact ⟨this.1, this.2.2⟩
    | deliver t m => exact this.2
    | await a ts => exact this
    | procResults a rs => exact this
    | resultResp _ _ => trivial
    | exited _ => trivial

def trRes : Option QM.Sys.Res → Option (WireRes Unit)
  | none => none
  | some (.ok _) => some (.ok { val := () })
  | some .err => some (.err .invalidArgument)

/-- the commands of M-Sys as commands of `QM.Exec.Worker` (`misc` / `getResult` have no counterpart
there — they do not touch processes; `start` / `resume` are never queued after start-up) -/
def trCmd (plen : Nat) : QM.Sys.Cmd → Option (Cmd Unit)
  | .spawn p fn _ => some (.spawn p (decide (fn < plen)))
  | .notifySpawn c _ => some (.notifySpawn c)
  | .deliver t _ => some (.deliver t { val := () })
  | .queryAwait a ts => some (.queryAndAwait a ts)
  | .updateAwait a rs => some (.updateAwaitResults a (rs.map (fun tr => (tr.1, trRes tr.2))))
  | _ => none

/-- **`CmdOK` is an invariant of the composed system**: whatever the environment has queued for a
worker, translated, satisfies `CmdOK` — in every state of that worker. -/
theorem environment_commands_are_ok (router : QM.Sys.Router) (plen : Nat) (known : Nat → Prop) (w : Nat)
    (c : QM.Sys.Cmd) (h : QM.Sys.CmdOK router plen known w c) (c' : Cmd Unit) (hc : trCmd plen c = some c')
    (wk : Worker Unit) : CmdOK wk c' := by
  cases c with
  | misc => cases hc
  | start p => cases hc
  | resume p fn => cases hc
  | getResult r p => cases hc
  | spawn p fn regs =>
    simp only [trCmd, Option.some.injEq] at hc; subst hc
    simp only [CmdOK]
    exact decide_eq_true h.2.1
  | notifySpawn c p => simp only [trCmd, Option.some.injEq] at hc; subst hc; trivial
  | deliver t m => simp only [trCmd, Option.some.injEq] at hc; subst hc; rfl
  | queryAwait a ts => simp only [trCmd, Option.some.injEq] at hc; subst hc; trivial
  | updateAwait a rs =>
    simp only [trCmd, Option.some.injEq] at hc; subst hc
    simp only [CmdOK]
    intro k wire hm
    obtain ⟨tr, _, htr⟩ := List.mem_map.mp hm
    simp only [Prod.mk.injEq] at htr
    obtain ⟨_, h2⟩ := htr
    cases hr : tr.2 with
    | none => rw [hr] at h2; simp [trRes] at h2
    | some r =>
      rw [hr] at h2
      cases r with
      | ok v => simp only [trRes, Option.some.injEq, WireRes.ok.injEq] at h2; rw [← h2]
      | err => simp [trRes] at h2

theorem cmdsOK_of_static : ∀ (cmds : List (Cmd Unit)), (∀ c ∈ cmds, ∀ wk : Worker Unit, CmdOK wk c) →
    ∀ wk : Worker Unit, CmdsOK wk cmds
  | [], _, _ => trivial
  | c :: rest, h, wk =>
    ⟨h c List.mem_cons_self wk, fun w' _ _ => cmdsOK_of_static rest (fun c' hc' => h c' (List.mem_cons_of_mem _ hc')) w'⟩

/-- (c) **`worker_step_total` for the commands the environment can actually send** — no `CmdOK`
hypothesis: after every choice sequence of the composed system, any visible prefix of any worker's
command queue (translated) is handled by `Worker::step` without an internal error, in ANY state of the
`QM.Exec` worker and however the time slice of the running process ends. -/
theorem worker_step_total_composed (n : Nat) (prog : QM.Sys.Prog) (req : Nat) (hn : 0 < n) (hwf : QM.Sys.ProgWF prog)
    (cs : List QM.Sys.Choice) (i vis : Nat) (wk : Worker Unit) (now : Nat) (slice : Slice Unit) :
    QM.Sys.PreStart (QM.Sys.run (QM.Sys.Sys.init n prog req) cs) ∨
    ∃ w' evs, wk.step now ((((QM.Sys.run (QM.Sys.Sys.init n prog req) cs).cmdQ i).take vis).filterMap
      (trCmd (QM.Sys.run (QM.Sys.Sys.init n prog req) cs).prog.length)) slice = .ok (w', evs) := by
  rcases routing_invariant n prog req hn hwf cs with h | h
  · exact Or.inl h
  · right
    apply worker_step_total
    apply cmdsOK_of_static
    intro c' hc' wk'
    obtain ⟨c, hc, htr⟩ := List.mem_filterMap.mp hc'
    exact environment_commands_are_ok _ _ _ i c (h.cmds i c (List.mem_of_mem_take hc)) c' htr wk'

/-! ### (a) the links of the failure chain, each on EVERY state of M-Sys

worker of the target → `ProcessResults` → environment (`pending_awaits` merge or direct forward) →
`UpdateAwaitResults` → awaiter's worker → `awaiting_failed` + wake-up. -/

/-- target's worker, await BEFORE the failure: one report per registration, registry cleared -/
theorem failure_reported_to_every_registered_awaiter (s : QM.Sys.Sys) (i : Nat) (t : Nat)
    (hr : (s.wk i).resultOf t = some .err) :
    (QM.Sys.reportTarget s i t).evtQ i =
      s.evtQ i ++ ((s.wk i).awaitersFor t).map (fun a => QM.Sys.Evt.procResults a [(t, some .err)]) ∧
    ((QM.Sys.reportTarget s i t).wk i).awaitersFor t = [] ∧ (QM.Sys.reportTarget s i t).fault = s.fault :=
  QM.Sys.registered_awaiters_each_reported s i t .err hr

/-- target's worker, await AFTER the failure, without `selectWaits` (the code before /repo b0190c3): placeholder + registration (then the report above) -/
theorem late_awaiter_of_failed_target_is_registered [QM.Sys.Cfg] (hv : QM.Sys.Cfg.selectWaits = false)
    (w : QM.Sys.WorkerSt) (a t : Nat) (x : QM.Sys.Proc)
    (hx : w.procs t = some x) (hr : x.result = some .err) :
    (QM.Sys.queryTargets w a [t]).2 = [(t, none)] ∧ a ∈ (QM.Sys.queryTargets w a [t]).1.awaitersFor t ∧
    t ∈ (QM.Sys.queryTargets w a [t]).1.awaited ∧ (QM.Sys.queryTargets w a [t]).1.resultOf t = some .err :=
  QM.Sys.query_of_failed_target_registers hv w a t x hx hr

/-- … and under the variant `selectWaits` (notes/C05-fixes/01): the error is in the first answer, nobody is
registered, no second message — the window of finding C05-F2 (failed target) does not exist -/
theorem late_awaiter_of_failed_target_is_answered_waits [QM.Sys.Cfg] (hv : QM.Sys.Cfg.selectWaits = true)
    (w : QM.Sys.WorkerSt) (a t : Nat) (x : QM.Sys.Proc)
    (hx : w.procs t = some x) (hr : x.result = some .err) (hq : t ∉ w.queue)
    (hp : ¬ (t ∈ w.spawning ∨ t ∈ w.selecting)) :
    QM.Sys.queryTargets w a [t] = (w, [(t, some .err)]) :=
  QM.Sys.query_of_failed_target_answers_waits hv w a t x hx hr hq hp

/-- environment, initial multi-worker query still pending: the failure overrides the placeholder that
was merged first (seeded/C15-3 kept the placeholder: `first_report_wins_loses_failure`) -/
theorem failure_overrides_placeholder (s : QM.Sys.Sys) (a : Nat) (new : QM.Sys.Results) (w0 : Nat) (t : Nat)
    (pa : QM.Sys.PendingAwait) (hp : s.env.pending a = some pa) (hrouted : (s.env.router a).isSome)
    (hsender : ∃ k v rest, new = (k, v) :: rest ∧ s.env.router k = some w0)
    (hnd : (new.map (·.1)).Nodup) (hnew : QM.Sys.alookup new t = some (some .err)) :
    QM.Sys.pendingHas (QM.Sys.handleProcResultsWith QM.Sys.mergeAnswer s a new) a w0 t .err ∨
    ∃ aw rs, QM.Sys.Cmd.updateAwait a rs ∈ (QM.Sys.handleProcResultsWith QM.Sys.mergeAnswer s a new).cmdQ aw ∧
      (t, some .err) ∈ rs :=
  QM.Sys.outcome_overrides_placeholder s a new w0 t .err pa hp hrouted hsender hnd hnew

/-- environment, no pending query (a later completion): forwarded verbatim, no `EnvironmentError` -/
theorem failure_report_forwarded (s : QM.Sys.Sys) (a : Nat) (rs : QM.Sys.Results) (aw : Nat)
    (hp : s.env.pending a = none) (hr : s.env.router a = some aw) :
    QM.Sys.Cmd.updateAwait a rs ∈ (QM.Sys.handleProcResultsWith QM.Sys.mergeAnswer s a rs).cmdQ aw ∧
    (QM.Sys.handleProcResultsWith QM.Sys.mergeAnswer s a rs).fault = s.fault :=
  QM.Sys.report_without_pending_is_forwarded s a rs aw hp hr

/-- awaiter's worker: the failure becomes a ready source of the awaiting select and the select is woken -/
theorem failure_recorded_and_select_woken (s : QM.Sys.Sys) (i : Nat) (a : Nat) (rs : QM.Sys.Results)
    (x : QM.Sys.Proc) (t : Nat) (hx : (s.wk i).procs a = some x) (hs : x.stillAwaiting t = true)
    (ht : (t, some QM.Sys.Res.err) ∈ rs) :
    ∃ x', ((QM.Sys.handleCmd s i (.updateAwait a rs)).wk i).procs a = some x' ∧ t ∈ x'.awaitFailed ∧
      x'.result = x.result ∧ a ∉ ((QM.Sys.handleCmd s i (.updateAwait a rs)).wk i).selecting := by
  exact QM.Sys.update_records_failure s i a rs x t hx hs ht

/-- with merged answers the failure reaches the awaiter; with first-report-wins (seeded/C15-3) the
placeholder is kept and the awaiter is told "nothing finished": it would park for ever -/
theorem merged_answers_deliver_failure :
    (QM.Sys.c153Reports QM.Sys.mergeAnswer).cmdQ 1 = [.updateAwait 9 [(1, some .err), (2, none)]] := by decide

theorem first_report_wins_loses_failure :
    (QM.Sys.c153Reports QM.Sys.keepFirstAnswer).cmdQ 1 = [.updateAwait 9 [(1, none), (2, none)]] := by decide


/-- Full system-level statement of (a), proved below as `failure_reaches_awaiters`: when the system
is quiescent, no live process still awaits a failed process without having it recorded as a failed
(ready) source of its select. The per-link theorems above hold on every state; what chains them is an
inductive invariant with positional facts about the queues — in a worker's event queue every placeholder
`(t, None)` for an awaiter is followed by the report `(t, Some r)` or the awaiter is still registered, and an
awaiter's AwaitAction events are handled in order, so that a `pending_awaits` entry is only replaced by a newer
select's (`QueueOrderStatement`) — together with `CheckedStatement`. Observed by the harness on every run
(`kind=hang role=awaiter`, C05's `kind=await-result-lost`). -/
def FailureReachesAwaitersStatement [QM.Sys.Cfg] : Prop :=
  ∀ (n : Nat) (prog : QM.Sys.Prog) (req : Nat), 0 < n → QM.Sys.ProgWF prog → ∀ (cs : List QM.Sys.Choice),
    (QM.Sys.run (QM.Sys.Sys.init n prog req) cs).quiescent →
    ∀ (wa wt a t : Nat) (x y : QM.Sys.Proc),
      ((QM.Sys.run (QM.Sys.Sys.init n prog req) cs).wk wa).procs a = some x → x.stillAwaiting t = true →
      ((QM.Sys.run (QM.Sys.Sys.init n prog req) cs).wk wt).procs t = some y → y.result = some .err →
      t ∈ x.awaitFailed

section FailChain
open QM.Sys
variable [QM.Sys.Cfg]

/-- First ingredient, proved as `queue_order` (positional queue facts + registry location): there is an invariant of the composed
system — true when evaluation starts, preserved by every micro-step in states satisfying C04's routing /
wake-up / faithful-answer invariants — that implies: AwaitAction events of an awaiter are handled in
emission order (`AwaitOrder`), a placeholder at the head of an event queue is backed by a registration or a
later report (`PlaceholderOrder`), result lists have unique keys, registrations sit at the target's worker
and a pending await still expects somebody (`FAux`). The invariant used (`QInv`) says "the LAST AwaitAction of `a`
in its queue names every target `a` still awaits" and "if the LAST mention of `(a, t)` in worker `w`'s event queue is
a placeholder then `a ∈ awaiters_for_target[t]` at `w`" (both are stable under popping the head). -/
def QueueOrderStatement : Prop :=
  ∃ J : Sys → Prop, (∀ s, Started s → J s) ∧
    (∀ s m, RInv s → WInv s → TInv s → J s → J (microStep Rules.current s m)) ∧
    (∀ s, J s → AwaitOrder s ∧ PlaceholderOrder s ∧ EvtKeysNodup s ∧ FAux s)

/-- Second ingredient, proved as `checked`: after every complete choice (a worker step ends with `check_completed_processes`)
no worker keeps an awaiter registered for a process that has a result. -/
def CheckedStatement : Prop :=
  ∀ (n : Nat) (prog : Prog) (req : Nat), 0 < n → ProgWF prog → ∀ (cs : List Choice),
    PreStart (run (Sys.init n prog req) cs) ∨ Checked (run (Sys.init n prog req) cs)

/-- **The chain invariant over every choice sequence**, from `QueueOrderStatement`: every process whose current
select still awaits `t` knows `t`'s outcome, or an answer is in flight (AwaitAction, QueryAndAwait,
ProcessResults, the pending merge, UpdateAwaitResults), or it is registered at `t`'s worker. Proved by
showing that EVERY micro-step keeps it (`Chain.execStep`, `Chain.cmdStep1`, `Chain.checkStep`,
`Chain.envStep1`). -/
theorem chain_invariant_partial (hQ : QueueOrderStatement) (n : Nat) (prog : Prog) (req : Nat) (hn : 0 < n)
    (hwf : ProgWF prog) (cs : List Choice) :
    PreStart (run (Sys.init n prog req) cs) ∨
      (RInv (run (Sys.init n prog req) cs) ∧ WInv (run (Sys.init n prog req) cs) ∧ TInv (run (Sys.init n prog req) cs) ∧
       Chain (run (Sys.init n prog req) cs) ∧ FAux (run (Sys.init n prog req) cs)) := by
  obtain ⟨J, hJ0, hJs, hJc⟩ := hQ
  have := invariant_from_init Rules.current (fun s => RInv s ∧ WInv s ∧ TInv s ∧ J s ∧ Chain s)
    (fun s h => ⟨RInv.of_started h, WInv.of_started h, TInv.of_started h, hJ0 s h, (FInv.of_started h).chain⟩)
    (fun s m ⟨h1, h2, h3, h4, h5⟩ =>
      ⟨h1.micro Rules.current_tame m, h2.micro m, h3.micro m, hJs s m h1 h2 h3 h4,
       Chain.micro h1 h5 ⟨(hJc s h4).1, (hJc s h4).2.1, (hJc s h4).2.2.1⟩ m⟩)
    n prog req hn hwf cs
  rcases this with h | ⟨h1, h2, h3, h4, h5⟩
  · exact Or.inl h
  · exact Or.inr ⟨h1, h2, h3, h5, (hJc _ h4).2.2.2⟩

/-- **`FailureReachesAwaitersStatement`, from its two ingredients**: at quiescence no live
process still awaits a failed process without having the failure recorded as a ready source of its
select. The chain is kept by every micro-step of the executor, the workers'
command handling, `check_completed_processes` and the environment (merge, forward, replaced pending
entries), and at quiescence the chain collapses to "recorded". -/
theorem failure_reaches_awaiters_partial (hQ : QueueOrderStatement) (hC : CheckedStatement) :
    FailureReachesAwaitersStatement := by
  intro n prog req hn hwf cs hq wa wt a t x y hx hs hy hyr
  rcases chain_invariant_partial hQ n prog req hn hwf cs with h | ⟨h1, h2, h3, h4, h5⟩
  · rw [preStart_no_awaiting h wa a x t hx] at hs; cases hs
  · rcases hC n prog req hn hwf cs with h | hck
    · rw [preStart_no_awaiting h wa a x t hx] at hs; cases hs
    · exact quiescent_failed_target_is_recorded _ h1 h2 h3 ⟨h4, hck, h5⟩ hq wa wt a t x y hx hs hy hyr

/-- **The environment credits an answer to a pending await by its SENDER, not by its content** (finding
C05-F3, every state of M-Sys). The awaiter `a` has a pending await that still expects only worker `w`
(its current select awaits `u`, which lives on `w`; nothing collected yet). A LATE REPORT arrives from
`w` about another process `t` — a target of an EARLIER select of `a`, whose registration was left
behind when that select completed through a message. `handle_process_results` takes it for `w`'s
answer: the pending entry is closed and the "merged answer" — which does not mention `u` — is sent to
the awaiter. Without `selectWaits` (before /repo b0190c3) this wakes the select, which then walks its sources with `u` still unknown
(`! [u, 0]` yields `[]` although `u` has finished: corpus/C05/select-before-answer-stale-answer.json,
124 of 601 schedules on the real code). The real answer of `w` about `u` is forwarded later. -/
theorem stale_report_closes_newer_pending_await (s : Sys) (a t u : Pid) (w wa : Wid) (r : Res)
    (hp : s.env.pending a = some { expected := [w], responses := [] })
    (hrt : s.env.router t = some w) (hra : s.env.router a = some wa) (htu : t ≠ u) :
    (handleProcResultsWith mergeAnswer s a [(t, some r)]).env.pending a = none ∧
    Cmd.updateAwait a [(t, some r)] ∈ (handleProcResultsWith mergeAnswer s a [(t, some r)]).cmdQ wa ∧
    alookup [(t, some r)] u = (none : Option (Option Res)) := by
  unfold handleProcResultsWith
  simp only [hp, hrt]
  have hf : (List.filter (fun x => decide (x ≠ w)) [w]).isEmpty = true := by simp
  simp only [hf, if_true, hra]
  refine ⟨?_, ?_, ?_⟩
  · simp [Sys.pushCmd, upd_same]
  · simp [Sys.pushCmd, upd_same, mergeAnswer, ainsert, alookup]
  · simp [alookup, htu]


/-- the inductive strengthening behind `QueueOrderStatement` -/
structure QInv (s : Sys) : Prop where
  r : RInv s
  ph : PlaceholderLast s
  nd : EvtKeysNodup s
  pk : PKInv s
  al : AwaitLast s
  rh : RegHome s
  pn : PendNe s

/-- **`QueueOrderStatement` holds**: the positional facts about a worker's event queue and the registry facts hold
in every reachable state (every configuration of the runtime variants). -/
theorem queue_order : QueueOrderStatement := by
  refine ⟨QInv, ?_, ?_, ?_⟩
  · intro s hs
    have hev : ∀ w, s.evtQ w = [] := hs.evtQ
    refine ⟨RInv.of_started hs, ?_, ?_, PKInv.of_started hs, ?_, (FInv.of_started hs).aux.regHome, (FInv.of_started hs).aux.pendNe⟩
    · intro w a t hl; rw [hev w] at hl; cases hl
    · intro w a rs hm; rw [hev w] at hm; cases hm
    · intro w a ts hl; rw [hev w] at hl; cases hl
  · intro s m hr hw _ h
    exact ⟨hr.micro Rules.current_tame m, h.ph.micro m, h.nd.micro m, h.pk.micro hr hw m, h.al.micro hr h.pk m,
      h.rh.micro hr m, h.pn.micro hw m⟩
  · intro s h
    exact ⟨h.al.order h.r, h.ph.order, h.nd, ⟨h.rh, h.pn⟩⟩

/-- `FailureReachesAwaitersStatement` from `CheckedStatement` alone. -/
theorem failure_reaches_awaiters_of_checked (hC : CheckedStatement) : FailureReachesAwaitersStatement :=
  failure_reaches_awaiters_partial queue_order hC

/-- **`CheckedStatement` holds**: after every complete choice no worker keeps an awaiter registered for a process
that has a result (`Worker::step` ends with `check_completed_processes`, which reports every awaited target that has a
result and clears its registrations; a registration is always for an `awaited` target). -/
theorem checked : CheckedStatement :=
  fun n prog req _ _ cs => Or.inr (checked_run n prog req cs)

/-- **`FailureReachesAwaitersStatement` holds** (every configuration of the runtime variants): whenever the
composed system — environment, workers, executors, under ANY schedule of choices — is quiescent, no live process still
awaits a failed process without having the failure recorded as a ready source of its select. Hence (C05: a recorded
failure is a ready source; C04: no lost wake-up) every awaiter of a failed process fails with it or completes through
an earlier source. -/
theorem failure_reaches_awaiters : FailureReachesAwaitersStatement :=
  failure_reaches_awaiters_partial queue_order checked

end FailChain

end C15
