import QuiverModel.Core.RefSem.Compile4
import QuiverModel.Theorems.C07Frag3
import QuiverModel.Theorems.C16
/-
C07 for a compiler fragment, part 4 — self tail calls and builtin calls: every function the model compiler of
`Core/RefSem/Compile4.lean` (fragment 3 + `^` = `TailCall(true)` from any depth of nested blocks, with the dead code
the compiler emits after it, + `Builtin(i), Call`) emits is accepted by the checker; with that, tail recursion is under
"no program of the fragment fails structurally" (`F4.frag4_no_structural_failure`), and the C16 theorems apply to every
loop of the fragment (`F4.frag4_tail_loops_constant_space`).

The side condition particular to this part: a `^` stands where nothing but the flowing value is on the frame's operand
stack — not inside a tuple literal's field (`scT … .tailSelf = (h = 0 ∧ caps ≤ Γ.length)`); the model's meaning
functions give such a `^` no meaning either (`evalFs`), and the real compiler rejects it (commit 9828b30). The code
after a `^` is dead; it is annotated and checked like any other (as the checker does).
-/
namespace QM.C07Frag
open QM.VM

theorem Blk.builtin {P : Prog} {caps n o : Nat} {X : List (Nat × Ann)} {h l bi : Nat} {g : Guard}
    (hb : bi < P.builtins) :
    Blk P caps n o [.builtin bi] ⟨h, l, g⟩ [⟨h, l, g⟩] ⟨h + 1, l, .none⟩ X :=
  Blk.single (by simp [transfer, hb]) (Fits.refl _)

namespace F4
open QM.RefSem.C1 (Sub Pat1 slot compilePat patBinds wfPat wfProg)
open QM.RefSem.C2 (resetIf)
open QM.RefSem.C4
open F2 (BrExt brEntry BrsTyped brsNil_typed brsNone_typed brsSome_typed block_typed)

section Constructs
variable {P : Prog} {caps n o : Nat} {Γ : List String}

theorem loadsOf_typed : ∀ (cs : List String), (∀ c ∈ cs, ∃ i, slot Γ c = some i) → ∀ (o h : Nat),
    Typed P caps n o (loadsOf Γ cs) ⟨h, Γ.length, .none⟩ ⟨h + cs.length, Γ.length, .none⟩ []
  | [], _, _, _ => .nil (Fits.refl _)
  | c :: r, hs, o, h => by
    obtain ⟨i, hi⟩ := hs c List.mem_cons_self
    rw [loadsOf, hi]
    exact .cons (Blk.load (F1.slot_lt Γ c i hi))
      (Nat.add_right_comm h 1 r.length ▸ loadsOf_typed r (fun c' hc' => hs c' (List.mem_cons_of_mem _ hc')) _ (h + 1)) .nil

/-- `^` where nothing but the flowing value is on the frame's operand stack and the frame has at
least its captures: `TailCall(true)` has no successor, so whatever follows it is entered in any state -/
theorem tailSelf_typed {l : Nat} {b : Ann} (hcap : caps ≤ l) :
    Typed P caps n o [.tailCall true] ⟨0 + 1, l, .none⟩ b [] :=
  (Blk.instr (succs := []) (by simp [transfer, hcap]) fun _ hs => nomatch hs).typed

theorem bcall_typed {h l bi : Nat} (hb : bi < P.builtins) :
    Typed P caps n o [.builtin bi, .call] ⟨h + 1, l, .none⟩ ⟨h + 1, l, .none⟩ [] :=
  .cons (Blk.builtin hb) Blk.call.typed .nil

end Constructs

mutual
  /-- scoping, and: a `^` only where nothing but the flowing value is on the frame's operand stack
  (`h = 0`: not inside a tuple literal's field — the real compiler rejects it there, commit 9828b30)
  and the frame has at least its captures (`caps ≤ Γ.length`: `TailCall(true)` cuts the locals back to
  them) -/
  def scT (caps h : Nat) (Γ : List String) : T4 → Prop
    | .var x => ∃ i, slot Γ x = some i
    | .tup _ fs => scFs caps h Γ fs 0
    | .block bs => scBrs caps h (Γ ++ [""]) bs
    | .fnlit _ cs => ∀ c ∈ cs, ∃ i, slot Γ c = some i
    | .call x => ∃ i, slot Γ x = some i
    | .callNil x => ∃ i, slot Γ x = some i
    | .tailSelf => h = 0 ∧ caps ≤ Γ.length
    | _ => True
  def scCh (caps h : Nat) (Γ : List String) : Ch4 → Prop
    | .nil => True
    | .cons t r => scT caps h Γ t ∧ scCh caps h (compileT Γ t).2 r
  /-- field `k` is evaluated with the flowing value and `k` earlier fields beneath it -/
  def scFs (caps h : Nat) (Γ : List String) : Fs4 → Nat → Prop
    | .nil, _ => True
    | .cons c r, k => scCh caps (h + 1 + k) Γ c ∧ scFs caps h (compileCh Γ c).2 r (k + 1)
  def scSq (caps h : Nat) (Γ : List String) : Sq4 → Prop
    | .last c => scCh caps h Γ c
    | .cons c r => scCh caps h Γ c ∧ scSq caps h (compileCh Γ c).2 r
  def scBrs (caps h : Nat) (Γp : List String) : Brs4 → Prop
    | .nil => True
    | .cons cond .none rest => scSq caps h Γp cond ∧ scBrs caps h Γp rest
    | .cons cond (.some cons) rest =>
      scSq caps h Γp cond ∧ scSq caps h (compileSq Γp cond).2 cons ∧ scBrs caps h Γp rest
end

mutual
theorem compileT_len : (t : T4) → (Γ : List String) → Γ.length ≤ (compileT Γ t).2.length
  | .int _ _, _ | .ripple, _ | .var _, _ | .block _, _ | .fnlit _ _, _ | .call _, _ | .callNil _, _
  | .tailSelf, _ | .bcall _, _ => Nat.le_refl _
  | .tup _ fs, Γ => compileFs_len fs Γ 0
  | .mtch _, _ => List.length_append ▸ Nat.le_add_right _ _
theorem compileCh_len : (c : Ch4) → (Γ : List String) → Γ.length ≤ (compileCh Γ c).2.length
  | .nil, _ => Nat.le_refl _
  | .cons t r, Γ => Nat.le_trans (compileT_len t Γ) (compileCh_len r _)
theorem compileFs_len : (fs : Fs4) → (Γ : List String) → (k : Nat) → Γ.length ≤ (compileFs Γ fs k).2.length
  | .nil, _, _ => Nat.le_refl _
  | .cons c r, Γ, k => Nat.le_trans (compileCh_len c Γ) (compileFs_len r _ (k + 1))
theorem compileSq_len : (sq : Sq4) → (Γ : List String) → Γ.length ≤ (compileSq Γ sq).2.length
  | .last c, Γ => compileCh_len c Γ
  | .cons c r, Γ => Nat.le_trans (compileCh_len c Γ) (compileSq_len r _)
end

section Compile
variable {P : Prog} {caps n : Nat}

mutual
theorem compileT_blk (hn : n < maxCode) (hP : wfProg P) : (t : T4) → (Γ : List String) → (o h : Nat) →
    wfT P t → scT caps h Γ t → o + (compileT Γ t).1.length ≤ n →
    ∃ A, Blk P caps n o (compileT Γ t).1 ⟨h + 1, Γ.length, .none⟩ A
      ⟨h + 1, (compileT Γ t).2.length, .none⟩ []
  | .int _ _, _, _, _, hw, _ => F1.int_typed hw
  | .ripple, _, _, _, _, _ => Typed.nil (Fits.refl _)
  | .tup _ fs, Γ, o, h, hw, hs => F1.tup_typed hw.1 (compileFs_blk hn hP fs Γ 0 o h hw.2 hs)
  | .var _, _, _, _, _, hs => F1.var_typed hs
  | .mtch _, _, _, _, hw, _ => F1.mtch_typed hn hP hw
  | .block bs, Γ, o, h, hw, hs =>
    block_typed hn (compileBrs_typed hn hP bs (Γ ++ [""]) Γ.length 0 true (o + 1) h _ _ hw.2 hs
      List.length_append (fun _ => hw.1) rfl)
  | .fnlit _ cs, _, _, h, hw, hs => F3.fnlit_typed hw (loadsOf_typed cs hs _ h)
  | .call _, _, _, _, _, hs => F3.call_typed hs
  | .callNil _, _, _, _, _, hs => F3.callNil_typed hP hs
  | .tailSelf, _, _, _, _, hs => hs.1 ▸ tailSelf_typed hs.2
  | .bcall _, _, _, _, hw, _ => bcall_typed hw
theorem compileCh_blk (hn : n < maxCode) (hP : wfProg P) : (c : Ch4) → (Γ : List String) → (o h : Nat) →
    wfCh P c → scCh caps h Γ c → o + (compileCh Γ c).1.length ≤ n →
    ∃ A, Blk P caps n o (compileCh Γ c).1 ⟨h + 1, Γ.length, .none⟩ A
      ⟨h + 1, (compileCh Γ c).2.length, .none⟩ []
  | .nil, _, _, _, _, _ => Typed.nil (Fits.refl _)
  | .cons t r, Γ, o, h, hw, hs =>
    Typed.seq (compileT_blk hn hP t Γ o h hw.1 hs.1) (compileCh_blk hn hP r _ _ h hw.2 hs.2) .nil
theorem compileFs_blk (hn : n < maxCode) (hP : wfProg P) : (fs : Fs4) → (Γ : List String) → (k o h : Nat) →
    wfFs P fs → scFs caps h Γ fs k → o + (compileFs Γ fs k).1.length ≤ n →
    ∃ A, Blk P caps n o (compileFs Γ fs k).1 ⟨h + 1 + k, Γ.length, .none⟩ A
      ⟨h + 1 + k + fs.length, (compileFs Γ fs k).2.length, .none⟩ []
  | .nil, _, _, _, _, _, _ => Typed.nil (Fits.refl _)
  | .cons c r, Γ, k, _, h, hw, hs =>
    F1.fsCons_typed (compileCh_blk hn hP c Γ _ (h + 1 + k) hw.1 hs.1)
      (compileFs_blk hn hP r _ (k + 1) _ h hw.2 hs.2)
theorem compileSq_blk (hn : n < maxCode) (hP : wfProg P) : (sq : Sq4) → (Γ : List String) → (o h l0 : Nat) →
    wfSq P sq → scSq caps h Γ sq → l0 ≤ Γ.length → o + (compileSq Γ sq).1.length ≤ n →
    ∃ A, Blk P caps n o (compileSq Γ sq).1 ⟨h + 1, Γ.length, .none⟩ A
      ⟨h + 1, l0, .top (compileSq Γ sq).2.length⟩ []
  | .last c, Γ, o, h, _, hw, hs, hl0 =>
    F1.sqLast_typed (compileCh_blk hn hP c Γ o h hw hs) (Nat.le_trans hl0 (compileCh_len c Γ))
  | .cons c r, Γ, o, h, l0, hw, hs, hl0 =>
    have hl := Nat.le_trans hl0 (compileCh_len c Γ)
    F1.sqCons_typed hn (compileCh_blk hn hP c Γ o h hw.1 hs.1) (compileSq_blk hn hP r _ _ h l0 hw.2 hs.2 hl) hl
/-- The branches: main code at `o` (it ends exactly at the parameter clear `PC`), cleanup blocks at
`PC + 2 + 2k`; each cleanup block jumps back INTO the main code (the next branch), so its exits are
typed against the main code's annotations. -/
theorem compileBrs_typed (hn : n < maxCode) (hP : wfProg P) : (bs : Brs4) → (Γp : List String) → (nn k : Nat) →
    (first : Bool) → (o h : Nat) → (main cleanup : List Instr) →
    wfBrs P bs → scBrs caps h Γp bs → Γp.length = nn + 1 → (first = true → bs.isNil = false) →
    compileBrs Γp nn bs k first = (main, cleanup) →
    o + main.length ≤ n → (cleanup ≠ [] → o + main.length + 2 + 2 * k + cleanup.length ≤ n) →
    ∃ Am, Seg P caps n o main Am
        (BrExt (o + main.length) (o + main.length + 2 + 2 * k) (o + main.length + 2 + 2 * k + cleanup.length)
          ⟨h + 1, nn + 1, .none⟩) ∧
      Flow o Am (BrExt (o + main.length) (o + main.length + 2 + 2 * k) (o + main.length + 2 + 2 * k + cleanup.length)
          ⟨h + 1, nn + 1, .none⟩) o (brEntry first h nn) ∧
      Seg P caps n (o + main.length + 2 + 2 * k) cleanup (List.replicate cleanup.length ⟨h + 1, nn + 1, .none⟩)
        (fun pc out => Flow o Am (BrExt (o + main.length) (o + main.length + 2 + 2 * k)
          (o + main.length + 2 + 2 * k + cleanup.length) ⟨h + 1, nn + 1, .none⟩) pc out)
  | .nil, _, _, _, first, _, _, _, _, _, _, _, hne, heq =>
    BrsTyped.of_eq heq (match first, hne with
      | false, _ => brsNil_typed
      | true, hne => nomatch hne rfl)
  | .cons cond .none rest, Γp, nn, k, first, _, h, _, _, hw, hs, hΓ, _, heq =>
    BrsTyped.of_eq heq (brsNone_typed hn first rest.isNil
      (fun o => hΓ ▸ compileSq_blk hn hP cond Γp o h (nn + 1) hw.1 hs.1 (Nat.le_of_eq hΓ.symm))
      (fun o => compileBrs_typed hn hP rest Γp nn k false o h _ _ hw.2 hs.2 hΓ (fun hh => nomatch hh) rfl))
  | .cons cond (.some cons) rest, Γp, nn, _, first, _, h, _, _, hw, hs, hΓ, _, heq =>
    have hg : nn + 1 ≤ (compileSq Γp cond).2.length := hΓ ▸ compileSq_len cond Γp
    BrsTyped.of_eq heq (brsSome_typed hn first rest.isNil (decide ((compileSq Γp cond).2.length > nn + 1))
      (fun o => hΓ ▸ compileSq_blk hn hP cond Γp o h (nn + 1) hw.1 hs.1 (Nat.le_of_eq hΓ.symm))
      (fun o => compileSq_blk hn hP cons _ o h (nn + 1) hw.2.1 hs.2.1 hg)
      (fun o => compileBrs_typed hn hP rest Γp nn _ false o h _ _ hw.2.2 hs.2.2 hΓ (fun hh => nomatch hh) rfl)
      rfl)
end

end Compile

/-- **Every top-level sequence the fragment-4 compiler emits is accepted by the verified checker.** -/
theorem compileSq_checkFn {P : Prog} (hP : wfProg P) (Γ : List String) (sq : Sq4) (tid : Nat)
    (hw : wfSq P sq) (hs : scSq Γ.length 0 Γ sq) (hsmall : (compileSq Γ sq).1.length < maxCode) :
    ∃ anns, checkFn P { instructions := (compileSq Γ sq).1.toArray, captures := Γ.length, typeId := tid } anns = true :=
  checkFn_of_typed tid (compileSq_blk hsmall hP sq Γ 0 0 Γ.length hw hs (Nat.le_refl _)) rfl hsmall

/-- **Every function body** (`fnCode`: the body compiled as a block over the captures) passes the
checker as a function with `#captures` captures. -/
theorem fnCode_checkFn {P : Prog} (hP : wfProg P) (d : FnDef) (tid : Nat)
    (hne : d.body.isNil = false) (hw : wfBrs P d.body) (hs : scBrs d.caps.length 0 (d.caps ++ [""]) d.body)
    (hsmall : (fnCode d).length < maxCode) :
    ∃ anns, checkFn P { instructions := (fnCode d).toArray, captures := d.caps.length, typeId := tid } anns = true :=
  checkFn_of_typed tid (compileT_blk hsmall hP (.block d.body) d.caps 0 0 ⟨hne, hw⟩ hs) rfl hsmall

/-- A program of fragment 4: every function is a compiled sequence (an entry / top level) or the
code of a function literal (`fnCode`). -/
def Frag4Prog (P : Prog) : Prop :=
  wfProg P ∧ ∀ (f : Nat) (fn : Function), P.functions[f]? = some fn →
    (∃ (Γ : List String) (sq : Sq4), fn.instructions = (compileSq Γ sq).1.toArray ∧ fn.captures = Γ.length ∧
      wfSq P sq ∧ scSq Γ.length 0 Γ sq ∧ (compileSq Γ sq).1.length < maxCode) ∨
    (∃ d : FnDef, fn.instructions = (fnCode d).toArray ∧ fn.captures = d.caps.length ∧
      d.body.isNil = false ∧ wfBrs P d.body ∧ scBrs d.caps.length 0 (d.caps ++ [""]) d.body ∧ (fnCode d).length < maxCode)

theorem frag4_allChecked {P : Prog} (h : Frag4Prog P) : ∃ A, AllChecked P A :=
  allChecked_of_checkFn fun f fn hf =>
    match h.2 f fn hf with
    | .inl ⟨Γ, sq, hi, hc, hw, hs, hsmall⟩ => checkFn_of_eq hi hc (compileSq_checkFn h.1 Γ sq _ hw hs hsmall)
    | .inr ⟨d, hi, hc, hne, hw, hs, hsmall⟩ => checkFn_of_eq hi hc (fnCode_checkFn h.1 d _ hne hw hs hsmall)

/-- **No program of fragment 4 — self tail calls `^` from any depth of nested blocks and builtin
calls included — ever fails structurally** (`checkAnn_sound`; a call may fail with CallInvalid /
TypeMismatch when the callee is not a function: that is C01). -/
theorem frag4_no_structural_failure {P : Prog} (h : Frag4Prog P) (s0 : Nat) (p0 p : Proc)
    (h0 : EntryWF P s0 p0) (hr : ReachWF P p0 p) :
    (∃ A, Inv P A s0 p) ∧
    ∀ ev, EventWF P ev → ∀ e, transition P p ev = some (.error e) → e.isStructural = false :=
  no_structural_failure_of_allChecked (frag4_allChecked h) s0 p0 p h0 hr

/-- **C16's text as a theorem for every program of fragment 4.** Take any activation `(rest, lb)` of a
process running a fragment-4 program: `q0` has just entered a function on it (through a `Call` or a
tail call). After ANY number of transitions that stay inside the activation, whenever the process is
back at the activation's depth and takes a self tail call `^`, the state it re-enters in has
  * exactly the frames of the first entry,
  * exactly the operand stack length of the first entry,
  * `lb + captures` locals for the function it re-enters — exactly the locals of the first entry when
    that is the function entered first (the self-recursive loop),
whatever the number of iterations so far; and nothing on the way fails structurally
(`frag4_no_structural_failure`). (`loop_head_invariant` of Theorems/C16.lean, whose hypothesis
`AllChecked` is discharged by `frag4_allChecked`.) -/
theorem frag4_tail_loops_constant_space {P : Prog} (h : Frag4Prog P) :
    ∃ A, AllChecked P A ∧
      ∀ (s0 : Nat) (q0 q q' : Proc) (rest : List Frame) (lb fi0 : Nat) (act : Option Action),
        Inv P A s0 q0 → C16.AtEntry P A s0 rest lb fi0 q0 →
        C16.ReachAbove P (rest.length + 1) q0 q →
        q.frames.length = rest.length + 1 → q.park = .none →
        P.currentInstr q = some (.tailCall true) →
        handleTailCall P q true = .ok (q', act) →
        q'.frames.length = q0.frames.length ∧ q'.stack.length = q0.stack.length ∧
        ∃ fi fn, P.functions[fi]? = some fn ∧ C16.AtEntry P A s0 rest lb fi q' ∧
          q'.locals.length = lb + fn.captures ∧
          (fi = fi0 → q'.locals.length = q0.locals.length) := by
  obtain ⟨A, hA⟩ := frag4_allChecked h
  refine ⟨A, hA, ?_⟩
  intro s0 q0 q q' rest lb fi0 act hinv0 h0 hreach hdepth hpark hcur hstep
  obtain ⟨fi, hent, himp⟩ := C16.loop_head_invariant hA hinv0 h0 hreach hdepth hpark hcur hstep
  obtain ⟨f, fn, hf, _, _, _, hfn, hl, hs⟩ := hent.shape
  obtain ⟨f0, fn0, hf0, _, _, _, _, _, hs0⟩ := h0.shape
  refine ⟨by rw [hf, hf0]; rfl, by rw [hs, hs0], fi, fn, hfn, hent, hl, fun hfi => (himp hfi).2.1⟩

/-- the loop's body: `{ | =0 => 9 | [~, 1] __sub__ ^ }` (`__sub__` = builtin 0) -/
def exBody : Brs4 :=
  .cons (.last (.cons (.mtch (.top (.lit 0 0))) .nil)) (.some (.last (.cons (.int 9 1) .nil)))
    (.cons (.last (.cons (.tup 2 (.cons (.cons .ripple .nil) (.cons (.cons (.int 1 2) .nil) .nil)))
      (.cons (.bcall 0) (.cons .tailSelf .nil)))) .none .nil)

/-- `#{ … } =f, 7 f` -/
def exSq : Sq4 :=
  .cons (.cons (.fnlit 1 []) (.cons (.mtch (.top (.bind "f"))) .nil))
    (.last (.cons (.int 7 3) (.cons (.call "f") .nil)))

def exP : Prog :=
  { constants := #[.int 0, .int 9, .int 1, .int 7],
    functions := #[⟨(compileSq [] exSq).1.toArray, 0, 0⟩, ⟨(fnCode ⟨[], exBody⟩).toArray, 0, 0⟩],
    tuples := #[0, 0, 2], types := 0, builtins := 1 }

/-- the loop function ends its second branch in `Builtin 0, Call, TailCall(true)` followed by dead code -/
example : (fnCode ⟨[], exBody⟩).contains (.tailCall true) = true := by decide +kernel

example : Frag4Prog exP := by
  refine ⟨⟨rfl, rfl⟩, ?_⟩
  intro f fn hf
  have hf01 : f = 0 ∨ f = 1 := by
    have := (Array.getElem?_eq_some_iff.mp hf).1
    simp [exP] at this; omega
  rcases hf01 with rfl | rfl
  · have hfn : fn = ⟨(compileSq [] exSq).1.toArray, 0, 0⟩ := by simpa [exP] using hf.symm
    subst hfn
    refine Or.inl ⟨[], exSq, rfl, rfl, ?_, ?_, by decide +kernel⟩
    · simp only [exSq, wfSq, wfCh, wfT, wfPat, QM.RefSem.C1.wfSub, and_true]
      exact ⟨⟨_, rfl, rfl⟩, rfl⟩
    · simp only [exSq, scSq, scCh, scT, and_true, true_and]
      refine ⟨?_, ⟨0, by decide +kernel⟩⟩
      intro c hc
      cases hc
  · have hfn : fn = ⟨(fnCode ⟨[], exBody⟩).toArray, 0, 0⟩ := by simpa [exP] using hf.symm
    subst hfn
    refine Or.inr ⟨⟨[], exBody⟩, rfl, rfl, rfl, ?_, ?_, by decide +kernel⟩
    · simp only [exBody, wfBrs, wfSq, wfCh, wfT, wfFs, wfPat, QM.RefSem.C1.wfSub, Fs4.length, and_true, true_and]
      refine ⟨rfl, rfl, ⟨rfl, rfl⟩, ?_⟩
      decide
    · simp only [exBody, scBrs, scSq, scCh, scT, scFs, and_true, true_and]
      simp

/-- The inferred annotations pass for both functions. -/
example : checkAnn exP 0 (inferAnn exP 0) = true ∧ checkAnn exP 1 (inferAnn exP 1) = true := by
  decide +kernel

end F4
end QM.C07Frag
