import QuiverModel.Core.RefSem.Compile2
import QuiverModel.Theorems.C07Frag
/-
C07 for a compiler fragment, part 2 — blocks: every function the model compiler of `Core/RefSem/Compile2.lean`
(fragment 1 + blocks with branches and `=>`: parameter slot, per-branch `Reset`, parameter clear, cleanup blocks with
backward jumps into the next branch) emits is accepted by the checker (`F2.compileSq_checkFn`,
`F2.frag2_no_structural_failure`).

The consequence of a branch is compiled under the condition's bindings and reached only through the not-taken side of
`Duplicate, Not, JumpIf`; `F2.branchSome_typed` is where the nil guard (`Guard.top g`, left by the condition's
sequence) turns into the `g` locals the consequence's `Load`s need. The example at the end depends on it: `z` exists
only where the condition's value is non-nil. The cleanup blocks jump back INTO the branches' main code, so the two
are typed against each other (`F2.BrsOk`, `F2.BrsOk.step`); `F2.brsNone_typed` / `F2.brsSome_typed` put the two kinds
of branch in the shape `compileBrs` emits them in, over code lists, so that parts 3 and 4 use them as they are.
-/
namespace QM.C07Frag
open QM.VM

namespace F2
open QM.RefSem.C1 (Sub Pat1 slot compilePat patBinds wfPat wfProg)
open QM.RefSem.C2

theorem resetIf_typed {P : Prog} {caps n o h l len nn : Nat} {X : List (Nat × Ann)} {g : Guard}
    (hl : nn + 1 ≤ l) : Typed P caps n o (resetIf len nn) ⟨h + 1, l, g⟩ ⟨h + 1, nn + 1, .none⟩ X := by
  unfold resetIf
  split
  · exact (Blk.reset hl).typed
  · exact .nil (Fits.plain rfl hl)

/-- entry state of a branch: the first one starts right after the `Store` of the parameter, a later
one with the failed condition's nil still on the stack -/
def brEntry (first : Bool) (h nn : Nat) : Ann := if first then ⟨h, nn + 1, .none⟩ else ⟨h + 1, nn + 1, .none⟩

theorem brPre_blk {P : Prog} {caps n o : Nat} {X : List (Nat × Ann)} (first : Bool) (h nn : Nat) :
    ∃ A, Blk P caps n o (if first then [] else [Instr.pop]) (brEntry first h nn) A ⟨h, nn + 1, .none⟩ X := by
  cases first with
  | true => exact ⟨[], Blk.empty (Fits.refl _)⟩
  | false => exact ⟨_, Blk.pop⟩

theorem brPre_typed {P : Prog} {caps n o : Nat} {X : List (Nat × Ann)} (first : Bool) (h nn : Nat) :
    Typed P caps n o (if first then [] else [Instr.pop]) (brEntry first h nn) ⟨h, nn + 1, .none⟩ X :=
  fun _ => brPre_blk first h nn

section Branches
variable {P : Prog} {caps n o h nn : Nat}

/-- A bodiless branch behind a prefix `pre`: `pre Load(n) cond [Reset(n+1)] [Duplicate JumpIf(→PC)]`, `PC`
lying `rl` instructions behind it. -/
theorem branchNone_typed (hn : n < maxCode) (restNil : Bool) {pre c : List Instr} {e : Ann} {g rl PC : Nat}
    (hpre : Typed P caps n o pre e ⟨h, nn + 1, .none⟩ [])
    (hc : Typed P caps n (o + pre.length + 1) c ⟨h + 1, nn + 1, .none⟩ ⟨h + 1, nn + 1, .top g⟩ [])
    (hPCe : o + (pre ++ ([Instr.load nn] ++ (c ++ (resetIf g nn ++
      (if restNil then [] else [Instr.duplicate, .jumpIf (rl : Int)]))))).length + rl = PC)
    (hPC : PC ≤ n) :
    Typed P caps n o (pre ++ ([Instr.load nn] ++ (c ++ (resetIf g nn ++
        (if restNil then [] else [Instr.duplicate, .jumpIf (rl : Int)])))))
      e ⟨h + 1, nn + 1, .none⟩ [(PC, ⟨h + 1, nn + 1, .none⟩)] := by
  unfold maxCode at hn
  have hX : Outside [(PC, (⟨h + 1, nn + 1, .none⟩ : Ann))] o _ :=
    .cons (Or.inr (hPCe ▸ Nat.le_add_right _ _)) .nil
  have hX4 := hX.right.right.right.right
  refine .seq hpre.lift (.seq (c1 := [.load nn]) (Blk.load (Nat.lt_succ_self nn)).typed
    (.seq hc.lift (.seq (resetIf_typed (Nat.le_refl _)) ?_ hX.right.right.right) hX.right.right) hX.right) hX
  cases restNil with
  | true => exact .nil (Fits.refl _)
  | false =>
    simp only [List.length_append, List.length_cons, List.length_nil, Bool.false_eq_true, if_false] at hPCe
    simp only [Bool.false_eq_true, if_false] at hX4 ⊢
    refine .cons Blk.duplicate (Blk.typed (Blk.jumpIfFwd hn ?_ hPC ?_ (.head (Fits.refl _)))) hX4
    · simp only [List.length_singleton]; omega
    · intro _ h; cases h

theorem branch_none_blk (hn : n < maxCode) {pre c1 : List Instr} {e : Ann} {Apre Ac : List Ann} {g rl : Nat}
    (restNil : Bool)
    (hpre : Blk P caps n o pre e Apre ⟨h, nn + 1, .none⟩ [])
    (hc : Blk P caps n (o + pre.length + 1) c1 ⟨h + 1, nn + 1, .none⟩ Ac ⟨h + 1, nn + 1, .top g⟩ [])
    (hb : o + (pre ++ ([Instr.load nn] ++ (c1 ++ (resetIf g nn ++
      (if restNil then [] else [Instr.duplicate, .jumpIf (rl : Int)]))))).length + rl ≤ n) :
    ∃ A, Blk P caps n o (pre ++ ([Instr.load nn] ++ (c1 ++ (resetIf g nn ++
        (if restNil then [] else [Instr.duplicate, .jumpIf (rl : Int)]))))) e A ⟨h + 1, nn + 1, .none⟩
      [(o + (pre ++ ([Instr.load nn] ++ (c1 ++ (resetIf g nn ++
        (if restNil then [] else [Instr.duplicate, .jumpIf (rl : Int)]))))).length + rl, ⟨h + 1, nn + 1, .none⟩)] :=
  branchNone_typed hn restNil hpre.typed hc.typed rfl hb (Nat.le_trans (Nat.le_add_right _ _) hb)

/-- A branch with a consequence, behind a prefix `pre`:
`pre Load(n) cond Duplicate Not JumpIf(→T) Pop Load(n) cons [Reset(n+1)] [Jump(→PC)]`, `T` lying `x`
and `PC` `rl` instructions behind it. The `JumpIf` is taken when the condition's value is nil; it
falls through only when the value is non-nil, and then — by the guard the condition's sequence
leaves — ALL `g` locals of the condition are there, which the consequence (compiled under them)
relies on. -/
theorem branchSome_typed (hn : n < maxCode) (restNil : Bool) {pre c cc : List Instr} {e : Ann}
    {g g2 rl x off END : Nat}
    (hpre : Typed P caps n o pre e ⟨h, nn + 1, .none⟩ [])
    (hc : Typed P caps n (o + pre.length + 1) c ⟨h + 1, nn + 1, .none⟩ ⟨h + 1, nn + 1, .top g⟩ [])
    (hcc : Typed P caps n (o + pre.length + 1 + c.length + 3 + 2) cc ⟨h + 1, g, .none⟩
      ⟨h + 1, nn + 1, .top g2⟩ [])
    (hoff : off = 2 + cc.length + (resetIf g2 nn).length +
      (if restNil then [] else [Instr.jump (rl : Int)]).length + x)
    (hEND : o + (pre ++ ([Instr.load nn] ++ (c ++
      ([Instr.duplicate, .not, .jumpIf (off : Int)] ++ ([Instr.pop, .load nn] ++ (cc ++ (resetIf g2 nn ++
        (if restNil then [] else [Instr.jump (rl : Int)])))))))).length = END)
    (hb : END + max rl x ≤ n) :
    Typed P caps n o (pre ++ ([Instr.load nn] ++ (c ++
        ([Instr.duplicate, .not, .jumpIf (off : Int)] ++ ([Instr.pop, .load nn] ++ (cc ++ (resetIf g2 nn ++
          (if restNil then [] else [Instr.jump (rl : Int)]))))))))
      e ⟨h + 1, nn + 1, .none⟩
      [(END + rl, ⟨h + 1, nn + 1, .none⟩), (END + x, ⟨h + 1, nn + 1, .none⟩)] := by
  unfold maxCode at hn
  have hX : Outside [(END + rl, (⟨h + 1, nn + 1, .none⟩ : Ann)), (END + x, ⟨h + 1, nn + 1, .none⟩)] o _ :=
    .cons (Or.inr (Nat.le_trans (Nat.le_of_eq hEND) (Nat.le_add_right _ _)))
      (.cons (Or.inr (Nat.le_trans (Nat.le_of_eq hEND) (Nat.le_add_right _ _))) .nil)
  simp only [List.length_append, List.length_cons, List.length_nil] at hEND
  have hX3 := hX.right.right.right
  have hX6 := hX3.right.right.right
  refine .seq hpre.lift (.seq (c1 := [.load nn]) (Blk.load (Nat.lt_succ_self nn)).typed
    (.seq hc.lift (.seq (nilTest_typed (t := END + x) hn ?_ (by omega)
        (.tail (.head (Fits.plain rfl (Nat.le_refl _)))) hX3.left)
      (.seq (c1 := [.pop, .load nn]) (.cons Blk.pop (Blk.load ?_).typed hX3.right.left) (.seq
        (hcc.lift.enter (Fits.plain rfl (Nat.le_trans (Nat.le_max_left g _) (Nat.le_max_left _ _))))
        (.seq (resetIf_typed (Nat.le_refl _)) ?_ hX6) hX3.right.right) hX3.right) hX3) hX.right.right) hX.right) hX
  · simp only [List.length_singleton]; omega
  · exact Nat.lt_of_lt_of_le (Nat.lt_succ_self nn) (Nat.le_max_right _ _)
  · cases restNil with
    | true => exact .nil (Fits.refl _)
    | false =>
      simp only [Bool.false_eq_true, if_false, List.length_cons, List.length_nil] at hEND hX6 ⊢
      exact (Blk.jumpFwd hn (by omega) (by omega) (.head (Fits.refl _))).typed

/-- `branchSome_typed` with `T` spelt out: the branch's cleanup block if the condition has bindings (`g > nn + 1`), the
next branch — this branch's own end — otherwise. -/
theorem branch_some_blk (hn : n < maxCode) {pre c1 cc1 : List Instr} {e : Ann} {Apre Ac Acc : List Ann}
    {g g2 rl k off : Nat} (restNil : Bool) (hg : nn + 1 ≤ g)
    (hpre : Blk P caps n o pre e Apre ⟨h, nn + 1, .none⟩ [])
    (hc : Blk P caps n (o + pre.length + 1) c1 ⟨h + 1, nn + 1, .none⟩ Ac ⟨h + 1, nn + 1, .top g⟩ [])
    (hcc : Blk P caps n (o + pre.length + 1 + c1.length + 3 + 2) cc1 ⟨h + 1, g, .none⟩ Acc
      ⟨h + 1, nn + 1, .top g2⟩ [])
    (hoff : off = if g > nn + 1
      then 2 + cc1.length + (resetIf g2 nn).length + (if restNil then [] else [Instr.jump (rl : Int)]).length + rl + 2 + 2 * k
      else 2 + cc1.length + (resetIf g2 nn).length + (if restNil then [] else [Instr.jump (rl : Int)]).length)
    (hb : o + (pre ++ ([Instr.load nn] ++ (c1 ++ ([Instr.duplicate, .not, .jumpIf (off : Int)] ++
      ([Instr.pop, .load nn] ++ (cc1 ++ (resetIf g2 nn ++
        (if restNil then [] else [Instr.jump (rl : Int)])))))))).length + rl +
        (if g > nn + 1 then 2 + 2 * k else 0) ≤ n) :
    ∃ A, Blk P caps n o (pre ++ ([Instr.load nn] ++ (c1 ++ ([Instr.duplicate, .not, .jumpIf (off : Int)] ++
      ([Instr.pop, .load nn] ++ (cc1 ++ (resetIf g2 nn ++
        (if restNil then [] else [Instr.jump (rl : Int)])))))))) e A ⟨h + 1, nn + 1, .none⟩
      [(o + (pre ++ ([Instr.load nn] ++ (c1 ++ ([Instr.duplicate, .not, .jumpIf (off : Int)] ++
        ([Instr.pop, .load nn] ++ (cc1 ++ (resetIf g2 nn ++
          (if restNil then [] else [Instr.jump (rl : Int)])))))))).length + rl, ⟨h + 1, nn + 1, .none⟩),
       (o + (pre ++ ([Instr.load nn] ++ (c1 ++ ([Instr.duplicate, .not, .jumpIf (off : Int)] ++
        ([Instr.pop, .load nn] ++ (cc1 ++ (resetIf g2 nn ++
          (if restNil then [] else [Instr.jump (rl : Int)])))))))).length + rl + (if g > nn + 1 then 2 + 2 * k else 0),
        ⟨h + 1, nn + 1, .none⟩)] := by
  have hle := Nat.le_trans (Nat.le_add_right _ _) (Nat.le_trans (Nat.le_add_right _ _) hb)
  by_cases hneeds : g > nn + 1
  · rw [if_pos hneeds] at hoff hb ⊢
    rw [Nat.add_assoc _ rl] at hb ⊢
    exact branchSome_typed hn restNil hpre.typed hc.typed hcc.typed (by rw [hoff, Nat.add_assoc, Nat.add_assoc]) rfl
      ((Nat.max_eq_right (Nat.le_add_right _ _)).symm ▸ hb) hle
  · -- the `JumpIf` leads to the branch's own end
    rw [if_neg hneeds] at hoff hb ⊢
    exact (branchSome_typed hn restNil hpre.typed hc.typed hcc.typed (x := 0) hoff rfl
      ((Nat.max_eq_left (Nat.zero_le _)).symm ▸ hb)).exit_end
      (List.forall_mem_cons.mpr ⟨Or.inl List.mem_cons_self, List.forall_mem_cons.mpr ⟨Or.inr rfl, nofun⟩⟩) hle

end Branches

mutual
  def scT (Γ : List String) : T2 → Prop
    | .var x => ∃ i, slot Γ x = some i
    | .tup _ fs => scFs Γ fs
    | .block bs => scBrs (Γ ++ [""]) bs
    | _ => True
  def scCh (Γ : List String) : Ch2 → Prop
    | .nil => True
    | .cons t r => scT Γ t ∧ scCh (compileT Γ t).2 r
  def scFs (Γ : List String) : Fs2 → Prop
    | .nil => True
    | .cons c r => scCh Γ c ∧ scFs (compileCh Γ c).2 r
  def scSq (Γ : List String) : Sq2 → Prop
    | .last c => scCh Γ c
    | .cons c r => scCh Γ c ∧ scSq (compileCh Γ c).2 r
  def scBrs (Γp : List String) : Brs2 → Prop
    | .nil => True
    | .cons cond .none rest => scSq Γp cond ∧ scBrs Γp rest
    | .cons cond (.some cons) rest => scSq Γp cond ∧ scSq (compileSq Γp cond).2 cons ∧ scBrs Γp rest
end

mutual
theorem compileT_len : (t : T2) → (Γ : List String) → Γ.length ≤ (compileT Γ t).2.length
  | .int _ _, _ | .ripple, _ | .var _, _ | .block _, _ => Nat.le_refl _
  | .tup _ fs, Γ => compileFs_len fs Γ 0
  | .mtch _, _ => List.length_append ▸ Nat.le_add_right _ _
theorem compileCh_len : (c : Ch2) → (Γ : List String) → Γ.length ≤ (compileCh Γ c).2.length
  | .nil, _ => Nat.le_refl _
  | .cons t r, Γ => Nat.le_trans (compileT_len t Γ) (compileCh_len r _)
theorem compileFs_len : (fs : Fs2) → (Γ : List String) → (k : Nat) → Γ.length ≤ (compileFs Γ fs k).2.length
  | .nil, _, _ => Nat.le_refl _
  | .cons c r, Γ, k => Nat.le_trans (compileCh_len c Γ) (compileFs_len r _ (k + 1))
theorem compileSq_len : (sq : Sq2) → (Γ : List String) → Γ.length ≤ (compileSq Γ sq).2.length
  | .last c, Γ => compileCh_len c Γ
  | .cons c r, Γ => Nat.le_trans (compileCh_len c Γ) (compileSq_len r _)
end

/-- exits of the branches' main code: the parameter clear at `PC`, or a cleanup block (`lo ≤ pc < hi`),
always with the value on the stack and the block's locals plus the parameter -/
def BrExt (PC lo hi : Nat) (a1 : Ann) : Nat → Ann → Prop :=
  fun pc out => (pc = PC ∨ (lo ≤ pc ∧ pc < hi)) ∧ Fits out a1

theorem Flow.fitsBr {o : Nat} {A : List Ann} {PC lo hi : Nat} {a1 : Ann} {pc : Nat} {out out' : Ann}
    (hf : Fits out' out) (h : Flow o A (BrExt PC lo hi a1) pc out) : Flow o A (BrExt PC lo hi a1) pc out' :=
  h.imp (Hit.fits hf) fun ⟨hout, hext⟩ => ⟨hout, hext.1, hf.trans hext.2⟩

/-- Branches checked: the main code at `o` ends exactly at the parameter clear `PC`, the cleanup blocks
lie at `PC + 2 + 2k`; each cleanup block jumps back INTO the main code (the next branch), so its exits
are typed against the main code's annotations. `e` is the state in which the first of the branches
is entered. -/
abbrev BrsOk (P : Prog) (caps n o h nn k : Nat) (e : Ann) (main cleanup : List Instr) : Prop :=
  ∃ Am, Seg P caps n o main Am
      (BrExt (o + main.length) (o + main.length + 2 + 2 * k) (o + main.length + 2 + 2 * k + cleanup.length)
        ⟨h + 1, nn + 1, .none⟩) ∧
    Flow o Am (BrExt (o + main.length) (o + main.length + 2 + 2 * k) (o + main.length + 2 + 2 * k + cleanup.length)
        ⟨h + 1, nn + 1, .none⟩) o e ∧
    Seg P caps n (o + main.length + 2 + 2 * k) cleanup (List.replicate cleanup.length ⟨h + 1, nn + 1, .none⟩)
      (fun pc out => Flow o Am (BrExt (o + main.length) (o + main.length + 2 + 2 * k)
        (o + main.length + 2 + 2 * k + cleanup.length) ⟨h + 1, nn + 1, .none⟩) pc out)

/-- `BrsOk`, provided the main code and the cleanup blocks fit into the function -/
def BrsTyped (P : Prog) (caps n o h nn k : Nat) (e : Ann) (main cleanup : List Instr) : Prop :=
  o + main.length ≤ n → (cleanup ≠ [] → o + main.length + 2 + 2 * k + cleanup.length ≤ n) →
    BrsOk P caps n o h nn k e main cleanup

section BrsStep
variable {P : Prog} {caps n o h nn : Nat}

theorem brsNil_typed {k : Nat} : BrsTyped P caps n o h nn k ⟨h + 1, nn + 1, .none⟩ [] [] :=
  fun _ _ => ⟨[], Seg.nil,
    Or.inr ⟨fun hin => Nat.lt_irrefl _ (Nat.lt_of_lt_of_le hin.2 hin.1), Or.inl rfl, Fits.refl _⟩, Seg.nil⟩

/-- The main code of one more branch `br` in front of the main code `rm` already typed. `T` is the
branch's second exit: the parameter clear again, or this branch's cleanup block. -/
theorem brs_main {br rm : List Instr} {e a1 : Ann} {Ab Amr : List Ann} {PC lo lo' hi T : Nat}
    (hb : Blk P caps n o br e Ab a1 [(PC, a1), (T, a1)]) (hPC : PC = o + br.length + rm.length)
    (hR : Seg P caps n (o + br.length) rm Amr (BrExt PC lo' hi a1))
    (hE : Flow (o + br.length) Amr (BrExt PC lo' hi a1) (o + br.length) a1)
    (hlo : PC ≤ lo ∧ lo ≤ lo') (hT : T = PC ∨ (lo ≤ T ∧ T < hi)) :
    Seg P caps n o (br ++ rm) (Ab ++ Amr) (BrExt PC lo hi a1) ∧
      Flow o (Ab ++ Amr) (BrExt PC lo hi a1) o e ∧
      (∀ pc out, Flow (o + br.length) Amr (BrExt PC lo' hi a1) pc out →
        Flow o (Ab ++ Amr) (BrExt PC lo hi a1) pc out) := by
  have hlb := hb.seg.len
  -- an exit of the rest is an exit of the whole: it lies at or after `PC`
  have hB : ∀ {pc out}, (pc = PC ∨ (lo ≤ pc ∧ pc < hi)) → Fits out a1 →
      Flow o (Ab ++ Amr) (BrExt PC lo hi a1) pc out := fun h1 h2 =>
    Or.inr ⟨fun hin => by
      have := hin.2
      rw [List.length_append, hlb, hR.len] at this
      omega, h1, h2⟩
  have liftG : ∀ pc out, Flow (o + br.length) Amr (BrExt PC lo' hi a1) pc out →
      Flow o (Ab ++ Amr) (BrExt PC lo hi a1) pc out := fun pc out hf =>
    (hlb ▸ hf).right fun _ (he : (pc = PC ∨ (lo' ≤ pc ∧ pc < hi)) ∧ Fits out a1) =>
      hB (he.1.imp_right fun (h : lo' ≤ pc ∧ pc < hi) => ⟨Nat.le_trans hlo.2 h.1, h.2⟩) he.2
  have x1 : ∀ pc out, Exits ((o + br.length, a1) :: [(PC, a1), (T, a1)]) pc out →
      Flow o (Ab ++ Amr) (BrExt PC lo hi a1) pc out := by
    rintro pc out ⟨x, hx, rfl, hfit⟩
    simp only [List.mem_cons, List.not_mem_nil, or_false] at hx
    rcases hx with rfl | rfl | rfl
    · exact liftG _ _ (Flow.fitsBr hfit hE)
    · exact hB (Or.inl rfl) hfit
    · exact hB (hT.imp_right id) hfit
  exact ⟨Seg.append hb.seg hR (fun pc out _ => x1 pc out) (fun pc out _ he => liftG pc out (Or.inr ⟨‹_›, he⟩)),
    hb.entry.lift_left fun _ => x1 _ _, liftG⟩

theorem Flow.fits_of_ge {A : List Ann} {PC lo hi pc : Nat} {a1 out : Ann}
    (h : Flow o A (BrExt PC lo hi a1) pc out) (hge : o + A.length ≤ pc) : Fits out a1 :=
  h.elim (fun hh => absurd hh.1.2 (Nat.not_lt.mpr hge)) fun hh => hh.2.2

/-- Adjacent segments annotated with the same state `a` throughout (the cleanup blocks): whatever
leaves one of them arrives in the pair fitting `a`, or leaves the pair correctly. -/
theorem Seg.append_replicate {lo : Nat} {c1 c2 : List Instr} {a : Ann} {ext1 ext2 ext : Nat → Ann → Prop}
    (h1 : Seg P caps n lo c1 (List.replicate c1.length a) ext1)
    (h2 : Seg P caps n (lo + c1.length) c2 (List.replicate c2.length a) ext2)
    (e1 : ∀ pc out, ext1 pc out →
      (InR lo (c1 ++ c2).length pc → Fits out a) ∧ (¬ InR lo (c1 ++ c2).length pc → ext pc out))
    (e2 : ∀ pc out, ext2 pc out →
      (InR lo (c1 ++ c2).length pc → Fits out a) ∧ (¬ InR lo (c1 ++ c2).length pc → ext pc out)) :
    Seg P caps n lo (c1 ++ c2) (List.replicate (c1 ++ c2).length a) ext := by
  have key : ∀ pc out, (InR lo (c1 ++ c2).length pc → Fits out a) ∧ (¬ InR lo (c1 ++ c2).length pc → ext pc out) →
      Flow lo (List.replicate (c1 ++ c2).length a) ext pc out := fun pc out hh => by
    by_cases hin : InR lo (c1 ++ c2).length pc
    · exact Or.inl (Hit.replicate hin (hh.1 hin))
    · exact Or.inr ⟨by rwa [List.length_replicate], hh.2 hin⟩
  have hr : List.replicate (c1 ++ c2).length a = List.replicate c1.length a ++ List.replicate c2.length a := by
    rw [List.length_append, List.replicate_append_replicate]
  rw [hr] at key ⊢
  exact Seg.append h1 h2 (fun pc out _ h => key pc out (e1 pc out h)) (fun pc out _ h => key pc out (e2 pc out h))

/-- A branch's cleanup block `Reset(n+1), Jump(→ t)` (`t` = the next branch, in the main code) in
front of the cleanup blocks `rc`: what flows into the cleanup blocks fits their uniform annotation,
the jump leaves for the main code. -/
theorem cleanup_step {lo t : Nat} {off : Int} {rc : List Instr} {G G' : Nat → Ann → Prop}
    (hC : Seg P caps n (lo + [Instr.reset (nn + 1)].length + [Instr.jump off].length) rc
      (List.replicate rc.length ⟨h + 1, nn + 1, .none⟩) G')
    (ht : (lo : Int) + 1 + off + 1 = t) (htn : t ≤ n) (hoff : off < 2 ^ 62) (hlt : t < lo)
    (hmid : ∀ out, Fits out ⟨h + 1, nn + 1, .none⟩ → G t out)
    (hG' : ∀ pc out, G' pc out → (lo ≤ pc → Fits out ⟨h + 1, nn + 1, .none⟩) ∧ G pc out)
    (hG : ∀ pc out, G pc out → lo ≤ pc → Fits out ⟨h + 1, nn + 1, .none⟩) :
    Seg P caps n lo ([.reset (nn + 1), .jump off] ++ rc)
      (List.replicate ([Instr.reset (nn + 1), .jump off] ++ rc).length ⟨h + 1, nn + 1, .none⟩) G := by
  refine Seg.append_replicate (c1 := [.reset (nn + 1)])
    (Seg.one (succs := [(_, ⟨h + 1, nn + 1, .none⟩)]) (by simp [transfer])
      (ext := fun pc out => pc = lo + 1 ∧ Fits out ⟨h + 1, nn + 1, .none⟩)
      fun s hs => List.mem_singleton.mp hs ▸ ⟨Nat.succ_ne_self _, rfl, Fits.refl _⟩)
    (Seg.append_replicate (c1 := [.jump off]) (ext := G)
      (Seg.one (transfer_jump (t := t) ht htn hoff)
        (ext := fun pc out => pc = t ∧ Fits out ⟨h + 1, nn + 1, .none⟩)
        fun s hs => List.mem_singleton.mp hs ▸ ⟨Nat.ne_of_lt (Nat.lt_succ_of_lt hlt), rfl, Fits.refl _⟩)
      hC ?_ ?_) ?_ ?_
  · rintro pc out ⟨rfl, hfit⟩
    exact ⟨fun _ => hfit, fun _ => hmid out hfit⟩
  · intro pc out hf
    exact ⟨fun hin => (hG' pc out hf).1 (Nat.le_trans (Nat.le_succ _) hin.1), fun _ => (hG' pc out hf).2⟩
  · rintro pc out ⟨rfl, hfit⟩
    exact ⟨fun _ => hfit, fun hni => absurd ⟨Nat.le_succ _, Nat.add_lt_add_left (Nat.succ_lt_succ (Nat.succ_pos _)) _⟩ hni⟩
  · intro pc out hf
    exact ⟨fun hin => hG pc out hf hin.1, fun _ => hf⟩

/-- One more branch in front of the branches already checked: its code `br` goes in front of the main
code, its cleanup block (if it `needs` one) in front of the cleanup blocks. The branch leaves for the parameter
clear, or for its cleanup block. -/
theorem BrsOk.step (needs : Bool) {br rm rc : List Instr} {e : Ann} {Ab : List Ann} {k : Nat}
    (hbr : Blk P caps n o br e Ab ⟨h + 1, nn + 1, .none⟩
      [(o + br.length + rm.length, ⟨h + 1, nn + 1, .none⟩),
       (o + br.length + rm.length + (if needs then 2 + 2 * k else 0), ⟨h + 1, nn + 1, .none⟩)])
    (hr : BrsOk P caps n (o + br.length) h nn (if needs then k + 1 else k) ⟨h + 1, nn + 1, .none⟩ rm rc)
    (hle : o + br.length ≤ n) :
    BrsOk P caps n o h nn k e (br ++ rm)
      ((if needs then [Instr.reset (nn + 1), .jump (-((rm.length + 2 * k + 4 : Nat) : Int))] else []) ++ rc) := by
  obtain ⟨Amr, hR, hE, hC⟩ := hr
  unfold BrsOk
  rw [List.length_append, ← Nat.add_assoc]
  cases needs with
  | false =>
    simp only [Bool.false_eq_true, if_false, List.nil_append] at hbr hR hE hC ⊢
    obtain ⟨h1, h2, liftG⟩ := brs_main (lo := o + br.length + rm.length + 2 + 2 * k) hbr rfl hR hE
      ⟨Nat.le_trans (Nat.le_add_right _ 2) (Nat.le_add_right _ _), Nat.le_refl _⟩ (Or.inl rfl)
    exact ⟨_, h1, h2, hC.mono fun pc out _ => liftG pc out⟩
  | true =>
    simp only [if_true] at hbr hR hE hC ⊢
    have hcl : ([Instr.reset (nn + 1), .jump (-((rm.length + 2 * k + 4 : Nat) : Int))] ++ rc).length =
        rc.length + 2 := by simp only [List.length_append, List.length_cons, List.length_nil]; omega
    have hhi : o + br.length + rm.length + 2 + 2 * (k + 1) + rc.length = o + br.length + rm.length + 2 + 2 * k +
        ([Instr.reset (nn + 1), .jump (-((rm.length + 2 * k + 4 : Nat) : Int))] ++ rc).length := by omega
    rw [hhi] at hR hE hC
    obtain ⟨h1, h2, liftG⟩ := brs_main (lo := o + br.length + rm.length + 2 + 2 * k) hbr rfl hR hE
      ⟨Nat.le_trans (Nat.le_add_right _ 2) (Nat.le_add_right _ _),
        Nat.add_le_add_left (Nat.mul_le_mul_left 2 (Nat.le_succ k)) _⟩ (Or.inr ⟨by omega, by omega⟩)
    have hlm : o + (Ab ++ Amr).length = o + br.length + rm.length := by
      rw [List.length_append, hbr.seg.len, hR.len, Nat.add_assoc]
    have hpos : o + br.length + rm.length + 2 + 2 * (k + 1) = o + br.length + rm.length + 2 + 2 * k +
        [Instr.reset (nn + 1)].length + [Instr.jump (-((rm.length + 2 * k + 4 : Nat) : Int))].length := by
      simp only [List.length_singleton]
      omega
    rw [hpos] at hC
    exact ⟨_, h1, h2, cleanup_step hC (t := o + br.length) (by push_cast; omega) (by omega) (by omega) (by omega)
      (fun out hfit => liftG _ _ (Flow.fitsBr hfit hE))
      (fun pc out hf => ⟨fun hge => Flow.fits_of_ge hf (by rw [hR.len]; omega), liftG pc out hf⟩)
      (fun pc out hf hge => Flow.fits_of_ge hf (by omega))⟩


/-- `BrsOk.step` with every position and count named -/
theorem brs_step (hn : n < maxCode) {br rm rc : List Instr} {e : Ann} {Ab Amr : List Ann} {k k' d PC : Nat}
    (needs : Bool) (hk' : k' = if needs then k + 1 else k) (hd : d = if needs then 2 + 2 * k else 0)
    (hPC : PC = o + br.length + rm.length) (hbrne : br ≠ [])
    (hbr : Blk P caps n o br e Ab ⟨h + 1, nn + 1, .none⟩
      [(PC, ⟨h + 1, nn + 1, .none⟩), (PC + d, ⟨h + 1, nn + 1, .none⟩)])
    (hR : Seg P caps n (o + br.length) rm Amr
      (BrExt PC (PC + 2 + 2 * k') (PC + 2 + 2 * k' + rc.length) ⟨h + 1, nn + 1, .none⟩))
    (hE : Flow (o + br.length) Amr
      (BrExt PC (PC + 2 + 2 * k') (PC + 2 + 2 * k' + rc.length) ⟨h + 1, nn + 1, .none⟩) (o + br.length)
      ⟨h + 1, nn + 1, .none⟩)
    (hC : Seg P caps n (PC + 2 + 2 * k') rc (List.replicate rc.length ⟨h + 1, nn + 1, .none⟩)
      (fun pc out => Flow (o + br.length) Amr
        (BrExt PC (PC + 2 + 2 * k') (PC + 2 + 2 * k' + rc.length) ⟨h + 1, nn + 1, .none⟩) pc out))
    (hle : PC ≤ n) :
    ∃ Am, Seg P caps n o (br ++ rm) Am
        (BrExt PC (PC + 2 + 2 * k) (PC + 2 + 2 * k +
          ((if needs then [Instr.reset (nn + 1), .jump (-((rm.length + 2 * k + 4 : Nat) : Int))] else []) ++ rc).length)
          ⟨h + 1, nn + 1, .none⟩) ∧
      Flow o Am (BrExt PC (PC + 2 + 2 * k) (PC + 2 + 2 * k +
          ((if needs then [Instr.reset (nn + 1), .jump (-((rm.length + 2 * k + 4 : Nat) : Int))] else []) ++ rc).length)
          ⟨h + 1, nn + 1, .none⟩) o e ∧
      Seg P caps n (PC + 2 + 2 * k)
        ((if needs then [Instr.reset (nn + 1), .jump (-((rm.length + 2 * k + 4 : Nat) : Int))] else []) ++ rc)
        (List.replicate ((if needs then [Instr.reset (nn + 1), .jump (-((rm.length + 2 * k + 4 : Nat) : Int))] else []) ++ rc).length
          ⟨h + 1, nn + 1, .none⟩)
        (fun pc out => Flow o Am (BrExt PC (PC + 2 + 2 * k) (PC + 2 + 2 * k +
          ((if needs then [Instr.reset (nn + 1), .jump (-((rm.length + 2 * k + 4 : Nat) : Int))] else []) ++ rc).length)
          ⟨h + 1, nn + 1, .none⟩) pc out) := by
  subst hk' hd hPC
  have := BrsOk.step needs hbr ⟨Amr, hR, hE, hC⟩ (Nat.le_trans (Nat.le_add_right _ _) hle)
  unfold BrsOk at this
  rwa [List.length_append, ← Nat.add_assoc] at this

/-- `BrsOk.step` with the branch as a `Typed` block and the rest as `BrsTyped`: the bounds go where they are
needed, and a branch without cleanup block, whose `JumpIf` leads to its own end, has the parameter
clear as its only exit. -/
theorem brs_step_typed (needs : Bool) {br rm rc : List Instr} {e : Ann} {k END : Nat}
    (hEND : o + br.length = END)
    (hbr : Typed P caps n o br e ⟨h + 1, nn + 1, .none⟩
      [(END + rm.length, ⟨h + 1, nn + 1, .none⟩),
       (END + (if needs then rm.length + 2 + 2 * k else 0), ⟨h + 1, nn + 1, .none⟩)])
    (hr : BrsTyped P caps n END h nn (if needs then k + 1 else k) ⟨h + 1, nn + 1, .none⟩ rm rc) :
    BrsTyped P caps n o h nn k e (br ++ rm)
      ((if needs then [Instr.reset (nn + 1), .jump (-((rm.length + 2 * k + 4 : Nat) : Int))] else []) ++ rc) := by
  subst hEND
  intro hle1 hle2
  rw [List.length_append, ← Nat.add_assoc] at hle1 hle2
  have hle := Nat.le_trans (Nat.le_add_right _ _) hle1
  cases needs with
  | false =>
    obtain ⟨Ab, hb⟩ := hbr.exit_end (X' := [(o + br.length + rm.length, ⟨h + 1, nn + 1, .none⟩),
      (o + br.length + rm.length + 0, ⟨h + 1, nn + 1, .none⟩)]) (by simp) hle
    exact BrsOk.step false hb (hr hle1 hle2) hle
  | true =>
    have hle2' := hle2 (fun hh => by cases hh)
    obtain ⟨Ab, hb⟩ := hbr hle
    simp only [if_true, List.length_append, List.length_cons, List.length_nil] at hb hle2'
    have e : o + br.length + (rm.length + 2 + 2 * k) = o + br.length + rm.length + (2 + 2 * k) := by omega
    exact BrsOk.step true (e ▸ hb) (hr hle1 (fun _ => by simp only [if_true]; omega)) hle

/-- compile_scoped_expression: `Store`, the branches, the parameter clear `Reset(n)`, the jump over
the cleanup blocks, the cleanup blocks. The block leaves the locals as it found them. -/
theorem block_typed (hn : n < maxCode) {main cleanup : List Instr}
    (hbrs : BrsTyped P caps n (o + 1) h nn 0 ⟨h, nn + 1, .none⟩ main cleanup) :
    Typed P caps n o ([.store] ++ (main ++ ([.reset nn] ++
      ((if cleanup = [] then [] else [.jump ((cleanup.length : Nat) : Int)]) ++ cleanup))))
      ⟨h + 1, nn, .none⟩ ⟨h + 1, nn, .none⟩ [] := by
  intro hle
  unfold maxCode at hn
  let a1 : Ann := ⟨h + 1, nn + 1, .none⟩
  let bOut : Ann := ⟨h + 1, nn, .none⟩
  suffices hrest : ∃ Ar, Blk P caps n (o + [Instr.store].length) (main ++ ([.reset nn] ++
      ((if cleanup = [] then [] else [.jump ((cleanup.length : Nat) : Int)]) ++ cleanup)))
      ⟨h, nn + 1, .none⟩ Ar bOut [] from
    let ⟨Ar, hr⟩ := hrest
    ⟨_, Blk.store.append hr .nil⟩
  simp only [List.length_append, List.length_cons, List.length_nil] at hle
  by_cases hcl : cleanup = []
  · -- no cleanup blocks: the parameter clear is the last instruction
    subst hcl
    obtain ⟨Am, hM, hE, -⟩ := hbrs (by omega) (fun hne => absurd rfl hne)
    simp only [if_true, List.nil_append, List.length_nil, Nat.mul_zero, Nat.add_zero] at hM hE ⊢
    have hlm := hM.len
    -- an exit of the main code arrives at the parameter clear
    have x1 : ∀ pc out, BrExt (o + 1 + main.length) (o + 1 + main.length + 2) (o + 1 + main.length + 2) a1 pc out →
        Flow (o + 1) (Am ++ [a1]) (Exits [(o + 1 + (main ++ [Instr.reset nn]).length, bOut)]) pc out := by
      rintro pc out ⟨h1 | h1, hfit⟩
      · exact Or.inl (Hit.right ((Hit.head hfit).at (by omega)))
      · omega
    refine ⟨_, Seg.append hM (Blk.reset (h := h + 1) (g := .none) (X := []) (Nat.le_succ nn)).seg (fun pc out _ => x1 pc out) ?_,
      hE.lift_left fun _ => x1 _ _⟩
    rintro pc out - ⟨e, he, rfl, hfit⟩
    obtain rfl := List.mem_singleton.mp he
    refine Or.inr ⟨fun hin => ?_, _, List.mem_cons_self, ?_, hfit⟩
    · have := hin.2
      rw [List.length_append, hlm] at this
      exact Nat.lt_irrefl _ (Nat.add_assoc .. ▸ this)
    · rw [List.length_append, Nat.add_assoc]
      rfl
  · -- cleanup blocks after the parameter clear and the jump over them
    have hclpos : 0 < cleanup.length := List.length_pos_iff.mpr hcl
    simp only [hcl, if_false, List.length_cons, List.length_nil] at hle ⊢
    obtain ⟨Am, hM, hE, hC⟩ := hbrs (by omega) (fun _ => by omega)
    simp only [Nat.mul_zero, Nat.add_zero] at hM hE hC
    have hlm := hM.len
    generalize hEND : o + 1 + main.length + 2 + cleanup.length = END at *
    have hRJ : Blk P caps n (o + 1 + main.length) [.reset nn, .jump ((cleanup.length : Nat) : Int)] a1 [a1, bOut] a1
        [(END, bOut)] :=
      Blk.append (c1 := [.reset nn]) (Blk.reset (Nat.le_succ nn))
        (Blk.jumpFwd (by unfold maxCode; exact hn) (by simp only [List.length_singleton]; omega) (by omega)
          (.head (Fits.refl _)))
        (.cons (Or.inr (by rw [← hEND]; exact Nat.le_add_right _ _)) .nil)
    -- a flow out of the main code: into the main code, or to the parameter clear / a cleanup block
    have xB : ∀ pc out, BrExt (o + 1 + main.length) (o + 1 + main.length + 2) END a1 pc out →
        Hit (o + 1) (Am ++ ([a1, bOut] ++ List.replicate cleanup.length a1)) pc out := by
      rintro pc out ⟨h1 | h1, hfit⟩
      · exact Hit.right ((Hit.head hfit).at (by omega))
      · exact Hit.right (Hit.right (A1 := [a1, bOut]) (Hit.replicate ⟨by
          simp only [List.length_cons, List.length_nil]; omega, by
          simp only [List.length_cons, List.length_nil]; omega⟩ hfit))
    have hend : o + 1 + (main ++ ([Instr.reset nn] ++ ([Instr.jump ((cleanup.length : Nat) : Int)] ++ cleanup))).length =
        END := by
      simp only [List.length_append, List.length_cons, List.length_nil]
      omega
    have hlen : o + 1 + (Am ++ ([a1, bOut] ++ List.replicate cleanup.length a1)).length = END := by
      simp only [List.length_append, List.length_cons, List.length_nil, List.length_replicate, hlm]
      omega
    have xE : ∀ out, Fits out bOut → Flow (o + 1) (Am ++ ([a1, bOut] ++ List.replicate cleanup.length a1))
        (Exits [(o + 1 + (main ++ ([Instr.reset nn] ++ ([Instr.jump ((cleanup.length : Nat) : Int)] ++ cleanup))).length,
          bOut)]) END out := fun out hfit =>
      Or.inr ⟨fun hin => Nat.lt_irrefl _ (hlen ▸ hin.2), _, List.mem_cons_self, hend.symm, hfit⟩
    -- everything that leaves `Reset(n), Jump` or a cleanup block arrives in the block's annotations, or at its end
    have hT : Seg P caps n (o + 1 + main.length) ([.reset nn, .jump ((cleanup.length : Nat) : Int)] ++ cleanup)
        ([a1, bOut] ++ List.replicate cleanup.length a1)
        (fun pc out => Flow (o + 1) (Am ++ ([a1, bOut] ++ List.replicate cleanup.length a1))
          (Exits [(o + 1 + (main ++ ([Instr.reset nn] ++ ([Instr.jump ((cleanup.length : Nat) : Int)] ++ cleanup))).length,
            bOut)]) pc out) := by
      refine Seg.append hRJ.seg hC ?_ ?_
      · rintro pc out - ⟨e, he, rfl, hfit⟩
        simp only [List.mem_cons, List.not_mem_nil, or_false] at he
        rcases he with rfl | rfl
        · exact Or.inl (Hit.right (A1 := [a1, bOut])
            (Hit.replicate ⟨Nat.le_refl _, Nat.lt_add_of_pos_right hclpos⟩ hfit))
        · exact Or.inr ⟨fun hin => by
            have := hin.2
            simp only [List.length_append, List.length_cons, List.length_nil, List.length_replicate] at this
            omega, xE out hfit⟩
      · intro pc out hni hf
        rw [List.length_replicate] at hni
        rcases hf with hh | ⟨-, ⟨rfl | h3, hfit⟩⟩
        · exact Or.inr ⟨fun hin => Nat.lt_irrefl pc (Nat.lt_of_lt_of_le hh.1.2 (hlm ▸ hin.1)), Or.inl (Hit.left hh)⟩
        · exact Or.inl (Hit.head hfit)
        · exact absurd ⟨h3.1, by simp only [List.length_cons, List.length_nil]; omega⟩ hni
    exact ⟨_, Seg.append hM hT (fun pc out _ hh => Or.inl (xB pc out hh)) (fun pc out _ hh => hh),
      hE.lift_left fun _ hh => Or.inl (xB _ _ hh)⟩

theorem block_blk (hn : n < maxCode) {main cleanup : List Instr} {Am : List Ann} {PC : Nat}
    (hPC : PC = o + 1 + main.length)
    (hM : Seg P caps n (o + 1) main Am (BrExt PC (PC + 2 + 2 * 0) (PC + 2 + 2 * 0 + cleanup.length) ⟨h + 1, nn + 1, .none⟩))
    (hE : Flow (o + 1) Am (BrExt PC (PC + 2 + 2 * 0) (PC + 2 + 2 * 0 + cleanup.length) ⟨h + 1, nn + 1, .none⟩) (o + 1)
      ⟨h, nn + 1, .none⟩)
    (hC : Seg P caps n (PC + 2 + 2 * 0) cleanup (List.replicate cleanup.length ⟨h + 1, nn + 1, .none⟩)
      (fun pc out => Flow (o + 1) Am (BrExt PC (PC + 2 + 2 * 0) (PC + 2 + 2 * 0 + cleanup.length) ⟨h + 1, nn + 1, .none⟩) pc out))
    (hle : o + ([Instr.store] ++ (main ++ ([Instr.reset nn] ++
      ((if cleanup = [] then [] else [Instr.jump ((cleanup.length : Nat) : Int)]) ++ cleanup)))).length ≤ n) :
    ∃ A, Blk P caps n o ([Instr.store] ++ (main ++ ([Instr.reset nn] ++
      ((if cleanup = [] then [] else [Instr.jump ((cleanup.length : Nat) : Int)]) ++ cleanup))))
      ⟨h + 1, nn, .none⟩ A ⟨h + 1, nn, .none⟩ [] := by
  subst hPC
  exact block_typed hn (fun _ _ => ⟨Am, hM, hE, hC⟩) hle

theorem brsNone_typed (hn : n < maxCode) (first restNil : Bool) {c rm rc : List Instr} {g k : Nat}
    (hc : ∀ o, Typed P caps n o c ⟨h + 1, nn + 1, .none⟩ ⟨h + 1, nn + 1, .top g⟩ [])
    (hr : ∀ o, BrsTyped P caps n o h nn k ⟨h + 1, nn + 1, .none⟩ rm rc) :
    BrsTyped P caps n o h nn k (brEntry first h nn)
      ((if first then [] else [.pop]) ++ ([.load nn] ++ (c ++ (resetIf g nn ++
        ((if restNil then [] else [.duplicate, .jumpIf (rm.length : Int)]) ++ rm))))) rc := by
  have e : (if first then [] else [Instr.pop]) ++ ([Instr.load nn] ++ (c ++ (resetIf g nn ++
      ((if restNil then [] else [Instr.duplicate, .jumpIf (rm.length : Int)]) ++ rm)))) =
      ((if first then [] else [Instr.pop]) ++ ([Instr.load nn] ++ (c ++ (resetIf g nn ++
        (if restNil then [] else [Instr.duplicate, .jumpIf (rm.length : Int)]))))) ++ rm := by
    simp only [List.append_assoc]
  rw [e]
  intro hle1 hle2
  exact brs_step_typed false rfl
    ((branchNone_typed hn restNil (brPre_typed first h nn) (hc _) rfl (by
      rw [List.length_append, ← Nat.add_assoc] at hle1
      exact hle1)).weaken fun _ he => List.mem_singleton.mp he ▸ List.mem_cons_self) (hr _) hle1 hle2

/-- `compileBrs` on a branch with a consequence; `needs` = the condition has bindings, so the branch
has a cleanup block -/
theorem brsSome_typed (hn : n < maxCode) (first restNil needs : Bool) {c cc rm rc : List Instr}
    {g g2 k off : Nat}
    (hc : ∀ o, Typed P caps n o c ⟨h + 1, nn + 1, .none⟩ ⟨h + 1, nn + 1, .top g⟩ [])
    (hcc : ∀ o, Typed P caps n o cc ⟨h + 1, g, .none⟩ ⟨h + 1, nn + 1, .top g2⟩ [])
    (hr : ∀ o, BrsTyped P caps n o h nn (if needs then k + 1 else k) ⟨h + 1, nn + 1, .none⟩ rm rc)
    (hoff : off = if needs then 2 + cc.length + (resetIf g2 nn).length +
        (if restNil then [] else [Instr.jump (rm.length : Int)]).length + rm.length + 2 + 2 * k
      else 2 + cc.length + (resetIf g2 nn).length +
        (if restNil then [] else [Instr.jump (rm.length : Int)]).length) :
    BrsTyped P caps n o h nn k (brEntry first h nn)
      ((if first then [] else [.pop]) ++ ([.load nn] ++ (c ++ ([.duplicate, .not, .jumpIf (off : Int)] ++
        ([.pop, .load nn] ++ (cc ++ (resetIf g2 nn ++
          ((if restNil then [] else [.jump (rm.length : Int)]) ++ rm))))))))
      ((if needs then [.reset (nn + 1), .jump (-((rm.length + 2 * k + 4 : Nat) : Int))] else []) ++ rc) := by
  have e : (if first then [] else [Instr.pop]) ++ ([Instr.load nn] ++ (c ++
      ([Instr.duplicate, .not, .jumpIf (off : Int)] ++ ([Instr.pop, .load nn] ++ (cc ++ (resetIf g2 nn ++
        ((if restNil then [] else [Instr.jump (rm.length : Int)]) ++ rm))))))) =
      ((if first then [] else [Instr.pop]) ++ ([Instr.load nn] ++ (c ++
        ([Instr.duplicate, .not, .jumpIf (off : Int)] ++ ([Instr.pop, .load nn] ++ (cc ++ (resetIf g2 nn ++
          (if restNil then [] else [Instr.jump (rm.length : Int)])))))))) ++ rm := by
    simp only [List.append_assoc]
  rw [e]
  have ho : off = 2 + cc.length + (resetIf g2 nn).length +
      (if restNil then [] else [Instr.jump (rm.length : Int)]).length +
      (if needs then rm.length + 2 + 2 * k else 0) := by
    rw [hoff]
    cases needs
    · rfl
    · simp only [if_true]
      omega
  intro hle1 hle2
  have h1 := hle1
  have h2 := hle2
  rw [List.length_append, ← Nat.add_assoc] at h1 h2
  generalize hEND : o + ((if first then [] else [Instr.pop]) ++ ([Instr.load nn] ++ (c ++
      ([Instr.duplicate, .not, .jumpIf (off : Int)] ++ ([Instr.pop, .load nn] ++ (cc ++ (resetIf g2 nn ++
        (if restNil then [] else [Instr.jump (rm.length : Int)])))))))).length = END at h1 h2
  refine brs_step_typed needs hEND
    (branchSome_typed hn restNil (brPre_typed first h nn) (hc _) (hcc _) ho hEND ?_) (hr _) hle1 hle2
  clear hle1 hle2 hr hc hcc e ho hoff hEND
  cases needs with
  | false => exact (Nat.max_eq_left (Nat.zero_le _)).symm ▸ h1
  | true =>
    have := h2 (fun hh => by cases hh)
    simp only [if_true, List.length_append, List.length_cons, List.length_nil] at this ⊢
    omega

theorem BrsTyped.of_eq {p : List Instr × List Instr} {main cleanup : List Instr} {e : Ann} {k : Nat}
    (heq : p = (main, cleanup)) (hp : BrsTyped P caps n o h nn k e p.1 p.2) :
    BrsTyped P caps n o h nn k e main cleanup := by
  subst heq
  exact hp

end BrsStep

section Compile
variable {P : Prog} {caps n : Nat}

mutual
theorem compileT_blk (hn : n < maxCode) (hP : wfProg P) : (t : T2) → (Γ : List String) → (o h : Nat) →
    wfT P t → scT Γ t → o + (compileT Γ t).1.length ≤ n →
    ∃ A, Blk P caps n o (compileT Γ t).1 ⟨h + 1, Γ.length, .none⟩ A
      ⟨h + 1, (compileT Γ t).2.length, .none⟩ []
  | .int _ _, _, _, _, hw, _ => F1.int_typed hw
  | .ripple, _, _, _, _, _ => Typed.nil (Fits.refl _)
  | .tup _ fs, Γ, o, h, hw, hs => F1.tup_typed hw.1 (compileFs_blk hn hP fs Γ 0 o h hw.2 hs)
  | .var _, _, _, _, _, hs => F1.var_typed hs
  | .mtch _, _, _, _, hw, _ => F1.mtch_typed hn hP hw
  | .block bs, Γ, o, h, hw, hs =>
    block_typed hn (compileBrs_typed hn hP bs (Γ ++ [""]) Γ.length 0 true (o + 1) h _ _ hw.2 hs
      List.length_append (fun _ => hw.1) rfl)
theorem compileCh_blk (hn : n < maxCode) (hP : wfProg P) : (c : Ch2) → (Γ : List String) → (o h : Nat) →
    wfCh P c → scCh Γ c → o + (compileCh Γ c).1.length ≤ n →
    ∃ A, Blk P caps n o (compileCh Γ c).1 ⟨h + 1, Γ.length, .none⟩ A
      ⟨h + 1, (compileCh Γ c).2.length, .none⟩ []
  | .nil, _, _, _, _, _ => Typed.nil (Fits.refl _)
  | .cons t r, Γ, o, h, hw, hs =>
    Typed.seq (compileT_blk hn hP t Γ o h hw.1 hs.1) (compileCh_blk hn hP r _ _ h hw.2 hs.2) .nil
theorem compileFs_blk (hn : n < maxCode) (hP : wfProg P) : (fs : Fs2) → (Γ : List String) → (k o h : Nat) →
    wfFs P fs → scFs Γ fs → o + (compileFs Γ fs k).1.length ≤ n →
    ∃ A, Blk P caps n o (compileFs Γ fs k).1 ⟨h + 1 + k, Γ.length, .none⟩ A
      ⟨h + 1 + k + fs.length, (compileFs Γ fs k).2.length, .none⟩ []
  | .nil, _, _, _, _, _, _ => Typed.nil (Fits.refl _)
  | .cons c r, Γ, k, _, h, hw, hs =>
    F1.fsCons_typed (compileCh_blk hn hP c Γ _ (h + 1 + k) hw.1 hs.1)
      (compileFs_blk hn hP r _ (k + 1) _ h hw.2 hs.2)
theorem compileSq_blk (hn : n < maxCode) (hP : wfProg P) : (sq : Sq2) → (Γ : List String) → (o h l0 : Nat) →
    wfSq P sq → scSq Γ sq → l0 ≤ Γ.length → o + (compileSq Γ sq).1.length ≤ n →
    ∃ A, Blk P caps n o (compileSq Γ sq).1 ⟨h + 1, Γ.length, .none⟩ A
      ⟨h + 1, l0, .top (compileSq Γ sq).2.length⟩ []
  | .last c, Γ, o, h, _, hw, hs, hl0 =>
    F1.sqLast_typed (compileCh_blk hn hP c Γ o h hw hs) (Nat.le_trans hl0 (compileCh_len c Γ))
  | .cons c r, Γ, o, h, l0, hw, hs, hl0 =>
    have hl := Nat.le_trans hl0 (compileCh_len c Γ)
    F1.sqCons_typed hn (compileCh_blk hn hP c Γ o h hw.1 hs.1) (compileSq_blk hn hP r _ _ h l0 hw.2 hs.2 hl) hl
/-- The branches: main code at `o` (it ends exactly at the parameter clear `PC`), cleanup blocks at
`PC + 2 + 2k`; each cleanup block jumps back INTO the main code (the next branch), so its exits are
typed against the main code's annotations. -/
theorem compileBrs_typed (hn : n < maxCode) (hP : wfProg P) : (bs : Brs2) → (Γp : List String) → (nn k : Nat) →
    (first : Bool) → (o h : Nat) → (main cleanup : List Instr) →
    wfBrs P bs → scBrs Γp bs → Γp.length = nn + 1 → (first = true → bs.isNil = false) →
    compileBrs Γp nn bs k first = (main, cleanup) →
    o + main.length ≤ n → (cleanup ≠ [] → o + main.length + 2 + 2 * k + cleanup.length ≤ n) →
    ∃ Am, Seg P caps n o main Am
        (BrExt (o + main.length) (o + main.length + 2 + 2 * k) (o + main.length + 2 + 2 * k + cleanup.length)
          ⟨h + 1, nn + 1, .none⟩) ∧
      Flow o Am (BrExt (o + main.length) (o + main.length + 2 + 2 * k) (o + main.length + 2 + 2 * k + cleanup.length)
          ⟨h + 1, nn + 1, .none⟩) o (brEntry first h nn) ∧
      Seg P caps n (o + main.length + 2 + 2 * k) cleanup (List.replicate cleanup.length ⟨h + 1, nn + 1, .none⟩)
        (fun pc out => Flow o Am (BrExt (o + main.length) (o + main.length + 2 + 2 * k)
          (o + main.length + 2 + 2 * k + cleanup.length) ⟨h + 1, nn + 1, .none⟩) pc out)
  | .nil, _, _, _, first, _, _, _, _, _, _, _, hne, heq =>
    BrsTyped.of_eq heq (match first, hne with
      | false, _ => brsNil_typed
      | true, hne => nomatch hne rfl)
  | .cons cond .none rest, Γp, nn, k, first, _, h, _, _, hw, hs, hΓ, _, heq =>
    BrsTyped.of_eq heq (brsNone_typed hn first rest.isNil
      (fun o => hΓ ▸ compileSq_blk hn hP cond Γp o h (nn + 1) hw.1 hs.1 (Nat.le_of_eq hΓ.symm))
      (fun o => compileBrs_typed hn hP rest Γp nn k false o h _ _ hw.2 hs.2 hΓ (fun hh => nomatch hh) rfl))
  | .cons cond (.some cons) rest, Γp, nn, _, first, _, h, _, _, hw, hs, hΓ, _, heq =>
    have hg : nn + 1 ≤ (compileSq Γp cond).2.length := hΓ ▸ compileSq_len cond Γp
    BrsTyped.of_eq heq (brsSome_typed hn first rest.isNil (decide ((compileSq Γp cond).2.length > nn + 1))
      (fun o => hΓ ▸ compileSq_blk hn hP cond Γp o h (nn + 1) hw.1 hs.1 (Nat.le_of_eq hΓ.symm))
      (fun o => compileSq_blk hn hP cons _ o h (nn + 1) hw.2.1 hs.2.1 hg)
      (fun o => compileBrs_typed hn hP rest Γp nn _ false o h _ _ hw.2.2 hs.2.2 hΓ (fun hh => nomatch hh) rfl)
      rfl)
end

end Compile

/-- **Every function the fragment-2 compiler (blocks with branches and `=>`) emits is accepted by
the verified checker.** -/
theorem compileSq_checkFn {P : Prog} (hP : wfProg P) (Γ : List String) (sq : Sq2) (tid : Nat)
    (hw : wfSq P sq) (hs : scSq Γ sq) (hsmall : (compileSq Γ sq).1.length < maxCode) :
    ∃ anns, checkFn P { instructions := (compileSq Γ sq).1.toArray, captures := Γ.length, typeId := tid } anns = true :=
  checkFn_of_typed tid (compileSq_blk hsmall hP sq Γ 0 0 Γ.length hw hs (Nat.le_refl _)) rfl hsmall

/-- A program all of whose functions are compiled fragment-2 sequences. -/
def Frag2Prog (P : Prog) : Prop :=
  wfProg P ∧ ∀ (f : Nat) (fn : Function), P.functions[f]? = some fn →
    ∃ (Γ : List String) (sq : Sq2), fn.instructions = (compileSq Γ sq).1.toArray ∧ fn.captures = Γ.length ∧
      wfSq P sq ∧ scSq Γ sq ∧ (compileSq Γ sq).1.length < maxCode

theorem frag2_allChecked {P : Prog} (h : Frag2Prog P) : ∃ A, AllChecked P A :=
  allChecked_of_checkFn fun f fn hf =>
    let ⟨Γ, sq, hi, hc, hw, hs, hsmall⟩ := h.2 f fn hf
    checkFn_of_eq hi hc (compileSq_checkFn h.1 Γ sq _ hw hs hsmall)

/-- **No program of fragment 2 ever fails structurally** (`checkAnn_sound`). -/
theorem frag2_no_structural_failure {P : Prog} (h : Frag2Prog P) (s0 : Nat) (p0 p : Proc)
    (h0 : EntryWF P s0 p0) (hr : ReachWF P p0 p) :
    (∃ A, Inv P A s0 p) ∧
    ∀ ev, EventWF P ev → ∀ e, transition P p ev = some (.error e) → e.isStructural = false :=
  no_structural_failure_of_allChecked (frag2_allChecked h) s0 p0 p h0 hr

/-! ### Example: the shape the nil guard is there for -/

/-- `[1, 2] { =[x, y], [x, y] =z => z | 0 }`: the condition binds `z` in its second step, after a
step (`=[x, y]`) that may be nil; the consequence reads `z`. -/
def exSq : Sq2 :=
  .last (.cons (.tup 2 (.cons (.cons (.int 1 0) .nil) (.cons (.cons (.int 2 1) .nil) .nil)))
    (.cons (.block
      (.cons
        (.cons (.cons (.mtch (.tup [.bind "x", .bind "y"])) .nil)
          (.last (.cons (.tup 2 (.cons (.cons (.var "x") .nil) (.cons (.cons (.var "y") .nil) .nil)))
            (.cons (.mtch (.top (.bind "z"))) .nil))))
        (.some (.last (.cons (.var "z") .nil)))
        (.cons (.last (.cons (.int 0 2) .nil)) .none .nil))) .nil))

def exP : Prog :=
  { constants := #[.int 1, .int 2, .int 0], functions := #[⟨(compileSq [] exSq).1.toArray, 0, 0⟩],
    tuples := #[0, 0, 2], types := 0, builtins := 0 }

example : Frag2Prog exP := by
  refine ⟨⟨rfl, rfl⟩, ?_⟩
  intro f fn hf
  have hf0 : f = 0 := by
    have := (Array.getElem?_eq_some_iff.mp hf).1
    simp [exP] at this; omega
  subst hf0
  have hfn : fn = ⟨(compileSq [] exSq).1.toArray, 0, 0⟩ := by simpa [exP] using hf.symm
  subst hfn
  refine ⟨[], exSq, rfl, rfl, ?_, ?_, by decide +kernel⟩
  · simp [exSq, wfSq, wfCh, wfT, wfFs, wfBrs, wfPat, QM.RefSem.C1.wfSubs, QM.RefSem.C1.wfSub, Fs2.length, Brs2.isNil, exP]
  · simp only [exSq, scSq, scCh, scT, scFs, scBrs, and_true, true_and]
    exact ⟨⟨⟨1, by decide +kernel⟩, ⟨2, by decide +kernel⟩⟩, ⟨3, by decide +kernel⟩⟩

/-- What `inferAnn` computes for the example's function. The annotation at pc 51, the end of the
condition, carries the guard: 3 locals, 4 if the value is non-nil. (`none`: dead code after a jump.) -/
def exAnns : Anns :=
  #[some ⟨1, 0, .none⟩, some ⟨2, 0, .none⟩, some ⟨1, 0, .none⟩, some ⟨2, 0, .none⟩, some ⟨3, 0, .none⟩,
    some ⟨2, 0, .none⟩, some ⟨3, 0, .none⟩, some ⟨2, 0, .none⟩, some ⟨2, 0, .none⟩, some ⟨1, 0, .none⟩,
    some ⟨0, 1, .none⟩, some ⟨1, 1, .none⟩, none, some ⟨1, 1, .none⟩, some ⟨2, 1, .dup 1⟩, some ⟨2, 1, .none⟩,
    some ⟨1, 2, .none⟩, some ⟨2, 2, .dup 2⟩, some ⟨2, 2, .none⟩, some ⟨1, 3, .none⟩, some ⟨0, 3, .none⟩,
    some ⟨1, 3, .none⟩, none, none, none, none, none, none, some ⟨1, 3, .none⟩, some ⟨2, 3, .dup 3⟩,
    some ⟨2, 3, .neg 3⟩, some ⟨1, 3, .none⟩, some ⟨2, 3, .none⟩, some ⟨1, 3, .none⟩, some ⟨2, 3, .none⟩,
    some ⟨3, 3, .none⟩, some ⟨2, 3, .none⟩, some ⟨3, 3, .none⟩, some ⟨2, 3, .none⟩, some ⟨2, 3, .none⟩,
    some ⟨1, 3, .none⟩, none, some ⟨1, 3, .none⟩, some ⟨2, 3, .dup 3⟩, some ⟨1, 4, .none⟩, some ⟨0, 4, .none⟩,
    some ⟨1, 4, .none⟩, none, none, none, none, some ⟨1, 3, .top 4⟩, some ⟨2, 3, .dup 4⟩, some ⟨2, 3, .neg 4⟩,
    some ⟨1, 4, .none⟩, some ⟨0, 4, .none⟩, some ⟨1, 4, .none⟩, some ⟨0, 4, .none⟩, some ⟨1, 4, .none⟩,
    some ⟨1, 1, .none⟩, some ⟨1, 1, .none⟩, some ⟨0, 1, .none⟩, some ⟨1, 1, .none⟩, some ⟨0, 1, .none⟩,
    some ⟨1, 1, .none⟩, some ⟨1, 0, .none⟩, some ⟨1, 3, .nilTop⟩, some ⟨1, 1, .none⟩]

theorem exAnns_eq : inferAnn exP 0 = exAnns :=
  Array.ext' (by decide +kernel)

/-- The inferred annotations pass too; the one at the end of the condition carries the guard. -/
example : checkAnn exP 0 (inferAnn exP 0) = true := by
  rw [exAnns_eq]
  decide +kernel

example : ((inferAnn exP 0).toList.filterMap id).any (fun a => a.guard matches .top _) = true := by
  rw [exAnns_eq]
  decide

end F2
end QM.C07Frag
