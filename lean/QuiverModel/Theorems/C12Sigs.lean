import QuiverModel.Generated.BuiltinSigs
import QuiverModel.Lemmas.Builtins.SigKinds
/-
C12 — theorems tied to tables regenerated from the live code on every run (`pregen`:
`gen_builtins` writes `Generated/BuiltinSigs.lean` from `BuiltinRegistry` and from the source text
of `builtins/binary.rs`). If a signature, a name, the size limit or a hash constant changes in the
code, these no longer check.
-/
namespace C12
open QM QM.Builtins

/-- one registry entry agrees with the model: a pure builtin is either modelled with the declared
    parameter and result spec, or is one of the two float builtins (totality checked only) -/
def sigMatches (e : String × TSpec × TSpec × Bool) : Bool :=
  !e.2.2.2 || (match modelSig e.1 with
    | some (p, k) => TSpec.beq e.2.1 p.toTSpec && kindFits k e.2.2.1
    | none => e.1 == "integer_sin" || e.1 == "integer_cos")

/-- **every pure builtin of the live registry, the two float builtins `integer_sin` / `integer_cos`
    apart, is modelled with its declared signature** -/
theorem registry_signatures_match_model : Generated.builtinSigs.all sigMatches = true := by decide +kernel

/-- every name the model answers for is a pure builtin of the live registry -/
theorem modelled_are_registered :
    modelledNames.all (fun n => Generated.builtinSigs.any (fun e => e.1 == n && e.2.2.2)) = true := by
  decide +kernel

/-- **every modelled builtin's successful result inhabits the result `TypeSpec` the registry
    declares for it** (for every argument) -/
theorem result_inhabits_declared_spec (e : String × TSpec × TSpec × Bool)
    (he : e ∈ Generated.builtinSigs) (hp : e.2.2.2 = true) (hm : (modelSig e.1).isSome = true)
    (arg v : BArg) (h : callBuiltin e.1 arg = some (.ok v)) : inh e.2.2.1 v = true := by
  have hall := List.all_eq_true.mp registry_signatures_match_model e he
  unfold sigMatches at hall
  rw [hp] at hall
  cases hs : modelSig e.1 with
  | none => rw [hs] at hm; cases hm
  | some pk =>
    obtain ⟨p, k⟩ := pk
    rw [hs] at hall
    simp only [Bool.not_true, Bool.false_or, Bool.and_eq_true] at hall
    exact kindFits_sound hall.2 (callBuiltin_result_kind e.1 arg v p k hs h)

/-- the hypotheses are satisfiable: e.g. `binary_index` is in the table, pure and modelled -/
example : (Generated.builtinSigs.any fun e =>
    e.1 == "binary_index" && e.2.2.2 && (modelSig e.1).isSome &&
      TSpec.beq e.2.2.1 (.union [.integer, .nil])) = true := by decide +kernel

/-- **the model uses the code's constants**: FNV-1a offset bases and primes as written in
    `builtins/binary.rs`, and `MAX_BINARY_SIZE` (both definitions, value.rs and binary.rs) -/
theorem constants_match_code :
    fnv32Offset = Generated.fnv32Offset ∧ fnv32Prime = Generated.fnv32Prime ∧
    fnv64Offset = Generated.fnv64Offset ∧ fnv64Prime = Generated.fnv64Prime ∧
    Generated.maxBinarySizeValue = 16777216 ∧ Generated.maxBinarySizeBinary = 16777216 := by decide

end C12
