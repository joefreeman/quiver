import QuiverModel.Lemmas.VM.Frames
/-
C16 — tail calls run in constant space (theorems on M-VM given the C07 certificate).
-/
namespace C16
open QM.VM

theorem below_base_eq {P : Prog} {A : Array Anns} {s0 : Nat} {sel : Option SelectState} :
    ∀ {rest : List Frame} {sb lb : Nat}, Below P A s0 sel rest sb lb → sb = stackBaseOf P A s0 rest
  | [], _, _, h => h
  | g :: rest, sb, lb, h => by
    obtain ⟨fn, a, i, sbg, hat, _, hcase, hrec⟩ := h
    simp only [stackBaseOf, hat.hfn, hat.hann, hat.hinstr, ← below_base_eq hrec]
    rcases hcase with ⟨rfl, hs, _⟩ | ⟨rfl, hs, _⟩
    · exact Nat.eq_sub_of_add_eq hs
    · exact Nat.eq_sub_of_add_eq hs

/-- **The operand stack is determined by the frame stack**: while a process of a certified program
runs (not parked, no select in progress) at an annotated pc, its stack has exactly
`stackBaseOf frames.tail + ann.height` cells — a function of the frame list and the annotations,
independent of how the state was reached. -/
theorem stack_length_running {P : Prog} {A : Array Anns} {s0 : Nat} (hA : AllChecked P A)
    {p : Proc} {f : Frame} {rest : List Frame}
    (hinv : Inv P A s0 p) (hfr : p.frames = f :: rest) (hpark : p.park = .none)
    (hsel : p.selectState = none) {a : Ann}
    (ha : (annsOf A f.functionIndex)[f.counter]? = some (some a)) :
    p.stack.length = stackBaseOf P A s0 rest + a.height := by
  obtain ⟨_, sb, htop, hbelow⟩ := hinv.unpack hfr
  cases htop with
  | exhausted fn hfn hpc hs hl _ _ =>
    -- an annotated pc is inside the function
    have := (checked_of hA hfn).size ▸ (Array.getElem?_eq_some_iff.mp ha).1
    exact absurd (hpc ▸ this) (Nat.lt_irrefl _)
  | normal fn a' i hat hl hs _ _ =>
    cases hat.hann.symm.trans ha
    exact below_base_eq hbelow ▸ hs
  | spawning _ _ _ _ _ hp => exact nomatch hp ▸ hpark
  | effecting _ _ _ _ _ hp => exact nomatch hp ▸ hpark
  | selecting _ _ _ _ st hst => exact nomatch hsel ▸ hst

/-- Two states of a certified program with the same frame stack, both running, have operand
stacks of the same size. -/
theorem stack_determined_by_frames {P : Prog} {A : Array Anns} {s0 : Nat} (hA : AllChecked P A)
    {p q : Proc} (hp : Inv P A s0 p) (hq : Inv P A s0 q) (hfr : p.frames = q.frames)
    (hpp : p.park = .none) (hqp : q.park = .none) (hps : p.selectState = none) (hqs : q.selectState = none)
    {f : Frame} {rest : List Frame} (hf : p.frames = f :: rest) {a : Ann}
    (ha : (annsOf A f.functionIndex)[f.counter]? = some (some a)) :
    p.stack.length = q.stack.length := by
  rw [stack_length_running hA hp hf hpp hps ha, stack_length_running hA hq (hfr ▸ hf) hqp hqs ha]

/-- What a `TailCall` does to the frame list, unconditionally (model level): the current frame is
replaced by a fresh frame (counter 0) with the same locals base; nothing is pushed. -/
theorem tailcall_frames {P : Prog} {p p' : Proc} {r : Bool} {act : Option Action}
    (h : handleTailCall P p r = .ok (p', act)) :
    ∃ f rest f', p.frames = f :: rest ∧ p'.frames = f' :: rest ∧ f'.localsBase = f.localsBase ∧
      f'.counter = 0 ∧ (r = true → f'.functionIndex = f.functionIndex ∧ f'.capturesCount = f.capturesCount) := by
  obtain ⟨f, rest, _, _, hfr, ⟨rfl, _, rfl⟩ | ⟨rfl, _, _, _, _, rfl⟩⟩ := handleTailCall_ok h
  · exact ⟨f, rest, _, hfr, rfl, rfl, rfl, fun _ => ⟨rfl, rfl⟩⟩
  · exact ⟨f, rest, _, hfr, rfl, rfl, rfl, nofun⟩

/-- A `TailCall` step leaves `frames.length` unchanged (model level, no certificate). -/
theorem tailcall_frames_length {P : Prog} {p p' : Proc} {r : Bool} {act : Option Action}
    (h : handleTailCall P p r = .ok (p', act)) : p'.frames.length = p.frames.length := by
  obtain ⟨f, rest, f', h1, h2, _⟩ := tailcall_frames h
  rw [h1, h2]; rfl

theorem top_normal_of_current {P : Prog} {A : Array Anns} {s0 : Nat} {p : Proc} {f : Frame}
    {rest : List Frame} {i : Instr}
    (hinv : Inv P A s0 p) (hfr : p.frames = f :: rest) (hpark : p.park = .none)
    (hcur : P.currentInstr p = some i) (hns : i ≠ .select) :
    ∃ fn a sb, Running P A s0 p f rest fn a i sb := by
  obtain ⟨hres, sb, htop, hbelow⟩ := hinv.unpack hfr
  simp only [Prog.currentInstr, hfr] at hcur
  cases htop with
  | exhausted fn hfn hpc _ _ _ _ => simp [hfn, hpc] at hcur
  | normal fn a i' hat hl hs _ hsel hg =>
    simp only [hat.hfn, hat.hinstr, Option.some.injEq] at hcur
    subst hcur
    exact ⟨fn, a, sb, hinv, hfr, hres, hat, hl, hs, hg, hpark, hsel, hbelow⟩
  | spawning _ _ _ _ _ hp => exact nomatch hp ▸ hpark
  | effecting _ _ _ _ _ hp => exact nomatch hp ▸ hpark
  | selecting fn a hat _ _ _ _ _ _ =>
    simp only [hat.hfn, hat.hinstr, Option.some.injEq] at hcur
    exact absurd hcur.symm hns

/-- **`tailcall_shape`** (covers `^` — `TailCall(true)` — and `^f` / `^~` — `TailCall(false)`,
the mutual case): in a certified program a `TailCall` step
  * keeps the suspended frames (so `frames.length` is unchanged) and the frame's locals base,
  * enters the target function at counter 0 with `locals.length = locals_base + captures` exactly,
  * and leaves the operand stack at the frame's entry height: `stackBaseOf rest + 1`.
All three sizes are functions of `(rest, locals_base, target function)` only. -/
theorem tailcall_shape {P : Prog} {A : Array Anns} {s0 : Nat} (hA : AllChecked P A)
    {p p' : Proc} {f : Frame} {rest : List Frame} {r : Bool} {act : Option Action}
    (hinv : Inv P A s0 p) (hfr : p.frames = f :: rest) (hpark : p.park = .none)
    (hcur : P.currentInstr p = some (.tailCall r))
    (hstep : handleTailCall P p r = .ok (p', act)) :
    ∃ f' fn', p'.frames = f' :: rest ∧ f'.localsBase = f.localsBase ∧ f'.counter = 0 ∧
      P.functions[f'.functionIndex]? = some fn' ∧ f'.capturesCount = fn'.captures ∧
      (r = true → f'.functionIndex = f.functionIndex) ∧
      p'.frames.length = p.frames.length ∧
      p'.locals.length = f.localsBase + fn'.captures ∧
      p'.stack.length = stackBaseOf P A s0 rest + 1 := by
  obtain ⟨fn, a, sb, h⟩ := top_normal_of_current hinv hfr hpark hcur Instr.noConfusion
  have hspec := tailCall_spec hA h
  have hl := h.locals
  have hbelow := h.below
  rw [hstep] at hspec
  obtain ⟨fi, fn', arg, s, caps, hfn', hcl, _, _, hslen, hfi, rfl⟩ := hspec
  refine ⟨_, fn', rfl, rfl, rfl, hfn', rfl, hfi, hfr ▸ rfl, ?_, congrArg (· + 1) (hslen.trans (below_base_eq hbelow))⟩
  rw [List.length_append, List.length_take, hcl, Nat.min_eq_left (Nat.le_trans (Nat.le_add_right _ _) hl)]

/-- `q` has just entered function `fi` on top of the suspended frames `rest` with locals base `lb`:
its frame list, number of locals and stack height are those of an entry (functions of `rest`, `lb`, `fi`). -/
structure AtEntry (P : Prog) (A : Array Anns) (s0 : Nat) (rest : List Frame) (lb fi : Nat) (q : Proc) : Prop where
  shape : ∃ f fn, q.frames = f :: rest ∧ f.functionIndex = fi ∧ f.localsBase = lb ∧ f.counter = 0 ∧
    P.functions[fi]? = some fn ∧ q.locals.length = lb + fn.captures ∧
    q.stack.length = stackBaseOf P A s0 rest + 1

/-- Entry sizes are a function of `(rest, lb, fi)`. -/
theorem AtEntry.sizes_eq {P : Prog} {A : Array Anns} {s0 : Nat} {rest : List Frame} {lb fi : Nat}
    {q1 q2 : Proc} (h1 : AtEntry P A s0 rest lb fi q1) (h2 : AtEntry P A s0 rest lb fi q2) :
    q1.frames.length = q2.frames.length ∧ q1.locals.length = q2.locals.length ∧
      q1.stack.length = q2.stack.length := by
  obtain ⟨f1, fn1, hf1, _, _, _, hfn1, hl1, hs1⟩ := h1.shape
  obtain ⟨f2, fn2, hf2, _, _, _, hfn2, hl2, hs2⟩ := h2.shape
  rw [hfn1] at hfn2
  cases hfn2
  exact ⟨by rw [hf1, hf2]; rfl, by rw [hl1, hl2], by rw [hs1, hs2]⟩

/-- A `TailCall` re-enters: the state after it is `AtEntry` of the target on the *same*
activation `(rest, locals_base)`. -/
theorem tailcall_reenters {P : Prog} {A : Array Anns} {s0 : Nat} (hA : AllChecked P A)
    {p p' : Proc} {f : Frame} {rest : List Frame} {r : Bool} {act : Option Action}
    (hinv : Inv P A s0 p) (hfr : p.frames = f :: rest) (hpark : p.park = .none)
    (hcur : P.currentInstr p = some (.tailCall r))
    (hstep : handleTailCall P p r = .ok (p', act)) :
    ∃ fi, AtEntry P A s0 rest f.localsBase fi p' ∧ (r = true → fi = f.functionIndex) := by
  obtain ⟨f', fn', h1, h2, h3, h4, _, h6, _, h8, h9⟩ := tailcall_shape hA hinv hfr hpark hcur hstep
  exact ⟨f'.functionIndex, ⟨f', fn', h1, rfl, h2, h3, h4, h8, h9⟩, h6⟩

/-- Entering through a `Call` on a closure: the callee is `AtEntry` on the activation
`(caller's frames, caller's locals count)`. -/
theorem call_enters {P : Prog} {A : Array Anns} {s0 : Nat} (hA : AllChecked P A) {O : Oracle}
    {p p' : Proc} {f : Frame} {rest : List Frame} {act : Option Action} {fi : Nat} {caps : ValList} {s : List Val}
    (hinv : Inv P A s0 p) (hfr : p.frames = f :: rest) (hpark : p.park = .none)
    (hcur : P.currentInstr p = some .call) (hst : p.stack = .fn fi caps :: s)
    (hstep : handleCall O P p = .ok (p', act)) :
    AtEntry P A s0 (f :: rest) p.locals.length fi p' := by
  obtain ⟨fn, a, sb, _, _, _, hat, _, hs, _, _, _, hbelow⟩ :=
    top_normal_of_current hinv hfr hpark hcur Instr.noConfusion
  obtain ⟨succs, htr, _⟩ := hat.transfer hA
  obtain ⟨hh, _⟩ := transfer_call htr
  obtain ⟨fn', hfn', hcl, _⟩ := Val.wf_fn_inv (hst ▸ hinv.stackWF :).head
  rw [hst] at hs
  obtain ⟨param, s', rfl⟩ :=
    stack_cons (height_after hs (Nat.le_of_succ_le hh) []) (Nat.le_sub_one_of_lt hh)
  simp only [handleCall, hst, hfn', ok] at hstep
  cases hstep
  refine ⟨⟨_, fn', congrArg _ hfr, rfl, rfl, rfl, hfn', by rw [List.length_append, hcl], ?_⟩⟩
  simp only [stackBaseOf, hat.hfn, hat.hann, hat.hinstr, ← below_base_eq hbelow]
  exact congrArg (· + 1) (Nat.eq_sub_of_add_eq hs)

/-- Reachability that never drops below frame depth `d`. -/
inductive ReachAbove (P : Prog) (d : Nat) : Proc → Proc → Prop
  | refl (p : Proc) : ReachAbove P d p p
  | step {p0 p p' : Proc} {ev : Event} {act : Option Action} :
      ReachAbove P d p0 p → EventWF P ev → transition P p ev = some (.ok (p', act)) →
      d ≤ p'.frames.length → ReachAbove P d p0 p'

theorem reachAbove_inv {P : Prog} {A : Array Anns} {s0 : Nat} (hA : AllChecked P A)
    {q0 q : Proc} {rest : List Frame} {lb : Nat}
    (hinv0 : Inv P A s0 q0) (hact0 : InActivation rest lb q0)
    (hreach : ReachAbove P (rest.length + 1) q0 q) : Inv P A s0 q ∧ InActivation rest lb q := by
  induction hreach with
  | refl => exact ⟨hinv0, hact0⟩
  | step _ hev htr hd ih =>
    obtain ⟨hi, ha⟩ := ih
    have := inv_step hA hi hev
    rw [htr] at this
    exact ⟨this, transition_activation ha htr hd⟩

/-- **`loop_head_invariant`**: let `q0` have just entered a function on the activation
`(rest, lb)` — through a `Call` (`call_enters`) or a `TailCall` (`tailcall_reenters`). After *any*
number of further transitions that stay inside this activation (the frame stack never drops below
its depth), whenever the process is back at the activation's depth and executes a `TailCall`, the
state it re-enters in is again `AtEntry` on the same `(rest, lb)`: in particular, at every re-entry
of a self-tail-recursive function (`r = true`, or `^f` naming the same function) the triple
`(frames.length, locals.length, stack.length)` **equals the one at first entry** — it does not
depend on the number of iterations. -/
theorem loop_head_invariant {P : Prog} {A : Array Anns} {s0 : Nat} (hA : AllChecked P A)
    {q0 q q' : Proc} {rest : List Frame} {lb fi0 : Nat} {r : Bool} {act : Option Action}
    (hinv0 : Inv P A s0 q0) (h0 : AtEntry P A s0 rest lb fi0 q0)
    (hreach : ReachAbove P (rest.length + 1) q0 q)
    (hdepth : q.frames.length = rest.length + 1) (hpark : q.park = .none)
    (hcur : P.currentInstr q = some (.tailCall r))
    (hstep : handleTailCall P q r = .ok (q', act)) :
    ∃ fi, AtEntry P A s0 rest lb fi q' ∧
      (fi = fi0 → q'.frames.length = q0.frames.length ∧ q'.locals.length = q0.locals.length ∧
        q'.stack.length = q0.stack.length) := by
  have hact0 : InActivation rest lb q0 := by
    obtain ⟨f, _, hf, _, hlb, _⟩ := h0.shape
    exact ⟨[], f, hf, hlb⟩
  have hboth := reachAbove_inv hA hinv0 hact0 hreach
  obtain ⟨hinv, top, f, hfr, hlb⟩ := hboth
  have htop : top = [] := by
    have := congrArg List.length hfr
    rw [hdepth, List.length_append] at this
    exact List.eq_nil_of_length_eq_zero (Nat.add_right_cancel ((Nat.zero_add _).trans this)).symm
  subst htop
  simp only [List.nil_append] at hfr
  obtain ⟨fi, hent, _⟩ := tailcall_reenters hA hinv hfr hpark hcur hstep
  rw [hlb] at hent
  refine ⟨fi, hent, ?_⟩
  intro hfi
  subst hfi
  exact hent.sizes_eq h0

/-- `#'int { | =0 => … | … ^ }`-like loop: compare the argument with constant 0, return it when
equal, otherwise tail-call itself. -/
def loopFn : Function :=
  { instructions := #[.duplicate, .constant 0, .equal 2, .jumpIf 1, .tailCall true], captures := 0, typeId := 0 }

def loopProg : Prog :=
  { constants := #[.int 0], functions := #[loopFn], tuples := #[0, 0], types := 1, builtins := 0 }

def loopOracle : Oracle :=
  { isType := fun _ _ => false, valuesEqual := fun a b => a == b, builtin := fun _ _ => .unrecognised, select := .park }

/-- It is certified (hypothesis `AllChecked` of the theorems above). -/
example : AllChecked loopProg #[inferAnn loopProg 0] := by
  intro f hf
  have : f = 0 := by simp [loopProg] at hf; omega
  subst this
  decide +kernel

/-- Run `k` `run` transitions of the model. -/
def runN (P : Prog) (O : Oracle) : Nat → Proc → Option Proc
  | 0, p => some p
  | k + 1, p =>
    match transition P p (.run O) with
    | some (.ok (p', _)) => runN P O k p'
    | _ => none

/-- One iteration on argument 3 (≠ 0): five instructions later the process has re-entered the
function through `TailCall(true)` with the sizes of the first entry (1 frame, 0 locals, 1 cell),
and so it has after two and after three iterations. -/
example : (runN loopProg loopOracle 5 (Proc.spawn 0 0 [] (.int 3))).map
    (fun p => (p.frames.length, p.locals.length, p.stack.length, p.curCounter)) = some (1, 0, 1, 0) := by
  decide +kernel
example : (runN loopProg loopOracle 10 (Proc.spawn 0 0 [] (.int 3))).map
    (fun p => (p.frames.length, p.locals.length, p.stack.length, p.curCounter)) = some (1, 0, 1, 0) := by
  decide +kernel
example : (runN loopProg loopOracle 15 (Proc.spawn 0 0 [] (.int 3))).map
    (fun p => (p.frames.length, p.locals.length, p.stack.length, p.curCounter)) = some (1, 0, 1, 0) := by
  decide +kernel

/-- The entry state satisfies `AtEntry` on the empty activation (hypothesis `h0` of
`loop_head_invariant` with `rest = []`, `lb = 0`). -/
example : AtEntry loopProg #[inferAnn loopProg 0] 0 [] 0 0 (Proc.spawn 0 0 [] (.int 3)) :=
  ⟨⟨_, loopFn, rfl, rfl, rfl, rfl, rfl, rfl, rfl⟩⟩

end C16
