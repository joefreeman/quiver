import QuiverModel.Core.RefSem.Compile0
import QuiverModel.Core.RefSem.Eval
/-
C02 (compiler correctness) — **the jump-free value-flow fragment is compiled correctly**, against M-VM (C07's
`QM.VM.stepInstr`). Imports the model only.

`QM.RefSem.C0.compileCh` (Core/RefSem/Compile0.lean) models what compiler.rs emits for the jump-free
value-flow fragment: integer literals, `~`, nested tuple literals, chains. Proved here:

* `compile0_correct` — run by M-VM with the flowing value on top of the stack, the emitted
  instructions leave exactly the chain's value (`evalCh`) in its place; the rest of the stack and the
  locals are untouched; no instruction fails. This is the `RippleContext.stack_offset` bookkeeping
  (`Pick(offset + fields_compiled)`, `Tuple`, `Rotate(2)`, `Pop`) for every nesting depth and width.
* `Bridge.ref_evalCh` — `evalCh` is what the reference evaluator M-RefSem computes for the same chain
  (after resolving tuple ids to names): so compiled execution agrees with the reference semantics on
  the whole fragment (`compile0_agrees_with_reference`).

The model `compileCh` is tied to the real compiler on every run of the check by instruction-sequence
equality on generated programs of the fragment (`harness/src/bin/c02`, stream "fragment"; the driver
request `(compile0 …)`). Not covered by this theorem: everything with jumps, calls, locals (C02Seq … C02TailN).
-/
namespace C02

section VMPart
open QM.VM QM.RefSem.C0

/-- running `is` from `p` succeeds, leaves the stack `s'` and touches no local -/
def Runs (O : Oracle) (P : Prog) (is : List Instr) (p : Proc) (s' : List Val) : Prop :=
  ∃ p', runList O P is p = .ok p' ∧ p'.stack = s' ∧ p'.locals = p.locals

theorem Runs.nil (O : Oracle) (P : Prog) (p : Proc) : Runs O P [] p p.stack := ⟨p, rfl, rfl, rfl⟩

theorem Runs.append {O : Oracle} {P : Prog} {a b : List Instr} {p : Proc} {s₁ s₂ : List Val}
    (h₁ : Runs O P a p s₁)
    (h₂ : ∀ q : Proc, q.stack = s₁ → Runs O P b q s₂) : Runs O P (a ++ b) p s₂ := by
  obtain ⟨p₁, hr₁, hs₁, hl₁⟩ := h₁
  obtain ⟨p₂, hr₂, hs₂, hl₂⟩ := h₂ p₁ hs₁
  refine ⟨p₂, ?_, hs₂, by rw [hl₂, hl₁]⟩
  rw [runList_append, hr₁]
  exact hr₂

@[simp] theorem bump_stack (p : Proc) : p.bump.stack = p.stack := by
  unfold Proc.bump; split <;> rfl
@[simp] theorem bump_locals (p : Proc) : p.bump.locals = p.locals := by
  unfold Proc.bump; split <;> rfl

theorem runs_single {O : Oracle} {P : Prog} {i : Instr} {p q : Proc} {s' : List Val}
    (h : stepInstr O P p i = .ok (q, none)) (hs : q.stack = s') (hl : q.locals = p.locals) :
    Runs O P [i] p s' := ⟨q, by simp [runList, h], hs, hl⟩

theorem runs_pop (O : Oracle) (P : Prog) (p : Proc) (v : Val) (s : List Val) (h : p.stack = v :: s) :
    Runs O P [.pop] p s := by
  refine runs_single (q := ({ p with stack := s } : Proc).bump) ?_ (by simp) (by simp)
  simp [stepInstr, handlePop, h, QM.VM.ok]

theorem runs_constant (O : Oracle) (P : Prog) (p : Proc) (i : Nat) (z : Int)
    (h : P.constants[i]? = some (.int z)) : Runs O P [.constant i] p (.int z :: p.stack) := by
  refine runs_single (q := (p.push (.int z)).bump) ?_ (by simp [Proc.push]) (by simp [Proc.push])
  simp [stepInstr, handleConstant, h, QM.VM.ok]

theorem runs_pick (O : Oracle) (P : Prog) (p : Proc) (n : Nat) (v : Val) (h : p.stack[n]? = some v) :
    Runs O P [.pick n] p (v :: p.stack) := by
  refine runs_single (q := (p.push v).bump) ?_ (by simp [Proc.push]) (by simp [Proc.push])
  simp [stepInstr, handlePick, h, QM.VM.ok]

theorem runs_rotate2 (O : Oracle) (P : Prog) (p : Proc) (a b : Val) (s : List Val)
    (h : p.stack = a :: b :: s) : Runs O P [.rotate 2] p (b :: a :: s) := by
  refine runs_single (q := ({ p with stack := b :: a :: s } : Proc).bump) ?_ (by simp) (by simp)
  simp [stepInstr, handleRotate, h, QM.VM.ok]

theorem runs_tuple (O : Oracle) (P : Prog) (p : Proc) (id : Nat) (vs rest : List Val)
    (hid : P.tuples[id]? = some vs.length) (h : p.stack = vs.reverse ++ rest) :
    Runs O P [.tuple id] p (.tup id (ValList.ofList vs) :: rest) := by
  refine runs_single
    (q := ({ p with stack := .tup id (ValList.ofList vs) :: rest } : Proc).bump) ?_ (by simp) (by simp)
  have hlen : ¬ (vs.reverse ++ rest).length < vs.length := by simp
  simp [stepInstr, handleTuple, hid, h, QM.VM.ok]

mutual
  /-- a term turns the flowing value on top of the stack into its value -/
  theorem compileT_runs (O : Oracle) (P : Prog) :
      (t : T0) → (p : Proc) → (flow : Val) → (rest : List Val) →
      p.stack = flow :: rest → wfT P t → Runs O P (compileT t) p (evalT flow t :: rest)
    | .int z i => fun p flow rest hs hw => by
      simp only [compileT, evalT]
      have h1 := runs_pop O P p flow rest hs
      have : [Instr.pop, Instr.constant i] = [Instr.pop] ++ [Instr.constant i] := rfl
      rw [this]
      refine Runs.append h1 (fun q hq => ?_)
      have := runs_constant O P q i z hw
      rw [hq] at this
      exact this
    | .ripple => fun p flow rest hs _ => by
      simp only [compileT, evalT]
      have := Runs.nil O P p
      rw [hs] at this
      exact this
    | .tup id fs => fun p flow rest hs hw => by
      simp only [compileT, evalT]
      obtain ⟨hid, hwf⟩ := hw
      have hfs := compileFs_runs O P fs p flow rest [] (by simpa using hs) hwf
      simp only [List.length_nil, List.nil_append] at hfs
      refine Runs.append hfs (fun q hq => ?_)
      have e3 : [Instr.tuple id, Instr.rotate 2, Instr.pop] =
          [Instr.tuple id] ++ ([Instr.rotate 2] ++ [Instr.pop]) := rfl
      rw [e3]
      have hlen : P.tuples[id]? = some (evalFs flow fs).length := by rw [evalFs_length]; exact hid
      refine Runs.append (runs_tuple O P q id (evalFs flow fs) (flow :: rest) hlen hq) (fun q2 hq2 => ?_)
      refine Runs.append (runs_rotate2 O P q2 _ flow rest hq2) (fun q3 hq3 => ?_)
      exact runs_pop O P q3 flow _ hq3
  theorem compileCh_runs (O : Oracle) (P : Prog) :
      (c : Ch0) → (p : Proc) → (flow : Val) → (rest : List Val) →
      p.stack = flow :: rest → wfCh P c → Runs O P (compileCh c) p (evalCh flow c :: rest)
    | .nil => fun p flow rest hs _ => by
      simp only [compileCh, evalCh]
      have := Runs.nil O P p
      rw [hs] at this
      exact this
    | .cons t r => fun p flow rest hs hw => by
      simp only [compileCh, evalCh]
      obtain ⟨hwt, hwr⟩ := hw
      refine Runs.append (compileT_runs O P t p flow rest hs hwt) (fun q hq => ?_)
      exact compileCh_runs O P r q (evalT flow t) rest hq hwr
  /-- fields: `acc` = the fields computed so far, sitting above the flowing value -/
  theorem compileFs_runs (O : Oracle) (P : Prog) :
      (fs : Fs0) → (p : Proc) → (flow : Val) → (rest : List Val) → (acc : List Val) →
      p.stack = acc.reverse ++ flow :: rest → wfFs P fs →
      Runs O P (compileFs fs acc.length) p ((acc ++ evalFs flow fs).reverse ++ flow :: rest)
    | .nil => fun p flow rest acc hs _ => by
      simp only [compileFs, evalFs, List.append_nil]
      have := Runs.nil O P p
      rw [hs] at this
      exact this
    | .cons c r => fun p flow rest acc hs hw => by
      simp only [compileFs, evalFs]
      obtain ⟨hwc, hwr⟩ := hw
      have hpick : p.stack[acc.length]? = some flow := by simp [hs]
      rw [List.append_assoc]
      refine Runs.append (runs_pick O P p acc.length flow hpick) (fun q hq => ?_)
      refine Runs.append
        (compileCh_runs O P c q flow (acc.reverse ++ flow :: rest) (by rw [hq, hs]) hwc)
        (fun q2 hq2 => ?_)
      have := compileFs_runs O P r q2 flow rest (acc ++ [evalCh flow c])
        (by rw [hq2]; simp) hwr
      simpa using this
end

/-- **Fragment compiler correctness** (jump-free value-flow fragment): the
instructions the compiler emits for a chain of integer literals, `~` and (nested) tuple literals,
run by M-VM from a state with the flowing value on top of the stack, leave exactly the value the
spec assigns to the chain in its place — nothing else on the stack is touched, no local is
touched, and no instruction fails. -/
theorem compile0_correct (O : Oracle) (P : Prog) (c : Ch0) (p : Proc) (flow : Val) (rest : List Val)
    (hs : p.stack = flow :: rest) (hw : wfCh P c) :
    ∃ p', runList O P (compileCh c) p = .ok p' ∧ p'.stack = evalCh flow c :: rest ∧
      p'.locals = p.locals :=
  compileCh_runs O P c p flow rest hs hw

end VMPart

section BridgePart
open QM.RefSem.C0

namespace Bridge
open QM.RefSem

/- M-VM values and fragment terms read in M-RefSem's terms: tuple ids resolved to names, fields unlabelled. A value that
is neither an integer nor a tuple (the fragment builds none; a flowing value may be one) is read as `0`: about such
values the agreement theorems say nothing. -/

mutual
  def erase (nm : Nat → Option String) : QM.VM.Val → Val
    | .int z => .int z
    | .tup id vs => .tup (nm id) (eraseL nm vs)
    | _ => .int 0
  def eraseL (nm : Nat → Option String) : QM.VM.ValList → Fields
    | .nil => []
    | .cons v vs => (none, erase nm v) :: eraseL nm vs
end

theorem eraseL_ofList (nm : Nat → Option String) (l : List QM.VM.Val) :
    eraseL nm (QM.VM.ValList.ofList l) = l.map (fun v => (none, erase nm v)) := by
  induction l with
  | nil => rfl
  | cons v vs ih => simp [QM.VM.ValList.ofList, eraseL, ih]

def nameOf : Option String → TupName
  | none => .anon
  | some s => .named s

mutual
  def toRefT (nm : Nat → Option String) : T0 → Term
    | .int z _ => .lit (.int z)
    | .ripple => .access .ripple []
    | .tup id fs => .tuple (nameOf (nm id)) (toRefFs nm fs)
  def toRefCh (nm : Nat → Option String) : Ch0 → List Term
    | .nil => []
    | .cons t r => toRefT nm t :: toRefCh nm r
  def toRefFs (nm : Nat → Option String) : Fs0 → List Field
    | .nil => []
    | .cons c r => .val none (.mk none (toRefCh nm c)) :: toRefFs nm r
end

theorem ref_isNil_eq (w : QM.RefSem.Val) (h : w.isNil = true) : w = QM.RefSem.Val.nil := by
  cases w with
  | tup n fs =>
    cases n with
    | none => cases fs with
      | nil => rfl
      | cons a b => simp [QM.RefSem.Val.isNil] at h
    | some s => simp [QM.RefSem.Val.isNil] at h
  | int z => simp [QM.RefSem.Val.isNil] at h
  | bin b => simp [QM.RefSem.Val.isNil] at h
  | clo a b c => simp [QM.RefSem.Val.isNil] at h
  | builtin n => simp [QM.RefSem.Val.isNil] at h

/-- fuel that suffices: `d` units are spent here, at least `N` remain -/
theorem fuel_split (d : Nat) {N fuel : Nat} (h : N + d ≤ fuel) : ∃ k, fuel = k + d ∧ N ≤ k :=
  ⟨fuel - d, by omega, by omega⟩

theorem tupleName_nameOf (n : Option String) : tupleName (nameOf n) none = n := by
  cases n <;> rfl

mutual
  theorem ref_evalT (nm : Nat → Option String) (env : Env) :
      (t : T0) → (flow : QM.VM.Val) → ∃ N, ∀ fuel, N ≤ fuel →
        evalTerm fuel env (erase nm flow) (toRefT nm t) = .ok (erase nm (evalT flow t), env)
    | .int z i => fun flow => ⟨1, fun fuel h => by
        obtain ⟨k, rfl, -⟩ := fuel_split 1 (N := 0) h
        simp [toRefT, evalT, QM.RefSem.evalTerm, litVal, erase]⟩
    | .ripple => fun flow => ⟨1, fun fuel h => by
        obtain ⟨k, rfl, -⟩ := fuel_split 1 (N := 0) h
        simp [toRefT, evalT, QM.RefSem.evalTerm, project, Res.bind]⟩
    | .tup id fs => fun flow => by
      obtain ⟨N, hN⟩ := ref_evalFs nm env fs flow []
      refine ⟨N + 1, fun fuel h => ?_⟩
      obtain ⟨k, rfl, hk⟩ := fuel_split 1 h
      simp only [toRefT, evalT, QM.RefSem.evalTerm]
      rw [hN k hk]
      simp [Res.bind, erase, eraseL_ofList, tupleName_nameOf]
  theorem ref_evalCh (nm : Nat → Option String) (env : Env) :
      (c : Ch0) → (flow : QM.VM.Val) → ∃ N, ∀ fuel, N ≤ fuel →
        evalTerms fuel env (erase nm flow) (toRefCh nm c) = .ok (erase nm (evalCh flow c), env)
    | .nil => fun flow => ⟨1, fun fuel h => by
        obtain ⟨k, rfl, -⟩ := fuel_split 1 (N := 0) h
        simp [toRefCh, evalCh, QM.RefSem.evalTerms]⟩
    | .cons t r => fun flow => by
      obtain ⟨N₁, h₁⟩ := ref_evalT nm env t flow
      obtain ⟨N₂, h₂⟩ := ref_evalCh nm env r (evalT flow t)
      refine ⟨max N₁ N₂ + 1, fun fuel h => ?_⟩
      obtain ⟨k, rfl, hk⟩ := fuel_split 1 h
      simp only [toRefCh, evalCh, QM.RefSem.evalTerms]
      rw [h₁ k (Nat.le_trans (Nat.le_max_left _ _) hk)]
      simp only [Res.bind]
      exact h₂ k (Nat.le_trans (Nat.le_max_right _ _) hk)
  theorem ref_evalFs (nm : Nat → Option String) (env : Env) :
      (fs : Fs0) → (flow : QM.VM.Val) → (acc : Fields) → ∃ N, ∀ fuel, N ≤ fuel →
        evalFields fuel env (erase nm flow) (toRefFs nm fs) acc none =
          .ok (acc ++ (evalFs flow fs).map (fun v => (none, erase nm v)), none, env)
    | .nil => fun flow acc => ⟨1, fun fuel h => by
        obtain ⟨k, rfl, -⟩ := fuel_split 1 (N := 0) h
        simp [toRefFs, evalFs, QM.RefSem.evalFields]⟩
    | .cons c r => fun flow acc => by
      obtain ⟨N₁, h₁⟩ := ref_evalCh nm env c flow
      obtain ⟨N₂, h₂⟩ := ref_evalFs nm env r flow (acc ++ [(none, erase nm (evalCh flow c))])
      refine ⟨max N₁ N₂ + 2, fun fuel h => ?_⟩
      obtain ⟨k, rfl, hk⟩ := fuel_split 2 h
      simp only [toRefFs, evalFs, QM.RefSem.evalFields, QM.RefSem.evalChain]
      rw [h₁ k (Nat.le_trans (Nat.le_max_left _ _) hk)]
      simp only [Res.bind, setOrAppend]
      rw [h₂ (k + 1) (Nat.le_succ_of_le (Nat.le_trans (Nat.le_max_right _ _) hk))]
      simp
end

end Bridge

end BridgePart

section Final
open QM.RefSem.C0 Bridge

/-- **Compiled execution = reference semantics on the fragment**: for a well-formed chain, the VM run
of the compiled code leaves a value whose name-resolved form is exactly what the reference evaluator
computes for the chain from the name-resolved flowing value (for every sufficiently large fuel). -/
theorem compile0_agrees_with_reference (O : QM.VM.Oracle) (P : QM.VM.Prog) (nm : Nat → Option String)
    (env : QM.RefSem.Env) (c : Ch0) (p : QM.VM.Proc) (flow : QM.VM.Val) (rest : List QM.VM.Val)
    (hs : p.stack = flow :: rest) (hw : wfCh P c) :
    ∃ p' v N, runList O P (compileCh c) p = .ok p' ∧ p'.stack = v :: rest ∧
      ∀ fuel, N ≤ fuel →
        QM.RefSem.evalTerms fuel env (erase nm flow) (toRefCh nm c) = .ok (erase nm v, env) := by
  obtain ⟨p', hr, hst, _⟩ := compile0_correct O P c p flow rest hs hw
  obtain ⟨N, hN⟩ := ref_evalCh nm env c flow
  exact ⟨p', evalCh flow c, N, hr, hst, hN⟩

end Final

namespace Ex0
open QM.VM QM.RefSem.C0
/-- constants: #0 = 7, #1 = 1; tuple ids: 2 = `[_, _]` (both tuples have two fields) -/
def chain : Ch0 :=
  .cons (.int 7 0) (.cons (.tup 2 (.cons (.cons .ripple .nil)
    (.cons (.cons (.tup 2 (.cons (.cons (.int 1 1) .nil) (.cons (.cons .ripple .nil) .nil))) .nil) .nil))) .nil)

example : compileCh chain =
    [.pop, .constant 0,
     .pick 0, .pick 1, .pick 0, .pop, .constant 1, .pick 1, .tuple 2, .rotate 2, .pop,
     .tuple 2, .rotate 2, .pop] := by rfl

example : evalCh Val.nil chain =
    .tup 2 (.cons (.int 7) (.cons (.tup 2 (.cons (.int 1) (.cons (.int 7) .nil))) .nil)) := by rfl
end Ex0

end C02
