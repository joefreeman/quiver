import QuiverModel.Lemmas.Equal.Values
import QuiverModel.Lemmas.Equal.Refs
/-
C13 — Equality is structural, construction-independent, and refs are unique.

Model: `QuiverModel/Core/Equal/Basic.lean` (`canonicalTuples`, `valuesEqual`, `equalN`,
`matchVerdict`, `erase`, `mintRef`, `MintState`).  All statements are for every context, value,
table, schedule — no bound on sizes or depths.

Hypotheses (notes/C13.md "Findings" describes the three defects C13-A/B/C that this property exposed;
each is repaired in /repo by the commit quoted):
  * `WF … pf` contains `f = pf pid` for every process handle `proc pid f`. The system keeps a
    process's handles at one function index (`fix: the self handle of a process changed after a named
    tail call`, C13-B; `handles_WF`); `valuesEqual_proc_fidx` shows that without the clause two
    handles of one process compare unequal;
  * resources carry no hypothesis: `values_equal` has a `Resource` arm (`fix: a resource handle never
    compared equal to itself`, C13-C);
  * `matchVerdictLegacy` is `handle_equal` as it stood before `fix: pin and repeated-binder equality
    failed on equal nil values` (C13-A): `Equal` answered with its first operand, so NIL never
    equalled NIL (`matchVerdictLegacy_nil`).
-/
namespace C13
open QM QM.VM QM.Equal

/-! ## Canonical tuple shapes -/

/-- `canon ts i = canon ts j ↔ same name ∧ same labels`, for ids in range. Field types do not
occur: the code drops them (`info.fields.iter().map(|(label, _)| label.clone())`). -/
theorem canon_spec (ts : List TupleInfo) (i j : Nat) (hi : i < ts.length) (hj : j < ts.length) :
    (canonicalTuples ts)[i]'(by simpa [canonicalTuples_length] using hi)
      = (canonicalTuples ts)[j]'(by simpa [canonicalTuples_length] using hj)
    ↔ (ts[i]).name = (ts[j]).name ∧ (ts[i]).labels = (ts[j]).labels :=
  QM.Equal.canon_spec ts i j hi hj

/-- The canonical id is the lowest id with the same name and labels. -/
theorem canon_least (ts : List TupleInfo) (i : Nat) (hi : i < ts.length) :
    let k := (canonicalTuples ts)[i]'(by simpa [canonicalTuples_length] using hi)
    ∃ hk : k < ts.length, k ≤ i ∧ (ts[k]).shape = (ts[i]).shape ∧
      ∀ m (hm : m < k), (ts[m]'(by omega)).shape ≠ (ts[i]).shape :=
  QM.Equal.canon_least ts i hi

/-- The table has one entry per tuple id. -/
theorem canon_length (ts : List TupleInfo) : (canonicalTuples ts).length = ts.length :=
  canonicalTuples_length ts

/-- Appending tuples (a REPL evaluation, a module import) never changes the canonical id of an
existing tuple id, although the table is recomputed from scratch at every program update. -/
theorem canon_append_stable (ts more : List TupleInfo) (i : Nat) (hi : i < ts.length) :
    (canonicalTuples (ts ++ more))[i]'(by simp [canonicalTuples_length]; omega)
      = (canonicalTuples ts)[i]'(by simpa [canonicalTuples_length] using hi) :=
  QM.Equal.canon_append_stable ts more i hi

/-! ## Equality is equality of erasures -/

/-- **Headline.** In a coherent executor context, for well-formed values, `values_equal` answers
`true` exactly when the two values erase to the same structural value (ids → name + labels,
binary handles → bytes, process handles → process id). -/
theorem valuesEqual_iff_erase (X : Ctx) (hX : X.Coherent) (pf : Nat → Nat) (a b : Val)
    (ha : WF X pf a) (hb : WF X pf b) :
    valuesEqual X a b = true ↔ erase X a = erase X b :=
  valuesEqual_iff_erase_aux X hX pf a b ha hb

/-- The same statement with the hypotheses in the form the correspondence check evaluates them:
`wfB` (driver request `(wf v)`) and coherence of the process handles occurring in the two values
(computed by the harness; an invariant of the handle producers, see `handles_WF`). -/
theorem valuesEqual_iff_erase_checked (X : Ctx) (hX : X.Coherent) (pf : Nat → Nat) (a b : Val)
    (ha : wfB X a = true) (hb : wfB X b = true) (pa : ProcOK pf a) (pb : ProcOK pf b) :
    valuesEqual X a b = true ↔ erase X a = erase X b :=
  valuesEqual_iff_erase X hX pf a b ((WF_iff_wfB X pf a).2 ⟨ha, pa⟩) ((WF_iff_wfB X pf b).2 ⟨hb, pb⟩)

theorem valuesEqual_refl (X : Ctx) (hX : X.Coherent) (pf : Nat → Nat) (a : Val) (ha : WF X pf a) :
    valuesEqual X a a = true :=
  (valuesEqual_iff_erase X hX pf a a ha ha).2 rfl

theorem valuesEqual_symm (X : Ctx) (hX : X.Coherent) (pf : Nat → Nat) (a b : Val)
    (ha : WF X pf a) (hb : WF X pf b) (h : valuesEqual X a b = true) : valuesEqual X b a = true :=
  (valuesEqual_iff_erase X hX pf b a hb ha).2 ((valuesEqual_iff_erase X hX pf a b ha hb).1 h).symm

theorem valuesEqual_trans (X : Ctx) (hX : X.Coherent) (pf : Nat → Nat) (a b c : Val)
    (ha : WF X pf a) (hb : WF X pf b) (hc : WF X pf c)
    (h₁ : valuesEqual X a b = true) (h₂ : valuesEqual X b c = true) : valuesEqual X a c = true :=
  (valuesEqual_iff_erase X hX pf a c ha hc).2
    (((valuesEqual_iff_erase X hX pf a b ha hb).1 h₁).trans ((valuesEqual_iff_erase X hX pf b c hb hc).1 h₂))

/-- **Construction independence**: the verdict depends on the two values only through their
erasures — replacing either by *any* other representation of the same structural value (other
tuple id with the same name and labels, constant instead of heap binary, …) keeps the verdict. -/
theorem valuesEqual_construction_independent (X : Ctx) (hX : X.Coherent) (pf : Nat → Nat)
    (a a' b b' : Val) (ha : WF X pf a) (ha' : WF X pf a') (hb : WF X pf b) (hb' : WF X pf b')
    (ea : erase X a = erase X a') (eb : erase X b = erase X b') :
    valuesEqual X a b = valuesEqual X a' b' := by
  rw [Bool.eq_iff_iff, valuesEqual_iff_erase X hX pf a b ha hb,
    valuesEqual_iff_erase X hX pf a' b' ha' hb', ea, eb]

/-- The hypotheses are satisfiable by a non-trivial state: two `P[x: _]` tuples with different ids
(2 and 3: same name and labels, declared at sites with different field types), one holding a
constant binary and the other a heap rope (concat of an owned byte and a slice) with the same
bytes, nested in an unnamed pair. -/
def exCtx : Ctx := Ctx.ofProgram
  [⟨none, []⟩, ⟨some "Ok", []⟩, ⟨some "P", [some "x"]⟩, ⟨some "P", [some "x"]⟩, ⟨none, [none, none]⟩]
  [.int 7, .bin [1, 2, 3]] [.owned [9], .tiled (.owned [1, 2, 3]) 1, .concat (.owned [1]) (.slice (.owned [0, 2, 3, 4]) 1 2) 3]
def exA : Val := .tup 4 (.cons (.tup 2 (.cons (.bin (.const 1)) .nil)) (.cons (.proc 5 8) .nil))
def exB : Val := .tup 4 (.cons (.tup 3 (.cons (.bin (.heap 2)) .nil)) (.cons (.proc 5 8) .nil))
example : exCtx.Coherent := Ctx.ofProgram_coherent _ _ _
  (fun r hr => (Rope.lenOKB_iff r).1 (List.all_eq_true.1 (by decide : List.all _ Rope.lenOKB = true) r hr))
example : wfB exCtx exA = true ∧ wfB exCtx exB = true := by decide
example : valuesEqual exCtx exA exB = true ∧ exA ≠ exB ∧ erase exCtx exA = erase exCtx exB := by decide

/-- **Binary equality is independent of the rope shape** (Owned / Zeroed / Slice / Concat / Tiled,
under any factorisation): two heap binaries compare equal iff their flattened bytes agree. -/
theorem binEqual_shape_independent (X : Ctx) (hX : X.Coherent) (i j : Nat) (ra rb : Rope)
    (hi : X.heap[i]? = some ra) (hj : X.heap[j]? = some rb) :
    valuesEqual X (.bin (.heap i)) (.bin (.heap j)) = true ↔ ra.toVec = rb.toVec := by
  simp [valuesEqual, binEqual_eq X hX.2, Ctx.bytesOf, Ctx.heapBytes, hi, hj]

/-- The heap clause of `Ctx.Coherent` is an invariant of the allocation API: the smart constructors
behind `binary_concat` / `binary_slice` / `binary_repeat` (and `Owned` / `Zeroed` trivially) return
ropes that store their true length and flatten to the expected bytes. -/
theorem constructors_preserve_LenOK (l r : Rope) (hl : l.LenOK) (hr : r.LenOK) :
    (Rope.mkConcat l r).LenOK ∧
    (∀ off n s, Rope.mkSlice l off n = some s → s.LenOK ∧ s.toVec = (l.toVec.drop off).take n) ∧
    (∀ c, (Rope.mkTiled l c).len ≤ maxBinarySize →
      (Rope.mkTiled l c).LenOK ∧ (Rope.mkTiled l c).toVec = (List.replicate c l.toVec).flatten) :=
  ⟨(Rope.mkConcat_ok l r hl hr).1, fun off n s h => Rope.mkSlice_ok l off n hl s h,
   fun c h => Rope.mkTiled_ok l c hl h⟩

/-- The same bytes tiled under three factorisations, zero-filled vs tiled zero, a slice of a concat:
all equal (the situation a shape-based fast path gets wrong). -/
example :
    let X := Ctx.ofProgram [] []
      [.tiled (.owned [0xab]) 8, .tiled (.owned [0xab, 0xab]) 4, .tiled (.tiled (.owned [0xab]) 4) 2,
       .owned [0xab, 0xab, 0xab, 0xab, 0xab, 0xab, 0xab, 0xab],
       .zeroed 4, .tiled (.owned [0]) 4, .slice (.concat (.owned [9, 0, 0]) (.zeroed 5) 8) 1 4]
    valuesEqual X (.bin (.heap 0)) (.bin (.heap 1)) = true ∧
    valuesEqual X (.bin (.heap 1)) (.bin (.heap 2)) = true ∧
    valuesEqual X (.bin (.heap 0)) (.bin (.heap 3)) = true ∧
    valuesEqual X (.bin (.heap 4)) (.bin (.heap 5)) = true ∧
    valuesEqual X (.bin (.heap 5)) (.bin (.heap 6)) = true ∧
    valuesEqual X (.bin (.heap 3)) (.bin (.heap 6)) = false := by decide

/-! ## Where the hypotheses bite (mirrors of the three findings) -/

/-- Resources compare by resource id only (the type id of the handle plays no role). -/
theorem valuesEqual_resource (X : Ctx) (r t r' t' : Nat) :
    valuesEqual X (.res r t) (.res r' t') = (r == r') := by
  simp [valuesEqual]

/-- Why `WF` demands coherent process handles: two handles to the same process with different
function indices (what `selfHandleLegacy` yields after a named tail call vs. what `notify_spawn`
delivers to the parent) compare unequal although they erase to the same value. -/
theorem valuesEqual_proc_fidx (X : Ctx) (p f g : Nat) (h : f ≠ g) :
    valuesEqual X (.proc p f) (.proc p g) = false ∧ erase X (.proc p f) = erase X (.proc p g) := by
  simp [valuesEqual, h]

/-- Whatever a named tail call has put into the first frame, the handle `&.` yields is the value the
spawner got from `notify_spawn`. -/
theorem selfHandle_eq_spawnHandle (started : Nat → Option Nat) (pid f anyFrameFn : Nat)
    (h : started pid = some f) : selfHandle started anyFrameFn pid = spawnHandle pid f := by
  simp [selfHandle, spawnHandle, h]

/-- **The process-handle clause of `WF` is an invariant of the handle producers**: both handles
satisfy `WF` for `pf` = "the function the process was started with" (`0` stands in for a process
never started; it is not read here). -/
theorem handles_WF (X : Ctx) (started : Nat → Option Nat) (pid f anyFrameFn : Nat)
    (h : started pid = some f) :
    WF X (fun p => (started p).getD 0) (selfHandle started anyFrameFn pid) ∧
    WF X (fun p => (started p).getD 0) (spawnHandle pid f) := by
  simp [selfHandle, spawnHandle, WF, h]

/-- Defect C13-B in the model: `selfHandleLegacy` (`handle_self` reading the first frame) after a
named tail call to a function `g ≠ f` differs from the spawner's handle, and `values_equal` says so. -/
theorem selfHandleLegacy_differs (X : Ctx) (pid f g : Nat) (h : g ≠ f) :
    valuesEqual X (selfHandleLegacy g pid) (spawnHandle pid f) = false := by
  simp [selfHandleLegacy, spawnHandle, valuesEqual, h]

/-! ## `Equal(n)` -/

/-- `Equal(count)`: underflow check first; `count = 0` panics; otherwise the `count` topmost values
are replaced by `Ok` if every one of them erases to the same structural value as the deepest one,
and by NIL otherwise. -/
theorem equalN_spec (X : Ctx) (hX : X.Coherent) (pf : Nat → Nat) (count : Nat) (stack : List Val)
    (hwf : ∀ v ∈ stack.take count, WF X pf v) :
    equalN X count stack =
      if count > stack.length then .err .stackUnderflow
      else match (stack.take count).reverse with
        | [] => .panic
        | first :: rest =>
          .ok ((if ∀ v ∈ first :: rest, erase X first = erase X v then Val.ok else Val.nil)
            :: stack.drop count) := by
  unfold equalN
  have hmem' : ∀ v ∈ (stack.take count).reverse, WF X pf v := fun v hv => hwf v (List.mem_reverse.1 hv)
  split
  · rfl
  · generalize (stack.take count).reverse = l at hmem'
    cases l with
    | nil => rfl
    | cons first rest =>
      have hfirst := hmem' first (by simp)
      have key : ((first :: rest).all fun v => valuesEqual X first v) = true ↔
          ∀ v ∈ first :: rest, erase X first = erase X v := by
        rw [List.all_eq_true]
        constructor
        · intro h v hv; exact (valuesEqual_iff_erase X hX pf first v hfirst (hmem' v hv)).1 (h v hv)
        · intro h v hv; exact (valuesEqual_iff_erase X hX pf first v hfirst (hmem' v hv)).2 (h v hv)
      simp only [key]

/-- All `count` values pairwise equal ⇔ all equal to the first (by transitivity and symmetry):
the result of `Equal(n)` does not depend on which operand is deepest. -/
theorem equalN_all_pairs (X : Ctx) (l : List Val) (first : Val) :
    (∀ v ∈ first :: l, erase X first = erase X v) ↔
    (∀ u ∈ first :: l, ∀ v ∈ first :: l, erase X u = erase X v) := by
  constructor
  · intro h u hu v hv; rw [← h u hu, ← h v hv]
  · intro h v hv; exact h first (by simp) v hv

/-- `Equal(0)` is a Rust panic (`values[0]` on an empty vector); the compiler only emits `Equal(2)`. -/
theorem equalN_zero (X : Ctx) (stack : List Val) : equalN X 0 stack = .panic := by
  simp [equalN]

/-- **The verdict of a compiled pin / literal / repeated-binder requirement** `a =&b`
(`Equal(2); Not; JumpIf fail`): it holds exactly when the operands are the same structural value. -/
theorem matchVerdict_spec (X : Ctx) (hX : X.Coherent) (pf : Nat → Nat) (a b : Val)
    (ha : WF X pf a) (hb : WF X pf b) :
    matchVerdict X a b = .ok (decide (erase X a = erase X b)) := by
  rw [matchVerdict_eq, valuesEqual_refl X hX pf a ha, Bool.true_and]
  exact congrArg _ (Bool.eq_iff_iff.2 ((valuesEqual_iff_erase X hX pf a b ha hb).trans decide_eq_true_iff.symm))

theorem matchVerdict_iff (X : Ctx) (hX : X.Coherent) (pf : Nat → Nat) (a b : Val)
    (ha : WF X pf a) (hb : WF X pf b) :
    matchVerdict X a b = .ok true ↔ erase X a = erase X b := by
  rw [matchVerdict_spec X hX pf a b ha hb]
  simp

/-- The verdict is symmetric: `a =&b` and `b =&a` agree. -/
theorem matchVerdict_symm (X : Ctx) (hX : X.Coherent) (pf : Nat → Nat) (a b : Val)
    (ha : WF X pf a) (hb : WF X pf b) : matchVerdict X a b = matchVerdict X b a := by
  rw [matchVerdict_spec X hX pf a b ha hb, matchVerdict_spec X hX pf b a hb ha]
  congr 1
  simp only [decide_eq_decide]
  exact eq_comm

/-- Defect C13-A in the model: under `equalNLegacy`, NIL matched against a pinned NIL *fails* — the
"equal" answer is the first operand, here the "not equal" answer. -/
theorem matchVerdictLegacy_nil (X : Ctx) (b : Val) : matchVerdictLegacy X Val.nil b = .ok false := by
  -- `[nil, b].all (valuesEqual X nil ·)` unfolded
  have h : matchVerdictLegacy X Val.nil b =
      .ok (!(if (valuesEqual X Val.nil Val.nil && (valuesEqual X Val.nil b && true)) then Val.nil
        else Val.nil).isNil) := rfl
  rw [h, ite_self]; rfl

/-- `matchVerdict`, the model of `handle_equal` as it is in /repo, answers `Ok` on two NILs. -/
theorem matchVerdict_nil (X : Ctx) : matchVerdict X Val.nil Val.nil = .ok true := by
  rw [matchVerdict_eq, valuesEqual_nil]; rfl

/-! ## Refs -/

/-- `create_ref` on machine words: within the guard the ref is `worker · 2^48 + counter`. -/
theorem mintRef_toNat (w : UInt16) (c : UInt64) (hc : c.toNat < 2 ^ 48) :
    (mintRef w c).toNat = w.toNat * 2 ^ 48 + c.toNat :=
  QM.Equal.mintRef_toNat w c hc

/-- **Injectivity with the explicit guard**: counters below `2^48` (worker ids are `u16` by type). -/
theorem mintRef_injective (w₁ w₂ : UInt16) (c₁ c₂ : UInt64)
    (h₁ : c₁.toNat < 2 ^ 48) (h₂ : c₂.toNat < 2 ^ 48) (h : mintRef w₁ c₁ = mintRef w₂ c₂) :
    w₁ = w₂ ∧ c₁ = c₂ :=
  QM.Equal.mintRef_injective w₁ w₂ c₁ c₂ h₁ h₂ h

/-- The guard is necessary: after `2^48` mints on worker 0 its next ref collides with worker 1's
first. (Unreachable in practice: 2^48 mints.) -/
theorem mintRef_guard_necessary : mintRef 0 (2 ^ 48) = mintRef 1 0 ∧ (0 : UInt16) ≠ 1 :=
  ⟨mintRef_collision_beyond_guard, by decide⟩

/-- **`refs_fresh`**: in a system of `n ≤ 2^16` workers with their own counters, under *every*
schedule of at most `2^48` mint events in total, all minted refs are pairwise distinct — across all
processes and workers (a process is placed on one worker; which process mints is irrelevant since
`create_ref` only touches the worker's counter). -/
theorem refs_fresh (n : Nat) (hn : n ≤ 65536) (ws : List Nat) (s : MintState)
    (hrun : (MintState.init n).run ws = some s) (hlen : ws.length ≤ 2 ^ 48) :
    (s.minted.map Prod.snd).Nodup :=
  (MintInv.run n hn ws (MintState.init n) s (MintInv.init n) (by simpa [MintState.init] using hlen) hrun).nodup

/-- A mint by an existing worker succeeds as long as fewer than `2^48` refs have been minted in all. -/
theorem mint_total (n : Nat) (s : MintState) (w : Nat) (inv : MintInv n s)
    (hw : w < n) (hroom : s.minted.length < 2 ^ 48) : ∃ s', s.mint w = some s' := by
  have hlt : w < s.counters.length := by rw [inv.len]; exact hw
  have hc : s.counters[w]? = some s.counters[w] := List.getElem?_eq_getElem hlt
  have hb := inv.bound w _ hc
  have hne : s.counters[w] ≠ 0xFFFFFFFFFFFFFFFF := by
    intro e; rw [e] at hb
    have : (0xFFFFFFFFFFFFFFFF : UInt64).toNat = 2 ^ 64 - 1 := by decide
    omega
  refine ⟨⟨s.counters.set w (s.counters[w] + 1), (w, mintRef (UInt16.ofNat w) s.counters[w]) :: s.minted⟩, ?_⟩
  simp [MintState.mint, hc, createRef, hne]

example : ((MintState.init 3).run [0, 1, 0, 2, 2, 1, 0]).map (fun s => s.minted.map (fun p => p.2.toNat))
    = some [2, 281474976710657, 562949953421313, 562949953421312, 1, 281474976710656, 0] := by decide

end C13
