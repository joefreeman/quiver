import QuiverModel.Theorems.C02Blk
/-
C02 (compiler correctness), on C02Blk and C02Struct — **function literals with captures and calls are compiled
correctly**, on C07's M-VM: the fragment is a language with first-class, non-recursive functions.

Compile3's programs are programs of Compile5 (`T3.up …`, C02Up; no builtins, no enclosing function: `semUp`). The
abstract runs `ARunsC` add to C02Loc's steps `Function(fi)` and `Call`, the latter justified by `cs fv arg = some res`,
the MEANING of applying a function value — a parameter of the whole development; they are a machine of level 3 in the
sense of C02Struct. They lift to `transition` given `CallOK cs` (`liftC`), and `CallOK (callSem Φ n)` holds for every
fuel `n` by induction on `n` (`callOK_all`): a call runs the callee's code, the body compiled as a block over the
captures (`fnCode`), to which the structural theorem applies with `cs := callSem Φ (n - 1)`. `lift_bcall` and
`tail_step`, the process-level steps of the constructs C02Tail and C02TailN add, are stated here because both use them.
-/
open QM.VM QM.RefSem.C3
open QM.RefSem.C1 (slot patBinds wfProg)
open C02L (St astepL InvL sim_stepL OracleIntEq)

namespace C02F

theorem bump_select (p : Proc) : p.bump.selectState = p.selectState := by
  unfold Proc.bump; split <;> rfl

theorem push_select (p : Proc) (v : Val) : (p.push v).selectState = p.selectState := rfl

theorem setCounter_select (p : Proc) (c : Nat) : (p.setCounter c).selectState = p.selectState := by
  unfold Proc.setCounter; split <;> rfl

/-- the instructions whose handlers leave the select state alone: those C02Loc's machine steps on (`astepL_frag`), and
`Function` -/
def fragInstr : Instr → Bool
  | .constant _ | .pop | .duplicate | .pick _ | .rotate _ | .reset _ | .load _ | .store | .tuple _
  | .get _ | .isType _ | .jump _ | .jumpIf _ | .equal _ | .not | .function _ => true
  | _ => false

theorem step_keeps_select (O : Oracle) (P : Prog) (p q : Proc) (i : Instr) (hf : fragInstr i = true)
    (h : stepInstr O P p i = .ok (q, none)) : q.selectState = p.selectState := by
  -- every handler of the fragment answers an error or `p` with another stack and other locals: as it is, with the
  -- counter bumped, or with the counter set
  cases i <;> first | cases hf | skip
  all_goals
    simp only [stepInstr, handleConstant, handlePop, handleDuplicate, handlePick, handleRotate, handleReset, handleLoad,
      handleStore, handleTuple, handleGet, handleIsType, handleJump, handleJumpIf, handleEqual, handleNot,
      handleFunction, QM.VM.ok] at h
    repeat' split at h
    all_goals cases h
    all_goals first | rfl | exact bump_select _ | exact setCounter_select _ _

/-- abstract runs over one function's code: the steps of C02Loc's machine, `Function(fi)` (closure
creation) and `Call` — a call step is justified by the MEANING `cs` of the application -/
inductive ARunsC (O : Oracle) (P : Prog) (code : Array Instr) (cs : Val → Val → Option Val) : St → St → Prop where
  | refl (x : St) : ARunsC O P code cs x x
  | step {pc : Nat} {s L : List Val} {x y : St} (i : Instr) (hi : code[pc]? = some i)
      (h : astepL O P i pc s L = some x) (r : ARunsC O P code cs x y) : ARunsC O P code cs (pc, s, L) y
  | func {pc : Nat} {s L : List Val} {y : St} (fi : Nat) (fn : Function) (ws : List Val)
      (hi : code[pc]? = some (.function fi)) (hfn : P.functions[fi]? = some fn) (hc : fn.captures = ws.length)
      (r : ARunsC O P code cs (pc + 1, .fn fi (ValList.ofList ws) :: s, L) y) :
      ARunsC O P code cs (pc, ws.reverse ++ s, L) y
  | call {pc : Nat} {s L : List Val} {y : St} (fv arg res : Val) (hi : code[pc]? = some .call)
      (h : cs fv arg = some res) (r : ARunsC O P code cs (pc + 1, res :: s, L) y) :
      ARunsC O P code cs (pc, fv :: arg :: s, L) y

theorem ARunsC.trans {O : Oracle} {P : Prog} {code : Array Instr} {cs : Val → Val → Option Val} {x y z : St}
    (h₁ : ARunsC O P code cs x y) (h₂ : ARunsC O P code cs y z) : ARunsC O P code cs x z := by
  induction h₁ with
  | refl => exact h₂
  | step i hi h _ ih => exact .step i hi h (ih h₂)
  | func fi fn ws hi hfn hc _ ih => exact .func fi fn ws hi hfn hc (ih h₂)
  | call fv arg res hi h _ ih => exact .call fv arg res hi h (ih h₂)

theorem ARunsC.ofL {O : Oracle} {P : Prog} {code : Array Instr} {cs : Val → Val → Option Val} {x y : St}
    (h : C02L.ARunsL O P code x y) : ARunsC O P code cs x y := by
  induction h with
  | refl x => exact .refl x
  | step i hi h _ ih => exact .step i hi h ih

mutual
  /-- number of binders a term adds to the enclosing scope -/
  def nbT : T3 → Nat
    | .int _ _ => 0
    | .ripple => 0
    | .tup _ fs => nbFs fs
    | .var _ => 0
    | .mtch p => (patBinds p).length
    | .block _ => 0
    | .fnlit _ _ => 0
    | .call _ => 0
    | .callNil _ => 0
  def nbCh : Ch3 → Nat
    | .nil => 0
    | .cons t r => nbT t + nbCh r
  def nbFs : Fs3 → Nat
    | .nil => 0
    | .cons c r => nbCh c + nbFs r
  def nbSq : Sq3 → Nat
    | .last c => nbCh c
    | .cons c r => nbCh c + nbSq r
end

mutual
  theorem nbT_up : (t : T3) → C02N.nbT t.up = nbT t
    | .int _ _ => rfl
    | .ripple => rfl
    | .tup _ fs => by simp only [T3.up, C02N.nbT, nbT, nbFs_up fs]
    | .var _ => rfl
    | .mtch _ => rfl
    | .block _ => rfl
    | .fnlit _ _ => rfl
    | .call _ => rfl
    | .callNil _ => rfl
  theorem nbCh_up : (c : Ch3) → C02N.nbCh c.up = nbCh c
    | .nil => rfl
    | .cons t r => by simp only [Ch3.up, C02N.nbCh, nbCh, nbT_up t, nbCh_up r]
  theorem nbFs_up : (fs : Fs3) → C02N.nbFs fs.up = nbFs fs
    | .nil => rfl
    | .cons c r => by simp only [Fs3.up, C02N.nbFs, nbFs, nbCh_up c, nbFs_up r]
end

theorem nbSq_up : (sq : Sq3) → C02N.nbSq sq.up = nbSq sq
  | .last c => by simp only [Sq3.up, C02N.nbSq, nbSq, nbCh_up c]
  | .cons c r => by simp only [Sq3.up, C02N.nbSq, nbSq, nbCh_up c, nbSq_up r]

theorem compileFs_len : (fs : Fs3) → (Γ : List String) → (k : Nat) →
      (compileFs Γ fs k).2.length = Γ.length + nbFs fs
  | fs, Γ, k => by rw [← compileFs_up, C02N.compileFs_len, nbFs_up]

theorem evalFs_ext (cs : Val → Val → Option Val) : (fs : Fs3) → (Γ : List String) → (L : List Val) → (flow : Val) → (vs L' : List Val) →
      evalFs cs Γ L flow fs = some (vs, L') → ∃ ext, L' = L ++ ext ∧ ext.length = nbFs fs
  | fs, Γ, L, flow, vs, L', h => by
    rw [← nbFs_up]
    exact C02N.evalFs_ext (semUp cs) fs.up Γ L flow vs L' (by rw [evalFs_up, h])

theorem evalSq_ext (cs : Val → Val → Option Val) : (sq : Sq3) → (Γ : List String) → (L : List Val) → (flow v : Val) → (L' : List Val) →
      evalSq cs Γ L flow sq = some (v, L') →
      ∃ ext, L' = L ++ ext ∧ ext.length ≤ nbSq sq ∧ (v.isNil = false → ext.length = nbSq sq)
  | sq, Γ, L, flow, v, L', h => by
    rw [← nbSq_up]
    exact C02N.evalSq_ext (semUp cs) sq.up Γ L flow v L' (by rw [evalSq_up, h]; rfl)

/-- the abstract runs are a machine of level 3 for the embedded programs (no enclosing function: `nc = 0`) -/
theorem machine (O : Oracle) (P : Prog) (code : Array Instr) (cs : Val → Val → Option Val) :
    C02N.Machine O P code (semUp cs) 0 0 3 (ARunsC O P code cs) where
  trans := ARunsC.trans
  ofL := ARunsC.ofL
  func fj fn ws _ hi hfn hc := .func fj fn ws hi hfn hc (.refl _)
  call fv arg res _ hi h := .call fv arg res hi h (.refl _)
  tail _ _ _ h := absurd h (by decide)
  bcall _ _ _ h := absurd h (by decide)
  tailN _ _ _ h := absurd h (by decide)

theorem selfOK_semUp (cs : Val → Val → Option Val) (L : List Val) : C02N.SelfOK (semUp cs) 0 0 L :=
  fun _ h => nomatch h

section Machine
variable {O : Oracle} {P : Prog} {code : Array Instr} {cs : Val → Val → Option Val}

theorem compileT_aruns (hO : OracleIntEq O) (hP : wfProg P) (hsz : code.size < 2 ^ 63 - 1) :
      (t : T3) → (Γ : List String) → (pc : Nat) → (flow : Val) → (rest L : List Val) → (v : Val) →
      (L' : List Val) → C02S.Located code pc (compileT Γ t).1 → wfT P t → L.length = Γ.length →
      evalT cs Γ L flow t = some (v, L') →
      ARunsC O P code cs (pc, flow :: rest, L) (pc + (compileT Γ t).1.length, v :: rest, L')
  | t, Γ, pc, flow, rest, L, v, L', hl, hw, hal, hev => by
    have := (machine O P code cs).runT hO hP hsz t.up Γ pc _ flow rest L (.norm v L') ⟨by rwa [compileT_up], rfl⟩
      (wfT_up P t hw) (lvT_up t) hal (Nat.zero_le _) (selfOK_semUp cs L) (by rw [evalT_up, hev]; rfl)
    rwa [compileT_up] at this
theorem compileCh_aruns (hO : OracleIntEq O) (hP : wfProg P) (hsz : code.size < 2 ^ 63 - 1) :
      (c : Ch3) → (Γ : List String) → (pc : Nat) → (flow : Val) → (rest L : List Val) → (v : Val) →
      (L' : List Val) → C02S.Located code pc (compileCh Γ c).1 → wfCh P c → L.length = Γ.length →
      evalCh cs Γ L flow c = some (v, L') →
      ARunsC O P code cs (pc, flow :: rest, L) (pc + (compileCh Γ c).1.length, v :: rest, L')
  | c, Γ, pc, flow, rest, L, v, L', hl, hw, hal, hev => by
    have := (machine O P code cs).runCh hO hP hsz c.up Γ pc _ flow rest L (.norm v L') ⟨by rwa [compileCh_up], rfl⟩
      (wfCh_up P c hw) (lvCh_up c) hal (Nat.zero_le _) (selfOK_semUp cs L) (by rw [evalCh_up, hev]; rfl)
    rwa [compileCh_up] at this
theorem compileFs_aruns (hO : OracleIntEq O) (hP : wfProg P) (hsz : code.size < 2 ^ 63 - 1) :
      (fs : Fs3) → (Γ : List String) → (pc : Nat) → (flow : Val) → (rest L acc vs : List Val) →
      (L' : List Val) → C02S.Located code pc (compileFs Γ fs acc.length).1 → wfFs P fs →
      L.length = Γ.length → evalFs cs Γ L flow fs = some (vs, L') →
      ARunsC O P code cs (pc, acc.reverse ++ flow :: rest, L)
          (pc + (compileFs Γ fs acc.length).1.length, (acc ++ vs).reverse ++ flow :: rest, L') ∧
        vs.length = fs.length
  | fs, Γ, pc, flow, rest, L, acc, vs, L', hl, hw, hal, hev => by
    have := (machine O P code cs).runFs hO hP hsz fs.up Γ pc _ flow rest L acc vs L' ⟨by rwa [compileFs_up], rfl⟩
      (wfFs_up P fs hw) (lvFs_up fs) hal (Nat.zero_le _) (selfOK_semUp cs L) (by rw [evalFs_up, hev])
    rwa [compileFs_up, Fs3.length_up] at this
theorem compileSq_aruns (hO : OracleIntEq O) (hP : wfProg P) (hsz : code.size < 2 ^ 63 - 1) :
      (sq : Sq3) → (Γ : List String) → (pc : Nat) → (flow : Val) → (rest L : List Val) → (v : Val) →
      (L' : List Val) → C02S.Located code pc (compileSq Γ sq).1 → wfSq P sq → L.length = Γ.length →
      evalSq cs Γ L flow sq = some (v, L') →
      ARunsC O P code cs (pc, flow :: rest, L) (pc + (compileSq Γ sq).1.length, v :: rest, L')
  | sq, Γ, pc, flow, rest, L, v, L', hl, hw, hal, hev => by
    have := (machine O P code cs).runSq hO hP hsz sq.up Γ pc _ flow rest L (.norm v L') ⟨by rwa [compileSq_up], rfl⟩
      (wfSq_up P sq hw) (lvSq_up sq) hal (Nat.zero_le _) (selfOK_semUp cs L) (by rw [evalSq_up, hev]; rfl)
    rwa [compileSq_up] at this
/-- the branches from one on: from the branch's start (with the previous condition's nil on the stack
unless it is the first) to the parameter clear at `PC`, value on the stack, locals `L ++ [parameter]` -/
theorem compileBrs_aruns (hO : OracleIntEq O) (hP : wfProg P) (hsz : code.size < 2 ^ 63 - 1) :
      (bs : Brs3) → (Γp : List String) → (n k : Nat) → (first : Bool) → (pos PC : Nat) →
      (flow junk : Val) → (rest L : List Val) → (v : Val) →
      C02S.Located code pos (compileBrs Γp n bs k first).1 →
      pos + (compileBrs Γp n bs k first).1.length = PC →
      C02S.Located code (PC + 2 + 2 * k) (compileBrs Γp n bs k first).2 →
      PC < code.size → wfBrs P bs → Γp.length = n + 1 → L.length = n →
      (first = true → bs.isNil = false) → (first = false → junk = Val.nil) →
      evalBrs cs Γp (L ++ [flow]) flow bs = some v →
      ARunsC O P code cs (pos, (if first then rest else junk :: rest), L ++ [flow]) (PC, v :: rest, L ++ [flow])
  | bs, Γp, n, k, first, pos, PC, flow, junk, rest, L, v, hl, hPC, hcl, hPCs, hw, hΓ, hL, hf, hj, hev =>
    (machine O P code cs).runBrs hO hP hsz bs.up Γp n k first pos PC flow junk rest L (.norm v (L ++ [flow]))
      ⟨by rwa [compileBrs_up], by rwa [compileBrs_up]⟩ (by rwa [compileBrs_up]) hPCs (wfBrs_up P bs hw) (lvBrs_up bs)
      hΓ hL (Nat.zero_le _) (selfOK_semUp cs L) (by rwa [Brs3.isNil_up]) hj (by rw [evalBrs_up, hev]; rfl)

end Machine

/-- `InvL` of C02Loc, and no select is in progress (the return looks at the select state) -/
def InvC (p : Proc) (f : Frame) (r : List Frame) (pre : List Val) (pc : Nat) (s L : List Val) : Prop :=
  InvL p f r pre pc s L ∧ p.selectState = none

theorem TRuns.trans {O : Oracle} {P : Prog} {p q z : Proc} (h₁ : C02S.TRuns O P p q) (h₂ : C02S.TRuns O P q z) :
    C02S.TRuns O P p z := by
  induction h₁ with
  | refl => exact h₂
  | step h _ ih => exact .step h (ih h₂)

theorem astepL_frag (O : Oracle) (P : Prog) (i : Instr) (pc : Nat) (s L : List Val) (x : St)
    (h : astepL O P i pc s L = some x) : fragInstr i = true := by
  cases i <;> first | rfl | (simp [astepL, C02S.astep] at h)

/-- every application `cs` gives a meaning to is realised by the VM: from the `Call` to the instruction
after it, the result in place of function and argument, the caller's locals as before -/
def CallOK (O : Oracle) (P : Prog) (cs : Val → Val → Option Val) : Prop :=
  ∀ fv arg res, cs fv arg = some res →
    ∀ (fn : Function) (f : Frame) (r : List Frame) (pre : List Val) (pc : Nat) (rest L : List Val) (p : Proc),
      P.functions[f.functionIndex]? = some fn → fn.instructions[pc]? = some .call →
      InvC p f r pre pc (fv :: arg :: rest) L →
      ∃ q, C02S.TRuns O P p q ∧ InvC q f r pre (pc + 1) (res :: rest) L

/-- one unit of `Executor::step` on a running process executes the instruction at its counter -/
theorem transition_instr (O : Oracle) (P : Prog) (p : Proc) (f' : Frame) (r' : List Frame) (fn : Function)
    (i : Instr) (hpark : p.park = .none) (hres : p.result = none) (hf : p.frames = f' :: r')
    (hfn : P.functions[f'.functionIndex]? = some fn) (hi : fn.instructions[f'.counter]? = some i) :
    transition P p (.run O) = some (stepInstr O P p i) := by
  simp only [transition, hpark, hres]
  simp [hf, hfn, hi]

/-- a step of C02Loc's machine is one unit of `Executor::step`; its instruction is one of the fragment's, which
leave the select state alone -/
theorem lift_step (O : Oracle) (P : Prog) (fn : Function) (f : Frame) (r : List Frame) (pre : List Val)
    (hfn : P.functions[f.functionIndex]? = some fn) {pc : Nat} {s L : List Val} {x : St} (i : Instr)
    (hi : fn.instructions[pc]? = some i) (hstep : astepL O P i pc s L = some x) (p : Proc)
    (hp : InvC p f r pre pc s L) :
    ∃ q, transition P p (.run O) = some (.ok (q, none)) ∧ InvC q f r pre x.1 x.2.1 x.2.2 := by
  obtain ⟨hpL, hsel⟩ := hp
  obtain ⟨q, hq, hinv⟩ := sim_stepL O P i p f r pre pc s L x hpL hstep
  have hqs := step_keeps_select O P p q i (astepL_frag O P i pc s L x hstep) hq
  obtain ⟨hs, hf, hl, hb, hpark, hres⟩ := hpL
  refine ⟨q, ?_, hinv, by rw [hqs, hsel]⟩
  rw [transition_instr O P p _ r fn i hpark hres hf (by simpa using hfn) (by simpa using hi), hq]

theorem lift_func (O : Oracle) (P : Prog) (fn : Function) (f : Frame) (r : List Frame) (pre : List Val)
    (hfn : P.functions[f.functionIndex]? = some fn) {pc : Nat} {s L : List Val} (fj : Nat) (fnF : Function)
    (ws : List Val) (hi : fn.instructions[pc]? = some (.function fj)) (hfnF : P.functions[fj]? = some fnF)
    (hc : fnF.captures = ws.length) (p : Proc) (hp : InvC p f r pre pc (ws.reverse ++ s) L) :
    ∃ q, transition P p (.run O) = some (.ok (q, none)) ∧
      InvC q f r pre (pc + 1) (.fn fj (ValList.ofList ws) :: s) L := by
  obtain ⟨⟨hs, hf, hl, hb, hpark, hres⟩, hsel⟩ := hp
  have hlen : ¬ (p.stack.length < fnF.captures) := by rw [hs, hc]; simp
  have hws : ws.length = ws.reverse.length := by simp
  have htake : (p.stack.take fnF.captures).reverse = ws := by
    rw [hs, hc, hws, List.take_left' rfl, List.reverse_reverse]
  have hdrop : p.stack.drop fnF.captures = s := by
    rw [hs, hc, hws, List.drop_left' rfl]
  refine ⟨({ p with stack := .fn fj (ValList.ofList ws) :: s } : Proc).bump, ?_, ⟨?_, ?_, ?_, hb, ?_, ?_⟩, ?_⟩
  · rw [transition_instr O P p _ r fn (.function fj) hpark hres hf (by simpa using hfn) (by simpa using hi)]
    simp only [stepInstr, handleFunction, hfnF, hlen, if_false, htake, hdrop, QM.VM.ok]
  · simp [Proc.bump, hf]
  · simp [Proc.bump, hf]
  · simp [Proc.bump, hf, hl]
  · simp [Proc.bump, hf, hpark]
  · simp [Proc.bump, hf, hres]
  · rw [bump_select]; exact hsel

theorem lift_bcall (O : Oracle) (P : Prog) (fn : Function) (f : Frame) (r : List Frame) (pre : List Val)
    (hfn : P.functions[f.functionIndex]? = some fn) {pc : Nat} {s L : List Val} (bi : Nat) (arg v : Val)
    (hi : fn.instructions[pc]? = some (.builtin bi)) (hi2 : fn.instructions[pc + 1]? = some .call)
    (hb : bi < P.builtins) (hv : O.builtin bi arg = .value v) (p : Proc) (hp : InvC p f r pre pc (arg :: s) L) :
    ∃ q, C02S.TRuns O P p q ∧ InvC q f r pre (pc + 1 + 1) (v :: s) L := by
  obtain ⟨⟨hs, hf, hl, hbase, hpark, hres⟩, hsel⟩ := hp
  have hnb : ¬ (bi ≥ P.builtins) := by omega
  have htr1 : transition P p (.run O) = some (.ok ((p.push (.builtin bi)).bump, none)) := by
    rw [transition_instr O P p _ r fn (.builtin bi) hpark hres hf (by simpa using hfn) (by simpa using hi)]
    simp only [stepInstr, handleBuiltin, hnb, if_false, QM.VM.ok]
  have hf1 : ((p.push (.builtin bi)).bump).frames = { f with counter := pc + 1 } :: r := by
    simp [Proc.push, Proc.bump, hf]
  have hs1 : ((p.push (.builtin bi)).bump).stack = .builtin bi :: arg :: s := by
    simp [Proc.push, Proc.bump, hf, hs]
  have htr2 : transition P ((p.push (.builtin bi)).bump) (.run O) =
      some (.ok (({ (p.push (.builtin bi)).bump with stack := v :: s } : Proc).bump, none)) := by
    rw [transition_instr O P _ _ r fn .call (by simp [Proc.push, Proc.bump, hf, hpark])
      (by simp [Proc.push, Proc.bump, hf, hres]) hf1 (by simpa using hfn) (by simpa using hi2)]
    simp only [stepInstr, handleCall]
    rw [hs1]
    simp only [hv, QM.VM.ok]
  refine ⟨_, .step htr1 (.step htr2 (.refl _)), ⟨?_, ?_, ?_, hbase, ?_, ?_⟩, ?_⟩
  · simp [Proc.push, Proc.bump, hf]
  · simp [Proc.push, Proc.bump, hf]
  · simp [Proc.push, Proc.bump, hf, hl]
  · simp [Proc.push, Proc.bump, hf, hpark]
  · simp [Proc.push, Proc.bump, hf, hres]
  · simp [Proc.push, Proc.bump, hf, hsel]

theorem liftC (O : Oracle) (P : Prog) (cs : Val → Val → Option Val) (hcs : CallOK O P cs) (fn : Function)
    (f : Frame) (r : List Frame) (pre : List Val) (hfn : P.functions[f.functionIndex]? = some fn) {x y : St}
    (h : ARunsC O P fn.instructions cs x y) :
    ∀ p : Proc, InvC p f r pre x.1 x.2.1 x.2.2 → ∃ q, C02S.TRuns O P p q ∧ InvC q f r pre y.1 y.2.1 y.2.2 := by
  induction h with
  | refl x => exact fun p hp => ⟨p, .refl p, hp⟩
  | step i hi hstep _ ih =>
    intro p hp
    obtain ⟨q, htr, hinv⟩ := lift_step O P fn f r pre hfn i hi hstep p hp
    obtain ⟨z, hz, hzi⟩ := ih q hinv
    exact ⟨z, .step htr hz, hzi⟩
  | func fj fnF ws hi hfnF hc _ ih =>
    intro p hp
    obtain ⟨q, htr, hinv⟩ := lift_func O P fn f r pre hfn fj fnF ws hi hfnF hc p hp
    obtain ⟨z, hz, hzi⟩ := ih q hinv
    exact ⟨z, .step htr hz, hzi⟩
  | call fv arg res hi hcall _ ih =>
    intro p hp
    obtain ⟨q, hq, hinv⟩ := hcs fv arg res hcall fn f r pre _ _ _ p hfn hi hp
    obtain ⟨z, hz, hzi⟩ := ih q hinv
    exact ⟨z, TRuns.trans hq hz, hzi⟩

/-- `Call`: a frame for the callee on top, its first locals are the captures, the argument stays -/
theorem call_step (O : Oracle) (P : Prog) (fn fnC : Function) (f : Frame) (r : List Frame) (pre : List Val)
    (pc fi : Nat) (cv : ValList) (arg : Val) (rest L : List Val) (p : Proc)
    (hfn : P.functions[f.functionIndex]? = some fn) (hi : fn.instructions[pc]? = some .call)
    (hfnC : P.functions[fi]? = some fnC) (hp : InvC p f r pre pc (.fn fi cv :: arg :: rest) L) :
    ∃ q, transition P p (.run O) = some (.ok (q, none)) ∧
      InvC q (Frame.new fi (pre ++ L).length cv.toList.length) ({ f with counter := pc } :: r) (pre ++ L) 0
        (arg :: rest) cv.toList := by
  obtain ⟨⟨hs, hf, hl, hb, hpark, hres⟩, hsel⟩ := hp
  refine ⟨{ p with stack := arg :: rest, locals := p.locals ++ cv.toList,
                   frames := Frame.new fi p.locals.length cv.toList.length :: p.frames }, ?_, ?_⟩
  · rw [transition_instr O P p _ r fn .call hpark hres hf (by simpa using hfn) (by simpa using hi)]
    simp only [stepInstr, handleCall]
    rw [hs]
    simp only [hfnC]
    rfl
  · refine ⟨⟨rfl, ?_, ?_, ?_, hpark, hres⟩, hsel⟩
    · simp [hf, hl, Frame.new]
    · simp [hl]
    · simp [Frame.new]

/-- the callee's frame is exhausted: it is popped, the caller goes on after its `Call`, the locals are
cut back to the callee's base (= the caller's locals) -/
theorem return_step (O : Oracle) (P : Prog) (fnC : Function) (f g : Frame) (r : List Frame) (pre L : List Val)
    (pc : Nat) (v : Val) (rest Lc : List Val) (q : Proc) (hfnC : P.functions[g.functionIndex]? = some fnC)
    (hpre : pre.length = f.localsBase)
    (hq : InvC q g ({ f with counter := pc } :: r) (pre ++ L) fnC.instructions.size (v :: rest) Lc) :
    ∃ q', transition P q (.run O) = some (.ok (q', none)) ∧ InvC q' f r pre (pc + 1) (v :: rest) L := by
  obtain ⟨⟨hs, hf, hl, hb, hpark, hres⟩, hsel⟩ := hq
  refine ⟨popFrame q, ?_, ?_⟩
  · simp only [transition, hpark, hres, hf]
    simp [hfnC, QM.VM.ok]
  · have htake : q.locals.take g.localsBase = pre ++ L := by
      rw [hl, ← hb]; exact List.take_left' rfl
    refine ⟨⟨?_, ?_, ?_, hpre, ?_, ?_⟩, ?_⟩
    · simp [popFrame, hf, hs]
    · simp [popFrame, hf, hsel]
    · simp [popFrame, hf, htake]
    · simp [popFrame, hf, hpark]
    · simp [popFrame, hf, hres]
    · simp [popFrame, hf, hsel]

/-- `TailCall(true)`: the frame is restarted — counter 0, the locals cut back to the captures —, the
argument stays -/
theorem tail_step (O : Oracle) (P : Prog) (fn : Function) (f : Frame) (r : List Frame) (pre : List Val)
    (pc : Nat) (arg : Val) (rest L : List Val) (p : Proc)
    (hfn : P.functions[f.functionIndex]? = some fn) (hi : fn.instructions[pc]? = some (.tailCall true))
    (hp : InvC p f r pre pc (arg :: rest) L) :
    ∃ q, transition P p (.run O) = some (.ok (q, none)) ∧
      InvC q f r pre 0 (arg :: rest) (L.take f.capturesCount) := by
  obtain ⟨⟨hs, hf, hl, hb, hpark, hres⟩, hsel⟩ := hp
  refine ⟨{ p with stack := arg :: rest, locals := p.locals.take (f.localsBase + f.capturesCount),
                   frames := Frame.new f.functionIndex f.localsBase f.capturesCount :: r }, ?_, ?_⟩
  · rw [transition_instr O P p _ r fn (.tailCall true) hpark hres hf (by simpa using hfn) (by simpa using hi)]
    simp only [stepInstr, handleTailCall, if_true]
    rw [hs, hf]
    rfl
  · refine ⟨⟨rfl, ?_, ?_, hb, hpark, hres⟩, hsel⟩
    · simp [Frame.new]
    · simp only [hl, ← hb]
      exact List.take_length_add_append _

theorem located_toArray (l : List Instr) : C02S.Located l.toArray 0 l := by
  intro k _
  simp

/-- **The knot.** Every application the fuelled meaning `callSem Φ n` is defined for is realised by the
VM: `Call` pushes a frame for the callee over its captures, the callee's code — its body compiled as a
block over the captures — runs to its end (the structural theorem with `cs := callSem Φ (n - 1)`, lifted
with the induction hypothesis for the calls inside), the frame is popped and the caller goes on with the
result in place of function and argument and its own locals untouched. -/
theorem callOK_all (O : Oracle) (P : Prog) (hO : OracleIntEq O) (hP : wfProg P) (Φ : FTab) (hΦ : FnOK P Φ) :
    (n : Nat) → CallOK O P (callSem Φ n)
  | 0 => by
    intro fv arg res h
    simp [callSem] at h
  | n + 1 => by
    intro fv arg res h fn f r pre pc rest L p hfn hcall hinv
    cases fv with
    | fn fi cv =>
      simp only [callSem] at h
      split at h
      · rename_i d hd
        split at h
        · rename_i hlen
          obtain ⟨fnC, hfnC, hcode, hcaps, hne, hwf, hszC⟩ := hΦ fi d hd
          obtain ⟨q1, ht1, hinv1⟩ := call_step O P fn fnC f r pre pc fi cv arg rest L p hfn hcall hfnC hinv
          have hev : evalT (callSem Φ n) d.caps cv.toList arg (.block d.body) = some (res, cv.toList) := by
            simp [evalT, h]
          have hloc : C02S.Located fnC.instructions 0 (compileT d.caps (.block d.body)).1 := by
            rw [hcode]; exact located_toArray _
          have run := compileT_aruns (O := O) (P := P) (code := fnC.instructions) (cs := callSem Φ n) hO hP hszC
            (.block d.body) d.caps 0 arg rest cv.toList res cv.toList hloc ⟨hne, hwf⟩ hlen hev
          obtain ⟨q2, ht2, hinv2⟩ := liftC O P (callSem Φ n) (callOK_all O P hO hP Φ hΦ n) fnC
            (Frame.new fi (pre ++ L).length cv.toList.length) ({ f with counter := pc } :: r) (pre ++ L)
            (by simpa [Frame.new] using hfnC) run q1 hinv1
          have hsize : 0 + (compileT d.caps (.block d.body)).1.length = fnC.instructions.size := by
            rw [hcode]; simp [fnCode]
          simp only [hsize] at hinv2
          obtain ⟨q3, ht3, hinv3⟩ := return_step O P fnC f (Frame.new fi (pre ++ L).length cv.toList.length) r pre L
            pc res rest cv.toList q2 (by simpa [Frame.new] using hfnC) hinv.1.2.2.2.1 hinv2
          exact ⟨q3, .step ht1 (TRuns.trans ht2 (.step ht3 (.refl _))), hinv3⟩
        · simp at h
      · simp at h
    | _ => simp [callSem] at h

/-- **Function literals with captures and calls are compiled correctly** (with everything of C02Blk
around and inside them). For a program whose function table is `Φ` (`FnOK`: function `fi`'s code is its
body compiled as a block over its captures): a process of M-VM whose current function contains the code of
the sequence `sq` (compiled with the slot names `Γ`) at `pc`, whose frame's locals `L` are aligned with `Γ`,
with the flowing value on top of the stack and no select in progress, reaches the end of that code by
`Executor::step` units alone — through every `Call`, the callee's frame and the return —, with the value
`evalSq (callSem Φ n)` gives (for any fuel `n` that suffices) in place of the flowing value and the frame's
locals as it says; the frames below, their locals and the rest of the stack are untouched. -/
theorem compileSq3_correct (O : Oracle) (P : Prog) (hO : OracleIntEq O) (hP : wfProg P) (Φ : FTab)
    (hΦ : FnOK P Φ) (n : Nat) (fn : Function) (f : Frame) (r : List Frame) (pre : List Val)
    (hfn : P.functions[f.functionIndex]? = some fn) (hsz : fn.instructions.size < 2 ^ 63 - 1) (sq : Sq3)
    (Γ : List String) (pc : Nat) (flow : Val) (rest L : List Val) (v : Val) (L' : List Val)
    (hl : C02S.Located fn.instructions pc (compileSq Γ sq).1) (hw : wfSq P sq) (hal : L.length = Γ.length)
    (hev : evalSq (callSem Φ n) Γ L flow sq = some (v, L'))
    (p : Proc) (hp : InvC p f r pre pc (flow :: rest) L) :
    ∃ q, C02S.TRuns O P p q ∧ InvC q f r pre (pc + (compileSq Γ sq).1.length) (v :: rest) L' :=
  liftC O P (callSem Φ n) (callOK_all O P hO hP Φ hΦ n) fn f r pre hfn
    (compileSq_aruns hO hP hsz sq Γ pc flow rest L v L' hl hw hal hev) p hp

end C02F
