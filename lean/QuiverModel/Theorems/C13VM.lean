import QuiverModel.Core.VM.Step
import QuiverModel.Theorems.C13
/-
C13 ↔ M-VM bridge: the `Equal(n)` step of the VM model (`Core/VM/Step.lean::handleEqual`),
which takes `values_equal` as an oracle, is — once the oracle is instantiated with M-Equal's
`valuesEqual` — exactly `equalN`; hence `equalN_spec` describes the VM step.
-/
namespace C13
open QM QM.VM QM.Equal

/-- The VM step for `Equal(n)` with the M-Equal oracle is `equalN` on the process's stack. -/
theorem handleEqual_eq_equalN (O : Oracle) (X : Ctx) (hO : O.valuesEqual = valuesEqual X)
    (p : Proc) (n : Nat) :
    handleEqual O p n =
      match equalN X n p.stack with
      | .ok st => .ok (({ p with stack := st } : Proc).bump, none)
      | .err _ => .error .stackUnderflow
      | .panic => .error .panic := by
  unfold handleEqual equalN
  rw [hO]
  split
  · rfl
  · generalize (List.take n p.stack).reverse = l
    cases l <;> rfl

/-- The VM's `Equal(2)` on a well-formed pair leaves `Ok` exactly when the two values have the same
erasure, NIL otherwise. (The compiler follows it with `Not; JumpIf fail`; the `Not` is outside this
statement.) -/
theorem vm_equal_not_verdict (O : Oracle) (X : Ctx) (hO : O.valuesEqual = valuesEqual X)
    (hX : X.Coherent) (pf : Nat → Nat) (a b : Val) (ha : WF X pf a) (hb : WF X pf b)
    (p : Proc) (rest : List Val) (hs : p.stack = b :: a :: rest) :
    ∃ p', handleEqual O p 2 = .ok (p', none) ∧
      p'.stack = (if erase X a = erase X b then Val.ok else Val.nil) :: rest := by
  have hspec := equalN_spec X hX pf 2 p.stack (by
    intro v hv; rw [hs] at hv; simp at hv; rcases hv with rfl | rfl <;> assumption)
  rw [handleEqual_eq_equalN O X hO, hspec, hs]
  simp only [List.length_cons, List.take_succ_cons, List.take_zero, List.reverse_cons,
    List.reverse_nil, List.nil_append, List.cons_append, List.drop_succ_cons, List.drop_zero]
  have h2 : ¬ (2 > rest.length + 1 + 1) := by omega
  simp only [h2, if_false]
  refine ⟨_, rfl, ?_⟩
  by_cases h : erase X a = erase X b <;>
  · simp [Proc.bump, h]
    split <;> simp

end C13
