import QuiverModel.Lemmas.Num.Round
import Mathlib.Tactic.FieldSimp
/-
C20 — the num module computes exactly and propagates absence.
Property theorems about M-Num (`QuiverModel.Core.Num`, the hand translation of std/num.qv that the
driver `qm_c20` executes). Semantics `toQ` / `toQsqrt`, canonical form `Canon`: see
`QuiverModel.Lemmas.Num.Kernel`.
-/
open QM QM.Num QM.Builtins

namespace C20

/-- every op of the integer / rational fragment: result exists, is canonical, exact, and of the
kind the module header promises (int ∘ int = int; otherwise a rational, never lowered) -/
def ArithSpec (op : Option Num → Option Num → Res (Option Num)) (f : ℚ → ℚ → ℚ) : Prop :=
  ∀ x y : Num, Canon x → Canon y → ¬ isSurd x → ¬ isSurd y →
    ∃ z, op (some x) (some y) = .ok (some z) ∧ Canon z ∧ toQ z = f (toQ x) (toQ y) ∧
      (isInt x ∧ isInt y → isInt z) ∧ (¬ (isInt x ∧ isInt y) → isRat z)

/-- the integer / rational branches of an arithmetic operation of the module: two integers go
through the integer operation `iop`, every other pair through the kernel operation `rop` on the
operands read as fractions, and the result is not lowered -/
def liftArith (iop : Int → Int → Int) (rop : Rt → Rt → Res Rt) : Num → Num → Res (Option Num)
  | .int a, .int b => .ok (some (.int (iop a b)))
  | x, y => do let r ← rop (toRational (coeffOf x)) (toRational (coeffOf y)); pure (some r.toNum)

theorem toNum_coeffOf {x : Num} (nx : ¬ isSurd x) : (coeffOf x).toNum = x := by
  cases x <;> first | rfl | exact absurd trivial nx

theorem arithSpec_of {op : Option Num → Option Num → Res (Option Num)} {f : ℚ → ℚ → ℚ}
    {iop : Int → Int → Int} {rop : Rt → Rt → Res Rt}
    (hop : ∀ x y : Coeff, op (some x.toNum) (some y.toNum) = liftArith iop rop x.toNum y.toNum)
    (hi : ∀ a b : Int, ((iop a b : ℤ) : ℚ) = f a b)
    (hr : ∀ {x y : Rt}, x.d ≠ 0 → y.d ≠ 0 → ∃ z, rop x y = .ok z ∧ z.Canon ∧ z.toQ = f x.toQ y.toQ) :
    ArithSpec op f := by
  intro x y hx hy nx ny
  have e := hop (coeffOf x) (coeffOf y)
  rw [toNum_coeffOf nx, toNum_coeffOf ny] at e
  rw [e]
  by_cases hxy : isInt x ∧ isInt y
  · cases x <;> cases y <;> first | exact hxy.1.elim | exact hxy.2.elim | skip
    exact ⟨_, rfl, trivial, hi _ _, fun _ => trivial, fun h => absurd hxy h⟩
  · obtain ⟨cx, vx⟩ := coeffOf_spec hx nx
    obtain ⟨cy, vy⟩ := coeffOf_spec hy ny
    obtain ⟨z, h1, h2, h3⟩ := hr cx.1.ne' cy.1.ne'
    have ek : liftArith iop rop x y =
        (do let r ← rop (toRational (coeffOf x)) (toRational (coeffOf y)); pure (some r.toNum)) := by
      cases x <;> cases y <;> first | rfl | exact absurd ⟨trivial, trivial⟩ hxy
    exact ⟨z.toNum, by rw [ek, h1]; rfl, h2, by rw [toNum_toQ, h3, vx, vy], fun h' => absurd h' hxy,
      fun _ => trivial⟩

theorem add_spec : ArithSpec add (· + ·) :=
  arithSpec_of (fun x y => by cases x <;> cases y <;> rfl) Int.cast_add radd_spec

theorem sub_spec : ArithSpec sub (· - ·) :=
  arithSpec_of (fun x y => by cases x <;> cases y <;> rfl) Int.cast_sub rsub_spec

theorem mul_spec : ArithSpec mul (· * ·) :=
  arithSpec_of (fun x y => by cases x <;> cases y <;> rfl) Int.cast_mul rmul_spec

/-- Division: by zero → nil; otherwise exact, canonical and always a rational. -/
theorem div_spec (x y : Num) (hx : Canon x) (hy : Canon y) (nx : ¬ isSurd x) (ny : ¬ isSurd y) :
    (toQ y = 0 → div (some x) (some y) = .ok none) ∧
    (toQ y ≠ 0 → ∃ z, div (some x) (some y) = .ok (some z) ∧ Canon z ∧ isRat z ∧
        toQ z = toQ x / toQ y) := by
  obtain ⟨cx, vx⟩ := coeffOf_spec hx nx
  obtain ⟨cy, vy⟩ := coeffOf_spec hy ny
  obtain ⟨h0, h1⟩ := divCoeff_spec (coeffOf x) (coeffOf y) cx.1.ne'
  have hzero : toQ y = 0 ↔ (toRational (coeffOf y)).n = 0 := by
    rw [← vy, QM.Num.Rt.toQ, div_eq_zero_iff, Int.cast_eq_zero, Int.cast_eq_zero, or_iff_left cy.1.ne']
  rw [div_eq_divCoeff x y nx ny]
  refine ⟨fun h => h0 (hzero.mp h), fun h => ?_⟩
  obtain ⟨z, e, c, v⟩ := h1 (mt hzero.mpr h)
  exact ⟨z.toNum, e, c, trivial, by rw [toNum_toQ, v, vx, vy]⟩

theorem compare_spec (x y : Num) (hx : Canon x) (hy : Canon y) (nx : ¬ isSurd x) (ny : ¬ isSurd y) :
    Num.compare (some x) (some y) = .ok (some (sgnQ (toQ x - toQ y))) := by
  -- every branch but the last goes through `rcompare` on the operands read as fractions
  have viaKernel : Num.compare (some x) (some y) =
        (do let c ← rcompare (toRational (coeffOf x)) (toRational (coeffOf y)); pure (some c)) →
      Num.compare (some x) (some y) = .ok (some (sgnQ (toQ x - toQ y))) := fun e => by
    obtain ⟨cx, vx⟩ := coeffOf_spec hx nx
    obtain ⟨cy, vy⟩ := coeffOf_spec hy ny
    rw [e, rcompare_spec _ _ cx.1 cy.1, vx, vy]; rfl
  cases x with
  | surd => exact absurd trivial nx
  | int a =>
    cases y with
    | surd => exact absurd trivial ny
    | int b => exact congrArg (fun c => Res.ok (some c)) (cmp_cast_sub a b)
    | rat c d => exact viaKernel rfl
  | rat a b =>
    cases y with
    | surd => exact absurd trivial ny
    | int c => exact viaKernel rfl
    | rat c d => exact viaKernel rfl

theorem compare_nil (x y : Option Num) :
    Num.compare none y = .ok none ∧ Num.compare x none = .ok none :=
  binop_nil Num.compare (fun _ => rfl) (fun v => by cases v <;> rfl) x y

/-- Every operation of the exported record (and `compare`) with a nil operand evaluates to nil —
an `ok none`, never an error outcome. -/
theorem nil_propagates (x y : Option Num) :
    (Num.add none y = .ok none ∧ Num.add x none = .ok none) ∧
    (Num.sub none y = .ok none ∧ Num.sub x none = .ok none) ∧
    (Num.mul none y = .ok none ∧ Num.mul x none = .ok none) ∧
    (Num.div none y = .ok none ∧ Num.div x none = .ok none) ∧
    (Num.compare none y = .ok none ∧ Num.compare x none = .ok none) ∧
    (Num.min none y = .ok none ∧ Num.min x none = .ok none) ∧
    (Num.max none y = .ok none ∧ Num.max x none = .ok none) ∧
    (Num.clamp none x y = .ok none ∧ Num.clamp x none y = .ok none ∧ Num.clamp x y none = .ok none) ∧
    (Num.eqQ none y = .ok none ∧ Num.eqQ x none = .ok none) ∧
    (Num.ltQ none y = .ok none ∧ Num.ltQ x none = .ok none) ∧
    (Num.leQ none y = .ok none ∧ Num.leQ x none = .ok none) ∧
    (Num.gtQ none y = .ok none ∧ Num.gtQ x none = .ok none) ∧
    (Num.geQ none y = .ok none ∧ Num.geQ x none = .ok none) ∧
    Num.neg none = .ok none ∧ Num.abs none = .ok none ∧ Num.sqrt none = .ok none ∧
    Num.numer none = .ok none ∧ Num.denom none = .ok none ∧ Num.toInt none = .ok none ∧
    Num.floor none = .ok none ∧ Num.ceil none = .ok none ∧ Num.round none = .ok none ∧
    Num.sign none = .ok none := by
  have hc := compare_nil
  refine ⟨binop_nil _ (fun _ => rfl) (fun v => by cases v <;> rfl) x y,
    binop_nil _ (fun _ => rfl) (fun v => by cases v <;> rfl) x y,
    binop_nil _ (fun _ => rfl) (fun v => by cases v <;> rfl) x y,
    binop_nil _ (fun _ => rfl) (fun v => by cases v <;> rfl) x y,
    hc x y,
    binop_nil _ (fun _ => rfl) (fun v => by cases v <;> rfl) x y,
    binop_nil _ (fun _ => rfl) (fun v => by cases v <;> rfl) x y,
    ⟨?_, ?_, ?_⟩,
    ⟨rfl, by rw [Num.eqQ, (hc x y).2]; rfl⟩,
    ⟨rfl, by rw [Num.ltQ, (hc x y).2]; rfl⟩,
    ⟨rfl, by rw [Num.leQ, (hc x y).2]; rfl⟩,
    ⟨rfl, by rw [Num.gtQ, (hc x y).2]; rfl⟩,
    ⟨rfl, by rw [Num.geQ, (hc x y).2]; rfl⟩,
    rfl, rfl, rfl, rfl, rfl, rfl, rfl, rfl, rfl, ?_⟩
  · cases x <;> cases y <;> rfl
  · cases x <;> cases y <;> rfl
  · cases x <;> cases y <;> rfl
  · exact (hc none (some (.int 0))).1

/-- Two canonical numbers of the same kind denoting the same element are identical. The kind is needed:
`Rational[2, 1]` and `2` are both canonical, because the results of integer / rational arithmetic are not lowered. -/
theorem canon_unique (x y : Num) (hx : Canon x) (hy : Canon y) (hk : kind x = kind y)
    (he : toQsqrt x = toQsqrt y) : x = y := by
  cases x with
  | int a =>
    cases y with
    | int b => simp [toQsqrt] at he; rw [he]
    | rat c d => simp [kind] at hk
    | surd a b n => simp [kind] at hk
  | rat a b =>
    cases y with
    | int c => simp [kind] at hk
    | rat c d =>
      have := rt_unique (r := ⟨a, b⟩) (r' := ⟨c, d⟩) hx hy (congrArg Prod.fst he)
      rw [(Rt.mk.inj this).1, (Rt.mk.inj this).2]
    | surd a b n => simp [kind] at hk
  | surd a b n =>
    cases y with
    | int c => simp [kind] at hk
    | rat c d => simp [kind] at hk
    | surd a' b' n' =>
      simp only [toQsqrt, Prod.mk.injEq] at he
      obtain ⟨ha, hb, _, hn, _⟩ := hx
      obtain ⟨ha', hb', _, hn', _⟩ := hy
      have e1 := coeff_unique ha ha' he.1
      have e2 := coeff_unique hb hb' he.2.1
      have e3 : n = n' := by have := he.2.2; omega
      rw [e1, e2, e3]

/-- `reduce` returns the canonical form: positive denominator, lowest terms, same value. -/
theorem reduce_canon (n d : Int) (hd : d ≠ 0) :
    ∃ z, reduce ⟨n, d⟩ = .ok z ∧ 0 < z.d ∧ Int.gcd z.n z.d = 1 ∧ z.toQ = (n : ℚ) / (d : ℚ) := by
  obtain ⟨z, h1, h2, h3⟩ := reduce_spec (n := n) hd
  exact ⟨z, h1, h2.1, h2.2, h3⟩

/-- the loop in `reduce` (self tail call after sign normalisation) never runs out of fuel:
it terminates on every input, canonical or not -/
theorem reduce_never_fuelOut (r : Rt) : reduce r ≠ .fuelOut := by
  obtain ⟨n, d⟩ := r
  by_cases hd : d = 0
  · subst hd
    by_cases hn : n = 0
    · subst hn; decide
    · have hg : |n| ≠ 0 := by simpa using hn
      simp [reduce, reduceF, cmp_eq_neg_one, iDiv_eq hg]
  · rw [reduce_eq hd]; simp

/-- outside the domain the builtin error stays an error: `Rational[0, 0]` divides by a zero gcd -/
theorem reduce_zero_zero : reduce ⟨0, 0⟩ = .err .invalidArgument := by decide

example : reduce ⟨6, -4⟩ = .ok ⟨-3, 2⟩ := by decide
example : Num.add (some (.rat 1 2)) (some (.int 3)) = .ok (some (.rat 7 2)) := by decide
example : Num.div (some (.int 1)) (some (.int 0)) = .ok none := by decide
example : Canon (.rat 7 2) := by unfold Canon; decide
example : ¬ isSurd (.rat 7 2) := by simp [isSurd]

/-- `[1, n, 2] sqfree` for `n > 0`: terminates (the fuel of the model is never exhausted) and returns
`[k, m]` with `k²·m = n`, `k > 0`, `m` positive and square-free. -/
theorem sqfree_spec (n : Int) (hn : 0 < n) :
    ∃ k m, sqfree 1 n 2 = .ok (k, m) ∧ k * k * m = n ∧ 0 < k ∧ 0 < m ∧ SqFree m := by
  obtain ⟨k, m, h1, h2, h3, h4, h5⟩ := sqfreeF_spec (n.toNat + 2) 1 n 2 (by omega) hn
    (fun e he hed => by omega) (by omega)
  exact ⟨k, m, h1, by rw [h2]; ring, h5 (by omega), h3, h4⟩

/-- the trial-division loop terminates on every input (called as `[1, n, 2] sqfree`) -/
theorem sqfree_terminates (n : Int) : ∃ k m, sqfree 1 n 2 = .ok (k, m) := by
  by_cases hn : 0 < n
  · obtain ⟨k, m, h, _⟩ := sqfree_spec n hn; exact ⟨k, m, h⟩
  · exact ⟨1, n, by rw [sqfree, sqfreeF_succ _ _ _ _ (by decide), if_pos (by omega)]⟩

example : sqfree 1 72 2 = .ok (6, 2) := by decide

theorem toInt_spec (x : Num) (hx : Canon x) (nx : ¬ isSurd x) :
    ∃ t, Num.toInt (some x) = .ok (some t) ∧ IsTrunc t (toQ x) := by
  cases x with
  | surd a b n => exact absurd trivial nx
  | int z =>
    refine ⟨z.tdiv 1, by simp only [Num.toInt, toRational, iDiv_eq Int.one_ne_zero, ok_bind, pure_eq], ?_⟩
    have := tdiv_isTrunc z 1 Int.one_pos
    rwa [Int.cast_one, div_one] at this
  | rat n d =>
    exact ⟨n.tdiv d, by simp only [Num.toInt, toRational, iDiv_eq hx.1.ne', ok_bind, pure_eq],
      tdiv_isTrunc n d hx.1⟩

theorem hasValue_rat {x : Num} (hx : Canon x) (nx : ¬ isSurd x) : HasValue x (toQ x) :=
  ⟨toInt_spec x hx nx, fun y hy ny => by rw [compare_spec x y hx hy nx ny, Rat.cast_id]; rfl⟩

/-- `floor`: the greatest integer ≤ x -/
theorem floor_spec (x : Num) (hx : Canon x) (nx : ¬ isSurd x) :
    ∃ f, Num.floor (some x) = .ok (some f) ∧ (f : ℚ) ≤ toQ x ∧ toQ x < f + 1 :=
  (hasValue_rat hx nx).floor

/-- `ceil`: the least integer ≥ x -/
theorem ceil_spec (x : Num) (hx : Canon x) (nx : ¬ isSurd x) :
    ∃ c, Num.ceil (some x) = .ok (some c) ∧ (c : ℚ) - 1 < toQ x ∧ toQ x ≤ c :=
  (hasValue_rat hx nx).ceil

/-- `round`: nearest integer, halves away from zero -/
theorem round_spec (x : Num) (hx : Canon x) (nx : ¬ isSurd x) :
    ∃ r, Num.round (some x) = .ok (some r) ∧ (r : ℚ) - 1 / 2 ≤ toQ x ∧ toQ x ≤ r + 1 / 2 ∧
      (toQ x = r - 1 / 2 → 0 < toQ x) ∧ (toQ x = r + 1 / 2 → toQ x < 0) :=
  (hasValue_rat hx nx).round

/-- negation preserves kind and is exact -/
theorem neg_spec (x : Num) (hx : Canon x) (nx : ¬ isSurd x) :
    ∃ z, Num.neg (some x) = .ok (some z) ∧ Canon z ∧ toQ z = - toQ x ∧ kind z = kind x := by
  cases x with
  | surd a b n => exact absurd trivial nx
  | int z => exact ⟨.int (-z), by simp [Num.neg], trivial, by simp [toQ], rfl⟩
  | rat n d =>
    obtain ⟨z, h1, h2, h3⟩ := reduce_spec (n := -n) (ne_of_gt hx.1)
    refine ⟨z.toNum, by simp [Num.neg, h1], h2, ?_, rfl⟩
    rw [toNum_toQ, h3]; unfold toQ; push_cast; ring

/-- absolute value preserves kind and is exact -/
theorem abs_spec (x : Num) (hx : Canon x) (nx : ¬ isSurd x) :
    ∃ z, Num.abs (some x) = .ok (some z) ∧ Canon z ∧ toQ z = |toQ x| ∧ kind z = kind x := by
  cases x with
  | surd a b n => exact absurd trivial nx
  | int z => exact ⟨.int |z|, by simp [Num.abs], trivial, by simp [toQ], rfl⟩
  | rat n d =>
    refine ⟨.rat |n| d, by simp [Num.abs], ⟨hx.1, ?_⟩, ?_, rfl⟩
    · have := hx.2; simp only [Int.gcd, Int.natAbs_abs] at this ⊢; exact this
    · have hd : (0 : ℚ) < d := by exact_mod_cast hx.1
      unfold toQ; rw [abs_div, abs_of_pos hd]; push_cast; rfl

theorem min_spec (x y : Num) (hx : Canon x) (hy : Canon y) (nx : ¬ isSurd x) (ny : ¬ isSurd y) :
    Num.min (some x) (some y) = .ok (some (if toQ y < toQ x then y else x)) := by
  simp only [Num.min, compare_spec x y hx hy nx ny, ok_bind, sgnQ_eq, sgn_eq_one, sub_pos, pure_eq,
    apply_ite Res.ok, apply_ite some]

theorem max_spec (x y : Num) (hx : Canon x) (hy : Canon y) (nx : ¬ isSurd x) (ny : ¬ isSurd y) :
    Num.max (some x) (some y) = .ok (some (if toQ x < toQ y then y else x)) := by
  simp only [Num.max, compare_spec x y hx hy nx ny, ok_bind, sgnQ_eq, sgn_eq_neg_one, sub_neg, pure_eq,
    apply_ite Res.ok, apply_ite some]

theorem clamp_spec (x lo hi : Num) (hx : Canon x) (hl : Canon lo) (hh : Canon hi)
    (nx : ¬ isSurd x) (nl : ¬ isSurd lo) (nh : ¬ isSurd hi) :
    Num.clamp (some x) (some lo) (some hi) =
      .ok (some (if toQ x < toQ lo then lo else if toQ hi < toQ x then hi else x)) := by
  simp only [Num.clamp, compare_spec x lo hx hl nx nl, compare_spec x hi hx hh nx nh, ok_bind, sgnQ_eq,
    sgn_eq_one, sgn_eq_neg_one, sub_pos, sub_neg, pure_eq, apply_ite Res.ok, apply_ite some]

theorem sign_spec (x : Num) (hx : Canon x) (nx : ¬ isSurd x) :
    Num.sign (some x) = .ok (some (sgnQ (toQ x))) := by
  rw [Num.sign, compare_spec x (.int 0) hx (canon_int 0) nx (not_surd_int 0), toQ_int, Int.cast_zero, sub_zero]

/-- the five predicates decide the order of ℚ (`some ()` is `Ok`, `none` is nil) -/
theorem predicates_spec (x y : Num) (hx : Canon x) (hy : Canon y) (nx : ¬ isSurd x) (ny : ¬ isSurd y) :
    Num.eqQ (some x) (some y) = .ok (if toQ x = toQ y then some () else none) ∧
    Num.ltQ (some x) (some y) = .ok (if toQ x < toQ y then some () else none) ∧
    Num.leQ (some x) (some y) = .ok (if toQ x ≤ toQ y then some () else none) ∧
    Num.gtQ (some x) (some y) = .ok (if toQ y < toQ x then some () else none) ∧
    Num.geQ (some x) (some y) = .ok (if toQ y ≤ toQ x then some () else none) := by
  simp only [Num.eqQ, Num.ltQ, Num.leQ, Num.gtQ, Num.geQ, compare_spec x y hx hy nx ny, ok_bind, pure_eq,
    Option.some.injEq, sgnQ_eq, sgn_eq_zero, sgn_eq_one, sgn_eq_neg_one, sub_eq_zero, sub_pos, sub_neg]
  rcases lt_trichotomy (toQ x) (toQ y) with h | h | h
  · simp only [h, h.ne, h.le, h.not_gt, h.not_ge, if_true, if_false, and_self]
  · simp only [h, lt_irrefl, le_refl, if_true, if_false, and_self]
  · simp only [h, h.ne', h.le, h.not_gt, h.not_ge, if_true, if_false, and_self]

/-- `numer` / `denom` are numerator and denominator of the value in lowest terms -/
theorem numer_denom_spec (x : Num) (hx : Canon x) (nx : ¬ isSurd x) :
    Num.numer (some x) = .ok (some (toQ x).num) ∧ Num.denom (some x) = .ok (some ((toQ x).den : Int)) := by
  cases x with
  | surd a b n => exact absurd trivial nx
  | int z => simp [Num.numer, Num.denom, toQ]
  | rat n d =>
    have h1 := Rat.num_div_eq_of_coprime hx.1 hx.2
    have h2 := Rat.den_div_eq_of_coprime hx.1 hx.2
    simp only [Num.numer, Num.denom, toQ, h1, h2, pure_eq, and_self]

theorem not_compatible_surds {x y : Num} (hc : ¬ Compatible x y) : isSurd x ∧ isSurd y := by
  unfold Compatible at hc
  constructor
  · cases x <;> first | trivial | exact absurd (Or.inl rfl) hc
  · cases y <;> first | trivial | exact absurd (Or.inr (Or.inl rfl)) hc

/-- `(a₁ + b₁√n) + (a₂ + b₂√n) = (a₁ + a₂) + (b₁ + b₂)√n`, in simplest canonical form -/
theorem surd_add_exact (x y : Num) (hx : Canon x) (hy : Canon y) (hs : isSurd x ∨ isSurd y)
    (hc : Compatible x y) :
    ∃ z, Num.add (some x) (some y) = .ok (some z) ∧ Canon z ∧
      Denotes z (qa x + qa y) (qb x + qb y) (sharedRadical x y) := by
  rw [add_surd_eq x y hs]; exact (surdAdd_spec x y hx hy hs).2 hc

theorem surd_sub_exact (x y : Num) (hx : Canon x) (hy : Canon y) (hs : isSurd x ∨ isSurd y)
    (hc : Compatible x y) :
    ∃ z, Num.sub (some x) (some y) = .ok (some z) ∧ Canon z ∧
      Denotes z (qa x - qa y) (qb x - qb y) (sharedRadical x y) := by
  rw [sub_surd_eq x y hs]; exact (surdSub_spec x y hx hy hs).2 hc

/-- `(a₁ + b₁√n)(a₂ + b₂√n) = (a₁a₂ + b₁b₂·n) + (a₁b₂ + a₂b₁)√n` -/
theorem surd_mul_exact (x y : Num) (hx : Canon x) (hy : Canon y) (hs : isSurd x ∨ isSurd y)
    (hc : Compatible x y) :
    ∃ z, Num.mul (some x) (some y) = .ok (some z) ∧ Canon z ∧
      Denotes z (qa x * qa y + qb x * qb y * (sharedRadical x y : ℚ)) (qa x * qb y + qa y * qb x)
        (sharedRadical x y) := by
  rw [mul_surd_eq x y hs]; exact (surdMul_spec x y hx hy hs).2 hc

/-- division: nil when the norm of the divisor vanishes, otherwise the exact quotient -/
theorem surd_div_exact (x y : Num) (hx : Canon x) (hy : Canon y) (hs : isSurd x ∨ isSurd y)
    (hc : Compatible x y) :
    (qa y * qa y - qb y * qb y * (sharedRadical x y : ℚ) = 0 → Num.div (some x) (some y) = .ok none) ∧
    (qa y * qa y - qb y * qb y * (sharedRadical x y : ℚ) ≠ 0 →
      ∃ z, Num.div (some x) (some y) = .ok (some z) ∧ Canon z ∧
        Denotes z
          ((qa x * qa y - qb x * qb y * (sharedRadical x y : ℚ)) /
            (qa y * qa y - qb y * qb y * (sharedRadical x y : ℚ)))
          ((qb x * qa y - qa x * qb y) / (qa y * qa y - qb y * qb y * (sharedRadical x y : ℚ)))
          (sharedRadical x y)) := by
  rw [div_surd_eq x y hs]; exact (surdDiv_spec x y hx hy hs).2 hc

/-- comparison involving a surd: the sign of the difference, decided by `surdSign` -/
theorem surd_compare_spec (x y : Num) (hx : Canon x) (hy : Canon y) (hs : isSurd x ∨ isSurd y)
    (hc : Compatible x y) :
    Num.compare (some x) (some y) =
      .ok (some (surdSign (qa x - qa y) (qb x - qb y) (sharedRadical x y))) := by
  rw [compare_surd_eq x y hs, surdCompare_spec x y hx hy]; simp [hc]

/-- Operands that carry different radicals: every binary operation is nil (an `ok none`,
not an error), and so are the order-derived operations. -/
theorem mixed_radicals_nil (x y : Num) (hx : Canon x) (hy : Canon y) (hc : ¬ Compatible x y) :
    Num.add (some x) (some y) = .ok none ∧ Num.sub (some x) (some y) = .ok none ∧
    Num.mul (some x) (some y) = .ok none ∧ Num.div (some x) (some y) = .ok none ∧
    Num.compare (some x) (some y) = .ok none ∧ Num.min (some x) (some y) = .ok none ∧
    Num.max (some x) (some y) = .ok none ∧ Num.eqQ (some x) (some y) = .ok none ∧
    Num.ltQ (some x) (some y) = .ok none ∧ Num.leQ (some x) (some y) = .ok none ∧
    Num.gtQ (some x) (some y) = .ok none ∧ Num.geQ (some x) (some y) = .ok none := by
  have hs : isSurd x ∨ isSurd y := Or.inl (not_compatible_surds hc).1
  have hcmp : Num.compare (some x) (some y) = .ok none := by
    rw [compare_surd_eq x y hs, surdCompare_spec x y hx hy]; simp [hc]
  refine ⟨?_, ?_, ?_, ?_, hcmp, ?_, ?_, ?_, ?_, ?_, ?_, ?_⟩
  · rw [add_surd_eq x y hs]; exact (surdAdd_spec x y hx hy hs).1 hc
  · rw [sub_surd_eq x y hs]; exact (surdSub_spec x y hx hy hs).1 hc
  · rw [mul_surd_eq x y hs]; exact (surdMul_spec x y hx hy hs).1 hc
  · rw [div_surd_eq x y hs]; exact (surdDiv_spec x y hx hy hs).1 hc
  all_goals simp only [Num.min, Num.max, Num.eqQ, Num.ltQ, Num.leQ, Num.gtQ, Num.geQ, hcmp, ok_bind, pure_eq,
    reduceCtorEq, if_false]

example : ¬ Compatible (.surd (.int 0) (.int 1) 2) (.surd (.int 0) (.int 1) 3) := by
  simp [Compatible, qb, rad, toQsqrt, coeffQ, toRational, QM.Num.Rt.toQ, explode]
example : Num.mul (some (.surd (.int 0) (.int 1) 2)) (some (.surd (.int 0) (.int 1) 3)) = .ok none := by decide
example : Num.mul (some (.surd (.int 0) (.int 1) 2)) (some (.surd (.int 0) (.int 1) 2)) = .ok (some (.int 2)) := by decide

/-- value of the pair `(a, b)` at a square root `r` of `n` in any field of characteristic 0. The `qs_*_sound` below:
the coordinate formulas of the surd operations are the operations of ℚ(√n), read in `K` at `r`. -/
def evalAt {K : Type} [Field K] (r : K) (a b : ℚ) : K := (a : K) + (b : K) * r

theorem qs_add_sound {K : Type} [Field K] [CharZero K] (r : K) (a1 b1 a2 b2 : ℚ) :
    evalAt r (a1 + a2) (b1 + b2) = evalAt r a1 b1 + evalAt r a2 b2 := by
  unfold evalAt; push_cast; ring

theorem qs_sub_sound {K : Type} [Field K] [CharZero K] (r : K) (a1 b1 a2 b2 : ℚ) :
    evalAt r (a1 - a2) (b1 - b2) = evalAt r a1 b1 - evalAt r a2 b2 := by
  unfold evalAt; push_cast; ring

/-- the multiplication formula of `surd_mul` is multiplication in `K` whenever `r² = n` -/
theorem qs_mul_sound {K : Type} [Field K] [CharZero K] (r : K) (n : Int) (hr : r * r = (n : K))
    (a1 b1 a2 b2 : ℚ) :
    evalAt r (a1 * a2 + b1 * b2 * (n : ℚ)) (a1 * b2 + a2 * b1) = evalAt r a1 b1 * evalAt r a2 b2 := by
  unfold evalAt; push_cast
  linear_combination (-(b1 : K) * b2) * hr

/-- the conjugate formula of `surd_div` is division in `K`: quotient times divisor = dividend -/
theorem qs_div_sound {K : Type} [Field K] [CharZero K] (r : K) (n : Int) (hr : r * r = (n : K))
    (a1 b1 a2 b2 : ℚ) (hnorm : a2 * a2 - b2 * b2 * (n : ℚ) ≠ 0) :
    evalAt r ((a1 * a2 - b1 * b2 * (n : ℚ)) / (a2 * a2 - b2 * b2 * (n : ℚ)))
        ((b1 * a2 - a1 * b2) / (a2 * a2 - b2 * b2 * (n : ℚ))) * evalAt r a2 b2 = evalAt r a1 b1 := by
  unfold evalAt
  have hK : ((a2 * a2 - b2 * b2 * (n : ℚ) : ℚ) : K) ≠ 0 := Rat.cast_ne_zero.mpr hnorm
  push_cast at hK ⊢
  rw [div_mul_eq_mul_div, ← add_div, div_mul_eq_mul_div, div_eq_iff hK]
  linear_combination ((b1 : K) * a2 - a1 * b2) * b2 * hr

theorem reduceRational_eq (n d : Int) (hd : 0 < d) :
    reduceRational n d = ((reduceP n d).n, (reduceP n d).d) := by
  have hg := gcd_ne_zero_of_right (n := n) (ne_of_gt hd)
  have hnl : ¬ d < 0 := by omega
  unfold reduceRational reduceP
  simp only [hnl, if_false]
  have : (Int.ofNat (Int.gcd n d)) = ((Int.gcd n d : ℕ) : ℤ) := rfl
  simp only [this, hg, if_false]

theorem rationalTerm_spec (n d : Int) (hd : 0 < d) :
    ∃ n' d', rationalTerm (n, d) = .rat n' d' ∧ Canon (.rat n' d') ∧
      toQ (.rat n' d') = (n : ℚ) / (d : ℚ) := by
  obtain ⟨hc, hv⟩ := reduceP_spec (n := n) (ne_of_gt hd)
  refine ⟨(reduceP n d).n, (reduceP n d).d, ?_, hc, hv⟩
  simp [rationalTerm, reduceRational_eq n d hd]

theorem digitsVal_foldl (ds : List Nat) (acc : Nat) :
    ds.foldl (fun a d => a * 10 + d) acc = acc * 10 ^ ds.length + digitsVal ds := by
  induction ds generalizing acc with
  | nil => simp [digitsVal]
  | cons d ds ih =>
    simp only [List.foldl_cons, List.length_cons, digitsVal]
    rw [ih, ih (0 * 10 + d)]; ring

theorem digitsVal_append (ip fp : List Nat) :
    digitsVal (ip ++ fp) = digitsVal ip * 10 ^ fp.length + digitsVal fp := by
  unfold digitsVal; rw [List.foldl_append, digitsVal_foldl]; rfl

theorem signed_div (neg : Bool) (m d : Int) :
    (((if neg then -m else m : ℤ) : ℚ)) / (d : ℚ) = (if neg then -1 else 1) * ((m : ℚ) / (d : ℚ)) := by
  cases neg
  · exact (one_mul _).symm
  · rw [if_pos rfl, if_pos rfl, Int.cast_neg, neg_div, neg_one_mul]

/-- A decimal literal `[-]i.f` desugars to the canonical `Rational` whose value is
`±(i + f / 10^|f|)`. -/
theorem decimal_literal_value (neg : Bool) (ip fp : List Nat) :
    ∃ n d, decimalLit neg ip fp = .rat n d ∧ Canon (.rat n d) ∧
      toQ (.rat n d) = (if neg then -1 else 1) *
        ((digitsVal ip : ℚ) + (digitsVal fp : ℚ) / (10 : ℚ) ^ fp.length) := by
  obtain ⟨n, d, h1, h2, h3⟩ := rationalTerm_spec (decimalParts neg ip fp).1 ((10 : Int) ^ fp.length)
    (Int.pow_pos (by decide))
  refine ⟨n, d, h1, h2, ?_⟩
  have hp : ((10 : ℚ) ^ fp.length) ≠ 0 := pow_ne_zero _ (by norm_num)
  rw [h3, decimalParts, signed_div, digitsVal_append, Int.ofNat_eq_natCast]
  push_cast
  rw [add_div, mul_div_cancel_right₀ _ hp]

/-- A fraction literal `[-]p/q`: rejected when `q = 0`, otherwise the canonical `Rational` of
value `±p/q`. -/
theorem fraction_literal_value (neg : Bool) (np dp : List Nat) :
    (digitsVal dp = 0 → fractionLit neg np dp = none) ∧
    (digitsVal dp ≠ 0 → ∃ n d, fractionLit neg np dp = some (.rat n d) ∧ Canon (.rat n d) ∧
      toQ (.rat n d) = (if neg then -1 else 1) * ((digitsVal np : ℚ) / (digitsVal dp : ℚ))) := by
  constructor
  · intro h; simp only [fractionLit, fractionParts, h]; rfl
  · intro h
    have hpos : (0 : Int) < Int.ofNat (digitsVal dp) := Int.natCast_pos.mpr (Nat.pos_of_ne_zero h)
    obtain ⟨n, d, h1, h2, h3⟩ := rationalTerm_spec
      (if neg then -(Int.ofNat (digitsVal np)) else Int.ofNat (digitsVal np)) (Int.ofNat (digitsVal dp)) hpos
    refine ⟨n, d, ?_, h2, by rw [h3, signed_div]; rfl⟩
    simp only [fractionLit, fractionParts, hpos.ne', if_false, Option.map_some, h1]

example : decimalLit true [1] [5, 0] = .rat (-3) 2 := by decide
example : fractionLit false [4] [2] = some (.rat 2 1) := by decide
example : fractionLit false [1] [0] = none := by decide

theorem toQsqrt_of_not_surd {z : Num} (h : ¬ isSurd z) : toQsqrt z = (toQ z, 0, 1) := by
  cases z <;> first | rfl | exact absurd trivial h

theorem not_surd_of_isRat {z : Num} (h : isRat z) : ¬ isSurd z := by
  cases z <;> first | exact id | exact absurd h id

/-- what `ArithSpec` says of the result, as the laws use it: no surd, and an integer exactly when
both operands are -/
theorem ArithSpec.result {op : Option Num → Option Num → Res (Option Num)} {f : ℚ → ℚ → ℚ}
    (h : ArithSpec op f) {x y : Num} (hx : Canon x) (hy : Canon y) (nx : ¬ isSurd x) (ny : ¬ isSurd y) :
    ∃ z, op (some x) (some y) = .ok (some z) ∧ Canon z ∧ ¬ isSurd z ∧ toQ z = f (toQ x) (toQ y) ∧
      (isInt z ↔ isInt x ∧ isInt y) := by
  obtain ⟨z, e, c, v, i, r⟩ := h x y hx hy nx ny
  refine ⟨z, e, c, fun hz => ?_, v, fun hz => ?_, i⟩
  · cases z with
    | surd => exact (em (isInt x ∧ isInt y)).elim (fun h' => i h') (fun h' => r h')
    | _ => exact hz
  · by_contra hxy
    have := r hxy
    cases z <;> first | exact this | exact hz

/-- two canonical integers or rationals with the same value, both integers or both not, are the
same number -/
theorem eq_of_value_isInt {a b : Num} (ha : Canon a) (hb : Canon b) (na : ¬ isSurd a) (nb : ¬ isSurd b)
    (hv : toQ a = toQ b) (hi : isInt a ↔ isInt b) : a = b := by
  refine canon_unique a b ha hb ?_ (by rw [toQsqrt_of_not_surd na, toQsqrt_of_not_surd nb, hv])
  cases a <;> cases b <;> first | rfl | exact absurd trivial na | exact absurd trivial nb | exact (hi.mp trivial).elim | exact (hi.mpr trivial).elim

theorem ArithSpec.comm {op : Option Num → Option Num → Res (Option Num)} {f : ℚ → ℚ → ℚ}
    (h : ArithSpec op f) (hf : ∀ a b, f a b = f b a) {x y : Num} (hx : Canon x) (hy : Canon y)
    (nx : ¬ isSurd x) (ny : ¬ isSurd y) : op (some x) (some y) = op (some y) (some x) := by
  obtain ⟨z1, e1, c1, n1, v1, i1⟩ := h.result hx hy nx ny
  obtain ⟨z2, e2, c2, n2, v2, i2⟩ := h.result hy hx ny nx
  rw [e1, e2, eq_of_value_isInt c1 c2 n1 n2 (by rw [v1, v2, hf]) (by rw [i1, i2, and_comm])]

theorem ArithSpec.assoc {op : Option Num → Option Num → Res (Option Num)} {f : ℚ → ℚ → ℚ}
    (h : ArithSpec op f) (hf : ∀ a b c, f (f a b) c = f a (f b c)) {x y z : Num} (hx : Canon x)
    (hy : Canon y) (hz : Canon z) (nx : ¬ isSurd x) (ny : ¬ isSurd y) (nz : ¬ isSurd z) :
    ∃ u v r, op (some x) (some y) = .ok (some u) ∧ op (some u) (some z) = .ok (some r) ∧
      op (some y) (some z) = .ok (some v) ∧ op (some x) (some v) = .ok (some r) := by
  obtain ⟨u, eu, cu, nu, vu, iu⟩ := h.result hx hy nx ny
  obtain ⟨r1, e1, c1, n1, v1, i1⟩ := h.result cu hz nu nz
  obtain ⟨v, ev, cv, nv, vv, iv⟩ := h.result hy hz ny nz
  obtain ⟨r2, e2, c2, n2, v2, i2⟩ := h.result hx cv nx nv
  refine ⟨u, v, r1, eu, e1, ev, ?_⟩
  rw [e2, eq_of_value_isInt c2 c1 n2 n1 (by rw [v1, v2, vu, vv, hf]) (by rw [i1, i2, iu, iv, and_assoc])]

theorem add_comm_law (x y : Num) (hx : Canon x) (hy : Canon y) (nx : ¬ isSurd x) (ny : ¬ isSurd y) :
    Num.add (some x) (some y) = Num.add (some y) (some x) :=
  add_spec.comm (fun a b => add_comm a b) hx hy nx ny

theorem mul_comm_law (x y : Num) (hx : Canon x) (hy : Canon y) (nx : ¬ isSurd x) (ny : ¬ isSurd y) :
    Num.mul (some x) (some y) = Num.mul (some y) (some x) :=
  mul_spec.comm (fun a b => mul_comm a b) hx hy nx ny

/-- `(x + y) + z = x + (y + z)`, as identical canonical values -/
theorem add_assoc_law (x y z : Num) (hx : Canon x) (hy : Canon y) (hz : Canon z)
    (nx : ¬ isSurd x) (ny : ¬ isSurd y) (nz : ¬ isSurd z) :
    ∃ u v r, Num.add (some x) (some y) = .ok (some u) ∧ Num.add (some u) (some z) = .ok (some r) ∧
      Num.add (some y) (some z) = .ok (some v) ∧ Num.add (some x) (some v) = .ok (some r) :=
  add_spec.assoc (fun a b c => add_assoc a b c) hx hy hz nx ny nz

theorem mul_assoc_law (x y z : Num) (hx : Canon x) (hy : Canon y) (hz : Canon z)
    (nx : ¬ isSurd x) (ny : ¬ isSurd y) (nz : ¬ isSurd z) :
    ∃ u v r, Num.mul (some x) (some y) = .ok (some u) ∧ Num.mul (some u) (some z) = .ok (some r) ∧
      Num.mul (some y) (some z) = .ok (some v) ∧ Num.mul (some x) (some v) = .ok (some r) :=
  mul_spec.assoc (fun a b c => mul_assoc a b c) hx hy hz nx ny nz

/-- `x·(y + z) = x·y + x·z`, as identical canonical values -/
theorem distrib_law (x y z : Num) (hx : Canon x) (hy : Canon y) (hz : Canon z)
    (nx : ¬ isSurd x) (ny : ¬ isSurd y) (nz : ¬ isSurd z) :
    ∃ s p q r, Num.add (some y) (some z) = .ok (some s) ∧ Num.mul (some x) (some s) = .ok (some r) ∧
      Num.mul (some x) (some y) = .ok (some p) ∧ Num.mul (some x) (some z) = .ok (some q) ∧
      Num.add (some p) (some q) = .ok (some r) := by
  obtain ⟨s, es, cs, ns, vs, is⟩ := add_spec.result hy hz ny nz
  obtain ⟨r1, e1, c1, n1, v1, i1⟩ := mul_spec.result hx cs nx ns
  obtain ⟨p, ep, cp, np, vp, ip⟩ := mul_spec.result hx hy nx ny
  obtain ⟨q, eq, cq, nq, vq, iq⟩ := mul_spec.result hx hz nx nz
  obtain ⟨r2, e2, c2, n2, v2, i2⟩ := add_spec.result cp cq np nq
  refine ⟨s, p, q, r1, es, e1, ep, eq, ?_⟩
  rw [e2, eq_of_value_isInt c2 c1 n2 n1 (by rw [v1, v2, vs, vp, vq]; exact (mul_add _ _ _).symm)
    (by rw [i1, i2, is, ip, iq]; exact and_and_left.symm)]

/-- subtraction undoes addition: `(x − y) + y` has the value of `x` -/
theorem sub_add_cancel_law (x y : Num) (hx : Canon x) (hy : Canon y) (nx : ¬ isSurd x) (ny : ¬ isSurd y) :
    ∃ d r, Num.sub (some x) (some y) = .ok (some d) ∧ Num.add (some d) (some y) = .ok (some r) ∧
      toQ r = toQ x := by
  obtain ⟨d, ed, cd, nd, vd, _⟩ := sub_spec.result hx hy nx ny
  obtain ⟨r, er, _, _, vr, _⟩ := add_spec.result cd hy nd ny
  exact ⟨d, r, ed, er, by rw [vr, vd]; exact sub_add_cancel _ _⟩

/-- division undoes multiplication: `(x / y)·y` has the value of `x` when `y ≠ 0` -/
theorem div_mul_cancel_law (x y : Num) (hx : Canon x) (hy : Canon y) (nx : ¬ isSurd x) (ny : ¬ isSurd y)
    (h0 : toQ y ≠ 0) :
    ∃ q r, Num.div (some x) (some y) = .ok (some q) ∧ Num.mul (some q) (some y) = .ok (some r) ∧
      toQ r = toQ x := by
  obtain ⟨q, eq, cq, rq, vq⟩ := (div_spec x y hx hy nx ny).2 h0
  obtain ⟨r, er, _, _, vr, _⟩ := mul_spec.result cq hy (not_surd_of_isRat rq) ny
  exact ⟨q, r, eq, er, by rw [vr, vq]; exact div_mul_cancel₀ _ h0⟩

/-- order is translation invariant: comparing `x + z` with `y + z` is comparing `x` with `y` -/
theorem order_add_law (x y z : Num) (hx : Canon x) (hy : Canon y) (hz : Canon z)
    (nx : ¬ isSurd x) (ny : ¬ isSurd y) (nz : ¬ isSurd z) :
    ∃ a b, Num.add (some x) (some z) = .ok (some a) ∧ Num.add (some y) (some z) = .ok (some b) ∧
      Num.compare (some a) (some b) = Num.compare (some x) (some y) := by
  obtain ⟨a, ea, ca, na, va, _⟩ := add_spec.result hx hz nx nz
  obtain ⟨b, eb, cb, nb, vb, _⟩ := add_spec.result hy hz ny nz
  refine ⟨a, b, ea, eb, ?_⟩
  rw [compare_spec a b ca cb na nb, compare_spec x y hx hy nx ny, va, vb]
  exact congrArg (fun q => Res.ok (some (sgnQ q))) (add_sub_add_right_eq_sub _ _ _)

/-- multiplication by a positive number preserves the order, by a negative one reverses it -/
theorem order_mul_law (x y z : Num) (hx : Canon x) (hy : Canon y) (hz : Canon z)
    (nx : ¬ isSurd x) (ny : ¬ isSurd y) (nz : ¬ isSurd z) :
    ∃ a b c, Num.mul (some x) (some z) = .ok (some a) ∧ Num.mul (some y) (some z) = .ok (some b) ∧
      Num.compare (some a) (some b) = .ok (some c) ∧
      (0 < toQ z → c = sgnQ (toQ x - toQ y)) ∧ (toQ z < 0 → c = sgnQ (toQ y - toQ x)) ∧
      (toQ z = 0 → c = 0) := by
  obtain ⟨a, ea, ca, na, va, _⟩ := mul_spec.result hx hz nx nz
  obtain ⟨b, eb, cb, nb, vb, _⟩ := mul_spec.result hy hz ny nz
  have e : toQ a - toQ b = (toQ x - toQ y) * toQ z := by rw [va, vb]; exact (sub_mul _ _ _).symm
  refine ⟨a, b, _, ea, eb, compare_spec a b ca cb na nb, fun h => ?_, fun h => ?_, fun h => ?_⟩
  · rw [e, sgnQ_eq, sgn_mul_pos _ h]; rfl
  · rw [e, ← neg_mul_neg, neg_sub, sgnQ_eq, sgn_mul_pos _ (neg_pos.mpr h)]; rfl
  · rw [e, h, mul_zero]; rfl

theorem sqrt_eq_sqrtCoeff (x : Num) (nx : ¬ isSurd x) : Num.sqrt (some x) = sqrtCoeff (coeffOf x) := by
  cases x <;> first | rfl | exact absurd trivial nx

theorem sq_div_mul {k q p m : ℚ} (hq : q ≠ 0) (h : k * k * m = p * q) : k / q * (k / q) * m = p / q := by
  field_simp; linear_combination h

/-- `sqrt` of an integer or rational: nil for a negative operand, the integer 0 for zero, and for
a positive operand a canonical number with rational part or surd part zero (a rational, or a pure surd `b·√m`), both
non-negative, whose square is the operand.
The trial-division loop terminates (no `fuelOut`), no builtin leaves its domain. -/
theorem sqrt_spec (x : Num) (hx : Canon x) (nx : ¬ isSurd x) :
    (toQ x < 0 → Num.sqrt (some x) = .ok none) ∧
    (toQ x = 0 → Num.sqrt (some x) = .ok (some (.int 0))) ∧
    (0 < toQ x → ∃ z, Num.sqrt (some x) = .ok (some z) ∧ Canon z ∧
      (qa z = 0 ∨ qb z = 0) ∧ 0 ≤ qa z ∧ 0 ≤ qb z ∧
      qa z * qa z + qb z * qb z * (rad z : ℚ) = toQ x) := by
  obtain ⟨⟨hq, _⟩, hv⟩ := coeffOf_spec hx nx
  rw [sqrt_eq_sqrtCoeff x nx, ← hv, sqrtCoeff]
  generalize toRational (coeffOf x) = R at hq ⊢
  obtain ⟨p, q⟩ := R
  have hs : cmp p 0 = sgn (Rt.toQ ⟨p, q⟩) := Res.ok.inj (rsign_spec ⟨p, q⟩ hq)
  simp only [iCompare_eq, ok_bind, hs, sgn_eq_neg_one, sgn_eq_zero, pure_eq]
  refine ⟨fun h => if_pos h, fun h => by rw [if_neg h.not_lt, if_pos h], fun h => ?_⟩
  rw [if_neg (lt_asymm h), if_neg h.ne']
  have hp : 0 < p := by
    have := sgn_of_pos h; rw [← hs, cmp_eq_one] at this; exact this
  obtain ⟨k, m, hsq, hkm, hk, hm, hfree⟩ := sqfree_spec (p * q) (Int.mul_pos hp hq)
  obtain ⟨b, hb1, hb2, hb3⟩ := reduce_spec (n := k) hq.ne'
  have hqq : (q : ℚ) ≠ 0 := Int.cast_ne_zero.mpr hq.ne'
  have hkq : (0 : ℚ) < b.toQ := hb3 ▸ div_pos (Int.cast_pos.mpr hk) (Int.cast_pos.mpr hq)
  have hkmq : (k : ℚ) * k * m = p * q := by exact_mod_cast hkm
  have hroot := sq_div_mul hqq hkmq
  rw [← hb3] at hroot
  simp only [iMul_eq, ok_bind, hsq, hb1]
  by_cases hm1 : m = 1
  · -- a perfect square: the root is the rational `k / q`
    subst hm1
    obtain ⟨r, hr2, hr3, hr1⟩ := build_one (a := ⟨0, 1⟩) (b := b) Int.one_ne_zero hb2.1.ne'
    rw [radN_toQ, Int.cast_zero, zero_add] at hr3
    refine ⟨(lower r.toCoeff).toNum, by rw [hr1]; rfl, coeff_toNum_canon (lower_canon hr2), ?_⟩
    · have hts := coeff_toNum_toQsqrt (lower r.toCoeff)
      rw [lower_coeffQ, hr3] at hts
      simp only [qa, qb, hts, mul_zero, zero_mul, add_zero]
      rw [Int.cast_one, mul_one] at hroot
      exact ⟨Or.inr trivial, hkq.le, le_rfl, hroot⟩
  · -- otherwise the pure surd `(k / q)·√m`
    obtain ⟨z, hz1, hz2, d1, d2, d3, _⟩ := build_spec (a := ⟨0, 1⟩) ⟨Int.one_pos, rfl⟩ hb2 (by omega) hfree
    rw [radN_toQ, Int.cast_zero] at d1
    refine ⟨z, by simp only [hz1, ok_bind], hz2, ?_⟩
    have hrad : rad z = m := by
      obtain ⟨hn', hsurd⟩ := d3 hkq.ne'
      cases z with
      | surd a' b' n' => have := hz2.2.2.2.1; simp only [toQsqrt] at hn'; simp only [rad, explode]; omega
      | _ => exact absurd hsurd id
    simp only [qa, qb, d1, d2, hrad, mul_zero, zero_add]
    exact ⟨Or.inl trivial, le_rfl, hkq.le, hroot⟩

theorem sqrt_surd_nil (a b : Coeff) (n : Int) : Num.sqrt (some (.surd a b n)) = .ok none := rfl

example : Num.sqrt (some (.int 8)) = .ok (some (.surd (.int 0) (.int 2) 2)) := by decide
example : Num.sqrt (some (.rat 1 4)) = .ok (some (.rat 1 2)) := by decide

/-- negation of a surd negates both coordinates (and stays a canonical surd) -/
theorem neg_surd_spec (a b : Coeff) (n : Int) (hx : Canon (.surd a b n)) :
    ∃ z, Num.neg (some (.surd a b n)) = .ok (some z) ∧ Canon z ∧
      Denotes z (-coeffQ a) (-coeffQ b) n := by
  obtain ⟨ha, hb, hb0, hn, hsq⟩ := hx
  obtain ⟨a', ha1, ha2, ha3⟩ := rneg_spec (toRational_canon ha).1.ne'
  obtain ⟨b', hb1, hb2, hb3⟩ := rneg_spec (toRational_canon hb).1.ne'
  obtain ⟨z, hz, hc, hd⟩ := build_spec ha2 hb2 hn hsq
  rw [ha3, hb3] at hd
  exact ⟨z, by simp only [Num.neg, ha1, hb1, hz, ok_bind, pure_eq], hc, hd⟩

/-- absolute value of a surd: the operand itself unless its sign (`surdSign`, i.e. the sign of
`a + b·√n` by `surdSign_sound`) is negative, then its negation -/
theorem abs_surd_spec (a b : Coeff) (n : Int) (hx : Canon (.surd a b n)) :
    ∃ z, Num.abs (some (.surd a b n)) = .ok (some z) ∧ Canon z ∧
      (surdSign (coeffQ a) (coeffQ b) n = -1 → Denotes z (-coeffQ a) (-coeffQ b) n) ∧
      (surdSign (coeffQ a) (coeffQ b) n ≠ -1 → z = .surd a b n) := by
  obtain ⟨z, hz, hc, hd⟩ := neg_surd_spec a b n hx
  have hs := ssign_eq (toRational a) (toRational b) n (toRational_canon hx.1).1 (toRational_canon hx.2.1).1
  simp only [Num.abs, hs, ok_bind]
  by_cases h : surdSign (toRational a).toQ (toRational b).toQ n = -1
  · -- negative: `abs` runs the body of `neg`
    rw [if_pos h]
    exact ⟨z, hz, hc, fun _ => hd, fun h' => absurd h h'⟩
  · rw [if_neg h]
    exact ⟨.surd a b n, rfl, hx, fun h' => absurd h' h, fun _ => rfl⟩

/-- the outcome is a value (a number, an integer, `Ok`, or nil) — not `err`, `panic`, `fuelOut` -/
def IsOk {α} (r : Res α) : Prop := ∃ v, r = .ok v

theorem IsOk.of_some {α} {r : Res (Option α)} (h : ∃ t, r = .ok (some t)) : IsOk r :=
  h.elim fun t e => ⟨some t, e⟩

theorem isOk_pure {α} (a : α) : IsOk (pure a : Res α) := ⟨a, rfl⟩

theorem IsOk.bind {α β} {m : Res α} {f : α → Res β} (hm : IsOk m) (hf : ∀ a, IsOk (f a)) :
    IsOk (m >>= f) := by
  obtain ⟨a, rfl⟩ := hm; exact hf a

theorem isOk_ite {α} (p : Prop) [Decidable p] {a b : Res α} (ha : IsOk a) (hb : IsOk b) :
    IsOk (if p then a else b) := by
  split <;> assumption

theorem compare_total (x y : Num) (hx : Canon x) (hy : Canon y) :
    ∃ c, Num.compare (some x) (some y) = .ok c := by
  by_cases hs : isSurd x ∨ isSurd y
  · rw [compare_surd_eq x y hs, surdCompare_spec x y hx hy]; exact ⟨_, rfl⟩
  · have nx : ¬ isSurd x := fun h => hs (Or.inl h)
    have ny : ¬ isSurd y := fun h => hs (Or.inr h)
    exact ⟨_, compare_spec x y hx hy nx ny⟩

theorem toInt_ok (x : Num) (hx : Canon x) : ∃ t, Num.toInt (some x) = .ok (some t) := by
  cases x with
  | surd a b n => exact ⟨_, toInt_surd_eq hx⟩
  | int z => obtain ⟨t, h, _⟩ := toInt_spec (.int z) hx id; exact ⟨t, h⟩
  | rat n d => obtain ⟨t, h, _⟩ := toInt_spec (.rat n d) hx id; exact ⟨t, h⟩

theorem floor_ok (x : Num) (hx : Canon x) : ∃ f, Num.floor (some x) = .ok (some f) := by
  obtain ⟨t, ht⟩ := toInt_ok x hx
  obtain ⟨c, hc⟩ := compare_total x (.int t) hx (canon_int t)
  exact ⟨_, floor_eq ht hc⟩

theorem ceil_ok (x : Num) (hx : Canon x) : ∃ f, Num.ceil (some x) = .ok (some f) := by
  obtain ⟨t, ht⟩ := toInt_ok x hx
  obtain ⟨c, hc⟩ := compare_total x (.int t) hx (canon_int t)
  exact ⟨_, ceil_eq ht hc⟩

theorem round_ok (x : Num) (hx : Canon x) : ∃ r, Num.round (some x) = .ok (some r) := by
  obtain ⟨f, hf⟩ := floor_ok x hx
  obtain ⟨c, hc⟩ := compare_total x (.rat (f * 2 + 1) 2) hx (canon_half f)
  exact ⟨_, round_eq hf hc⟩

/-- canonical or nil -/
def CanonOpt : Option Num → Prop
  | none => True
  | some v => Canon v

theorem unary_ok (x : Num) (hx : Canon x) :
    IsOk (Num.neg (some x)) ∧ IsOk (Num.abs (some x)) ∧ IsOk (Num.sqrt (some x)) ∧
    IsOk (Num.numer (some x)) ∧ IsOk (Num.denom (some x)) ∧ IsOk (Num.toInt (some x)) ∧
    IsOk (Num.floor (some x)) ∧ IsOk (Num.ceil (some x)) ∧ IsOk (Num.round (some x)) ∧
    IsOk (Num.sign (some x)) := by
  have h6 := IsOk.of_some (toInt_ok x hx)
  have h7 := IsOk.of_some (floor_ok x hx)
  have h8 := IsOk.of_some (ceil_ok x hx)
  have h9 := IsOk.of_some (round_ok x hx)
  have h10 : IsOk (Num.sign (some x)) := compare_total x (.int 0) hx (canon_int 0)
  by_cases sx : isSurd x
  · cases x with
    | int _ => exact absurd sx id
    | rat _ _ => exact absurd sx id
    | surd a b n =>
      obtain ⟨z1, e1, _⟩ := neg_surd_spec a b n hx
      obtain ⟨z2, e2, _⟩ := abs_surd_spec a b n hx
      exact ⟨⟨_, e1⟩, ⟨_, e2⟩, ⟨_, rfl⟩, ⟨_, rfl⟩, ⟨_, rfl⟩, h6, h7, h8, h9, h10⟩
  · obtain ⟨z1, e1, _⟩ := neg_spec x hx sx
    obtain ⟨z2, e2, _⟩ := abs_spec x hx sx
    obtain ⟨n1, n2⟩ := numer_denom_spec x hx sx
    have h3 : IsOk (Num.sqrt (some x)) := by
      obtain ⟨s1, s2, s3⟩ := sqrt_spec x hx sx
      rcases lt_trichotomy (toQ x) 0 with h | h | h
      · exact ⟨_, s1 h⟩
      · exact ⟨_, s2 h⟩
      · obtain ⟨z, hz, _⟩ := s3 h; exact ⟨_, hz⟩
    exact ⟨⟨_, e1⟩, ⟨_, e2⟩, h3, ⟨_, n1⟩, ⟨_, n2⟩, h6, h7, h8, h9, h10⟩

theorem arith_ok (x y : Num) (hx : Canon x) (hy : Canon y) :
    IsOk (Num.add (some x) (some y)) ∧ IsOk (Num.sub (some x) (some y)) ∧
    IsOk (Num.mul (some x) (some y)) ∧ IsOk (Num.div (some x) (some y)) := by
  by_cases hs : isSurd x ∨ isSurd y
  · by_cases hc : Compatible x y
    · obtain ⟨z1, e1, _⟩ := surd_add_exact x y hx hy hs hc
      obtain ⟨z2, e2, _⟩ := surd_sub_exact x y hx hy hs hc
      obtain ⟨z3, e3, _⟩ := surd_mul_exact x y hx hy hs hc
      obtain ⟨d1, d2⟩ := surd_div_exact x y hx hy hs hc
      refine ⟨⟨_, e1⟩, ⟨_, e2⟩, ⟨_, e3⟩, ?_⟩
      by_cases h0 : qa y * qa y - qb y * qb y * (sharedRadical x y : ℚ) = 0
      · exact ⟨_, d1 h0⟩
      · obtain ⟨z, hz, _⟩ := d2 h0; exact ⟨_, hz⟩
    · obtain ⟨e1, e2, e3, e4, _⟩ := mixed_radicals_nil x y hx hy hc
      exact ⟨⟨_, e1⟩, ⟨_, e2⟩, ⟨_, e3⟩, ⟨_, e4⟩⟩
  · have nx : ¬ isSurd x := fun h => hs (Or.inl h)
    have ny : ¬ isSurd y := fun h => hs (Or.inr h)
    obtain ⟨z1, e1, _⟩ := add_spec x y hx hy nx ny
    obtain ⟨z2, e2, _⟩ := sub_spec x y hx hy nx ny
    obtain ⟨z3, e3, _⟩ := mul_spec x y hx hy nx ny
    obtain ⟨d1, d2⟩ := div_spec x y hx hy nx ny
    refine ⟨⟨_, e1⟩, ⟨_, e2⟩, ⟨_, e3⟩, ?_⟩
    by_cases h0 : toQ y = 0
    · exact ⟨_, d1 h0⟩
    · obtain ⟨z, hz, _⟩ := d2 h0; exact ⟨_, hz⟩

theorem order_ok (x y : Num) (hx : Canon x) (hy : Canon y) :
    IsOk (Num.compare (some x) (some y)) ∧ IsOk (Num.min (some x) (some y)) ∧
    IsOk (Num.max (some x) (some y)) ∧ IsOk (Num.eqQ (some x) (some y)) ∧
    IsOk (Num.ltQ (some x) (some y)) ∧ IsOk (Num.leQ (some x) (some y)) ∧
    IsOk (Num.gtQ (some x) (some y)) ∧ IsOk (Num.geQ (some x) (some y)) := by
  have hc : IsOk (Num.compare (some x) (some y)) := compare_total x y hx hy
  have p : ∀ {α} (a : α), IsOk (pure a : Res α) := isOk_pure
  exact ⟨hc,
    hc.bind fun o => by cases o <;> [exact p _; exact isOk_ite _ (p _) (p _)],
    hc.bind fun o => by cases o <;> [exact p _; exact isOk_ite _ (p _) (p _)],
    hc.bind fun _ => isOk_ite _ (p _) (p _), hc.bind fun _ => isOk_ite _ (p _) (p _),
    hc.bind fun _ => isOk_ite _ (p _) (isOk_ite _ (p _) (p _)), hc.bind fun _ => isOk_ite _ (p _) (p _),
    hc.bind fun _ => isOk_ite _ (p _) (isOk_ite _ (p _) (p _))⟩

theorem clamp_ok (x lo hi : Num) (hx : Canon x) (hl : Canon lo) (hh : Canon hi) :
    IsOk (Num.clamp (some x) (some lo) (some hi)) := by
  have hc : IsOk (Num.compare (some x) (some lo)) := compare_total x lo hx hl
  have hc' : IsOk (Num.compare (some x) (some hi)) := compare_total x hi hx hh
  refine hc.bind fun o => ?_
  cases o with
  | none => exact isOk_pure _
  | some c =>
    refine isOk_ite _ (isOk_pure _) (hc'.bind fun o' => ?_)
    cases o' <;> [exact isOk_pure _; exact isOk_ite _ (isOk_pure _) (isOk_pure _)]

/-- **No runtime error.** On canonical (or nil) operands every operation of the module ends in a
value — a number, an integer, `Ok` or nil; never `err` (no modelled builtin is called outside its
domain: `reduce` never divides by a zero gcd, `rquot` never gets a zero divisor, the integer square
root never sees a negative), never `panic`, never `fuelOut` (both loops terminate). -/
theorem no_runtime_error (x y w : Option Num) (hx : CanonOpt x) (hy : CanonOpt y) (hw : CanonOpt w) :
    (IsOk (Num.add x y) ∧ IsOk (Num.sub x y) ∧ IsOk (Num.mul x y) ∧ IsOk (Num.div x y)) ∧
    (IsOk (Num.compare x y) ∧ IsOk (Num.min x y) ∧ IsOk (Num.max x y) ∧ IsOk (Num.eqQ x y) ∧
      IsOk (Num.ltQ x y) ∧ IsOk (Num.leQ x y) ∧ IsOk (Num.gtQ x y) ∧ IsOk (Num.geQ x y)) ∧
    IsOk (Num.clamp x y w) ∧
    (IsOk (Num.neg x) ∧ IsOk (Num.abs x) ∧ IsOk (Num.sqrt x) ∧ IsOk (Num.numer x) ∧
      IsOk (Num.denom x) ∧ IsOk (Num.toInt x) ∧ IsOk (Num.floor x) ∧ IsOk (Num.ceil x) ∧
      IsOk (Num.round x) ∧ IsOk (Num.sign x)) := by
  have hn := nil_propagates x y
  obtain ⟨n1, n2, n3, n4, n5, n6, n7, _, n9, n10, n11, n12, n13, u1, u2, u3, u4, u5, u6, u7, u8, u9, u10⟩ := hn
  have hcl := (nil_propagates y w).2.2.2.2.2.2.2.1
  have hcl2 := (nil_propagates x w).2.2.2.2.2.2.2.1
  have hcl3 := (nil_propagates x y).2.2.2.2.2.2.2.1
  cases x with
  | none =>
    exact ⟨⟨⟨_, n1.1⟩, ⟨_, n2.1⟩, ⟨_, n3.1⟩, ⟨_, n4.1⟩⟩,
      ⟨⟨_, n5.1⟩, ⟨_, n6.1⟩, ⟨_, n7.1⟩, ⟨_, n9.1⟩, ⟨_, n10.1⟩, ⟨_, n11.1⟩, ⟨_, n12.1⟩, ⟨_, n13.1⟩⟩,
      ⟨_, hcl.1⟩,
      ⟨⟨_, u1⟩, ⟨_, u2⟩, ⟨_, u3⟩, ⟨_, u4⟩, ⟨_, u5⟩, ⟨_, u6⟩, ⟨_, u7⟩, ⟨_, u8⟩, ⟨_, u9⟩, ⟨_, u10⟩⟩⟩
  | some xv =>
    have hu := unary_ok xv hx
    cases y with
    | none =>
      exact ⟨⟨⟨_, n1.2⟩, ⟨_, n2.2⟩, ⟨_, n3.2⟩, ⟨_, n4.2⟩⟩,
        ⟨⟨_, n5.2⟩, ⟨_, n6.2⟩, ⟨_, n7.2⟩, ⟨_, n9.2⟩, ⟨_, n10.2⟩, ⟨_, n11.2⟩, ⟨_, n12.2⟩, ⟨_, n13.2⟩⟩,
        ⟨_, hcl2.2.1⟩, hu⟩
    | some yv =>
      refine ⟨arith_ok xv yv hx hy, order_ok xv yv hx hy, ?_, hu⟩
      cases w with
      | none => exact ⟨_, hcl3.2.2⟩
      | some wv => exact clamp_ok xv yv wv hx hy hw

example : CanonOpt (some (.surd (.rat 1 2) (.rat 1 2) 5)) := by
  refine ⟨⟨by decide, by decide⟩, ⟨by decide, by decide⟩, ?_, by decide, fun e he hdiv => ?_⟩
  · show ((1 : ℤ) : ℚ) / ((2 : ℤ) : ℚ) ≠ 0
    norm_num
  · have h1 : e * e ≤ 5 := Int.le_of_dvd (by decide) hdiv
    obtain rfl : e = 2 := by
      by_contra hne
      have := Int.mul_self_le_mul_self (a := 3) (by decide) (show 3 ≤ e by omega)
      omega
    revert hdiv; decide

/-- **`to_int` of a surd truncates toward zero** (this is `toInt_surd_Statement`): for the value
`v = a + b·r` at any positive square root `r` of `n` in an ordered field (`r = √n` in ℝ),
`t ≤ v < t + 1` when `v ≥ 0` and `t − 1 < v ≤ t` when `v ≤ 0`. Uses the irrationality of `√n`
for square-free `n > 1` (`sqfree_mul_sq_ne_sq`) in the branch that subtracts `s + 1`. -/
theorem toInt_surd_spec {K : Type} [Field K] [LinearOrder K] [IsStrictOrderedRing K]
    (a b : Coeff) (n : Int) (r : K) (hx : Canon (.surd a b n)) (hr0 : 0 < r) (hr : r * r = (n : K)) :
    ∃ t : Int, Num.toInt (some (.surd a b n)) = .ok (some t) ∧
      ((0 ≤ (coeffQ a : K) + (coeffQ b : K) * r →
          (t : K) ≤ (coeffQ a : K) + (coeffQ b : K) * r ∧ (coeffQ a : K) + (coeffQ b : K) * r < t + 1) ∧
       ((coeffQ a : K) + (coeffQ b : K) * r ≤ 0 →
          (t : K) - 1 < (coeffQ a : K) + (coeffQ b : K) * r ∧ (coeffQ a : K) + (coeffQ b : K) * r ≤ t)) := by
  refine ⟨_, toInt_surd_eq hx, ?_⟩
  obtain ⟨ha, hb, hb0, hn, hsq⟩ := hx
  have hda := (toRational_canon ha).1
  have hdb := (toRational_canon hb).1
  have hbn := toQ_ne_zero hb0
  rw [surdSign_sound _ _ n r hr0 hr]
  unfold coeffQ at hb0 ⊢
  generalize hv : ((toRational a).toQ : K) + ((toRational b).toQ : K) * r = v
  rcases lt_trichotomy v 0 with hneg | rfl | hpos
  · -- negative value: the floor of `-v`, negated
    obtain ⟨ca, va⟩ := reduceP_neg hda.ne'
    obtain ⟨cb, vb⟩ := reduceP_neg hdb.ne'
    have hval : (((reduceP ((toRational a).n * -1) (toRational a).d).toQ : ℚ) : K) +
        (((reduceP ((toRational b).n * -1) (toRational b).d).toQ : ℚ) : K) * r = -v := by
      rw [va, vb, ← hv, Rat.cast_neg, Rat.cast_neg, neg_mul, ← neg_add]
    obtain ⟨f1, f2⟩ := surdFloor_spec (K := K) _ _ ca.1 cb.1 (toQ_ne_zero (vb ▸ neg_ne_zero.mpr hb0))
      n hn hsq r hr0 hr (by rw [hval]; exact neg_nonneg.mpr hneg.le)
    rw [hval] at f1 f2
    rw [sgn_of_neg hneg, if_pos (by decide), neg_one_mul, Int.cast_neg]
    exact ⟨fun h => absurd hneg (not_lt.mpr h), fun _ => ⟨by rw [← neg_add', neg_lt]; exact f2, le_neg.mpr f1⟩⟩
  · rw [sgn_zero, zero_mul, Int.cast_zero]
    exact ⟨fun _ => ⟨le_rfl, by rw [zero_add]; exact zero_lt_one⟩,
      fun _ => ⟨by rw [zero_sub]; exact neg_lt_zero.mpr zero_lt_one, le_rfl⟩⟩
  · obtain ⟨f1, f2⟩ := surdFloor_spec (K := K) _ _ hda hdb hbn n hn hsq r hr0 hr (by rw [hv]; exact hpos.le)
    rw [hv] at f1 f2
    rw [sgn_of_pos hpos, if_neg (by decide), one_mul]
    exact ⟨fun _ => ⟨f1, f2⟩, fun h => absurd hpos (not_lt.mpr h)⟩

/-- comparison of a canonical surd with a canonical integer / rational is the order of `K` -/
theorem compare_surd_coeff {K : Type} [Field K] [LinearOrder K] [IsStrictOrderedRing K]
    (a b : Coeff) (n : Int) (y : Num) (r : K) (hx : Canon (.surd a b n)) (hy : Canon y) (ny : ¬ isSurd y)
    (hr0 : 0 < r) (hr : r * r = (n : K)) :
    Num.compare (some (.surd a b n)) (some y) =
      .ok (some (sgn ((coeffQ a : K) + (coeffQ b : K) * r - ((toQ y : ℚ) : K)))) := by
  have hqb : qb y = 0 := (explode_spec y hy).2.2.2.2.2 ny
  have hqa : qa y = toQ y := congrArg Prod.fst (toQsqrt_of_not_surd ny)
  have hsr : sharedRadical (.surd a b n) y = n := if_neg hx.2.2.1
  rw [surd_compare_spec (.surd a b n) y hx hy (Or.inl trivial) (Or.inr (Or.inl hqb)), hsr,
    surdSign_sound _ _ n r hr0 hr, hqa, hqb, sub_zero, Rat.cast_sub, sub_add_eq_add_sub]
  rfl

theorem hasValue_surd {K : Type} [Field K] [LinearOrder K] [IsStrictOrderedRing K]
    {a b : Coeff} {n : Int} {r : K} (hx : Canon (.surd a b n)) (hr0 : 0 < r) (hr : r * r = (n : K)) :
    HasValue (.surd a b n) ((coeffQ a : K) + (coeffQ b : K) * r) :=
  ⟨toInt_surd_spec a b n r hx hr0 hr, fun y hy ny => compare_surd_coeff a b n y r hx hy ny hr0 hr⟩

/-- `floor` of a surd: the greatest integer below the value -/
theorem floor_surd_spec {K : Type} [Field K] [LinearOrder K] [IsStrictOrderedRing K]
    (a b : Coeff) (n : Int) (r : K) (hx : Canon (.surd a b n)) (hr0 : 0 < r) (hr : r * r = (n : K)) :
    ∃ f : Int, Num.floor (some (.surd a b n)) = .ok (some f) ∧
      (f : K) ≤ (coeffQ a : K) + (coeffQ b : K) * r ∧ (coeffQ a : K) + (coeffQ b : K) * r < f + 1 := by
  exact (hasValue_surd hx hr0 hr).floor

/-- `ceil` of a surd: the least integer above the value -/
theorem ceil_surd_spec {K : Type} [Field K] [LinearOrder K] [IsStrictOrderedRing K]
    (a b : Coeff) (n : Int) (r : K) (hx : Canon (.surd a b n)) (hr0 : 0 < r) (hr : r * r = (n : K)) :
    ∃ f : Int, Num.ceil (some (.surd a b n)) = .ok (some f) ∧
      (f : K) - 1 < (coeffQ a : K) + (coeffQ b : K) * r ∧ (coeffQ a : K) + (coeffQ b : K) * r ≤ f := by
  exact (hasValue_surd hx hr0 hr).ceil

/-- `round` of a surd: the nearest integer (`HasValue.round` gives the tie clauses of `round_spec` as well) -/
theorem round_surd_spec {K : Type} [Field K] [LinearOrder K] [IsStrictOrderedRing K]
    (a b : Coeff) (n : Int) (r : K) (hx : Canon (.surd a b n)) (hr0 : 0 < r) (hr : r * r = (n : K)) :
    ∃ z : Int, Num.round (some (.surd a b n)) = .ok (some z) ∧
      (z : K) - 1 / 2 ≤ (coeffQ a : K) + (coeffQ b : K) * r ∧
      (coeffQ a : K) + (coeffQ b : K) * r ≤ (z : K) + 1 / 2 := by
  obtain ⟨z, h, h1, h2, _⟩ := (hasValue_surd hx hr0 hr).round
  exact ⟨z, h, h1, h2⟩

/-- the norm `a² − b²·n` of a canonical surd is never zero: the nil branch of `surd_div_exact` is not taken for a
canonical surd divisor -/
theorem surd_norm_ne_zero (a b : Coeff) (n : Int) (hx : Canon (.surd a b n)) :
    coeffQ a * coeffQ a - coeffQ b * coeffQ b * (n : ℚ) ≠ 0 := by
  obtain ⟨ha, hb, hb0, hn, hsq⟩ := hx
  have hda := (toRational_canon ha).1
  have hdb := (toRational_canon hb).1
  intro h
  have hq : (toRational b).n * (toRational a).d ≠ 0 := Int.mul_ne_zero (toQ_ne_zero hb0) hda.ne'
  apply sqfree_mul_sq_ne_sq n ((toRational b).n * (toRational a).d) ((toRational a).n * (toRational b).d) hn hsq hq
  have hdaq : ((toRational a).d : ℚ) ≠ 0 := Int.cast_ne_zero.mpr hda.ne'
  have hdbq : ((toRational b).d : ℚ) ≠ 0 := Int.cast_ne_zero.mpr hdb.ne'
  have : (((toRational b).n * (toRational a).d * ((toRational b).n * (toRational a).d) * n : ℤ) : ℚ) =
      (((toRational a).n * (toRational b).d * ((toRational a).n * (toRational b).d) : ℤ) : ℚ) := by
    unfold coeffQ QM.Num.Rt.toQ at h
    field_simp at h
    push_cast
    linarith
  exact_mod_cast this

/-- the statement of `toInt_surd_spec` as one closed proposition over all ordered fields -/
def toInt_surd_Statement : Prop :=
  ∀ (K : Type) [Field K] [LinearOrder K] [IsStrictOrderedRing K] (a b : Coeff) (n : Int) (r : K),
    Canon (.surd a b n) → 0 < r → r * r = (n : K) →
    ∃ t : Int, Num.toInt (some (.surd a b n)) = .ok (some t) ∧
      ((0 ≤ (coeffQ a : K) + (coeffQ b : K) * r →
          (t : K) ≤ (coeffQ a : K) + (coeffQ b : K) * r ∧ (coeffQ a : K) + (coeffQ b : K) * r < t + 1) ∧
       ((coeffQ a : K) + (coeffQ b : K) * r ≤ 0 →
          (t : K) - 1 < (coeffQ a : K) + (coeffQ b : K) * r ∧ (coeffQ a : K) + (coeffQ b : K) * r ≤ t))

theorem toInt_surd_full : toInt_surd_Statement :=
  fun _ _ _ _ a b n r hx hr0 hr => toInt_surd_spec a b n r hx hr0 hr

example : Canon (.surd (.int (-3)) (.int 1) 2) := by
  refine ⟨trivial, trivial, ?_, by decide, fun e he hdiv => ?_⟩
  · show ((1 : ℤ) : ℚ) / ((1 : ℤ) : ℚ) ≠ 0
    norm_num
  · have h1 : e * e ≤ 2 := Int.le_of_dvd (by decide) hdiv
    have := Int.mul_self_le_mul_self (a := 2) (by decide) he
    omega

end C20
