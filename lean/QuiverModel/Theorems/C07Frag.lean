import QuiverModel.Lemmas.RefSem.Slot
import QuiverModel.Theorems.C07
/-
C07 for a compiler fragment, part 1: every function the model compiler of `Core/RefSem/Compile1.lean` emits is
accepted by the checker `checkAnn` — as a theorem, not on samples (`F1.compileSq_checkFn`) — hence, by
`C07.checkAnn_sound`, no program of the fragment fails structurally (`F1.frag1_no_structural_failure`). Fragment 1 =
literals, `~`, tuples, variable reads, `x = e` / `e =p` with binder / placeholder / integer-literal / flat tuple patterns
(backward fail jumps, nil fill), `,`-sequences with the nil short-circuit. The model compiler is tied to compiler.rs by
C02's harness (instruction-sequence equality on the generated programs of every run, notes/C02.md).

How: a small type system for code segments placed at absolute positions (`Seg`; `Blk`: single entry, exit at the end
plus listed exits; `Typed`: a `Blk` with some annotation, provided the code fits into the function) that composes and
ends in the checker (`checkFn_of_blk`). Each construct the fragments share is typed by one lemma over code lists
(`F1.int_typed` … `F1.sqCons_typed`); the induction over a fragment's syntax only calls them. The abstract state at
the boundaries is the compiler's own bookkeeping: height = the flowing value's depth, locals ≥ `Γ.length`. `locals`
is a LOWER bound (`Fits`; real compiler output joins paths with different counts); the equality `L.length = Γ.length`
of C02's alignment invariant is stated by nothing here. A sequence leaves with "at least the locals of its start, and
ALL its locals if the value is non-nil" (`Guard.top`) — what a branch consequence compiled under the condition's
bindings needs.
-/
namespace QM.C07Frag
open QM.VM

/-- `out` may flow into an annotation `b` (the checker's `flowsTo`, as a relation between abstract states) -/
def Fits (out b : Ann) : Prop :=
  b.height = out.height ∧ b.locals ≤ out.locals ∧ guardFlows out b = true

theorem guardFlows_iff (x y : Ann) : guardFlows x y = true ↔
    match y.guard with
    | .none => True
    | .top g => x.guard = .nilTop ∨ g ≤ x.eff
    | .dup g => ∃ g', x.guard = .dup g' ∧ g ≤ max g' x.locals
    | .neg g => ∃ g', x.guard = .neg g' ∧ g ≤ max g' x.locals
    | .nilTop => x.guard = .nilTop := by
  unfold guardFlows
  cases y.guard with
  | none => exact iff_true_intro rfl
  | top g => simp only [Bool.or_eq_true, beq_iff_eq, decide_eq_true_eq]
  | dup g => cases x.guard <;> simp
  | neg g => cases x.guard <;> simp
  | nilTop => exact beq_iff_eq

theorem le_eff : (a : Ann) → a.locals ≤ a.eff
  | ⟨_, _, .top _⟩ | ⟨_, _, .dup _⟩ => Nat.le_max_right ..
  | ⟨_, _, .none⟩ | ⟨_, _, .neg _⟩ | ⟨_, _, .nilTop⟩ => Nat.le_refl _

theorem guardFlows_refl (a : Ann) : guardFlows a a = true := by
  have := le_eff a
  rw [guardFlows_iff]
  cases h : a.guard
  · trivial
  · exact Or.inr (by simp only [Ann.eff, h] at this ⊢; omega)
  · exact ⟨_, rfl, by omega⟩
  · exact ⟨_, rfl, by omega⟩
  · rfl

theorem Fits.refl (a : Ann) : Fits a a := ⟨rfl, Nat.le_refl _, guardFlows_refl a⟩

/-- what `y` promises for a non-nil top value, `x` promises too -/
theorem eff_le_of_flows {x y : Ann} (hl : y.locals ≤ x.locals) (h : guardFlows x y = true) :
    x.guard = .nilTop ∨ y.eff ≤ x.eff := by
  have := le_eff x
  rw [guardFlows_iff] at h
  unfold Ann.eff at this ⊢
  cases hy : y.guard <;> simp only [hy] at h ⊢
  · exact Or.inr (by omega)
  · exact h.imp id (fun h => by unfold Ann.eff at h; omega)
  · obtain ⟨g', hx, h⟩ := h
    simp only [hx] at this ⊢
    exact Or.inr (by omega)
  · exact Or.inr (by omega)
  · exact Or.inl h

theorem Fits.trans {x y z : Ann} (h1 : Fits x y) (h2 : Fits y z) : Fits x z := by
  obtain ⟨a1, a2, a3⟩ := h1
  obtain ⟨b1, b2, b3⟩ := h2
  refine ⟨b1.trans a1, Nat.le_trans b2 a2, ?_⟩
  have heff := eff_le_of_flows a2 a3
  rw [guardFlows_iff] at a3 b3 ⊢
  cases hz : z.guard <;> simp only [hz] at b3 ⊢
  · rcases b3 with b3 | b3
    · rw [b3] at a3
      exact Or.inl a3
    · exact heff.imp id (Nat.le_trans b3)
  · obtain ⟨g', hy, b3⟩ := b3
    simp only [hy] at a3
    obtain ⟨g'', hx, a3⟩ := a3
    exact ⟨g'', hx, by omega⟩
  · obtain ⟨g', hy, b3⟩ := b3
    simp only [hy] at a3
    obtain ⟨g'', hx, a3⟩ := a3
    exact ⟨g'', hx, by omega⟩
  · rw [b3] at a3
    exact a3

theorem Fits.plain {out : Ann} {h l : Nat} (hh : h = out.height) (hl : l ≤ out.locals) :
    Fits out ⟨h, l, .none⟩ := ⟨hh, hl, rfl⟩

/-- `pc` lies in `[o, o + len)` -/
def InR (o len pc : Nat) : Prop := o ≤ pc ∧ pc < o + len

/-- State `out` flowing to `pc`: inside the segment (at `o`, annotated by `A`) it must fit the
annotation there, outside it is up to `ext`. -/
def Flow (o : Nat) (A : List Ann) (ext : Nat → Ann → Prop) (pc : Nat) (out : Ann) : Prop :=
  (InR o A.length pc ∧ ∃ x, A[pc - o]? = some x ∧ Fits out x) ∨ (¬ InR o A.length pc ∧ ext pc out)

/-- `code`, placed at position `o` of a function of `n` instructions with `caps` captures, checks
instruction by instruction against the annotations `A`; states leaving the segment satisfy `ext`. -/
structure Seg (P : Prog) (caps n o : Nat) (code : List Instr) (A : List Ann)
    (ext : Nat → Ann → Prop) : Prop where
  len : A.length = code.length
  step : ∀ j i x, code[j]? = some i → A[j]? = some x →
    ∃ succs, transfer P n caps (o + j) x i = .ok succs ∧ ∀ s ∈ succs, Flow o A ext s.1 s.2

theorem Seg.nil {P : Prog} {caps n o : Nat} {ext : Nat → Ann → Prop} : Seg P caps n o [] [] ext :=
  ⟨rfl, fun _ _ _ h => nomatch h⟩

theorem Flow.mono {o : Nat} {A : List Ann} {ext ext' : Nat → Ann → Prop} {pc : Nat} {out : Ann}
    (h : Flow o A ext pc out) (hext : ¬ InR o A.length pc → ext pc out → ext' pc out) :
    Flow o A ext' pc out :=
  h.imp id fun ⟨h1, h2⟩ => ⟨h1, hext h1 h2⟩

theorem Seg.mono {P : Prog} {caps n o : Nat} {code : List Instr} {A : List Ann}
    {ext ext' : Nat → Ann → Prop} (h : Seg P caps n o code A ext)
    (hext : ∀ pc out, ¬ InR o A.length pc → ext pc out → ext' pc out) : Seg P caps n o code A ext' :=
  ⟨h.len, fun j i x hi hx =>
    let ⟨succs, ht, hf⟩ := h.step j i x hi hx
    ⟨succs, ht, fun s hs => (hf s hs).mono (hext _ _)⟩⟩

/-- `out` arrives at `pc` inside the segment and fits the annotation there: the first alternative of `Flow` -/
def Hit (o : Nat) (A : List Ann) (pc : Nat) (out : Ann) : Prop :=
  InR o A.length pc ∧ ∃ x, A[pc - o]? = some x ∧ Fits out x

theorem Hit.flow {o : Nat} {A : List Ann} {ext : Nat → Ann → Prop} {pc : Nat} {out : Ann}
    (h : Hit o A pc out) : Flow o A ext pc out := Or.inl h

theorem Hit.fits {o : Nat} {A : List Ann} {pc : Nat} {out out' : Ann} (hf : Fits out' out)
    (h : Hit o A pc out) : Hit o A pc out' :=
  let ⟨hin, x, hx, hfit⟩ := h
  ⟨hin, x, hx, hf.trans hfit⟩

theorem Hit.left {o : Nat} {A1 A2 : List Ann} {pc : Nat} {out : Ann} (h : Hit o A1 pc out) :
    Hit o (A1 ++ A2) pc out := by
  obtain ⟨⟨h1, h2⟩, x, hx, hf⟩ := h
  refine ⟨⟨h1, by rw [List.length_append]; omega⟩, x, ?_, hf⟩
  rw [List.getElem?_append_left (by omega)]
  exact hx

theorem Hit.right {o : Nat} {A1 A2 : List Ann} {pc : Nat} {out : Ann}
    (h : Hit (o + A1.length) A2 pc out) : Hit o (A1 ++ A2) pc out := by
  obtain ⟨⟨h1, h2⟩, x, hx, hf⟩ := h
  refine ⟨⟨by omega, by rw [List.length_append]; omega⟩, x, ?_, hf⟩
  rw [List.getElem?_append_right (by omega), Nat.sub_sub]
  exact hx

theorem Hit.head {o : Nat} {x : Ann} {A : List Ann} {out : Ann} (hf : Fits out x) : Hit o (x :: A) o out :=
  ⟨⟨Nat.le_refl _, Nat.lt_add_of_pos_right (Nat.succ_pos _)⟩, x, by rw [Nat.sub_self]; rfl, hf⟩

theorem Hit.replicate {o k pc : Nat} {a out : Ann} (hin : InR o k pc) (hf : Fits out a) :
    Hit o (List.replicate k a) pc out :=
  ⟨by rw [List.length_replicate]; exact hin, a,
    List.getElem?_replicate.trans (if_pos (by have := hin.1; have := hin.2; omega)), hf⟩

theorem Hit.at {o o' : Nat} {A : List Ann} {pc : Nat} {out : Ann} (h : Hit o A pc out) (ho : o = o') :
    Hit o' A pc out := ho ▸ h

theorem Flow.lift_left {o : Nat} {A1 A2 : List Ann} {ext1 ext : Nat → Ann → Prop} {pc : Nat} {out : Ann}
    (h : Flow o A1 ext1 pc out) (hext : ¬ InR o A1.length pc → ext1 pc out → Flow o (A1 ++ A2) ext pc out) :
    Flow o (A1 ++ A2) ext pc out :=
  h.elim (fun hh => Or.inl (Hit.left hh)) fun ⟨hout, he⟩ => hext hout he

theorem Flow.right {o : Nat} {A1 A2 : List Ann} {ext2 ext : Nat → Ann → Prop} {pc : Nat} {out : Ann}
    (h : Flow (o + A1.length) A2 ext2 pc out)
    (hext : ¬ InR (o + A1.length) A2.length pc → ext2 pc out → Flow o (A1 ++ A2) ext pc out) :
    Flow o (A1 ++ A2) ext pc out :=
  h.elim (fun hh => Or.inl (Hit.right hh)) fun ⟨hout, he⟩ => hext hout he

theorem Flow.lift_right {o : Nat} {A1 A2 : List Ann} {ext2 ext : Nat → Ann → Prop} {pc : Nat} {out : Ann}
    (h : Flow (o + A1.length) A2 ext2 pc out) (hge : o + A1.length ≤ pc)
    (hext : ext2 pc out → ext pc out) : Flow o (A1 ++ A2) ext pc out :=
  h.right fun hout he => Or.inr
    ⟨fun hin => hout ⟨hge, by have := hin.2; rw [List.length_append] at this; omega⟩, hext he⟩

theorem Seg.append {P : Prog} {caps n o : Nat} {c1 c2 : List Instr} {A1 A2 : List Ann}
    {ext1 ext2 ext : Nat → Ann → Prop}
    (h1 : Seg P caps n o c1 A1 ext1) (h2 : Seg P caps n (o + c1.length) c2 A2 ext2)
    (e1 : ∀ pc out, ¬ InR o A1.length pc → ext1 pc out → Flow o (A1 ++ A2) ext pc out)
    (e2 : ∀ pc out, ¬ InR (o + c1.length) A2.length pc → ext2 pc out → Flow o (A1 ++ A2) ext pc out) :
    Seg P caps n o (c1 ++ c2) (A1 ++ A2) ext := by
  have hl1 := h1.len
  refine ⟨by rw [List.length_append, List.length_append, hl1, h2.len], fun j i x hi hx => ?_⟩
  by_cases hj : j < c1.length
  · rw [List.getElem?_append_left hj] at hi
    rw [List.getElem?_append_left (hl1 ▸ hj)] at hx
    obtain ⟨succs, ht, hf⟩ := h1.step j i x hi hx
    exact ⟨succs, ht, fun s hs => (hf s hs).lift_left (e1 _ _)⟩
  · have hj' : c1.length ≤ j := Nat.le_of_not_lt hj
    rw [List.getElem?_append_right hj'] at hi
    rw [List.getElem?_append_right (hl1 ▸ hj'), hl1] at hx
    obtain ⟨succs, ht, hf⟩ := h2.step (j - c1.length) i x hi hx
    rw [Nat.add_assoc, Nat.add_sub_cancel' hj'] at ht
    rw [← hl1] at hf e2
    exact ⟨succs, ht, fun s hs => (hf s hs).right (e2 _ _)⟩

theorem Seg.one {P : Prog} {caps n o : Nat} {i : Instr} {a : Ann} {ext : Nat → Ann → Prop}
    {succs : List (Nat × Ann)}
    (ht : transfer P n caps o a i = .ok succs) (hs : ∀ s ∈ succs, s.1 ≠ o ∧ ext s.1 s.2) :
    Seg P caps n o [i] [a] ext := by
  refine ⟨rfl, fun j i' x hi hx => ?_⟩
  cases j with
  | zero =>
    cases hi
    cases hx
    exact ⟨_, ht, fun s hs' => Or.inr ⟨fun hin => (hs s hs').1 (by have := hin.1; have := hin.2; simp only [List.length_cons, List.length_nil] at this; omega), (hs s hs').2⟩⟩
  | succ j => exact nomatch hi

/-- exits: `pc` is one of the listed positions and the state fits the annotation listed for it -/
def Exits (X : List (Nat × Ann)) : Nat → Ann → Prop :=
  fun pc out => ∃ e ∈ X, pc = e.1 ∧ Fits out e.2

/-- A block at `o`: entered in state `a`, it leaves by falling through / jumping to its end in a
state that fits `b`, or through one of the extra exits `X` (all outside the block). -/
structure Blk (P : Prog) (caps n o : Nat) (code : List Instr) (a : Ann) (A : List Ann) (b : Ann)
    (X : List (Nat × Ann)) : Prop where
  seg : Seg P caps n o code A (Exits ((o + code.length, b) :: X))
  entry : Flow o A (Exits ((o + code.length, b) :: X)) o a

theorem Exits.head {X : List (Nat × Ann)} {t : Nat} {b out : Ann} (hf : Fits out b) :
    Exits ((t, b) :: X) t out := ⟨_, List.mem_cons_self, rfl, hf⟩

theorem Exits.tail {X : List (Nat × Ann)} {e : Nat × Ann} {pc : Nat} {out : Ann} (h : Exits X pc out) :
    Exits (e :: X) pc out :=
  let ⟨e', he, hp, hf⟩ := h
  ⟨e', List.mem_cons_of_mem _ he, hp, hf⟩

theorem Exits.fits {X : List (Nat × Ann)} {pc : Nat} {out out' : Ann} (hf : Fits out' out)
    (h : Exits X pc out) : Exits X pc out' :=
  let ⟨e, he, hp, hfit⟩ := h
  ⟨e, he, hp, hf.trans hfit⟩

theorem Flow.fits {o : Nat} {A : List Ann} {X : List (Nat × Ann)} {pc : Nat} {out out' : Ann}
    (hf : Fits out' out) (h : Flow o A (Exits X) pc out) : Flow o A (Exits X) pc out' :=
  h.imp (Hit.fits hf) fun ⟨hout, hext⟩ => ⟨hout, hext.fits hf⟩

/-- none of the exits `X` lies in `[o, o + len)` -/
def Outside (X : List (Nat × Ann)) (o len : Nat) : Prop := ∀ e ∈ X, ¬ InR o len e.1

theorem Outside.nil {o len : Nat} : Outside [] o len := fun _ h => nomatch h

theorem Outside.cons {X : List (Nat × Ann)} {o len t : Nat} {x : Ann} (ht : t < o ∨ o + len ≤ t)
    (hX : Outside X o len) : Outside ((t, x) :: X) o len := by
  intro e he hin
  rcases List.mem_cons.mp he with rfl | he
  · have := hin.1
    have := hin.2
    omega
  · exact hX e he hin

theorem Outside.sub {X : List (Nat × Ann)} {o len o' len' : Nat} (hX : Outside X o len)
    (h1 : o ≤ o') (h2 : o' + len' ≤ o + len) : Outside X o' len' :=
  fun e he hin => hX e he ⟨Nat.le_trans h1 hin.1, Nat.lt_of_lt_of_le hin.2 h2⟩

theorem Outside.left {α : Type} {X : List (Nat × Ann)} {o : Nat} {c1 c2 : List α}
    (hX : Outside X o (c1 ++ c2).length) : Outside X o c1.length :=
  hX.sub (Nat.le_refl _) (by rw [List.length_append]; omega)

theorem Outside.right {α : Type} {X : List (Nat × Ann)} {o : Nat} {c1 c2 : List α}
    (hX : Outside X o (c1 ++ c2).length) : Outside X (o + c1.length) c2.length :=
  hX.sub (Nat.le_add_right _ _) (by rw [List.length_append]; omega)

theorem Outside.tail {α : Type} {X : List (Nat × Ann)} {o : Nat} {i : α} {c : List α}
    (hX : Outside X o (i :: c).length) : Outside X (o + 1) c.length :=
  hX.sub (Nat.le_succ o) (by rw [List.length_cons]; omega)

theorem Blk.empty {P : Prog} {caps n o : Nat} {a b : Ann} {X : List (Nat × Ann)} (h : Fits a b) :
    Blk P caps n o [] a [] b X :=
  ⟨Seg.nil, Or.inr ⟨fun hin => Nat.lt_irrefl _ (Nat.lt_of_lt_of_le hin.2 hin.1), .head h⟩⟩

theorem Blk.instr {P : Prog} {caps n o : Nat} {i : Instr} {a b : Ann} {X : List (Nat × Ann)}
    {succs : List (Nat × Ann)}
    (ht : transfer P n caps o a i = .ok succs)
    (hs : ∀ s ∈ succs, s.1 ≠ o ∧ Exits ((o + 1, b) :: X) s.1 s.2) :
    Blk P caps n o [i] a [a] b X :=
  ⟨Seg.one ht hs, Or.inl (Hit.head (Fits.refl a))⟩

theorem Blk.single {P : Prog} {caps n o : Nat} {i : Instr} {a b' b : Ann} {X : List (Nat × Ann)}
    (ht : transfer P n caps o a i = .ok [(o + 1, b')]) (hb : Fits b' b) :
    Blk P caps n o [i] a [a] b X :=
  Blk.instr ht fun _ hs => List.mem_singleton.mp hs ▸ ⟨Nat.succ_ne_self o, .head hb⟩

theorem Blk.enter {P : Prog} {caps n o : Nat} {code : List Instr} {a a' b : Ann} {A : List Ann}
    {X : List (Nat × Ann)} (h : Blk P caps n o code a A b X) (hf : Fits a' a) :
    Blk P caps n o code a' A b X := ⟨h.seg, h.entry.fits hf⟩

/-- each of the exits `X`, taken in the state listed for it, flows correctly into `A` at `o` -/
def Lands (o : Nat) (A : List Ann) (ext : Nat → Ann → Prop) (X : List (Nat × Ann)) : Prop :=
  ∀ e ∈ X, Flow o A ext e.1 e.2

theorem Lands.nil {o : Nat} {A : List Ann} {ext : Nat → Ann → Prop} : Lands o A ext [] :=
  fun _ h => nomatch h

theorem Lands.cons {o : Nat} {A : List Ann} {ext : Nat → Ann → Prop} {X : List (Nat × Ann)} {t : Nat}
    {x : Ann} (h : Flow o A ext t x) (hX : Lands o A ext X) : Lands o A ext ((t, x) :: X) :=
  List.forall_mem_cons.mpr ⟨h, hX⟩

section Link
variable {P : Prog} {caps n o : Nat} {c1 c2 : List Instr} {a m b : Ann} {A1 A2 : List Ann}
  {X1 X2 X : List (Nat × Ann)}

theorem Blk.link_exit (hl : A1.length = c1.length) (h2 : Blk P caps n (o + c1.length) c2 m A2 b X2)
    (e2 : Lands o (A1 ++ A2) (Exits ((o + (c1 ++ c2).length, b) :: X)) X2)
    {pc : Nat} {out : Ann} (h : Exits ((o + c1.length + c2.length, b) :: X2) pc out) :
    Flow o (A1 ++ A2) (Exits ((o + (c1 ++ c2).length, b) :: X)) pc out := by
  obtain ⟨e, he, rfl, hf⟩ := h
  rcases List.mem_cons.mp he with rfl | he
  · rw [Nat.add_assoc, ← List.length_append]
    refine Or.inr ⟨fun hin => Nat.lt_irrefl (o + (c1 ++ c2).length) ?_, .head hf⟩
    have := hin.2
    rwa [List.length_append, List.length_append, hl, h2.seg.len, ← List.length_append] at this
  · exact (e2 e he).fits hf

/-- Two adjacent blocks, the second entered where the first ends; the extra exits of either may lead
into the other (`e1`, `e2` say where they arrive in the pair). -/
theorem Blk.link (h1 : Blk P caps n o c1 a A1 m X1) (h2 : Blk P caps n (o + c1.length) c2 m A2 b X2)
    (e1 : Lands o (A1 ++ A2) (Exits ((o + (c1 ++ c2).length, b) :: X)) X1)
    (e2 : Lands o (A1 ++ A2) (Exits ((o + (c1 ++ c2).length, b) :: X)) X2) :
    Blk P caps n o (c1 ++ c2) a (A1 ++ A2) b X := by
  have hl := h1.seg.len
  have x1 : ∀ pc out, Exits ((o + c1.length, m) :: X1) pc out →
      Flow o (A1 ++ A2) (Exits ((o + (c1 ++ c2).length, b) :: X)) pc out := by
    rintro pc out ⟨e, he, rfl, hf⟩
    rcases List.mem_cons.mp he with rfl | he
    · -- the end of the first block is the entry of the second
      have n2 : Flow (o + A1.length) A2 (Exits ((o + c1.length + c2.length, b) :: X2)) (o + c1.length) m := by
        rw [hl]
        exact h2.entry
      exact (n2.right fun _ => Blk.link_exit hl h2 e2).fits hf
    · exact (e1 e he).fits hf
  exact ⟨Seg.append h1.seg h2.seg (fun pc out _ => x1 pc out) (fun pc out _ => Blk.link_exit hl h2 e2),
    h1.entry.lift_left fun _ => x1 _ _⟩

theorem Blk.append (h1 : Blk P caps n o c1 a A1 m X) (h2 : Blk P caps n (o + c1.length) c2 m A2 b X)
    (hX : Outside X o (c1 ++ c2).length) : Blk P caps n o (c1 ++ c2) a (A1 ++ A2) b X := by
  have hlA : (A1 ++ A2).length = (c1 ++ c2).length := by
    rw [List.length_append, List.length_append, h1.seg.len, h2.seg.len]
  have e : Lands o (A1 ++ A2) (Exits ((o + (c1 ++ c2).length, b) :: X)) X :=
    fun e he => Or.inr ⟨hlA ▸ hX e he, .tail ⟨e, he, rfl, Fits.refl _⟩⟩
  exact Blk.link h1 h2 e e

end Link

theorem Blk.seq {P : Prog} {caps n o : Nat} {c1 c2 : List Instr} {a m b : Ann} {A1 A2 : List Ann}
    {X : List (Nat × Ann)}
    (h1 : Blk P caps n o c1 a A1 m X) (h2 : Blk P caps n (o + c1.length) c2 m A2 b X)
    (hX : ∀ e ∈ X, ¬ InR o (c1.length + c2.length) e.1) :
    Blk P caps n o (c1 ++ c2) a (A1 ++ A2) b X :=
  h1.append h2 (List.length_append ▸ hX)

theorem Blk.cons {P : Prog} {caps n o : Nat} {i : Instr} {rest : List Instr} {a m b' b : Ann}
    {A : List Ann} {X : List (Nat × Ann)}
    (ht : transfer P n caps o a i = .ok [(o + 1, b')]) (hb : Fits b' m)
    (h2 : Blk P caps n (o + 1) rest m A b X)
    (hX : ∀ e ∈ X, ¬ InR o (1 + rest.length) e.1) :
    Blk P caps n o (i :: rest) a (a :: A) b X :=
  Blk.append (c1 := [i]) (A1 := [a]) (Blk.single ht hb) h2
    (show Outside X o (rest.length + 1) from Nat.add_comm 1 _ ▸ hX)

theorem Blk.at {P : Prog} {caps n o o' : Nat} {code : List Instr} {a b : Ann} {A : List Ann}
    {X : List (Nat × Ann)} (h : Blk P caps n o code a A b X) (ho : o = o') :
    Blk P caps n o' code a A b X := ho ▸ h

theorem Blk.cast {P : Prog} {caps n o : Nat} {code : List Instr} {a a' b b' : Ann} {A : List Ann}
    {X : List (Nat × Ann)} (h : Blk P caps n o code a A b X) (ha : a = a') (hb : b = b') :
    Blk P caps n o code a' A b' X := ha ▸ hb ▸ h

theorem Blk.exits {P : Prog} {caps n o : Nat} {code : List Instr} {a b b' : Ann} {A : List Ann}
    {X X' : List (Nat × Ann)} (h : Blk P caps n o code a A b X)
    (hsub : ∀ pc out, Exits ((o + code.length, b) :: X) pc out →
      Exits ((o + code.length, b') :: X') pc out) : Blk P caps n o code a A b' X' :=
  ⟨h.seg.mono fun pc out _ => hsub pc out, h.entry.mono fun _ => hsub _ _⟩

theorem Blk.weaken {P : Prog} {caps n o : Nat} {code : List Instr} {a b : Ann} {A : List Ann}
    {X X' : List (Nat × Ann)} (h : Blk P caps n o code a A b X) (hsub : ∀ e ∈ X, e ∈ X') :
    Blk P caps n o code a A b X' :=
  h.exits fun _ _ ⟨e, he, hp, hf⟩ =>
    (List.mem_cons.mp he).elim (fun h => ⟨e, h ▸ List.mem_cons_self, hp, hf⟩)
      fun h => ⟨e, List.mem_cons_of_mem _ (hsub e h), hp, hf⟩

theorem Blk.exit {P : Prog} {caps n o : Nat} {code : List Instr} {a b b' : Ann} {A : List Ann}
    {X : List (Nat × Ann)} (h : Blk P caps n o code a A b X) (hf : Fits b b') :
    Blk P caps n o code a A b' X :=
  h.exits fun pc out ⟨e, he, hp, hfit⟩ => by
    rcases List.mem_cons.mp he with rfl | he
    · exact ⟨_, List.mem_cons_self, hp, hfit.trans hf⟩
    · exact ⟨e, List.mem_cons_of_mem _ he, hp, hfit⟩

theorem Blk.absorb {P : Prog} {caps n o : Nat} {code : List Instr} {a b : Ann} {A : List Ann}
    {X : List (Nat × Ann)} (h : Blk P caps n o code a A b ((o + code.length, b) :: X)) :
    Blk P caps n o code a A b X :=
  h.exits fun _ _ ⟨e, he, hp, hf⟩ =>
    (List.mem_cons.mp he).elim (fun h => ⟨e, h ▸ List.mem_cons_self, hp, hf⟩) fun h => ⟨e, h, hp, hf⟩

/-- `code`, placed at `o` and fitting into the function, is a block from `a` to `b` with the extra
exits `X`, for some annotation. (The bound matters to jumps only; carrying it here keeps it out of
every composition.) -/
def Typed (P : Prog) (caps n o : Nat) (code : List Instr) (a b : Ann) (X : List (Nat × Ann)) : Prop :=
  o + code.length ≤ n → ∃ A, Blk P caps n o code a A b X

section Typed
variable {P : Prog} {caps n o : Nat} {code c1 c2 : List Instr} {a a' m b b' : Ann}
  {X X' : List (Nat × Ann)}

theorem Blk.typed {A : List Ann} (h : Blk P caps n o code a A b X) : Typed P caps n o code a b X :=
  fun _ => ⟨A, h⟩

theorem Typed.nil (h : Fits a b) : Typed P caps n o [] a b X := (Blk.empty h).typed

theorem Typed.seq (h1 : Typed P caps n o c1 a m X) (h2 : Typed P caps n (o + c1.length) c2 m b X)
    (hX : Outside X o (c1 ++ c2).length) : Typed P caps n o (c1 ++ c2) a b X := by
  intro hle
  rw [List.length_append, ← Nat.add_assoc] at hle
  obtain ⟨A1, b1⟩ := h1 (Nat.le_trans (Nat.le_add_right _ _) hle)
  obtain ⟨A2, b2⟩ := h2 hle
  exact ⟨_, b1.append b2 hX⟩

theorem Typed.cons {i : Instr} {A : List Ann} (h1 : Blk P caps n o [i] a A m X)
    (h2 : Typed P caps n (o + 1) code m b X) (hX : Outside X o (i :: code).length) :
    Typed P caps n o (i :: code) a b X :=
  Typed.seq (c1 := [i]) h1.typed h2 hX

theorem Typed.map (h : Typed P caps n o code a b X)
    (f : ∀ {A}, Blk P caps n o code a A b X → Blk P caps n o code a' A b' X') :
    Typed P caps n o code a' b' X' :=
  fun hle => (h hle).imp fun _ => f

theorem Typed.enter (h : Typed P caps n o code a b X) (hf : Fits a' a) : Typed P caps n o code a' b X :=
  h.map (·.enter hf)

theorem Typed.exit (h : Typed P caps n o code a b X) (hf : Fits b b') : Typed P caps n o code a b' X :=
  h.map (·.exit hf)

theorem Typed.weaken (h : Typed P caps n o code a b X) (hsub : ∀ e ∈ X, e ∈ X') :
    Typed P caps n o code a b X' :=
  h.map (·.weaken hsub)

theorem Typed.lift (h : Typed P caps n o code a b []) : Typed P caps n o code a b X :=
  h.weaken fun _ he => nomatch he

theorem Typed.absorb (h : Typed P caps n o code a b ((o + code.length, b) :: X)) :
    Typed P caps n o code a b X :=
  h.map (·.absorb)

theorem Typed.exit_end (h : Typed P caps n o code a b X)
    (hsub : ∀ e ∈ X, e ∈ X' ∨ e = (o + code.length, b)) : Typed P caps n o code a b X' :=
  (h.weaken (X' := (o + code.length, b) :: X') fun e he =>
    (hsub e he).elim (List.mem_cons_of_mem _) (· ▸ List.mem_cons_self)).absorb

end Typed

theorem flowsTo_of_flow {n : Nat} {A : List Ann} {b : Ann} {pc : Nat} {out : Ann} (hA : A.length = n)
    (hb : b.height = 1) (h : Flow 0 A (Exits [(n, b)]) pc out) :
    flowsTo n (A.map some).toArray pc out = true := by
  unfold flowsTo
  rcases h with ⟨hin, x, hx, ⟨f1, f2, f3⟩⟩ | ⟨hout, e, he, hp, hfit⟩
  · have hne : pc ≠ n := Nat.ne_of_lt (hA ▸ Nat.zero_add A.length ▸ hin.2)
    have : (A.map some).toArray[pc]? = some (some x) := by
      rw [List.getElem?_toArray, List.getElem?_map, ← Nat.sub_zero pc, hx]
      rfl
    rw [if_neg hne, this]
    simp only [f1, f2, f3, beq_self_eq_true, decide_true, Bool.and_self]
  · obtain rfl := List.mem_singleton.mp he
    rw [if_pos hp, ← hfit.1, hb]
    rfl

theorem checkFn_of_blk {P : Prog} {caps tid : Nat} {code : List Instr} {A : List Ann} {b : Ann}
    (h : Blk P caps code.length 0 code ⟨1, caps, .none⟩ A b []) (hb : b.height = 1)
    (hsmall : code.length < maxCode) :
    checkFn P { instructions := code.toArray, captures := caps, typeId := tid } (A.map some).toArray = true := by
  have hl := h.seg.len
  have hseg := h.seg
  have hent := h.entry
  rw [Nat.zero_add] at hseg hent
  unfold checkFn
  simp only [List.size_toArray, List.length_map, hl, beq_self_eq_true, hsmall, decide_true, Bool.true_and,
    Bool.and_eq_true, List.all_eq_true, List.mem_range]
  refine ⟨flowsTo_of_flow hl hb hent, fun pc hpc => ?_⟩
  unfold checkPc
  have hi : code.toArray[pc]? = some code[pc] := List.getElem?_toArray.trans (List.getElem?_eq_getElem hpc)
  have hx : (A.map some).toArray[pc]? = some (some (A[pc]'(hl ▸ hpc))) :=
    List.getElem?_toArray.trans (List.getElem?_map.trans (congrArg _ (List.getElem?_eq_getElem (hl ▸ hpc))))
  rw [hx, hi]
  obtain ⟨succs, ht, hf⟩ := hseg.step pc code[pc] _ (List.getElem?_eq_getElem hpc)
    (List.getElem?_eq_getElem (hl ▸ hpc))
  rw [Nat.zero_add] at ht
  simp only [List.size_toArray, ht, List.all_eq_true]
  exact fun s hs => flowsTo_of_flow hl hb (hf s hs)

theorem checkFn_of_typed {P : Prog} {caps : Nat} {code : List Instr} {b : Ann} (tid : Nat)
    (h : Typed P caps code.length 0 code ⟨1, caps, .none⟩ b []) (hb : b.height = 1)
    (hsmall : code.length < maxCode) :
    ∃ anns, checkFn P { instructions := code.toArray, captures := caps, typeId := tid } anns = true :=
  let ⟨_, hA⟩ := h (Nat.le_of_eq (Nat.zero_add _))
  ⟨_, checkFn_of_blk hA hb hsmall⟩

theorem checkFn_of_eq {P : Prog} {fn : Function} {code : Array Instr} {nc : Nat}
    (hi : fn.instructions = code) (hc : fn.captures = nc)
    (h : ∃ anns, checkFn P { instructions := code, captures := nc, typeId := fn.typeId } anns = true) :
    ∃ anns, checkFn P fn anns = true := by
  cases fn
  cases hi
  cases hc
  exact h

theorem allChecked_of_checkFn {P : Prog}
    (h : ∀ (f : Nat) (fn : Function), P.functions[f]? = some fn → ∃ anns, checkFn P fn anns = true) :
    ∃ A, AllChecked P A := by
  have hex : ∀ f : Nat, ∃ anns : Anns, f < P.functions.size → checkAnn P f anns = true := by
    intro f
    by_cases hf : f < P.functions.size
    · have hget : P.functions[f]? = some P.functions[f] := Array.getElem?_eq_getElem hf
      obtain ⟨anns, hck⟩ := h f _ hget
      exact ⟨anns, fun _ => by unfold checkAnn; rw [hget]; exact hck⟩
    · exact ⟨#[], fun h => absurd h hf⟩
  obtain ⟨g, hg⟩ := Classical.axiomOfChoice hex
  refine ⟨Array.ofFn (n := P.functions.size) (fun i => g i), fun f hf => ?_⟩
  have : annsOf (Array.ofFn (n := P.functions.size) (fun i => g i)) f = g f := by
    simp [annsOf, Array.getD, hf]
  rw [this]
  exact hg f hf

/-- A certified program never fails structurally (`checkAnn_sound`). -/
theorem no_structural_failure_of_allChecked {P : Prog} (h : ∃ A, AllChecked P A) (s0 : Nat) (p0 p : Proc)
    (h0 : EntryWF P s0 p0) (hr : ReachWF P p0 p) :
    (∃ A, Inv P A s0 p) ∧
    ∀ ev, EventWF P ev → ∀ e, transition P p ev = some (.error e) → e.isStructural = false :=
  let ⟨A, hA⟩ := h
  let ⟨hinv, herr⟩ := C07.checkAnn_sound P A s0 hA p0 p h0 hr
  ⟨⟨A, hinv⟩, herr⟩

section Singles
variable {P : Prog} {caps n o : Nat} {X : List (Nat × Ann)} {h l : Nat} {g : Guard}

theorem Blk.pop : Blk P caps n o [.pop] ⟨h + 1, l, g⟩ [⟨h + 1, l, g⟩] ⟨h, l, .none⟩ X :=
  Blk.single (by simp [transfer]) (Fits.refl _)

theorem Blk.constant {i : Nat} (hi : i < P.constants.size) :
    Blk P caps n o [.constant i] ⟨h, l, g⟩ [⟨h, l, g⟩] ⟨h + 1, l, .none⟩ X :=
  Blk.single (by simp [transfer, hi]) (Fits.refl _)

theorem Blk.duplicate : Blk P caps n o [.duplicate] ⟨h + 1, l, .none⟩ [⟨h + 1, l, .none⟩] ⟨h + 2, l, .none⟩ X :=
  Blk.single (b' := ⟨h + 2, l, .dup l⟩) (by simp [transfer]) (Fits.plain rfl (Nat.le_refl _))

theorem Blk.load {i : Nat} (hi : i < l) :
    Blk P caps n o [.load i] ⟨h, l, g⟩ [⟨h, l, g⟩] ⟨h + 1, l, .none⟩ X :=
  Blk.single (by simp [transfer, hi]) (Fits.refl _)

theorem Blk.store : Blk P caps n o [.store] ⟨h + 1, l, g⟩ [⟨h + 1, l, g⟩] ⟨h, l + 1, .none⟩ X :=
  Blk.single (by simp [transfer]) (Fits.refl _)

theorem Blk.get {k : Nat} : Blk P caps n o [.get k] ⟨h + 1, l, g⟩ [⟨h + 1, l, g⟩] ⟨h + 1, l, .none⟩ X :=
  Blk.single (by simp [transfer]) (Fits.refl _)

theorem Blk.tuple {id ar h' : Nat} (har : P.tuples[id]? = some ar) (hle : h = h' + ar) :
    Blk P caps n o [.tuple id] ⟨h, l, g⟩ [⟨h, l, g⟩] ⟨h' + 1, l, .none⟩ X :=
  Blk.single (b' := ⟨h - ar + 1, l, .none⟩) (by simp [transfer, har, hle]) (Fits.plain (by simp; omega) (Nat.le_refl _))

theorem Blk.rotate2 : Blk P caps n o [.rotate 2] ⟨h + 2, l, g⟩ [⟨h + 2, l, g⟩] ⟨h + 2, l, .none⟩ X :=
  Blk.single (by simp [transfer]) (Fits.refl _)

theorem Blk.pick {k : Nat} (hk : k < h) :
    Blk P caps n o [.pick k] ⟨h, l, g⟩ [⟨h, l, g⟩] ⟨h + 1, l, .none⟩ X :=
  Blk.single (by simp [transfer, hk]) (Fits.refl _)

theorem Blk.equal2 : Blk P caps n o [.equal 2] ⟨h + 2, l, g⟩ [⟨h + 2, l, g⟩] ⟨h + 1, l, .none⟩ X :=
  Blk.single (by simp [transfer]) (Fits.refl _)

theorem Blk.not : Blk P caps n o [.not] ⟨h + 1, l, .none⟩ [⟨h + 1, l, .none⟩] ⟨h + 1, l, .none⟩ X :=
  Blk.single (by simp [transfer]) (Fits.refl _)

theorem Blk.reset {k : Nat} (hk : k ≤ l) :
    Blk P caps n o [.reset k] ⟨h, l, g⟩ [⟨h, l, g⟩] ⟨h, k, .none⟩ X :=
  Blk.single (by simp [transfer, hk]) (Fits.refl _)

/-- `Duplicate` keeping what it knows: the two top cells are the same value -/
theorem Blk.duplicateG : Blk P caps n o [.duplicate] ⟨h + 1, l, .none⟩ [⟨h + 1, l, .none⟩] ⟨h + 2, l, .dup l⟩ X :=
  Blk.single (by simp [transfer]) (Fits.refl _)

theorem Blk.duplicateTop {k : Nat} :
    Blk P caps n o [.duplicate] ⟨h + 1, l, .top k⟩ [⟨h + 1, l, .top k⟩] ⟨h + 2, l, .dup (max k l)⟩ X :=
  Blk.single (by simp [transfer]) (Fits.refl _)

theorem Blk.notG {k : Nat} : Blk P caps n o [.not] ⟨h + 1, l, .dup k⟩ [⟨h + 1, l, .dup k⟩] ⟨h + 1, l, .neg k⟩ X :=
  Blk.single (by simp [transfer]) (Fits.refl _)

end Singles

theorem ne_isizeMax {off : Int} (h : off < 2 ^ 62) : off ≠ isizeMax := by
  unfold isizeMax; omega

theorem transfer_jump {P : Prog} {n caps pc t : Nat} {off : Int} {a : Ann}
    (ht : (pc : Int) + off + 1 = t) (htn : t ≤ n) (hoff : off < 2 ^ 62) :
    transfer P n caps pc a (.jump off) = .ok [(t, a)] := by
  have h1 : staticTarget pc off = (t : Int) := ht
  have h2 : (0 : Int) ≤ (t : Int) := by omega
  have h3 : (t : Int) ≤ (n : Int) := by omega
  simp [transfer, h1, h3, ne_isizeMax hoff]

theorem transfer_jumpIf {P : Prog} {n caps pc t : Nat} {off : Int} {h l : Nat} {g : Guard}
    (ht : (pc : Int) + off + 1 = t) (htn : t ≤ n) (hoff : off < 2 ^ 62) (hg : ∀ k, g ≠ .neg k) :
    transfer P n caps pc ⟨h + 1, l, g⟩ (.jumpIf off) =
      .ok [(t, ⟨h, l, .none⟩), (pc + 1, ⟨h, l, .none⟩)] := by
  have h1 : staticTarget pc off = (t : Int) := ht
  have h3 : (t : Int) ≤ (n : Int) := by omega
  cases g with
  | neg k => exact absurd rfl (hg k)
  | _ => simp [transfer, h1, h3, ne_isizeMax hoff]

theorem transfer_jumpIf_neg {P : Prog} {n caps pc t : Nat} {off : Int} {h l k : Nat}
    (ht : (pc : Int) + off + 1 = t) (htn : t ≤ n) (hoff : off < 2 ^ 62) :
    transfer P n caps pc ⟨h + 1, l, .neg k⟩ (.jumpIf off) =
      .ok [(t, ⟨h, l, .nilTop⟩), (pc + 1, ⟨h, max k l, .none⟩)] := by
  have h1 : staticTarget pc off = (t : Int) := ht
  have h3 : (t : Int) ≤ (n : Int) := by omega
  simp [transfer, h1, h3, ne_isizeMax hoff]

section Jumps
variable {P : Prog} {caps n o t : Nat} {off : Int} {X : List (Nat × Ann)} {h l : Nat}

/-- `Jump(→ t)`: no fall-through, so the block "ends" in any state -/
theorem Blk.jump {a b : Ann} (ht : (o : Int) + off + 1 = t) (htn : t ≤ n) (hoff : off < 2 ^ 62)
    (hne : t ≠ o) (hX : Exits X t a) : Blk P caps n o [.jump off] a [a] b X :=
  Blk.instr (transfer_jump ht htn hoff) fun s hs => by
    obtain rfl := List.mem_singleton.mp hs
    exact ⟨hne, .tail hX⟩

theorem Blk.jumpIf {g : Guard} (ht : (o : Int) + off + 1 = t) (htn : t ≤ n) (hoff : off < 2 ^ 62)
    (hg : ∀ k, g ≠ .neg k) (hne : t ≠ o) (hX : Exits X t ⟨h, l, .none⟩) :
    Blk P caps n o [.jumpIf off] ⟨h + 1, l, g⟩ [⟨h + 1, l, g⟩] ⟨h, l, .none⟩ X :=
  Blk.instr (transfer_jumpIf ht htn hoff hg) fun s hs => by
    rcases List.mem_cons.mp hs with rfl | hs
    · exact ⟨hne, .tail hX⟩
    · obtain rfl := List.mem_singleton.mp hs
      exact ⟨Nat.succ_ne_self o, .head (Fits.refl _)⟩

/-- `JumpIf` on the negation of a copy of the value: taken, the value is nil; not taken, it is
non-nil, and the locals its guard promised are there -/
theorem Blk.jumpIfNeg {k : Nat} (ht : (o : Int) + off + 1 = t) (htn : t ≤ n) (hoff : off < 2 ^ 62)
    (hne : t ≠ o) (hX : Exits X t ⟨h, l, .nilTop⟩) :
    Blk P caps n o [.jumpIf off] ⟨h + 1, l, .neg k⟩ [⟨h + 1, l, .neg k⟩] ⟨h, max k l, .none⟩ X :=
  Blk.instr (transfer_jumpIf_neg ht htn hoff) fun s hs => by
    rcases List.mem_cons.mp hs with rfl | hs
    · exact ⟨hne, .tail hX⟩
    · obtain rfl := List.mem_singleton.mp hs
      exact ⟨Nat.succ_ne_self o, .head (Fits.refl _)⟩

theorem Blk.jumpFwd {a b : Ann} {d : Nat} (hn : n < maxCode) (ht : o + d + 1 = t) (htn : t ≤ n)
    (hX : Exits X t a) : Blk P caps n o [.jump (d : Int)] a [a] b X := by
  unfold maxCode at hn
  exact Blk.jump (by omega) htn (by omega) (by omega) hX

theorem Blk.jumpIfFwd {g : Guard} {d : Nat} (hn : n < maxCode) (ht : o + d + 1 = t) (htn : t ≤ n)
    (hg : ∀ k, g ≠ .neg k) (hX : Exits X t ⟨h, l, .none⟩) :
    Blk P caps n o [.jumpIf (d : Int)] ⟨h + 1, l, g⟩ [⟨h + 1, l, g⟩] ⟨h, l, .none⟩ X := by
  unfold maxCode at hn
  exact Blk.jumpIf (by omega) htn (by omega) hg (by omega) hX

/-- `Duplicate, Not, JumpIf(→ t)`, the nil test of a sequence step or a branch condition, `t` lying `d`
instructions behind it. The exit annotation `max (max k l) l` is what `duplicateTop` and `jumpIfNeg` hand on, as it comes. -/
theorem nilTest_typed {k d : Nat} (hn : n < maxCode) (ht : o + 2 + d + 1 = t) (htn : t ≤ n)
    (hmem : Exits X t ⟨h + 1, l, .nilTop⟩)
    (hX : Outside X o [Instr.duplicate, .not, .jumpIf (d : Int)].length) :
    Typed P caps n o [.duplicate, .not, .jumpIf (d : Int)] ⟨h + 1, l, .top k⟩ ⟨h + 1, max (max k l) l, .none⟩ X := by
  unfold maxCode at hn
  exact .cons Blk.duplicateTop (.cons Blk.notG
    (Blk.jumpIfNeg (by omega) htn (by omega) (by omega) hmem).typed hX.tail) hX

end Jumps

/-- the fail jump of `compile_match` at `M + 1` lies before everything from template position 2 on -/
theorem Outside.failJump {M : Nat} {a : Ann} {o len : Nat} (ho : M + 2 ≤ o) : Outside [(M + 1, a)] o len :=
  .cons (Or.inl (by omega)) .nil

namespace F1
open QM.RefSem.C1

theorem slot_lt : ∀ (Γ : List String) (x : String) (i : Nat), slot Γ x = some i → i < Γ.length :=
  QM.RefSem.C1.slot_lt

section Pieces
variable {P : Prog} {caps n : Nat} {M h l : Nat}

/-- the literal test on a copy of the value (or of one of its fields): a failing test jumps back to `t` -/
theorem litTest_typed {o t c : Nat} {off : Int} {g : Guard} {X : List (Nat × Ann)}
    (hc : c < P.constants.size) (ht : (o : Int) + 3 + off + 1 = t) (hto : t < o) (hoff : off < 2 ^ 62)
    (hmem : Exits X t ⟨h + 1, l, .none⟩)
    (hX : Outside X o [Instr.constant c, .equal 2, .not, .jumpIf off].length) :
    Typed P caps n o [.constant c, .equal 2, .not, .jumpIf off] ⟨h + 2, l, g⟩ ⟨h + 1, l, .none⟩ X :=
  fun hle => Typed.cons (Blk.constant hc) (.cons Blk.equal2 (.cons Blk.not
    (Blk.jumpIf (g := .none) (by omega) (Nat.le_trans (Nat.le_of_lt hto) (Nat.le_trans (Nat.le_add_right _ _) hle)) hoff
      (fun _ h => nomatch h) (by omega) hmem).typed hX.tail.tail) hX.tail) hX hle

/-- test of a top-level literal: a failing test jumps back to the fail jump at `M + 1` -/
theorem testTop_typed (s : Sub) (q : Nat) (hq : 2 ≤ q) (hw : wfSub P s) :
    Typed P caps n (M + q) (testTop s q) ⟨h + 1, l, .none⟩ ⟨h + 1, l, .none⟩ [(M + 1, ⟨h + 1, l, .none⟩)] := by
  cases s with
  | bind x => exact .nil (Fits.refl _)
  | wild => exact .nil (Fits.refl _)
  | lit z c =>
    exact .cons Blk.duplicate (litTest_typed (Array.getElem?_eq_some_iff.mp hw).1 (by omega) (by omega)
      (by omega) (.head (Fits.refl _)) (.failJump (by omega))) (.failJump (Nat.add_le_add_left hq M))

theorem testsFields_typed : ∀ (subs : List Sub) (k q : Nat), 2 ≤ q → wfSubs P subs →
    Typed P caps n (M + q) (testsFields subs k q) ⟨h + 1, l, .none⟩ ⟨h + 1, l, .none⟩
      [(M + 1, ⟨h + 1, l, .none⟩)]
  | [], _, _, _, _ => .nil (Fits.refl _)
  | .bind _ :: r, k, q, hq, hw => testsFields_typed r (k + 1) q hq hw.2
  | .wild :: r, k, q, hq, hw => testsFields_typed r (k + 1) q hq hw.2
  | .lit z c :: r, k, q, hq, hw => by
    have hX := Nat.add_le_add_left hq M
    have h2 := testsFields_typed r (k + 1) (q + 6) (by omega) hw.2
    exact .seq (.cons Blk.duplicate (.cons Blk.get (litTest_typed (Array.getElem?_eq_some_iff.mp hw.1).1
      (by omega) (by omega) (by omega) (.head (Fits.refl _)) (.failJump (by omega))) (.failJump (by omega)))
      (.failJump hX)) (Nat.add_assoc M q 6 ▸ h2) (.failJump hX)

theorem bindTop_typed {o : Nat} (s : Sub) :
    Typed P caps n o (bindTop s) ⟨h + 1, l, .none⟩ ⟨h + 1, l + (subBinds s).length, .none⟩ [] := by
  cases s with
  | bind x => exact .cons Blk.duplicate Blk.store.typed .nil
  | wild => exact .nil (Fits.refl _)
  | lit z c => exact .nil (Fits.refl _)

theorem bindsCode_typed : ∀ (bs : List (String × Nat)) (o l : Nat),
    Typed P caps n o (bindsCode bs) ⟨h + 1, l, .none⟩ ⟨h + 1, l + bs.length, .none⟩ []
  | [], _, _ => .nil (Fits.refl _)
  | (_, _) :: r, _, l =>
    .seq (.cons Blk.duplicate (.cons Blk.get Blk.store.typed .nil) .nil)
      (Nat.add_right_comm l 1 r.length ▸ bindsCode_typed r _ (l + 1)) .nil

theorem nilFill_length : ∀ nb, (nilFill nb).length = 2 * nb
  | 0 => rfl
  | nb + 1 => by rw [nilFill, List.length_append, nilFill_length nb]; exact (Nat.add_comm ..).trans (Nat.mul_succ ..).symm

theorem nilFill_typed (h0 : P.tuples[0]? = some 0) : ∀ (nb o l : Nat),
    Typed P caps n o (nilFill nb) ⟨h + 1, l, .none⟩ ⟨h + 1, l + nb, .none⟩ []
  | 0, _, _ => .nil (Fits.refl _)
  | nb + 1, _, l =>
    .seq (.cons (Blk.tuple (h' := h + 1) h0 rfl) Blk.store.typed .nil)
      (Nat.add_right_comm l 1 nb ▸ nilFill_typed h0 nb _ (l + 1)) .nil

/-- The shape of compile_match's template: `Jump(1)` over the fail jump, the fail jump, the success
path `sc` (its failing tests jump BACK to the fail jump, its last instruction jumps to the end), the
failure path `fl`. Read as (the two jumps ++ `sc`) ++ `fl`: the fail jump leaves the first part
through its end, the failing tests re-enter it at `M + 1`. -/
theorem failJump_blk (hn : n < maxCode) {sc fl : List Instr} {a0 b : Ann} {off : Int} {As Af : List Ann}
    (hoff : off = sc.length)
    (hs : Blk P caps n (M + 2) sc a0 As a0 [(M + 1, a0), (M + 2 + sc.length + fl.length, b)])
    (hf : Blk P caps n (M + 2 + sc.length) fl a0 Af b []) (hle : M + 2 + sc.length + fl.length ≤ n) :
    ∃ A, Blk P caps n M (([.jump 1, .jump off] ++ sc) ++ fl) a0 A b [] := by
  subst hoff
  have hhead : Blk P caps n M [.jump 1, .jump (sc.length : Int)] a0 [a0, a0] a0 [(M + 2 + sc.length, a0)] :=
    (Blk.append (c1 := [.jump 1]) (X := [(M + 2, a0), (M + 2 + sc.length, a0)])
      (Blk.jumpFwd (d := 1) hn rfl (by omega) (.head (Fits.refl _)))
      (Blk.jumpFwd (o := M + 1) hn (by omega) (by omega) (.tail (.head (Fits.refl _))))
      (.cons (Or.inr (Nat.le_refl _)) (.cons (Or.inr (Nat.le_add_right (M + 2) _)) .nil))).absorb
  have hpos : M + ([Instr.jump 1, .jump (sc.length : Int)] ++ sc).length = M + 2 + sc.length := by
    rw [List.length_append, ← Nat.add_assoc]
    rfl
  have hl : M + ([a0, a0] ++ As).length = M + 2 + sc.length := by
    rw [List.length_append, hs.seg.len, ← Nat.add_assoc]
    rfl
  have hend : M + (([Instr.jump 1, .jump (sc.length : Int)] ++ sc) ++ fl).length =
      M + 2 + sc.length + fl.length := by
    rw [List.length_append, ← Nat.add_assoc, hpos]
  have hbody := Blk.link (X := [(M + 2 + sc.length + fl.length, b)]) hhead hs
    (.cons (Or.inr ⟨fun hin => Nat.lt_irrefl _ (hl ▸ hin.2), _, List.mem_cons_self, hpos.symm, Fits.refl _⟩) .nil)
    (.cons (Or.inl (Hit.left (Hit.right (A1 := [a0]) (Hit.head (Fits.refl _)))))
      (.cons (Or.inr ⟨fun hin => by have := hl ▸ hin.2; omega, .tail (.head (Fits.refl _))⟩) .nil))
  have hall := hbody.append ((hf.weaken fun _ he => nomatch he).at hpos.symm)
    (.cons (Or.inr (Nat.le_of_eq hend)) .nil)
  rw [← hend] at hall
  exact ⟨_, hall.absorb⟩

/-- compile_match's template: the fail jump at `M + 1` (target of every failing test) leads to the
nil fill, which stores as many nils as the success path stores bindings — both paths reach the end
with the same locals. -/
theorem matchCode_typed (hn : n < maxCode) (hP : wfProg P) {tests binds : List Instr} {nb : Nat}
    (ht : Typed P caps n (M + 2) tests ⟨h + 1, l, .none⟩ ⟨h + 1, l, .none⟩ [(M + 1, ⟨h + 1, l, .none⟩)])
    (hb : Typed P caps n (M + 2 + tests.length) binds ⟨h + 1, l, .none⟩ ⟨h + 1, l + nb, .none⟩ []) :
    Typed P caps n M (matchCode tests binds nb) ⟨h + 1, l, .none⟩ ⟨h + 1, l + nb, .none⟩ [] := by
  have hcode : matchCode tests binds nb =
      ([.jump 1, .jump ((tests.length + binds.length + 3 : Nat) : Int)] ++
        (tests ++ (binds ++ [.pop, .tuple 1, .jump ((2 * nb + 2 : Nat) : Int)]))) ++
      (nilFill nb ++ [.pop, .tuple 0]) := by
    simp [matchCode]
  rw [hcode]
  intro hle
  simp only [List.length_append, List.length_cons, List.length_nil, nilFill_length] at hle
  have hsl : (tests ++ (binds ++ [Instr.pop, .tuple 1, .jump ((2 * nb + 2 : Nat) : Int)])).length =
      tests.length + binds.length + 3 := by
    simp only [List.length_append, List.length_cons, List.length_nil]
    omega
  have hfl : (nilFill nb ++ [Instr.pop, .tuple 0]).length = 2 * nb + 2 := by
    simp only [List.length_append, List.length_cons, List.length_nil, nilFill_length]
  have hXs : Outside [(M + 1, (⟨h + 1, l, .none⟩ : Ann)), (M + 2 +
      (tests ++ (binds ++ [Instr.pop, .tuple 1, .jump ((2 * nb + 2 : Nat) : Int)])).length +
      (nilFill nb ++ [Instr.pop, .tuple 0]).length, ⟨h + 1, l + nb, .none⟩)] (M + 2)
      (tests ++ (binds ++ [Instr.pop, .tuple 1, .jump ((2 * nb + 2 : Nat) : Int)])).length :=
    .cons (Or.inl (by omega)) (.cons (Or.inr (Nat.le_add_right _ _)) .nil)
  have hXm := hXs.right.right
  obtain ⟨As, hs⟩ := Typed.seq (ht.weaken fun _ he => List.mem_singleton.mp he ▸ List.mem_cons_self)
    (Typed.seq hb.lift (.cons Blk.pop (.cons (Blk.tuple (h' := h) hP.2 rfl)
      (Blk.jumpFwd (b := ⟨h + 1, l, .none⟩) hn (by omega) (by omega)
        (.tail (.head (Fits.refl _)))).typed hXm.tail) hXm) hXs.right) hXs (by omega)
  obtain ⟨Af, hf⟩ := Typed.seq (nilFill_typed (caps := caps) (n := n) (h := h) hP.1 nb
      (M + 2 + (tests ++ (binds ++ [Instr.pop, .tuple 1, .jump ((2 * nb + 2 : Nat) : Int)])).length) l)
    (.cons Blk.pop (Blk.tuple (h' := h) hP.1 rfl).typed .nil) .nil (by omega)
  exact failJump_blk hn (by rw [hsl]) hs hf (by omega)

theorem compilePat_typed (hn : n < maxCode) (hP : wfProg P) (p : Pat1) (hw : wfPat P p) :
    Typed P caps n M (compilePat p) ⟨h + 1, l, .none⟩ ⟨h + 1, l + (patBinds p).length, .none⟩ [] := by
  cases p with
  | top s => exact matchCode_typed hn hP (testTop_typed s 2 (Nat.le_refl _) hw) (bindTop_typed s)
  | tup subs =>
    show Typed P caps n M (matchCode _ _ (subsBinds subs).length) _ ⟨h + 1, l + (subsBinds subs).length, .none⟩ []
    rw [subsBinds, List.length_map]
    exact matchCode_typed hn hP (testsFields_typed subs 0 2 (Nat.le_refl _) hw) (bindsCode_typed _ _ l)

theorem compilePat_blk (hn : n < maxCode) (hP : wfProg P) (p : Pat1) (hw : wfPat P p)
    (hle : M + (compilePat p).length ≤ n) :
    ∃ A, Blk P caps n M (compilePat p) ⟨h + 1, l, .none⟩ A ⟨h + 1, l + (patBinds p).length, .none⟩ [] :=
  compilePat_typed hn hP p hw hle

end Pieces

section Constructs
variable {P : Prog} {caps n o h l : Nat}

theorem int_typed {i : Nat} {v : Const} (hw : P.constants[i]? = some v) :
    Typed P caps n o [.pop, .constant i] ⟨h + 1, l, .none⟩ ⟨h + 1, l, .none⟩ [] :=
  .cons Blk.pop (Blk.constant (Array.getElem?_eq_some_iff.mp hw).1).typed .nil

theorem var_typed {Γ : List String} {x : String} (hs : ∃ i, slot Γ x = some i) :
    Typed P caps n o [.pop, .load ((slot Γ x).getD 0)] ⟨h + 1, Γ.length, .none⟩ ⟨h + 1, Γ.length, .none⟩ [] := by
  obtain ⟨i, hi⟩ := hs
  rw [hi]
  exact .cons Blk.pop (Blk.load (slot_lt Γ x i hi)).typed .nil

/-- a tuple literal: the `k` field values above the flowing value become the tuple, which replaces it -/
theorem tup_typed {id k l' : Nat} {fs : List Instr} (hid : P.tuples[id]? = some k)
    (hfs : Typed P caps n o fs ⟨h + 1 + 0, l, .none⟩ ⟨h + 1 + 0 + k, l', .none⟩ []) :
    Typed P caps n o (fs ++ [.tuple id, .rotate 2, .pop]) ⟨h + 1, l, .none⟩ ⟨h + 1, l', .none⟩ [] :=
  .seq hfs (.cons (Blk.tuple (h' := h + 1) hid rfl) (.cons Blk.rotate2 Blk.pop.typed .nil) .nil) .nil

theorem mtch_typed (hn : n < maxCode) (hP : wfProg P) {Γ : List String} {p : Pat1} (hw : wfPat P p) :
    Typed P caps n o (compilePat p) ⟨h + 1, Γ.length, .none⟩ ⟨h + 1, (Γ ++ patBinds p).length, .none⟩ [] :=
  List.length_append ▸ compilePat_typed hn hP p hw

/-- one more field of a tuple literal: `Pick k` copies the flowing value from under the `k` field
values already there, the field's chain turns the copy into the field value -/
theorem fsCons_typed {k m l1 l2 : Nat} {c r : List Instr}
    (h1 : Typed P caps n (o + [Instr.pick k].length) c ⟨h + 1 + k + 1, l, .none⟩ ⟨h + 1 + k + 1, l1, .none⟩ [])
    (h2 : Typed P caps n (o + ([Instr.pick k] ++ c).length) r ⟨h + 1 + (k + 1), l1, .none⟩
      ⟨h + 1 + (k + 1) + m, l2, .none⟩ []) :
    Typed P caps n o ([.pick k] ++ c ++ r) ⟨h + 1 + k, l, .none⟩ ⟨h + 1 + k + (m + 1), l2, .none⟩ [] :=
  have e : h + 1 + (k + 1) + m = h + 1 + k + (m + 1) := by omega
  .seq (.seq (Blk.pick (Nat.lt_add_of_pos_left (Nat.succ_pos h))).typed h1 .nil) (e ▸ h2) .nil

/-- a one-step sequence: nothing is short-circuited, all its locals are there -/
theorem sqLast_typed {c : List Instr} {l0 l1 : Nat}
    (h1 : Typed P caps n o c ⟨h + 1, l, .none⟩ ⟨h + 1, l1, .none⟩ []) (hl : l0 ≤ l1) :
    Typed P caps n o c ⟨h + 1, l, .none⟩ ⟨h + 1, l0, .top l1⟩ [] :=
  h1.exit ⟨rfl, hl, by rw [guardFlows_iff]; exact Or.inr (Nat.le_refl _)⟩

/-- A sequence `c, r`: the step `c` is followed by `Duplicate, Not, JumpIf(→ end)`. The short-circuit
leaves with the value — known to be nil — on top and only the locals of the steps that ran; the
full path leaves with all the sequence's locals. Hence the exit annotation: at least `l0` locals
(any `l0` up to the locals at the start), and **if the value is non-nil, all of them** — which is
what a branch consequence compiled under the condition's bindings needs. -/
theorem sqCons_typed (hn : n < maxCode) {c r : List Instr} {l0 l1 g : Nat}
    (h1 : Typed P caps n o c ⟨h + 1, l, .none⟩ ⟨h + 1, l1, .none⟩ [])
    (h2 : Typed P caps n (o + c.length + [Instr.duplicate, .not, .jumpIf (r.length : Int)].length) r
      ⟨h + 1, l1, .none⟩ ⟨h + 1, l0, .top g⟩ [])
    (hl : l0 ≤ l1) :
    Typed P caps n o (c ++ ([.duplicate, .not, .jumpIf (r.length : Int)] ++ r)) ⟨h + 1, l, .none⟩
      ⟨h + 1, l0, .top g⟩ [] := by
  intro hle
  unfold maxCode at hn
  have hlen : o + (c ++ ([Instr.duplicate, .not, .jumpIf (r.length : Int)] ++ r)).length =
      o + c.length + 3 + r.length := by
    simp only [List.length_append, List.length_cons, List.length_nil]
    omega
  have hX : Outside [(o + (c ++ ([Instr.duplicate, .not, .jumpIf (r.length : Int)] ++ r)).length,
      (⟨h + 1, l0, .top g⟩ : Ann))] o (c ++ ([Instr.duplicate, .not, .jumpIf (r.length : Int)] ++ r)).length :=
    .cons (Or.inr (Nat.le_refl _)) .nil
  -- the taken side of the `JumpIf` knows the value is nil
  have hj := (nilTest_typed (P := P) (caps := caps) (h := h) (k := l1) (l := l1)
    (t := o + c.length + 3 + r.length) hn (by omega) (by omega)
    (hlen ▸ .head ⟨rfl, hl, by rw [guardFlows_iff]; exact Or.inl rfl⟩) hX.right.left).enter
      (a' := ⟨h + 1, l1, .none⟩) ⟨rfl, Nat.le_refl _, by rw [guardFlows_iff]; exact Or.inr (Nat.le_refl _)⟩
  exact ((h1.lift.seq (hj.seq (h2.lift.enter (Fits.plain rfl (Nat.le_max_right _ _))) hX.right) hX).absorb) hle

end Constructs

mutual
  /-- scoping: every variable read has a slot -/
  def scT (Γ : List String) : T1 → Prop
    | .var x => ∃ i, slot Γ x = some i
    | .tup _ fs => scFs Γ fs
    | _ => True
  def scCh (Γ : List String) : Ch1 → Prop
    | .nil => True
    | .cons t r => scT Γ t ∧ scCh (compileT Γ t).2 r
  def scFs (Γ : List String) : Fs1 → Prop
    | .nil => True
    | .cons c r => scCh Γ c ∧ scFs (compileCh Γ c).2 r
end

def scSq (Γ : List String) : Sq1 → Prop
  | .last c => scCh Γ c
  | .cons c r => scCh Γ c ∧ scSq (compileCh Γ c).2 r

mutual
theorem compileT_len : (t : T1) → (Γ : List String) → Γ.length ≤ (compileT Γ t).2.length
  | .int _ _, _ | .ripple, _ | .var _, _ => Nat.le_refl _
  | .tup _ fs, Γ => compileFs_len fs Γ 0
  | .mtch _, _ => List.length_append ▸ Nat.le_add_right _ _
theorem compileCh_len : (c : Ch1) → (Γ : List String) → Γ.length ≤ (compileCh Γ c).2.length
  | .nil, _ => Nat.le_refl _
  | .cons t r, Γ => Nat.le_trans (compileT_len t Γ) (compileCh_len r _)
theorem compileFs_len : (fs : Fs1) → (Γ : List String) → (k : Nat) → Γ.length ≤ (compileFs Γ fs k).2.length
  | .nil, _, _ => Nat.le_refl _
  | .cons c r, Γ, k => Nat.le_trans (compileCh_len c Γ) (compileFs_len r _ (k + 1))
end

theorem compileSq_len : (sq : Sq1) → (Γ : List String) → Γ.length ≤ (compileSq Γ sq).2.length
  | .last c, Γ => compileCh_len c Γ
  | .cons c r, Γ => Nat.le_trans (compileCh_len c Γ) (compileSq_len r _)

section Compile
variable {P : Prog} {caps n : Nat} (hn : n < maxCode) (hP : wfProg P)
include hn hP
set_option linter.unusedSectionVars false

mutual
/-- A term: the flowing value is on top (height `h + 1`); the annotated locals are the compile-time
locals on entry (`Γ.length`) and on exit (`(compileT Γ t).2.length`) — lower bounds on the frame's
(`Fits`). -/
theorem compileT_blk : (t : T1) → (Γ : List String) → (o h : Nat) → wfT P t → scT Γ t →
    o + (compileT Γ t).1.length ≤ n →
    ∃ A, Blk P caps n o (compileT Γ t).1 ⟨h + 1, Γ.length, .none⟩ A
      ⟨h + 1, (compileT Γ t).2.length, .none⟩ []
  | .int _ _, _, _, _, hw, _ => int_typed hw
  | .ripple, _, _, _, _, _ => Typed.nil (Fits.refl _)
  | .tup _ fs, Γ, o, h, hw, hs => tup_typed hw.1 (compileFs_blk fs Γ 0 o h hw.2 hs)
  | .var _, _, _, _, _, hs => var_typed hs
  | .mtch _, _, _, _, hw, _ => mtch_typed hn hP hw
theorem compileCh_blk : (c : Ch1) → (Γ : List String) → (o h : Nat) → wfCh P c → scCh Γ c →
    o + (compileCh Γ c).1.length ≤ n →
    ∃ A, Blk P caps n o (compileCh Γ c).1 ⟨h + 1, Γ.length, .none⟩ A
      ⟨h + 1, (compileCh Γ c).2.length, .none⟩ []
  | .nil, _, _, _, _, _ => Typed.nil (Fits.refl _)
  | .cons t r, Γ, o, h, hw, hs =>
    Typed.seq (compileT_blk t Γ o h hw.1 hs.1) (compileCh_blk r _ _ h hw.2 hs.2) .nil
/-- The fields of a tuple literal: `k` field values lie above the flowing value already. -/
theorem compileFs_blk : (fs : Fs1) → (Γ : List String) → (k o h : Nat) → wfFs P fs → scFs Γ fs →
    o + (compileFs Γ fs k).1.length ≤ n →
    ∃ A, Blk P caps n o (compileFs Γ fs k).1 ⟨h + 1 + k, Γ.length, .none⟩ A
      ⟨h + 1 + k + fs.length, (compileFs Γ fs k).2.length, .none⟩ []
  | .nil, _, _, _, _, _, _ => Typed.nil (Fits.refl _)
  | .cons c r, Γ, k, _, h, hw, hs =>
    fsCons_typed (compileCh_blk c Γ _ (h + 1 + k) hw.1 hs.1) (compileFs_blk r _ (k + 1) _ h hw.2 hs.2)
end

theorem compileSq_blk : (sq : Sq1) → (Γ : List String) → (o h l0 : Nat) → wfSq P sq → scSq Γ sq →
    l0 ≤ Γ.length → Typed P caps n o (compileSq Γ sq).1 ⟨h + 1, Γ.length, .none⟩
      ⟨h + 1, l0, .top (compileSq Γ sq).2.length⟩ []
  | .last c, Γ, o, h, l0, hw, hs, hl0 =>
    sqLast_typed (compileCh_blk hn hP c Γ o h hw hs) (Nat.le_trans hl0 (compileCh_len c Γ))
  | .cons c r, Γ, o, h, l0, hw, hs, hl0 => by
    have hl := Nat.le_trans hl0 (compileCh_len c Γ)
    show Typed P caps n o (_ ++ _ ++ _) _ _ _
    rw [List.append_assoc]
    exact sqCons_typed hn (compileCh_blk hn hP c Γ o h hw.1 hs.1) (compileSq_blk r _ _ h l0 hw.2 hs.2 hl) hl

end Compile

/-- **Every function the fragment-1 compiler emits is accepted by the verified checker**: for every
sequence `sq` of the fragment (well-formed against the program's tables, every variable read in
scope of the `Γ.length` captures or of an earlier binding), the function whose code is
`compileSq Γ sq` passes `checkFn` with some annotation. -/
theorem compileSq_checkFn {P : Prog} (hP : wfProg P) (Γ : List String) (sq : Sq1) (tid : Nat)
    (hw : wfSq P sq) (hs : scSq Γ sq) (hsmall : (compileSq Γ sq).1.length < maxCode) :
    ∃ anns, checkFn P { instructions := (compileSq Γ sq).1.toArray, captures := Γ.length, typeId := tid } anns = true :=
  checkFn_of_typed tid (compileSq_blk hsmall hP sq Γ 0 0 Γ.length hw hs (Nat.le_refl _)) rfl hsmall

/-- A program all of whose functions are compiled fragment-1 sequences. -/
def Frag1Prog (P : Prog) : Prop :=
  wfProg P ∧ ∀ (f : Nat) (fn : Function), P.functions[f]? = some fn →
    ∃ (Γ : List String) (sq : Sq1), fn.instructions = (compileSq Γ sq).1.toArray ∧ fn.captures = Γ.length ∧
      wfSq P sq ∧ scSq Γ sq ∧ (compileSq Γ sq).1.length < maxCode

theorem frag1_allChecked {P : Prog} (h : Frag1Prog P) : ∃ A, AllChecked P A :=
  allChecked_of_checkFn fun f fn hf =>
    let ⟨Γ, sq, hi, hc, hw, hs, hsmall⟩ := h.2 f fn hf
    checkFn_of_eq hi hc (compileSq_checkFn h.1 Γ sq _ hw hs hsmall)

/-- **No program of fragment 1 ever fails structurally**, from any entry state, under any
well-formed events, after any number of transitions — by `checkAnn_sound`. -/
theorem frag1_no_structural_failure {P : Prog} (h : Frag1Prog P) (s0 : Nat) (p0 p : Proc)
    (h0 : EntryWF P s0 p0) (hr : ReachWF P p0 p) :
    (∃ A, Inv P A s0 p) ∧
    ∀ ev, EventWF P ev → ∀ e, transition P p ev = some (.error e) → e.isStructural = false :=
  no_structural_failure_of_allChecked (frag1_allChecked h) s0 p0 p h0 hr

/-! ### Example: the hypotheses are satisfiable -/

/-- `[~, 5] =[x, 5], x` -/
def exSq : Sq1 :=
  .cons (.cons (.tup 2 (.cons (.cons .ripple .nil) (.cons (.cons (.int 5 0) .nil) .nil)))
          (.cons (.mtch (.tup [.bind "x", .lit 5 0])) .nil))
    (.last (.cons (.var "x") .nil))

def exP : Prog :=
  { constants := #[.int 5], functions := #[⟨(compileSq [] exSq).1.toArray, 0, 0⟩], tuples := #[0, 0, 2],
    types := 0, builtins := 0 }

example : (compileSq [] exSq).1 =
    [.pick 0, .pick 1, .pop, .constant 0, .tuple 2, .rotate 2, .pop,
     .jump 1, .jump 12, .duplicate, .get 1, .constant 0, .equal 2, .not, .jumpIf (-7),
     .duplicate, .get 0, .store, .pop, .tuple 1, .jump 4, .tuple 0, .store, .pop, .tuple 0,
     .duplicate, .not, .jumpIf 2, .pop, .load 0] := by decide +kernel

example : Frag1Prog exP := by
  refine ⟨⟨rfl, rfl⟩, ?_⟩
  intro f fn hf
  have hf0 : f = 0 := by
    have := (Array.getElem?_eq_some_iff.mp hf).1
    simp [exP] at this; omega
  subst hf0
  have hfn : fn = ⟨(compileSq [] exSq).1.toArray, 0, 0⟩ := by simpa [exP] using hf.symm
  subst hfn
  refine ⟨[], exSq, rfl, rfl, ?_, ?_, by decide +kernel⟩
  · simp [exSq, wfSq, wfCh, wfT, wfFs, wfPat, wfSubs, wfSub, Fs1.length, exP]
  · simp only [exSq, scSq, scCh, scT, scFs, and_true, true_and]
    exact ⟨0, by decide +kernel⟩

/-- The annotations the harness infers for it pass as well. -/
example : checkAnn exP 0 (inferAnn exP 0) = true := by decide +kernel

end F1

end QM.C07Frag
