import QuiverModel.Theorems.C02Loc
import QuiverModel.Theorems.C02Up
/-
C02 (compiler correctness), on C02Loc — the induction over the syntax for the richest fragment (Compile5: value
flow, locals, bindings, simple matches, blocks, function literals, calls, `^`, builtin calls, `^x`), for ANY run
relation `R` over one function's code that has the steps the constructs need (`Machine`). C02Loc1, C02Blk, C02Call,
C02Tail and C02TailN instantiate it.

The fragments of Compile1 … Compile4 are this one without some constructs: their programs embed into
Compile5's syntax, their compilers and meanings agree with Compile5's on the embedded programs (C02Up), and their own
run relations (`ARunsL`, `ARunsC`, `ARunsX`) are machines of a lower level `lvl` — one that offers the steps of
the constructs up to that level only. `lvT … lvBrs` (C02Up) is the level a term needs.
-/
open QM.VM QM.RefSem.C5
open QM.RefSem.C1 (slot patBinds wfProg)
open QM.RefSem.C2 (resetIf)
open C02L (St OracleIntEq Located.tail Located.le_size located_cons lt_of_fetch)

namespace C02N

mutual
  /-- number of binders a term adds to the enclosing scope -/
  def nbT : T4 → Nat
    | .tup _ fs => nbFs fs
    | .mtch p => (patBinds p).length
    | _ => 0
  def nbCh : Ch4 → Nat
    | .nil => 0
    | .cons t r => nbT t + nbCh r
  def nbFs : Fs4 → Nat
    | .nil => 0
    | .cons c r => nbCh c + nbFs r
  def nbSq : Sq4 → Nat
    | .last c => nbCh c
    | .cons c r => nbCh c + nbSq r
end

mutual
  theorem compileT_len : (t : T4) → (Γ : List String) → (compileT Γ t).2.length = Γ.length + nbT t
    | .int _ _, Γ => by simp [compileT, nbT]
    | .ripple, Γ => by simp [compileT, nbT]
    | .tup _ fs, Γ => by simp [compileT, nbT, compileFs_len fs Γ 0]
    | .var _, Γ => by simp [compileT, nbT]
    | .mtch p, Γ => by simp [compileT, nbT]
    | .block _, Γ => by simp [compileT, nbT]
    | .fnlit _ _, Γ => by simp [compileT, nbT]
    | .call _, Γ => by simp [compileT, nbT]
    | .callNil _, Γ => by simp [compileT, nbT]
    | .tailSelf, Γ => by simp [compileT, nbT]
    | .bcall _, Γ => by simp [compileT, nbT]
    | .tailNamed _, Γ => by simp [compileT, nbT]
  theorem compileCh_len : (c : Ch4) → (Γ : List String) → (compileCh Γ c).2.length = Γ.length + nbCh c
    | .nil, Γ => by simp [compileCh, nbCh]
    | .cons t r, Γ => by
      simp only [compileCh, nbCh]
      rw [compileCh_len r, compileT_len t]
      omega
  theorem compileFs_len : (fs : Fs4) → (Γ : List String) → (k : Nat) →
      (compileFs Γ fs k).2.length = Γ.length + nbFs fs
    | .nil, Γ, k => by simp [compileFs, nbFs]
    | .cons c r, Γ, k => by
      simp only [compileFs, nbFs]
      rw [compileFs_len r, compileCh_len c]
      omega
  theorem compileSq_len : (sq : Sq4) → (Γ : List String) → (compileSq Γ sq).2.length = Γ.length + nbSq sq
    | .last c, Γ => by simp [compileSq, nbSq, compileCh_len c Γ]
    | .cons c r, Γ => by
      simp only [compileSq, nbSq]
      rw [compileSq_len r, compileCh_len c]
      omega
end

theorem ext_nil {L L' : List Val} (h : L = L') : ∃ ext, L' = L ++ ext ∧ ext.length = 0 :=
  ⟨[], by rw [h, List.append_nil], rfl⟩

mutual
  theorem evalT_ext (cs : Sem) : (t : T4) → (Γ : List String) → (L : List Val) → (flow v : Val) → (L' : List Val) →
      evalT cs Γ L flow t = some (.norm v L') → ∃ ext, L' = L ++ ext ∧ ext.length = nbT t
    | .int _ _ => fun Γ L flow v L' h => by
      simp only [evalT, Option.some.injEq, Out.norm.injEq] at h
      exact ext_nil h.2
    | .ripple => fun Γ L flow v L' h => by
      simp only [evalT, Option.some.injEq, Out.norm.injEq] at h
      exact ext_nil h.2
    | .tup _ fs => fun Γ L flow v L' h => by
      simp only [evalT, Option.map_eq_some_iff] at h
      obtain ⟨⟨vs, L''⟩, hfs, hv⟩ := h
      simp only [Out.norm.injEq] at hv
      obtain ⟨_, rfl⟩ := hv
      simpa [nbT] using evalFs_ext cs fs Γ L flow vs L'' hfs
    | .var _ => fun Γ L flow v L' h => by
      simp only [evalT, Option.bind_eq_some_iff, Option.map_eq_some_iff] at h
      obtain ⟨i, _, w, _, hv⟩ := h
      simp only [Out.norm.injEq] at hv
      exact ext_nil hv.2
    | .mtch p => fun Γ L flow v L' h => by
      simp only [evalT, Option.map_eq_some_iff] at h
      obtain ⟨⟨w, bound⟩, hp, hv⟩ := h
      simp only [Out.norm.injEq] at hv
      obtain ⟨_, rfl⟩ := hv
      exact ⟨bound, rfl, by simpa [nbT] using C02L.evalPat_length flow p w bound hp⟩
    | .block _ => fun Γ L flow v L' h => by
      simp only [evalT, Option.map_eq_some_iff] at h
      obtain ⟨o, _, hv⟩ := h
      cases o with
      | norm w Lw =>
        simp only [Out.norm.injEq] at hv
        exact ext_nil hv.2
      | exit res => simp at hv
    | .fnlit _ _ => fun Γ L flow v L' h => by
      simp only [evalT, Option.map_eq_some_iff] at h
      obtain ⟨w, _, hv⟩ := h
      simp only [Out.norm.injEq] at hv
      exact ext_nil hv.2
    | .call _ => fun Γ L flow v L' h => by
      simp only [evalT, Option.bind_eq_some_iff, Option.map_eq_some_iff] at h
      obtain ⟨i, _, fv, _, res, _, hv⟩ := h
      simp only [Out.norm.injEq] at hv
      exact ext_nil hv.2
    | .callNil _ => fun Γ L flow v L' h => by
      simp only [evalT, Option.bind_eq_some_iff, Option.map_eq_some_iff] at h
      obtain ⟨i, _, fv, _, res, _, hv⟩ := h
      simp only [Out.norm.injEq] at hv
      exact ext_nil hv.2
    | .tailSelf => fun Γ L flow v L' h => by
      simp only [evalT, Option.bind_eq_some_iff, Option.map_eq_some_iff] at h
      obtain ⟨sv, _, res, _, hv⟩ := h
      simp at hv
    | .bcall _ => fun Γ L flow v L' h => by
      simp only [evalT, Option.map_eq_some_iff] at h
      obtain ⟨w, _, hv⟩ := h
      simp only [Out.norm.injEq] at hv
      exact ext_nil hv.2
    | .tailNamed _ => fun Γ L flow v L' h => by
      simp only [evalT, Option.bind_eq_some_iff, Option.map_eq_some_iff] at h
      obtain ⟨i, _, fv, _, res, _, hv⟩ := h
      simp at hv
  theorem evalCh_ext (cs : Sem) : (c : Ch4) → (Γ : List String) → (L : List Val) → (flow v : Val) → (L' : List Val) →
      evalCh cs Γ L flow c = some (.norm v L') → ∃ ext, L' = L ++ ext ∧ ext.length = nbCh c
    | .nil => fun Γ L flow v L' h => by
      simp only [evalCh, Option.some.injEq, Out.norm.injEq] at h
      exact ext_nil h.2
    | .cons t r => fun Γ L flow v L' h => by
      simp only [evalCh, Option.bind_eq_some_iff] at h
      obtain ⟨o, ht, hr⟩ := h
      cases o with
      | norm v₁ L₁ =>
        simp only at hr
        obtain ⟨e₁, rfl, l₁⟩ := evalT_ext cs t Γ L flow v₁ L₁ ht
        obtain ⟨e₂, rfl, l₂⟩ := evalCh_ext cs r _ _ _ v L' hr
        exact ⟨e₁ ++ e₂, by simp, by simp [nbCh, l₁, l₂]⟩
      | exit res => simp at hr
  theorem evalFs_ext (cs : Sem) : (fs : Fs4) → (Γ : List String) → (L : List Val) → (flow : Val) → (vs L' : List Val) →
      evalFs cs Γ L flow fs = some (vs, L') → ∃ ext, L' = L ++ ext ∧ ext.length = nbFs fs
    | .nil => fun Γ L flow vs L' h => by
      simp only [evalFs, Option.some.injEq, Prod.mk.injEq] at h
      exact ext_nil h.2
    | .cons c r => fun Γ L flow vs L' h => by
      simp only [evalFs, Option.bind_eq_some_iff] at h
      obtain ⟨o, hc, hr⟩ := h
      cases o with
      | norm v₁ L₁ =>
        simp only [Option.map_eq_some_iff, Prod.mk.injEq] at hr
        obtain ⟨⟨vs₂, L₂⟩, hr, _, rfl⟩ := hr
        obtain ⟨e₁, rfl, l₁⟩ := evalCh_ext cs c Γ L flow v₁ L₁ hc
        obtain ⟨e₂, rfl, l₂⟩ := evalFs_ext cs r _ _ _ vs₂ L₂ hr
        exact ⟨e₁ ++ e₂, by simp, by simp [nbFs, l₁, l₂]⟩
      | exit res => simp at hr
  theorem evalSq_ext (cs : Sem) : (sq : Sq4) → (Γ : List String) → (L : List Val) → (flow v : Val) → (L' : List Val) →
      evalSq cs Γ L flow sq = some (.norm v L') →
      ∃ ext, L' = L ++ ext ∧ ext.length ≤ nbSq sq ∧ (v.isNil = false → ext.length = nbSq sq)
    | .last c => fun Γ L flow v L' h => by
      simp only [evalSq] at h
      obtain ⟨e, rfl, l⟩ := evalCh_ext cs c Γ L flow v L' h
      exact ⟨e, rfl, by simp [nbSq, l], fun _ => by simp [nbSq, l]⟩
    | .cons c r => fun Γ L flow v L' h => by
      simp only [evalSq, Option.bind_eq_some_iff] at h
      obtain ⟨o, hc, hr⟩ := h
      cases o with
      | norm v₁ L₁ =>
        simp only at hr
        obtain ⟨e₁, rfl, l₁⟩ := evalCh_ext cs c Γ L flow v₁ L₁ hc
        by_cases hv : v₁.isNil = true
        · simp only [hv, if_true, Option.some.injEq, Out.norm.injEq] at hr
          obtain ⟨rfl, rfl⟩ := hr
          exact ⟨e₁, rfl, by simp [nbSq, l₁], fun h => by rw [hv] at h; cases h⟩
        · have hv' : v₁.isNil = false := by simpa using hv
          simp only [hv', Bool.false_eq_true, if_false] at hr
          obtain ⟨e₂, rfl, l₂, l₃⟩ := evalSq_ext cs r _ _ _ v L' hr
          exact ⟨e₁ ++ e₂, by simp, by simp [nbSq, l₁]; omega, fun h => by simp [nbSq, l₁, l₃ h]⟩
      | exit res => simp at hr
end

theorem compileBrs_isNil (Γp : List String) (n k : Nat) (first : Bool) (bs : Brs4) (h : bs.isNil = true) :
    compileBrs Γp n bs k first = ([], []) := by
  cases bs with
  | nil => simp [compileBrs]
  | cons a b c => simp [Brs4.isNil] at h

/-- where a construct's run ends: at the end of its code, or — a `^` was taken — at the end of the
function's code with the locals cut back to the captures -/
def Target (code : Array Instr) (nc pcEnd : Nat) (rest L : List Val) : Out → St
  | .norm v L' => (pcEnd, v :: rest, L')
  | .exit res => (code.size, res :: rest, L.take nc)

theorem Target_ext (code : Array Instr) (nc pcEnd : Nat) (rest L e : List Val) (out : Out) (h : nc ≤ L.length) :
    Target code nc pcEnd rest (L ++ e) out = Target code nc pcEnd rest L out := by
  cases out with
  | norm v L' => rfl
  | exit res => simp [Target, List.take_append_of_le_length h]

/-- the function `^` re-enters is the one whose code runs, over the captures in the frame's first locals -/
def SelfOK (cs : Sem) (fi nc : Nat) (L : List Val) : Prop :=
  ∀ sv, cs.self = some sv → sv = .fn fi (ValList.ofList (L.take nc))

theorem SelfOK.ext {cs : Sem} {fi nc : Nat} {L : List Val} (h : SelfOK cs fi nc L) (hnc : nc ≤ L.length)
    (e : List Val) : SelfOK cs fi nc (L ++ e) := by
  intro sv hs
  rw [List.take_append_of_le_length hnc]
  exact h sv hs

theorem le_length_append {n : Nat} {L : List Val} (h : n ≤ L.length) (e : List Val) : n ≤ (L ++ e).length := by
  rw [List.length_append]; exact Nat.le_trans h (Nat.le_add_right _ _)

theorem evalBrs_norm (cs : Sem) (Γp : List String) (Lp : List Val) (flow : Val) :
    (bs : Brs4) → (v : Val) → (Lw : List Val) → evalBrs cs Γp Lp flow bs = some (.norm v Lw) → Lw = Lp
  | .nil, v, Lw, h => by
    simp only [evalBrs, Option.some.injEq, Out.norm.injEq] at h
    exact h.2.symm
  | .cons cond .none rs, v, Lw, h => by
    simp only [evalBrs, Option.bind_eq_some_iff] at h
    obtain ⟨o, _, hr⟩ := h
    cases o with
    | norm vc Lc =>
      simp only at hr
      split at hr
      · exact evalBrs_norm cs Γp Lp flow rs v Lw hr
      · simp only [Option.some.injEq, Out.norm.injEq] at hr
        exact hr.2.symm
    | exit res => simp at hr
  | .cons cond (.some cons) rs, v, Lw, h => by
    simp only [evalBrs, Option.bind_eq_some_iff] at h
    obtain ⟨o, _, hr⟩ := h
    cases o with
    | norm vc Lc =>
      simp only at hr
      split at hr
      · exact evalBrs_norm cs Γp Lp flow rs v Lw hr
      · simp only [Option.map_eq_some_iff] at hr
        obtain ⟨o2, _, hm⟩ := hr
        cases o2 with
        | norm w Lk =>
          simp only [Out.norm.injEq] at hm
          exact hm.2.symm
        | exit res => simp at hm
    | exit res => simp at hr

/-- What the structural proof needs of a run relation `R` over the code of function `fi` (with `nc` captures):
it is transitive, contains the runs of C02Loc's machine, and — from level 3, 4, 5 on — the steps for
`Function`/`Call`, `TailCall(true)`/`Builtin, Call`, `TailCall(false)`, each justified by the meaning `cs`.
A tail call ends at the END of the function's code with the result on the stack and the locals cut back to the
captures. -/
structure Machine (O : Oracle) (P : Prog) (code : Array Instr) (cs : Sem) (fi nc lvl : Nat)
    (R : St → St → Prop) : Prop where
  trans {x y z : St} : R x y → R y z → R x z
  ofL {x y : St} : C02L.ARunsL O P code x y → R x y
  func {pc : Nat} {s L : List Val} (fj : Nat) (fn : Function) (ws : List Val) : 3 ≤ lvl →
    code[pc]? = some (.function fj) → P.functions[fj]? = some fn → fn.captures = ws.length →
    R (pc, ws.reverse ++ s, L) (pc + 1, .fn fj (ValList.ofList ws) :: s, L)
  call {pc : Nat} {s L : List Val} (fv arg res : Val) : 3 ≤ lvl → code[pc]? = some .call →
    cs.app fv arg = some res → R (pc, fv :: arg :: s, L) (pc + 1, res :: s, L)
  /-- `self` is the function whose code this is, over the captures in the first `nc` locals -/
  tail {pc : Nat} {s L : List Val} (sv arg res : Val) : 4 ≤ lvl → code[pc]? = some (.tailCall true) →
    cs.self = some sv → sv = .fn fi (ValList.ofList (L.take nc)) → nc ≤ L.length → cs.app sv arg = some res →
    R (pc, arg :: s, L) (code.size, res :: s, L.take nc)
  bcall {pc : Nat} {s L : List Val} (bi : Nat) (arg v : Val) : 4 ≤ lvl → code[pc]? = some (.builtin bi) →
    code[pc + 1]? = some .call → bi < P.builtins → cs.bi bi arg = some v →
    R (pc, arg :: s, L) (pc + 1 + 1, v :: s, L)
  tailN {pc : Nat} {s L : List Val} (fv arg res : Val) : 5 ≤ lvl → code[pc]? = some (.tailCall false) →
    cs.app fv arg = some res → R (pc, fv :: arg :: s, L) (code.size, res :: s, L.take nc)

namespace Machine
variable {O : Oracle} {P : Prog} {code : Array Instr} {cs : Sem} {fi nc lvl : Nat} {R : St → St → Prop}
  (M : Machine O P code cs fi nc lvl R) {pc : Nat}
include M

theorem refl (x : St) : R x x := M.ofL (.refl x)
theorem pop {v : Val} {s L : List Val} (hi : code[pc]? = some .pop) : R (pc, v :: s, L) (pc + 1, s, L) :=
  M.ofL (C02L.l_pop hi)
theorem const {i : Nat} {z : Int} {s L : List Val} (hi : code[pc]? = some (.constant i))
    (hc : P.constants[i]? = some (.int z)) : R (pc, s, L) (pc + 1, .int z :: s, L) := M.ofL (C02L.l_const hi hc)
theorem pick {n : Nat} {v : Val} {s L : List Val} (hi : code[pc]? = some (.pick n)) (hv : s[n]? = some v) :
    R (pc, s, L) (pc + 1, v :: s, L) := M.ofL (C02L.l_pick hi hv)
theorem rot2 {a b : Val} {s L : List Val} (hi : code[pc]? = some (.rotate 2)) :
    R (pc, a :: b :: s, L) (pc + 1, b :: a :: s, L) := M.ofL (C02L.l_rot2 hi)
theorem tuple {id : Nat} {vs rest L : List Val} (hi : code[pc]? = some (.tuple id))
    (hid : P.tuples[id]? = some vs.length) :
    R (pc, vs.reverse ++ rest, L) (pc + 1, .tup id (ValList.ofList vs) :: rest, L) := M.ofL (C02L.l_tuple hi hid)
theorem dup {v : Val} {s L : List Val} (hi : code[pc]? = some .duplicate) :
    R (pc, v :: s, L) (pc + 1, v :: v :: s, L) := M.ofL (C02L.l_dup hi)
theorem not {v : Val} {s L : List Val} (hi : code[pc]? = some .not) :
    R (pc, v :: s, L) (pc + 1, (if v.isNil then Val.ok else Val.nil) :: s, L) := M.ofL (C02L.l_not hi)
theorem jumpIf_fall {off : Int} {c : Val} {s L : List Val} (hi : code[pc]? = some (.jumpIf off))
    (hc : c.isNil = true) : R (pc, c :: s, L) (pc + 1, s, L) := M.ofL (C02L.l_jumpIf_fall hi hc)
theorem load {k : Nat} {v : Val} {s L : List Val} (hi : code[pc]? = some (.load k)) (hv : L[k]? = some v) :
    R (pc, s, L) (pc + 1, v :: s, L) := M.ofL (C02L.l_load hi hv)
theorem store {v : Val} {s L : List Val} (hi : code[pc]? = some .store) :
    R (pc, v :: s, L) (pc + 1, s, L ++ [v]) := M.ofL (C02L.l_store hi)
theorem reset {n : Nat} {s L : List Val} (hi : code[pc]? = some (.reset n)) (hn : n ≤ L.length) :
    R (pc, s, L) (pc + 1, s, L.take n) := M.ofL (C02L.l_reset hi hn)
theorem jump_fwd (hsz : code.size < 2 ^ 63 - 1) {n t : Nat} {s L : List Val}
    (hi : code[pc]? = some (.jump (n : Int))) (h : pc + 1 + n = t) (ht : t ≤ code.size) : R (pc, s, L) (t, s, L) :=
  M.ofL (C02L.l_jump_fwd hsz hi h ht)
theorem jumpIf_fwd (hsz : code.size < 2 ^ 63 - 1) {n t : Nat} {c : Val} {s L : List Val}
    (hi : code[pc]? = some (.jumpIf (n : Int))) (hc : c.isNil = false) (h : pc + 1 + n = t) (ht : t ≤ code.size) :
    R (pc, c :: s, L) (t, s, L) :=
  M.ofL (C02L.l_jumpIf_fwd hsz hi hc h ht)
theorem jump_back (hsz : code.size < 2 ^ 63 - 1) {n t : Nat} {s L : List Val}
    (hi : code[pc]? = some (.jump (-(n : Int)))) (h : t + n = pc + 1) : R (pc, s, L) (t, s, L) :=
  M.ofL (C02L.l_jump_back hsz hi h)

/-- `Reset(n+1)` where the branch has compile-time bindings; where it has none, nothing was stored -/
theorem resetIf_aruns (len n pc : Nat) (s Lp ext : List Val) (hl : C02S.Located code pc (resetIf len n))
    (hLp : Lp.length = n + 1) (hext : ¬ (len > n + 1) → ext = []) :
    R (pc, s, Lp ++ ext) (pc + (resetIf len n).length, s, Lp) := by
  unfold resetIf at hl ⊢
  by_cases h : len > n + 1
  · simp only [h, if_true] at hl ⊢
    have := M.reset (s := s) (L := Lp ++ ext) (n := n + 1) hl.head (by simp; omega)
    simpa [← hLp] using this
  · simp only [h, if_false] at hl ⊢
    rw [hext h]
    simpa using M.refl _

/-- A branch starts by popping the failed condition's nil, unless it is the first, and loads the block's
parameter (slot `n`) for its condition `c`. -/
theorem branch_start (first : Bool) (junk flow : Val) (rest L : List Val) (n pos e : Nat) (c X : List Instr)
    (hl : LocatedTo code pos ((if first then [] else [Instr.pop]) ++ ([Instr.load n] ++ (c ++ X))) e)
    (hL : L.length = n) :
    ∃ q, R (pos, (if first then rest else junk :: rest), L ++ [flow]) (q, flow :: rest, L ++ [flow]) ∧
      C02S.Located code q c ∧ LocatedTo code (q + c.length) X e := by
  have hflow : (L ++ [flow])[n]? = some flow := by rw [← hL]; simp
  cases first with
  | true =>
    simp only [if_true, List.cons_append, List.nil_append, locatedTo_cons, locatedTo_append] at hl
    exact ⟨pos + 1, M.load hl.1 hflow, hl.2⟩
  | false =>
    simp only [Bool.false_eq_true, if_false, List.cons_append, List.nil_append, locatedTo_cons, locatedTo_append] at hl
    exact ⟨pos + 1 + 1, M.trans (M.pop hl.1) (M.load hl.2.1 hflow), hl.2.2⟩

theorem loads_aruns (Γ : List String) (L : List Val) : (caps : List String) → (ws : List Val) → (q : Nat) →
    (s : List Val) → C02S.Located code q (loadsOf Γ caps) → capVals Γ L caps = some ws →
    R (q, s, L) (q + caps.length, ws.reverse ++ s, L)
  | [], ws, q, s, _, h => by
    simp only [capVals, Option.some.injEq] at h
    subst h
    simpa using M.refl _
  | c :: r, ws, q, s, hl, h => by
    simp only [capVals] at h
    split at h
    · rename_i v vs hv hvs
      simp only [Option.some.injEq] at h
      subst h
      simp only [Option.bind_eq_some_iff] at hv
      obtain ⟨i, hi, hLi⟩ := hv
      have hl' : C02S.Located code q (.load i :: loadsOf Γ r) := by simpa [loadsOf, hi] using hl
      have a := M.load (s := s) (L := L) hl'.head hLi
      have b := loads_aruns Γ L r vs (q + 1) (v :: s) (Located.tail hl') hvs
      have := M.trans a b
      have e : q + (c :: r).length = q + 1 + r.length := by simp; omega
      rw [e]
      simpa using this
    · simp at h

end Machine

theorem loadsOf_length (Γ : List String) : (caps : List String) → (loadsOf Γ caps).length = caps.length
  | [] => rfl
  | c :: r => by simp [loadsOf, loadsOf_length Γ r]

theorem capVals_length (Γ : List String) (L : List Val) : (caps : List String) → (ws : List Val) →
    capVals Γ L caps = some ws → ws.length = caps.length
  | [], ws, h => by simp only [capVals, Option.some.injEq] at h; subst h; rfl
  | c :: r, ws, h => by
    simp only [capVals] at h
    split at h
    · rename_i v vs _ hvs
      simp only [Option.some.injEq] at h
      subst h
      simp [capVals_length Γ L r vs hvs]
    · simp at h

namespace Machine
variable {O : Oracle} {P : Prog} {code : Array Instr} {cs : Sem} {fi nc lvl : Nat} {R : St → St → Prop}

section
variable (M : Machine O P code cs fi nc lvl R)
include M

/-- A block around its branches `br` (main code, cleanup blocks), ending at `e`: `Store` (the parameter), the
branches (`main`, to `X`) and — if they ended at the parameter clear — `Reset(nΓ)` and the jump over the cleanup
blocks; the locals afterwards are those before. (`+ 2 * 0`: the position of the cleanup blocks in the form `runBrs` has
it, for `k = 0` earlier blocks, so that the hypothesis is handed to `runBrs` as it is.) -/
theorem block_run (hsz : code.size < 2 ^ 63 - 1) (nΓ pc e : Nat) (flow : Val) (rest L : List Val)
    (br : List Instr × List Instr) (X T : St)
    (hl : LocatedTo code pc ([Instr.store] ++ (br.1 ++ ([Instr.reset nΓ] ++
      ((if br.2 = [] then [] else [Instr.jump ((br.2.length : Nat) : Int)]) ++ br.2)))) e)
    (hL : L.length = nΓ)
    (main : C02S.Located code (pc + 1) br.1 → C02S.Located code (pc + 1 + br.1.length + 2 + 2 * 0) br.2 →
      pc + 1 + br.1.length < code.size → R (pc + 1, rest, L ++ [flow]) X)
    (hfin : X = T ∨ ∃ w, X = (pc + 1 + br.1.length, w :: rest, L ++ [flow]) ∧ T = (e, w :: rest, L)) :
    R (pc, flow :: rest, L) T := by
  have hsize := Located.le_size hl.1 (by simp)
  rw [hl.2] at hsize
  simp only [List.cons_append, List.nil_append, locatedTo_cons, locatedTo_append] at hl
  obtain ⟨hst, hmain, hreset, hj, hcl⟩ := hl
  have hcl' : C02S.Located code (pc + 1 + br.1.length + 2 + 2 * 0) br.2 := by
    by_cases hc : br.2 = []
    · rw [hc]; exact fun k hk => absurd hk (Nat.not_lt_zero k)
    · simpa only [hc, if_false, List.length_cons, List.length_nil] using hcl.1
  refine M.trans (M.store hst) (M.trans (main hmain hcl' (lt_of_fetch hreset)) ?_)
  rcases hfin with rfl | ⟨w, rfl, rfl⟩
  · exact M.refl _
  · have r1 := M.reset (s := w :: rest) (L := L ++ [flow]) hreset (by simp [hL])
    rw [← hL, List.take_left' rfl] at r1
    refine M.trans r1 ?_
    by_cases hc : br.2 = []
    · have e := hcl.2
      simp only [hc, if_true, List.length_nil, Nat.add_zero] at e
      rw [e]
      exact M.refl _
    · simp only [hc, if_false, located_cons, List.length_cons, List.length_nil, Nat.zero_add] at hj hcl
      exact M.jump_fwd hsz hj.1 hcl.2 hsize

/-- A step of a sequence and what follows it, ending at `e`: `Duplicate, Not, JumpIf(→ e)` between them — a nil
value ends the sequence there (`hnil`), any other goes on with the remaining steps `b` (`hgo`). -/
theorem seq_step (hsz : code.size < 2 ^ 63 - 1) (a b : List Instr) (pc e : Nat) (flow v₁ : Val) (rest L L₁ : List Val)
    (T : St) (hl : LocatedTo code pc (a ++ ([Instr.duplicate, Instr.not, Instr.jumpIf (b.length : Int)] ++ b)) e)
    (run₁ : R (pc, flow :: rest, L) (pc + a.length, v₁ :: rest, L₁))
    (hnil : v₁.isNil = true → T = (e, v₁ :: rest, L₁))
    (hgo : v₁.isNil = false → ∀ q, LocatedTo code q b e → R (q, v₁ :: rest, L₁) T) :
    R (pc, flow :: rest, L) T := by
  have hsize := Located.le_size hl.1 (by simp)
  rw [hl.2] at hsize
  simp only [List.cons_append, List.nil_append, locatedTo_cons, locatedTo_append] at hl
  obtain ⟨_, hd, hn, hj, hl3⟩ := hl
  refine M.trans run₁ (M.trans (M.dup hd) (M.trans (M.not hn) ?_))
  cases hv : v₁.isNil with
  | true => rw [hnil hv]; exact M.jumpIf_fwd hsz hj rfl hl3.2 hsize
  | false => exact M.trans (M.jumpIf_fall hj rfl) (hgo hv _ hl3)

/-- A branch without consequence, from the branch's start to `T`: the condition (`condRun`), the per-branch Reset
— where there is none nothing was stored (`hext`) — and, unless it is the last branch, `Duplicate, JumpIf(→ the
parameter clear)`; a nil value goes on to the remaining branches `r` (`restRun`). -/
theorem branch_none (hsz : code.size < 2 ^ 63 - 1) (n : Nat) (first last : Bool) (pos PC : Nat)
    (flow junk vc : Val) (rest L ext : List Val) (c : List Instr × List String) (r : List Instr) (T : St)
    (hl : LocatedTo code pos ((if first = true then [] else [Instr.pop]) ++ ([Instr.load n] ++ (c.1 ++
      (resetIf c.2.length n ++
        ((if last = true then [] else [Instr.duplicate, Instr.jumpIf (r.length : Int)]) ++ r))))) PC)
    (hPCs : PC < code.size) (hL : L.length = n) (hnil : last = true → r = [])
    (condRun : ∀ q, C02S.Located code q c.1 →
      R (q, flow :: rest, L ++ [flow]) (q + c.1.length, vc :: rest, L ++ [flow] ++ ext))
    (hext : ¬ c.2.length > n + 1 → ext = [])
    (restRun : vc.isNil = true → ∀ q, LocatedTo code q r PC → R (q, vc :: rest, L ++ [flow]) T)
    (commit : vc.isNil = false → T = (PC, vc :: rest, L ++ [flow])) :
    R (pos, (if first then rest else junk :: rest), L ++ [flow]) T := by
  obtain ⟨q, runStart, hlc, hl1⟩ := M.branch_start first junk flow rest L n pos PC c.1 _ hl hL
  obtain ⟨hlri, hlr⟩ := locatedTo_append.1 hl1
  have rr := M.resetIf_aruns c.2.length n _ (vc :: rest) (L ++ [flow]) ext hlri (by simp [hL]) hext
  refine M.trans runStart (M.trans (condRun _ hlc) (M.trans rr ?_))
  cases last with
  | true =>
    simp only [if_true, List.nil_append] at hlr
    cases hv : vc.isNil with
    | true => exact restRun hv _ hlr
    | false =>
      have e := hlr.2
      rw [hnil rfl] at e
      rw [commit hv, ← e]
      exact M.refl _
  | false =>
    simp only [Bool.false_eq_true, if_false, List.cons_append, List.nil_append, locatedTo_cons] at hlr
    obtain ⟨hd, hj, hlr⟩ := hlr
    refine M.trans (M.dup hd) ?_
    cases hv : vc.isNil with
    | true => exact M.trans (M.jumpIf_fall hj hv) (restRun hv _ hlr)
    | false => rw [commit hv]; exact M.jumpIf_fwd hsz hj hv hlr.2 (Nat.le_of_lt hPCs)

/-- A branch with a consequence, from the branch's start to `T`, given the runs of its pieces: the condition
(`condRun`), the remaining branches `r` after a failed condition (`restRun`) and the consequence after a committed
one (`commit`, with what its outcome makes of `T`). `c`, `cc` are the compiled condition and consequence; `needs`
says that the condition has bindings. A failed condition reaches the next branch directly — then it has stored
nothing (`hext`) — or through this branch's cleanup block `Reset(n+1), Jump(back)`, which comes after those of the
`k` earlier ones. -/
theorem branch_some (hsz : code.size < 2 ^ 63 - 1) (n k : Nat) (first last needs : Bool) (pos PC off : Nat)
    (flow junk vc : Val) (rest L ext : List Val) (c cc : List Instr × List String)
    (r : List Instr × List Instr) (T : St)
    (hl : LocatedTo code pos ((if first = true then [] else [Instr.pop]) ++ ([Instr.load n] ++ (c.1 ++
      ([Instr.duplicate, Instr.not, Instr.jumpIf (off : Int)] ++ ([Instr.pop, Instr.load n] ++ (cc.1 ++
        (resetIf cc.2.length n ++ ((if last = true then [] else [Instr.jump (r.1.length : Int)]) ++ r.1)))))))) PC)
    (hoff : off = if needs = true then
        2 + cc.1.length + (resetIf cc.2.length n).length +
          (if last = true then [] else [Instr.jump (r.1.length : Int)]).length + r.1.length + 2 + 2 * k
      else 2 + cc.1.length + (resetIf cc.2.length n).length +
        (if last = true then [] else [Instr.jump (r.1.length : Int)]).length)
    (hcl : C02S.Located code (PC + 2 + 2 * k)
      ((if needs = true then [Instr.reset (n + 1), Instr.jump (-((r.1.length + 2 * k + 4 : Nat) : Int))] else []) ++ r.2))
    (hPCs : PC < code.size) (hL : L.length = n) (hnil : last = true → r.1 = [])
    (condRun : ∀ q, C02S.Located code q c.1 →
      R (q, flow :: rest, L ++ [flow]) (q + c.1.length, vc :: rest, L ++ [flow] ++ ext))
    (hext : vc.isNil = true → needs = false → ext = [])
    (restRun : vc.isNil = true → ∀ q, LocatedTo code q r.1 PC →
      C02S.Located code (PC + 2 + 2 * (if needs = true then k + 1 else k)) r.2 → R (q, vc :: rest, L ++ [flow]) T)
    (commit : vc.isNil = false → ∃ o2,
      (∀ q, C02S.Located code q cc.1 → R (q, flow :: rest, L ++ [flow] ++ ext)
        (Target code nc (q + cc.1.length) rest (L ++ [flow] ++ ext) o2)) ∧
      match o2 with
      | .exit res => T = (code.size, res :: rest, (L ++ [flow] ++ ext).take nc)
      | .norm w Lk => T = (PC, w :: rest, L ++ [flow]) ∧
          ∃ e2, Lk = L ++ [flow] ++ ext ++ e2 ∧ (¬ cc.2.length > n + 1 → ext ++ e2 = [])) :
    R (pos, (if first then rest else junk :: rest), L ++ [flow]) T := by
  obtain ⟨q, runStart, hlc, hl1⟩ := M.branch_start first junk flow rest L n pos PC c.1 _ hl hL
  simp only [List.cons_append, List.nil_append, locatedTo_cons, locatedTo_append] at hl1
  obtain ⟨hd, hn, hj, hpop, hload2, hlcc, hlri, hlej, hlr⟩ := hl1
  have hLpn : (L ++ [flow]).length = n + 1 := by simp [hL]
  refine M.trans runStart (M.trans (condRun _ hlc) (M.trans (M.dup hd) (M.trans (M.not hn) ?_)))
  cases hv : vc.isNil with
  | true =>
    simp only [if_true]
    have hqr := Nat.le_trans (Nat.le.intro hlr.2) (Nat.le_of_lt hPCs)
    cases needs with
    | true =>
      simp only [if_true, List.cons_append, List.nil_append, located_cons] at hoff hcl
      obtain ⟨hcr, hcj, hcl2⟩ := hcl
      refine M.trans (M.jumpIf_fwd hsz hj rfl (t := PC + 2 + 2 * k) (by rw [hoff, ← hlr.2]; omega)
        (Nat.le_of_lt (lt_of_fetch hcr))) ?_
      have runR := M.reset (s := vc :: rest) (L := L ++ [flow] ++ ext) hcr
        (by rw [List.length_append, hLpn]; exact Nat.le_add_right _ _)
      rw [← hLpn, List.take_left' rfl] at runR
      exact M.trans runR (M.trans (M.jump_back hsz hcj (by rw [← hlr.2]; omega))
        (restRun hv _ hlr (by rwa [if_pos rfl, Nat.mul_add])))
    | false =>
      simp only [Bool.false_eq_true, if_false, List.nil_append] at hoff hcl
      rw [hext hv rfl, List.append_nil]
      exact M.trans (M.jumpIf_fwd hsz hj rfl (by rw [hoff]; omega) hqr) (restRun hv _ hlr hcl)
  | false =>
    -- committed: Pop, Load(n), the consequence, the per-branch Reset, to the parameter clear — or, if a `^` is
    -- taken in the consequence, to the function's end
    obtain ⟨o2, cr, ho⟩ := commit hv
    have hflow : (L ++ [flow] ++ ext)[n]? = some flow := by rw [List.append_assoc, ← hL]; simp
    refine M.trans (M.jumpIf_fall hj rfl) (M.trans (M.pop hpop) (M.trans (M.load hload2 hflow) (M.trans (cr _ hlcc) ?_)))
    cases o2 with
    | exit res => rw [ho]; exact M.refl _
    | norm w Lk =>
      obtain ⟨rfl, e2, rfl, he⟩ := ho
      have rr := M.resetIf_aruns cc.2.length n _ (w :: rest) (L ++ [flow]) (ext ++ e2) hlri hLpn he
      rw [← List.append_assoc] at rr
      refine M.trans rr ?_
      cases last with
      | true =>
        have e := hlr.2
        simp only [if_true, hnil rfl, List.length_nil, Nat.add_zero] at e
        rw [e]
        exact M.refl _
      | false =>
        simp only [Bool.false_eq_true, if_false, located_cons] at hlej
        exact M.jump_fwd hsz hlej.1 hlr.2 (Nat.le_of_lt hPCs)

end

mutual
  theorem runT (M : Machine O P code cs fi nc lvl R) (hO : OracleIntEq O) (hP : wfProg P)
      (hsz : code.size < 2 ^ 63 - 1) :
      (t : T4) → (Γ : List String) → (pc e : Nat) → (flow : Val) → (rest L : List Val) → (out : Out) →
      LocatedTo code pc (compileT Γ t).1 e → wfT P t → lvT t ≤ lvl → L.length = Γ.length → nc ≤ L.length →
      SelfOK cs fi nc L → evalT cs Γ L flow t = some out →
      R (pc, flow :: rest, L) (Target code nc e rest L out)
    | .int z i => fun Γ pc e flow rest L out hl hw _ _ _ _ hev => by
      simp only [evalT, Option.some.injEq] at hev
      subst hev
      simp only [compileT, locatedTo_cons, locatedTo_nil] at hl
      obtain ⟨h0, h1, rfl⟩ := hl
      exact M.trans (M.pop h0) (M.const h1 hw)
    | .ripple => fun Γ pc e flow rest L out hl _ _ _ _ _ hev => by
      simp only [evalT, Option.some.injEq] at hev
      subst hev
      simp only [compileT, locatedTo_nil] at hl
      subst hl
      exact M.refl _
    | .tup id fs => fun Γ pc e flow rest L out hl hw hk hal hnc hself hev => by
      simp only [evalT, Option.map_eq_some_iff] at hev
      obtain ⟨⟨vs, L''⟩, hfs, hv⟩ := hev
      subst hv
      simp only [compileT, locatedTo_cons, locatedTo_append, locatedTo_nil] at hl
      obtain ⟨hlfs, h0, h1, h2, rfl⟩ := hl
      obtain ⟨hrun, hlen⟩ := runFs M hO hP hsz fs Γ pc _ flow rest L [] vs L'' ⟨hlfs, rfl⟩ hw.2
        (by simpa only [lvT] using hk) hal hnc hself hfs
      have hid : P.tuples[id]? = some vs.length := by rw [hlen]; exact hw.1
      exact M.trans hrun (M.trans (M.tuple h0 hid) (M.trans (M.rot2 h1) (M.pop h2)))
    | .var x => fun Γ pc e flow rest L out hl _ _ _ _ _ hev => by
      simp only [evalT, Option.bind_eq_some_iff, Option.map_eq_some_iff] at hev
      obtain ⟨i, hi, w, hw', hv⟩ := hev
      subst hv
      simp only [compileT, hi, Option.getD_some, locatedTo_cons, locatedTo_nil] at hl
      obtain ⟨h0, h1, rfl⟩ := hl
      exact M.trans (M.pop h0) (M.load h1 hw')
    | .mtch p => fun Γ pc e flow rest L out hl hw _ _ _ _ hev => by
      simp only [evalT, Option.map_eq_some_iff] at hev
      obtain ⟨⟨w, bound⟩, hp, hv⟩ := hev
      subst hv
      simp only [compileT] at hl
      exact M.ofL (C02L.compilePat_arunsTo hO hP hsz p pc e flow rest L w bound hl hw hp)
    | .block bs => fun Γ pc e flow rest L out hl hw hk hal hnc hself hev => by
      simp only [evalT, Option.map_eq_some_iff] at hev
      obtain ⟨o, hbs, hv⟩ := hev
      simp only [compileT] at hl
      refine M.block_run hsz Γ.length pc e flow rest L (compileBrs (Γ ++ [""]) Γ.length bs 0 true)
        (Target code nc (pc + 1 + (compileBrs (Γ ++ [""]) Γ.length bs 0 true).1.length) rest (L ++ [flow]) o) _ hl hal
        (fun hmain hcl hPC => by
          have := runBrs M hO hP hsz bs (Γ ++ [""]) Γ.length 0 true (pc + 1) _ flow flow rest L o ⟨hmain, rfl⟩ hcl hPC hw.2
            (by simpa only [lvT] using hk) (by simp) hal hnc hself (fun _ => hw.1) (fun h => by cases h) hbs
          simpa only [if_true] using this) ?_
      cases o with
      | exit res =>
        -- a `^` was taken inside the block: the function's end, nothing of the block's epilogue runs
        subst hv
        exact .inl (by simp only [Target, List.take_append_of_le_length hnc])
      | norm w Lw =>
        subst hv
        have hLw := evalBrs_norm cs (Γ ++ [""]) (L ++ [flow]) flow bs w Lw hbs
        subst hLw
        exact .inr ⟨w, rfl, rfl⟩
    | .fnlit fj caps => fun Γ pc e flow rest L out hl hw hk _ _ _ hev => by
      simp only [evalT, Option.map_eq_some_iff] at hev
      obtain ⟨ws, hws, hv⟩ := hev
      subst hv
      obtain ⟨fn, hfn, hcap⟩ := hw
      simp only [compileT, List.cons_append, List.nil_append, locatedTo_cons, locatedTo_append, locatedTo_nil,
        loadsOf_length] at hl
      obtain ⟨hpop, hloads, hf, rfl⟩ := hl
      exact M.trans (M.pop hpop) (M.trans (M.loads_aruns Γ L caps ws (pc + 1) rest hloads hws)
        (M.func fj fn ws (by simpa only [lvT] using hk) hf hfn (by rw [hcap, capVals_length Γ L caps ws hws])))
    | .call x => fun Γ pc e flow rest L out hl _ hk _ _ _ hev => by
      simp only [evalT, Option.bind_eq_some_iff, Option.map_eq_some_iff] at hev
      obtain ⟨i, hi, fv, hfv, res, hres, hv⟩ := hev
      subst hv
      simp only [compileT, hi, Option.getD_some, locatedTo_cons, locatedTo_nil] at hl
      obtain ⟨h0, h1, rfl⟩ := hl
      exact M.trans (M.load h0 hfv) (M.call fv flow res (by simpa only [lvT] using hk) h1 hres)
    | .callNil x => fun Γ pc e flow rest L out hl _ hk _ _ _ hev => by
      simp only [evalT, Option.bind_eq_some_iff, Option.map_eq_some_iff] at hev
      obtain ⟨i, hi, fv, hfv, res, hres, hv⟩ := hev
      subst hv
      simp only [compileT, hi, Option.getD_some, locatedTo_cons, locatedTo_nil] at hl
      obtain ⟨h0, h1, h2, h3, h4, h5, rfl⟩ := hl
      -- the flowing value is dropped and `[]` (nil) built under the function
      exact M.trans (M.load h0 hfv) (M.trans (M.rot2 h1) (M.trans (M.pop h2)
        (M.trans (M.tuple (vs := []) (rest := fv :: rest) h3 hP.1) (M.trans (M.rot2 h4)
          (M.call fv Val.nil res (by simpa only [lvT] using hk) h5 hres)))))
    | .tailSelf => fun Γ pc e flow rest L out hl _ hk _ hnc hself hev => by
      simp only [evalT, Option.bind_eq_some_iff, Option.map_eq_some_iff] at hev
      obtain ⟨sv, hs, res, hres, hv⟩ := hev
      subst hv
      simp only [compileT, locatedTo_cons] at hl
      exact M.tail sv flow res (by simpa only [lvT] using hk) hl.1 hs (hself sv hs) hnc hres
    | .bcall bi => fun Γ pc e flow rest L out hl hw hk _ _ _ hev => by
      simp only [evalT, Option.map_eq_some_iff] at hev
      obtain ⟨w, hres, hv⟩ := hev
      subst hv
      simp only [compileT, locatedTo_cons, locatedTo_nil] at hl
      obtain ⟨h0, h1, rfl⟩ := hl
      exact M.bcall bi flow w (by simpa only [lvT] using hk) h0 h1 hw hres
    | .tailNamed x => fun Γ pc e flow rest L out hl _ hk _ _ _ hev => by
      simp only [evalT, Option.bind_eq_some_iff, Option.map_eq_some_iff] at hev
      obtain ⟨i, hi, fv, hfv, res, hres, hv⟩ := hev
      subst hv
      simp only [compileT, hi, Option.getD_some, locatedTo_cons] at hl
      exact M.trans (M.load hl.1 hfv) (M.tailN fv flow res (by simpa only [lvT] using hk) hl.2.1 hres)
  theorem runCh (M : Machine O P code cs fi nc lvl R) (hO : OracleIntEq O) (hP : wfProg P)
      (hsz : code.size < 2 ^ 63 - 1) :
      (c : Ch4) → (Γ : List String) → (pc e : Nat) → (flow : Val) → (rest L : List Val) → (out : Out) →
      LocatedTo code pc (compileCh Γ c).1 e → wfCh P c → lvCh c ≤ lvl → L.length = Γ.length → nc ≤ L.length →
      SelfOK cs fi nc L → evalCh cs Γ L flow c = some out →
      R (pc, flow :: rest, L) (Target code nc e rest L out)
    | .nil => fun Γ pc e flow rest L out hl _ _ _ _ _ hev => by
      simp only [evalCh, Option.some.injEq] at hev
      subst hev
      simp only [compileCh, locatedTo_nil] at hl
      subst hl
      exact M.refl _
    | .cons t r => fun Γ pc e flow rest L out hl hw hk hal hnc hself hev => by
      simp only [evalCh, Option.bind_eq_some_iff] at hev
      obtain ⟨o₁, ht, hr⟩ := hev
      simp only [compileCh, locatedTo_append] at hl
      simp only [lvCh, Nat.max_le] at hk
      have run₁ := runT M hO hP hsz t Γ pc _ flow rest L o₁ ⟨hl.1, rfl⟩ hw.1 hk.1 hal hnc hself ht
      cases o₁ with
      | exit res =>
        simp only [Option.some.injEq] at hr
        subst hr
        exact run₁
      | norm v₁ L₁ =>
        simp only at hr
        obtain ⟨e₁, rfl, l₁⟩ := evalT_ext cs t Γ L flow v₁ L₁ ht
        have al₁ : (L ++ e₁).length = (compileT Γ t).2.length := by rw [compileT_len]; simp [hal, l₁]
        have run₂ := runCh M hO hP hsz r (compileT Γ t).2 _ e v₁ rest (L ++ e₁) out hl.2 hw.2 hk.2 al₁
          (le_length_append hnc e₁) (hself.ext hnc e₁) hr
        rw [Target_ext code nc _ rest L e₁ out hnc] at run₂
        exact M.trans run₁ run₂
  theorem runFs (M : Machine O P code cs fi nc lvl R) (hO : OracleIntEq O) (hP : wfProg P)
      (hsz : code.size < 2 ^ 63 - 1) :
      (fs : Fs4) → (Γ : List String) → (pc e : Nat) → (flow : Val) → (rest L acc vs : List Val) →
      (L' : List Val) → LocatedTo code pc (compileFs Γ fs acc.length).1 e → wfFs P fs → lvFs fs ≤ lvl →
      L.length = Γ.length → nc ≤ L.length → SelfOK cs fi nc L → evalFs cs Γ L flow fs = some (vs, L') →
      R (pc, acc.reverse ++ flow :: rest, L) (e, (acc ++ vs).reverse ++ flow :: rest, L') ∧
        vs.length = fs.length
    | .nil => fun Γ pc e flow rest L acc vs L' hl _ _ _ _ _ hev => by
      simp only [evalFs, Option.some.injEq, Prod.mk.injEq] at hev
      obtain ⟨rfl, rfl⟩ := hev
      simp only [compileFs, locatedTo_nil] at hl
      subst hl
      rw [List.append_nil]
      exact ⟨M.refl _, rfl⟩
    | .cons c r => fun Γ pc e flow rest L acc vs L' hl hw hk hal hnc hself hev => by
      simp only [evalFs, Option.bind_eq_some_iff] at hev
      obtain ⟨o₁, hc, hr⟩ := hev
      cases o₁ with
      | exit res => simp at hr
      | norm v₁ L₁ =>
        simp only [Option.map_eq_some_iff, Prod.mk.injEq] at hr
        obtain ⟨⟨vs₂, L₂⟩, hr, rfl, rfl⟩ := hr
        simp only [compileFs, List.cons_append, List.nil_append, locatedTo_cons, locatedTo_append] at hl
        obtain ⟨h0, hlc, hlr⟩ := hl
        have hpick : (acc.reverse ++ flow :: rest)[acc.length]? = some flow :=
          by simp
        simp only [lvFs, Nat.max_le] at hk
        have run₁ := runCh M hO hP hsz c Γ (pc + 1) _ flow (acc.reverse ++ flow :: rest) L (.norm v₁ L₁)
          ⟨hlc, rfl⟩ hw.1 hk.1 hal hnc hself hc
        simp only [Target] at run₁
        obtain ⟨e₁, rfl, l₁⟩ := evalCh_ext cs c Γ L flow v₁ L₁ hc
        have al₁ : (L ++ e₁).length = (compileCh Γ c).2.length := by rw [compileCh_len]; simp [hal, l₁]
        obtain ⟨run₂, len₂⟩ := runFs M hO hP hsz r (compileCh Γ c).2 _ e flow rest (L ++ e₁) (acc ++ [v₁]) vs₂ L₂
          (by rw [List.length_append]; exact hlr) hw.2 hk.2 al₁ (le_length_append hnc e₁) (hself.ext hnc e₁) hr
        refine ⟨M.trans (M.pick h0 hpick) (M.trans run₁ ?_), by simp [Fs4.length, len₂]⟩
        simpa using run₂
  theorem runSq (M : Machine O P code cs fi nc lvl R) (hO : OracleIntEq O) (hP : wfProg P)
      (hsz : code.size < 2 ^ 63 - 1) :
      (sq : Sq4) → (Γ : List String) → (pc e : Nat) → (flow : Val) → (rest L : List Val) → (out : Out) →
      LocatedTo code pc (compileSq Γ sq).1 e → wfSq P sq → lvSq sq ≤ lvl → L.length = Γ.length → nc ≤ L.length →
      SelfOK cs fi nc L → evalSq cs Γ L flow sq = some out →
      R (pc, flow :: rest, L) (Target code nc e rest L out)
    | .last c => fun Γ pc e flow rest L out hl hw hk hal hnc hself hev => by
      simp only [compileSq, evalSq] at hl hev
      exact runCh M hO hP hsz c Γ pc e flow rest L out hl hw (by simpa only [lvSq] using hk) hal hnc hself hev
    | .cons c r => fun Γ pc e flow rest L out hl hw hk hal hnc hself hev => by
      simp only [evalSq, Option.bind_eq_some_iff] at hev
      obtain ⟨o₁, hc, hr⟩ := hev
      simp only [compileSq] at hl
      simp only [lvSq, Nat.max_le] at hk
      have run₁ := runCh M hO hP hsz c Γ pc _ flow rest L o₁ ⟨(locatedTo_append.1 hl).1, rfl⟩ hw.1 hk.1 hal hnc hself hc
      cases o₁ with
      | exit res =>
        simp only [Option.some.injEq] at hr
        subst hr
        exact run₁
      | norm v₁ L₁ =>
        simp only at hr
        obtain ⟨e₁, rfl, l₁⟩ := evalCh_ext cs c Γ L flow v₁ L₁ hc
        have al₁ : (L ++ e₁).length = (compileCh Γ c).2.length := by rw [compileCh_len]; simp [hal, l₁]
        refine M.seq_step hsz _ _ pc e flow v₁ rest L (L ++ e₁) _ hl run₁ ?_ ?_
        · intro hv
          simp only [hv, if_true, Option.some.injEq] at hr
          subst hr
          rfl
        · intro hv q hq
          simp only [hv, Bool.false_eq_true, if_false] at hr
          have := runSq M hO hP hsz r (compileCh Γ c).2 q e v₁ rest (L ++ e₁) out hq hw.2 hk.2 al₁ (le_length_append hnc e₁)
            (hself.ext hnc e₁) hr
          rwa [Target_ext code nc _ rest L e₁ out hnc] at this
  /-- the branches from one on: from the branch's start (with the previous condition's nil on the stack
  unless it is the first) to the parameter clear at `PC`, value on the stack, locals `L ++ [parameter]` -/
  theorem runBrs (M : Machine O P code cs fi nc lvl R) (hO : OracleIntEq O) (hP : wfProg P)
      (hsz : code.size < 2 ^ 63 - 1) :
      (bs : Brs4) → (Γp : List String) → (n k : Nat) → (first : Bool) → (pos PC : Nat) →
      (flow junk : Val) → (rest L : List Val) → (out : Out) →
      LocatedTo code pos (compileBrs Γp n bs k first).1 PC →
      C02S.Located code (PC + 2 + 2 * k) (compileBrs Γp n bs k first).2 →
      PC < code.size → wfBrs P bs → lvBrs bs ≤ lvl → Γp.length = n + 1 → L.length = n → nc ≤ L.length →
      SelfOK cs fi nc L → (first = true → bs.isNil = false) → (first = false → junk = Val.nil) →
      evalBrs cs Γp (L ++ [flow]) flow bs = some out →
      R (pos, (if first then rest else junk :: rest), L ++ [flow])
        (Target code nc PC rest (L ++ [flow]) out)
    | .nil => fun Γp n k first pos PC flow junk rest L out hl _ _ _ _ _ _ _ _ hf hj hev => by
      cases first with
      | true => have := hf rfl; simp [Brs4.isNil] at this
      | false =>
        simp only [evalBrs, Option.some.injEq] at hev
        simp only [compileBrs, locatedTo_nil] at hl
        subst hev hl
        rw [hj rfl]
        exact M.refl _
    | .cons cond .none rs => fun Γp n k first pos PC flow junk rest L out hl hcl hPCs hw hk hΓ hL hnc hself _ _ hev => by
      simp only [evalBrs, Option.bind_eq_some_iff] at hev
      obtain ⟨oc, hc, hrest⟩ := hev
      simp only [lvBrs, Nat.max_le] at hk
      have hLp : (L ++ [flow]).length = Γp.length := by simp [hL, hΓ]
      have hncp : nc ≤ (L ++ [flow]).length := le_length_append hnc _
      have hselfp : SelfOK cs fi nc (L ++ [flow]) := hself.ext hnc [flow]
      simp only [compileBrs] at hl hcl
      cases oc with
      | exit res =>
        simp only [Option.some.injEq] at hrest
        subst hrest
        obtain ⟨q, runStart, hlc, _⟩ := M.branch_start first junk flow rest L n pos PC (compileSq Γp cond).1 _ hl hL
        have runCond := runSq M hO hP hsz cond Γp q _ flow rest (L ++ [flow]) (.exit res) ⟨hlc, rfl⟩ hw.1 hk.1 hLp hncp
          hselfp hc
        exact M.trans runStart runCond
      | norm vc Lc =>
      simp only at hrest
      obtain ⟨ext, rfl, le, lx⟩ := evalSq_ext cs cond Γp (L ++ [flow]) flow vc Lc hc
      refine M.branch_none hsz n first rs.isNil pos PC flow junk vc rest L ext (compileSq Γp cond)
        (compileBrs Γp n rs k false).1 _ hl hPCs hL
        (fun h => by rw [compileBrs_isNil Γp n k false rs h]) ?_ ?_ ?_ ?_
      · exact fun q hq => runSq M hO hP hsz cond Γp q _ flow rest (L ++ [flow]) (.norm vc (L ++ [flow] ++ ext)) ⟨hq, rfl⟩
          hw.1 hk.1 hLp hncp hselfp hc
      · intro h
        rw [compileSq_len, hΓ] at h
        apply List.eq_nil_of_length_eq_zero
        omega
      · intro hv q hq
        simp only [hv, if_true] at hrest
        have := runBrs M hO hP hsz rs Γp n k false q PC flow vc rest L out hq hcl hPCs hw.2 hk.2 hΓ hL hnc hself
          (fun h => by cases h) (fun _ => C02L.isNil_eq vc hv) hrest
        simpa using this
      · intro hv
        simp only [hv, Bool.false_eq_true, if_false, Option.some.injEq] at hrest
        subst hrest
        rfl
    | .cons cond (.some cons) rs => fun Γp n k first pos PC flow junk rest L out hl hcl hPCs hw hk hΓ hL hnc hself _ _ hev => by
      simp only [evalBrs, Option.bind_eq_some_iff] at hev
      obtain ⟨oc, hc, hrest⟩ := hev
      simp only [lvBrs, Nat.max_le] at hk
      have hLp : (L ++ [flow]).length = Γp.length := by simp [hL, hΓ]
      have hncp : nc ≤ (L ++ [flow]).length := le_length_append hnc _
      have hselfp : SelfOK cs fi nc (L ++ [flow]) := hself.ext hnc [flow]
      simp only [compileBrs] at hl hcl
      cases oc with
      | exit res =>
        simp only [Option.some.injEq] at hrest
        subst hrest
        obtain ⟨q, runStart, hlc, _⟩ := M.branch_start first junk flow rest L n pos PC (compileSq Γp cond).1 _ hl hL
        have runCond := runSq M hO hP hsz cond Γp q _ flow rest (L ++ [flow]) (.exit res) ⟨hlc, rfl⟩ hw.1 hk.1 hLp hncp
          hselfp hc
        exact M.trans runStart runCond
      | norm vc Lc =>
      simp only at hrest
      obtain ⟨ext, rfl, le, lx⟩ := evalSq_ext cs cond Γp (L ++ [flow]) flow vc Lc hc
      have hclen := compileSq_len cond Γp
      have hncx : nc ≤ (L ++ [flow] ++ ext).length := le_length_append hncp _
      refine M.branch_some hsz n k first rs.isNil (decide ((compileSq Γp cond).2.length > n + 1)) pos PC _
        flow junk vc rest L ext (compileSq Γp cond) (compileSq (compileSq Γp cond).2 cons)
        (compileBrs Γp n rs (if decide ((compileSq Γp cond).2.length > n + 1) = true then k + 1 else k) false) _
        hl rfl hcl hPCs hL (fun h => by rw [compileBrs_isNil Γp n _ false rs h]) ?_ ?_ ?_ ?_
      · exact fun q hq => runSq M hO hP hsz cond Γp q _ flow rest (L ++ [flow]) (.norm vc (L ++ [flow] ++ ext)) ⟨hq, rfl⟩
          hw.1 hk.1 hLp hncp hselfp hc
      · intro hv hneeds
        have hneeds := of_decide_eq_false hneeds
        apply List.eq_nil_of_length_eq_zero
        rw [hclen, hΓ] at hneeds
        omega
      · intro hv q hq hqc
        simp only [hv, if_true] at hrest
        have := runBrs M hO hP hsz rs Γp n _ false q PC flow vc rest L out hq hqc hPCs hw.2.2 hk.2.2 hΓ hL hnc hself
          (fun h => by cases h) (fun _ => C02L.isNil_eq vc hv) hrest
        simpa using this
      · intro hv
        simp only [hv, Bool.false_eq_true, if_false, Option.map_eq_some_iff] at hrest
        obtain ⟨o2, hk2, hmap⟩ := hrest
        have hal : (L ++ [flow] ++ ext).length = (compileSq Γp cond).2.length := by
          rw [hclen, ← hLp]; simp [lx hv]; omega
        refine ⟨o2, fun q hq => runSq M hO hP hsz cons _ q _ flow rest _ o2 ⟨hq, rfl⟩ hw.2.1 hk.2.1 hal hncx
          (hselfp.ext hncp ext) hk2, ?_⟩
        cases o2 with
        | exit res =>
          subst hmap
          simp only [Target, List.take_append_of_le_length hncp]
        | norm w Lk =>
          subst hmap
          obtain ⟨ext2, rfl, le2, _⟩ := evalSq_ext cs cons _ (L ++ [flow] ++ ext) flow w Lk hk2
          refine ⟨rfl, ext2, rfl, fun h => ?_⟩
          rw [compileSq_len, hclen, hΓ] at h
          have h1 := lx hv
          apply List.eq_nil_of_length_eq_zero
          simp only [List.length_append]
          omega
end

end Machine

/-- C02Loc's runs are a machine of level 2 for programs in which nothing is applied (`nc = 0`) -/
theorem machineL (O : Oracle) (P : Prog) (code : Array Instr) :
    Machine O P code sem0 0 0 2 (C02L.ARunsL O P code) where
  trans := C02L.ARunsL.trans
  ofL := id
  func _ _ _ h := absurd h (by decide)
  call _ _ _ h := absurd h (by decide)
  tail _ _ _ h := absurd h (by decide)
  bcall _ _ _ h := absurd h (by decide)
  tailN _ _ _ h := absurd h (by decide)

theorem selfOK_sem0 (L : List Val) : SelfOK sem0 0 0 L :=
  fun _ h => nomatch h

end C02N
