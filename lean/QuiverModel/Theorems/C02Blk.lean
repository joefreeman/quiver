import QuiverModel.Theorems.C02Struct
/-
C02 (compiler correctness), on C02Loc and C02Struct — **blocks with branches and `=>` are compiled correctly**, on
C07's M-VM.

Compile1's fragment extended with `{ | cond => cons | cond | … }` (Core/RefSem/Compile2.lean,
compile_scoped_expression). Its programs are programs of Compile5 (`T2.up …`, C02Up) and C02Loc's `ARunsL` is a
machine of level 2 (`C02N.machineL`), so the structural theorems are those of C02Struct read through the embedding.
`evalFs_ext`, `evalSq_ext` are the statement behind the Reset discipline: a term extends the frame's locals by exactly
its binders (`nbT …`; a block adds none), a sequence by at most that many — exactly that many if its value is not nil
(a short-circuit skips the later steps' Stores).
-/
open QM.VM QM.RefSem.C2
open QM.RefSem.C1 (Pat1 slot patBinds evalPat wfProg)
open C02L

namespace C02B

mutual
  /-- number of binders a term adds to the enclosing scope -/
  def nbT : T2 → Nat
    | .int _ _ => 0
    | .ripple => 0
    | .tup _ fs => nbFs fs
    | .var _ => 0
    | .mtch p => (patBinds p).length
    | .block _ => 0
  def nbCh : Ch2 → Nat
    | .nil => 0
    | .cons t r => nbT t + nbCh r
  def nbFs : Fs2 → Nat
    | .nil => 0
    | .cons c r => nbCh c + nbFs r
  def nbSq : Sq2 → Nat
    | .last c => nbCh c
    | .cons c r => nbCh c + nbSq r
end

mutual
  theorem nbT_up : (t : T2) → C02N.nbT t.up = nbT t
    | .int _ _ => rfl
    | .ripple => rfl
    | .tup _ fs => by simp only [T2.up, C02N.nbT, nbT, nbFs_up fs]
    | .var _ => rfl
    | .mtch _ => rfl
    | .block _ => rfl
  theorem nbCh_up : (c : Ch2) → C02N.nbCh c.up = nbCh c
    | .nil => rfl
    | .cons t r => by simp only [Ch2.up, C02N.nbCh, nbCh, nbT_up t, nbCh_up r]
  theorem nbFs_up : (fs : Fs2) → C02N.nbFs fs.up = nbFs fs
    | .nil => rfl
    | .cons c r => by simp only [Fs2.up, C02N.nbFs, nbFs, nbCh_up c, nbFs_up r]
end

theorem nbSq_up : (sq : Sq2) → C02N.nbSq sq.up = nbSq sq
  | .last c => by simp only [Sq2.up, C02N.nbSq, nbSq, nbCh_up c]
  | .cons c r => by simp only [Sq2.up, C02N.nbSq, nbSq, nbCh_up c, nbSq_up r]

theorem compileFs_len : (fs : Fs2) → (Γ : List String) → (k : Nat) →
      (compileFs Γ fs k).2.length = Γ.length + nbFs fs
  | fs, Γ, k => by rw [← compileFs_up, C02N.compileFs_len, nbFs_up]

theorem evalPat_length (flow : Val) (p : Pat1) (v : Val) (bound : List Val)
    (h : evalPat flow p = some (v, bound)) : bound.length = (patBinds p).length :=
  C02L.evalPat_length flow p v bound h

theorem evalFs_ext : (fs : Fs2) → (Γ : List String) → (L : List Val) → (flow : Val) → (vs L' : List Val) →
      evalFs Γ L flow fs = some (vs, L') → ∃ ext, L' = L ++ ext ∧ ext.length = nbFs fs
  | fs, Γ, L, flow, vs, L', h => by
    rw [← nbFs_up]
    exact C02N.evalFs_ext C02N.sem0 fs.up Γ L flow vs L' (by rw [evalFs_up, h])

theorem evalSq_ext : (sq : Sq2) → (Γ : List String) → (L : List Val) → (flow v : Val) → (L' : List Val) →
      evalSq Γ L flow sq = some (v, L') →
      ∃ ext, L' = L ++ ext ∧ ext.length ≤ nbSq sq ∧ (v.isNil = false → ext.length = nbSq sq)
  | sq, Γ, L, flow, v, L', h => by
    rw [← nbSq_up]
    exact C02N.evalSq_ext C02N.sem0 sq.up Γ L flow v L' (by rw [evalSq_up, h]; rfl)

theorem isNil_eq (v : Val) (h : v.isNil = true) : v = Val.nil := C02L.isNil_eq v h

section Machine
variable {O : Oracle} {P : Prog} {code : Array Instr}

theorem compileT_aruns (hO : OracleIntEq O) (hP : wfProg P) (hsz : code.size < 2 ^ 63 - 1) :
      (t : T2) → (Γ : List String) → (pc : Nat) → (flow : Val) → (rest L : List Val) → (v : Val) →
      (L' : List Val) → C02S.Located code pc (compileT Γ t).1 → wfT P t → L.length = Γ.length →
      evalT Γ L flow t = some (v, L') →
      ARunsL O P code (pc, flow :: rest, L) (pc + (compileT Γ t).1.length, v :: rest, L')
  | t, Γ, pc, flow, rest, L, v, L', hl, hw, hal, hev => by
    have := (C02N.machineL O P code).runT hO hP hsz t.up Γ pc _ flow rest L (.norm v L') ⟨by rwa [compileT_up], rfl⟩
      (wfT_up P t hw) (lvT_up t) hal (Nat.zero_le _) (C02N.selfOK_sem0 L) (by rw [evalT_up, hev]; rfl)
    rwa [compileT_up] at this
theorem compileCh_aruns (hO : OracleIntEq O) (hP : wfProg P) (hsz : code.size < 2 ^ 63 - 1) :
      (c : Ch2) → (Γ : List String) → (pc : Nat) → (flow : Val) → (rest L : List Val) → (v : Val) →
      (L' : List Val) → C02S.Located code pc (compileCh Γ c).1 → wfCh P c → L.length = Γ.length →
      evalCh Γ L flow c = some (v, L') →
      ARunsL O P code (pc, flow :: rest, L) (pc + (compileCh Γ c).1.length, v :: rest, L')
  | c, Γ, pc, flow, rest, L, v, L', hl, hw, hal, hev => by
    have := (C02N.machineL O P code).runCh hO hP hsz c.up Γ pc _ flow rest L (.norm v L') ⟨by rwa [compileCh_up], rfl⟩
      (wfCh_up P c hw) (lvCh_up c) hal (Nat.zero_le _) (C02N.selfOK_sem0 L) (by rw [evalCh_up, hev]; rfl)
    rwa [compileCh_up] at this
theorem compileFs_aruns (hO : OracleIntEq O) (hP : wfProg P) (hsz : code.size < 2 ^ 63 - 1) :
      (fs : Fs2) → (Γ : List String) → (pc : Nat) → (flow : Val) → (rest L acc vs : List Val) →
      (L' : List Val) → C02S.Located code pc (compileFs Γ fs acc.length).1 → wfFs P fs →
      L.length = Γ.length → evalFs Γ L flow fs = some (vs, L') →
      ARunsL O P code (pc, acc.reverse ++ flow :: rest, L)
          (pc + (compileFs Γ fs acc.length).1.length, (acc ++ vs).reverse ++ flow :: rest, L') ∧
        vs.length = fs.length
  | fs, Γ, pc, flow, rest, L, acc, vs, L', hl, hw, hal, hev => by
    have := (C02N.machineL O P code).runFs hO hP hsz fs.up Γ pc _ flow rest L acc vs L' ⟨by rwa [compileFs_up], rfl⟩
      (wfFs_up P fs hw) (lvFs_up fs) hal (Nat.zero_le _) (C02N.selfOK_sem0 L) (by rw [evalFs_up, hev])
    rwa [compileFs_up, Fs2.length_up] at this
theorem compileSq_aruns (hO : OracleIntEq O) (hP : wfProg P) (hsz : code.size < 2 ^ 63 - 1) :
      (sq : Sq2) → (Γ : List String) → (pc : Nat) → (flow : Val) → (rest L : List Val) → (v : Val) →
      (L' : List Val) → C02S.Located code pc (compileSq Γ sq).1 → wfSq P sq → L.length = Γ.length →
      evalSq Γ L flow sq = some (v, L') →
      ARunsL O P code (pc, flow :: rest, L) (pc + (compileSq Γ sq).1.length, v :: rest, L')
  | sq, Γ, pc, flow, rest, L, v, L', hl, hw, hal, hev => by
    have := (C02N.machineL O P code).runSq hO hP hsz sq.up Γ pc _ flow rest L (.norm v L') ⟨by rwa [compileSq_up], rfl⟩
      (wfSq_up P sq hw) (lvSq_up sq) hal (Nat.zero_le _) (C02N.selfOK_sem0 L) (by rw [evalSq_up, hev]; rfl)
    rwa [compileSq_up] at this
/-- the branches from one on: from the branch's start (with the previous condition's nil on the stack
unless it is the first) to the parameter clear at `PC`, value on the stack, locals `L ++ [parameter]` -/
theorem compileBrs_aruns (hO : OracleIntEq O) (hP : wfProg P) (hsz : code.size < 2 ^ 63 - 1) :
      (bs : Brs2) → (Γp : List String) → (n k : Nat) → (first : Bool) → (pos PC : Nat) →
      (flow junk : Val) → (rest L : List Val) → (v : Val) →
      C02S.Located code pos (compileBrs Γp n bs k first).1 →
      pos + (compileBrs Γp n bs k first).1.length = PC →
      C02S.Located code (PC + 2 + 2 * k) (compileBrs Γp n bs k first).2 →
      PC < code.size → wfBrs P bs → Γp.length = n + 1 → L.length = n →
      (first = true → bs.isNil = false) → (first = false → junk = Val.nil) →
      evalBrs Γp (L ++ [flow]) flow bs = some v →
      ARunsL O P code (pos, (if first then rest else junk :: rest), L ++ [flow]) (PC, v :: rest, L ++ [flow])
  | bs, Γp, n, k, first, pos, PC, flow, junk, rest, L, v, hl, hPC, hcl, hPCs, hw, hΓ, hL, hf, hj, hev =>
    (C02N.machineL O P code).runBrs hO hP hsz bs.up Γp n k first pos PC flow junk rest L (.norm v (L ++ [flow]))
      ⟨by rwa [compileBrs_up], by rwa [compileBrs_up]⟩ (by rwa [compileBrs_up]) hPCs (wfBrs_up P bs hw) (lvBrs_up bs)
      hΓ hL (Nat.zero_le _) (C02N.selfOK_sem0 L) (by rwa [Brs2.isNil_up]) hj (by rw [evalBrs_up, hev]; rfl)

end Machine

/-- **Blocks are compiled correctly** (with everything of C02Loc inside them and around them): a process
of M-VM whose current function contains the code of the sequence `c₁, c₂, …` — terms: integer literals,
`~`, tuples, variable reads, simple matches, and BLOCKS `{ | cond => cons | cond | … }` nested to any
depth — compiled with the slot names `Γ`, at `pc`, whose frame's locals `L` are aligned with `Γ`, with the
flowing value on top of its stack, reaches the end of that code by `Executor::step` units alone, with
the sequence's value in place of the flowing value and the frame's locals as `evalSq` says — for a block:
exactly the locals before it (the Reset discipline: per-branch `Reset(n+1)`, cleanup blocks, parameter
clear `Reset(n)`). The locals of the frames below and the rest of the stack are untouched. -/
theorem compileSq2_correct (O : Oracle) (P : Prog) (hO : OracleIntEq O) (hP : wfProg P) (fn : Function)
    (f : Frame) (r : List Frame) (pre : List Val) (hfn : P.functions[f.functionIndex]? = some fn)
    (hsz : fn.instructions.size < 2 ^ 63 - 1) (sq : Sq2) (Γ : List String) (pc : Nat) (flow : Val)
    (rest L : List Val) (v : Val) (L' : List Val)
    (hl : C02S.Located fn.instructions pc (compileSq Γ sq).1) (hw : wfSq P sq)
    (hal : L.length = Γ.length) (hev : evalSq Γ L flow sq = some (v, L'))
    (p : Proc) (hp : InvL p f r pre pc (flow :: rest) L) :
    ∃ q, C02S.TRuns O P p q ∧ InvL q f r pre (pc + (compileSq Γ sq).1.length) (v :: rest) L' :=
  liftL O P fn f r pre hfn (compileSq_aruns hO hP hsz sq Γ pc flow rest L v L' hl hw hal hev) p hp

/-- the block itself: afterwards the frame's locals are exactly those before it -/
theorem block_restores_locals (Γ : List String) (L : List Val) (flow v : Val) (L' : List Val) (bs : Brs2)
    (h : evalT Γ L flow (.block bs) = some (v, L')) : L' = L := by
  simp only [evalT, Option.map_eq_some_iff, Prod.mk.injEq] at h
  obtain ⟨_, _, _, rfl⟩ := h
  rfl

end C02B
