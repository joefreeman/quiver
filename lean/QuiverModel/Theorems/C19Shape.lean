import QuiverModel.Core.Dict
import QuiverModel.Generated.DictShape
/-
C19 — the model mirrors the source that exists NOW. `Generated/DictShape.lean` is regenerated from
`/repo/std/dict.qv` (real parser) and `builtins/binary.rs` before every build of this file.
-/
namespace C19
open QM.Dict

/-- the shape of the live `std/dict.qv` (type aliases; per definition and per exported field: type
parameters, parameter type, number of branches, callees and integer literals in order, structural
skeleton) is the shape M-Dict was written against -/
theorem dict_shape_matches : QM.Generated.dictShape = QM.Dict.modelShape := rfl

/-- the FNV-1a parameters in `builtin_binary_hash32` are the ones the model's hash uses … -/
theorem hash_constants_match :
    QM.Generated.hashOffset32 = modelHashOffset32 ∧ QM.Generated.hashPrime32 = modelHashPrime32 := by
  decide

/-- … literally: `fnv1a32` folds `(h ^ byte) * prime mod 2^32` from `offset` -/
theorem model_hash_uses_them (bs : List UInt8) :
    fnv1a32 bs = bs.foldl (fun h b => ((h ^^^ b.toNat) * modelHashPrime32) % 2 ^ 32) modelHashOffset32 :=
  rfl

/-- the constants the trie arithmetic is built on, as they appear in the source: fragments are
masked with 31 (5 bits), levels advance by 5, the root is entered at shift 0. (A statement about the shape table; that
`QM.Dict.fragment` and the `shift + 5` of `get`/`put`/`remove` use the same numbers is read off their definitions.) -/
theorem trie_constants :
    (modelShape.defs.find? (·.name = "fragment")).map (·.ints) = some [0, 31] ∧
    (modelShape.defs.find? (·.name = "get")).map (·.ints) = some [1, 0, 5] ∧
    (modelShape.exports.find? (·.name = "get")).map (·.ints) = some [0] ∧
    (modelShape.exports.map (·.name)) =
      ["new", "get", "put", "remove", "has?", "count", "entries", "keys", "values", "iter", "from", "merge"] := by
  decide +kernel

end C19
