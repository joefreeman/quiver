import QuiverModel.Lemmas.Exec.Select
import QuiverModel.Core.Types.Compat
/-
C05 — Select follows its documented semantics: priority, filters, timeouts. Property theorems
(every theorem here is `C05.<name>`; `ProcInv`, `selectSpec_congr`, `effDur_*` are their local helpers, the lemmas about the
machine live in Lemmas/Exec/Select.lean).

The model is `QM.Exec` (Core/Exec/Select.lean): `handleSelect` mirrors `Executor::handle_select`
branch by branch. All statements are about ONE execution of the Select instruction ("the completing
(re-)entry") on the process state *at that execution*:

  mailbox   = everything delivered so far and not yet taken — including what arrived while receive
              functions ran across time slices;
  results   = `Proc.knownResults`: what `notify_result` / `notify_failure` recorded for the select's
              targets so far;
  start     = the stored `start_time`, or the clock of this execution when none is stored yet;
  now       = the clock passed to this execution.

That is the true reading of "the state at the moment it completes": the machine re-scans ALL sources
in written order on every re-entry, so a verdict computed earlier (on a message that is still in the
mailbox, by a pure filter) is the only thing carried over, and it is re-validated by the invariant
`Inv` (`cursor_sound`). Hypotheses common to the main theorems:

  `Inv p.mailbox st`   — the select invariant; established by `initialize_select`, preserved by every
                         event (`inv_initialize`, `inv_reenter`, `inv_message`, `inv_run`);
  `VerdictOf st top`   — the value on the stack is what the pending receive function returns on the
                         held message (receive functions are pure: spec.md "avoid side effects in a
                         filter, since it may be evaluated multiple times").
-/
namespace C05
open QM QM.Exec
variable {V : Type}

/-- Whenever the select completes, it yields what `selectSpec` yields on the state at that moment:
    the first source, in written order, that is ready. -/
theorem select_completes_with_spec (p : Proc V) (st : SelState V) (now : Nat) (srcs : List (Source V))
    (top : Yield V) (hsel : p.sel = some st) (hinv : Inv p.mailbox st) (hv : VerdictOf st top)
    (p' : Proc V) (y : Yield V) (h : handleSelect p now srcs top = (p', .completed y)) :
    ∃ taken, selectSpec p.mailbox p.knownResults (st.startTime.getD now) now st.sources = .yields y taken := by
  cases handleSelect_spec p st now srcs top hsel hinv hv p' _ h with
  | completed taken _ spec => exact ⟨taken, spec⟩

/-- The error of a failed awaited process (or of an invalid source) propagates exactly when that
    source is the first ready one in written order (/repo from bc74ad3: a failure is a ready source). -/
theorem select_fails_with_spec (p : Proc V) (st : SelState V) (now : Nat) (srcs : List (Source V))
    (top : Yield V) (hsel : p.sel = some st) (hinv : Inv p.mailbox st) (hv : VerdictOf st top)
    (p' : Proc V) (e : ErrClass) (h : handleSelect p now srcs top = (p', .failed e)) :
    selectSpec p.mailbox p.knownResults (st.startTime.getD now) now st.sources = .fails e := by
  cases handleSelect_spec p st now srcs top hsel hinv hv p' _ h with
  | failed spec => exact spec

/-- The select parks (`mark_selecting`) only when NO source is ready: readiness is never overlooked. -/
theorem select_parks_only_if_nothing_ready (p : Proc V) (st : SelState V) (now : Nat) (srcs : List (Source V))
    (top : Yield V) (hsel : p.sel = some st) (hinv : Inv p.mailbox st) (hv : VerdictOf st top)
    (p' : Proc V) (h : handleSelect p now srcs top = (p', .parked)) :
    selectSpec p.mailbox p.knownResults (st.startTime.getD now) now st.sources = .notReady := by
  cases handleSelect_spec p st now srcs top hsel hinv hv p' _ h with
  | parked spec => exact spec

/-- On an existing select state the Select instruction has exactly four outcomes: it never panics
    (the `cursors[receive_idx]` index operations are in range) and never re-initialises. -/
theorem select_outcomes (p : Proc V) (st : SelState V) (now : Nat) (srcs : List (Source V))
    (top : Yield V) (hsel : p.sel = some st) (hinv : Inv p.mailbox st) (hv : VerdictOf st top) :
    (∃ y, (handleSelect p now srcs top).2 = .completed y) ∨ (∃ e, (handleSelect p now srcs top).2 = .failed e) ∨
    (handleSelect p now srcs top).2 = .parked ∨ (handleSelect p now srcs top).2 = .calledFilter := by
  cases hres : handleSelect p now srcs top with
  | mk p' res =>
    cases handleSelect_spec p st now srcs top hsel hinv hv p' res hres with
    | completed => exact Or.inl ⟨_, rfl⟩
    | failed => exact Or.inr (Or.inl ⟨_, rfl⟩)
    | parked => exact Or.inr (Or.inr (Or.inl rfl))
    | calledFilter => exact Or.inr (Or.inr (Or.inr rfl))

/-- The mailbox after completion is the mailbox before with exactly the taken message removed (order
    preserved), the select state — cursors included — is gone, and the awaits of this select have
    ended (`complete_select` drops the entries of its process sources). -/
theorem untaken_preserved (p : Proc V) (st : SelState V) (now : Nat) (srcs : List (Source V))
    (top : Yield V) (hsel : p.sel = some st) (hinv : Inv p.mailbox st) (hv : VerdictOf st top)
    (p' : Proc V) (y : Yield V) (h : handleSelect p now srcs top = (p', .completed y)) :
    ∃ taken, selectSpec p.mailbox p.knownResults (st.startTime.getD now) now st.sources = .yields y taken ∧
      p'.mailbox = (match taken with | none => p.mailbox | some i => p.mailbox.eraseIdx i) ∧
      p'.sel = none ∧
      p'.awaiting = dropAwaits st.sources p.awaiting ∧
      p'.awaitingFailed = dropAwaits st.sources p.awaitingFailed := by
  cases handleSelect_spec p st now srcs top hsel hinv hv p' _ h with
  | completed taken mailbox spec sel awaiting awaitingFailed => exact ⟨taken, spec, mailbox, sel, awaiting, awaitingFailed⟩

/-- A taken message is a mailbox message, at the index the specification names, and it is the
    earliest one the taking source accepts. -/
theorem taken_is_earliest_accepted (mb : List V) (results : Nat → Option (Res V)) (start now : Nat) :
    ∀ (srcs : List (Source V)) (y : Yield V) (i : Nat),
      selectSpec mb results start now srcs = .yields y (some i) →
      ∃ m ty f, mb[i]? = some m ∧ y = .value m ∧ Source.receive ty f ∈ srcs ∧
        firstIdx (accepts ty f) mb = some i := by
  intro srcs y i h
  rcases selectSpec_yields h with ⟨_, _, _, _, _, h5⟩ | ⟨ty, f, j, m, h1, h2, h3, h4, h5⟩ | ⟨_, _, _, _, h5⟩
  · cases h5
  · cases h5; exact ⟨m, ty, f, h3, h4, h1, h2⟩
  · cases h5

/-- A new select starts with all cursors at 0 and satisfies the invariant on the WHOLE mailbox: every
    message left behind by an earlier select is receivable again. -/
theorem inv_initialize (p : Proc V) (srcs : List (Source V)) (now : Nat) (top : Yield V) (hsel : p.sel = none) :
    ∃ st, (handleSelect p now srcs top).1.sel = some st ∧ Inv p.mailbox st ∧ st.sources = srcs ∧
      st.receiving = none ∧ (∀ k, st.cursors.getD k 0 = 0) ∧
      (handleSelect p now srcs top).1.mailbox = p.mailbox := by
  unfold handleSelect
  rw [hsel]
  simp only []
  cases hinit : initializeSelect p srcs now with
  | mk p' res =>
    obtain ⟨h1, _, st, h2, h3, h4, h5, h6, _⟩ := initializeSelect_inv p srcs now p' res hinit
    exact ⟨st, h2, h3, h4, h5, h6, h1⟩

/-- The machine inspects the value a receive function returns only for nil-ness: two non-nil results
    are indistinguishable — so the result can never be what the select yields. -/
theorem filter_is_verdict (p : Proc V) (now : Nat) (srcs : List (Source V)) (a b : V) :
    handleSelect p now srcs (.value a) = handleSelect p now srcs (.value b) := by
  unfold handleSelect
  cases p.sel with
  | none => rfl
  | some st =>
    simp only [reenterSelect]
    cases st.receiving with
    | none => rfl
    | some im => simp only [Option.isSome_some, if_true, scanSources_value_irrel _ _ _ _ _ a b]

/-- What a select yields is `nil` (a timeout), a stored result of an awaited process, or a message of
    the mailbox — never anything else. -/
theorem yield_is_message_or_result (p : Proc V) (st : SelState V) (now : Nat) (srcs : List (Source V))
    (top : Yield V) (hsel : p.sel = some st) (hinv : Inv p.mailbox st) (hv : VerdictOf st top)
    (p' : Proc V) (v : V) (h : handleSelect p now srcs top = (p', .completed (.value v))) :
    v ∈ p.mailbox ∨ ∃ t, p.knownResults t = some (.ok v) := by
  cases handleSelect_spec p st now srcs top hsel hinv hv p' _ h with | completed taken _ h1 => ?_
  rcases selectSpec_yields h1 with ⟨t, v', _, h3, h4, _⟩ | ⟨_, _, i, m, _, _, h3, h4, _⟩ | ⟨_, _, _, h4, _⟩
  · cases h4; exact .inr ⟨t, h3⟩
  · cases h4; exact .inl (List.mem_of_getElem? h3)
  · cases h4

/-- Completion with the nil of a timeout implies that a timeout source of this select has run its
    full effective duration since `start`. -/
theorem timeout_not_early (p : Proc V) (st : SelState V) (now : Nat) (srcs : List (Source V))
    (top : Yield V) (hsel : p.sel = some st) (hinv : Inv p.mailbox st) (hv : VerdictOf st top)
    (p' : Proc V) (h : handleSelect p now srcs top = (p', .completed .nil)) :
    ∃ ms, Source.timeout ms ∈ st.sources ∧ effDur ms ≤ now - st.startTime.getD now := by
  cases handleSelect_spec p st now srcs top hsel hinv hv p' _ h with | completed taken _ h1 => ?_
  rcases selectSpec_yields h1 with ⟨_, _, _, _, h4, _⟩ | ⟨_, _, _, _, _, _, _, h4, _⟩ | ⟨ms, h2, h3, _⟩
  · cases h4
  · cases h4
  · exact ⟨ms, h2, h3⟩

/-- What `start` is. Without process sources it is the clock of the initialising execution; with
    process sources nothing is stored at initialisation (the process parks with `Action::Await`), and
    the FIRST execution of the instruction after that — whatever woke the process: normally the merged
    answer to the await query, but a message that arrives earlier wakes it too — stores its own clock.
    Once stored it never changes for this select. (So "start = first evaluation after the initial
    await answers arrived" is true only when nothing else wakes the process first; what always holds
    is: start is the clock of the first evaluation of the sources, which is never before the entry.) -/
theorem start_at_entry_without_awaits (p : Proc V) (srcs : List (Source V)) (now : Nat) (top : Yield V)
    (hsel : p.sel = none) (hno : pidTargets srcs = []) :
    ∃ st, (handleSelect p now srcs top) = ({ p with sel := some st }, .initialized) ∧ st.startTime = some now := by
  unfold handleSelect
  rw [hsel]
  simp [initializeSelect, hno]

/-- with process sources nothing is stored at initialisation -/
theorem start_deferred_with_awaits (p : Proc V) (srcs : List (Source V)) (now : Nat) (top : Yield V)
    (hsel : p.sel = none) (hsome : pidTargets srcs ≠ []) :
    ∃ st, (handleSelect p now srcs top).1.sel = some st ∧ st.startTime = none ∧
      (handleSelect p now srcs top).2 = .awaitAction (pidTargets srcs) := by
  unfold handleSelect
  rw [hsel]
  simp [initializeSelect, hsome]

/-- after an execution on an existing state, a select state that is still there has the stored start time, or the clock of
this execution if none was stored -/
theorem start_fixed_at_first_evaluation (p : Proc V) (st : SelState V) (now : Nat) (srcs : List (Source V))
    (top : Yield V) (hsel : p.sel = some st) (hinv : Inv p.mailbox st) (hv : VerdictOf st top)
    (p' : Proc V) (st' : SelState V) (hsel' : p'.sel = some st')
    (h : (handleSelect p now srcs top).1 = p') :
    st'.startTime = some (st.startTime.getD now) := by
  subst h
  exact (handleSelect_spec p st now srcs top hsel hinv hv _ _ rfl).start_fixed hsel'

/-- The property's own wording: "a timeout yields nil no earlier than its duration after the select
    started waiting". `entry` is the clock at which the select was entered; the hypothesis says what
    `start_at_entry_without_awaits` / `start_fixed_at_first_evaluation` give for a clock that does not
    go backwards: a stored start time is never before the entry, and neither is `now`. -/
theorem timeout_not_early_since_entry (p : Proc V) (st : SelState V) (now entry : Nat) (srcs : List (Source V))
    (top : Yield V) (hsel : p.sel = some st) (hinv : Inv p.mailbox st) (hv : VerdictOf st top)
    (hstart : ∀ s, st.startTime = some s → entry ≤ s) (hnow : entry ≤ now)
    (p' : Proc V) (h : handleSelect p now srcs top = (p', .completed .nil)) :
    ∃ ms, Source.timeout ms ∈ st.sources ∧ effDur ms ≤ now - entry := by
  obtain ⟨ms, h1, h2⟩ := timeout_not_early p st now srcs top hsel hinv hv p' h
  refine ⟨ms, h1, Nat.le_trans h2 (Nat.sub_le_sub_left ?_ now)⟩
  cases hs : st.startTime with
  | none => exact hnow
  | some s => exact hstart s hs

/-- … and that hypothesis is kept by every (re-)entry at a clock that is not before the entry. -/
theorem start_never_before_entry (p : Proc V) (st : SelState V) (now entry : Nat) (srcs : List (Source V))
    (top : Yield V) (hsel : p.sel = some st) (hinv : Inv p.mailbox st) (hv : VerdictOf st top)
    (hstart : ∀ s, st.startTime = some s → entry ≤ s) (hnow : entry ≤ now)
    (st' : SelState V) (hsel' : (handleSelect p now srcs top).1.sel = some st') :
    ∀ s', st'.startTime = some s' → entry ≤ s' := by
  intro s' hs'
  have := start_fixed_at_first_evaluation p st now srcs top hsel hinv hv _ st' hsel' rfl
  rw [this] at hs'
  simp only [Option.some.injEq] at hs'
  subst hs'
  cases hs : st.startTime with
  | none => simpa using hnow
  | some s => simpa using hstart s hs

/-- A message skipped by a cursor was rejected by that source — by type or by its filter. (Filters
    being pure, skipping it again is unobservable.) -/
theorem cursor_sound (mb : List V) (st : SelState V) (hinv : Inv mb st) (k : Nat) (ty : V → Bool)
    (f : Option (V → FilterRes V)) (hk : nthRecv st.sources k = some (ty, f)) (i : Nat)
    (hi : i < st.cursors.getD k 0) :
    ∃ m, mb[i]? = some m ∧ accepts ty f m = false := by
  have hs := hinv.sound k ty f hk
  have hlt : i < mb.length := Nat.lt_of_lt_of_le hi hs.le
  refine ⟨mb[i], by simp [hlt], hs.rejected _ ?_⟩
  rw [List.mem_take_iff_getElem]
  exact ⟨i, by omega, rfl⟩

/-- The invariant of a live process: its select state (if any) satisfies `Inv` on its mailbox. (A failed process keeps its
select state, `stepSelect`; the histories below are about live processes, hence the guard.) -/
def ProcInv (p : Proc V) : Prop := p.result = none → ∀ st, p.sel = some st → Inv p.mailbox st

/-- A message arrival keeps the invariant (the mailbox only grows at the end). -/
theorem inv_message (p : Proc V) (m : V) (h : ProcInv p) : ProcInv (p.pushMessage m) := by
  intro hr st hsel
  exact (h hr st hsel).pushMessage m

/-- A (re-)entry that does not complete leaves a state that satisfies the invariant again. -/
theorem inv_reenter (p : Proc V) (st : SelState V) (now : Nat) (srcs : List (Source V)) (top : Yield V)
    (hsel : p.sel = some st) (hinv : Inv p.mailbox st) (hv : VerdictOf st top)
    (st' : SelState V) (hres : (handleSelect p now srcs top).2 = .parked ∨ (handleSelect p now srcs top).2 = .calledFilter)
    (hsel' : (handleSelect p now srcs top).1.sel = some st') :
    Inv (handleSelect p now srcs top).1.mailbox st' ∧ st'.sources = st.sources := by
  cases hh : handleSelect p now srcs top with
  | mk p' res =>
    rw [hh] at hres hsel'
    simp only [] at hres hsel'
    cases handleSelect_spec p st now srcs top hsel hinv hv p' res hh with
    | completed | failed => rcases hres with h | h <;> cases h
    | parked _ _ w | calledFilter _ w => cases w.sel.symm.trans hsel'; exact ⟨w.mailbox ▸ w.inv, w.sources⟩

/-- Every event keeps the invariant … -/
theorem inv_step (p : Proc V) (e : Event V) (h : ProcInv p) : ProcInv (p.step e) := by
  cases e with
  | msg m => exact inv_message p m h
  | resultOk pid v =>
    simp only [Proc.step, Proc.storeResult]
    split
    · exact h
    · exact h
  | failure pid err =>
    simp only [Proc.step]
    split
    · exact h
    · exact h
  | select now srcs =>
    simp only [Proc.step]
    split
    · exact h
    · rename_i hres
      have hres : p.result = none := by simpa using hres
      intro hr' st' hsel'
      rcases stepSelectPure_cases p now srcs with ⟨e, he⟩ | ⟨top, he, hv⟩
      · rw [he] at hr'; simp at hr'
      · rw [he] at hr' hsel' ⊢
        obtain ⟨h1, h2, _, h4⟩ := stepSelect_proj p now srcs top
        rw [h1]; rw [h2] at hsel'
        have hnf := h4 hr'
        cases hsel : p.sel with
        | none =>
          obtain ⟨st0, g1, g2, _, _, _, g6⟩ := inv_initialize p srcs now top hsel
          rw [g1] at hsel'; simp only [Option.some.injEq] at hsel'; subst hsel'
          rw [g6]; exact g2
        | some st =>
          have hinv := h hres st hsel
          cases hh : handleSelect p now srcs top with
          | mk p' res =>
            rw [hh] at hsel' hnf
            simp only [] at hsel' hnf ⊢
            cases handleSelect_spec p st now srcs top hsel hinv (hv st hsel) p' res hh with
            | completed _ _ _ sel => cases sel.symm.trans hsel'
            | failed => exact (hnf _ rfl).elim
            | parked _ _ w | calledFilter _ w => cases w.sel.symm.trans hsel'; exact w.mailbox ▸ w.inv

/-- … so it holds after every history, of any length, in any order, from any process that satisfies it (the fresh one does: `inv_fresh`). -/
theorem inv_run (es : List (Event V)) : ∀ (p : Proc V), ProcInv p → ProcInv (p.run es) := by
  induction es with
  | nil => intro p h; exact h
  | cons e rest ih => intro p h; exact ih _ (inv_step p e h)

theorem inv_fresh : ProcInv ({} : Proc V) := by
  intro _ st h; cases h

/-- The headline, quantified over histories: after ANY sequence of message arrivals, result /
    failure notifications and (re-)entries at any clock values, if the next execution of the Select
    instruction completes, it yields `selectSpec` on the process state at that execution. -/
theorem history_completion_with_spec (es : List (Event V)) (now : Nat) (srcs : List (Source V))
    (st : SelState V) (hsel : (({} : Proc V).run es).sel = some st)
    (hlive : (({} : Proc V).run es).result = none)
    (p' : Proc V) (y : Yield V)
    (h : stepSelectPure (({} : Proc V).run es) now srcs = (p', .completed y)) :
    ∃ taken, selectSpec (({} : Proc V).run es).mailbox (({} : Proc V).run es).knownResults
        (st.startTime.getD now) now st.sources = .yields y taken ∧
      p'.mailbox = (match taken with
        | none => (({} : Proc V).run es).mailbox
        | some i => (({} : Proc V).run es).mailbox.eraseIdx i) := by
  have hinv := inv_run es _ inv_fresh hlive st hsel
  generalize ({} : Proc V).run es = p at *
  rcases stepSelectPure_cases p now srcs with ⟨e, he⟩ | ⟨top, he, hv⟩
  · rw [he] at h; simp at h
  · rw [he] at h
    obtain ⟨h1, _, h3, _⟩ := stepSelect_proj p now srcs top
    rw [h] at h1 h3
    simp only [] at h1 h3
    cases hh : handleSelect p now srcs top with
    | mk p'' res =>
      rw [hh] at h1 h3
      simp only [] at h1 h3
      subst h3
      cases handleSelect_spec p st now srcs top hsel hinv (hv st hsel) _ _ hh with
      | completed taken g2 g1 => exact ⟨taken, g1, by rw [h1]; exact g2⟩


/-- `check_expired_timeouts` re-queues a parked process exactly when one of its timeouts has expired
    (and touches nothing else). -/
theorem expiry_wakes (ex : Exec V) (now pid : Nat) :
    (pid ∈ (ex.checkExpiredTimeouts now).selecting ↔ pid ∈ ex.selecting ∧ ex.isExpired now pid = false) ∧
    (pid ∈ (ex.checkExpiredTimeouts now).queue ↔
      pid ∈ ex.queue ∨ (pid ∈ ex.selecting ∧ ex.isExpired now pid = true)) ∧
    (ex.checkExpiredTimeouts now).procs = ex.procs := by
  simp [Exec.checkExpiredTimeouts, List.mem_filter]

/-- … where "expired" means: it has a select state with a stored start time `s` and a timeout source
    whose effective duration has elapsed, `now − s ≥ d` (saturating subtraction, `≥` not `>`). -/
theorem expired_iff (ex : Exec V) (now pid : Nat) :
    ex.isExpired now pid = true ↔
      ∃ p st s ms, ex.getProc pid = some p ∧ p.sel = some st ∧ st.startTime = some s ∧
        Source.timeout ms ∈ st.sources ∧ effDur ms ≤ now - s := by
  unfold Exec.isExpired
  cases hp : ex.getProc pid with
  | none => simp
  | some p =>
    simp only [timeoutExpired_iff]
    constructor
    · rintro ⟨st, s, ms, h1, h2, h3, h4⟩; exact ⟨p, st, s, ms, rfl, h1, h2, h3, h4⟩
    · rintro ⟨p', st, s, ms, h0, h1, h2, h3, h4⟩
      simp only [Option.some.injEq] at h0; subst h0
      exact ⟨st, s, ms, h1, h2, h3, h4⟩

/-- `next_timeout_ms` is the minimum expiry instant over the parked processes that have one
    (`nextExpiry_some`: start + least effective duration, saturated at `u64::MAX`). -/
theorem next_timeout_is_min (ex : Exec V) (t : Nat) (h : ex.nextTimeoutMs = some t) :
    (∃ pid p, pid ∈ ex.selecting ∧ ex.getProc pid = some p ∧ p.nextExpiry = some t) ∧
    (∀ pid p e, pid ∈ ex.selecting → ex.getProc pid = some p → p.nextExpiry = some e → t ≤ e) := by
  unfold Exec.nextTimeoutMs at h
  obtain ⟨h1, h2⟩ := listMin_some _ t h
  constructor
  · obtain ⟨pid, hpid, hb⟩ := List.mem_filterMap.mp h1
    cases hp : ex.getProc pid with
    | none => rw [hp] at hb; simp at hb
    | some p => rw [hp] at hb; exact ⟨pid, p, hpid, hp, by simpa using hb⟩
  · intro pid p e hpid hp he
    apply h2
    exact List.mem_filterMap.mpr ⟨pid, hpid, by simp [hp, he]⟩

theorem next_timeout_none_iff (ex : Exec V) :
    ex.nextTimeoutMs = none ↔
      ∀ pid p, pid ∈ ex.selecting → ex.getProc pid = some p → p.nextExpiry = none := by
  unfold Exec.nextTimeoutMs
  rw [listMin_none]
  constructor
  · intro h pid p hpid hp
    cases he : p.nextExpiry with
    | none => rfl
    | some e =>
      have : e ∈ ex.selecting.filterMap (fun pid => (ex.getProc pid).bind Proc.nextExpiry) :=
        List.mem_filterMap.mpr ⟨pid, hpid, by simp [hp, he]⟩
      rw [h] at this; simp at this
  · intro h
    apply List.eq_nil_iff_forall_not_mem.mpr
    intro e he
    obtain ⟨pid, hpid, hb⟩ := List.mem_filterMap.mp he
    cases hp : ex.getProc pid with
    | none => rw [hp] at hb; simp at hb
    | some p => rw [hp] at hb; simp only [Option.bind_some] at hb; rw [h pid p hpid hp] at hb; cases hb

/-- A runtime that sleeps until `next_timeout_ms` misses no wake-up and wakes nobody early: with a
    clock that has not gone backwards for any parked process and is below `u64::MAX`,
    `check_expired_timeouts now` wakes somebody iff `next_timeout_ms ≤ now`. -/
theorem wakes_iff_next_timeout_reached (ex : Exec V) (now : Nat) (hnow : now < u64Max)
    (hmono : ∀ pid p st s, pid ∈ ex.selecting → ex.getProc pid = some p → p.sel = some st →
      st.startTime = some s → s ≤ now) :
    (∃ pid, pid ∈ ex.selecting ∧ ex.isExpired now pid = true) ↔ ∃ t, ex.nextTimeoutMs = some t ∧ t ≤ now := by
  constructor
  · rintro ⟨pid, hpid, hexp⟩
    obtain ⟨p, st, s, ms, h0, h1, h2, h3, h4⟩ := (expired_iff ex now pid).mp hexp
    have hs := hmono pid p st s hpid h0 h1 h2
    have : p.timeoutExpired now = true := (timeoutExpired_iff p now).mpr ⟨st, s, ms, h1, h2, h3, h4⟩
    obtain ⟨e, he, hle⟩ := (timeoutExpired_iff_nextExpiry_le p st s now h1 h2 hs hnow).mp this
    cases hn : ex.nextTimeoutMs with
    | none => rw [(next_timeout_none_iff ex).mp hn pid p hpid h0] at he; cases he
    | some t =>
      obtain ⟨_, hmin⟩ := next_timeout_is_min ex t hn
      exact ⟨t, rfl, Nat.le_trans (hmin pid p e hpid h0 he) hle⟩
  · rintro ⟨t, ht, hle⟩
    obtain ⟨⟨pid, p, hpid, hp, he⟩, _⟩ := next_timeout_is_min ex t ht
    obtain ⟨st, s, _, h1, h2, _⟩ := (nextExpiry_some p t).mp he
    have hs := hmono pid p st s hpid hp h1 h2
    have := (timeoutExpired_iff_nextExpiry_le p st s now h1 h2 hs hnow).mpr ⟨t, he, hle⟩
    exact ⟨pid, hpid, by simp [Exec.isExpired, hp, this]⟩

theorem effDur_nonneg_in_range (ms : Int) (h0 : 0 ≤ ms) (h1 : ms ≤ i64Max) : effDur ms = ms.toNat := by
  have : i64Min ≤ ms := by unfold i64Min; omega
  simp [effDur, toI64OrMax, this, h1, Int.max_eq_left h0]

theorem effDur_negative_in_range (ms : Int) (h0 : ms < 0) (h1 : i64Min ≤ ms) : effDur ms = 0 := by
  have : ms ≤ i64Max := by unfold i64Max; omega
  simp [effDur, toI64OrMax, this, h1]
  omega

/-- Observation (not a violation of C05: "no earlier than its duration" holds trivially): an integer
    BELOW `i64::MIN` is not treated as a negative duration (fire at once) but, like one above
    `i64::MAX`, as unbounded — `to_i64().unwrap_or(i64::MAX)` applies to both sides. -/
theorem effDur_out_of_range (ms : Int) (h : ms < i64Min ∨ i64Max < ms) : effDur ms = i64Max.toNat := by
  have : ¬ (i64Min ≤ ms ∧ ms ≤ i64Max) := by omega
  unfold effDur toI64OrMax
  rw [if_neg this]
  decide


/-- After a select has completed, the process no longer awaits any of that select's targets … -/
theorem completion_ends_awaits (p : Proc V) (st : SelState V) (now : Nat) (srcs : List (Source V))
    (top : Yield V) (hsel : p.sel = some st) (hinv : Inv p.mailbox st) (hv : VerdictOf st top)
    (p' : Proc V) (y : Yield V) (h : handleSelect p now srcs top = (p', .completed y))
    (t : Nat) (ht : Source.await t ∈ st.sources) :
    p'.stillAwaiting t = false ∧ amLookup t p'.awaitingFailed = none := by
  cases handleSelect_spec p st now srcs top hsel hinv hv p' _ h with | completed _ _ _ _ h4 h5 => ?_
  constructor
  · simp [Proc.stillAwaiting, h4, amLookup_dropAwaits_mem st.sources p.awaiting t ht]
  · rw [h5]; exact amLookup_dropAwaits_mem st.sources p.awaitingFailed t ht

/-- … so a later failure (or result) of such a target does not concern it any more: the
    notification leaves the whole executor unchanged (no kill, no stored value, no wake-up of a
    process that did not ask). Likewise for a process that has already finished or failed. -/
theorem stale_failure_has_no_effect (ex : Exec V) (awaiter awaited : Nat) (e : ErrClass) (p : Proc V)
    (hp : ex.getProc awaiter = some p) (hstale : p.stillAwaiting awaited = false) :
    ex.notifyFailure awaiter awaited e = ex := by
  simp [Exec.notifyFailure, hp, hstale]

theorem stale_result_is_not_stored (p : Proc V) (awaited : Nat) (v : V)
    (hstale : p.stillAwaiting awaited = false) : p.storeResult awaited v = p := by
  simp [Proc.storeResult, hstale]

/-- A recorded failure never changes the result of the awaiter by itself: the error reaches the
    process only through its select, in source order (`select_fails_with_spec`). -/
theorem failure_is_recorded_not_applied (ex : Exec V) (awaiter awaited : Nat) (e : ErrClass) (p : Proc V)
    (hp : ex.getProc awaiter = some p) :
    ∃ p', (ex.notifyFailure awaiter awaited e).getProc awaiter = some p' ∧ p'.result = p.result ∧
      p'.mailbox = p.mailbox := by
  unfold Exec.notifyFailure
  rw [hp]
  simp only []
  split
  · refine ⟨p.recordFailure awaited e, ?_, rfl, rfl⟩
    unfold Exec.wake
    split <;> simp [Exec.getProc, Exec.setProc, amLookup_insert_self]
  · exact ⟨p, hp, rfl, rfl⟩

/-! ### Witnesses of the defects repaired in /repo bc74ad3 (the behaviour before it is kept as definitions in the model) -/

/-- a process that finished with `Ok 7` after `! [q, 5]` timed out; `q` is pid 1 -/
def finishedProc : Proc Nat := { result := some (.ok 7), awaiting := [(1, none)] }

/-- /repo before bc74ad3 (`killAwaiterOld`): the awaiting entry was never removed and the failure of pid 1 was
    applied by overwriting the result: the finished process turned into a failed one. -/
theorem old_failure_overwrote_finished_result :
    (((({ procs := [(0, finishedProc)] } : Exec Nat).killAwaiterOld 0 .invalidArgument).getProc 0).map (·.result))
      = some (some (.err .invalidArgument)) := by decide

/-- /repo from bc74ad3: the same notification is ignored. -/
theorem new_failure_ignores_finished_process :
    (((({ procs := [(0, finishedProc)] } : Exec Nat).notifyFailure 0 1 .invalidArgument).getProc 0).map (·.result))
      = some (some (.ok 7)) := by decide

/-- `! [2, q]` whose timeout (source 0) has expired while parked; then q's failure arrives. Before bc74ad3
    the process was failed on arrival; from bc74ad3 the failure is recorded, the re-entry yields the nil of the
    higher-priority timeout. -/
def parkedOnTimeoutAndAwait : Proc Nat :=
  { awaiting := [(1, none)],
    sel := some { sources := [.timeout 2, .await 1], cursors := [], startTime := some 0, receiving := none } }

theorem new_error_does_not_preempt_ready_timeout :
    (stepSelectPure (((({ procs := [(0, parkedOnTimeoutAndAwait)], selecting := [0] } : Exec Nat).notifyFailure 0 1
        .invalidArgument).getProc 0).getD {}) 10 []).2 = .completed .nil := by decide

theorem old_error_preempted_ready_timeout :
    (((({ procs := [(0, parkedOnTimeoutAndAwait)], selecting := [0] } : Exec Nat).killAwaiterOld 0
        .invalidArgument).getProc 0).map (·.result)) = some (some (.err .invalidArgument)) := by decide

/-- … and when the failed process IS the first ready source, its error propagates. -/
theorem error_propagates_in_order :
    (stepSelectPure (((({ procs := [(0, parkedOnTimeoutAndAwait)], selecting := [0] } : Exec Nat).notifyFailure 0 1
        .invalidArgument).getProc 0).getD {}) 1 []).2 = .failed .invalidArgument := by decide

/-! ### Examples: the hypotheses are satisfiable by non-trivial histories -/

/-- sources `[#int {even}, #bin, 10]` over `Nat` messages: "int" = below 100, "bin" = from 100 -/
def exSources : List (Source Nat) :=
  [.receive (fun m => m < 100) (some (fun m => if m % 2 = 0 then .ret (.value 999) else .ret .nil)),
   .receive (fun m => m ≥ 100) none,
   .timeout 10]

/-- entry at t=5; 3 arrives; the filter is called on 3; while it runs, 4 arrives; re-entry (verdict
    nil → cursor moves on, filter called on 4); while it runs, the "bin" 100 arrives -/
def exHistory : List (Event Nat) :=
  [.select 5 exSources, .msg 3, .select 5 exSources, .msg 4, .select 6 exSources, .msg 100]

/-- the next execution completes with the MESSAGE 4 (not the filter's 999, not the "bin" 100 of the
    lower-priority source), and leaves `[3, 100]` in that order -/
example : (stepSelectPure (({} : Proc Nat).run exHistory) 7 exSources).2 = .completed (.value 4) ∧
    (stepSelectPure (({} : Proc Nat).run exHistory) 7 exSources).1.mailbox = [3, 100] ∧
    (({} : Proc Nat).run exHistory).result = none ∧ (({} : Proc Nat).run exHistory).sel.isSome = true := by decide

example : selectSpec [3, 4, 100] (fun _ => none) 5 7 exSources = .yields (.value 4) (some 1) := by decide

/-- F7's shape: `[#bin {Ok}, #str {slow Ok}]` ("bin" < 100 ≤ "str"): the str message 200 arrives, its
    slow filter is called; the bin message 1 arrives; at the re-entry the higher-priority source
    takes over (the pending verdict on 200 is abandoned: `receiving` now holds 1) … -/
def f7Sources : List (Source Nat) :=
  [.receive (fun m => m < 100) (some (fun _ => .ret (.value 999))),
   .receive (fun m => m ≥ 100) (some (fun _ => .ret (.value 999)))]

def f7History : List (Event Nat) :=
  [.select 0 f7Sources, .select 0 f7Sources, .msg 200, .select 1 f7Sources, .msg 1, .select 4 f7Sources]

example : ((({} : Proc Nat).run f7History).sel.map (·.receiving)) = some (some (0, 1)) ∧
    (({} : Proc Nat).run f7History).mailbox = [200, 1] := by decide

/-- … the select then completes with 1, and the abandoned 200 is still in the mailbox for the next
    select (`!#Str[bin]` in the original program). -/
example : (stepSelectPure (({} : Proc Nat).run f7History) 5 f7Sources).2 = .completed (.value 1) ∧
    (stepSelectPure (({} : Proc Nat).run f7History) 5 f7Sources).1.mailbox = [200] := by decide

/-- `expiry_wakes` / `wakes_iff_next_timeout_reached` on a concrete executor: started at 3 with
    timeouts 10 and 4 → next timeout 7; at 6 nobody is woken, at 7 the process is. -/
def exExec : Exec Nat :=
  { procs := [(0, { sel := some { sources := [.timeout 10, .receive (fun _ => true) none, .timeout 4],
                                  cursors := [0], startTime := some 3, receiving := none } })],
    selecting := [0] }

example : exExec.nextTimeoutMs = some 7 ∧ (exExec.checkExpiredTimeouts 6).queue = [] ∧
    (exExec.checkExpiredTimeouts 7).queue = [0] ∧ (exExec.checkExpiredTimeouts 7).selecting = [] := by decide


/-! ## `typeOk` is C08's `check_message_compatible` on the tables of the LAST program update

The abstract predicate `typeOk` of a receive source is, in the executor, `check_message_compatible`:
the concrete tag of the message looked up in `function_param_compatibility` /
`builtin_param_compatibility` — C08's `QM.Types.checkMessage` (Core/Types/Compat.lean;
`C08.mailbox_filter_spec`, `C08.compatSet_spec` say what the tables contain). The tables are
recomputed for the WHOLE merged program and REPLACED by every `update_program`, so a receive function
loaded by an earlier update accepts concrete types that only a later update introduced. -/

/-- the receive source the executor builds from a function / builtin value, against the tables
`fp` / `bp` currently installed; `tagOf` = `get_concrete_type` -/
def tableSource (fp bp : List (List QM.Types.CTag)) (tagOf : V → QM.Types.CTag) (src : QM.Types.Source)
    (filter : Option (V → FilterRes V)) : Source V :=
  .receive (fun m => QM.Types.checkMessage fp bp (tagOf m) src) filter

/-- a type-only receive function with a table entry takes exactly the messages whose concrete tag is in
its compatible set -/
theorem accepts_by_table (fp bp : List (List QM.Types.CTag)) (tagOf : V → QM.Types.CTag) (f : Nat)
    (set : List QM.Types.CTag) (h : fp[f]? = some set) (m : V) :
    accepts (fun m => QM.Types.checkMessage fp bp (tagOf m) (.function f)) none m = set.contains (tagOf m) := by
  simp [accepts, QM.Types.checkMessage, h]

/-- … so the select yields the EARLIEST mailbox message whose tag is in the set installed by the last
update (when no earlier source is ready) -/
theorem spec_takes_earliest_by_table (fp bp : List (List QM.Types.CTag)) (tagOf : V → QM.Types.CTag) (f : Nat)
    (set : List QM.Types.CTag) (h : fp[f]? = some set) (mb : List V) (results : Nat → Option (Res V))
    (start now : Nat) (rest : List (Source V)) (i : Nat) (m : V)
    (hfirst : firstIdx (fun m => set.contains (tagOf m)) mb = some i) (hm : mb[i]? = some m) :
    selectSpec mb results start now (tableSource fp bp tagOf (.function f) none :: rest) = .yields (.value m) (some i) := by
  have hacc : accepts (fun m => QM.Types.checkMessage fp bp (tagOf m) (.function f)) none =
      (fun m => set.contains (tagOf m)) := funext (accepts_by_table fp bp tagOf f set h)
  simp only [selectSpec, tableSource, hacc, hfirst, hm]

/-- if the set a later update installs for the function contains the old
one (types are only ever added), every message accepted before the update is accepted after it -/
theorem acceptance_survives_update (fp bp fp' bp' : List (List QM.Types.CTag)) (tagOf : V → QM.Types.CTag)
    (f : Nat) (set set' : List QM.Types.CTag) (h : fp[f]? = some set) (h' : fp'[f]? = some set')
    (hsub : ∀ c ∈ set, c ∈ set') (m : V)
    (hacc : QM.Types.checkMessage fp bp (tagOf m) (.function f) = true) :
    QM.Types.checkMessage fp' bp' (tagOf m) (.function f) = true := by
  simp only [QM.Types.checkMessage, h, h', List.contains_iff_mem] at hacc ⊢
  exact hsub _ hacc

/-- Witness of seeded/C05-4 (stale tables): function 0 was loaded by update 1 with the set `[tuple 3]`;
update 2 introduces tuple 7, compatible with its (partial) parameter type, and a message of that type
arrives. With the tables of update 2 the select takes it; with the stale entry of update 1 (only the
delta shipped) the message is skipped and the select waits. -/
theorem stale_table_skips_message :
    selectSpec [(7 : Nat)] (fun _ => none) 0 0
      [tableSource [[.tuple 3, .tuple 7]] [] (fun m => QM.Types.CTag.tuple m) (.function 0) none]
      = .yields (.value 7) (some 0) ∧
    selectSpec [(7 : Nat)] (fun _ => none) 0 0
      [tableSource [[.tuple 3]] [] (fun m => QM.Types.CTag.tuple m) (.function 0) none]
      = .notReady := by decide


/-! ## Variant `selectWaitsForAnswer` (patch notes/C05-fixes/01) -/

/-- **Flag off = the code before /repo b0190c3**: while `pid` has no unanswered targets recorded (always the case with
    the flag off — the third conjunct keeps it so), the variant's Select step IS `Exec.selectPure`: every theorem
    above is a theorem about the flag-off machine. -/
theorem variant_off_is_head (w : ExecW V) (pid now : Nat) (srcs : List (Source V)) (hun : w.un pid = []) :
    (w.selectPure {} pid now srcs).1.ex = (w.ex.selectPure pid now srcs).1 ∧
    (w.selectPure {} pid now srcs).2 = (w.ex.selectPure pid now srcs).2 ∧
    (w.selectPure {} pid now srcs).1.un pid = [] := by
  unfold ExecW.selectPure
  cases hp : w.ex.getProc pid with
  | none => simp [Exec.selectPure, hp, hun]
  | some p =>
    cases hs : p.sel with
    | none => simp [hs, ExecW.un, amLookup_insert_self]
    | some st =>
      have hun' : (amLookup pid w.unanswered).getD [] = [] := hun
      simp [hs, ExecW.un, hun']

/-- **Flag on: nothing is evaluated before the answer is in.** A select with an unanswered target parks
    again: no source is looked at, the process record (mailbox, cursors, start time, awaiting) is untouched. -/
theorem waits_parks_before_answer (v : Variant) (w : ExecW V) (pid now : Nat) (srcs : List (Source V))
    (p : Proc V) (st : SelState V) (hp : w.ex.getProc pid = some p) (hs : p.sel = some st) (hun : w.un pid ≠ []) :
    (w.selectPure v pid now srcs).2 = some .parked ∧
    (w.selectPure v pid now srcs).1.ex = w.ex.markSelecting pid ∧
    (w.selectPure v pid now srcs).1.unanswered = w.unanswered := by
  unfold ExecW.selectPure
  have : (w.un pid).isEmpty = false := by
    cases h : w.un pid with
    | nil => exact absurd h hun
    | cons _ _ => rfl
  simp [hp, hs, this]

/-- Flag on: a new select lists exactly its process sources as unanswered. -/
theorem waits_initialize_lists_targets (w : ExecW V) (pid now : Nat) (srcs : List (Source V))
    (p : Proc V) (hp : w.ex.getProc pid = some p) (hs : p.sel = none) :
    (w.selectPure { selectWaitsForAnswer := true } pid now srcs).1.un pid = pidTargets srcs := by
  unfold ExecW.selectPure
  simp [hp, hs, ExecW.un, amLookup_insert_self]

/-- The placeholder answer for `t` removes `t` from the list and nothing else (a result or a failure does the same inside
    `notifyResultOk` / `notifyFailure`, while the target is still awaited). -/
theorem answer_removes_target (w : ExecW V) (a t : Nat) :
    (w.notifyPending a t).un a = (w.un a).filter (· != t) := by
  simp [ExecW.notifyPending, ExecW.markAnswered, ExecW.un, amLookup_insert_self]

/-- Flag on: the select evaluates (reaches `Exec.selectPure`) only with every target answered. -/
theorem waits_evaluates_only_when_answered (v : Variant) (w : ExecW V) (pid now : Nat) (srcs : List (Source V))
    (p : Proc V) (st : SelState V) (hp : w.ex.getProc pid = some p) (hs : p.sel = some st)
    (r : StepRes V) (hr : (w.selectPure v pid now srcs).2 = some r) (hne : r ≠ .parked) : w.un pid = [] := by
  by_cases hun : w.un pid = []
  · exact hun
  · rw [(waits_parks_before_answer v w pid now srcs p st hp hs hun).1] at hr
    cases hr; exact absurd rfl hne

theorem selectSpec_congr (mb : List V) (r1 r2 : Nat → Option (Res V)) (start now : Nat) :
    ∀ (srcs : List (Source V)), (∀ t, t ∈ pidTargets srcs → r1 t = r2 t) →
      selectSpec mb r1 start now srcs = selectSpec mb r2 start now srcs
  | [], _ => rfl
  | .await t :: rest, h => by
    have ht : r1 t = r2 t := h t (by simp [pidTargets])
    have ih := selectSpec_congr mb r1 r2 start now rest (fun t' ht' => h t' (by simp [pidTargets, ht']))
    simp only [selectSpec, ht, ih]
  | .receive ty f :: rest, h => by
    have ih := selectSpec_congr mb r1 r2 start now rest (fun t' ht' => h t' (by simpa [pidTargets] using ht'))
    simp only [selectSpec, ih]
  | .timeout ms :: rest, h => by
    have ih := selectSpec_congr mb r1 r2 start now rest (fun t' ht' => h t' (by simpa [pidTargets] using ht'))
    simp only [selectSpec, ih]
  | .invalid e :: rest, _ => rfl

/-- **Knowledge-based and system-level specification agree once the answers are in**: if every target
    that had certainly finished before the select started is known to the process (what an answer
    delivers: it is produced after the select started, so it carries the result of such a target), the
    first ready source by what is TRUE is the first ready source by what the process KNOWS. With
    `select_completes_with_spec` / `select_fails_with_spec`: under the variant a completing select yields
    the system-level specification. -/
theorem spec_sys_eq_spec_when_answered (mb : List V) (known certain : Nat → Option (Res V)) (start now : Nat)
    (srcs : List (Source V)) (hcov : ∀ t, t ∈ pidTargets srcs → known t = none → certain t = none) :
    selectSpecSys mb known certain start now srcs = selectSpec mb known start now srcs := by
  unfold selectSpecSys
  apply selectSpec_congr
  intro t ht
  unfold sysResults
  cases hk : known t with
  | some r => rfl
  | none => simp [hcov t ht hk]


/-! ### Witnesses (`decide`): `! [p, #'int]`, a message arrives before the await answer; `p` (= process 1)
had finished with 7 before the select started. -/

def raceSources : List (Source Nat) := [.await 1, .receive (fun _ => true) none]

/-- the select is initialised (Action::Await, parked), then the message 5 arrives and wakes it -/
def wokenByMessage (v : Variant) : ExecW Nat :=
  ((({ ex := { procs := [(0, {})] } } : ExecW Nat).selectPure v 0 0 raceSources).1).notifyMessage 0 5

/-- Flag off (the code before /repo b0190c3): the woken select completes with the message although process 1 — whose answer has not
    arrived — finished before the select started: the system-level specification says 7. -/
theorem head_completes_before_answer :
    ((wokenByMessage {}).selectPure {} 0 0 raceSources).2 = some (.completed (.value 5)) ∧
    selectSpecSys [5] (fun _ => none) (fun t => if t = 1 then some (.ok 7) else none) 0 0 raceSources
      = .yields (.value 7) none := by decide

/-- Flag on (/repo from b0190c3): the same wake-up parks again; the placeholder answer alone lets the select go on
    (process 1 unfinished at query time: the message wins, legitimately); the answer carrying 7 makes it
    yield 7 although the message has been in the mailbox all along. -/
theorem waits_parks_then_yields_the_finished_target :
    ((wokenByMessage { selectWaitsForAnswer := true }).selectPure { selectWaitsForAnswer := true } 0 0 raceSources).2
      = some .parked ∧
    ((((wokenByMessage { selectWaitsForAnswer := true }).selectPure { selectWaitsForAnswer := true } 0 0 raceSources).1.notifyResultOk 0 1 7).selectPure
        { selectWaitsForAnswer := true } 0 0 raceSources).2 = some (.completed (.value 7)) ∧
    (((((wokenByMessage { selectWaitsForAnswer := true }).selectPure { selectWaitsForAnswer := true } 0 0 raceSources).1.notifyPending 0 1).wake 0).selectPure
        { selectWaitsForAnswer := true } 0 0 raceSources).2 = some (.completed (.value 5)) := by decide

/-! ## Variant `releaseDead` (notes/C06-fixes/01, `release_dead_roots`) -/

/-- flag off (/repo before 4dd92c6): `notify_message` is `Exec.notifyMessage` -/
theorem release_off_is_old (persistent : Nat → Bool) (ex : Exec V) (pid : Nat) (m : V) :
    Exec.notifyMessageV {} persistent ex pid m = ex.notifyMessage pid m := rfl

/-- what a released (dead, non-persistent) process record keeps: its result — what awaiters and GetResult read — and
    nothing else the select machinery ever looks at -/
theorem released_record (p : Proc V) :
    p.releaseDead.result = p.result ∧ p.releaseDead.mailbox = [] ∧ p.releaseDead.awaiting = [] ∧
    p.releaseDead.awaitingFailed = [] ∧ p.releaseDead.sel = none := ⟨rfl, rfl, rfl, rfl, rfl⟩

/-- flag on: a message for a process that has failed is dropped — the record is untouched, only the wake-up of
    `notify_message` stays (the messages of a LIVE process are untouched by the variant: `untaken_preserved` still
    speaks about every mailbox a select can see) -/
theorem message_for_failed_process_dropped (persistent : Nat → Bool) (ex : Exec V) (pid : Nat) (m : V) (p : Proc V)
    (e : ErrClass) (hp : ex.getProc pid = some p) (hr : p.result = some (.err e)) :
    Exec.notifyMessageV { releaseDead := true } persistent ex pid m = ex.wake pid := by
  simp [Exec.notifyMessageV, hp, Proc.deliverable, hr]

/-- flag on: a live process receives exactly as before -/
theorem message_for_live_process_delivered (persistent : Nat → Bool) (ex : Exec V) (pid : Nat) (m : V) (p : Proc V)
    (hp : ex.getProc pid = some p) (hr : p.result = none) :
    Exec.notifyMessageV { releaseDead := true } persistent ex pid m = ex.notifyMessage pid m := by
  simp [Exec.notifyMessageV, hp, Proc.deliverable, hr]

end C05
