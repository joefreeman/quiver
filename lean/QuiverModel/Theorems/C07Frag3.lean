import QuiverModel.Core.RefSem.Compile3
import QuiverModel.Theorems.C07Frag2
/-
C07 for a compiler fragment, part 3 — function literals with captures, calls and returns: every function the model
compiler of `Core/RefSem/Compile3.lean` (fragment 2 + `#T { … }` literals: `Pop, Load(capture)…, Function(fi)`;
callable variables: `Load, Call` / the nilary form; a function's own code = its body as a block over the captures)
emits is accepted by the checker: `F3.compileSq_checkFn` (top-level sequences), `F3.fnCode_checkFn` (function bodies),
`F3.frag3_no_structural_failure` — with `Call`s, frame pushes and returns, closures carrying captured values.

The constructs of parts 1 and 2 are typed over code lists, not over `Compile1` / `Compile2`, and are used as they are;
only the mutual induction over the term types of `Compile3` is repeated, with three more cases (`fnlit_typed`,
`call_typed`, `callNil_typed`).
-/
namespace QM.C07Frag
open QM.VM

section Singles3
variable {P : Prog} {caps n o : Nat} {X : List (Nat × Ann)} {h l : Nat} {g : Guard}

theorem Blk.call : Blk P caps n o [.call] ⟨h + 2, l, g⟩ [⟨h + 2, l, g⟩] ⟨h + 1, l, .none⟩ X :=
  Blk.single (by simp [transfer]) (Fits.refl _)

/-- `Function(fi)` pops the captured values into the closure -/
theorem Blk.function {fi k : Nat} {fn : Function} (hfn : P.functions[fi]? = some fn) (hc : fn.captures = k) :
    Blk P caps n o [.function fi] ⟨h + k, l, g⟩ [⟨h + k, l, g⟩] ⟨h + 1, l, .none⟩ X :=
  Blk.single (b' := ⟨h + k - fn.captures + 1, l, .none⟩) (by simp [transfer, hfn, hc])
    (Fits.plain (by simp [hc]) (Nat.le_refl _))

end Singles3

namespace F3
open QM.RefSem.C1 (Sub Pat1 slot compilePat patBinds wfPat wfProg)
open QM.RefSem.C2 (resetIf)
open QM.RefSem.C3
open F2 (BrExt brEntry BrsTyped brsNil_typed brsNone_typed brsSome_typed block_typed)

section Constructs
variable {P : Prog} {caps n o h : Nat} {Γ : List String}

theorem loadsOf_typed : ∀ (cs : List String), (∀ c ∈ cs, ∃ i, slot Γ c = some i) → ∀ (o h : Nat),
    Typed P caps n o (loadsOf Γ cs) ⟨h, Γ.length, .none⟩ ⟨h + cs.length, Γ.length, .none⟩ []
  | [], _, _, _ => .nil (Fits.refl _)
  | c :: r, hs, o, h => by
    obtain ⟨i, hi⟩ := hs c List.mem_cons_self
    rw [loadsOf, hi]
    exact .cons (Blk.load (F1.slot_lt Γ c i hi))
      (Nat.add_right_comm h 1 r.length ▸ loadsOf_typed r (fun c' hc' => hs c' (List.mem_cons_of_mem _ hc')) _ (h + 1)) .nil

/-- a function literal: the flowing value is dropped, the captured values (pushed by `loads`) become
the closure -/
theorem fnlit_typed {fi k l : Nat} {loads : List Instr}
    (hw : ∃ fn, P.functions[fi]? = some fn ∧ fn.captures = k)
    (hl : Typed P caps n (o + [Instr.pop].length) loads ⟨h, l, .none⟩ ⟨h + k, l, .none⟩ []) :
    Typed P caps n o ([.pop] ++ (loads ++ [.function fi])) ⟨h + 1, l, .none⟩ ⟨h + 1, l, .none⟩ [] :=
  let ⟨_, hfn, hcap⟩ := hw
  .seq Blk.pop.typed (.seq hl (Blk.function hfn hcap).typed .nil) .nil

theorem call_typed {x : String} (hs : ∃ i, slot Γ x = some i) :
    Typed P caps n o [.load ((slot Γ x).getD 0), .call] ⟨h + 1, Γ.length, .none⟩ ⟨h + 1, Γ.length, .none⟩ [] := by
  obtain ⟨i, hi⟩ := hs
  rw [hi]
  exact .cons (Blk.load (F1.slot_lt Γ x i hi)) Blk.call.typed .nil

/-- a nilary callee: the flowing value is replaced by nil under the function -/
theorem callNil_typed (hP : wfProg P) {x : String} (hs : ∃ i, slot Γ x = some i) :
    Typed P caps n o [.load ((slot Γ x).getD 0), .rotate 2, .pop, .tuple 0, .rotate 2, .call]
      ⟨h + 1, Γ.length, .none⟩ ⟨h + 1, Γ.length, .none⟩ [] := by
  obtain ⟨i, hi⟩ := hs
  rw [hi]
  exact .cons (Blk.load (F1.slot_lt Γ x i hi)) (.cons Blk.rotate2 (.cons Blk.pop
    (.cons (Blk.tuple (h' := h + 1) hP.1 rfl) (.cons Blk.rotate2 Blk.call.typed .nil) .nil) .nil) .nil) .nil

end Constructs

mutual
  def scT (Γ : List String) : T3 → Prop
    | .var x => ∃ i, slot Γ x = some i
    | .tup _ fs => scFs Γ fs
    | .block bs => scBrs (Γ ++ [""]) bs
    | .fnlit _ caps => ∀ c ∈ caps, ∃ i, slot Γ c = some i
    | .call x => ∃ i, slot Γ x = some i
    | .callNil x => ∃ i, slot Γ x = some i
    | _ => True
  def scCh (Γ : List String) : Ch3 → Prop
    | .nil => True
    | .cons t r => scT Γ t ∧ scCh (compileT Γ t).2 r
  def scFs (Γ : List String) : Fs3 → Prop
    | .nil => True
    | .cons c r => scCh Γ c ∧ scFs (compileCh Γ c).2 r
  def scSq (Γ : List String) : Sq3 → Prop
    | .last c => scCh Γ c
    | .cons c r => scCh Γ c ∧ scSq (compileCh Γ c).2 r
  def scBrs (Γp : List String) : Brs3 → Prop
    | .nil => True
    | .cons cond .none rest => scSq Γp cond ∧ scBrs Γp rest
    | .cons cond (.some cons) rest => scSq Γp cond ∧ scSq (compileSq Γp cond).2 cons ∧ scBrs Γp rest
end

mutual
theorem compileT_len : (t : T3) → (Γ : List String) → Γ.length ≤ (compileT Γ t).2.length
  | .int _ _, _ | .ripple, _ | .var _, _ | .block _, _ | .fnlit _ _, _ | .call _, _ | .callNil _, _ =>
    Nat.le_refl _
  | .tup _ fs, Γ => compileFs_len fs Γ 0
  | .mtch _, _ => List.length_append ▸ Nat.le_add_right _ _
theorem compileCh_len : (c : Ch3) → (Γ : List String) → Γ.length ≤ (compileCh Γ c).2.length
  | .nil, _ => Nat.le_refl _
  | .cons t r, Γ => Nat.le_trans (compileT_len t Γ) (compileCh_len r _)
theorem compileFs_len : (fs : Fs3) → (Γ : List String) → (k : Nat) → Γ.length ≤ (compileFs Γ fs k).2.length
  | .nil, _, _ => Nat.le_refl _
  | .cons c r, Γ, k => Nat.le_trans (compileCh_len c Γ) (compileFs_len r _ (k + 1))
theorem compileSq_len : (sq : Sq3) → (Γ : List String) → Γ.length ≤ (compileSq Γ sq).2.length
  | .last c, Γ => compileCh_len c Γ
  | .cons c r, Γ => Nat.le_trans (compileCh_len c Γ) (compileSq_len r _)
end

section Compile
variable {P : Prog} {caps n : Nat}

mutual
theorem compileT_blk (hn : n < maxCode) (hP : wfProg P) : (t : T3) → (Γ : List String) → (o h : Nat) →
    wfT P t → scT Γ t → o + (compileT Γ t).1.length ≤ n →
    ∃ A, Blk P caps n o (compileT Γ t).1 ⟨h + 1, Γ.length, .none⟩ A
      ⟨h + 1, (compileT Γ t).2.length, .none⟩ []
  | .int _ _, _, _, _, hw, _ => F1.int_typed hw
  | .ripple, _, _, _, _, _ => Typed.nil (Fits.refl _)
  | .tup _ fs, Γ, o, h, hw, hs => F1.tup_typed hw.1 (compileFs_blk hn hP fs Γ 0 o h hw.2 hs)
  | .var _, _, _, _, _, hs => F1.var_typed hs
  | .mtch _, _, _, _, hw, _ => F1.mtch_typed hn hP hw
  | .block bs, Γ, o, h, hw, hs =>
    block_typed hn (compileBrs_typed hn hP bs (Γ ++ [""]) Γ.length 0 true (o + 1) h _ _ hw.2 hs
      List.length_append (fun _ => hw.1) rfl)
  | .fnlit _ cs, _, _, h, hw, hs => fnlit_typed hw (loadsOf_typed cs hs _ h)
  | .call _, _, _, _, _, hs => call_typed hs
  | .callNil _, _, _, _, _, hs => callNil_typed hP hs
theorem compileCh_blk (hn : n < maxCode) (hP : wfProg P) : (c : Ch3) → (Γ : List String) → (o h : Nat) →
    wfCh P c → scCh Γ c → o + (compileCh Γ c).1.length ≤ n →
    ∃ A, Blk P caps n o (compileCh Γ c).1 ⟨h + 1, Γ.length, .none⟩ A
      ⟨h + 1, (compileCh Γ c).2.length, .none⟩ []
  | .nil, _, _, _, _, _ => Typed.nil (Fits.refl _)
  | .cons t r, Γ, o, h, hw, hs =>
    Typed.seq (compileT_blk hn hP t Γ o h hw.1 hs.1) (compileCh_blk hn hP r _ _ h hw.2 hs.2) .nil
theorem compileFs_blk (hn : n < maxCode) (hP : wfProg P) : (fs : Fs3) → (Γ : List String) → (k o h : Nat) →
    wfFs P fs → scFs Γ fs → o + (compileFs Γ fs k).1.length ≤ n →
    ∃ A, Blk P caps n o (compileFs Γ fs k).1 ⟨h + 1 + k, Γ.length, .none⟩ A
      ⟨h + 1 + k + fs.length, (compileFs Γ fs k).2.length, .none⟩ []
  | .nil, _, _, _, _, _, _ => Typed.nil (Fits.refl _)
  | .cons c r, Γ, k, _, h, hw, hs =>
    F1.fsCons_typed (compileCh_blk hn hP c Γ _ (h + 1 + k) hw.1 hs.1)
      (compileFs_blk hn hP r _ (k + 1) _ h hw.2 hs.2)
theorem compileSq_blk (hn : n < maxCode) (hP : wfProg P) : (sq : Sq3) → (Γ : List String) → (o h l0 : Nat) →
    wfSq P sq → scSq Γ sq → l0 ≤ Γ.length → o + (compileSq Γ sq).1.length ≤ n →
    ∃ A, Blk P caps n o (compileSq Γ sq).1 ⟨h + 1, Γ.length, .none⟩ A
      ⟨h + 1, l0, .top (compileSq Γ sq).2.length⟩ []
  | .last c, Γ, o, h, _, hw, hs, hl0 =>
    F1.sqLast_typed (compileCh_blk hn hP c Γ o h hw hs) (Nat.le_trans hl0 (compileCh_len c Γ))
  | .cons c r, Γ, o, h, l0, hw, hs, hl0 =>
    have hl := Nat.le_trans hl0 (compileCh_len c Γ)
    F1.sqCons_typed hn (compileCh_blk hn hP c Γ o h hw.1 hs.1) (compileSq_blk hn hP r _ _ h l0 hw.2 hs.2 hl) hl
/-- The branches: main code at `o` (it ends exactly at the parameter clear `PC`), cleanup blocks at
`PC + 2 + 2k`; each cleanup block jumps back INTO the main code (the next branch), so its exits are
typed against the main code's annotations. -/
theorem compileBrs_typed (hn : n < maxCode) (hP : wfProg P) : (bs : Brs3) → (Γp : List String) → (nn k : Nat) →
    (first : Bool) → (o h : Nat) → (main cleanup : List Instr) →
    wfBrs P bs → scBrs Γp bs → Γp.length = nn + 1 → (first = true → bs.isNil = false) →
    compileBrs Γp nn bs k first = (main, cleanup) →
    o + main.length ≤ n → (cleanup ≠ [] → o + main.length + 2 + 2 * k + cleanup.length ≤ n) →
    ∃ Am, Seg P caps n o main Am
        (BrExt (o + main.length) (o + main.length + 2 + 2 * k) (o + main.length + 2 + 2 * k + cleanup.length)
          ⟨h + 1, nn + 1, .none⟩) ∧
      Flow o Am (BrExt (o + main.length) (o + main.length + 2 + 2 * k) (o + main.length + 2 + 2 * k + cleanup.length)
          ⟨h + 1, nn + 1, .none⟩) o (brEntry first h nn) ∧
      Seg P caps n (o + main.length + 2 + 2 * k) cleanup (List.replicate cleanup.length ⟨h + 1, nn + 1, .none⟩)
        (fun pc out => Flow o Am (BrExt (o + main.length) (o + main.length + 2 + 2 * k)
          (o + main.length + 2 + 2 * k + cleanup.length) ⟨h + 1, nn + 1, .none⟩) pc out)
  | .nil, _, _, _, first, _, _, _, _, _, _, _, hne, heq =>
    BrsTyped.of_eq heq (match first, hne with
      | false, _ => brsNil_typed
      | true, hne => nomatch hne rfl)
  | .cons cond .none rest, Γp, nn, k, first, _, h, _, _, hw, hs, hΓ, _, heq =>
    BrsTyped.of_eq heq (brsNone_typed hn first rest.isNil
      (fun o => hΓ ▸ compileSq_blk hn hP cond Γp o h (nn + 1) hw.1 hs.1 (Nat.le_of_eq hΓ.symm))
      (fun o => compileBrs_typed hn hP rest Γp nn k false o h _ _ hw.2 hs.2 hΓ (fun hh => nomatch hh) rfl))
  | .cons cond (.some cons) rest, Γp, nn, _, first, _, h, _, _, hw, hs, hΓ, _, heq =>
    have hg : nn + 1 ≤ (compileSq Γp cond).2.length := hΓ ▸ compileSq_len cond Γp
    BrsTyped.of_eq heq (brsSome_typed hn first rest.isNil (decide ((compileSq Γp cond).2.length > nn + 1))
      (fun o => hΓ ▸ compileSq_blk hn hP cond Γp o h (nn + 1) hw.1 hs.1 (Nat.le_of_eq hΓ.symm))
      (fun o => compileSq_blk hn hP cons _ o h (nn + 1) hw.2.1 hs.2.1 hg)
      (fun o => compileBrs_typed hn hP rest Γp nn _ false o h _ _ hw.2.2 hs.2.2 hΓ (fun hh => nomatch hh) rfl)
      rfl)
end

end Compile

/-- **Every top-level sequence the fragment-3 compiler emits is accepted by the verified checker.** -/
theorem compileSq_checkFn {P : Prog} (hP : wfProg P) (Γ : List String) (sq : Sq3) (tid : Nat)
    (hw : wfSq P sq) (hs : scSq Γ sq) (hsmall : (compileSq Γ sq).1.length < maxCode) :
    ∃ anns, checkFn P { instructions := (compileSq Γ sq).1.toArray, captures := Γ.length, typeId := tid } anns = true :=
  checkFn_of_typed tid (compileSq_blk hsmall hP sq Γ 0 0 Γ.length hw hs (Nat.le_refl _)) rfl hsmall

/-- **Every function body** (`fnCode`: the body compiled as a block over the captures) passes the
checker as a function with `#captures` captures. -/
theorem fnCode_checkFn {P : Prog} (hP : wfProg P) (d : FnDef) (tid : Nat)
    (hne : d.body.isNil = false) (hw : wfBrs P d.body) (hs : scBrs (d.caps ++ [""]) d.body)
    (hsmall : (fnCode d).length < maxCode) :
    ∃ anns, checkFn P { instructions := (fnCode d).toArray, captures := d.caps.length, typeId := tid } anns = true :=
  checkFn_of_typed tid (compileT_blk hsmall hP (.block d.body) d.caps 0 0 ⟨hne, hw⟩ hs) rfl hsmall

/-- A program of fragment 3: every function is a compiled sequence (an entry / top level) or the
code of a function literal (`fnCode`). -/
def Frag3Prog (P : Prog) : Prop :=
  wfProg P ∧ ∀ (f : Nat) (fn : Function), P.functions[f]? = some fn →
    (∃ (Γ : List String) (sq : Sq3), fn.instructions = (compileSq Γ sq).1.toArray ∧ fn.captures = Γ.length ∧
      wfSq P sq ∧ scSq Γ sq ∧ (compileSq Γ sq).1.length < maxCode) ∨
    (∃ d : FnDef, fn.instructions = (fnCode d).toArray ∧ fn.captures = d.caps.length ∧
      d.body.isNil = false ∧ wfBrs P d.body ∧ scBrs (d.caps ++ [""]) d.body ∧ (fnCode d).length < maxCode)

theorem frag3_allChecked {P : Prog} (h : Frag3Prog P) : ∃ A, AllChecked P A :=
  allChecked_of_checkFn fun f fn hf =>
    match h.2 f fn hf with
    | .inl ⟨Γ, sq, hi, hc, hw, hs, hsmall⟩ => checkFn_of_eq hi hc (compileSq_checkFn h.1 Γ sq _ hw hs hsmall)
    | .inr ⟨d, hi, hc, hne, hw, hs, hsmall⟩ => checkFn_of_eq hi hc (fnCode_checkFn h.1 d _ hne hw hs hsmall)

/-- **No program of fragment 3 — function literals with captures, calls and returns included — ever
fails structurally** (`checkAnn_sound`; a call may fail with CallInvalid / TypeMismatch when the
callee is not a function: that is C01). -/
theorem frag3_no_structural_failure {P : Prog} (h : Frag3Prog P) (s0 : Nat) (p0 p : Proc)
    (h0 : EntryWF P s0 p0) (hr : ReachWF P p0 p) :
    (∃ A, Inv P A s0 p) ∧
    ∀ ev, EventWF P ev → ∀ e, transition P p ev = some (.error e) → e.isStructural = false :=
  no_structural_failure_of_allChecked (frag3_allChecked h) s0 p0 p h0 hr

/-- the function literal's body: `{ [~, k] }` with the capture `k` -/
def exBody : Brs3 :=
  .cons (.last (.cons (.tup 2 (.cons (.cons .ripple .nil) (.cons (.cons (.var "k") .nil) .nil))) .nil)) .none .nil

/-- `5 =k, #{ [~, k] } =f, 7 f f` -/
def exSq : Sq3 :=
  .cons (.cons (.int 5 0) (.cons (.mtch (.top (.bind "k"))) .nil))
    (.cons (.cons (.fnlit 1 ["k"]) (.cons (.mtch (.top (.bind "f"))) .nil))
      (.last (.cons (.int 7 1) (.cons (.call "f") (.cons (.call "f") .nil)))))

def exP : Prog :=
  { constants := #[.int 5, .int 7],
    functions := #[⟨(compileSq [] exSq).1.toArray, 0, 0⟩, ⟨(fnCode ⟨["k"], exBody⟩).toArray, 1, 0⟩],
    tuples := #[0, 0, 2], types := 0, builtins := 0 }

example : Frag3Prog exP := by
  refine ⟨⟨rfl, rfl⟩, ?_⟩
  intro f fn hf
  have hf01 : f = 0 ∨ f = 1 := by
    have := (Array.getElem?_eq_some_iff.mp hf).1
    simp [exP] at this; omega
  rcases hf01 with rfl | rfl
  · have hfn : fn = ⟨(compileSq [] exSq).1.toArray, 0, 0⟩ := by simpa [exP] using hf.symm
    subst hfn
    refine Or.inl ⟨[], exSq, rfl, rfl, ?_, ?_, by decide +kernel⟩
    · simp only [exSq, wfSq, wfCh, wfT, wfPat, QM.RefSem.C1.wfSub, and_true]
      exact ⟨rfl, ⟨_, rfl, rfl⟩, rfl⟩
    · simp only [exSq, scSq, scCh, scT, and_true, true_and]
      refine ⟨?_, ⟨1, by decide +kernel⟩, ⟨1, by decide +kernel⟩⟩
      intro c hc
      simp only [List.mem_singleton] at hc
      subst hc
      exact ⟨0, by decide +kernel⟩
  · have hfn : fn = ⟨(fnCode ⟨["k"], exBody⟩).toArray, 1, 0⟩ := by simpa [exP] using hf.symm
    subst hfn
    refine Or.inr ⟨⟨["k"], exBody⟩, rfl, rfl, rfl, ?_, ?_, by decide +kernel⟩
    · simp only [exBody, wfBrs, wfSq, wfCh, wfT, wfFs, Fs3.length, and_true]
      rfl
    · simp only [exBody, scBrs, scSq, scCh, scT, scFs, and_true, true_and]
      exact ⟨0, by decide +kernel⟩

/-- The inferred annotations pass for both functions. -/
example : checkAnn exP 0 (inferAnn exP 0) = true ∧ checkAnn exP 1 (inferAnn exP 1) = true := by
  decide +kernel

end F3
end QM.C07Frag
