import QuiverModel.Theorems.C02Call
/-
C02 (compiler correctness), on C02Call and C02Struct — **named tail calls (`^f`) are compiled correctly**, on C07's
M-VM, with self tail calls and builtin calls around and inside them: the run relation and the contracts are for all of
Compile5.

`ARunsX` has the steps of C02Loc's machine, `Function`, `Call`, `TailCall(true)`, `Builtin(i), Call` and `tailN`
(`TailCall(false)`: function and argument on the stack, justified by `cs.app fv arg = some res`; like `^` it ends at the
END of the function's code with the result on the stack): a machine of every level in the sense of C02Struct.
After a named tail call the frame belongs to ANOTHER function, so the end of a run is described by `Done` — the frame
on top of `r` has run to the end of its function's code, whichever function that is —, not by "at the end of `f`'s
code"; `liftX` carries `InvE` (`InvC` inside the code; `InvC` or `Done` at its end), and the return (`return_done`)
needs no more than `Done`. The contracts `CallOK`, `TailOK` and `NTailOK` for `callSem Φ bi n` hold together by
induction on the fuel (`contracts_all`).
-/
open QM.VM QM.RefSem.C5
open QM.RefSem.C1 (slot wfProg)
open C02L (St astepL OracleIntEq lt_of_fetch)
open C02F (InvC TRuns.trans transition_instr call_step return_step tail_step located_toArray lift_step lift_func
  lift_bcall)

namespace C02N
/-- abstract runs over the code of function `fi` (with `nc` captures) -/
inductive ARunsX (O : Oracle) (P : Prog) (code : Array Instr) (cs : Sem) (fi nc : Nat) : St → St → Prop where
  | refl (x : St) : ARunsX O P code cs fi nc x x
  | step {pc : Nat} {s L : List Val} {x y : St} (i : Instr) (hi : code[pc]? = some i)
      (h : astepL O P i pc s L = some x) (r : ARunsX O P code cs fi nc x y) : ARunsX O P code cs fi nc (pc, s, L) y
  | func {pc : Nat} {s L : List Val} {y : St} (fj : Nat) (fn : Function) (ws : List Val)
      (hi : code[pc]? = some (.function fj)) (hfn : P.functions[fj]? = some fn) (hc : fn.captures = ws.length)
      (r : ARunsX O P code cs fi nc (pc + 1, .fn fj (ValList.ofList ws) :: s, L) y) :
      ARunsX O P code cs fi nc (pc, ws.reverse ++ s, L) y
  | call {pc : Nat} {s L : List Val} {y : St} (fv arg res : Val) (hi : code[pc]? = some .call)
      (h : cs.app fv arg = some res) (r : ARunsX O P code cs fi nc (pc + 1, res :: s, L) y) :
      ARunsX O P code cs fi nc (pc, fv :: arg :: s, L) y
  /-- `TailCall(true)`: the function is re-entered with the flowing value; what that yields (`cs.app self arg`)
  is the function's result — the run is at the END of the function's code with the locals cut back to the
  captures. `self` is the function whose code this is, over the captures in the first `nc` locals. -/
  | tail {pc : Nat} {s L : List Val} {y : St} (sv arg res : Val) (hi : code[pc]? = some (.tailCall true))
      (hs : cs.self = some sv) (hsv : sv = .fn fi (ValList.ofList (L.take nc))) (hle : nc ≤ L.length)
      (h : cs.app sv arg = some res)
      (r : ARunsX O P code cs fi nc (code.size, res :: s, L.take nc) y) :
      ARunsX O P code cs fi nc (pc, arg :: s, L) y
  /-- `TailCall(false)`: the function on top of the stack takes the frame over with the argument below it;
  what it yields is this function's result. -/
  | tailN {pc : Nat} {s L : List Val} {y : St} (fv arg res : Val) (hi : code[pc]? = some (.tailCall false))
      (h : cs.app fv arg = some res)
      (r : ARunsX O P code cs fi nc (code.size, res :: s, L.take nc) y) :
      ARunsX O P code cs fi nc (pc, fv :: arg :: s, L) y
  | bcall {pc : Nat} {s L : List Val} {y : St} (bi : Nat) (arg v : Val) (hi : code[pc]? = some (.builtin bi))
      (hi2 : code[pc + 1]? = some .call) (hb : bi < P.builtins) (h : cs.bi bi arg = some v)
      (r : ARunsX O P code cs fi nc (pc + 1 + 1, v :: s, L) y) : ARunsX O P code cs fi nc (pc, arg :: s, L) y

theorem ARunsX.trans {O : Oracle} {P : Prog} {code : Array Instr} {cs : Sem} {fi nc : Nat} {x y z : St}
    (h₁ : ARunsX O P code cs fi nc x y) (h₂ : ARunsX O P code cs fi nc y z) : ARunsX O P code cs fi nc x z := by
  induction h₁ with
  | refl => exact h₂
  | step i hi h _ ih => exact .step i hi h (ih h₂)
  | func fj fn ws hi hfn hc _ ih => exact .func fj fn ws hi hfn hc (ih h₂)
  | call fv arg res hi h _ ih => exact .call fv arg res hi h (ih h₂)
  | tail sv arg res hi hs hsv hle h _ ih => exact .tail sv arg res hi hs hsv hle h (ih h₂)
  | tailN fv arg res hi h _ ih => exact .tailN fv arg res hi h (ih h₂)
  | bcall bi arg v hi hi2 hb h _ ih => exact .bcall bi arg v hi hi2 hb h (ih h₂)

theorem ARunsX.ofL {O : Oracle} {P : Prog} {code : Array Instr} {cs : Sem} {fi nc : Nat} {x y : St}
    (h : C02L.ARunsL O P code x y) : ARunsX O P code cs fi nc x y := by
  induction h with
  | refl x => exact .refl x
  | step i hi h _ ih => exact .step i hi h ih
theorem machine (O : Oracle) (P : Prog) (code : Array Instr) (cs : Sem) (fi nc lvl : Nat) :
    Machine O P code cs fi nc lvl (ARunsX O P code cs fi nc) where
  trans := ARunsX.trans
  ofL := ARunsX.ofL
  func fj fn ws _ hi hfn hc := .func fj fn ws hi hfn hc (.refl _)
  call fv arg res _ hi h := .call fv arg res hi h (.refl _)
  tail sv arg res _ hi hs hsv hle h := .tail sv arg res hi hs hsv hle h (.refl _)
  bcall bi arg v _ hi hi2 hb h := .bcall bi arg v hi hi2 hb h (.refl _)
  tailN fv arg res _ hi h := .tailN fv arg res hi h (.refl _)

section Machine
variable {O : Oracle} {P : Prog} {code : Array Instr} {cs : Sem} {fi nc : Nat}

theorem compileT_aruns (hO : OracleIntEq O) (hP : wfProg P) (hsz : code.size < 2 ^ 63 - 1) :
    (t : T4) → (Γ : List String) → (pc : Nat) → (flow : Val) → (rest L : List Val) → (out : Out) →
    C02S.Located code pc (compileT Γ t).1 → wfT P t → L.length = Γ.length → nc ≤ L.length →
    SelfOK cs fi nc L → evalT cs Γ L flow t = some out →
    ARunsX O P code cs fi nc (pc, flow :: rest, L) (Target code nc (pc + (compileT Γ t).1.length) rest L out)
  | t, Γ, pc, flow, rest, L, out, hl, hw, hal, hnc, hself, hev =>
    (machine O P code cs fi nc (lvT t)).runT hO hP hsz t Γ pc _ flow rest L out ⟨hl, rfl⟩ hw (Nat.le_refl _) hal hnc hself hev
theorem compileCh_aruns (hO : OracleIntEq O) (hP : wfProg P) (hsz : code.size < 2 ^ 63 - 1) :
      (c : Ch4) → (Γ : List String) → (pc : Nat) → (flow : Val) → (rest L : List Val) → (out : Out) →
      C02S.Located code pc (compileCh Γ c).1 → wfCh P c → L.length = Γ.length → nc ≤ L.length →
      SelfOK cs fi nc L → evalCh cs Γ L flow c = some out →
      ARunsX O P code cs fi nc (pc, flow :: rest, L) (Target code nc (pc + (compileCh Γ c).1.length) rest L out)
  | c, Γ, pc, flow, rest, L, out, hl, hw, hal, hnc, hself, hev =>
    (machine O P code cs fi nc (lvCh c)).runCh hO hP hsz c Γ pc _ flow rest L out ⟨hl, rfl⟩ hw (Nat.le_refl _) hal hnc hself hev
theorem compileFs_aruns (hO : OracleIntEq O) (hP : wfProg P) (hsz : code.size < 2 ^ 63 - 1) :
      (fs : Fs4) → (Γ : List String) → (pc : Nat) → (flow : Val) → (rest L acc vs : List Val) →
      (L' : List Val) → C02S.Located code pc (compileFs Γ fs acc.length).1 → wfFs P fs →
      L.length = Γ.length → nc ≤ L.length → SelfOK cs fi nc L → evalFs cs Γ L flow fs = some (vs, L') →
      ARunsX O P code cs fi nc (pc, acc.reverse ++ flow :: rest, L)
          (pc + (compileFs Γ fs acc.length).1.length, (acc ++ vs).reverse ++ flow :: rest, L') ∧
        vs.length = fs.length
  | fs, Γ, pc, flow, rest, L, acc, vs, L', hl, hw, hal, hnc, hself, hev =>
    (machine O P code cs fi nc (lvFs fs)).runFs hO hP hsz fs Γ pc _ flow rest L acc vs L' ⟨hl, rfl⟩ hw (Nat.le_refl _) hal hnc hself
      hev
theorem compileSq_aruns (hO : OracleIntEq O) (hP : wfProg P) (hsz : code.size < 2 ^ 63 - 1) :
      (sq : Sq4) → (Γ : List String) → (pc : Nat) → (flow : Val) → (rest L : List Val) → (out : Out) →
      C02S.Located code pc (compileSq Γ sq).1 → wfSq P sq → L.length = Γ.length → nc ≤ L.length →
      SelfOK cs fi nc L → evalSq cs Γ L flow sq = some out →
      ARunsX O P code cs fi nc (pc, flow :: rest, L) (Target code nc (pc + (compileSq Γ sq).1.length) rest L out)
  | sq, Γ, pc, flow, rest, L, out, hl, hw, hal, hnc, hself, hev =>
    (machine O P code cs fi nc (lvSq sq)).runSq hO hP hsz sq Γ pc _ flow rest L out ⟨hl, rfl⟩ hw (Nat.le_refl _) hal hnc hself hev
/-- the branches from one on: from the branch's start (with the previous condition's nil on the stack
unless it is the first) to the parameter clear at `PC`, value on the stack, locals `L ++ [parameter]` -/
theorem compileBrs_aruns (hO : OracleIntEq O) (hP : wfProg P) (hsz : code.size < 2 ^ 63 - 1) :
      (bs : Brs4) → (Γp : List String) → (n k : Nat) → (first : Bool) → (pos PC : Nat) →
      (flow junk : Val) → (rest L : List Val) → (out : Out) →
      C02S.Located code pos (compileBrs Γp n bs k first).1 →
      pos + (compileBrs Γp n bs k first).1.length = PC →
      C02S.Located code (PC + 2 + 2 * k) (compileBrs Γp n bs k first).2 →
      PC < code.size → wfBrs P bs → Γp.length = n + 1 → L.length = n → nc ≤ L.length →
      SelfOK cs fi nc L → (first = true → bs.isNil = false) → (first = false → junk = Val.nil) →
      evalBrs cs Γp (L ++ [flow]) flow bs = some out →
      ARunsX O P code cs fi nc (pos, (if first then rest else junk :: rest), L ++ [flow])
        (Target code nc PC rest (L ++ [flow]) out)
  | bs, Γp, n, k, first, pos, PC, flow, junk, rest, L, out, hl, hPC, hcl, hPCs, hw, hΓ, hL, hnc, hself, hf, hj, hev =>
    (machine O P code cs fi nc (lvBrs bs)).runBrs hO hP hsz bs Γp n k first pos PC flow junk rest L out ⟨hl, hPC⟩ hcl hPCs hw
      (Nat.le_refl _) hΓ hL hnc hself hf hj hev

end Machine

/-- the builtins' meaning is the oracle's -/
def BiOK (O : Oracle) (cs : Sem) : Prop := ∀ i a v, cs.bi i a = some v → O.builtin i a = .value v

/-- the frame on top of `r` (over the locals `pre`) has run to the END of its function's code, with `s` on
the stack — whichever function that is by now (a named tail call hands the frame over) -/
def Done (P : Prog) (q : Proc) (r : List Frame) (pre s : List Val) : Prop :=
  ∃ (g : Frame) (fn : Function) (Lc : List Val), P.functions[g.functionIndex]? = some fn ∧
    InvC q g r pre fn.instructions.size s Lc

/-- the lifted invariant of a run over the code of `f`'s function: inside the code `InvC`; at its end `InvC`,
or `Done` after a tail call was taken -/
def InvE (P : Prog) (size : Nat) (q : Proc) (f : Frame) (r : List Frame) (pre : List Val) (x : St) : Prop :=
  (x.1 < size → InvC q f r pre x.1 x.2.1 x.2.2) ∧
  (size ≤ x.1 → InvC q f r pre x.1 x.2.1 x.2.2 ∨ Done P q r pre x.2.1)

theorem InvE.ofC {P : Prog} {size : Nat} {q : Proc} {f : Frame} {r : List Frame} {pre : List Val} {x : St}
    (h : InvC q f r pre x.1 x.2.1 x.2.2) : InvE P size q f r pre x := ⟨fun _ => h, fun _ => .inl h⟩

theorem InvE.ofDone {P : Prog} {size : Nat} {q : Proc} {f : Frame} {r : List Frame} {pre s L : List Val}
    (h : Done P q r pre s) : InvE P size q f r pre (size, s, L) :=
  ⟨fun hlt => absurd hlt (Nat.lt_irrefl _), fun _ => .inr h⟩

/-- every self tail call `cs` gives a meaning to is realised by the VM: from the `TailCall(true)` to the end
of the function's code — of whichever function the frame belongs to by then —, the function's result in
place of the argument -/
def TailOK (O : Oracle) (P : Prog) (cs : Sem) : Prop :=
  ∀ sv arg res, cs.self = some sv → cs.app sv arg = some res →
    ∀ (fn : Function) (f : Frame) (r : List Frame) (pre : List Val) (pc : Nat) (rest L : List Val) (p : Proc),
      P.functions[f.functionIndex]? = some fn → fn.instructions[pc]? = some (.tailCall true) →
      sv = .fn f.functionIndex (ValList.ofList (L.take f.capturesCount)) → f.capturesCount ≤ L.length →
      InvC p f r pre pc (arg :: rest) L →
      ∃ q, C02S.TRuns O P p q ∧ Done P q r pre (res :: rest)

/-- every named tail call: from the `TailCall(false)`, function and argument on the stack, to the end of
the callee's code in the SAME frame slot -/
def NTailOK (O : Oracle) (P : Prog) (app : Val → Val → Option Val) : Prop :=
  ∀ fv arg res, app fv arg = some res →
    ∀ (fn : Function) (f : Frame) (r : List Frame) (pre : List Val) (pc : Nat) (rest L : List Val) (p : Proc),
      P.functions[f.functionIndex]? = some fn → fn.instructions[pc]? = some (.tailCall false) →
      InvC p f r pre pc (fv :: arg :: rest) L →
      ∃ q, C02S.TRuns O P p q ∧ Done P q r pre (res :: rest)

theorem liftX (O : Oracle) (P : Prog) (cs : Sem) (hcs : C02F.CallOK O P cs.app) (hts : TailOK O P cs)
    (hns : NTailOK O P cs.app) (hbs : BiOK O cs) (fn : Function) (f : Frame) (r : List Frame) (pre : List Val)
    (hfn : P.functions[f.functionIndex]? = some fn) {x y : St}
    (h : ARunsX O P fn.instructions cs f.functionIndex f.capturesCount x y) :
    ∀ p : Proc, InvE P fn.instructions.size p f r pre x →
      ∃ q, C02S.TRuns O P p q ∧ InvE P fn.instructions.size q f r pre y := by
  induction h with
  | refl x => exact fun p hp => ⟨p, .refl p, hp⟩
  | step i hi hstep _ ih =>
    intro p hp
    obtain ⟨q, htr, hinv⟩ := lift_step O P fn f r pre hfn i hi hstep p (hp.1 (lt_of_fetch hi))
    obtain ⟨z, hz, hzi⟩ := ih q (InvE.ofC hinv)
    exact ⟨z, .step htr hz, hzi⟩
  | func fj fnF ws hi hfnF hc _ ih =>
    intro p hp
    obtain ⟨q, htr, hinv⟩ := lift_func O P fn f r pre hfn fj fnF ws hi hfnF hc p (hp.1 (lt_of_fetch hi))
    obtain ⟨z, hz, hzi⟩ := ih q (InvE.ofC hinv)
    exact ⟨z, .step htr hz, hzi⟩
  | call fv arg res hi hcall _ ih =>
    intro p hp
    obtain ⟨q, hq, hinv⟩ := hcs fv arg res hcall fn f r pre _ _ _ p hfn hi (hp.1 (lt_of_fetch hi))
    obtain ⟨z, hz, hzi⟩ := ih q (InvE.ofC hinv)
    exact ⟨z, TRuns.trans hq hz, hzi⟩
  | tail sv arg res hi hs hsv hle happ _ ih =>
    intro p hp
    obtain ⟨q, hq, hdone⟩ := hts sv arg res hs happ fn f r pre _ _ _ p hfn hi hsv hle (hp.1 (lt_of_fetch hi))
    obtain ⟨z, hz, hzi⟩ := ih q (InvE.ofDone hdone)
    exact ⟨z, TRuns.trans hq hz, hzi⟩
  | tailN fv arg res hi happ _ ih =>
    intro p hp
    obtain ⟨q, hq, hdone⟩ := hns fv arg res happ fn f r pre _ _ _ p hfn hi (hp.1 (lt_of_fetch hi))
    obtain ⟨z, hz, hzi⟩ := ih q (InvE.ofDone hdone)
    exact ⟨z, TRuns.trans hq hz, hzi⟩
  | bcall bi arg v hi hi2 hb hbi _ ih =>
    intro p hp
    obtain ⟨q, hq, hinv⟩ := lift_bcall O P fn f r pre hfn bi arg v hi hi2 hb (hbs bi arg v hbi) p
      (hp.1 (lt_of_fetch hi))
    obtain ⟨z, hz, hzi⟩ := ih q (InvE.ofC hinv)
    exact ⟨z, TRuns.trans hq hz, hzi⟩

/-- `TailCall(false)`: the frame is replaced by one of the callee over its captures (same base), the
argument stays -/
theorem ntail_step (O : Oracle) (P : Prog) (fn fnC : Function) (f : Frame) (r : List Frame) (pre : List Val)
    (pc fi : Nat) (cv : ValList) (arg : Val) (rest L : List Val) (p : Proc)
    (hfn : P.functions[f.functionIndex]? = some fn) (hi : fn.instructions[pc]? = some (.tailCall false))
    (hfnC : P.functions[fi]? = some fnC) (hp : InvC p f r pre pc (.fn fi cv :: arg :: rest) L) :
    ∃ q, transition P p (.run O) = some (.ok (q, none)) ∧
      InvC q (Frame.new fi f.localsBase cv.toList.length) r pre 0 (arg :: rest) cv.toList := by
  obtain ⟨⟨hs, hf, hl, hb, hpark, hres⟩, hsel⟩ := hp
  refine ⟨{ p with stack := arg :: rest, locals := p.locals.take f.localsBase ++ cv.toList,
                   frames := Frame.new fi f.localsBase cv.toList.length :: r }, ?_, ?_⟩
  · rw [transition_instr O P p _ r fn (.tailCall false) hpark hres hf (by simpa using hfn) (by simpa using hi)]
    simp only [stepInstr, handleTailCall]
    rw [hs]
    simp only [hfnC, hf]
    rfl
  · refine ⟨⟨rfl, ?_, ?_, ?_, hpark, hres⟩, hsel⟩
    · simp [Frame.new]
    · simp only [hl, ← hb]
      rw [List.take_left' rfl]
    · simpa [Frame.new] using hb

/-- the contracts at one fuel level -/
def Contracts (O : Oracle) (P : Prog) (Φ : FTab) (bi : Nat → Val → Option Val) (n : Nat) : Prop :=
  C02F.CallOK O P (callSem Φ bi n) ∧ (∀ sv, TailOK O P ⟨callSem Φ bi n, bi, some sv⟩) ∧
    NTailOK O P (callSem Φ bi n)

/-- the value of an outcome -/
def outVal : Out → Val
  | .norm v _ => v
  | .exit res => res

/-- a function's code run in a frame of that function whose locals are the captures, from counter 0 until the
frame is done — by falling off the end, through `^`, or in another function's code after a named tail call -/
theorem body_run (O : Oracle) (P : Prog) (hO : OracleIntEq O) (hP : wfProg P) (Φ : FTab) (hΦ : FnOK P Φ)
    (bi : Nat → Val → Option Val) (hbi : ∀ i a v, bi i a = some v → O.builtin i a = .value v) (n : Nat)
    (hn : Contracts O P Φ bi n) (cv : ValList) (d : FnDef) (g : Frame) (hd : Φ.lookup g.functionIndex = some d)
    (hlen : cv.toList.length = d.caps.length) (arg : Val) (o : Out)
    (hev : evalBrs ⟨callSem Φ bi n, bi, some (.fn g.functionIndex cv)⟩ (d.caps ++ [""]) (cv.toList ++ [arg]) arg
      d.body = some o)
    (r : List Frame) (pre rest : List Val)
    (hgc : g.capturesCount = cv.toList.length) (q1 : Proc) (hinv1 : InvC q1 g r pre 0 (arg :: rest) cv.toList) :
    ∃ q2, C02S.TRuns O P q1 q2 ∧ Done P q2 r pre (outVal o :: rest) := by
  obtain ⟨fnC, hfnC, hcode, hcaps, hne, hwf, hszC⟩ := hΦ g.functionIndex d hd
  have hloc : C02S.Located fnC.instructions 0 (compileT d.caps (.block d.body)).1 := by
    rw [hcode]; exact located_toArray _
  have hself : SelfOK ⟨callSem Φ bi n, bi, some (.fn g.functionIndex cv)⟩ g.functionIndex g.capturesCount
      cv.toList := by
    intro sv hs
    simp only [Option.some.injEq] at hs
    subst hs
    simp [hgc]
  have hsize : 0 + (compileT d.caps (.block d.body)).1.length = fnC.instructions.size := by
    rw [hcode]; simp [fnCode]
  have hevT : evalT ⟨callSem Φ bi n, bi, some (.fn g.functionIndex cv)⟩ d.caps cv.toList arg (.block d.body) =
      some (match o with | .norm v _ => .norm v cv.toList | .exit res => .exit res) := by
    cases o <;> simp only [evalT, hev, Option.map_some]
  have run := compileT_aruns (O := O) (P := P) (code := fnC.instructions)
    (cs := ⟨callSem Φ bi n, bi, some (.fn g.functionIndex cv)⟩) (fi := g.functionIndex) (nc := g.capturesCount)
    hO hP hszC (.block d.body) d.caps 0 arg rest cv.toList _ hloc ⟨hne, hwf⟩ hlen (Nat.le_of_eq hgc) hself hevT
  obtain ⟨q2, ht2, hinv2⟩ := liftX O P ⟨callSem Φ bi n, bi, some (.fn g.functionIndex cv)⟩ hn.1 (hn.2.1 _) hn.2.2 hbi
    fnC g r pre hfnC run q1 (InvE.ofC hinv1)
  refine ⟨q2, ht2, ?_⟩
  cases o with
  | norm v Lx =>
    simp only [Target, hsize] at hinv2
    rcases hinv2.2 (Nat.le_refl _) with h | h
    · exact ⟨g, fnC, _, hfnC, h⟩
    · exact h
  | exit res =>
    simp only [Target] at hinv2
    rcases hinv2.2 (Nat.le_refl _) with h | h
    · exact ⟨g, fnC, _, hfnC, h⟩
    · exact h

theorem return_done (O : Oracle) (P : Prog) (f : Frame) (r : List Frame) (pre L : List Val) (pc : Nat) (v : Val)
    (rest : List Val) (q : Proc) (hpre : pre.length = f.localsBase)
    (hq : Done P q ({ f with counter := pc } :: r) (pre ++ L) (v :: rest)) :
    ∃ q', transition P q (.run O) = some (.ok (q', none)) ∧ InvC q' f r pre (pc + 1) (v :: rest) L := by
  obtain ⟨g, fnC, Lc, hfnC, hinv⟩ := hq
  exact return_step O P fnC f g r pre L pc v rest Lc q hfnC hpre hinv

/-- an application that has a meaning is that of a closure of the table: its body on captures and argument, one
fuel level below -/
theorem callSem_succ {Φ : FTab} {bi : Nat → Val → Option Val} {n : Nat} {fv arg res : Val}
    (h : callSem Φ bi (n + 1) fv arg = some res) :
    ∃ fi cv d o, fv = .fn fi cv ∧ Φ.lookup fi = some d ∧ cv.toList.length = d.caps.length ∧
      evalBrs ⟨callSem Φ bi n, bi, some fv⟩ (d.caps ++ [""]) (cv.toList ++ [arg]) arg d.body = some o ∧
      outVal o = res := by
  cases fv with
  | fn fi cv =>
    simp only [callSem] at h
    split at h
    · rename_i d hd
      split at h
      · rename_i hlen
        split at h
        · rename_i v Lx hev
          exact ⟨fi, cv, d, _, rfl, hd, hlen, hev, Option.some.inj h⟩
        · rename_i res' hev
          exact ⟨fi, cv, d, _, rfl, hd, hlen, hev, Option.some.inj h⟩
        · cases h
      · cases h
    · cases h
  | _ => simp [callSem] at h

/-- **The knot.** By induction on the fuel: `Call` (callee's frame, its run until the frame is done, the
return), `TailCall(true)` (the frame restarted over its captures) and `TailCall(false)` (the frame handed to
another function over ITS captures) all realise what `callSem Φ bi n` says. -/
theorem contracts_all (O : Oracle) (P : Prog) (hO : OracleIntEq O) (hP : wfProg P) (Φ : FTab) (hΦ : FnOK P Φ)
    (bi : Nat → Val → Option Val) (hbi : ∀ i a v, bi i a = some v → O.builtin i a = .value v) :
    (n : Nat) → Contracts O P Φ bi n
  | 0 => by
    refine ⟨?_, ?_, ?_⟩
    · intro fv arg res h
      simp [callSem] at h
    · intro sv0 sv arg res _ h
      simp [callSem] at h
    · intro fv arg res h
      simp [callSem] at h
  | n + 1 => by
    have ih := contracts_all O P hO hP Φ hΦ bi hbi n
    refine ⟨?_, ?_, ?_⟩
    · intro fv arg res h fn f r pre pc rest L p hfn hcall hinv
      obtain ⟨fi, cv, d, o, rfl, hd, hlen, hev, rfl⟩ := callSem_succ h
      obtain ⟨fnC0, hfnC0, _⟩ := hΦ fi d hd
      obtain ⟨q1, ht1, hinv1⟩ := call_step O P fn fnC0 f r pre pc fi cv arg rest L p hfn hcall hfnC0 hinv
      obtain ⟨q2, ht2, hdone⟩ := body_run O P hO hP Φ hΦ bi hbi n ih cv d
        (Frame.new fi (pre ++ L).length cv.toList.length) hd hlen arg o hev
        ({ f with counter := pc } :: r) (pre ++ L) rest rfl q1 hinv1
      obtain ⟨q3, ht3, hinv3⟩ := return_done O P f r pre L pc (outVal o) rest q2 hinv.1.2.2.2.1 hdone
      exact ⟨q3, .step ht1 (TRuns.trans ht2 (.step ht3 (.refl _))), hinv3⟩
    · intro sv0 sv arg res hs h fn f r pre pc rest L p hfn htc hsv hle hinv
      obtain ⟨fi, cv, d, o, hfv, hd, hlen, hev, rfl⟩ := callSem_succ h
      rw [hsv] at hfv
      cases hfv
      have hcl : (ValList.ofList (L.take f.capturesCount)).toList.length = f.capturesCount := by
        simp [List.length_take, Nat.min_eq_left hle]
      obtain ⟨q1, ht1, hinv1⟩ := tail_step O P fn f r pre pc arg rest L p hfn htc hinv
      obtain ⟨q2, ht2, hdone⟩ := body_run O P hO hP Φ hΦ bi hbi n ih
        (ValList.ofList (L.take f.capturesCount)) d f hd hlen arg o (by rw [← hsv]; exact hev) r pre rest
        hcl.symm q1 (by simpa using hinv1)
      exact ⟨q2, .step ht1 ht2, hdone⟩
    · intro fv arg res h fn f r pre pc rest L p hfn htc hinv
      obtain ⟨fi, cv, d, o, rfl, hd, hlen, hev, rfl⟩ := callSem_succ h
      obtain ⟨fnC0, hfnC0, _⟩ := hΦ fi d hd
      obtain ⟨q1, ht1, hinv1⟩ := ntail_step O P fn fnC0 f r pre pc fi cv arg rest L p hfn htc hfnC0 hinv
      obtain ⟨q2, ht2, hdone⟩ := body_run O P hO hP Φ hΦ bi hbi n ih cv d
        (Frame.new fi f.localsBase cv.toList.length) hd hlen arg o hev r pre rest rfl q1 hinv1
      exact ⟨q2, .step ht1 ht2, hdone⟩

/-- **Named tail calls are compiled correctly** (with everything of C02Tail around and inside them): a process
whose current function contains the code of the sequence `sq` at `pc`, locals aligned with `Γ`, the flowing
value on top of the stack, no select in progress, runs by `Executor::step` units alone — through every `Call`,
`TailCall(true)` and `TailCall(false)` in the functions it calls, every frame handed over — to the state the
meaning `evalSq (topSem Φ bi n)` gives: after the code with value and locals, in the same frame, or — after a named
tail call of the sequence itself — with the frame done in another function (`InvE`). -/
theorem compileSq5_correct (O : Oracle) (P : Prog) (hO : OracleIntEq O) (hP : wfProg P) (Φ : FTab)
    (hΦ : FnOK P Φ) (bi : Nat → Val → Option Val) (hbi : ∀ i a v, bi i a = some v → O.builtin i a = .value v)
    (n : Nat) (fn : Function) (f : Frame) (r : List Frame) (pre : List Val)
    (hfn : P.functions[f.functionIndex]? = some fn) (hsz : fn.instructions.size < 2 ^ 63 - 1) (sq : Sq4)
    (Γ : List String) (pc : Nat) (flow : Val) (rest L : List Val) (out : Out)
    (hl : C02S.Located fn.instructions pc (compileSq Γ sq).1) (hw : wfSq P sq) (hal : L.length = Γ.length)
    (hnc : f.capturesCount ≤ L.length)
    (hev : evalSq (topSem Φ bi n) Γ L flow sq = some out)
    (p : Proc) (hp : InvC p f r pre pc (flow :: rest) L) :
    ∃ q, C02S.TRuns O P p q ∧ InvE P fn.instructions.size q f r pre
      (Target fn.instructions f.capturesCount (pc + (compileSq Γ sq).1.length) rest L out) := by
  have hc := contracts_all O P hO hP Φ hΦ bi hbi n
  have hts : TailOK O P (topSem Φ bi n) := by
    intro sv arg res hs
    simp [topSem] at hs
  have run := compileSq_aruns (O := O) (P := P) (code := fn.instructions) (cs := topSem Φ bi n)
    (fi := f.functionIndex) (nc := f.capturesCount) hO hP hsz sq Γ pc flow rest L _ hl hw hal hnc
    (by intro sv hs; simp [topSem] at hs) hev
  exact liftX O P (topSem Φ bi n) hc.1 hts hc.2.2 hbi fn f r pre hfn run p (InvE.ofC hp)

/-- `compileSq5_correct` for a sequence that runs to its END and is not the last thing in the function's code
(every sequence inside a function body: the parameter clear `Reset` follows): the process is in `InvC`, in the
same frame, after the code, with the value and the locals the meaning gives. -/
theorem compileSq5_correct_inner (O : Oracle) (P : Prog) (hO : OracleIntEq O) (hP : wfProg P) (Φ : FTab)
    (hΦ : FnOK P Φ) (bi : Nat → Val → Option Val) (hbi : ∀ i a v, bi i a = some v → O.builtin i a = .value v)
    (n : Nat) (fn : Function) (f : Frame) (r : List Frame) (pre : List Val)
    (hfn : P.functions[f.functionIndex]? = some fn) (hsz : fn.instructions.size < 2 ^ 63 - 1) (sq : Sq4)
    (Γ : List String) (pc : Nat) (flow : Val) (rest L : List Val) (v : Val) (L' : List Val)
    (hl : C02S.Located fn.instructions pc (compileSq Γ sq).1) (hw : wfSq P sq) (hal : L.length = Γ.length)
    (hnc : f.capturesCount ≤ L.length)
    (hev : evalSq (topSem Φ bi n) Γ L flow sq = some (.norm v L'))
    (hin : pc + (compileSq Γ sq).1.length < fn.instructions.size)
    (p : Proc) (hp : InvC p f r pre pc (flow :: rest) L) :
    ∃ q, C02S.TRuns O P p q ∧ InvC q f r pre (pc + (compileSq Γ sq).1.length) (v :: rest) L' := by
  obtain ⟨q, hq, hinv⟩ := compileSq5_correct O P hO hP Φ hΦ bi hbi n fn f r pre hfn hsz sq Γ pc flow rest L _
    hl hw hal hnc hev p hp
  exact ⟨q, hq, by simpa [Target] using hinv.1 (by simpa [Target] using hin)⟩

end C02N
