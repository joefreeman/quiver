import QuiverModel.Core.Repl.Basic
import QuiverModel.Core.Packaging.Sem
import QuiverModel.Lemmas.Util.List
/-
C11 — REPL evaluation is equivalent to evaluating the lines as one program (property theorems about
the session state machine M-Repl).

That the compiler assigns indices as `runLine_preserves_aligned` assumes is a hypothesis here (this file
does not mention the compiler). Theorems/C11Frag.lean derives it for straight-line binding lines
(`fragment_line_assignment`, `fragment_line_keeps_session_aligned`); outside that fragment the harness
checks it per line.
-/
namespace C11
open QM.Repl

variable {α : Type}

theorem insertSorted_perm (a : Nat) : ∀ (l : List Nat), (insertSorted a l).Perm (a :: l)
  | [] => .refl _
  | b :: bs => by
    rw [insertSorted]; split
    · exact .refl _
    · exact ((List.perm_cons b).mpr (insertSorted_perm a bs)).trans (.swap a b bs)

theorem sortNat_perm : ∀ (l : List Nat), (sortNat l).Perm l
  | [] => .refl _
  | a :: as => (insertSorted_perm a (sortNat as)).trans ((List.perm_cons a).mpr (sortNat_perm as))

theorem mem_sortNat {b : Nat} {l : List Nat} : b ∈ sortNat l ↔ b ∈ l := (sortNat_perm l).mem_iff

theorem length_sortNat (l : List Nat) : (sortNat l).length = l.length := (sortNat_perm l).length_eq

theorem newIndexFrom_spec {base old : Nat} {ks : List Nat} {j : Nat}
    (h : newIndexFrom base old ks = some j) : ∃ k, j = base + k ∧ ks[k]? = some old := by
  induction ks generalizing base j with
  | nil => simp [newIndexFrom] at h
  | cons k ks ih =>
    simp only [newIndexFrom] at h
    split at h
    · rename_i j' hj'
      cases h
      obtain ⟨m, hm, hget⟩ := ih hj'
      exact ⟨m + 1, by omega, by simpa using hget⟩
    · split at h
      · rename_i hk
        cases h
        exact ⟨0, by omega, by simp [hk]⟩
      · cases h

theorem newIndexFrom_isSome {base old : Nat} {ks : List Nat} (h : old ∈ ks) :
    ∃ j, newIndexFrom base old ks = some j := by
  induction ks generalizing base with
  | nil => cases h
  | cons k ks ih =>
    simp only [newIndexFrom]
    cases hrec : newIndexFrom (base + 1) old ks with
    | some j => exact ⟨j, rfl⟩
    | none =>
      rcases List.mem_cons.mp h with h | h
      · subst h; exact ⟨base, by simp⟩
      · obtain ⟨j, hj⟩ := ih (base := base + 1) h
        rw [hj] at hrec; cases hrec

theorem keptValues_spec {locals : List α} {keep : List Nat} (h : ∀ i ∈ keep, i < locals.length) :
    ∃ vs, keptValues locals keep = some vs ∧ vs.length = keep.length ∧
      ∀ (j i : Nat), keep[j]? = some i → vs[j]? = locals[i]? := by
  induction keep with
  | nil => exact ⟨[], rfl, rfl, by simp⟩
  | cons i is ih =>
    obtain ⟨vs, hvs, hlen, hget⟩ := ih (fun i hi => h i (List.mem_cons_of_mem _ hi))
    have hi : i < locals.length := h i (List.mem_cons_self ..)
    have hsome : locals[i]? = some locals[i] := List.getElem?_eq_getElem hi
    refine ⟨locals[i] :: vs, by simp [keptValues, hsome, hvs], by simp [hlen], ?_⟩
    intro j i' hj
    cases j with
    | zero =>
      have : i = i' := by simpa using hj
      subst this; simp [hsome]
    | succ j => simpa using hget j i' (by simpa using hj)

theorem lookup_map_snd {l : List (String × Nat)} {f : Nat → Nat} {x : String} :
    (l.map (fun p => (p.1, f p.2))).lookup x = (l.lookup x).map f := by
  induction l with
  | nil => rfl
  | cons p ps ih =>
    obtain ⟨y, i⟩ := p
    simp only [List.map_cons, List.lookup_cons]
    split <;> simp [ih]

theorem mem_keepIndices_of_mem {b : List (String × Nat)} {p : String × Nat} (h : p ∈ b) :
    p.2 ∈ keepIndices b :=
  mem_sortNat.mpr (List.mem_map.mpr ⟨p, h, rfl⟩)

theorem mem_keepIndices {b : List (String × Nat)} {x : String} {i : Nat} (h : b.lookup x = some i) :
    i ∈ keepIndices b :=
  mem_keepIndices_of_mem (QM.mem_of_lookup h)

theorem length_keepIndices (b : List (String × Nat)) : (keepIndices b).length = b.length :=
  (length_sortNat _).trans (List.length_map _)

theorem keepIndices_lt {s : Session α} (hr : InRange s) : ∀ k ∈ keepIndices s.bindings, k < s.locals.length := by
  intro k hk
  obtain ⟨p, hp, rfl⟩ := List.mem_map.mp (mem_sortNat.mp hk)
  exact hr p hp

/-- **Compaction preserves every lookup.** If all binding indices are valid, then after `compact`
    (bindings re-indexed, locals replaced by the kept values) every bound variable reads the same
    value as before — including when two names share a slot (the mapping sends a shared index to the
    position of its last occurrence, where the same value sits). -/
theorem compact_preserves_lookup (s : Session α) (hr : InRange s) (x : String) :
    lookup (compact s) x = lookup s x := by
  have hb : (compact s).bindings =
      s.bindings.map (fun p => (p.1, (fun i => (newIndex (keepIndices s.bindings) i).getD i) p.2)) := rfl
  have hl : (compact s).locals = (keptValues s.locals (keepIndices s.bindings)).getD s.locals := rfl
  unfold lookup
  rw [hb, lookup_map_snd (l := s.bindings) (f := fun i => (newIndex (keepIndices s.bindings) i).getD i) (x := x), hl]
  cases hx : s.bindings.lookup x with
  | none => rfl
  | some i =>
    have hmem : i ∈ keepIndices s.bindings := mem_keepIndices hx
    obtain ⟨vs, hvs, _, hget⟩ := keptValues_spec (keepIndices_lt hr)
    obtain ⟨j, hj⟩ := newIndexFrom_isSome (base := 0) hmem
    obtain ⟨k, hk, hkeep⟩ := newIndexFrom_spec hj
    have hjk : j = k := by omega
    subst hjk
    simp only [Option.map_some, newIndex, hj, Option.getD_some, hvs]
    exact hget j i hkeep

/-- After compaction the kept values are as many as the bindings, and every binding index is valid. -/
theorem compact_inRange (s : Session α) (hr : InRange s) : InRange (compact s) ∧
    (compact s).locals.length = s.bindings.length := by
  obtain ⟨vs, hvs, hlen, _⟩ := keptValues_spec (keepIndices_lt hr)
  have hlen' : (compact s).locals.length = s.bindings.length := by
    have h1 : (compact s).locals = vs := by simp only [compact, hvs, Option.getD_some]
    rw [h1, hlen, length_keepIndices]
  refine ⟨?_, hlen'⟩
  intro p hp
  simp only [compact, List.mem_map] at hp
  obtain ⟨q, hq, rfl⟩ := hp
  obtain ⟨j, hj⟩ := newIndexFrom_isSome (base := 0) (mem_keepIndices_of_mem hq)
  obtain ⟨k, hk, hkeep⟩ := newIndexFrom_spec hj
  have hklt : k < (keepIndices s.bindings).length := by
    rcases Nat.lt_or_ge k (keepIndices s.bindings).length with h | h
    · exact h
    · rw [List.getElem?_eq_none h] at hkeep; cases hkeep
  simp only [newIndex, hj, Option.getD_some, hlen']
  have := length_keepIndices s.bindings
  omega

theorem foldl_max_ge (l : List (String × Nat)) (m : Nat) :
    m ≤ l.foldl (fun m p => max m (p.2 + 1)) m := by
  induction l generalizing m with
  | nil => exact Nat.le_refl _
  | cons p ps ih => exact Nat.le_trans (Nat.le_max_left _ _) (ih _)

theorem localCount_le {b : List (String × Nat)} {n : Nat} (h : ∀ p ∈ b, p.2 < n) : localCount b ≤ n := by
  unfold localCount
  suffices H : ∀ m, m ≤ n → b.foldl (fun m p => max m (p.2 + 1)) m ≤ n from H 0 (Nat.zero_le _)
  induction b with
  | nil => intro m hm; exact hm
  | cons p ps ih =>
    intro m hm
    exact ih (fun q hq => h q (List.mem_cons_of_mem _ hq)) _
      (Nat.max_le.mpr ⟨hm, h p (List.mem_cons_self ..)⟩)

theorem localCount_gt {b : List (String × Nat)} {p : String × Nat} (hp : p ∈ b) : p.2 < localCount b := by
  unfold localCount
  suffices H : ∀ m, p.2 < b.foldl (fun m q => max m (q.2 + 1)) m from H 0
  induction b with
  | nil => cases hp
  | cons q qs ih =>
    intro m
    rcases List.mem_cons.mp hp with h | h
    · subst h
      exact Nat.lt_of_lt_of_le (Nat.lt_of_lt_of_le (Nat.lt_succ_self _) (Nat.le_max_right _ _))
        (foldl_max_ge qs _)
    · exact ih h _

/-- The position of the last element of a non-empty sorted keep list is hit by the mapping: some
    binding is sent to `n - 1`. -/
theorem newIndexFrom_last {base : Nat} {ks : List Nat} {a : Nat} (h : ks.getLast? = some a) :
    newIndexFrom base a ks = some (base + ks.length - 1) := by
  induction ks generalizing base with
  | nil => simp at h
  | cons k ks ih =>
    simp only [newIndexFrom]
    cases ks with
    | nil =>
      have : k = a := by simpa using h
      subst this; simp [newIndexFrom]
    | cons k2 ks2 =>
      have h' : (k2 :: ks2).getLast? = some a := by simpa [List.getLast?_cons_cons] using h
      rw [ih (base := base + 1) h']
      simp only [List.length_cons]
      congr 1
      omega

/-- **After compaction `local_count` is the number of locals**: `max index + 1 = locals.length`. This
    is what makes the compiler's index arithmetic (new slots from `local_count`) agree with where
    `Store` physically appends (at `locals.length`). -/
theorem compact_localCount (s : Session α) (hr : InRange s) :
    localCount (compact s).bindings = (compact s).locals.length := by
  obtain ⟨hr', hlen⟩ := compact_inRange s hr
  apply Nat.le_antisymm
  · exact localCount_le hr'
  · -- some binding is mapped to the last position
    cases hb : s.bindings with
    | nil => simp [hlen, hb]
    | cons p ps =>
      have hkl := length_keepIndices s.bindings
      have hpos : 0 < s.bindings.length := by rw [hb]; exact Nat.succ_pos _
      obtain ⟨a, ha⟩ : ∃ a, (keepIndices s.bindings).getLast? = some a :=
        ⟨_, List.getLast?_eq_some_getLast (List.ne_nil_of_length_pos (hkl ▸ hpos))⟩
      obtain ⟨q, hq, hqa⟩ := List.mem_map.mp (mem_sortNat.mp (List.mem_of_getLast? ha))
      have hlast := newIndexFrom_last (base := 0) ha
      have hq' : (q.1, (newIndex (keepIndices s.bindings) q.2).getD q.2) ∈ (compact s).bindings := by
        simp only [compact]
        exact List.mem_map.mpr ⟨q, hq, rfl⟩
      have hgt := localCount_gt hq'
      simp only [newIndex, hqa, hlast, Option.getD_some] at hgt
      rw [hlen]
      omega

theorem releaseFrom_get (nil : α) (keep : List Nat) (base : Nat) (l : List α) (j : Nat) :
    (releaseFrom nil keep base l)[j]? = (l[j]?).map (fun v => if keep.contains (base + j) then v else nil) := by
  induction l generalizing base j with
  | nil => simp [releaseFrom]
  | cons v vs ih =>
    cases j with
    | zero => simp [releaseFrom]
    | succ j =>
      simp only [releaseFrom, List.getElem?_cons_succ, ih]
      have : base + 1 + j = base + (j + 1) := by omega
      rw [this]

/-- **Releasing orphans preserves every lookup**: a bound variable's index is in the keep-set, so its
    slot is not overwritten. -/
theorem releaseOrphans_preserves_lookup (nil : α) (s : Session α) (x : String) :
    lookup { s with locals := releaseOrphans nil (keepIndices s.bindings) s.locals } x = lookup s x := by
  unfold lookup
  cases hx : s.bindings.lookup x with
  | none => rfl
  | some i =>
    simp only [releaseOrphans, releaseFrom_get, Nat.zero_add]
    have : i ∈ keepIndices s.bindings := mem_keepIndices hx
    simp [this]

/-- **A line keeps the session aligned.** Start from the compacted session `c = compact s`, aligned for
    the variable values `V`. Assume about the line (compiler + VM, checked per line by the harness):
    every binding it returns is either an old one, untouched (`i < c.locals.length`, same index, same
    value), or a new one whose value the line's function stored at its index, counted from the end of
    the compacted locals (`c.locals.length ≤ i`, `appended[i - c.locals.length] = V' x`) — which is
    where the compiler's `local_count = max index + 1` points *because* compaction happened
    (`compact_localCount`). Then after the line (orphans released) the session is aligned for `V'`. -/
theorem runLine_preserves_aligned (nil : α) (s : Session α) (eff : LineEffect α) (V V' : String → α)
    (hal : Aligned (compact s) V)
    (hnew : ∀ x i, eff.bindings.lookup x = some i →
      (i < (compact s).locals.length ∧ (compact s).bindings.lookup x = some i ∧ V' x = V x) ∨
      ((compact s).locals.length ≤ i ∧ eff.appended[i - (compact s).locals.length]? = some (V' x))) :
    Aligned (runLine nil s (.ran eff)) V' := by
  intro x i hx
  simp only [runLine] at hx ⊢
  simp only [releaseOrphans, releaseFrom_get, Nat.zero_add]
  have hkeep : (keepIndices eff.bindings).contains i = true := by simpa using mem_keepIndices hx
  simp only [hkeep, if_true]
  rcases hnew x i hx with ⟨hlt, hold, hv⟩ | ⟨hge, happ⟩
  · rw [List.getElem?_append_left hlt, hal x i hold, hv]; rfl
  · rw [List.getElem?_append_right hge, happ]; rfl

/-- The same line **without** compaction breaks alignment: one variable `a` at slot 0, an orphan in
    slot 1 left by the previous line; the compiler counts `local_count = 1`, puts the parameter at 1
    and the new variable `b` at 2 — but `Store` appends at 2 and 3, so `b` reads the parameter. -/
theorem misaligned_without_compaction :
    let s : Session String := { bindings := [("a", 0)], locals := ["va", "orphan"], lastResult := "r" }
    let eff : LineEffect String := { bindings := [("b", 2), ("a", 0)], appended := ["r", "vb"], result := "vb" }
    -- with compaction: aligned
    lookup (runLine "nil" s (.ran eff)) "b" = some "vb" ∧
    -- skipping `compact` (locals keep the orphan): `b` reads the wrong slot
    lookup ({ bindings := eff.bindings,
              locals := releaseOrphans "nil" (keepIndices eff.bindings) (s.locals ++ eff.appended),
              lastResult := eff.result } : Session String) "b" = some "r" := by
  decide

/-- **A rejected line is observationally a no-op.** A parse failure changes nothing at all. A compile
    failure changes the state only by `compact`: every variable reads the same value and the result
    that flows into the next line is the same. -/
theorem rejected_line_observationally_noop (nil : α) (s : Session α) (attempted : List String) :
    runLine nil s .parseError = s ∧
    (InRange s → (∀ x, lookup (runLine nil s (.compileError attempted)) x = lookup s x) ∧
      nextArgument (runLine nil s (.compileError attempted)) = nextArgument s ∧
      (runLine nil s (.compileError attempted)).lastResultTy = s.lastResultTy ∧
      (runLine nil s (.compileError attempted)).moduleCache = s.moduleCache ∧
      (runLine nil s (.compileError attempted)).bindings.map (·.1) = s.bindings.map (·.1)) := by
  refine ⟨rfl, fun hr => ⟨fun x => compact_preserves_lookup s hr x, rfl, rfl, rfl, ?_⟩⟩
  simp [runLine, compact, List.map_map, Function.comp_def]

/-- **Module-cache rollback.** Whatever a rejected line had imported before it failed, the session's
    module cache afterwards is the one before the line (the compiler worked on a clone) — so a later
    line that imports the same module compiles it afresh against the committed program. A line that
    compiles (code or not) commits exactly its imports. -/
theorem rejected_line_keeps_module_cache (nil : α) (s : Session α) (attempted : List String) :
    (runLine nil s .parseError).moduleCache = s.moduleCache ∧
    (runLine nil s (.compileError attempted)).moduleCache = s.moduleCache ∧
    (∀ b im, (runLine nil s (.noCode b im)).moduleCache = addModules s.moduleCache im) ∧
    (∀ eff, (runLine nil s (.ran eff)).moduleCache = addModules s.moduleCache eff.imports) :=
  ⟨rfl, rfl, fun _ _ => rfl, fun _ => rfl⟩

/-- Witness for the leaky rule (seeded changes C11-1 / C10-3 / C07-3): the rejected line's first import
    of `list` stays cached, so the session differs from the one that never saw the line. -/
theorem leaky_rule_keeps_rejected_imports :
    let s : Session String := { bindings := [("x", 0)], locals := ["1"], lastResult := "Ok" }
    (runLine "nil" s (.compileError ["list"])).moduleCache = [] ∧
    (runLineLeaky "nil" s (.compileError ["list"])).moduleCache = ["list"] := by
  decide

/-- **The flowing result stays typed.** Whatever happens to a line — parse error, compile error, a
    code-less line of type definitions, or a line that ran and whose result has its static result
    type — the value that flows into the next line is typed by the recorded `lastResultTy`. For the
    three outcomes that run nothing, value and type are literally unchanged. -/
theorem runLine_preserves_argTyped (nil : α) (hasTy : α → String → Prop) (s : Session α)
    (h : ArgTyped hasTy s) (o : LineOutcome α)
    (hran : ∀ eff, o = .ran eff → hasTy eff.result eff.resultTy) :
    ArgTyped hasTy (runLine nil s o) := by
  cases o with
  | parseError => exact h
  | compileError att => exact h
  | noCode b im => exact h
  | ran eff => exact hran eff rfl

theorem code_less_line_keeps_result_and_type (nil : α) (s : Session α) (b : List (String × Nat))
    (im : List String) :
    nextArgument (runLine nil s (.noCode b im)) = nextArgument s ∧
    (runLine nil s (.noCode b im)).lastResultTy = s.lastResultTy := ⟨rfl, rfl⟩

/-- Witness for F-C11-1 (the rule before 7b757f2): after `5` the session holds `5 : 'int`; a
    type-definition line makes the old rule record the type `[]` for the still-flowing `5`. -/
theorem old_rule_forgets_result_type :
    let hasTy : String → String → Prop := fun v t => (v = "5" ∧ t = "'int") ∨ (v = "nil" ∧ t = "[]")
    let s : Session String := { bindings := [], locals := ["nil"], lastResult := "5", lastResultTy := "'int" }
    ArgTyped hasTy s ∧ ¬ ArgTyped hasTy (runLineOld "nil" s (.noCode [] [])) ∧
      ArgTyped hasTy (runLine "nil" s (.noCode [] [])) := by
  refine ⟨Or.inl ⟨rfl, rfl⟩, ?_, Or.inl ⟨rfl, rfl⟩⟩
  intro h
  rcases h with ⟨_, h2⟩ | ⟨h1, _⟩
  · exact absurd h2 (by decide)
  · exact absurd h1 (by decide)

/-- **The persistent top-level frame keeps its locals; every other frame exit clears them.** -/
theorem persistent_frame_keeps_locals (base : Nat) (locals : List α) :
    localsAfterFrameExit true true base locals = locals ∧
    (∀ last, localsAfterFrameExit false last base locals = locals.take base) ∧
    (∀ pers, localsAfterFrameExit pers false base locals = locals.take base) := by
  refine ⟨rfl, fun last => ?_, fun pers => ?_⟩
  · simp [localsAfterFrameExit, shouldClearLocals]
  · cases pers <;> simp [localsAfterFrameExit, shouldClearLocals]

/-- The VM model's frame auto-pop (`Core/Packaging/Sem.lean`, mirror of `Executor::step`) applies
    exactly that rule: when the last frame of a persistent process is exhausted the locals survive. -/
theorem vm_persistent_frame_keeps_locals (P : QM.Packaging.Prog) (B : QM.Packaging.BuiltinSem)
    (stk lo : List QM.Packaging.Val) (fr : QM.Packaging.Frame) (pers : Bool)
    (h : QM.Packaging.fetch P fr = none) :
    QM.Packaging.step P B ⟨stk, lo, [fr], pers⟩ =
      .next ⟨stk, localsAfterFrameExit pers true fr.base lo, [], pers⟩ := by
  cases pers <;> simp [QM.Packaging.step, h, localsAfterFrameExit, shouldClearLocals]

/-- Non-vacuity of the hypotheses: a concrete three-variable session with a shared slot and an orphan. -/
example :
    let s : Session String := { bindings := [("x", 3), ("y", 1), ("z", 3)], locals := ["p", "vy", "t", "vx"],
                                lastResult := "r" }
    InRange s ∧ (compact s).bindings = [("x", 2), ("y", 0), ("z", 2)] ∧ (compact s).locals = ["vy", "vx", "vx"] ∧
      lookup (compact s) "z" = some "vx" := by
  refine ⟨?_, by decide, by decide, by decide⟩
  intro p hp
  simp at hp
  rcases hp with rfl | rfl | rfl <;> decide

end C11
