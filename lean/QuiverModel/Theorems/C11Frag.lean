import QuiverModel.Theorems.C02Loc1
import QuiverModel.Lemmas.RefSem.Slot
import QuiverModel.Theorems.C11
/-
C11, fragment theorem — **for straight-line binding lines the index-assignment assumption of
`C11.runLine_preserves_aligned` is a theorem, not an oracle.**

Rests on C02's fragment compiler with locals (`Core/RefSem/Compile1.lean`: `compileSq`,
`evalSq`, `slot`, tied to compiler.rs by C02's "fragment" stream) and its correctness on M-VM
(`Theorems/C02Loc1.lean`: `compileSq_aruns` / `compileSq1_correct`: the compiled code of a sequence `sq`,
started with the frame's locals `L` aligned with the compile-time names `Γ` (`L.length = Γ.length`),
ends with the locals `evalSq Γ L flow sq` says). Proved here:

  * `compile*_extends` / `eval*_extends` — compile-time names and run-time locals only grow by appending;
  * `evalSq_aligned` — if no step evaluated to nil, the locals afterwards are again aligned with the names
    (the `eval*` facts are C02Struct's `C02N.evalT_ext …` / `compileT_len …`, read through `T1.up` of C02Up);
  * `slot_append` (Lemmas/RefSem/Slot.lean) — a name of the extended context resolves either to its old slot (untouched) or to a
    slot at or above the old length, at the position of its binder among the new names;
  * `fragment_line_assignment` — the three together are exactly the hypothesis `hnew` of
    `runLine_preserves_aligned`, and `fragment_line_keeps_session_aligned` draws the conclusion for a
    session whose line is in the fragment.

The fragment: literals, `~`, tuples, reads of variables, `x = e` / `e =x`, placeholder, integer-literal
and flat tuple-destructuring patterns, sequences with the nil short-circuit. Outside it (blocks, calls,
closures, imports, processes) the assumption stays a per-line check of the harness.
-/
namespace C11Frag
open QM.VM QM.RefSem.C1

mutual
theorem compileT_extends : (t : T1) → (Γ : List String) → ∃ names, (compileT Γ t).2 = Γ ++ names
  | .int _ _, Γ | .ripple, Γ | .var _, Γ => ⟨[], (List.append_nil Γ).symm⟩
  | .tup _ fs, Γ => compileFs_extends fs Γ 0
  | .mtch p, _ => ⟨patBinds p, rfl⟩
theorem compileCh_extends : (c : Ch1) → (Γ : List String) → ∃ names, (compileCh Γ c).2 = Γ ++ names
  | .nil, Γ => ⟨[], (List.append_nil Γ).symm⟩
  | .cons t r, Γ =>
    let ⟨n1, h1⟩ := compileT_extends t Γ
    let ⟨n2, h2⟩ := compileCh_extends r (compileT Γ t).2
    ⟨n1 ++ n2, h2.trans (h1 ▸ List.append_assoc ..)⟩
theorem compileFs_extends : (fs : Fs1) → (Γ : List String) → (k : Nat) →
    ∃ names, (compileFs Γ fs k).2 = Γ ++ names
  | .nil, Γ, _ => ⟨[], (List.append_nil Γ).symm⟩
  | .cons c r, Γ, k =>
    let ⟨n1, h1⟩ := compileCh_extends c Γ
    let ⟨n2, h2⟩ := compileFs_extends r (compileCh Γ c).2 (k + 1)
    ⟨n1 ++ n2, h2.trans (h1 ▸ List.append_assoc ..)⟩
end

theorem compileSq_extends : (sq : Sq1) → (Γ : List String) → ∃ names, (compileSq Γ sq).2 = Γ ++ names
  | .last c, Γ => compileCh_extends c Γ
  | .cons c r, Γ =>
    let ⟨n1, h1⟩ := compileCh_extends c Γ
    let ⟨n2, h2⟩ := compileSq_extends r (compileCh Γ c).2
    ⟨n1 ++ n2, h2.trans (h1 ▸ List.append_assoc ..)⟩

theorem evalFs_extends : (fs : Fs1) → (Γ : List String) → (L : List Val) → (flow : Val) → (vs L' : List Val) →
    evalFs Γ L flow fs = some (vs, L') → ∃ app, L' = L ++ app
  | fs, Γ, L, flow, vs, L', h =>
    let ⟨ext, he, _⟩ := C02N.evalFs_ext C02N.sem0 fs.up Γ L flow vs L' (by rw [evalFs_up, h])
    ⟨ext, he⟩

theorem evalSq_extends : (sq : Sq1) → (Γ : List String) → (L : List Val) → (flow v : Val) → (L' : List Val) →
    evalSq Γ L flow sq = some (v, L') → ∃ app, L' = L ++ app
  | sq, Γ, L, flow, v, L', h =>
    let ⟨ext, he, _⟩ := C02N.evalSq_ext C02N.sem0 sq.up Γ L flow v L' (by rw [evalSq_up, h]; rfl)
    ⟨ext, he⟩

theorem evalT_aligned : (t : T1) → (Γ : List String) → (L : List Val) → (flow v : Val) → (L' : List Val) →
    L.length = Γ.length → evalT Γ L flow t = some (v, L') → L'.length = (compileT Γ t).2.length
  | t, Γ, L, flow, v, L', hal, h => by
    obtain ⟨ext, rfl, he⟩ := C02N.evalT_ext C02N.sem0 t.up Γ L flow v L' (by rw [evalT_up, h]; rfl)
    rw [← compileT_up, C02N.compileT_len, List.length_append, hal, he]
theorem evalFs_aligned : (fs : Fs1) → (Γ : List String) → (L : List Val) → (flow : Val) → (vs L' : List Val) →
    (k : Nat) → L.length = Γ.length → evalFs Γ L flow fs = some (vs, L') →
    L'.length = (compileFs Γ fs k).2.length
  | fs, Γ, L, flow, vs, L', k, hal, h => by
    obtain ⟨ext, rfl, he⟩ := C02N.evalFs_ext C02N.sem0 fs.up Γ L flow vs L' (by rw [evalFs_up, h])
    rw [← compileFs_up, C02N.compileFs_len, List.length_append, hal, he]

/-- If the sequence's value is not nil — no step short-circuited — the locals afterwards are aligned
    with the compile-time names afterwards. (After a nil step they are not: the skipped steps' Stores
    did not happen; that is the case C11's statement excludes.) -/
theorem evalSq_aligned : (sq : Sq1) → (Γ : List String) → (L : List Val) → (flow v : Val) → (L' : List Val) →
    L.length = Γ.length → evalSq Γ L flow sq = some (v, L') → v.isNil = false →
    L'.length = (compileSq Γ sq).2.length
  | sq, Γ, L, flow, v, L', hal, h, hv => by
    obtain ⟨ext, rfl, _, he⟩ := C02N.evalSq_ext C02N.sem0 sq.up Γ L flow v L' (by rw [evalSq_up, h]; rfl)
    rw [← compileSq_up, C02N.compileSq_len, List.length_append, hal, he hv]

/-- **For a fragment line, the assumption of `runLine_preserves_aligned` holds.** Start: names `Γ`,
    locals `L`, aligned. The line `sq` evaluates to a non-nil `v` with locals `L'`. Then the names
    afterwards are `Γ ++ names`, the locals `L ++ app` with `app.length = names.length`, and every name
    `x` of the new context resolves either to its old slot — below `L.length`, where the old value still
    sits — or to a slot `i ≥ L.length` holding `app[i - L.length]`, the value its binder stored. -/
theorem fragment_line_assignment (sq : Sq1) (Γ : List String) (L : List Val) (flow v : Val) (L' : List Val)
    (hal : L.length = Γ.length) (hev : evalSq Γ L flow sq = some (v, L')) (hv : v.isNil = false) :
    ∃ names app, (compileSq Γ sq).2 = Γ ++ names ∧ L' = L ++ app ∧ app.length = names.length ∧
      ∀ x i, slot (Γ ++ names) x = some i →
        (i < L.length ∧ slot Γ x = some i ∧ L'[i]? = L[i]?) ∨
        (L.length ≤ i ∧ L'[i]? = app[i - L.length]? ∧ i - L.length < app.length) := by
  obtain ⟨names, hn⟩ := compileSq_extends sq Γ
  obtain ⟨app, ha⟩ := evalSq_extends sq Γ L flow v L' hev
  have hlen := evalSq_aligned sq Γ L flow v L' hal hev hv
  have happ : app.length = names.length := by
    rw [hn, ha] at hlen
    simp only [List.length_append] at hlen
    omega
  refine ⟨names, app, hn, ha, happ, ?_⟩
  intro x i hs
  rcases slot_append Γ names x i hs with ⟨_, hold⟩ | ⟨hge, hnew⟩
  · left
    have hlt : i < L.length := by rw [hal]; exact slot_lt Γ x i hold
    exact ⟨hlt, hold, by rw [ha, List.getElem?_append_left hlt]⟩
  · right
    have hge' : L.length ≤ i := by rw [hal]; exact hge
    refine ⟨hge', by rw [ha, List.getElem?_append_right hge'], ?_⟩
    have := slot_lt names x _ hnew
    rw [hal, happ]; exact this

/-- The same on the machine: C02's `compileSq_aruns` runs the compiled line to exactly those locals, so
    after a fragment line the frame's locals hold, at the slot of every name in scope, the value the
    reference evaluation of the line binds to it — alignment without any per-line oracle. The third part: a name of
    the old context keeps its slot or is shadowed by a new one at or above `L.length`, and the old slot keeps its value. -/
theorem fragment_line_runs_aligned {O : Oracle} {P : Prog} {code : Array Instr}
    (hO : C02L.OracleIntEq O) (hP : wfProg P) (hsz : code.size < 2 ^ 63 - 1)
    (sq : Sq1) (Γ : List String) (pc : Nat) (flow : Val) (rest L : List Val) (v : Val) (L' : List Val)
    (hl : C02S.Located code pc (compileSq Γ sq).1) (hw : wfSq P sq) (hal : L.length = Γ.length)
    (hev : evalSq Γ L flow sq = some (v, L')) (hv : v.isNil = false) :
    C02L.ARunsL O P code (pc, flow :: rest, L) (pc + (compileSq Γ sq).1.length, v :: rest, L') ∧
    L'.length = (compileSq Γ sq).2.length ∧
    (∀ x i, slot Γ x = some i → (∀ j, slot (compileSq Γ sq).2 x = some j → j = i ∨ L.length ≤ j) ∧ L'[i]? = L[i]?) := by
  refine ⟨C02L.compileSq_aruns hO hP hsz sq Γ pc flow rest L v L' hl hw hal hev,
    evalSq_aligned sq Γ L flow v L' hal hev hv, ?_⟩
  intro x i hx
  obtain ⟨names, app, hn, ha, _, hass⟩ := fragment_line_assignment sq Γ L flow v L' hal hev hv
  have hlt : i < L.length := by rw [hal]; exact slot_lt Γ x i hx
  refine ⟨?_, by rw [ha, List.getElem?_append_left hlt]⟩
  intro j hj
  rw [hn] at hj
  rcases hass x j hj with ⟨_, hold, _⟩ | ⟨hge, _, _⟩
  · left; rw [hold] at hx; cases hx; rfl
  · right; exact hge

open QM.Repl in
/-- **A fragment line keeps the session aligned — the index assignment is derived, not assumed.** `s` is the
    session before the line, `c = compact s` what `Repl::evaluate` compiles against. `Γ` / `L` are the compile-time names and the
    frame's locals when the line's steps start: the session's variables (`hΓ`: a session binding is a
    name's slot below the session's locals) followed by whatever the wrapper stored first (`pre`: the
    parameter slot, reachable by no source name). The line `sq` evaluates (C02's `evalSq`, which
    `compileSq_aruns` proves is what the compiled code does) to a non-nil value with locals `L'`; the
    compiler returns the bindings of the new context (`hb`). Then after `runLine` — compaction, the
    line, orphan release — every variable's slot holds the value the line's evaluation left there:
    `Aligned`, with the hypothesis `hnew` of `C11.runLine_preserves_aligned` *derived* from
    `fragment_line_assignment` instead of assumed. What stays assumed about compiler and wrapper: `hΓ`, `hL`, `hb`, `happ`. -/
theorem fragment_line_keeps_session_aligned (nil : Val) (s : Session Val) (Γ : List String) (L pre : List Val)
    (sq : Sq1) (flow v : Val) (L' : List Val) (V : String → Val)
    (hV : Aligned (compact s) V) (hL : L = (compact s).locals ++ pre) (hal : L.length = Γ.length)
    (hΓ : ∀ x i, (compact s).bindings.lookup x = some i ↔ (slot Γ x = some i ∧ i < (compact s).locals.length))
    (hev : evalSq Γ L flow sq = some (v, L')) (hv : v.isNil = false)
    (eff : LineEffect Val) (hb : ∀ x i, eff.bindings.lookup x = some i → slot (compileSq Γ sq).2 x = some i)
    (happ : (compact s).locals ++ eff.appended = L') :
    Aligned (runLine nil s (.ran eff))
      (fun x => match slot (compileSq Γ sq).2 x with
        | some i => (L'[i]?).getD nil
        | none => V x) := by
  obtain ⟨names, app, hn, ha, _, hass⟩ := fragment_line_assignment sq Γ L flow v L' hal hev hv
  have hlen := evalSq_aligned sq Γ L flow v L' hal hev hv
  apply C11.runLine_preserves_aligned nil s eff V _ hV
  intro x i hx
  have hs := hb x i hx
  have hi : i < L'.length := by rw [hlen]; exact slot_lt _ x i hs
  have hsome : L'[i]? = some L'[i] := List.getElem?_eq_getElem hi
  by_cases hlt : i < (compact s).locals.length
  · left
    rw [hn] at hs
    rcases hass x i hs with ⟨_, hold, hget⟩ | ⟨hge, _, _⟩
    · refine ⟨hlt, (hΓ x i).mpr ⟨hold, hlt⟩, ?_⟩
      have h1 : L[i]? = (compact s).locals[i]? := by rw [hL, List.getElem?_append_left hlt]
      have h2 := hV x i ((hΓ x i).mpr ⟨hold, hlt⟩)
      simp only [hn, hs, hget, h1, h2, Option.getD_some]
    · rw [hL] at hge
      simp only [List.length_append] at hge
      omega
  · right
    have hge : (compact s).locals.length ≤ i := Nat.le_of_not_lt hlt
    refine ⟨hge, ?_⟩
    have : eff.appended[i - (compact s).locals.length]? = L'[i]? := by
      rw [← happ, List.getElem?_append_right hge]
    rw [this, hsome]
    simp only [hs, hsome, Option.getD_some]

end C11Frag
