import QuiverModel.Core.Soundness.Sequence
/-
C01 — the nil of a short-circuiting `,`-sequence is never lost (accumulated rule), and the rule
that looks at the preceding chain only loses it (witness).
-/
namespace C01
open QM.Soundness

theorem seqNilableFrom_acc (rest : List Bool) (p : Bool) : seqNilableFrom .accumulated rest p true = true := by
  induction rest generalizing p with
  | nil => rfl
  | cons o r ih => simp only [seqNilableFrom, Bool.or_true, ih]

/-- once a step whose own type is flagged yields nil, the accumulated flag is set and stays. -/
theorem seqNilableFrom_sound (own : List Bool) : ∀ (run : List Bool) (p acc : Bool),
    own.length = run.length → (∀ k : Nat, run[k]? = some true → own[k]? = some true) →
    run.any id = true → seqNilableFrom .accumulated own p acc = true := by
  induction own with
  | nil =>
    intro run p acc hl _ h
    cases run with
    | nil => cases h
    | cons _ _ => cases hl
  | cons o os ih =>
    intro run p acc hl hc h
    cases run with
    | nil => cases hl
    | cons r rs =>
      unfold seqNilableFrom
      cases r with
      | true =>
        cases Option.some.inj (hc 0 rfl)
        exact seqNilableFrom_acc os true
      | false =>
        exact ih rs o (o || acc) (Nat.succ.inj hl) (fun k hk => hc (k + 1) hk) h

/-- the first chain has no predecessor: the sequence starts with the accumulated flag unset. -/
theorem seqNilable_eq (own : List Bool) (p : Bool) :
    seqNilable .accumulated own = seqNilableFrom .accumulated own p false := by
  cases own with
  | nil => rfl
  | cons o os => simp only [seqNilable, seqNilableFrom, Bool.or_false]

/-- **a sequence that can yield nil at run time is typed with nil**: for every assignment of
"this step evaluated to nil" that respects the steps' own types. -/
theorem seq_nil_sound (own run : List Bool) (hl : own.length = run.length)
    (hc : ∀ k : Nat, run[k]? = some true → own[k]? = some true) (h : seqYieldsNil run = true) :
    seqNilable .accumulated own = true :=
  seqNilable_eq own false ▸ seqNilableFrom_sound own run false false hl hc h

/-- `=A[a], y = 1, [a, y] __integer_add__` on the argument `B`: the first step is nil. -/
theorem threaded_only_loses_nil :
    seqNilable .threadedOnly [true, false, false] = false ∧
    seqNilable .accumulated [true, false, false] = true ∧ seqYieldsNil [true, false, false] = true := by decide +kernel

/-- for two steps the rules agree (why the existing tests do not notice). -/
theorem rules_agree_on_two (a b : Bool) : seqNilable .threadedOnly [a, b] = seqNilable .accumulated [a, b] := by
  cases a <;> cases b <;> rfl

end C01
