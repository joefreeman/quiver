import QuiverModel.Lemmas.Dict.Entries
import QuiverModel.Lemmas.Dict.Canonical
import QuiverModel.Lemmas.Dict.BuiltinsTie
/-
C19 — the dict module behaves as a finite map.

Property theorems about M-Dict (`QuiverModel/Core/Dict.lean`, a branch-by-branch translation of
`std/dict.qv`), for **every key type `K` with decidable equality and every hash function
`hash : K → Nat` with `hash k < 2^32`** — hence for key sets that collide in every 5-bit fragment
and in the full 32-bit hash (take a constant `hash`: see the examples at the end).

* `toMap d : K → Option V` is the abstraction (first binding among the contents `toList d`; no hash
  function involved); `Inv hash d` is the representation invariant (`Empty`, or `WF hash d 0 0`,
  see `Lemmas/Dict/Spec.lean`: hash-prefix placement, one child per occupied slot of the bitmap, in slot order,
  no `Empty` child, buckets ≥ 2 entries with one hash and distinct keys, a lone child is a node).
* `put` is fuelled (only `split_pair`/`split_node` consume fuel): the specification theorems hold
  for *every* fuel that returns a result, and `put_fuel_suffices` shows fuel 8 always does.
-/
namespace C19
open QM.Dict

variable {K V : Type} [DecidableEq K] {hash : K → Nat}

/-- representation invariant of a whole dict. `WF` has no rule for `Empty` (a child is never empty), so the root is
`Empty` or well-formed at shift 0 under prefix 0 — where the prefix condition `hash k % 2^0 = 0` is `Nat.mod_one`. -/
def Inv (hash : K → Nat) (d : Dict K V) : Prop := WF0 hash d 0 0

theorem get_iff_mem {d : Dict K V} (h : Inv hash d) (k : K) (v : V) :
    Api.get hash d k = some v ↔ (k, v) ∈ toList d := by
  rcases h with rfl | h
  · simp [Api.get, QM.Dict.get]
  · exact get_iff h k v (Nat.mod_one _)

theorem put_mem (hb : ∀ k, hash k < 2 ^ 32) {d d' : Dict K V} (h : Inv hash d) {fuel : Nat} {k : K}
    {v : V} (hput : Api.put hash fuel d k v = some d') :
    WF hash d' 0 0 ∧ ∀ e, e ∈ toList d' ↔ e = (k, v) ∨ (e.1 ≠ k ∧ e ∈ toList d) := by
  rcases h with rfl | h
  · simp only [Api.put, put, Option.some.injEq] at hput
    subst hput
    exact ⟨WF.leaf rfl (Nat.mod_one _), by intro e; simp⟩
  · obtain ⟨w1, w2, _⟩ := QM.Dict.put_spec hb h fuel k v (Nat.mod_one _) d' hput
    exact ⟨w1, w2⟩

theorem remove_mem {d : Dict K V} (h : Inv hash d) (k : K) :
    Inv hash (Api.remove hash d k) ∧
      ∀ e, e ∈ toList (Api.remove hash d k) ↔ (e.1 ≠ k ∧ e ∈ toList d) := by
  rcases h with rfl | h
  · simp [Api.remove, remove, Inv, WF0]
  · exact QM.Dict.remove_spec h k (Nat.mod_one _)

omit [DecidableEq K] in
theorem Inv.keys_nodup {d : Dict K V} (h : Inv hash d) : ((toList d).map (·.1)).Nodup := by
  rcases h with rfl | h
  · simp
  · exact h.keys_nodup

theorem toMap_eq_some_iff {d : Dict K V} (h : Inv hash d) (k : K) (v : V) :
    toMap d k = some v ↔ (k, v) ∈ toList d :=
  QM.lookup_eq_some_iff_of_nodup h.keys_nodup k v

omit [DecidableEq K] in
theorem new_wf : Inv hash (Api.new : Dict K V) := Or.inl rfl

/-- `put` preserves the invariant (for every fuel that returns a result) -/
theorem put_wf (hb : ∀ k, hash k < 2 ^ 32) {d d' : Dict K V} (h : Inv hash d) {fuel : Nat} {k : K}
    {v : V} (hput : Api.put hash fuel d k v = some d') : Inv hash d' :=
  Or.inr (put_mem hb h hput).1

/-- `remove` preserves the invariant -/
theorem remove_wf {d : Dict K V} (h : Inv hash d) (k : K) : Inv hash (Api.remove hash d k) :=
  (remove_mem h k).1

/-- under the invariant, fuel 8 (`defaultFuel`, what the driver uses) is always enough: 7 levels
of 5-bit fragments separate any two different 32-bit hashes -/
theorem put_fuel_suffices (hb : ∀ k, hash k < 2 ^ 32) {d : Dict K V} (h : Inv hash d) {fuel : Nat}
    (hfuel : 8 ≤ fuel) (k : K) (v : V) : (Api.put hash fuel d k v).isSome = true := by
  rcases h with rfl | h
  · simp [Api.put, put]
  · exact put_isSome hb h fuel k v (Nat.mod_one _) (Nat.zero_le _)
      (Nat.le_trans (by decide : 37 ≤ 0 + 5 * 8) (Nat.add_le_add_left (Nat.mul_le_mul_left 5 hfuel) 0))

/-- `get` computes the abstraction -/
theorem get_spec {d : Dict K V} (h : Inv hash d) (k : K) : Api.get hash d k = toMap d k := by
  apply Option.ext
  intro v
  rw [get_iff_mem h, toMap_eq_some_iff h]

/-- `put` is `Function.update (toMap d) k (some v)` -/
theorem put_spec (hb : ∀ k, hash k < 2 ^ 32) {d d' : Dict K V} (h : Inv hash d) {fuel : Nat} {k : K}
    {v : V} (hput : Api.put hash fuel d k v = some d') (k' : K) :
    toMap d' k' = if k' = k then some v else toMap d k' := by
  have h' := put_wf hb h hput
  obtain ⟨_, w⟩ := put_mem hb h hput
  apply Option.ext
  intro x
  rw [toMap_eq_some_iff h', w]
  by_cases hkk : k' = k
  · subst hkk; simp; exact eq_comm
  · simp only [hkk, if_false, toMap_eq_some_iff h]
    simp [hkk]

/-- `remove` is `Function.update (toMap d) k none` -/
theorem remove_spec {d : Dict K V} (h : Inv hash d) (k k' : K) :
    toMap (Api.remove hash d k) k' = if k' = k then none else toMap d k' := by
  obtain ⟨h', w⟩ := remove_mem h k
  apply Option.ext
  intro x
  rw [toMap_eq_some_iff h', w]
  by_cases hkk : k' = k
  · subst hkk; simp
  · simp only [hkk, if_false, toMap_eq_some_iff h]
    simp [hkk]

theorem get_new (k : K) : Api.get hash (Api.new : Dict K V) k = none := by
  simp [Api.get, Api.new, QM.Dict.get]

theorem get_put_same (hb : ∀ k, hash k < 2 ^ 32) {d d' : Dict K V} (h : Inv hash d) {fuel : Nat}
    {k : K} {v : V} (hput : Api.put hash fuel d k v = some d') : Api.get hash d' k = some v := by
  rw [get_spec (put_wf hb h hput), put_spec hb h hput]; simp

theorem get_put_other (hb : ∀ k, hash k < 2 ^ 32) {d d' : Dict K V} (h : Inv hash d) {fuel : Nat}
    {k k' : K} {v : V} (hput : Api.put hash fuel d k v = some d') (hne : k' ≠ k) :
    Api.get hash d' k' = Api.get hash d k' := by
  rw [get_spec (put_wf hb h hput), put_spec hb h hput, get_spec h]; simp [hne]

theorem get_remove_same {d : Dict K V} (h : Inv hash d) (k : K) :
    Api.get hash (Api.remove hash d k) k = none := by
  rw [get_spec (remove_wf h k), remove_spec h]; simp

theorem get_remove_other {d : Dict K V} (h : Inv hash d) {k k' : K} (hne : k' ≠ k) :
    Api.get hash (Api.remove hash d k) k' = Api.get hash d k' := by
  rw [get_spec (remove_wf h k), remove_spec h, get_spec h]; simp [hne]

/-- `has?` is definedness of the abstraction -/
theorem has_spec {d : Dict K V} (h : Inv hash d) (k : K) :
    Api.has hash d k = (toMap d k).isSome := by
  simp only [Api.has]
  rw [← get_spec h]; rfl

/-- persistence, as far as the pure model can say it: operations return new values, and the old version — a value,
which nothing can change — still satisfies the invariant and answers `get` by its map. The hypotheses about the new
versions are not used: that a value of the real runtime is not mutated by later operations is not a statement about
this model. -/
theorem persistence (hb : ∀ k, hash k < 2 ^ 32) {d d1 : Dict K V} (h : Inv hash d) {fuel : Nat} {k : K}
    {v : V} (_hput : Api.put hash fuel d k v = some d1) (k2 k' : K) :
    let _d2 := Api.remove hash d k2
    Api.get hash d k' = toMap d k' ∧ Inv hash d := by
  have _ := hb
  exact ⟨get_spec h k', h⟩

omit [DecidableEq K] in
/-- `entries` lists the contents (in the traversal's order) -/
theorem entries_perm (d : Dict K V) : (Api.entries d).Perm (toList d) := by
  have := QM.Dict.entries_perm [d] []
  simpa [Api.entries] using this

/-- `entries`: distinct keys, and exactly the bindings of the abstraction -/
theorem entries_spec {d : Dict K V} (h : Inv hash d) :
    ((Api.entries d).map (·.1)).Nodup ∧
      ∀ k v, (k, v) ∈ Api.entries d ↔ toMap d k = some v := by
  constructor
  · exact ((entries_perm d).map _).nodup_iff.mpr h.keys_nodup
  · intro k v
    rw [(entries_perm d).mem_iff, toMap_eq_some_iff h]

omit [DecidableEq K] in
theorem count_eq_length (d : Dict K V) : Api.count d = (Api.entries d).length := by
  simp [Api.count, Api.entries, length_eq]

omit [DecidableEq K] in
theorem keys_eq (d : Dict K V) : Api.keys d = (Api.entries d).map (·.1) := by
  simp [Api.keys, Api.entries, map_eq]

omit [DecidableEq K] in
theorem values_eq (d : Dict K V) : Api.values d = (Api.entries d).map (·.2) := by
  simp [Api.values, Api.entries, map_eq]

/-- `keys` enumerates the domain without repetition -/
theorem keys_spec {d : Dict K V} (h : Inv hash d) :
    (Api.keys d).Nodup ∧ ∀ k, k ∈ Api.keys d ↔ (toMap d k).isSome = true := by
  obtain ⟨h1, h2⟩ := entries_spec h
  rw [keys_eq]
  refine ⟨h1, ?_⟩
  intro k
  rw [List.mem_map]
  constructor
  · rintro ⟨⟨a, b⟩, he, rfl⟩
    rw [(h2 a b).mp he]; rfl
  · intro hk
    obtain ⟨v, hv⟩ := Option.isSome_iff_exists.mp hk
    exact ⟨(k, v), (h2 k v).mpr hv, rfl⟩

omit [DecidableEq K] in
theorem count_eq_keys_length (d : Dict K V) : Api.count d = (Api.keys d).length := by
  rw [count_eq_length, keys_eq, List.length_map]

/-- `count` is the size of the domain of the abstraction: it equals the length of ANY duplicate-free
enumeration of the keys bound by `toMap d`. -/
theorem count_spec {d : Dict K V} (h : Inv hash d) (ks : List K) (hn : ks.Nodup)
    (hks : ∀ k, k ∈ ks ↔ (toMap d k).isSome = true) : Api.count d = ks.length := by
  obtain ⟨n, m⟩ := keys_spec h
  rw [count_eq_keys_length]
  exact ((List.perm_ext_iff_of_nodup n hn).mpr fun k => (m k).trans (hks k).symm).length_eq

/-- replacing does not change the size, inserting adds one -/
theorem count_put (hb : ∀ k, hash k < 2 ^ 32) {d d' : Dict K V} (h : Inv hash d) {fuel : Nat} {k : K}
    {v : V} (hput : Api.put hash fuel d k v = some d') :
    Api.count d' = if (toMap d k).isSome then Api.count d else Api.count d + 1 := by
  obtain ⟨n', m'⟩ := keys_spec (put_wf hb h hput)
  obtain ⟨n, m⟩ := keys_spec h
  have hm : ∀ k', k' ∈ Api.keys d' ↔ k' ∈ k :: Api.keys d := fun k' => by
    rw [m', put_spec hb h hput, List.mem_cons, m]
    by_cases hkk : k' = k <;> simp [hkk]
  rw [count_eq_keys_length, count_eq_keys_length]
  split
  · rename_i hk
    refine ((List.perm_ext_iff_of_nodup n' n).mpr fun k' => (hm k').trans ?_).length_eq
    exact List.mem_cons.trans (or_iff_right_of_imp fun hkk => hkk ▸ (m k).mpr hk)
  · rename_i hk
    exact ((List.perm_ext_iff_of_nodup n' (List.nodup_cons.mpr ⟨fun hc => hk ((m k).mp hc), n⟩)).mpr hm).length_eq

/-- removing a bound key takes one off, removing an absent key changes nothing -/
theorem count_remove {d : Dict K V} (h : Inv hash d) (k : K) :
    Api.count (Api.remove hash d k) + (if (toMap d k).isSome then 1 else 0) = Api.count d := by
  obtain ⟨n', m'⟩ := keys_spec (remove_wf h k)
  obtain ⟨n, m⟩ := keys_spec h
  have hm : ∀ k', k' ∈ Api.keys (Api.remove hash d k) ↔ k' ≠ k ∧ k' ∈ Api.keys d := fun k' => by
    rw [m', remove_spec h, m]
    by_cases hkk : k' = k <;> simp [hkk]
  rw [count_eq_keys_length, count_eq_keys_length]
  split
  · rename_i hk
    refine ((List.perm_ext_iff_of_nodup (List.nodup_cons.mpr ⟨fun hc => ((hm k).mp hc).1 rfl, n'⟩) n).mpr
      fun k' => ?_).length_eq
    rw [List.mem_cons, hm]
    by_cases hkk : k' = k
    · simp [hkk, (m k).mpr hk]
    · simp [hkk]
  · rename_i hk
    refine ((List.perm_ext_iff_of_nodup n' n).mpr fun k' => (hm k').trans ?_).length_eq
    exact and_iff_right_of_imp fun hk' hkk => hk ((m k).mp (hkk ▸ hk'))

/-- an updating operation of a history -/
inductive Cmd (K V : Type) where
  | put (k : K) (v : V)
  | remove (k : K)

/-- what the operation does to the trie … -/
def Cmd.run (hash : K → Nat) (fuel : Nat) (d : Dict K V) : Cmd K V → Option (Dict K V)
  | .put k v => Api.put hash fuel d k v
  | .remove k => some (Api.remove hash d k)

/-- … and what it means for a finite map -/
def Cmd.denote (m : K → Option V) : Cmd K V → K → Option V
  | .put k v => fun k' => if k' = k then some v else m k'
  | .remove k => fun k' => if k' = k then none else m k'

/-- run a whole history from a given dict -/
def runHistory (hash : K → Nat) (fuel : Nat) : Dict K V → List (Cmd K V) → Option (Dict K V)
  | d, [] => some d
  | d, c :: cs => match c.run hash fuel d with
    | none => none
    | some d' => runHistory hash fuel d' cs

/-- one operation: the invariant is kept and the abstraction follows `denote` -/
theorem Cmd.run_spec (hb : ∀ k, hash k < 2 ^ 32) {fuel : Nat} {d d' : Dict K V} (h : Inv hash d)
    (c : Cmd K V) (hr : c.run hash fuel d = some d') :
    Inv hash d' ∧ toMap d' = c.denote (toMap d) := by
  cases c with
  | put k v => exact ⟨put_wf hb h hr, funext (put_spec hb h hr)⟩
  | remove k =>
    obtain rfl := Option.some.inj hr
    exact ⟨remove_wf h k, funext (remove_spec h k)⟩

theorem Cmd.run_isSome (hb : ∀ k, hash k < 2 ^ 32) {fuel : Nat} (hfuel : 8 ≤ fuel) {d : Dict K V}
    (h : Inv hash d) (c : Cmd K V) : (c.run hash fuel d).isSome = true := by
  cases c with
  | put k v => exact put_fuel_suffices hb h hfuel k v
  | remove k => rfl

theorem runHistory_spec (hb : ∀ k, hash k < 2 ^ 32) {fuel : Nat} :
    ∀ (cs : List (Cmd K V)) {d d' : Dict K V}, Inv hash d → runHistory hash fuel d cs = some d' →
      Inv hash d' ∧ toMap d' = cs.foldl Cmd.denote (toMap d) := by
  intro cs
  induction cs with
  | nil => intro d d' h hr; obtain rfl := Option.some.inj hr; exact ⟨h, rfl⟩
  | cons c cs ih =>
    intro d d' h hr
    rw [runHistory] at hr
    cases hc : c.run hash fuel d with
    | none => rw [hc] at hr; cases hr
    | some d₁ =>
      rw [hc] at hr
      obtain ⟨h₁, e₁⟩ := c.run_spec hb h hc
      rw [List.foldl_cons, ← e₁]
      exact ih h₁ hr

/-- **the property, as stated**: after any sequence of insertions, replacements and removals
starting from `new`, `get` returns for every key the value most recently stored and not since
removed (`none` otherwise) — i.e. what the same sequence does to the empty finite map — and the
invariant holds. For every hash function, every fuel that returns a result. -/
theorem history_spec (hb : ∀ k, hash k < 2 ^ 32) {fuel : Nat} (cs : List (Cmd K V)) {d : Dict K V}
    (hr : runHistory hash fuel (Api.new : Dict K V) cs = some d) (k : K) :
    Inv hash d ∧ Api.get hash d k = cs.foldl Cmd.denote (fun _ => none) k := by
  obtain ⟨w1, w2⟩ := runHistory_spec hb cs (new_wf (hash := hash) (V := V)) hr
  refine ⟨w1, ?_⟩
  rw [get_spec w1, w2]
  have h0 : toMap (Api.new : Dict K V) = fun _ => none := by funext k; simp [toMap, Api.new]
  rw [h0]

/-- … and with fuel 8 every history does return a result -/
theorem history_total (hb : ∀ k, hash k < 2 ^ 32) {fuel : Nat} (hfuel : 8 ≤ fuel) :
    ∀ (cs : List (Cmd K V)) {d : Dict K V}, Inv hash d → (runHistory hash fuel d cs).isSome = true := by
  intro cs
  induction cs with
  | nil => intro d _; rfl
  | cons c cs ih =>
    intro d h
    obtain ⟨d₁, hc⟩ := Option.isSome_iff_exists.mp (c.run_isSome hb hfuel h)
    rw [runHistory, hc]
    exact ih (c.run_spec hb h hc).1

/-- the map denoted by a list of pairs put one after the other onto `m` -/
def putAll (m : K → Option V) (pairs : List (K × V)) : K → Option V :=
  pairs.foldl (fun m e k' => if k' = e.1 then some e.2 else m k') m

/-- `from` is a history of insertions -/
theorem fromList_eq_runHistory (fuel : Nat) (d : Dict K V) (pairs : List (K × V)) :
    fromList hash fuel d pairs = runHistory hash fuel d (pairs.map fun e => .put e.1 e.2) := by
  induction pairs generalizing d with
  | nil => rfl
  | cons e t ih =>
    obtain ⟨k, v⟩ := e
    simp only [fromList, List.map_cons, runHistory, Cmd.run, Api.put]
    cases put fuel d k v (hash k) 0 with
    | none => rfl
    | some d' => exact ih d'

theorem putAll_eq_foldl (m : K → Option V) (pairs : List (K × V)) :
    putAll m pairs = (pairs.map fun e => Cmd.put e.1 e.2).foldl Cmd.denote m := by
  rw [List.foldl_map]; rfl

theorem fromList_spec (hb : ∀ k, hash k < 2 ^ 32) {fuel : Nat} (pairs : List (K × V))
    {d d' : Dict K V} (h : Inv hash d) (hf : fromList hash fuel d pairs = some d') :
    Inv hash d' ∧ toMap d' = putAll (toMap d) pairs := by
  rw [fromList_eq_runHistory] at hf
  rw [putAll_eq_foldl]
  exact runHistory_spec hb _ h hf

theorem fromList_isSome (hb : ∀ k, hash k < 2 ^ 32) {fuel : Nat} (hfuel : 8 ≤ fuel) :
    ∀ (pairs : List (K × V)) {d : Dict K V}, Inv hash d → (fromList hash fuel d pairs).isSome = true := by
  intro pairs d h
  rw [fromList_eq_runHistory]
  exact history_total hb hfuel _ h

/-- `from`: the pairs put in order onto the empty map (so a later pair with the same key wins) -/
theorem from_spec (hb : ∀ k, hash k < 2 ^ 32) {fuel : Nat} {pairs : List (K × V)} {d' : Dict K V}
    (hf : Api.from hash fuel pairs = some d') :
    Inv hash d' ∧ toMap d' = putAll (fun _ => none) pairs := by
  exact fromList_spec hb pairs new_wf hf

theorem putAll_lookup (m : K → Option V) (pairs : List (K × V)) (k : K) :
    putAll m pairs k = (pairs.reverse.lookup k).or (m k) := by
  induction pairs generalizing m with
  | nil => simp [putAll]
  | cons e t ih =>
    obtain ⟨a, b⟩ := e
    simp only [putAll, List.foldl_cons] at ih ⊢
    rw [ih]
    simp only [List.reverse_cons, List.lookup_append, List.lookup_cons, List.lookup_nil]
    by_cases hka : k = a
    · subst hka; cases List.lookup k t.reverse <;> simp
    · have : (k == a) = false := by simpa using hka
      cases List.lookup k t.reverse <;> simp [hka, this]

/-- `merge a b`: `b`'s bindings win, `a`'s show through where `b` has none -/
theorem merge_spec (hb : ∀ k, hash k < 2 ^ 32) {fuel : Nat} {a b d' : Dict K V} (ha : Inv hash a)
    (hbi : Inv hash b) (hm : Api.merge hash fuel a b = some d') (k : K) :
    Inv hash d' ∧ toMap d' k = (toMap b k).or (toMap a k) := by
  obtain ⟨w1, w2⟩ := fromList_spec hb (QM.Dict.entries [b] []) ha hm
  refine ⟨w1, ?_⟩
  rw [w2, putAll_lookup]
  congr 1
  -- lookup in the reversed entry list of `b` = `toMap b`
  obtain ⟨n, m⟩ := entries_spec hbi
  apply Option.ext
  intro v
  rw [QM.lookup_eq_some_iff_of_nodup (by rw [List.map_reverse]; exact (List.reverse_perm _).nodup_iff.mpr n),
    List.mem_reverse]
  exact m k v

/-- **the shape of a dict depends only on its contents** (the module's own claim, comment above
`collapse_node`): two dicts satisfying the invariant that denote the same map are the same tree, up
to the order of entries inside collision buckets — whatever sequences of insertions and removals
produced them. -/
theorem canonical_shape {d₁ d₂ : Dict K V} (h₁ : Inv hash d₁) (h₂ : Inv hash d₂)
    (h : ∀ k, toMap d₁ k = toMap d₂ k) : Similar d₁ d₂ := by
  have hc : ∀ e, e ∈ toList d₁ ↔ e ∈ toList d₂ := by
    intro e; obtain ⟨a, b⟩ := e
    rw [← toMap_eq_some_iff h₁, ← toMap_eq_some_iff h₂, h]
  rcases h₁ with rfl | w₁ <;> rcases h₂ with rfl | w₂
  · exact Similar.empty
  · obtain ⟨e, he⟩ := List.exists_mem_of_ne_nil _ w₂.toList_ne_nil
    exact absurd ((hc e).mpr he) (by simp)
  · obtain ⟨e, he⟩ := List.exists_mem_of_ne_nil _ w₁.toList_ne_nil
    exact absurd ((hc e).mp he) (by simp)
  · exact canonical w₁ w₂ hc

/-- `Similar` on a tree without collision buckets relates it to itself only; here a leaf -/
theorem similar_refl_example : Similar (Dict.leaf 7 1 "a") (Dict.leaf 7 1 "a") := Similar.leaf

/-- `from` of a duplicate-free list denotes the list itself … -/
theorem from_nodup_spec (hb : ∀ k, hash k < 2 ^ 32) {fuel : Nat} {pairs : List (K × V)}
    (hn : (pairs.map (·.1)).Nodup) {d : Dict K V} (hf : Api.from hash fuel pairs = some d) (k : K)
    (v : V) : toMap d k = some v ↔ (k, v) ∈ pairs := by
  obtain ⟨_, w⟩ := from_spec hb hf
  rw [w, putAll_lookup, Option.or_none, List.mem_reverse.symm,
    QM.lookup_eq_some_iff_of_nodup (by rw [List.map_reverse]; exact (List.reverse_perm _).nodup_iff.mpr hn)]

/-- … so building a dict from the same bindings in ANY order gives the same tree (up to the order
of entries inside collision buckets): the shape is independent of the insertion order. -/
theorem from_perm (hb : ∀ k, hash k < 2 ^ 32) {fuel : Nat} {ps qs : List (K × V)} (hp : ps.Perm qs)
    (hn : (ps.map (·.1)).Nodup) {d₁ d₂ : Dict K V} (h₁ : Api.from hash fuel ps = some d₁)
    (h₂ : Api.from hash fuel qs = some d₂) : Similar d₁ d₂ := by
  have hn₂ : (qs.map (·.1)).Nodup := (hp.map _).nodup_iff.mp hn
  apply canonical_shape (from_spec hb h₁).1 (from_spec hb h₂).1
  intro k
  apply Option.ext
  intro v
  rw [from_nodup_spec hb hn h₁, from_nodup_spec hb hn₂ h₂, hp.mem_iff]

omit [DecidableEq K] in
/-- `values` is, as a multiset, the values of the contents -/
theorem values_perm (d : Dict K V) : (Api.values d).Perm ((toList d).map (·.2)) := by
  rw [values_eq]; exact (entries_perm d).map _

/-- `values` lists exactly the stored values -/
theorem values_spec {d : Dict K V} (h : Inv hash d) (v : V) :
    v ∈ Api.values d ↔ ∃ k, toMap d k = some v := by
  rw [values_eq, List.mem_map]
  obtain ⟨_, m⟩ := entries_spec h
  constructor
  · rintro ⟨⟨a, b⟩, he, rfl⟩; exact ⟨a, (m a b).mp he⟩
  · rintro ⟨k, hk⟩; exact ⟨(k, v), (m k v).mpr hk, rfl⟩

/-- `Str[b]` and `b` are different keys with the same hash: every byte string yields a full 32-bit
collision for free (the module hashes `key_bytes`, but compares keys structurally) -/
theorem twins_collide (b : List UInt8) :
    keyHash (Key.str b) = keyHash (Key.bin b) ∧ Key.str b ≠ Key.bin b := ⟨rfl, by simp⟩

/-- For the module as shipped (`hash = keyHash`, fuel 8) `put` is total on well-formed dicts, keeps
the invariant, and is a point update of what `get` returns — with no hypothesis but the invariant. -/
theorem shipped_put {V : Type} {d : Dict Key V} (h : Inv keyHash d) (k : Key) (v : V) :
    ∃ d', Api.put keyHash defaultFuel d k v = some d' ∧ Inv keyHash d' ∧
      ∀ k', Api.get keyHash d' k' = if k' = k then some v else Api.get keyHash d k' := by
  have hs := put_fuel_suffices keyHash_lt h (fuel := defaultFuel) (by decide) k v
  obtain ⟨d', hd'⟩ := Option.isSome_iff_exists.mp hs
  refine ⟨d', hd', put_wf keyHash_lt h hd', ?_⟩
  intro k'
  rw [get_spec (put_wf keyHash_lt h hd'), put_spec keyHash_lt h hd', get_spec h]

/-- the same for `remove` -/
theorem shipped_remove {V : Type} {d : Dict Key V} (h : Inv keyHash d) (k : Key) :
    Inv keyHash (Api.remove keyHash d k) ∧
      ∀ k', Api.get keyHash (Api.remove keyHash d k) k' = if k' = k then none else Api.get keyHash d k' := by
  refine ⟨remove_wf h k, ?_⟩
  intro k'
  rw [get_spec (remove_wf h k), remove_spec h, get_spec h]

/-! ### tie to the builtin model of C12 (`QM.Builtins.*`, the model of builtins/integer.rs and
binary.rs): on the ranges the module uses, the i64 builtins compute what M-Dict computes on `Nat` -/

theorem builtin_fragment_tie {h s : Nat} (hh : h < 2 ^ 63) (hs : s < 2 ^ 63) :
    ((QM.Builtins.integerSubtract 0 (s : Int)).bind fun ns =>
      (QM.Builtins.integerShift h ns).bind fun x => QM.Builtins.integerAnd x 31) =
      .ok ((fragment h s : Nat) : Int) := fragment_tie hh hs

theorem builtin_slotIndex_tie {bitmap bit : Nat} (hb : bitmap < 2 ^ 63) (hbit : bit < 2 ^ 63)
    (h1 : 1 ≤ bit) :
    ((QM.Builtins.integerSubtract (bit : Int) 1).bind fun m =>
      (QM.Builtins.integerAnd bitmap m).bind QM.Builtins.integerPopcount) =
      .ok ((slotIndex bitmap bit : Nat) : Int) := slotIndex_tie hb hbit h1

theorem builtin_bit_tie {f : Nat} (hf : f < 63) :
    QM.Builtins.integerShift 1 (f : Int) = .ok ((1 <<< f : Nat) : Int) := integerShift_left_tie hf

theorem builtin_and_tie {a b : Nat} (ha : a < 2 ^ 63) (hb : b < 2 ^ 63) :
    QM.Builtins.integerAnd a b = .ok ((a &&& b : Nat) : Int) := integerAnd_tie ha hb

theorem builtin_or_tie {a b : Nat} (ha : a < 2 ^ 63) (hb : b < 2 ^ 63) :
    QM.Builtins.integerOr a b = .ok ((a ||| b : Nat) : Int) := integerOr_tie ha hb

theorem builtin_clear_bit_tie {a b : Nat} (ha : a < 2 ^ 63) (hb : b < 2 ^ 63) :
    (QM.Builtins.integerNot b).bind (fun nb => QM.Builtins.integerAnd a nb) =
      .ok ((andNot a b : Nat) : Int) := integerNot_and_tie ha hb

theorem builtin_hash32_tie (v : List UInt8) :
    QM.Builtins.fnv1a32 QM.Builtins.fnv32Offset QM.Builtins.fnv32Prime v = QM.Dict.fnv1a32 v :=
  fnv1a32_tie v

/-! ### the hypotheses are satisfiable: concrete colliding key sets

`constHash` sends every key to 7 — every two keys collide in the full hash, everything lives in one
`Collision` bucket; `constHash_lt` is the hypothesis `hb` for it. `fragHash k = 32 k` — all keys collide in the first
5-bit fragment and differ in the second, so a one-child `Node` chain is built; it shows the shape of such a tree, not
the hypothesis `hb` (it is not below `2^32` for every key). (`put` is defined by well-founded recursion, so
the concrete trees are computed by `simp` with the equation lemmas, checked by the kernel.) -/

def constHash : Nat → Nat := fun _ => 7
def fragHash : Nat → Nat := fun k => k * 32

theorem constHash_lt : ∀ k, constHash k < 2 ^ 32 := by intro k; simp [constHash]

/-- a two-entry bucket satisfies the invariant -/
theorem inv_bucket : Inv constHash (Dict.collision 7 [(1, "a"), (2, "b")]) :=
  Or.inr (WF.collision (by simp [constHash]) (by simp) (by simp) (by simp))

/-- a third colliding key is appended to the bucket -/
theorem put_bucket : Api.put constHash 8 (Dict.collision 7 [(1, "a"), (2, "b")]) 3 "c" =
    some (Dict.collision 7 [(1, "a"), (2, "b"), (3, "c")]) := by
  simp [Api.put, put, constHash, bucketPut, revcat]

-- `get_put_same` / `get_put_other` / `put_wf` instantiated on the colliding keys
example : Api.get constHash (Dict.collision 7 [(1, "a"), (2, "b"), (3, "c")]) 3 = some "c" :=
  get_put_same constHash_lt inv_bucket put_bucket
example : Api.get constHash (Dict.collision 7 [(1, "a"), (2, "b"), (3, "c")]) 2 =
    Api.get constHash (Dict.collision 7 [(1, "a"), (2, "b")]) 2 :=
  get_put_other constHash_lt inv_bucket put_bucket (by decide)
example : Inv constHash (Dict.collision 7 [(1, "a"), (2, "b"), (3, "c")]) :=
  put_wf constHash_lt inv_bucket put_bucket
example : Api.get constHash (Api.remove constHash (Dict.collision 7 [(1, "a"), (2, "b")]) 1) 1 = none :=
  get_remove_same inv_bucket 1

-- `from`, later pair wins, inside a bucket
example : Api.from constHash 8 [(1, "a"), (2, "b"), (1, "c")] =
    some (Dict.collision 7 [(1, "c"), (2, "b")]) := by
  simp [Api.from, fromList, put, constHash, bucketPut, revcat, splitPair]

-- keys colliding in the first fragment: a one-child node above the node that separates them
example : Api.from fragHash 8 [(1, "a"), (2, "b")] =
    some (.node 1 [.node 6 [.leaf 32 1 "a", .leaf 64 2 "b"]]) := by
  simp [Api.from, fromList, put, fragHash, splitPair, fragment]

-- `split_pair` gives up when the fuel is spent before a fragment separates the two hashes: here fuel 2 and "hashes"
-- that first differ at bit 40. (With fuel 2 hashes below 2^32 that agree on their low 10 bits run out as well; below
-- 2^32 two different hashes are separated within 7 levels, which is why fuel 8 is always enough: `put_fuel_suffices`.)
example : splitPair 2 (2 ^ 40) 1 "a" (2 ^ 41) 2 "b" 0 = none := by
  simp [splitPair, fragment]

-- `count_put` on a colliding key: replacing inside the bucket keeps the size, a new key adds one
example : Api.count (Dict.collision 7 [(1, "a"), (2, "b"), (3, "c")]) =
    if (toMap (Dict.collision 7 [(1, "a"), (2, "b")]) 3).isSome then
      Api.count (Dict.collision 7 [(1, "a"), (2, "b")])
    else Api.count (Dict.collision 7 [(1, "a"), (2, "b")]) + 1 :=
  count_put constHash_lt inv_bucket put_bucket

-- `merge`: the second dict wins on the colliding key 1
example : Api.merge constHash 8 (Dict.collision 7 [(1, "a"), (2, "b")]) (Dict.leaf 7 1 "z") =
    some (Dict.collision 7 [(1, "z"), (2, "b")]) := by
  simp [Api.merge, fromList, QM.Dict.entries, put, constHash, bucketPut, revcat]

-- `canonical_shape` on colliding keys: inserting 1 then 2, or 2 then 1, gives the same bucket up to
-- the order of its entries (and nothing stronger: the two buckets ARE ordered differently)
example : Similar (Dict.collision 7 [(1, "a"), (2, "b")]) (Dict.collision 7 [(2, "b"), (1, "a")]) :=
  canonical_shape (hash := constHash) inv_bucket
    (Or.inr (WF.collision (by simp [constHash]) (by simp) (by simp) (by simp)))
    (by
      intro k
      simp only [toMap, toList_collision, List.lookup_cons, List.lookup_nil]
      by_cases h1 : k = 1
      · subst h1; simp
      · by_cases h2 : k = 2
        · subst h2; simp
        · have a : (k == 1) = false := by simpa using h1
          have b : (k == 2) = false := by simpa using h2
          simp [a, b])

-- a history over colliding keys: put 1, put 2, replace 1, remove 2, put 3 — all in one bucket
example : runHistory constHash 8 (Api.new : Dict Nat String)
    [.put 1 "a", .put 2 "b", .put 1 "c", .remove 2, .put 3 "d"] =
    some (Dict.collision 7 [(1, "c"), (3, "d")]) := by
  simp [runHistory, Cmd.run, Api.put, Api.remove, Api.new, put, remove, splitPair, constHash,
    bucketPut, bucketRemove, revcat]

-- `from_perm` on colliding keys: the two insertion orders give buckets in different order — Similar
example : ∃ d₁ d₂, Api.from constHash 8 [(1, "a"), (2, "b")] = some d₁ ∧
    Api.from constHash 8 [(2, "b"), (1, "a")] = some d₂ ∧ Similar d₁ d₂ ∧ d₁ ≠ d₂ := by
  have e1 : Api.from constHash 8 [(1, "a"), (2, "b")] = some (Dict.collision 7 [(1, "a"), (2, "b")]) := by
    simp [Api.from, fromList, put, constHash, bucketPut, revcat, splitPair]
  have e2 : Api.from constHash 8 [(2, "b"), (1, "a")] = some (Dict.collision 7 [(2, "b"), (1, "a")]) := by
    simp [Api.from, fromList, put, constHash, bucketPut, revcat, splitPair]
  exact ⟨_, _, e1, e2,
    from_perm constHash_lt (List.Perm.swap _ _ _) (by simp) e1 e2, by simp⟩

end C19
