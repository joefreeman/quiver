import QuiverModel.Theorems.C02Seq
import QuiverModel.Core.RefSem.Compile1
/-
C02 (compiler correctness), on C02Seq — the abstract machine with **locals**, and **simple match patterns are compiled
correctly**, on C07's M-VM (`QM.VM.transition … (.run O)`).

* `astepL`, `sim_stepL` — the abstract machine of C02Seq extended to `(pc, stack, frame-relative locals)`
  and to `Load / Store / Reset / Jump / Get / IsType / Equal`; each abstract step is what `stepInstr` does
  to a process whose locals are `pre ++ L` with `pre.length = frame.localsBase`;
* `compilePat_arunsTo`, `compilePat_aruns` — compile_match's template for binder / placeholder / literal / flat tuple patterns:
  success path (tests, then the bindings' Stores in the order of the binders' names, verdict `Ok`) and failure path (a failing
  literal test jumps BACK to the fail jump, which enters the nil fill: one nil Store per binding, verdict
  nil) — **both paths store exactly `#bindings` locals** (`evalPat_length`);
* `liftL` — abstract runs lift to `transition`.
The theorems about Compile1's terms and sequences (`compileFs_aruns`, `compileSq_aruns`, `compileSq1_correct`) are in
C02Loc1, as instances of C02Struct's.
-/
open QM.VM QM.RefSem.C1

namespace C02L
open C02N (LocatedTo locatedTo_nil locatedTo_cons locatedTo_append)

abbrev St := Nat × List Val × List Val

def equalVerdict (O : Oracle) (s : List Val) (n : Nat) : Option Val :=
  match (s.take n).reverse with
  | [] => none
  | first :: rest => some (if (first :: rest).all (fun v => O.valuesEqual first v) then Val.ok else Val.nil)

/-- effect of one instruction at `pc` on `(pc, stack, locals of the frame)` -/
def astepL (O : Oracle) (P : Prog) (i : Instr) (pc : Nat) (s L : List Val) : Option St :=
  match i with
  | .load k => match L[k]? with | some v => some (pc + 1, v :: s, L) | none => none
  | .store => match s with | v :: r => some (pc + 1, r, L ++ [v]) | [] => none
  | .reset n => if n ≤ L.length then some (pc + 1, s, L.take n) else none
  | .jump off => if off = isizeMax then none else some (jumpTarget pc off, s, L)
  | .get k =>
    match s with
    | .tup _ els :: r => (match els.toList[k]? with | some e => some (pc + 1, e :: r, L) | none => none)
    | _ => none
  | .isType id =>
    match s with
    | v :: r => some (pc + 1, (if O.isType v id then Val.ok else Val.nil) :: r, L)
    | [] => none
  | .equal n =>
    if n > s.length then none
    else match equalVerdict O s n with
      | some v => some (pc + 1, v :: s.drop n, L)
      | none => none
  | i => (C02S.astep P i pc s).map (fun x => (x.1, x.2, L))

/-- the process runs frame `f` (above the frames `r`) at `pc` with stack `s`; its locals are those of
the frames below and the frame's captures / earlier locals (`pre`, up to the frame's base) followed by
`L`; it is not parked and has no result yet -/
def InvL (p : Proc) (f : Frame) (r : List Frame) (pre : List Val) (pc : Nat) (s L : List Val) : Prop :=
  p.stack = s ∧ p.frames = { f with counter := pc } :: r ∧ p.locals = pre ++ L ∧
    pre.length = f.localsBase ∧ p.park = .none ∧ p.result = none

theorem sim_astep (O : Oracle) (P : Prog) (i : Instr) (p : Proc) (f : Frame) (r : List Frame)
    (pre : List Val) (pc : Nat) (s L : List Val) (x : Nat × List Val)
    (hinv : InvL p f r pre pc s L) (h : C02S.astep P i pc s = some x) :
    ∃ q, stepInstr O P p i = .ok (q, none) ∧ InvL q f r pre x.1 x.2 L := by
  obtain ⟨hs, hf, hl, hb, hp, hr⟩ := hinv
  obtain ⟨q, hq, hqs, hql, hqp, hqr, f', r', hf', hqf⟩ :=
    C02S.sim_step O P i p pc s x.1 x.2 ⟨hs, _, _, hf, rfl⟩ (by simpa using h)
  rw [hf] at hf'
  obtain ⟨rfl, rfl⟩ := List.cons.inj hf'
  exact ⟨q, hq, hqs, by simpa using hqf, by rw [hql, hl], hb, by rw [hqp, hp], by rw [hqr, hr]⟩

theorem InvL.setCounter {p p' : Proc} {f : Frame} {r : List Frame} {pre : List Val} {pc pc' : Nat}
    {s L s' L' : List Val} (h : InvL p f r pre pc s L) (hf : p'.frames = p.frames) (hp : p'.park = p.park)
    (hr : p'.result = p.result) (hs : p'.stack = s')
    (hl : p'.locals = pre ++ L') :
    InvL (p'.setCounter pc') f r pre pc' s' L' := by
  obtain ⟨_, hf0, _, hb, hp0, hr0⟩ := h
  simp [InvL, Proc.setCounter, hf, hf0, hp, hr, hs, hl, hb, hp0, hr0]

theorem InvL.bump {p p' : Proc} {f : Frame} {r : List Frame} {pre : List Val} {pc : Nat}
    {s L s' L' : List Val} (h : InvL p f r pre pc s L) (hf : p'.frames = p.frames) (hp : p'.park = p.park)
    (hr : p'.result = p.result) (hs : p'.stack = s')
    (hl : p'.locals = pre ++ L') :
    InvL p'.bump f r pre (pc + 1) s' L' := by
  obtain ⟨_, hf0, _, hb, hp0, hr0⟩ := h
  simp [InvL, Proc.bump, hf, hf0, hp, hr, hs, hl, hb, hp0, hr0]

theorem sim_stepL (O : Oracle) (P : Prog) (i : Instr) (p : Proc) (f : Frame) (r : List Frame)
    (pre : List Val) (pc : Nat) (s L : List Val) (y : St)
    (hinv : InvL p f r pre pc s L) (h : astepL O P i pc s L = some y) :
    ∃ q, stepInstr O P p i = .ok (q, none) ∧ InvL q f r pre y.1 y.2.1 y.2.2 := by
  have ofAstep : ∀ (x : Option (Nat × List Val)),
      C02S.astep P i pc s = x → x.map (fun x => (x.1, x.2, L)) = some y →
      ∃ q, stepInstr O P p i = .ok (q, none) ∧ InvL q f r pre y.1 y.2.1 y.2.2 := by
    intro x hx hy
    cases x with
    | none => simp at hy
    | some x =>
      simp only [Option.map_some, Option.some.injEq] at hy
      subst hy
      exact sim_astep O P i p f r pre pc s L x hinv hx
  have ⟨hs, hf, hl, hb, _, _⟩ := hinv
  cases i with
  | load k =>
    simp only [astepL] at h
    split at h
    · rename_i v hv
      simp only [Option.some.injEq] at h
      subst h
      have hv' : p.locals[f.localsBase + k]? = some v := by
        rw [hl, ← hb, List.getElem?_append_right (by omega)]
        simpa using hv
      exact ⟨(p.push v).bump, by simp [stepInstr, handleLoad, hf, hv', QM.VM.ok],
        hinv.bump rfl rfl rfl (congrArg _ hs) hl⟩
    · simp at h
  | store =>
    cases s with
    | nil => simp [astepL] at h
    | cons v rest =>
      simp only [astepL, Option.some.injEq] at h
      subst h
      exact ⟨({ p with stack := rest, locals := p.locals ++ [v] } : Proc).bump,
        by simp [stepInstr, handleStore, hs, QM.VM.ok], hinv.bump rfl rfl rfl rfl (by simp [hl])⟩
  | reset n =>
    simp only [astepL] at h
    split at h
    · rename_i hn
      simp only [Option.some.injEq] at h
      subst h
      have hle : ¬ (f.localsBase + n > p.locals.length) := by rw [hl, ← hb]; simp; omega
      have htake : p.locals.take (f.localsBase + n) = pre ++ L.take n := by
        rw [hl, ← hb, List.take_append]
        simp [List.take_of_length_le]
      exact ⟨({ p with locals := p.locals.take (f.localsBase + n) } : Proc).bump,
        by simp [stepInstr, handleReset, hf, hle, QM.VM.ok], hinv.bump rfl rfl rfl hs htake⟩
    · simp at h
  | jump off =>
    simp only [astepL] at h
    split at h
    · simp at h
    · rename_i hoff
      simp only [Option.some.injEq] at h
      subst h
      exact ⟨p.setCounter (jumpTarget pc off), by simp [stepInstr, handleJump, hoff, hf, QM.VM.ok],
        hinv.setCounter rfl rfl rfl hs hl⟩
  | get k =>
    simp only [astepL] at h
    split at h
    · rename_i id els rest
      split at h
      · rename_i e he
        simp only [Option.some.injEq] at h
        subst h
        exact ⟨({ p with stack := e :: rest } : Proc).bump,
          by simp [stepInstr, handleGet, hs, he, QM.VM.ok], hinv.bump rfl rfl rfl rfl hl⟩
      · simp at h
    · simp at h
  | isType id =>
    cases s with
    | nil => simp [astepL] at h
    | cons v rest =>
      simp only [astepL, Option.some.injEq] at h
      subst h
      exact ⟨({ p with stack := (if O.isType v id then Val.ok else Val.nil) :: rest } : Proc).bump,
        by simp [stepInstr, handleIsType, hs, QM.VM.ok], hinv.bump rfl rfl rfl rfl hl⟩
  | equal n =>
    simp only [astepL] at h
    split at h
    · simp at h
    · rename_i hn
      split at h
      · rename_i v hv
        simp only [Option.some.injEq] at h
        subst h
        unfold equalVerdict at hv
        split at hv
        · simp at hv
        · rename_i first rest hfr
          simp only [Option.some.injEq] at hv
          have hn' : ¬ (n > p.stack.length) := by rw [hs]; exact hn
          refine ⟨({ p with stack := v :: p.stack.drop n } : Proc).bump, ?_,
            hinv.bump rfl rfl rfl (by rw [hs]) hl⟩
          simp only [stepInstr, handleEqual, hn', if_false]
          rw [hs, hfr]
          simp only [QM.VM.ok]
          rw [← hv]
      · simp at h
  | pop => exact ofAstep _ rfl h
  | constant _ => exact ofAstep _ rfl h
  | pick _ => exact ofAstep _ rfl h
  | duplicate => exact ofAstep _ rfl h
  | not => exact ofAstep _ rfl h
  | rotate _ => exact ofAstep _ rfl h
  | tuple _ => exact ofAstep _ rfl h
  | jumpIf _ => exact ofAstep _ rfl h
  | call => exact ofAstep _ rfl h
  | tailCall _ => exact ofAstep _ rfl h
  | function _ => exact ofAstep _ rfl h
  | builtin _ => exact ofAstep _ rfl h
  | spawn => exact ofAstep _ rfl h
  | send => exact ofAstep _ rfl h
  | self_ => exact ofAstep _ rfl h
  | select => exact ofAstep _ rfl h
  | process _ _ => exact ofAstep _ rfl h

inductive ARunsL (O : Oracle) (P : Prog) (code : Array Instr) : St → St → Prop where
  | refl (x : St) : ARunsL O P code x x
  | step {pc : Nat} {s L : List Val} {x y : St} (i : Instr) (hi : code[pc]? = some i)
      (h : astepL O P i pc s L = some x) (r : ARunsL O P code x y) : ARunsL O P code (pc, s, L) y

theorem ARunsL.trans {O : Oracle} {P : Prog} {code : Array Instr} {x y z : St}
    (h₁ : ARunsL O P code x y) (h₂ : ARunsL O P code y z) : ARunsL O P code x z := by
  induction h₁ with
  | refl => exact h₂
  | step i hi h _ ih => exact .step i hi h (ih h₂)

theorem ARunsL.one {O : Oracle} {P : Prog} {code : Array Instr} {pc : Nat} {s L : List Val} {x : St}
    (i : Instr) (hi : code[pc]? = some i) (h : astepL O P i pc s L = some x) :
    ARunsL O P code (pc, s, L) x :=
  .step i hi h (.refl _)

theorem liftL (O : Oracle) (P : Prog) (fn : Function) (f : Frame) (r : List Frame) (pre : List Val)
    (hfn : P.functions[f.functionIndex]? = some fn) {x y : St}
    (h : ARunsL O P fn.instructions x y) :
    ∀ p : Proc, InvL p f r pre x.1 x.2.1 x.2.2 →
      ∃ q, C02S.TRuns O P p q ∧ InvL q f r pre y.1 y.2.1 y.2.2 := by
  induction h with
  | refl x => exact fun p hp => ⟨p, .refl p, hp⟩
  | @step pc s L x y i hi hstep _ ih =>
    intro p hp
    obtain ⟨q, hq, hinv⟩ := sim_stepL O P i p f r pre pc s L x hp hstep
    obtain ⟨hs, hf, hl, hb, hpark, hres⟩ := hp
    have htr : transition P p (.run O) = some (.ok (q, none)) := by
      simp only [transition, hpark, hres, hf]
      simp [hfn, hi, hq]
    obtain ⟨z, hz, hzi⟩ := ih q hinv
    exact ⟨z, .step htr hz, hzi⟩

theorem astepL_of_astep (O : Oracle) (P : Prog) (i : Instr) (pc : Nat) (s L : List Val)
    (x : Nat × List Val) (h : C02S.astep P i pc s = some x) :
    astepL O P i pc s L = some (x.1, x.2, L) := by
  cases i <;> first | (simp [C02S.astep] at h; done) | simp [astepL, h]

theorem ARunsL.ofARuns {O : Oracle} {P : Prog} {code : Array Instr} {x y : Nat × List Val} (L : List Val)
    (h : C02S.ARuns P code x y) : ARunsL O P code (x.1, x.2, L) (y.1, y.2, L) := by
  induction h with
  | refl x => exact .refl _
  | step i hi h _ ih => exact .step i hi (astepL_of_astep O P i _ _ L _ h) ih

theorem Located.bound {code : Array Instr} {pc : Nat} {is : List Instr} (h : C02S.Located code pc is)
    (k : Nat) (hk : k < is.length) : pc + k < code.size := by
  have := h k hk
  rcases Nat.lt_or_ge (pc + k) code.size with h' | h'
  · exact h'
  · rw [Array.getElem?_eq_none h', List.getElem?_eq_getElem hk] at this
    cases this

theorem Located.le_size {code : Array Instr} {pc : Nat} {is : List Instr} (h : C02S.Located code pc is) :
    is ≠ [] → pc + is.length ≤ code.size := by
  intro hne
  have hpos : 0 < is.length := List.length_pos_iff.mpr hne
  have := Located.bound h (is.length - 1) (by omega)
  omega

theorem lt_of_fetch {code : Array Instr} {pc : Nat} {i : Instr} (h : code[pc]? = some i) : pc < code.size :=
  (Array.getElem?_eq_some_iff.mp h).1

section AInstrL
variable {O : Oracle} {P : Prog} {code : Array Instr} {pc : Nat}

theorem l_pop {v : Val} {s L : List Val} (hi : code[pc]? = some .pop) :
    ARunsL O P code (pc, v :: s, L) (pc + 1, s, L) := ARunsL.ofARuns L (C02S.a_pop hi)

theorem l_const {i : Nat} {z : Int} {s L : List Val} (hi : code[pc]? = some (.constant i))
    (hc : P.constants[i]? = some (.int z)) : ARunsL O P code (pc, s, L) (pc + 1, .int z :: s, L) :=
  ARunsL.ofARuns L (C02S.a_const hi hc)

theorem l_pick {n : Nat} {v : Val} {s L : List Val} (hi : code[pc]? = some (.pick n))
    (hv : s[n]? = some v) : ARunsL O P code (pc, s, L) (pc + 1, v :: s, L) :=
  ARunsL.ofARuns L (C02S.a_pick hi hv)

theorem l_rot2 {a b : Val} {s L : List Val} (hi : code[pc]? = some (.rotate 2)) :
    ARunsL O P code (pc, a :: b :: s, L) (pc + 1, b :: a :: s, L) := ARunsL.ofARuns L (C02S.a_rot2 hi)

theorem l_tuple {id : Nat} {vs rest L : List Val} (hi : code[pc]? = some (.tuple id))
    (hid : P.tuples[id]? = some vs.length) :
    ARunsL O P code (pc, vs.reverse ++ rest, L) (pc + 1, .tup id (ValList.ofList vs) :: rest, L) :=
  ARunsL.ofARuns L (C02S.a_tuple hi hid)

theorem l_tuple0 {id : Nat} {s L : List Val} (hi : code[pc]? = some (.tuple id))
    (hid : P.tuples[id]? = some 0) :
    ARunsL O P code (pc, s, L) (pc + 1, .tup id .nil :: s, L) := by
  have := l_tuple (O := O) (L := L) (vs := []) (rest := s) hi (by simpa using hid)
  simpa [ValList.ofList] using this

theorem l_dup {v : Val} {s L : List Val} (hi : code[pc]? = some .duplicate) :
    ARunsL O P code (pc, v :: s, L) (pc + 1, v :: v :: s, L) := ARunsL.ofARuns L (C02S.a_dup hi)

theorem l_not {v : Val} {s L : List Val} (hi : code[pc]? = some .not) :
    ARunsL O P code (pc, v :: s, L) (pc + 1, (if v.isNil then Val.ok else Val.nil) :: s, L) :=
  ARunsL.ofARuns L (C02S.a_not hi)

theorem l_jumpIf_taken {off : Int} {c : Val} {s L : List Val}
    (hi : code[pc]? = some (.jumpIf off)) (hc : c.isNil = false) (ho : off ≠ isizeMax) :
    ARunsL O P code (pc, c :: s, L) (jumpTarget pc off, s, L) :=
  ARunsL.ofARuns L (C02S.a_jumpIf_taken hi hc ho)

theorem l_jumpIf_fall {off : Int} {c : Val} {s L : List Val}
    (hi : code[pc]? = some (.jumpIf off)) (hc : c.isNil = true) :
    ARunsL O P code (pc, c :: s, L) (pc + 1, s, L) :=
  ARunsL.ofARuns L (C02S.a_jumpIf_fall hi hc)

theorem l_load {k : Nat} {v : Val} {s L : List Val} (hi : code[pc]? = some (.load k))
    (hv : L[k]? = some v) : ARunsL O P code (pc, s, L) (pc + 1, v :: s, L) :=
  .one (.load k) hi (by simp [astepL, hv])

theorem l_store {v : Val} {s L : List Val} (hi : code[pc]? = some .store) :
    ARunsL O P code (pc, v :: s, L) (pc + 1, s, L ++ [v]) :=
  .one .store hi (by simp [astepL])

theorem l_reset {n : Nat} {s L : List Val} (hi : code[pc]? = some (.reset n)) (hn : n ≤ L.length) :
    ARunsL O P code (pc, s, L) (pc + 1, s, L.take n) :=
  .one (.reset n) hi (by simp [astepL, hn])

theorem l_jump {off : Int} {t : Nat} {s L : List Val} (hi : code[pc]? = some (.jump off))
    (h : (pc : Int) + off + 1 = (t : Int)) (ht : t < 2 ^ 63) :
    ARunsL O P code (pc, s, L) (t, s, L) :=
  .one (.jump off) hi (by simp [astepL, off_ne_max h ht, jumpTarget_eq pc off t h ht])

theorem l_get {k id : Nat} {els : ValList} {e : Val} {s L : List Val} (hi : code[pc]? = some (.get k))
    (he : els.toList[k]? = some e) :
    ARunsL O P code (pc, .tup id els :: s, L) (pc + 1, e :: s, L) :=
  .one (.get k) hi (by simp [astepL, he])

theorem l_getF {k : Nat} {flow e : Val} {s L : List Val} (hi : code[pc]? = some (.get k))
    (he : (fieldsOf flow)[k]? = some e) :
    ARunsL O P code (pc, flow :: s, L) (pc + 1, e :: s, L) := by
  cases flow with
  | tup id els => exact l_get hi (by simpa [fieldsOf] using he)
  | int z => simp [fieldsOf] at he
  | bin b => simp [fieldsOf] at he
  | ref r => simp [fieldsOf] at he
  | fn i c => simp [fieldsOf] at he
  | builtin i => simp [fieldsOf] at he
  | proc a b => simp [fieldsOf] at he
  | res a b => simp [fieldsOf] at he

theorem l_equal2 {a b : Val} {s L : List Val} (hi : code[pc]? = some (.equal 2)) :
    ARunsL O P code (pc, b :: a :: s, L)
      (pc + 1, (if (O.valuesEqual a a && O.valuesEqual a b) then Val.ok else Val.nil) :: s, L) :=
  .one (.equal 2) hi (by simp [astepL, equalVerdict])

theorem l_jumpIf_to {off : Int} {t : Nat} {c : Val} {s L : List Val}
    (hi : code[pc]? = some (.jumpIf off)) (hc : c.isNil = false)
    (h : (pc : Int) + off + 1 = (t : Int)) (ht : t < 2 ^ 63) :
    ARunsL O P code (pc, c :: s, L) (t, s, L) := by
  have := l_jumpIf_taken (O := O) (P := P) (L := L) (s := s) hi hc (off_ne_max h ht)
  rwa [jumpTarget_eq pc off t h ht] at this

theorem l_jump_fwd (hsz : code.size < 2 ^ 63 - 1) {n t : Nat} {s L : List Val}
    (hi : code[pc]? = some (.jump (n : Int))) (h : pc + 1 + n = t) (ht : t ≤ code.size) :
    ARunsL O P code (pc, s, L) (t, s, L) :=
  l_jump hi (off_fwd h) (lt63_of_le_size hsz ht)

theorem l_jumpIf_fwd (hsz : code.size < 2 ^ 63 - 1) {n t : Nat} {c : Val} {s L : List Val}
    (hi : code[pc]? = some (.jumpIf (n : Int))) (hc : c.isNil = false) (h : pc + 1 + n = t) (ht : t ≤ code.size) :
    ARunsL O P code (pc, c :: s, L) (t, s, L) :=
  l_jumpIf_to hi hc (off_fwd h) (lt63_of_le_size hsz ht)

theorem l_jump_back (hsz : code.size < 2 ^ 63 - 1) {n t : Nat} {s L : List Val}
    (hi : code[pc]? = some (.jump (-(n : Int)))) (h : t + n = pc + 1) :
    ARunsL O P code (pc, s, L) (t, s, L) :=
  l_jump hi (off_back h) (lt63_of_le_size hsz (by have := lt_of_fetch hi; omega))

theorem l_jumpIf_back (hsz : code.size < 2 ^ 63 - 1) {n t : Nat} {c : Val} {s L : List Val}
    (hi : code[pc]? = some (.jumpIf (-(n : Int)))) (hc : c.isNil = false) (h : t + n = pc + 1) :
    ARunsL O P code (pc, c :: s, L) (t, s, L) :=
  l_jumpIf_to hi hc (off_back h) (lt63_of_le_size hsz (by have := lt_of_fetch hi; omega))

end AInstrL

/-- the oracle's equality is reflexive and decides equality with an integer constant: an ASSUMPTION on the oracle in
every theorem that takes it (the real `values_equal` has the property, but no theorem here derives it from C13) -/
def OracleIntEq (O : Oracle) : Prop :=
  ∀ (v : Val) (z : Int), (O.valuesEqual v v && O.valuesEqual v (.int z)) = decide (v = .int z)

theorem nilFill_length : (n : Nat) → (nilFill n).length = 2 * n
  | 0 => rfl
  | n + 1 => by simp [nilFill, nilFill_length n]; omega

section Pat
variable {O : Oracle} {P : Prog} {code : Array Instr}

theorem nilFill_aruns (hP : wfProg P) : (n pc e : Nat) → (s L : List Val) →
    LocatedTo code pc (nilFill n) e → ARunsL O P code (pc, s, L) (e, s, L ++ List.replicate n Val.nil)
  | 0, pc, e, s, L, hl => by
    simp only [nilFill, locatedTo_nil] at hl
    subst hl
    simpa using ARunsL.refl _
  | n + 1, pc, e, s, L, hl => by
    simp only [nilFill, List.cons_append, List.nil_append, locatedTo_cons] at hl
    obtain ⟨h0, h1, hl⟩ := hl
    have := ((l_tuple0 (s := s) (L := L) h0 hP.1).trans (l_store h1)).trans (nilFill_aruns hP n _ e s _ hl)
    simpa [List.replicate_succ, Val.nil] using this

/-- the comparison of the top of the stack with an integer constant: falls through when they are equal, jumps
back to `f` otherwise; the compared value is consumed either way -/
theorem litTest_aruns (hO : OracleIntEq O) (hsz : code.size < 2 ^ 63 - 1) {p f n c : Nat} {z : Int} {v : Val}
    {s L : List Val} (h0 : code[p]? = some (.constant c)) (h1 : code[p + 1]? = some (.equal 2))
    (h2 : code[p + 1 + 1]? = some .not) (h3 : code[p + 1 + 1 + 1]? = some (.jumpIf (-(n : Int))))
    (hc : P.constants[c]? = some (.int z)) (hf : f + n = p + 1 + 1 + 1 + 1) :
    ARunsL O P code (p, v :: s, L) (if v = .int z then p + 1 + 1 + 1 + 1 else f, s, L) := by
  have run := ((l_const (O := O) (s := v :: s) (L := L) h0 hc).trans (l_equal2 h1)).trans (l_not h2)
  rw [hO v z] at run
  by_cases hv : v = .int z
  · simp only [hv, decide_true, if_true] at run ⊢
    exact run.trans (l_jumpIf_fall h3 rfl)
  · simp only [hv, decide_false, Bool.false_eq_true, if_false] at run ⊢
    exact run.trans (l_jumpIf_back hsz h3 rfl hf)

/-- the literal test of a top-level pattern, at template position `q` (`f` is the fail jump, at template
position 1): falls through when the value is the literal, jumps back to the fail jump otherwise; stack and
locals unchanged either way -/
theorem testTop_aruns (hO : OracleIntEq O) (hsz : code.size < 2 ^ 63 - 1) {p f q e : Nat} (sb : Sub)
    (flow : Val) (rest L : List Val) (hl : LocatedTo code p (testTop sb q) e) (hw : wfSub P sb)
    (hq : f + q = p + 1) :
    ARunsL O P code (p, flow :: rest, L) (if subPasses flow sb then e else f, flow :: rest, L) := by
  cases sb with
  | bind x =>
    simp only [testTop, subPasses, locatedTo_nil, if_true] at hl ⊢
    subst hl
    exact .refl _
  | wild =>
    simp only [testTop, subPasses, locatedTo_nil, if_true] at hl ⊢
    subst hl
    exact .refl _
  | lit z c =>
    simp only [testTop, subPasses, locatedTo_cons, locatedTo_nil, decide_eq_true_eq] at hl ⊢
    obtain ⟨h0, h1, h2, h3, h4, rfl⟩ := hl
    exact (l_dup h0).trans (litTest_aruns hO hsz h1 h2 h3 h4 hw (by omega))

/-- the literal tests of a tuple pattern, field `k` onwards, at template position `q` -/
theorem testsFields_aruns (hO : OracleIntEq O) (hsz : code.size < 2 ^ 63 - 1) (flow : Val) (rest L : List Val)
    (f : Nat) : (subs : List Sub) → (k q p e : Nat) → (b : Bool) →
    LocatedTo code p (testsFields subs k q) e → wfSubs P subs → f + q = p + 1 →
    fieldsPass subs k (fieldsOf flow) = some b →
    ARunsL O P code (p, flow :: rest, L) (if b then e else f, flow :: rest, L)
  | [], k, q, p, e, b, hl, _, _, hp => by
    simp only [fieldsPass, Option.some.injEq] at hp
    simp only [testsFields, locatedTo_nil] at hl
    subst hp hl
    exact .refl _
  | .bind x :: r, k, q, p, e, b, hl, hw, hq, hp => by
    simp only [testsFields, fieldsPass] at hl hp
    exact testsFields_aruns hO hsz flow rest L f r (k + 1) q p e b hl hw.2 hq hp
  | .wild :: r, k, q, p, e, b, hl, hw, hq, hp => by
    simp only [testsFields, fieldsPass] at hl hp
    exact testsFields_aruns hO hsz flow rest L f r (k + 1) q p e b hl hw.2 hq hp
  | .lit z ci :: r, k, q, p, e, b, hl, hw, hq, hp => by
    simp only [fieldsPass] at hp
    split at hp
    · simp at hp
    · rename_i v hk
      simp only [testsFields, List.cons_append, List.nil_append, locatedTo_cons] at hl
      obtain ⟨h0, h1, h2, h3, h4, h5, hl⟩ := hl
      have test := ((l_dup (v := flow) (s := rest) (L := L) h0).trans (l_getF h1 hk)).trans
        (litTest_aruns (f := f) hO hsz h2 h3 h4 h5 hw.1 (by omega))
      by_cases hv : v = .int z
      · simp only [hv, if_true] at hp test
        exact test.trans (testsFields_aruns hO hsz flow rest L f r (k + 1) (q + 6) _ e b hl hw.2 (by omega) hp)
      · simp only [hv, if_false, Option.some.injEq] at hp test
        subst hp
        exact test

theorem bindVals_length : (bs : List (String × Nat)) → (vs out : List Val) →
    bindVals bs vs = some out → out.length = bs.length
  | [], _, out, h => by simp only [bindVals, Option.some.injEq] at h; subst h; rfl
  | (x, k) :: r, vs, out, h => by
    simp only [bindVals] at h
    split at h
    · rename_i v rest hv hr
      simp only [Option.some.injEq] at h
      subst h
      simp [bindVals_length r vs rest hr]
    · simp at h

theorem bindTop_aruns (sb : Sub) (flow : Val) (rest L : List Val) {pc e : Nat}
    (hl : LocatedTo code pc (bindTop sb) e) :
    ARunsL O P code (pc, flow :: rest, L) (e, flow :: rest, L ++ subBound flow sb) := by
  cases sb with
  | bind x =>
    simp only [bindTop, locatedTo_cons, locatedTo_nil] at hl
    obtain ⟨h0, h1, rfl⟩ := hl
    exact (l_dup h0).trans (l_store h1)
  | wild =>
    simp only [bindTop, locatedTo_nil] at hl
    subst hl
    simpa [subBound] using ARunsL.refl _
  | lit z ci =>
    simp only [bindTop, locatedTo_nil] at hl
    subst hl
    simpa [subBound] using ARunsL.refl _

/-- the bindings of a tuple pattern: one `Store` per binder, in the order of the sorted binder list -/
theorem bindsCode_aruns (flow : Val) (rest : List Val) :
    (bs : List (String × Nat)) → (pc e : Nat) → (L out : List Val) →
    LocatedTo code pc (bindsCode bs) e → bindVals bs (fieldsOf flow) = some out →
    ARunsL O P code (pc, flow :: rest, L) (e, flow :: rest, L ++ out)
  | [], pc, e, L, out, hl, h => by
    simp only [bindVals, Option.some.injEq] at h
    simp only [bindsCode, locatedTo_nil] at hl
    subst h hl
    simpa using ARunsL.refl _
  | (x, k) :: r, pc, e, L, out, hl, h => by
    simp only [bindVals] at h
    split at h
    · rename_i v vs hv hr
      simp only [Option.some.injEq] at h
      subst h
      simp only [bindsCode, List.cons_append, List.nil_append, locatedTo_cons] at hl
      obtain ⟨h0, h1, h2, hl⟩ := hl
      have := (((l_dup (v := flow) (s := rest) (L := L) h0).trans (l_getF h1 hv)).trans (l_store h2)).trans
        (bindsCode_aruns flow rest r _ e _ vs hl hr)
      simpa using this
    · simp at h

/-- the template around tests and bindings: start jump, fail jump, verdict `Ok` and the jump over the
failure path; failure path = nil fill (one nil `Store` per binding) and verdict nil. The tests fall through
or come back to the fail jump at `pc + 1`. -/
theorem matchCode_aruns (hP : wfProg P) (hsz : code.size < 2 ^ 63 - 1) (tests binds : List Instr)
    (nb pc e : Nat) (flow : Val) (rest L : List Val) (pass : Bool) (bound : List Val)
    (hl : LocatedTo code pc (matchCode tests binds nb) e)
    (htests : ∀ t, LocatedTo code (pc + 1 + 1) tests t →
      ARunsL O P code (pc + 1 + 1, flow :: rest, L) (if pass then t else pc + 1, flow :: rest, L))
    (hbinds : pass = true → ∀ t u, LocatedTo code t binds u →
      ARunsL O P code (t, flow :: rest, L) (u, flow :: rest, L ++ bound)) :
    ARunsL O P code (pc, flow :: rest, L)
      (e, (if pass then Val.ok else Val.nil) :: rest,
        L ++ (if pass then bound else List.replicate nb Val.nil)) := by
  simp only [matchCode, List.cons_append, List.nil_append, locatedTo_cons, locatedTo_append, locatedTo_nil] at hl
  obtain ⟨h0, h1, ht, hb, p0, p1, p2, hf, q0, q1, rfl⟩ := hl
  have hfill := nilFill_length nb
  refine (l_jump_fwd (n := 1) hsz h0 rfl (lt_of_fetch h1)).trans ((htests _ ⟨ht, rfl⟩).trans ?_)
  cases pass with
  | true =>
    simp only [if_true]
    exact (hbinds rfl _ _ ⟨hb, rfl⟩).trans (((l_pop p0).trans (l_tuple0 p1 hP.2)).trans
      (l_jump_fwd hsz p2 (by omega) (lt_of_fetch q1)))
  | false =>
    simp only [Bool.false_eq_true, if_false]
    exact (l_jump_fwd hsz h1 (by omega) (lt_of_fetch p2)).trans
      (((nilFill_aruns hP nb _ _ _ _ ⟨hf, rfl⟩).trans (l_pop q0)).trans (l_tuple0 q1 hP.1))

theorem evalPat_length (flow : Val) (p : Pat1) (v : Val) (bound : List Val)
    (h : evalPat flow p = some (v, bound)) : bound.length = (patBinds p).length := by
  cases p with
  | top sb =>
    simp only [evalPat] at h
    split at h
    · simp only [Option.some.injEq, Prod.mk.injEq] at h
      obtain ⟨_, rfl⟩ := h
      cases sb <;> simp [subBound, patBinds, subBinds]
    · simp only [Option.some.injEq, Prod.mk.injEq] at h
      obtain ⟨_, rfl⟩ := h
      simp [patBinds]
  | tup subs =>
    simp only [evalPat] at h
    split at h
    · simp only [Option.map_eq_some_iff, Prod.mk.injEq] at h
      obtain ⟨vs, hvs, _, rfl⟩ := h
      simpa [patBinds, subsBinds] using bindVals_length _ _ _ hvs
    · simp only [Option.some.injEq, Prod.mk.injEq] at h
      obtain ⟨_, rfl⟩ := h
      simp [patBinds]
    · simp at h

/-- **compile_match for the simple patterns**: verdict on the stack, exactly one local per binder
stored on BOTH paths (the matched values / the nil fill: `evalPat_length`) -/
theorem compilePat_arunsTo (hO : OracleIntEq O) (hP : wfProg P) (hsz : code.size < 2 ^ 63 - 1)
    (p : Pat1) (pc e : Nat) (flow : Val) (rest L : List Val) (v : Val) (bound : List Val)
    (hl : LocatedTo code pc (compilePat p) e) (hw : wfPat P p) (hev : evalPat flow p = some (v, bound)) :
    ARunsL O P code (pc, flow :: rest, L) (e, v :: rest, L ++ bound) := by
  cases p with
  | top sb =>
    simp only [compilePat] at hl
    have main := matchCode_aruns (O := O) hP hsz _ _ _ pc e flow rest L (subPasses flow sb) (subBound flow sb) hl
      (fun t ht => testTop_aruns hO hsz sb flow rest L ht hw rfl) (fun _ t u hb => bindTop_aruns sb flow rest L hb)
    simp only [evalPat] at hev
    cases hp : subPasses flow sb with
    | true =>
      simp only [hp, if_true, Option.some.injEq, Prod.mk.injEq] at hev main
      obtain ⟨rfl, rfl⟩ := hev
      exact main
    | false =>
      simp only [hp, Bool.false_eq_true, if_false, Option.some.injEq, Prod.mk.injEq] at hev main
      obtain ⟨rfl, rfl⟩ := hev
      exact main
  | tup subs =>
    simp only [compilePat] at hl
    simp only [evalPat] at hev
    cases hfp : fieldsPass subs 0 (fieldsOf flow) with
    | none => rw [hfp] at hev; simp at hev
    | some b =>
      rw [hfp] at hev
      have ht := fun t ht =>
        testsFields_aruns hO hsz flow rest L (pc + 1) subs 0 2 (pc + 1 + 1) t b ht hw rfl hfp
      cases b with
      | true =>
        simp only [Option.map_eq_some_iff, Prod.mk.injEq] at hev
        obtain ⟨vs, hvs, rfl, rfl⟩ := hev
        exact matchCode_aruns (O := O) hP hsz _ _ _ pc e flow rest L true vs hl ht
          (fun _ t u hb => bindsCode_aruns flow rest _ t u L vs hb hvs)
      | false =>
        simp only [Option.some.injEq, Prod.mk.injEq] at hev
        obtain ⟨rfl, rfl⟩ := hev
        exact matchCode_aruns (O := O) hP hsz _ _ _ pc e flow rest L false [] hl ht (fun h => nomatch h)

theorem compilePat_aruns (hO : OracleIntEq O) (hP : wfProg P) (hsz : code.size < 2 ^ 63 - 1)
    (p : Pat1) (pc : Nat) (flow : Val) (rest L : List Val) (v : Val) (bound : List Val)
    (hl : C02S.Located code pc (compilePat p)) (hw : wfPat P p) (hev : evalPat flow p = some (v, bound)) :
    ARunsL O P code (pc, flow :: rest, L) (pc + (compilePat p).length, v :: rest, L ++ bound) ∧
      bound.length = (patBinds p).length :=
  ⟨compilePat_arunsTo hO hP hsz p pc _ flow rest L v bound ⟨hl, rfl⟩ hw hev, evalPat_length flow p v bound hev⟩

end Pat

theorem isNil_eq (v : Val) (h : v.isNil = true) : v = Val.nil := by
  cases v with
  | tup id els =>
    cases id with
    | zero => cases els with
      | nil => rfl
      | cons a b => simp [Val.isNil] at h
    | succ k => simp [Val.isNil] at h
  | int z => simp [Val.isNil] at h
  | bin b => simp [Val.isNil] at h
  | ref r => simp [Val.isNil] at h
  | fn i c => simp [Val.isNil] at h
  | builtin i => simp [Val.isNil] at h
  | proc a b => simp [Val.isNil] at h
  | res a b => simp [Val.isNil] at h

end C02L
