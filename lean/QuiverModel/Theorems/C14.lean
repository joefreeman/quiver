import QuiverModel.Lemmas.Resources.Reach
import QuiverModel.Lemmas.Resources.Persistent
/-!
# C14 — a resource is usable only by its single owner and is closed exactly once

Theorems about M-Sys/resources (`Core/Resources/Basic.lean`), for EVERY history (list of events of
any length over any number of processes and resources, values nested to any depth). Histories are
the interleavings: an event is what the environment handles next, in whatever order the schedule
made the workers' events arrive.
-/
namespace C14
open QM.Resources

/-- **owner_unique.** In the state reached by any history whatsoever, the ownership map is a
function with no id registered twice: `ownGet` yields at most one owner (by type) and the
registration list has no duplicate id, so "the resources owned by `p`" never lists an id twice and
never lists an id whose `ownGet` is another process. -/
theorem owner_unique (n : Nat) (h : List Event) : KeysNodup (run (init n) h).env.owner := by
  suffices ∀ s : Sys, KeysNodup s.env.owner → KeysNodup (run s h).env.owner from
    this _ (inv_init n).keys
  induction h with
  | nil => intro s hs; exact hs
  | cons ev rest ih => intro s hs; exact ih _ (step_keysNodup s ev hs)

/-- Consequence used by cleanup: the list of resources "owned by `p`" is exactly the set of ids
whose owner is `p`, without repetition. -/
theorem owned_list_exact (n : Nat) (h : List Event) (p : Pid) (r : Rid) :
    let m := (run (init n) h).env.owner
    (r ∈ ownedBy m p ↔ ownGet m r = some p) ∧ (ownedBy m p).Nodup :=
  ⟨mem_ownedBy (owner_unique n h), ownedBy_nodup (owner_unique n h) p⟩

example : ownGet (run (init 2) [.start, .open 0, .open 0]).env.owner 2 = some 0 := by decide

/-- **transfer_moves (deliver), general form.** After the environment handles
`DeliverAction{target, message}`: every resource occurring anywhere in the message — at any depth
inside tuples and closure captures — is owned by the target, whoever owned it before and whoever
sent it, and all other registrations are untouched; EXCEPT when the target has already terminated
(`exited_processes`; finding F10b): then everything the target would own is closed and
unregistered instead (`deliverClosed`). Holds in every state. -/
theorem transfer_moves_send_gen (s : Sys) (sender target : Pid) (msg : Val) (r : Rid) :
    ownGet (step s (.send sender target msg)).env.owner r
      = if r ∈ deliverClosed s.env target msg then none
        else if r ∈ msg.resources then some target else ownGet s.env.owner r := by
  rw [step_owner, ownGet_eraseAll, ownerMid, ownGet_insertAll]; rfl

/-- **transfer_moves (deliver).** Delivery to a process that has not terminated: every resource
anywhere in the message is owned by the target afterwards; all other registrations are untouched. -/
theorem transfer_moves_send (s : Sys) (sender target : Pid) (msg : Val) (r : Rid)
    (halive : s.env.exited.contains target = false) :
    ownGet (step s (.send sender target msg)).env.owner r
      = if r ∈ msg.resources then some target else ownGet s.env.owner r := by
  rw [transfer_moves_send_gen, deliverClosed_alive _ halive]
  simp

/-- **F10b.** Delivery to a process that HAS terminated: every resource anywhere in the
message is passed to `close_resource`, is no longer open and is registered to nobody — it does not
stay open, owned by a process that no longer exists. -/
theorem delivery_to_exited_closes (s : Sys) (hn : KeysNodup s.env.owner) (sender target : Pid) (msg : Val)
    (hdead : s.env.exited.contains target = true) (r : Rid) (hr : r ∈ msg.resources) :
    let s' := step s (.send sender target msg)
    r ∈ s'.env.backend.closeCalls ∧ r ∉ s'.env.backend.openSet ∧ ownGet s'.env.owner r = none := by
  refine closedBy_closed (ev := .send sender target msg) ?_
  show r ∈ deliverClosed s.env target msg
  rw [deliverClosed_dead _ hdead, mem_ownedBy (hn.insertAll _ _), ownGet_insertAll, if_pos hr]

/-- **transfer_moves (spawn).** After `SpawnAction{caller, captures, argument}`, every resource
occurring anywhere in a capture or in the argument is owned by the NEW process (whose id is the
environment's `next_process_id` before the step); all other registrations are untouched. -/
theorem transfer_moves_spawn (s : Sys) (caller : Pid) (caps : List Val) (arg : Val) (r : Rid) :
    ownGet (step s (.spawn caller caps arg)).env.owner r
      = if r ∈ resourcesList caps ++ arg.resources then some s.env.nextPid
        else ownGet s.env.owner r := by
  rw [step_owner]; exact ownGet_insertAll _ _ _ _

/-- The new process is announced under that id. -/
theorem spawn_announces_new_pid (s : Sys) (caller : Pid) (caps : List Val) (arg : Val) :
    ∃ w, Cmd.spawnProcess w s.env.nextPid ∈ (step s (.spawn caller caps arg)).env.out := by
  refine ⟨(colocate s.env.owner s.env.router (caps ++ [arg])).getD (s.env.nextPid % s.env.nWorkers), ?_⟩
  simp only [step, handleSpawn]
  split <;> simp

example :
    let h : List Event := [.start, .start, .open 0,
      .send 0 1 (.tuple [.other, .func [.tuple [.res 1]]])]
    ownGet (run (init 2) h).env.owner 1 = some 1 := by decide

example :
    let h : List Event := [.start, .open 0, .open 0,
      .spawn 0 [.func [.res 1]] (.tuple [.other, .res 2])]
    ownGet (run (init 2) h).env.owner 1 = some 1 ∧ ownGet (run (init 2) h).env.owner 2 = some 1 := by
  decide

/-- **non_owner_never_reaches_backend.** In every state: a request by `p` for an effect on a
registered resource whose owner is another process leaves the backend untouched — nothing is
appended to `executed`, no id is allocated, nothing is closed, nothing is submitted — leaves the
ownership map untouched, and (p being a routed process) sends `p` exactly one command: an error
completion, which makes `p` fail with a runtime error (`notify_effect_completion`). -/
theorem non_owner_never_reaches_backend (s : Sys) (p o : Pid) (e : Effect) (w : Bool) (r : Rid)
    (he : e.resourceId = some r) (hreg : ownGet s.env.owner r = some o) (hne : o ≠ p) :
    (step s (.request p e w)).env.backend = s.env.backend ∧
    (step s (.request p e w)).env.owner = s.env.owner ∧
    (∀ wk, routeGet s.env.router p = some wk →
      (step s (.request p e w)).env.out = s.env.out ++ [.effectCompletion p .err]) := by
  have hv : violatesOwnership s.env.owner p e = true := by
    simp [violatesOwnership, he, hreg, hne]
  simp only [step, handleEffectRequest_rejected _ _ _ _ hv]
  refine ⟨by simp, by simp, ?_⟩
  intro wk hwk
  exact reportEffectError_out _ _ _ hwk

/-- The converse direction, for the log: whatever reaches `execute` was requested by the owner of
the resource it names, or names an unregistered id (never opened, or already cleaned up). -/
theorem executed_only_for_owner (s : Sys) (p : Pid) (e : Effect) (w : Bool) (x : Pid × Effect)
    (hx : x ∈ (step s (.request p e w)).env.backend.executed) (hnew : x ∉ s.env.backend.executed) :
    x = (p, e) ∧ ∀ r, e.resourceId = some r → ownGet s.env.owner r = some p ∨ ownGet s.env.owner r = none := by
  simp only [step, handleEffectRequest_backend] at hx
  by_cases hv : violatesOwnership s.env.owner p e = true
  · simp [hv] at hx; exact absurd hx hnew
  · have hv' : violatesOwnership s.env.owner p e = false := by simpa using hv
    simp only [hv', Bool.false_eq_true, ↓reduceIte, execute_executed, List.mem_append,
      List.mem_singleton] at hx
    rcases hx with hx | hx
    · exact absurd hx hnew
    · refine ⟨hx, ?_⟩
      intro r hr
      simp only [violatesOwnership, hr] at hv'
      cases ho : ownGet s.env.owner r with
      | none => exact .inr rfl
      | some o =>
        simp only [ho, bne_eq_false_iff_eq] at hv'
        exact .inl (by rw [hv'])

/-- Only `request` events ever reach `execute`. -/
theorem executed_only_by_requests (s : Sys) (ev : Event)
    (h : (step s ev).env.backend.executed ≠ s.env.backend.executed) : ∃ p e w, ev = .request p e w := by
  rw [step_backend, closeAll_executed] at h
  rcases backendMid_cases s ev with e | ⟨p, e, w, hev, _, _⟩ | ⟨n, _, e⟩
  · exact absurd (congrArg _ e) h
  · exact ⟨p, e, w, hev⟩
  · exact absurd (e ▸ processCompletions_executed _ _) h

example :
    let s := run (init 2) [.start, .start, .open 0, .send 0 1 (.res 1)]
    (step s (.use 0 1)).env.backend.executed = s.env.backend.executed ∧
    (step s (.use 0 1)).env.out = s.env.out ++ [.effectCompletion 0 .err] ∧
    (step s (.use 1 1)).env.backend.executed = s.env.backend.executed ++ [(1, { kind := .fileRead, rid := 1 })] := by
  decide

/-- `close_resource` is called only by a cleanup: while handling a `ProcessResults`, a
`ProcessExited`, or the delivery of a message to a process that has already terminated. -/
theorem close_calls_only_by_cleanup (s : Sys) (ev : Event)
    (h : (step s ev).env.backend.closeCalls ≠ s.env.backend.closeCalls) :
    (∃ a rs, ev = .results a rs) ∨ (∃ p, ev = .exited p) ∨
    (∃ a t v, ev = .send a t v ∧ s.env.exited.contains t = true) := by
  rw [step_closeCalls] at h
  cases ev with
  | results a rs => exact .inl ⟨a, rs, rfl⟩
  | exited p => exact .inr (.inl ⟨p, rfl⟩)
  | send a t v =>
    refine .inr (.inr ⟨a, t, v, rfl, ?_⟩)
    cases hc : s.env.exited.contains t with
    | true => rfl
    | false => exfalso; apply h; simp [closedBy, deliverClosed_alive _ hc]
  | _ => exact absurd (List.append_nil _) h

/-- `p` is cleaned up by this `ProcessResults`: the message carries `Some(result)` for `p`, and `p`
is not a persistent process reporting a value (= merely asleep until resumed; /repo 200f50e). -/
def Cleaned (s : Sys) (rs : List (Pid × Rep)) (p : Pid) : Prop :=
  ∃ rep, (p, rep) ∈ rs ∧ rep ≠ .pending ∧ ¬ (p ∈ s.env.persistent ∧ rep = .ok)

theorem cleans_iff (pers : List Pid) (p : Pid) (rep : Rep) :
    cleans pers (p, rep) = true ↔ rep ≠ .pending ∧ ¬ (p ∈ pers ∧ rep = .ok) := by
  cases rep <;> simp [cleans]

theorem cleaned_iff (s : Sys) (rs : List (Pid × Rep)) (p : Pid) :
    (p, true) ∈ classify s.env.persistent rs ↔ Cleaned s rs p := by
  rw [mem_classify]
  constructor
  · rintro ⟨rep, hm, hc⟩; exact ⟨rep, hm, (cleans_iff _ _ _).1 hc⟩
  · rintro ⟨rep, hm, hc⟩; exact ⟨rep, hm, (cleans_iff _ _ _).2 hc⟩

/-- Whose resources a step passes to `close_resource`. -/
theorem mem_closedBy {s : Sys} (hn : KeysNodup s.env.owner) {ev : Event} {r : Rid} :
    r ∈ closedBy s ev ↔
      (∃ a rs p, ev = .results a rs ∧ Cleaned s rs p ∧ ownGet s.env.owner r = some p) ∨
      (∃ p, ev = .exited p ∧ ownGet s.env.owner r = some p) ∨
      (∃ a t v, ev = .send a t v ∧ s.env.exited.contains t = true ∧
        ownGet (insertAll s.env.owner v.resources t) r = some t) := by
  constructor
  · intro h
    cases ev with
    | results a rs =>
      obtain ⟨p, hp, hg⟩ := (mem_cleanupList hn).1 h
      exact .inl ⟨a, rs, p, rfl, (cleaned_iff s rs p).1 hp, hg⟩
    | exited p => exact .inr (.inl ⟨p, rfl, (mem_ownedBy hn).1 h⟩)
    | send a t v =>
      simp only [closedBy] at h
      cases hc : s.env.exited.contains t with
      | false => rw [deliverClosed_alive _ hc] at h; cases h
      | true =>
        rw [deliverClosed_dead _ hc] at h
        exact .inr (.inr ⟨a, t, v, rfl, hc, (mem_ownedBy (hn.insertAll _ _)).1 h⟩)
    | _ => cases h
  · rintro (⟨a, rs, p, rfl, hp, hg⟩ | ⟨p, rfl, hg⟩ | ⟨a, t, v, rfl, hc, hg⟩)
    · exact (mem_cleanupList hn).2 ⟨p, (cleaned_iff s rs p).2 hp, hg⟩
    · exact (mem_ownedBy hn).2 hg
    · show r ∈ deliverClosed s.env t v
      rw [deliverClosed_dead _ hc]
      exact (mem_ownedBy (hn.insertAll _ _)).2 hg

/-- **cleanup_closes_once (one batch).** When a `ProcessResults` is handled in a state whose
ownership map has unique keys (every reachable state: `owner_unique`), the ids passed to
`close_resource` are, without repetition, exactly the ids registered to a process this very message
reports as complete (`Some(result)`, and not a sleeping persistent process), and each of them is
unregistered afterwards — so a later batch cannot close it again unless something registers it
anew. -/
theorem cleanup_closes_once_step (s : Sys) (hn : KeysNodup s.env.owner) (a : Pid) (rs : List (Pid × Rep)) :
    ∃ closed : List Rid,
      (step s (.results a rs)).env.backend.closeCalls = s.env.backend.closeCalls ++ closed ∧
      closed.Nodup ∧
      (∀ r, r ∈ closed ↔ ∃ p, Cleaned s rs p ∧ ownGet s.env.owner r = some p) ∧
      (∀ r ∈ closed, ownGet (step s (.results a rs)).env.owner r = none) := by
  refine ⟨cleanupList s.env.owner (classify s.env.persistent rs), ?_, cleanupList_nodup hn _, ?_, ?_⟩
  · exact step_closeCalls s _
  · intro r
    rw [mem_cleanupList hn]
    constructor
    · rintro ⟨p, hp, hg⟩; exact ⟨p, (cleaned_iff s rs p).1 hp, hg⟩
    · rintro ⟨p, hp, hg⟩; exact ⟨p, (cleaned_iff s rs p).2 hp, hg⟩
  · exact fun r hr => (closedBy_closed (ev := .results a rs) hr).2.2

/-- Every process whose `ProcessExited` the environment has handled is dead. -/
def ExitedInv (s : Sys) : Prop := ∀ p ∈ s.env.exited, p ∈ s.terminated

theorem exitedInv_step {s : Sys} (h : ExitedInv s) (ev : Event) (hev : livenessOk s ev = true) :
    ExitedInv (step s ev) := by
  intro p hp
  rw [step_exited] at hp
  rw [step_terminated]
  cases ev with
  | exited q =>
    simp only [List.mem_cons] at hp
    rcases hp with rfl | hp
    · simpa [livenessOk] using hev
    · exact h p hp
  | terminate q => exact List.mem_cons_of_mem _ (h p hp)
  | _ => exact h p hp

theorem exited_sub_terminated (n : Nat) (h : List Event) (hw : wfFrom (init n) h = true) :
    ExitedInv (run (init n) h) := by
  suffices ∀ s : Sys, ExitedInv s → wfFrom s h = true → ExitedInv (run s h) from
    this _ (by intro p hp; simp [init] at hp) hw
  clear hw
  induction h with
  | nil => intro s hs _; exact hs
  | cons ev rest ih =>
    intro s hs hw
    simp only [wfFrom, eventOk, Bool.and_eq_true] at hw
    exact ih _ (exitedInv_step hs ev hw.1.2) hw.2

/-- The ownership map at the moment a step calls `close_resource` (a delivery transfers first). -/
def ownerAtClose (s : Sys) : Event → Own
  | .send _ t v => insertAll s.env.owner v.resources t
  | _ => s.env.owner

/-- **no_close_while_owner_alive.** In a state reached by any well-formed history, when the workers
respect `livenessOk` for the next event — they report `Some(result)` only for a process that is
dead, or `Some(Ok(_))` for a persistent process that is merely asleep between two resumptions (which
is what `query_and_await` does: it treats `Sleeping` like `Completed`), and send `ProcessExited`
only for a dead process — every id the step passes to `close_resource` (`closedBy`, which by
`step_closeCalls` is exactly what the step appends to the call log) is, at that moment, registered
to a process that is dead. The environment never closes a resource whose owner is alive,
*including the sleeping REPL process when somebody awaits it* (under the rule of /repo before 200f50e,
`handleProcessResultsOld`, that case fails: `sleeping_owner_closed_by_old_rule`). -/
theorem no_close_while_owner_alive (n : Nat) (h : List Event) (hw : wfFrom (init n) h = true)
    (ev : Event) (hev : livenessOk (run (init n) h) ev = true) (r : Rid)
    (hr : r ∈ closedBy (run (init n) h) ev) :
    ∃ p, ownGet (ownerAtClose (run (init n) h) ev) r = some p ∧ p ∈ (run (init n) h).terminated := by
  have hn := owner_unique n h
  have hex := exited_sub_terminated n h hw
  generalize run (init n) h = s at *
  rcases (mem_closedBy hn).1 hr with ⟨a, rs, p, rfl, ⟨rep, hm, hne, hns⟩, hg⟩ | ⟨p, rfl, hg⟩ |
    ⟨a, t, v, rfl, hc, hg⟩
  · refine ⟨p, hg, ?_⟩
    simp only [livenessOk, List.all_eq_true] at hev
    have := hev (p, rep) hm
    simp only [Bool.or_eq_true, beq_iff_eq, List.contains_eq_mem, decide_eq_true_eq,
      Bool.and_eq_true] at this
    rcases this with (h1 | h1) | h1
    · exact absurd h1 hne
    · exact h1
    · exact absurd h1 hns
  · exact ⟨p, hg, by simpa [livenessOk] using hev⟩
  · exact ⟨t, hg, hex t (by simpa using hc)⟩

/-- The exemption of sleeping persistent processes in isolation: a `ProcessResults` that reports a value for a persistent process
changes nothing at all — its resources stay registered and open. -/
theorem sleeping_report_changes_nothing (s : Sys) (a p : Pid) (hp : p ∈ s.env.persistent) :
    (step s (.awaitReport a p)).env = s.env := by
  simp [step, Event.awaitReport, handleProcessResults, cleans, hp, handleCleanups]

/-- Only `start_process` makes a process persistent: after any history, the process a spawn is
about to create is not persistent — so a spawned process that reports a value IS cleaned up; the
exemption concerns exactly the processes started through `start_process`. -/
theorem spawned_process_not_persistent (n : Nat) (h : List Event) :
    (run (init n) h).env.nextPid ∉ (run (init n) h).env.persistent := by
  intro hm
  have : PersInv (init n) := by intro p hp; simp [init] at hp
  exact absurd (persInv_run this h _ hm) (Nat.lt_irrefl _)

/-- A FAILED persistent process can never be resumed: it is cleaned up like any other. -/
theorem failed_persistent_is_cleaned (s : Sys) (a p : Pid) :
    Cleaned s [(p, .failed)] p := ⟨.failed, by simp, by simp, by simp⟩

example :
    let s := run (init 2) [.start, .spawn 0 [] .other, .open 0, .open 1, .open 1, .terminate 1]
    (step s (.awaitReport 0 1)).env.backend.closeCalls = [3, 2] ∧
    (step s (.awaitReport 0 1)).env.backend.openSet = [1] := by decide

/-- Events the environment produces by itself (no worker sent anything). -/
def EnvOnly (h : List Event) : Prop := ∀ ev ∈ h, ∃ n, ev = Event.completions n

/-- *The statement for a protocol without exit reports (workers do not send `ProcessExited`: /repo before
5cb2956)* (FALSE — finding F10): every resource still registered to a process that has
terminated is eventually closed by the environment on its own: there is a continuation of
environment-only steps after which the backend no longer holds it open. -/
def ClosedOnTerminationWithoutExitReportsStatement : Prop :=
  ∀ (n : Nat) (h : List Event), wfFrom (init n) h = true →
    ∀ p r, p ∈ (run (init n) h).terminated → ownGet (run (init n) h).env.owner r = some p →
      ∃ h', EnvOnly h' ∧ r ∉ (run (init n) (h ++ h')).env.backend.openSet

/-- Continuations that only deliver what has already happened: backend completions, and the
`ProcessExited` a worker sends for a process that has terminated. -/
def ExitDelivery (s : Sys) (h' : List Event) : Prop :=
  ∀ ev ∈ h', (∃ n, ev = Event.completions n) ∨ (∃ p, ev = Event.exited p ∧ p ∈ s.terminated)

/-- **Closed on termination** (full statement; TRUE of /repo 5cb2956, where the worker sends `ProcessExited`).
Every resource still
registered to a process that has terminated is eventually closed without anybody awaiting the
process: there is a well-formed continuation consisting only of deliveries of what the workers have
already emitted — here: the `ProcessExited` of that process — after which the backend no longer
holds the resource open. ("Eventually" = that event is delivered; channels lose nothing.) -/
def ClosedOnTerminationStatement : Prop :=
  ∀ (n : Nat) (h : List Event), wfFrom (init n) h = true →
    ∀ p r, p ∈ (run (init n) h).terminated → ownGet (run (init n) h).env.owner r = some p →
      ∃ h', ExitDelivery (run (init n) h) h' ∧ wfFrom (run (init n) h) h' = true ∧
        r ∉ (run (init n) (h ++ h')).env.backend.openSet ∧
        ownGet (run (init n) (h ++ h')).env.owner r = none

theorem run_append (s : Sys) (a b : List Event) : run s (a ++ b) = run (run s a) b := by
  induction a generalizing s with
  | nil => rfl
  | cons x rest ih => simp [run, ih]

theorem envOnly_idle (s : Sys) (hp : s.env.backend.pending = []) (h' : List Event) (he : EnvOnly h') :
    run s h' = s := by
  induction h' with
  | nil => rfl
  | cons ev rest ih =>
    obtain ⟨k, rfl⟩ := he _ (List.mem_cons_self)
    have : step s (.completions k) = s := by
      simp only [step, handleCompletions_idle _ _ hp]
    simp only [run, this]
    exact ih (fun e hm => he e (List.mem_cons_of_mem _ hm))

/-- The witness history of F10: process 0 spawns process 1, which opens a file and terminates; nobody
awaits it. -/
def f10Witness : List Event := [.start, .spawn 0 [] .other, .open 1, .terminate 1]

/-- **F10.** Without exit reports the statement is false: after `[open r by p; p
terminates]` the resource stays open whatever number of environment steps follow — cleanup ran only
inside `handle_process_results`, i.e. only if somebody awaited `p`. -/
theorem closedOnTermination_false_without_exit_reports :
    ¬ ClosedOnTerminationWithoutExitReportsStatement := by
  intro hst
  obtain ⟨h', he, hno⟩ := hst 1 f10Witness (by decide) 1 1 (by decide) (by decide)
  rw [run_append, envOnly_idle _ (by decide) h' he] at hno
  exact hno (by decide)

/-- **closed_on_termination** — `ClosedOnTerminationStatement` holds: delivering the
`ProcessExited` of the terminated owner closes the resource and drops its registration. -/
theorem closed_on_termination : ClosedOnTerminationStatement := by
  intro n h _ p r hp hr
  obtain ⟨_, h2, h3⟩ := closedBy_closed (s := run (init n) h) (ev := .exited p)
    ((mem_ownedBy (owner_unique n h)).2 hr)
  refine ⟨[.exited p], fun ev hev => .inr ⟨p, List.mem_singleton.1 hev, hp⟩, ?_, ?_, ?_⟩
  · simp [wfFrom, eventOk, handlesExist, livenessOk, hp]
  · rw [run_append]; exact h2
  · rw [run_append]; exact h3

-- the F10 witness continued by the exit report the worker sends: closed
example :
    let s := run (init 1) (f10Witness ++ [.exited 1])
    wfFrom (init 1) (f10Witness ++ [.exited 1]) = true ∧ s.env.backend.closeCalls = [1] ∧
    s.env.backend.openSet = [] ∧ ownGet s.env.owner 1 = none := by decide

/-! The next three and `ExitedInv` are kept under `livenessOk` of the event, `Inv` under `handlesExist`: that is why
they are not fields of `Inv`. -/

/-- Processes with an operation in flight are alive. -/
def PendInv (s : Sys) : Prop := ∀ x ∈ s.env.backend.pending, x.1 ∉ s.terminated
/-- Dead processes have an allocated id. -/
def TermLt (s : Sys) : Prop := ∀ p ∈ s.terminated, p < s.env.nextPid
/-- A process whose `ProcessExited` has been handled owns nothing. -/
def ExOwn (s : Sys) : Prop := ∀ p ∈ s.env.exited, ∀ r, ownGet s.env.owner r ≠ some p

theorem execute_pending (b : Backend) (p : Pid) (e : Effect) (w : Bool) :
    ∀ x ∈ (b.execute p e w).1.pending, x ∈ b.pending ∨ x.1 = p := by
  rcases execute_cases b p e w with ⟨⟨_, hb, hpd⟩, _⟩ | ⟨hb, _⟩ | ⟨_, _, hb, _⟩ <;> rw [hb]
  · exact hpd
  · exact fun _ hx => .inl hx
  · exact fun _ hx => .inl hx

theorem processCompletions_pending (b : Backend) (n : Nat) :
    (b.processCompletions n).1.pending = b.pending.drop n := by
  rw [processCompletions_eq]
  exact (completeAll_frame _ _).2.2.2

theorem step_pending (s : Sys) (ev : Event) :
    ∀ x ∈ (step s ev).env.backend.pending,
      x ∈ s.env.backend.pending ∨ ∃ e w, ev = .request x.1 e w := by
  intro x hx
  rw [step_backend, closeAll_pending] at hx
  rcases backendMid_cases s ev with e | ⟨p, e, w, rfl, _, e'⟩ | ⟨n, _, e⟩
  · exact .inl (e ▸ hx)
  · exact (execute_pending _ _ _ _ x (e' ▸ hx)).imp_right fun h => ⟨e, w, by rw [h]⟩
  · rw [e, processCompletions_pending] at hx; exact .inl (List.mem_of_mem_drop hx)

theorem pendInv_step {s : Sys} (h : PendInv s) (ev : Event) (hev : livenessOk s ev = true) :
    PendInv (step s ev) := by
  intro x hx
  rw [step_terminated]
  rcases step_pending s ev x hx with hp | ⟨e, w, rfl⟩
  · cases ev with
    | terminate q =>
      simp only [List.mem_cons, not_or]
      refine ⟨?_, h x hp⟩
      simp only [livenessOk, Bool.and_eq_true, Bool.not_eq_eq_eq_not, Bool.not_true,
        List.contains_eq_mem, decide_eq_false_iff_not, decide_eq_true_eq] at hev
      intro hq
      exact hev.2 (List.mem_map.2 ⟨x, hp, hq⟩)
    | _ => exact h x hp
  · simpa [livenessOk] using hev

theorem termLt_step {s : Sys} (h : TermLt s) (ev : Event) (hev : livenessOk s ev = true) :
    TermLt (step s ev) := by
  intro p hp
  rw [step_terminated] at hp
  have hm := step_nextPid_mono s ev
  cases ev with
  | terminate q =>
    simp only [List.mem_cons] at hp
    rcases hp with rfl | hp
    · simp only [livenessOk, Bool.and_eq_true, decide_eq_true_eq] at hev
      exact Nat.lt_of_lt_of_le hev.1.2 hm
    · exact Nat.lt_of_lt_of_le (h p hp) hm
  | _ => exact Nat.lt_of_lt_of_le (h p hp) hm

theorem exOwn_step {s : Sys} (hn : KeysNodup s.env.owner) (hx : ExitedInv s) (hp : PendInv s)
    (ht : TermLt s) (h : ExOwn s) (ev : Event) (hev : livenessOk s ev = true) : ExOwn (step s ev) := by
  intro p hpe r hr
  rw [step_exited] at hpe
  obtain ⟨hnc, hg⟩ := step_ownGet_some hr
  rcases hg with h0 | ⟨a, v, rfl, hm⟩ | ⟨c, caps, arg, rfl, rfl, _⟩ | ⟨⟨e, w, rfl⟩ | ⟨n, pd, rfl, hm⟩, _, _⟩
  · -- still registered to `p`: not if this step is `p`'s `ProcessExited`, which closes all `p` owns
    cases ev with
    | exited q =>
      rcases List.mem_cons.1 hpe with rfl | hpe
      · exact hnc ((mem_ownedBy hn).2 h0)
      · exact h p hpe r h0
    | _ => exact h p hpe r h0
  · -- delivered to `p`: closed on arrival
    apply hnc
    show r ∈ deliverClosed s.env p v
    rw [deliverClosed_dead _ (by simpa using hpe), mem_ownedBy (hn.insertAll _ _), ownGet_insertAll,
      if_pos hm]
  · exact absurd (ht _ (hx _ hpe)) (Nat.lt_irrefl _)
  · have := hx p hpe
    simp [livenessOk, this] at hev
  · exact hp (p, pd) hm (hx p hpe)

/-- **exited_owns_nothing.** Along every well-formed history: a process whose `ProcessExited` the
environment has handled owns nothing, and never will again — neither what it owned when it
terminated (F10) nor anything handed to it afterwards (F10b). (Unregistering goes with closing:
`closedBy_closed`, `closed_on_termination`; no id is effectively closed twice: `effective_close_once`.) -/
theorem exited_owns_nothing (n : Nat) (h : List Event) (hw : wfFrom (init n) h = true) :
    ∀ p ∈ (run (init n) h).env.exited, ∀ r, ownGet (run (init n) h).env.owner r ≠ some p := by
  suffices ∀ s : Sys, KeysNodup s.env.owner → ExitedInv s → PendInv s → TermLt s → ExOwn s →
      wfFrom s h = true → ExOwn (run s h) from
    this (init n) (inv_init n).keys (by intro p hp; simp [init] at hp)
      (by intro x hx; simp [init] at hx) (by intro p hp; simp [init] at hp)
      (by intro p hp; simp [init] at hp) hw
  clear hw
  induction h with
  | nil => intro s _ _ _ _ h _; exact h
  | cons ev rest ih =>
    intro s hn hx hp ht h hw
    simp only [wfFrom, eventOk, Bool.and_eq_true] at hw
    exact ih (step s ev) (step_keysNodup s ev hn) (exitedInv_step hx ev hw.1.2)
      (pendInv_step hp ev hw.1.2) (termLt_step ht ev hw.1.2)
      (exOwn_step hn hx hp ht h ev hw.1.2) hw.2


/-- Every `ProcessExited` the workers owe has been handled (fairness: channels lose nothing and the
environment keeps stepping, so every history extends to one with this property). -/
def AllExitsDelivered (s : Sys) : Prop := ∀ p ∈ s.terminated, p ∈ s.env.exited

/-- **no_leak_when_exits_delivered.** After a well-formed history in which every owed exit report
has been delivered, no resource is registered to a dead process: every registered resource has a
live owner. (This is the end-of-run oracle of the harness.) -/
theorem no_leak_when_exits_delivered (n : Nat) (h : List Event) (hw : wfFrom (init n) h = true)
    (hd : AllExitsDelivered (run (init n) h)) (r : Rid) (p : Pid)
    (hr : ownGet (run (init n) h).env.owner r = some p) : p ∉ (run (init n) h).terminated :=
  fun hp => exited_owns_nothing n h hw p (hd p hp) r hr

/-- Delivering the exit reports of dead processes `ps` one after the other is a well-formed continuation; it changes
nobody's liveness and records every one of them. -/
theorem deliver_exits (s : Sys) (ps : List Pid) (hps : ∀ p ∈ ps, p ∈ s.terminated) :
    wfFrom s (ps.map Event.exited) = true ∧
    (run s (ps.map Event.exited)).terminated = s.terminated ∧
    (∀ p, p ∈ ps ∨ p ∈ s.env.exited → p ∈ (run s (ps.map Event.exited)).env.exited) := by
  induction ps generalizing s with
  | nil => exact ⟨rfl, rfl, fun p hp => hp.elim (fun h => by cases h) id⟩
  | cons q rest ih =>
    have hq := hps q List.mem_cons_self
    have hterm : (step s (.exited q)).terminated = s.terminated := rfl
    have hex : (step s (.exited q)).env.exited = q :: s.env.exited := rfl
    obtain ⟨h1, h2, h3⟩ := ih (step s (.exited q))
      (fun p hp => hterm ▸ hps p (List.mem_cons_of_mem _ hp))
    refine ⟨?_, ?_, ?_⟩
    · simp only [List.map_cons, wfFrom, eventOk, handlesExist, livenessOk, Bool.true_and,
        Bool.and_eq_true, List.contains_eq_mem, decide_eq_true_eq]
      exact ⟨hq, h1⟩
    · simp only [List.map_cons, run]; rw [h2, hterm]
    · intro p hp
      simp only [List.map_cons, run]
      apply h3
      rw [hex]
      rcases hp with hp | hp
      · rcases List.mem_cons.1 hp with rfl | hp
        · exact .inr List.mem_cons_self
        · exact .inl hp
      · exact .inr (List.mem_cons_of_mem _ hp)

theorem wfFrom_append (s : Sys) (a b : List Event) (ha : wfFrom s a = true)
    (hb : wfFrom (run s a) b = true) : wfFrom s (a ++ b) = true := by
  induction a generalizing s with
  | nil => exact hb
  | cons ev rest ih =>
    simp only [wfFrom, Bool.and_eq_true] at ha
    simp only [List.cons_append, wfFrom, Bool.and_eq_true]
    exact ⟨ha.1, ih _ ha.2 hb⟩

/-- **eventually_nothing_leaks.** Every well-formed history has a continuation that consists only
of deliveries of exit reports the workers already owe (no process does anything, nobody awaits
anybody) after which no resource is registered to a dead process (`exited_owns_nothing`; what such a
delivery unregisters it closes: `closed_on_termination`). Under fairness (every owed report is eventually delivered) this is the
liveness half of C14; without exit reports no such continuation exists
(`closedOnTermination_false_without_exit_reports`, `stays_open_while_left_alone`). -/
theorem eventually_nothing_leaks (n : Nat) (h : List Event) (hw : wfFrom (init n) h = true) :
    ∃ h', ExitDelivery (run (init n) h) h' ∧ wfFrom (init n) (h ++ h') = true ∧
      ∀ r p, ownGet (run (init n) (h ++ h')).env.owner r = some p →
        p ∉ (run (init n) (h ++ h')).terminated := by
  obtain ⟨h1, h2, h3⟩ := deliver_exits (run (init n) h) (run (init n) h).terminated (fun p hp => hp)
  refine ⟨(run (init n) h).terminated.map Event.exited, ?_, wfFrom_append _ _ _ hw h1, ?_⟩
  · intro ev hev
    obtain ⟨p, hp, rfl⟩ := List.mem_map.1 hev
    exact .inr ⟨p, rfl, hp⟩
  · intro r p hr
    apply no_leak_when_exits_delivered n _ (wfFrom_append _ _ _ hw h1) _ r p hr
    intro q hq
    rw [run_append] at hq ⊢
    rw [h2] at hq
    exact h3 q (.inl hq)


/-- **closed_on_reported_termination_partial** — the part of "closed on termination" that does
hold: as soon as a `ProcessResults` reporting `p` as completed is handled (some process awaited
`p`), every resource registered to `p` has been passed to `close_resource`, is no longer open in the
backend and is no longer registered; registrations of processes not reported in that message are
untouched. (For a process nobody awaits the trigger is its `ProcessExited`: `closed_on_termination`.) -/
theorem closed_on_reported_termination_partial (n : Nat) (h : List Event) (a p : Pid)
    (rs : List (Pid × Rep)) (hp : Cleaned (run (init n) h) rs p) (r : Rid)
    (hr : ownGet (run (init n) h).env.owner r = some p) :
    let s' := step (run (init n) h) (.results a rs)
    r ∈ s'.env.backend.closeCalls ∧ r ∉ s'.env.backend.openSet ∧ ownGet s'.env.owner r = none ∧
    (∀ r' q, ownGet (run (init n) h).env.owner r' = some q → ¬ Cleaned (run (init n) h) rs q →
      ownGet s'.env.owner r' = some q) := by
  have hn := owner_unique n h
  generalize run (init n) h = s at *
  obtain ⟨h1, h2, h3⟩ := closedBy_closed (ev := .results a rs)
    ((mem_cleanupList hn).2 ⟨p, (cleaned_iff s rs p).2 hp, hr⟩)
  refine ⟨h1, h2, h3, fun r' q hq hnq => ?_⟩
  rw [step_owner, ownGet_eraseAll, if_neg]
  · exact hq
  · intro hc
    obtain ⟨p', hp', hg⟩ := (mem_cleanupList hn).1 hc
    rw [hq] at hg; cases hg
    exact hnq ((cleaned_iff s rs q).1 hp')

/-- What a step appends to the commands, with what a "here is your new resource" completion
implies. -/
theorem created_aux (s : Sys) (ev : Event) :
    ∃ l, (step s ev).env.out = s.env.out ++ l ∧
      ∀ p r, Cmd.effectCompletion p (.okRes r) ∈ l →
        ownGet (step s ev).env.owner r = some p ∧ s.env.backend.nextRid ≤ r := by
  -- most steps append nothing, or one command that does not announce a new resource
  have quiet : (step s ev).env.out = s.env.out → ∃ l, (step s ev).env.out = s.env.out ++ l ∧
      ∀ p r, Cmd.effectCompletion p (.okRes r) ∈ l →
        ownGet (step s ev).env.owner r = some p ∧ s.env.backend.nextRid ≤ r :=
    fun h => ⟨[], by rw [h, List.append_nil], fun _ _ hm => nomatch hm⟩
  have other : ∀ l, (step s ev).env.out = s.env.out ++ l → (∀ p r, Cmd.effectCompletion p (.okRes r) ∉ l) →
      ∃ l, (step s ev).env.out = s.env.out ++ l ∧ ∀ p r, Cmd.effectCompletion p (.okRes r) ∈ l →
        ownGet (step s ev).env.owner r = some p ∧ s.env.backend.nextRid ≤ r :=
    fun l h hl => ⟨l, h, fun p r hm => absurd hm (hl p r)⟩
  have errOut : ∀ (s1 : Env) (p : Pid), s1.out = s.env.out → (step s ev).env = reportEffectError s1 p →
      ∃ l, (step s ev).env.out = s.env.out ++ l ∧ ∀ p r, Cmd.effectCompletion p (.okRes r) ∈ l →
        ownGet (step s ev).env.owner r = some p ∧ s.env.backend.nextRid ≤ r := by
    intro s1 p h1 h2
    rcases reportEffectError_out_cases s1 p with h | h
    · exact quiet (by rw [h2, h, h1])
    · exact other _ (by rw [h2, h, h1]) (fun _ _ hm => by cases List.mem_singleton.1 hm)
  cases ev with
  | start => exact other [_] rfl (fun _ _ hm => by cases List.mem_singleton.1 hm)
  | terminate p => exact quiet rfl
  | exited p => exact quiet rfl
  | results a rs => exact quiet (handleProcessResults_out _ _)
  | send a t v =>
    rcases handleDeliver_out_cases s.env t v with h | h
    · exact quiet h
    · exact other _ h (fun _ _ hm => by cases List.mem_singleton.1 hm)
  | spawn c caps arg =>
    simp only [step, handleSpawn]
    split
    · exact ⟨[_], rfl, fun _ _ hm => by cases List.mem_singleton.1 hm⟩
    · exact ⟨[_, _], (List.append_assoc _ _ _), fun _ _ hm => by
        rcases List.mem_cons.1 hm with h | h
        · cases h
        · cases List.mem_singleton.1 h⟩
  | request p e w =>
    by_cases hv : violatesOwnership s.env.owner p e = true
    · exact errOut s.env p rfl (handleEffectRequest_rejected _ _ _ w hv)
    · have hv' : violatesOwnership s.env.owner p e = false := by simpa using hv
      have hown := handleEffectRequest_owner s.env p e w
      have heq : (step s (.request p e w)).env = _ := handleEffectRequest_accepted _ _ _ _ hv'
      rw [if_neg hv] at hown
      cases hrep : (s.env.backend.execute p e w).2 with
      | submitted => rw [hrep] at heq; dsimp only at heq; exact quiet (by rw [heq])
      | failed => rw [hrep] at heq; dsimp only at heq; exact errOut { s.env with backend := (s.env.backend.execute p e w).1 } p rfl heq
      | immediate res =>
        rw [hrep] at heq hown
        dsimp only at heq hown
        rcases handleEffectCompletion_out_cases { s.env with backend := (s.env.backend.execute p e w).1 } p res with h | h
        · exact quiet (by rw [heq, h])
        · refine ⟨[_], by rw [heq, h], fun p' r hm => ?_⟩
          cases List.mem_singleton.1 hm
          obtain ⟨h1, _⟩ := execute_reply_okRes hrep
          exact ⟨hown ▸ (ownGet_regOf _ _ _ _).trans (if_pos rfl), by rw [h1]; exact Nat.le_refl _⟩
  | completions n =>
    obtain ⟨l, hl, hsub⟩ := handleCompletions_out s.env n
    refine ⟨l, hl, fun p r hm => ?_⟩
    obtain ⟨p', r', h1, h2⟩ := hsub _ hm
    cases h1
    have hids := processCompletions_resIds s.env.backend n
    exact ⟨(congrArg (ownGet · r) (handleCompletions_owner s.env n)).trans (ownGet_regAll_of_mem hids.1 h2),
      (hids.2 r (mem_resIds.2 ⟨p, h2⟩)).1⟩

/-- **created_owned_by_creator.** In every state satisfying the invariant (every state reached by a
history without forged handles: `inv_run`), whenever a step makes the environment tell a process
`p` "your effect completed and created resource `r`" (`EffectCompletion{p, Ok(Resource r)}` — the
synchronous creations inside `handle_effect_request` as well as accept/connect completions
collected later, several per step), then after the step `r` is registered to `p`, and before the
step `r` was registered to nobody (the id is fresh: not below the allocator). -/
theorem created_owned_by_creator (s : Sys) (hs : Inv s) (ev : Event) (l : List Cmd)
    (hl : (step s ev).env.out = s.env.out ++ l) (p : Pid) (r : Rid)
    (hc : Cmd.effectCompletion p (.okRes r) ∈ l) :
    ownGet (step s ev).env.owner r = some p ∧ ownGet s.env.owner r = none := by
  obtain ⟨l', hl', h⟩ := created_aux s ev
  have : l = l' := List.append_cancel_left (hl.symm.trans hl')
  subst this
  obtain ⟨h1, h2⟩ := h p r hc
  refine ⟨h1, ?_⟩
  rw [ownGet_eq_none_iff]
  intro hk
  exact absurd (hs.keys_lt r hk) (Nat.not_lt.2 h2)

/-- The invariant holds after every history whose handles exist (in particular every well-formed
history: `handlesFrom_of_wfFrom`). -/
theorem reachable_inv (n : Nat) (h : List Event) (hw : handlesFrom (init n) h = true) :
    Inv (run (init n) h) := inv_run (inv_init n) h hw

example :
    let s := run (init 2) [.start, .open 0]
    (step s (.open 0)).env.out = s.env.out ++ [.effectCompletion 0 (.okRes 2)] ∧
    ownGet (step s (.open 0)).env.owner 2 = some 0 := by decide

-- accept: the new socket is registered when the completion is collected, to the accepting process
example :
    let s := run (init 2) [.start, .request 0 { kind := .tcpListen } true,
      .request 0 { kind := .tcpListenerAccept, rid := 1 } true]
    ownGet s.env.owner 2 = none ∧ ownGet (step s (.completions 1)).env.owner 2 = some 0 := by decide

/-- **owner_unique, second half.** In every state satisfying the invariant: if a step changes the
owner of a registered resource `r` from `p` to a different process `q`, the step is the delivery of
a message containing `r` to `q`, or a spawn whose captures/argument contain `r` and `q` is the new
process. No completion, request, cleanup or await can re-register an id to a second process. -/
theorem owner_changes_only_by_transfer (s : Sys) (hs : Inv s) (ev : Event) (r : Rid) (p q : Pid)
    (h0 : ownGet s.env.owner r = some p) (h1 : ownGet (step s ev).env.owner r = some q) (hne : q ≠ p) :
    (∃ sender msg, ev = .send sender q msg ∧ r ∈ msg.resources) ∨
    (∃ caller caps arg, ev = .spawn caller caps arg ∧ q = s.env.nextPid ∧
      r ∈ resourcesList caps ++ arg.resources) := by
  rcases (step_ownGet_some h1).2 with h | ⟨a, v, rfl, hm⟩ | ⟨c, caps, arg, rfl, hq, hm⟩ | ⟨_, hlo, _⟩
  · rw [h0] at h; cases h; exact (hne rfl).elim
  · exact .inl ⟨a, v, rfl, hm⟩
  · exact .inr ⟨c, caps, arg, rfl, hq, hm⟩
  · -- a freshly allocated id is not one that is registered already
    exact absurd (hs.keys_lt r (mem_ownKeys_iff_ownGet.2 ⟨p, h0⟩)) (Nat.not_lt.2 hlo)

/-- **effective close at most once.** After ANY history, no resource id has been effectively
closed (removed from the backend's registry by an explicit close effect or by `close_resource`)
more than once, and no effectively closed id is open. -/
theorem effective_close_once (n : Nat) (h : List Event) :
    (run (init n) h).env.backend.effClosed.Nodup ∧
    ∀ r ∈ (run (init n) h).env.backend.effClosed, r ∉ (run (init n) h).env.backend.openSet := by
  suffices ∀ s : Sys, BInv s.env.backend → BInv (run s h).env.backend from
    ⟨(this _ (inv_init n).binv).eff_nodup, (this _ (inv_init n).binv).eff_not_open⟩
  induction h with
  | nil => intro s hs; exact hs
  | cons ev rest ih => intro s hs; exact ih _ (step_binv s ev hs)


/-- **Who can close.** In every state with unique registrations: if a step removes an open resource
`r` from the backend's registry, the step is
* an explicit close effect naming `r` that passed the ownership check (requested by `r`'s owner, or
  `r` is unregistered), or
* a `ProcessResults` reporting the process `r` is registered to as complete (`Cleaned`: not a
  sleeping persistent process), or
* the `ProcessExited` of the process `r` is registered to, or
* the delivery of a message to an already terminated process that, after the transfer, `r` is
  registered to.
Nothing else ever closes a resource — not time, and (without the last two events: F10) not the termination
of its owner. -/
theorem closed_only_by_owner_close_or_cleanup (s : Sys) (hn : KeysNodup s.env.owner) (ev : Event) (r : Rid)
    (h0 : r ∈ s.env.backend.openSet) (h1 : r ∉ (step s ev).env.backend.openSet) :
    (∃ p e w, ev = .request p e w ∧ e.kind.shape = .closeSync ∧ e.rid = r ∧
      violatesOwnership s.env.owner p e = false) ∨
    (∃ a rs p, ev = .results a rs ∧ Cleaned s rs p ∧ ownGet s.env.owner r = some p) ∨
    (∃ p, ev = .exited p ∧ ownGet s.env.owner r = some p) ∨
    (∃ a t v, ev = .send a t v ∧ s.env.exited.contains t = true ∧
      ownGet (insertAll s.env.owner v.resources t) r = some t) := by
  rw [step_backend, closeAll_openSet, List.mem_filter, not_and, decide_eq_true_eq, Classical.not_not] at h1
  -- `r` is closed by the step's cleanup, or the step's own backend call has removed it
  by_cases hc : r ∈ closedBy s ev
  · exact .inr ((mem_closedBy hn).1 hc)
  left
  rcases backendMid_cases s ev with e | ⟨p, e, w, rfl, hv, e'⟩ | ⟨n, _, e⟩
  · exact absurd (h1 (e ▸ h0)) hc
  · rcases execute_openSet s.env.backend p e w h0 with h | ⟨h2, h3⟩
    · exact absurd (h1 (e' ▸ h)) hc
    · exact ⟨p, e, w, rfl, h2, h3, hv⟩
  · exact absurd (h1 (e ▸ processCompletions_openSet_mono _ n h0)) hc

/-- the event is neither an explicit close of `r`, nor a report or the `ProcessExited` of `o`, nor a transfer of `r` -/
def leavesAlone (r : Rid) (o : Pid) : Event → Bool
  | .request _ e _ => !(e.kind.shape = .closeSync && e.rid = r)
  | .results _ rs => !(reportedOf rs).contains o
  | .exited p => !(p == o)
  | .send _ _ msg => !msg.resources.contains r
  | .spawn _ caps arg => !(resourcesList caps ++ arg.resources).contains r
  | _ => true

/-- F10 in general form: along ANY continuation that contains neither an accepted explicit close of
`r`, nor a report or the `ProcessExited` of `r`'s current owner (and no transfer of `r`, so the owner
stays the same), an open resource stays open — whether or not its owner has terminated. This is
why a protocol without `ProcessExited` leaks (F10) and why the worker sends one. -/
theorem stays_open_while_left_alone (s : Sys) (hs : Inv s) (r : Rid) (o : Pid)
    (hopen : r ∈ s.env.backend.openSet) (hown : ownGet s.env.owner r = some o)
    (hno : o ∉ s.env.exited)
    (h : List Event) (hw : handlesFrom s h = true) (hl : ∀ ev ∈ h, leavesAlone r o ev = true) :
    r ∈ (run s h).env.backend.openSet ∧ ownGet (run s h).env.owner r = some o := by
  induction h generalizing s with
  | nil => exact ⟨hopen, hown⟩
  | cons ev rest ih =>
    simp only [handlesFrom, Bool.and_eq_true] at hw
    have hev := hl ev List.mem_cons_self
    have hs' := inv_step hs ev hw.1
    have hno' : o ∉ (step s ev).env.exited := by
      rw [step_exited]
      cases ev with
      | exited p =>
        simp only [List.mem_cons, not_or]
        refine ⟨?_, hno⟩
        intro hc; subst hc; simp [leavesAlone] at hev
      | _ => exact hno
    -- `close_resource` is called for `r` only on behalf of its owner `o`, whom `ev` leaves alone
    have hnc : r ∉ closedBy s ev := by
      intro hm
      rcases (mem_closedBy hs.keys).1 hm with ⟨a, rs, p, rfl, ⟨rep, hm, hne, _⟩, hg⟩ | ⟨p, rfl, hg⟩ |
        ⟨a, t, v, rfl, hx, hg⟩
      · rw [hown] at hg; cases hg
        simp only [leavesAlone, Bool.not_eq_eq_eq_not, Bool.not_true, List.contains_eq_mem,
          decide_eq_false_iff_not] at hev
        exact hev (mem_reportedOf.2 ⟨rep, hm, hne⟩)
      · rw [hown] at hg; cases hg
        simp [leavesAlone] at hev
      · simp only [leavesAlone, Bool.not_eq_eq_eq_not, Bool.not_true, List.contains_eq_mem,
          decide_eq_false_iff_not] at hev
        rw [ownGet_insertAll, if_neg hev, hown] at hg
        cases hg
        exact hno (by simpa using hx)
    have hopen' : r ∈ (step s ev).env.backend.openSet := by
      apply Classical.byContradiction
      intro hc
      rcases closed_only_by_owner_close_or_cleanup s hs.keys ev r hopen hc with
        ⟨p, e, w, rfl, h2, h3, _⟩ | hcl
      · simp [leavesAlone, h2, h3] at hev
      · exact hnc ((mem_closedBy hs.keys).2 hcl)
    have hown' : ownGet (step s ev).env.owner r = some o := by
      obtain ⟨q, hq⟩ := mem_ownKeys_iff_ownGet.1
        (step_keeps_key (mem_ownKeys_iff_ownGet.2 ⟨o, hown⟩) hnc)
      by_cases hqo : q = o
      · rw [hq, hqo]
      · exfalso
        rcases owner_changes_only_by_transfer s hs ev r o q hown hq hqo with
          ⟨a, v, rfl, hm⟩ | ⟨c, caps, arg, rfl, _, hm⟩
        · simp [leavesAlone, hm] at hev
        · simp only [leavesAlone, Bool.not_eq_eq_eq_not, Bool.not_true, List.contains_eq_mem,
            decide_eq_false_iff_not] at hev
          exact hev hm
    exact ih (step s ev) hs' hopen' hown' hno' hw.2 (fun e he => hl e (List.mem_cons_of_mem _ he))

-- a terminated, never-awaited owner: whatever else the other processes do, its file stays open
example :
    let s := run (init 2) [.start, .start, .open 1, .terminate 1]
    let h : List Event := [.open 0, .use 0 2, .send 0 1 (.res 2), .completions 3, .awaitReport 1 0]
    (∀ ev ∈ h, leavesAlone 1 1 ev = true) ∧ 1 ∈ (run s h).env.backend.openSet := by decide

/-- A transfer does not carry an id that `close_resource` has already been called for (a stale
copy of a handle whose resource was cleaned up). -/
def noStale (s : Sys) : Event → Bool
  | .send _ _ msg => msg.resources.all (fun r => !s.env.backend.closeCalls.contains r)
  | .spawn _ caps arg =>
    (resourcesList caps ++ arg.resources).all (fun r => !s.env.backend.closeCalls.contains r)
  | _ => true

def noStaleFrom (s : Sys) : List Event → Bool
  | [] => true
  | ev :: rest => noStale s ev && noStaleFrom (step s ev) rest

/-- `close_resource` has been called at most once per id, and never for an id that is registered now -/
structure CInv (s : Sys) : Prop where
  nodup : s.env.backend.closeCalls.Nodup
  not_reg : ∀ r ∈ s.env.backend.closeCalls, r ∉ ownKeys s.env.owner

theorem closedBy_nodup {s : Sys} (hk : KeysNodup s.env.owner) (ev : Event) : (closedBy s ev).Nodup := by
  cases ev with
  | results a rs => exact cleanupList_nodup hk _
  | exited p => exact ownedBy_nodup hk p
  | send a t v =>
    simp only [closedBy, deliverClosed]
    split
    · exact ownedBy_nodup (hk.insertAll _ _) t
    · exact List.nodup_nil
  | _ => exact List.nodup_nil

theorem cinv_step {s : Sys} (hs : Inv s) (hc : CInv s) (ev : Event) (h2 : noStale s ev = true) :
    CInv (step s ev) := by
  have hcalls := step_closeCalls s ev
  -- an id already passed to close_resource is not passed again by this step
  have hdisj : ∀ r, r ∈ s.env.backend.closeCalls → r ∉ closedBy s ev := by
    intro r hr hm
    rcases closedBy_sub hs.keys ev hm with hk | ⟨a, t, v, rfl, hv⟩
    · exact hc.not_reg r hr hk
    · simp only [noStale, List.all_eq_true, Bool.not_eq_eq_eq_not, Bool.not_true,
        List.contains_eq_mem, decide_eq_false_iff_not] at h2
      exact h2 r hv hr
  refine ⟨?_, ?_⟩
  · rw [hcalls]
    refine List.nodup_append.2 ⟨hc.nodup, closedBy_nodup hs.keys ev, ?_⟩
    intro x hx y hy hxy
    subst hxy
    exact hdisj x hx hy
  · intro r hr hk
    obtain ⟨q, hq⟩ := mem_ownKeys_iff_ownGet.1 hk
    obtain ⟨hnc, hg⟩ := step_ownGet_some hq
    rw [hcalls, List.mem_append] at hr
    rcases hr with hr | hr
    · -- closed earlier, hence unregistered: only a stale copy or a fresh id could be registered
      rcases hg with h | ⟨a, v, rfl, hm⟩ | ⟨c, caps, arg, rfl, _, hm⟩ | ⟨_, hlo, _⟩
      · exact hc.not_reg r hr (mem_ownKeys_iff_ownGet.2 ⟨q, h⟩)
      · simp only [noStale, List.all_eq_true, Bool.not_eq_eq_eq_not, Bool.not_true,
          List.contains_eq_mem, decide_eq_false_iff_not] at h2
        exact h2 r hm hr
      · simp only [noStale, List.all_eq_true, Bool.not_eq_eq_eq_not, Bool.not_true,
          List.contains_eq_mem, decide_eq_false_iff_not] at h2
        exact h2 r hm hr
      · exact absurd (hs.calls_lt r hr) (Nat.not_lt.2 hlo)
    · exact hnc hr

/-- **cleanup_closes_once.** Along every history whose handles exist and in which no transfer
carries a stale copy of an already cleaned-up handle, `close_resource` is called at most once per
resource id over the WHOLE history (`closeCalls` has no duplicates), and an id it has been
called for is no longer registered. Each call happens only for a process reported complete
(`cleanup_closes_once_step`). -/
theorem cleanup_closes_once (n : Nat) (h : List Event) (hw : handlesFrom (init n) h = true)
    (hst : noStaleFrom (init n) h = true) :
    (run (init n) h).env.backend.closeCalls.Nodup ∧
    ∀ r ∈ (run (init n) h).env.backend.closeCalls, ownGet (run (init n) h).env.owner r = none := by
  suffices ∀ s : Sys, Inv s → CInv s → handlesFrom s h = true → noStaleFrom s h = true → CInv (run s h) by
    have hc := this (init n) (inv_init n) ⟨by simp [init], by simp [init]⟩ hw hst
    exact ⟨hc.nodup, fun r hr => (ownGet_eq_none_iff _ _).2 (hc.not_reg r hr)⟩
  clear hw hst
  induction h with
  | nil => intro s _ hc _ _; exact hc
  | cons ev rest ih =>
    intro s hs hc hw hst
    simp only [handlesFrom, noStaleFrom, Bool.and_eq_true] at hw hst
    exact ih (step s ev) (inv_step hs ev hw.1) (cinv_step hs hc ev hst.1) hw.2 hst.2

/-- Without the `noStale` hypothesis the statement about *calls* is false — of the model and of the
code: a stale copy of a cleaned-up handle, sent on, registers the dead id again and the next cleanup
passes it to `close_resource` a second time (a no-op in the backend: `effective_close_once` still
holds). Witness: 0 opens r, sends it to 1; 1 ends and is awaited (close r); 0 sends its stale copy
to 2; 2 ends and is awaited (close r again). -/
def staleRecloseWitness : List Event :=
  [.start, .spawn 0 [] .other, .spawn 0 [] .other, .open 0, .send 0 1 (.res 1), .terminate 1,
   .awaitReport 0 1, .send 0 2 (.res 1), .terminate 2, .awaitReport 0 2]

theorem close_called_twice_after_stale_transfer :
    wfFrom (init 3) staleRecloseWitness = true ∧
    (run (init 3) staleRecloseWitness).env.backend.closeCalls = [1, 1] ∧
    (run (init 3) staleRecloseWitness).env.backend.effClosed = [1] := by decide

/-- Second trigger of F10: a handle delivered to a process whose completion has ALREADY been
reported (and cleaned up) is registered to the dead process and stays open. -/
def lateArrivalWitness : List Event :=
  [.start, .spawn 0 [] .other, .open 0, .terminate 1, .awaitReport 0 1,
   .send 0 1 (.tuple [.other, .res 1])]

theorem late_arrival_not_closed :
    wfFrom (init 2) lateArrivalWitness = true ∧
    1 ∈ (run (init 2) lateArrivalWitness).reported ∧
    ownGet (run (init 2) lateArrivalWitness).env.owner 1 = some 1 ∧
    ∀ h', EnvOnly h' → 1 ∈ (run (init 2) (lateArrivalWitness ++ h')).env.backend.openSet := by
  refine ⟨by decide, by decide, by decide, ?_⟩
  intro h' he
  rw [run_append, envOnly_idle _ (by decide) h' he]
  decide

-- the same late arrival when the worker has reported the exit: the handle is closed on arrival
-- instead of staying open, registered to a dead process
example :
    let h : List Event := [.start, .spawn 0 [] .other, .open 0, .terminate 1, .exited 1,
      .awaitReport 0 1, .send 0 1 (.tuple [.other, .res 1])]
    wfFrom (init 2) h = true ∧ (run (init 2) h).env.backend.closeCalls = [1] ∧
    (run (init 2) h).env.backend.openSet = [] ∧ ownGet (run (init 2) h).env.owner 1 = none := by decide

/-- The environment does not check that the SENDER of a handle owns it: a process that has given a
resource away can still move its ownership with the stale copy it kept (here 0 gives r to 1, then
hands the stale copy to 2: 1 loses r, 2 can use it). C14 as stated defines the owner as the last
recipient, so this is within the property; it is recorded as an observation. -/
theorem stale_sender_moves_ownership :
    let h : List Event := [.start, .start, .start, .open 0, .send 0 1 (.res 1), .send 0 2 (.res 1)]
    wfFrom (init 3) h = true ∧ ownGet (run (init 3) h).env.owner 1 = some 2 ∧
    (step (run (init 3) h) (.use 1 1)).env.backend.executed = (run (init 3) h).env.backend.executed ∧
    (step (run (init 3) h) (.use 2 1)).env.backend.executed
      = (run (init 3) h).env.backend.executed ++ [(2, { kind := .fileRead, rid := 1 })] := by decide


/-- process 0 is started (persistent), spawns 1 and opens a file -/
def sleepingOwnerPrefix : List Event := [.start, .spawn 0 [] .other, .open 0]

/-- F14 / F38 — a witness about the cleanup rule of /repo before 200f50e (`handleProcessResultsOld`: clean up for every
`Some(result)`). The worker's `query_and_await` treats a *sleeping persistent* process (the REPL's process between
two lines) as completed, so a process awaiting it makes the environment close the resources of a process that is
alive and will be resumed: 0 (persistent) opens r; a `ProcessResults` reports `Some(Ok)` for the sleeping 0; under
that rule r is closed although 0 is not dead. Under the rule of the model (`cleans`) the very same event changes
nothing and 0's next use of r reaches the backend. -/
theorem sleeping_owner_closed_by_old_rule :
    let s := run (init 2) sleepingOwnerPrefix
    -- the report is one a correct worker emits (the workers' side of the contract is respected)
    livenessOk s (.awaitReport 1 0) = true ∧ 0 ∉ s.terminated ∧ ownGet s.env.owner 1 = some 0 ∧
    -- OLD rule: closed while its owner is alive
    (handleProcessResultsOld s.env [(0, .ok)]).backend.closeCalls = [1] ∧
    (handleProcessResultsOld s.env [(0, .ok)]).backend.openSet = [] ∧
    -- repaired rule: untouched, and the owner's next use is executed
    (step s (.awaitReport 1 0)).env.backend.closeCalls = [] ∧
    (step s (.awaitReport 1 0)).env.backend.openSet = [1] ∧
    ownGet (step s (.awaitReport 1 0)).env.owner 1 = some 0 ∧
    (step (step s (.awaitReport 1 0)) (.use 0 1)).env.backend.executed
      = s.env.backend.executed ++ [(0, { kind := .fileRead, rid := 1 })] := by decide

/-- …while a FAILED persistent process (it can never be resumed) is still cleaned up. -/
example :
    let s := run (init 2) (sleepingOwnerPrefix ++ [.terminate 0])
    livenessOk s (.awaitFailure 1 0) = true ∧
    (step s (.awaitFailure 1 0)).env.backend.closeCalls = [1] := by decide

/-! ## the co-location rule of handle_spawn reads the ownership map -/

/-- If the first top-level resource among captures ++ [argument] is registered to a routed process,
the child is placed on that process's worker (nested resources do not count; otherwise round-robin). -/
theorem spawn_colocated (s : Sys) (caller : Pid) (caps : List Val) (arg : Val) (w : Wid)
    (h : colocate s.env.owner s.env.router (caps ++ [arg]) = some w) :
    Cmd.spawnProcess w s.env.nextPid ∈ (step s (.spawn caller caps arg)).env.out := by
  simp only [step, handleSpawn, h, Option.getD_some]
  split <;> simp

theorem colocate_first (m : Own) (router : List (Pid × Wid)) (r : Rid) (o : Pid) (w : Wid) (rest : List Val)
    (h1 : ownGet m r = some o) (h2 : routeGet router o = some w) :
    colocate m router (.res r :: rest) = some w := by
  simp [colocate, h1, h2]

example :
    let s := run (init 3) [.start, .start, .start, .open 1]
    Cmd.spawnProcess 1 3 ∈ (step s (.spawn 0 [.other, .res 1] .other)).env.out ∧
    -- nested: not considered, round-robin 3 % 3 = 0
    Cmd.spawnProcess 0 3 ∈ (step s (.spawn 0 [.tuple [.res 1]] .other)).env.out := by decide

end C14
