import QuiverModel.Lemmas.Text.Basic
/-
C18 — The front end is total: any text yields a program or a located error.
Property theorems about M-Text: the string-literal scanners and decoders of `parser.rs` and the
source-span arithmetic. Every theorem is `C18.<name>`.

What these theorems do NOT cover: the grammar (2.6k lines of nom combinators) and the compiler. The
type grammar is the subject of `Theorems/C18Types.lean`; for the rest the check is a robustness search on
the implementation (`harness/src/bin/c18`) — see `notes/C18.md`.
-/
namespace C18
open QM.Text

/-- Slicing at the UTF-8 length of a prefix is a slice on a character boundary. -/
theorem takeBytes_prefix (pre post : List Char) :
    takeBytes (utf8Len pre) (pre ++ post) = some pre := by
  induction pre with
  | nil => cases post <;> rfl
  | cons c cs ih =>
    obtain ⟨k, hk⟩ : ∃ k, c.utf8Size + utf8Len cs = k + 1 :=
      Nat.exists_eq_succ_of_ne_zero (by have := Char.utf8Size_pos c; omega)
    rw [List.cons_append, utf8Len, hk, takeBytes, ← hk, if_pos (Nat.le_add_right _ _),
      Nat.add_sub_cancel_left, ih]
    rfl

theorem dropBytes_prefix (pre post : List Char) :
    dropBytes (utf8Len pre) (pre ++ post) = some post := by
  induction pre with
  | nil => cases post <;> rfl
  | cons c cs ih =>
    obtain ⟨k, hk⟩ : ∃ k, c.utf8Size + utf8Len cs = k + 1 :=
      Nat.exists_eq_succ_of_ne_zero (by have := Char.utf8Size_pos c; omega)
    rw [List.cons_append, utf8Len, hk, dropBytes, ← hk, if_pos (Nat.le_add_right _ _),
      Nat.add_sub_cancel_left, ih]

theorem scanCloseSingleAux_spec (idx : Nat) (frag : List Char) (r : Nat)
    (h : scanCloseSingleAux idx frag = some r) :
    ∃ pre post, frag = pre ++ '"' :: post ∧ r = idx + utf8Len pre := by
  fun_induction scanCloseSingleAux idx frag
  · simp at h
  · simp at h
  · rename_i idx e rest' ih
    obtain ⟨pre, post, hf, hr⟩ := ih h
    exact ⟨'\\' :: e :: pre, post, by simp [hf], by simp [utf8Len, hr]; omega⟩
  · rename_i idx rest hc
    simp at h
    exact ⟨[], rest, by simp, by simp [utf8Len, h]⟩
  · rename_i idx c rest hc hq ih
    obtain ⟨pre, post, hf, hr⟩ := ih h
    exact ⟨c :: pre, post, by simp [hf], by simp [utf8Len, hr]; omega⟩

theorem startsTripleQuote_spec (cs : List Char) (h : startsTripleQuote cs = true) :
    ∃ post, cs = '"' :: '"' :: '"' :: post := by
  unfold startsTripleQuote at h
  split at h
  · exact ⟨_, rfl⟩
  · simp at h

theorem scanCloseMultiAux_spec (idx : Nat) (frag : List Char) (r : Nat)
    (h : scanCloseMultiAux idx frag = some r) :
    ∃ pre post, frag = pre ++ '"' :: '"' :: '"' :: post ∧ r = idx + utf8Len pre := by
  fun_induction scanCloseMultiAux idx frag
  · simp at h
  · simp at h
  · rename_i idx e rest' ih
    obtain ⟨pre, post, hf, hr⟩ := ih h
    exact ⟨'\\' :: e :: pre, post, by simp [hf], by simp [utf8Len, hr]; omega⟩
  · rename_i idx c rest hc hq
    simp at h
    simp only [Bool.and_eq_true, decide_eq_true_eq] at hq
    obtain ⟨post, hp⟩ := startsTripleQuote_spec _ hq.2
    exact ⟨[], post, by simp [hp], by simp [utf8Len, h]⟩
  · rename_i idx c rest hc hq ih
    obtain ⟨pre, post, hf, hr⟩ := ih h
    exact ⟨c :: pre, post, by simp [hf], by simp [utf8Len, hr]; omega⟩

/-- Single-line literal: the index the escape-aware scan returns is the byte
    length of a prefix of the input (so: inside the input and on a character boundary) and the
    character at it is the closing quote. -/
theorem scan_close_in_bounds (frag : List Char) (idx : Nat) (h : scanCloseSingle frag = some idx) :
    ∃ pre post, frag = pre ++ '"' :: post ∧ idx = utf8Len pre ∧ idx + 1 ≤ utf8Len frag := by
  obtain ⟨pre, post, hf, hr⟩ := scanCloseSingleAux_spec 0 frag idx h
  refine ⟨pre, post, hf, by omega, ?_⟩
  rw [hf, utf8Len_append]; simp [utf8Len]
  have := Char.utf8Size_pos '"'; omega

/-- the same for the `"""` delimiter of a multi-line literal -/
theorem scan_close_multi_in_bounds (frag : List Char) (idx : Nat) (h : scanCloseMulti frag = some idx) :
    ∃ pre post, frag = pre ++ '"' :: '"' :: '"' :: post ∧ idx = utf8Len pre ∧
      idx + 3 ≤ utf8Len frag := by
  obtain ⟨pre, post, hf, hr⟩ := scanCloseMultiAux_spec 0 frag idx h
  refine ⟨pre, post, hf, by omega, ?_⟩
  rw [hf, utf8Len_append]; simp [utf8Len]
  have : ('"' : Char).utf8Size = 1 := by decide
  omega


/-- The slices `single_line_string` takes with the scanned index never fall inside a character:
    the `panic` outcome of the model (Rust: "byte index is not a char boundary") is unreachable. -/
theorem singleLinePattern_no_panic (body : List Char) : singleLinePattern body ≠ .panic := by
  unfold singleLinePattern
  split
  · simp
  · rename_i idx h
    obtain ⟨pre, post, hf, hi, _⟩ := scan_close_in_bounds body idx h
    have h1 : takeBytes idx body = some pre := by rw [hf, hi]; exact takeBytes_prefix pre _
    have h2 : dropBytes (idx + 1) body = some post := by
      have : idx + 1 = utf8Len (pre ++ ['"']) := by rw [utf8Len_append]; simp [utf8Len, hi]; decide
      rw [this, hf]
      have := dropBytes_prefix (pre ++ ['"']) post
      simpa using this
    rw [h1, h2]
    simp only
    split <;> simp

theorem multilinePattern_no_panic (body : List Char) : multilinePattern body ≠ .panic := by
  unfold multilinePattern
  split
  · simp
  · rename_i idx h
    obtain ⟨pre, post, hf, hi, _⟩ := scan_close_multi_in_bounds body idx h
    have h1 : takeBytes idx body = some pre := by rw [hf, hi]; exact takeBytes_prefix pre _
    have h2 : dropBytes (idx + 3) body = some post := by
      have : idx + 3 = utf8Len (pre ++ ['"', '"', '"']) := by
        rw [utf8Len_append]; simp [utf8Len, hi]; decide
      rw [this, hf]
      have := dropBytes_prefix (pre ++ ['"', '"', '"']) post
      simpa using this
    rw [h1, h2]
    simp only
    split <;> simp

example : scanCloseSingle ['a', '\\', '"', 'é', '"', 'r'] = some 5 := by
  simp [scanCloseSingle, scanCloseSingleAux, Char.utf8Size]
example : scanCloseMulti ['x', '"', '"', '\\', '"', '"', '"', '"', 'y'] = some 5 := by
  simp [scanCloseMulti, scanCloseMultiAux, startsTripleQuote, Char.utf8Size]

/-! ## Decoders are total, and what they report lies inside the literal

`decodeSingleAux`, `stringSegments`, `multilineDedent`, `processEscapes`, `processSegments` are
defined by structural / well-founded recursion on the input (no fuel): Lean's termination checker is
the proof that they terminate on every input; being total functions into `Except`/`Option`/result
types they cannot "panic". The theorems add the quantitative part. -/

theorem backslash_size : ('\\' : Char).utf8Size = 1 := by decide

theorem decodeSingleAux_error_in_bounds (offset : Nat) (cs : List Char) (e : EscapeError)
    (h : decodeSingleAux offset cs = .error e) :
    offset ≤ e.escapeOffset ∧ e.escapeOffset + e.length ≤ offset + utf8Len cs := by
  fun_induction decodeSingleAux offset cs generalizing e
  · simp at h
  · simp at h; subst h; simp [utf8Len, backslash_size]
  · rename_i offset e' rest' d hd ih
    cases hr : decodeSingleAux (offset + 2) rest' with
    | ok v => simp [hr, Except.map] at h
    | error err =>
      simp [hr, Except.map] at h; subst h
      have := ih err hr
      have h1 := Char.utf8Size_pos e'
      simp [utf8Len, backslash_size]; omega
  · rename_i offset e' rest' hd
    simp at h; subst h
    have h1 := Char.utf8Size_pos e'
    simp [utf8Len, backslash_size]; omega
  · rename_i offset c rest hc ih
    cases hr : decodeSingleAux (offset + c.utf8Size) rest with
    | ok v => simp [hr, Except.map] at h
    | error err =>
      simp [hr, Except.map] at h; subst h
      have := ih err hr
      simp [utf8Len]; omega

theorem decodeSingleAux_ok_length (offset : Nat) (cs v : List Char)
    (h : decodeSingleAux offset cs = .ok v) : v.length ≤ cs.length := by
  fun_induction decodeSingleAux offset cs generalizing v
  · simp at h; subst h; simp
  · simp at h
  · rename_i offset e' rest' d hd ih
    cases hr : decodeSingleAux (offset + 2) rest' with
    | error err => simp [hr, Except.map] at h
    | ok w =>
      simp [hr, Except.map] at h; subst h
      have := ih w hr
      simp; omega
  · simp at h
  · rename_i offset c rest hc ih
    cases hr : decodeSingleAux (offset + c.utf8Size) rest with
    | error err => simp [hr, Except.map] at h
    | ok w =>
      simp [hr, Except.map] at h; subst h
      have := ih w hr
      simp; omega

/-- On every input `parse_string_content` yields either a value no longer
    than the input, or an error whose span (`escapeOffset`, `length`) lies inside the literal. -/
theorem decodeSingle_total (cs : List Char) :
    (∃ v, decodeSingle cs = .ok v ∧ v.length ≤ cs.length) ∨
    (∃ e, decodeSingle cs = .error e ∧ e.escapeOffset + e.length ≤ utf8Len cs) := by
  cases h : decodeSingle cs with
  | ok v => exact .inl ⟨v, rfl, decodeSingleAux_ok_length 0 cs v h⟩
  | error e =>
    have := decodeSingleAux_error_in_bounds 0 cs e h
    exact .inr ⟨e, rfl, by omega⟩

example : decodeSingle ['a', '\\', 'n'] = .ok ['a', '\n'] := by
  simp [decodeSingle, decodeSingleAux, singleEscape, Except.map]
example : decodeSingle ['é', '\\', 'x'] = .error ⟨2, 2, ['\\', 'x']⟩ := by
  simp [decodeSingle, decodeSingleAux, singleEscape, Except.map, Char.utf8Size]

/-- **dedent_total** / **decodeMulti_total**: `multiline_dedent`, `process_multiline_string` and
    `process_multiline_segments` are total functions of the raw text (every branch of the Rust code —
    missing first newline, non-blank margin, under-indented line, invalid or dangling escape — is a
    `none`/`malformed` value, not a failure to return). -/
theorem dedent_total (raw : List Char) : ∃ r : Option (List Char), multilineDedent raw = r := ⟨_, rfl⟩

theorem decodeMulti_total (raw : List Char) :
    (∃ r : Option (List Char), processMultilineString raw = r) ∧
    (∃ r : MlSegResult, processMultilineSegments raw = r) := ⟨⟨_, rfl⟩, ⟨_, rfl⟩⟩

/-- An input that is not even opened correctly (no newline after the opening delimiter) is
    `none`, not a crash. -/
example : multilineDedent ['x'] = none := by
  simp [multilineDedent, normalizeNewlines, splitOnceNl]

/-- What `string_segments` hands on (`input.slice(pos + 1..)` after the closing quote, or the input
    from the `{` of a hole) is a suffix of its input: the slice is in bounds and on a boundary. -/
def HandsOn (cs : List Char) : SegResult → Prop
  | .closed _ rest => ∃ pre, cs = pre ++ '"' :: rest
  | .hole _ rest => ∃ pre rest', cs = pre ++ rest ∧ rest = '{' :: rest'
  | _ => True

theorem HandsOn.push {cs : List Char} {r : SegResult} (h : HandsOn cs r) (d : Char)
    (pre : List Char) : HandsOn (pre ++ cs) (r.push d) := by
  cases r with
  | closed t rest => obtain ⟨p, hp⟩ := h; exact ⟨pre ++ p, by rw [hp, List.append_assoc]⟩
  | hole t rest =>
    obtain ⟨p, r', hp, hr⟩ := h; exact ⟨pre ++ p, r', by rw [hp, List.append_assoc], hr⟩
  | _ => trivial

theorem stringSegments_handsOn (cs : List Char) : HandsOn cs (stringSegments cs) := by
  fun_induction stringSegments cs with
  | case1 => trivial
  | case2 rest => exact ⟨[], rfl⟩
  | case3 rest _ => exact ⟨[], rest, rfl, rfl⟩
  | case4 => trivial
  | case5 e rest d _ _ _ ih => exact ih.push d ['\\', e]
  | case6 => trivial
  | case7 c rest _ _ _ ih => exact ih.push c [c]

/-- For every input, the remainder `string_segments` continues with
    (after the closing quote, or at the `{` of a hole) is a suffix of the input. -/
theorem segments_rest_in_bounds (cs : List Char) :
    (∀ t rest, stringSegments cs = .closed t rest → ∃ pre, cs = pre ++ '"' :: rest) ∧
    (∀ t rest, stringSegments cs = .hole t rest → ∃ pre rest', cs = pre ++ rest ∧ rest = '{' :: rest') := by
  have h := stringSegments_handsOn cs
  exact ⟨fun t rest e => by rw [e] at h; exact h, fun t rest e => by rw [e] at h; exact h⟩

/-- The span the parser attaches to a nom error is built from the remaining
    input at the error position (`SourceSpan::from_span(e.input)`): for every input and every offset
    inside it, `offset + length` is exactly the input length. -/
theorem span_in_bounds (input : List Char) (offset : Nat) (h : offset ≤ utf8Len input) :
    (spanOfSuffix input offset).offset + (spanOfSuffix input offset).length = utf8Len input := by
  simp [spanOfSuffix]; omega

theorem lineColAux_ge (line col n : Nat) (cs : List Char) (hc : 1 ≤ col) :
    line ≤ (lineColAux line col n cs).1 ∧ 1 ≤ (lineColAux line col n cs).2 ∧
    (lineColAux line col n cs).1 ≤ line + countChar '\n' cs := by
  fun_induction lineColAux line col n cs
  · simp [hc]
  · simp [hc]
  · rename_i ih
    have := ih (by omega)
    simp_all [countChar]
    omega
  · rename_i ih
    have := ih (by omega)
    simp_all [countChar]

/-- Lines and columns are 1-based and the line never exceeds 1 + the number of newlines. -/
theorem span_line_column (input : List Char) (offset : Nat) :
    1 ≤ (spanOfSuffix input offset).line ∧ 1 ≤ (spanOfSuffix input offset).column ∧
    (spanOfSuffix input offset).line ≤ 1 + countChar '\n' input := by
  have := lineColAux_ge 1 1 offset input (by omega)
  simpa [spanOfSuffix, lineOf, columnOf] using this

example : spanOfSuffix ['a', '\n', 'é', 'b'] 4 = ⟨4, 2, 3, 1⟩ := by
  simp [spanOfSuffix, lineOf, columnOf, lineColAux, utf8Len, Char.utf8Size]

theorem detectErrorKind_total (source : List Char) : ∃ k : DetectedKind, detectErrorKind source = k :=
  ⟨_, rfl⟩

end C18
