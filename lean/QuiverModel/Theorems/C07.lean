import QuiverModel.Lemmas.VM.Sound
import QuiverModel.Lemmas.VM.Rename
import QuiverModel.Lemmas.VM.Repl
/-
C07 — every function the compiler emits is well-formed bytecode.

The property theorems: soundness of the verified checker `checkAnn` (M-Check) with respect to the
VM model (M-VM, `Core/VM/Step.lean`). The harness (`harness/src/bin/c07`) runs `checkAnn` — this
very definition, through `qm_c07` — on every function of every program.
-/
namespace C07Dummy
open QM.VM
/-- An oracle for the examples. -/
def oracle : Oracle :=
  { isType := fun _ _ => false, valuesEqual := fun a b => a == b, builtin := fun _ _ => .unrecognised, select := .park }
end C07Dummy

namespace C07
open QM.VM

/-- Reachability of process states through `transition` (any event, any oracle at each step). -/
inductive Reach (P : Prog) : Proc → Proc → Prop
  | refl (p : Proc) : Reach P p p
  | step {p0 p p' : Proc} {ev : Event} {act : Option Action} :
      Reach P p0 p → transition P p ev = some (.ok (p', act)) → Reach P p0 p'

/-- Entry state of function `f`: one frame at counter 0, the argument on top of an arbitrary stack
of `sb` cells, at least `captures` locals above the frame's base, not parked, no result yet. -/
structure Entry (P : Prog) (f : Nat) (fn : Function) (sb lb : Nat) (p : Proc) : Prop where
  hfn : P.functions[f]? = some fn
  frames : ∃ cc, p.frames = [⟨f, lb, cc, 0⟩]
  stack : p.stack.length = sb + 1
  locals : lb + fn.captures ≤ p.locals.length
  park : p.park = .none
  result : p.result = none
  sel : p.selectState = none

/-- Shape of a single-frame process running function `f` (code size `n`, annotations `anns`):
running at an admissible pc, or returned (result still on the stack), or finished. -/
inductive Shape1 (f n : Nat) (anns : Anns) (sb lb : Nat) (p : Proc) : Prop
  | running (fr : Frame) (hfr : p.frames = [fr]) (hf : fr.functionIndex = f) (hlb : fr.localsBase = lb)
      (hat : AtPc n anns fr.counter p.stack p.locals.length sb lb)
      (hres : p.result = none)
  | returned (hfr : p.frames = []) (hres : p.result = none) (hs : p.stack.length = sb + 1)
  | finished (hfr : p.frames = []) (v : Val) (hres : p.result = some (.ok v)) (hs : p.stack.length = sb)

theorem callfree_step {P : Prog} {f : Nat} {fn : Function} {anns : Anns} {sb lb : Nat}
    (hfn : P.functions[f]? = some fn) (hC : Checked P fn anns)
    (hcf : ∀ i ∈ fn.instructions.toList, i.simple = true) {p : Proc}
    (hsh : Shape1 f fn.instructions.size anns sb lb p) (hpark : p.park = .none)
    (hsel : p.selectState = none) (ev : Event) :
    match transition P p ev with
    | none => True
    | some r => Safe (fun p' => Shape1 f fn.instructions.size anns sb lb p' ∧ p'.park = .none ∧
        p'.selectState = none) r := by
  cases ev with
  | run O =>
    cases hsh with
    | running fr hfr hf hlb hat hres =>
      simp only [transition, hpark, hres, hfr, hf, hfn, ne_eq, not_true_eq_false, Option.isSome_none,
        Bool.false_eq_true, or_self, if_false]
      cases hi : fn.instructions[fr.counter]? with
      | none =>
        have hs : p.stack.length = sb + 1 := by
          rcases hat with ⟨_, h⟩ | ⟨a, ha, _⟩
          · exact h
          · exact absurd (hC.size ▸ (Array.getElem?_eq_some_iff.mp ha).1)
              (Nat.not_lt.mpr (Array.getElem?_eq_none_iff.mp hi))
        simp only [popFrame, hfr, hsel]
        exact ⟨.returned rfl hres hs, hpark, rfl⟩
      | some i =>
        rcases hat with ⟨h, _⟩ | ⟨a, ha, hs, hl, hg⟩
        · exact absurd (h ▸ (Array.getElem?_eq_some_iff.mp hi).1) (Nat.lt_irrefl _)
        · obtain ⟨succs, htrf, hflow⟩ := hC.local_ _ a i ha hi
          refine (simple_step_sound hfr htrf hs (hlb ▸ hl) (hlb ▸ hg)
            (hcf i (Array.mem_toList_iff.mpr (Array.mem_of_getElem? hi))) hC.small).imp ?_
          rintro p' ⟨⟨s, hsm, hst⟩, _⟩
          exact ⟨.running _ hst.frames hf hlb
            (flowsTo_atPc (hflow s hsm) hst.stack (hlb ▸ hst.locals) (hlb ▸ hst.guard))
            (hst.result.trans hres), hst.park.trans hpark, hst.sel.trans hsel⟩
    | returned hfr hres hs =>
      simp only [transition, hpark, hres, hfr, ne_eq, not_true_eq_false, Option.isSome_none,
        Bool.false_eq_true, or_self, if_false]
      obtain ⟨v, s, hst⟩ := stack_cons hs (Nat.le_refl 1)
      simp only [finish, hres, hst]
      exact ⟨.finished hfr v rfl (Nat.succ.inj (hst ▸ hs :)), hpark, hsel⟩
    | finished hfr v hres hs => simp only [transition, hres, Option.isSome_some, or_true, if_true]
  | spawned v => simp only [transition, hpark, reduceCtorEq, if_false]
  | effectDone r => simp only [transition, hpark, reduceCtorEq, if_false]
  | wake => simp only [transition, hpark, reduceCtorEq, if_false]
  | deliver m =>
    have hne : ¬ p.park = .selecting := fun h => nomatch hpark.symm.trans h
    refine ⟨?_, (if_neg hne).trans hpark, hsel⟩
    cases hsh with
    | running fr hfr hf hlb hat hres => exact .running fr hfr hf hlb hat hres
    | returned hfr hres hs => exact .returned hfr hres hs
    | finished hfr v hres hs => exact .finished hfr v hres hs

/-- **Soundness of the checker on call-free code (single frame).** If function `f`
passes `checkAnn` with `anns` and contains no `Call`/`TailCall`/`Spawn`/`Select`, then every state
reachable from an entry state of `f` has the annotated shape — the pc is annotated or the frame is
exactly exhausted, the relative stack height is `anns[pc].height`, there are at least
`anns[pc].locals` relative locals, at exit exactly one value has replaced the argument — and no
transition from it fails structurally (no `StackUnderflow`, `VariableUndefined`,
`ConstantUndefined`, `FunctionUndefined`, `BuiltinUndefined`, `FrameUnderflow`, unknown tuple id,
panic). Unlike `checkAnn_sound` it needs only `f` checked and no well-formedness of values or events. -/
theorem checkAnn_sound_callfree {P : Prog} {f : Nat} {fn : Function} {anns : Anns} {sb lb : Nat}
    (hck : checkAnn P f anns = true)
    (hcf : ∀ i ∈ fn.instructions.toList, i.simple = true)
    {p0 p : Proc} (h0 : Entry P f fn sb lb p0) (hr : Reach P p0 p) :
    (Shape1 f fn.instructions.size anns sb lb p ∧ p.park = .none ∧ p.selectState = none) ∧
    (∀ ev e, transition P p ev = some (.error e) → e.isStructural = false) := by
  have hfn := h0.hfn
  have hC : Checked P fn anns := by
    rw [checkAnn, hfn] at hck
    exact checkFn_spec hck
  have inv : Shape1 f fn.instructions.size anns sb lb p ∧ p.park = .none ∧ p.selectState = none := by
    induction hr with
    | refl =>
      obtain ⟨cc, hfr⟩ := h0.frames
      exact ⟨.running _ hfr rfl rfl (flowsTo_atPc hC.entry h0.stack h0.locals trivial) h0.result,
        h0.park, h0.sel⟩
    | @step _ _ ev _ _ htr ih =>
      have := callfree_step hfn hC hcf ih.1 ih.2.1 ih.2.2 ev
      rw [htr] at this
      exact this
  refine ⟨inv, fun ev e htr => ?_⟩
  have := callfree_step hfn hC hcf inv.1 inv.2.1 inv.2.2 ev
  rw [htr] at this
  exact this

/-- Soundness of the checker for all instructions (calls, tail calls, frame pops, parking, select
included): if every function of `P` passes `checkAnn` with its annotations, then every state
reachable from an entry state under well-formed events satisfies the whole-frame-stack invariant
`Inv` (current frame at an annotated pc or exactly exhausted, relative stack height = `ann.height`,
relative locals ≥ `ann.locals`, every suspended caller expecting exactly one value, well-formed
closures, exactly one value over the `s0` cells that were below the argument when the last frame
returns), and no transition from it fails structurally. The step may fail with `TypeMismatch` /
`FieldAccessInvalid` / `CallInvalid` / `InvalidArgument` — that is C01.
The only hypothesis on `P` is `AllChecked P A`: `checkAnn` checks the static indices of every
reachable instruction. -/
def CheckAnnSoundStatement : Prop :=
  ∀ (P : Prog) (A : Array Anns) (s0 : Nat), AllChecked P A →
    ∀ (p0 p : Proc), EntryWF P s0 p0 → ReachWF P p0 p →
      Inv P A s0 p ∧
      ∀ ev, EventWF P ev → ∀ e, transition P p ev = some (.error e) → e.isStructural = false

/-- **C07 headline theorem: `checkAnn` is sound for M-VM** (`checkAnn_sound_full` of
Lemmas/VM/Sound.lean). -/
theorem checkAnn_sound : CheckAnnSoundStatement :=
  fun _ _ _ hA _ _ h0 hr => checkAnn_sound_full hA h0 hr

/-- `Executor::spawn_process` produces an entry state: an existing function, as many well-formed
captures as it declares, a well-formed argument. -/
theorem entryWF_spawn {P : Prog} {fi : Nat} {fn : Function} {caps : List Val} {arg : Val} {pid : Nat}
    {persistent : Bool}
    (hfn : P.functions[fi]? = some fn) (hlen : caps.length = fn.captures)
    (hcaps : AllWF P caps) (harg : arg.wf P = true) :
    EntryWF P 0 (Proc.spawn pid fi caps arg persistent) where
  frame := ⟨_, fn, rfl, rfl, hfn, fun _ => hlen, by simp [Proc.spawn, Frame.new, hlen]⟩
  stack := by simp [Proc.spawn]
  stackWF := by simpa [Proc.spawn] using ⟨harg, AllWF.nil⟩
  localsWF := hcaps
  park := rfl
  result := rfl
  sel := rfl

/-- Consequence in plain terms: while a process of a certified program runs (not parked, no
`Select` in progress), its current frame is at an annotated pc with exactly the annotated stack
height over the frame's base and at least the annotated locals, or is exactly exhausted with one
value (the result) over the base. -/
theorem running_shape {P : Prog} {A : Array Anns} {s0 : Nat} (hA : AllChecked P A) {p0 p : Proc}
    (h0 : EntryWF P s0 p0) (hr : ReachWF P p0 p) {f : Frame} {rest : List Frame}
    (hfr : p.frames = f :: rest) (hpark : p.park = .none) (hsel : p.selectState = none) :
    ∃ fn sb, P.functions[f.functionIndex]? = some fn ∧
      ((f.counter = fn.instructions.size ∧ p.stack.length = sb + 1 ∧ f.localsBase ≤ p.locals.length) ∨
       (∃ a, (annsOf A f.functionIndex)[f.counter]? = some (some a) ∧ f.counter < fn.instructions.size ∧
          p.stack.length = sb + a.height ∧ f.localsBase + a.locals ≤ p.locals.length)) := by
  obtain ⟨hinv, _⟩ := checkAnn_sound P A s0 hA p0 p h0 hr
  obtain ⟨_, sb, htop, _⟩ := hinv.unpack hfr
  cases htop with
  | exhausted fn hfn hpc hs hl _ _ => exact ⟨fn, sb, hfn, Or.inl ⟨hpc, hs, hl⟩⟩
  | normal fn a i hat hl hs _ _ => exact ⟨fn, sb, hat.hfn, Or.inr ⟨a, hat.hann, hat.lt_size.2, hs, hl⟩⟩
  | spawning _ _ _ _ _ hp => rw [hp] at hpark; cases hpark
  | effecting _ _ _ _ _ hp => rw [hp] at hpark; cases hpark
  | selecting _ _ _ _ st hst => rw [hsel] at hst; cases hst

/-- … and when its last frame has returned, exactly one value — the result — is there to take:
`finish` never records `StackUnderflow`. -/
theorem result_present {P : Prog} {A : Array Anns} {s0 : Nat} (hA : AllChecked P A) {p0 p : Proc}
    (h0 : EntryWF P s0 p0) (hr : ReachWF P p0 p) (hfr : p.frames = []) (hres : p.result = none) :
    ∃ v, (finish p).result = some (.ok v) := by
  obtain ⟨hinv, _⟩ := checkAnn_sound P A s0 hA p0 p h0 hr
  have := hinv.shape
  rw [hfr] at this
  cases hst : p.stack with
  | nil => have := this.2 hres; simp [hst] at this
  | cons v s => exact ⟨v, by simp [finish, hres, hst]⟩

/-- Certification is invariant under consistent index renaming —
a function that passes `checkAnn` in `P` passes, with the *same* annotations, at its new index in
any program that contains `P` under the renaming (the tree-shaken and the merged packagings, when
their remap tables are consistent). -/
theorem renaming_preserves_check {ρ : Renaming} {P P' : Prog} (h : Renames ρ P P') {f : Nat} {anns : Anns}
    (hc : checkAnn P f anns = true) : checkAnn P' (ρ.func f) anns = true := by
  unfold checkAnn at hc ⊢
  split at hc
  · cases hc
  · rename_i fn hfn
    obtain ⟨fn', hfn', hcap, hins⟩ := h.func f fn hfn
    rw [hfn']
    have hC := checkFn_spec hc
    have hsize : fn'.instructions.size = fn.instructions.size := by rw [hins]; simp
    unfold checkFn
    simp only [Bool.and_eq_true, beq_iff_eq, decide_eq_true_eq, List.all_eq_true, List.mem_range]
    refine ⟨⟨⟨by rw [hsize]; exact hC.size, by rw [hsize]; exact hC.small⟩,
      by rw [hsize, hcap]; exact hC.entry⟩, ?_⟩
    intro pc hpc
    rw [hsize] at hpc
    unfold checkPc
    cases ha : anns[pc]? with
    | none => rfl
    | some oa =>
      cases oa with
      | none => simp
      | some a =>
        have hi : fn.instructions[pc]? = some fn.instructions[pc] := by simp [hpc]
        have hi' : fn'.instructions[pc]? = some (ρ.instr fn.instructions[pc]) := by
          rw [hins]; simp [hpc]
        obtain ⟨succs, htr, hflow⟩ := hC.local_ pc a _ ha hi
        rw [hi']
        simp only
        rw [hsize, hcap, transfer_rename h htr]
        simp only [List.all_eq_true]
        exact hflow


/-- Example of `Renames`: a one-function program embedded at shifted indices (one constant, one
tuple, one function prepended — what merging behind another program does). -/
example : Renames ⟨(· + 1), (· + 1), (· + 1), (· + 1), (· + 1)⟩
    { constants := #[.int 0], functions := #[{ instructions := #[.constant 0, .tuple 1, .pop], captures := 0, typeId := 0 }],
      tuples := #[0, 1], types := 1, builtins := 0 }
    { constants := #[.int 9, .int 0],
      functions := #[{ instructions := #[], captures := 0, typeId := 0 },
                     { instructions := #[.constant 1, .tuple 2, .pop], captures := 0, typeId := 0 }],
      tuples := #[5, 0, 1], types := 2, builtins := 1 } where
  const := by intro i hi; simp at hi ⊢; omega
  tuple := by
    intro id a h
    have : id = 0 ∨ id = 1 := by
      have := (Array.getElem?_eq_some_iff.mp h).1
      simp at this; omega
    rcases this with rfl | rfl <;> (simp at h; subst h; rfl)
  type := by intro id hi; simp at hi ⊢; omega
  func := by
    intro i fn h
    have : i = 0 := by
      have := (Array.getElem?_eq_some_iff.mp h).1
      simp at this; omega
    subst this
    simp at h
    subst h
    exact ⟨_, rfl, rfl, by simp [Renaming.instr]⟩
  builtin := by intro i hi; simp at hi


/-- **Soundness for REPL continuation lines.** The executor runs `P`, in which the line's function
`f0` has `captures = 0` although it starts with the session's `n` variables as locals. If `P`
*viewed with `captures(f0) := n`* is certified (`AllChecked (P.withCaptures f0 n) A` — this is what
the harness certifies for a continuation line) and no instruction builds a closure of `f0`
(`Function(f0)` occurs nowhere: a REPL line function is never referenced), then every state
reachable **in `P`** from a REPL entry state satisfies the invariant (for the view) and no
transition **of `P`** fails structurally. -/
theorem checkAnn_sound_repl {P : Prog} {A : Array Anns} {f0 n s0 : Nat}
    (hA : AllChecked (P.withCaptures f0 n) A)
    (hno : ∀ (f : Nat) (fn : Function), P.functions[f]? = some fn → Instr.function f0 ∉ fn.instructions.toList)
    {p0 p : Proc} (h0 : ReplEntry P f0 n s0 p0) (hr : ReplReach P f0 n p0 p) :
    Inv (P.withCaptures f0 n) A s0 p ∧
    ∀ ev, EventWF (P.withCaptures f0 n) ev → ∀ e, transition P p ev = some (.error e) →
      e.isStructural = false := by
  have hreach : ReachWF (P.withCaptures f0 n) p0 p := by
    induction hr with
    | refl => exact .refl _
    | step _ hev htr ih =>
      exact .step ih hev (by rw [transition_withCaptures P f0 n hno]; exact htr)
  obtain ⟨hinv, herr⟩ := checkAnn_sound_full hA (replEntry_entryWF h0) hreach
  refine ⟨hinv, ?_⟩
  intro ev hev e htr
  exact herr ev hev e (by rw [transition_withCaptures P f0 n hno]; exact htr)

/-- A REPL continuation line that reads the session's first variable: drop the previous result,
load local 0. As a function of `P` (captures 0) it is *not* certifiable … -/
def exRepl : Prog :=
  { constants := #[], functions := #[{ instructions := #[.pop, .load 0], captures := 0, typeId := 0 }],
    tuples := #[0, 0], types := 1, builtins := 0 }

example : checkAnn exRepl 0 (inferAnn exRepl 0) = false := by decide +kernel

/-- … but it is under the view with its one entry local as captures, no instruction references it,
and the resumed REPL process is a `ReplEntry` state (hypotheses of `checkAnn_sound_repl`). -/
example : AllChecked (exRepl.withCaptures 0 1) #[inferAnn (exRepl.withCaptures 0 1) 0] := by
  intro f hf
  have : f = 0 := by simp [exRepl, Prog.withCaptures] at hf; omega
  subst this
  decide +kernel

example : ∀ (f : Nat) (fn : Function), exRepl.functions[f]? = some fn → Instr.function 0 ∉ fn.instructions.toList := by
  intro f fn h
  have hf : f = 0 := by
    have := (Array.getElem?_eq_some_iff.mp h).1
    simp [exRepl] at this; omega
  subst hf
  simp [exRepl] at h
  subst h
  decide

example : ReplEntry exRepl 0 1 0
    { stack := [.int 7], locals := [.int 5], frames := [⟨0, 0, 0, 0⟩], persistent := true } :=
  ⟨⟨_, _, rfl, rfl, rfl, rfl, by decide, by decide⟩, rfl,
   by intro v hv; simp at hv; subst hv; rfl, by intro v hv; simp at hv; subst hv; rfl, rfl, rfl, rfl⟩

/-- `#'int { | =0 => 10 | 20 }`-like code: compare the argument with a constant and branch. -/
def exFn : Function :=
  { instructions := #[.duplicate, .constant 0, .equal 2, .not, .jumpIf 3, .pop, .constant 1, .jump 2,
                      .pop, .constant 2],
    captures := 0, typeId := 0 }

def exProg : Prog :=
  { constants := #[.int 0, .int 10, .int 20], functions := #[exFn], tuples := #[0, 0], types := 1, builtins := 0 }

/-- The inferred annotations of the example (two paths join at the end with height 1). -/
example : inferAnn exProg 0 =
    #[some ⟨1, 0, .none⟩, some ⟨2, 0, .dup 0⟩, some ⟨3, 0, .none⟩, some ⟨2, 0, .none⟩, some ⟨2, 0, .none⟩,
      some ⟨1, 0, .none⟩, some ⟨0, 0, .none⟩, some ⟨1, 0, .none⟩, some ⟨1, 0, .none⟩, some ⟨0, 0, .none⟩] := by
  decide +kernel

/-- The example passes the checker with them. -/
example : checkAnn exProg 0 (inferAnn exProg 0) = true := by decide +kernel

/-- It is call-free. -/
example : ∀ i ∈ exFn.instructions.toList, i.simple = true := by decide

/-- `Proc.spawn` produces an entry state (hypothesis `Entry` of `checkAnn_sound_callfree`). -/
example : Entry exProg 0 exFn 0 0 (Proc.spawn 7 0 [] (.int 0)) :=
  ⟨rfl, ⟨0, rfl⟩, rfl, by decide, rfl, rfl, rfl⟩

/-- … and it takes a real step: after `Duplicate` the stack has two cells. -/
example : ∃ p' act, transition exProg (Proc.spawn 7 0 [] (.int 0)) (.run C07Dummy.oracle) = some (.ok (p', act)) ∧
    p'.stack.length = 2 := ⟨_, _, rfl, rfl⟩

/-- The example program is certified as a whole, and `Proc.spawn` is an entry state for it
(hypotheses `AllChecked` / `EntryWF` of `checkAnn_sound`). -/
example : AllChecked exProg #[inferAnn exProg 0] := by
  intro f hf
  have : f = 0 := by simp [exProg] at hf; omega
  subst this
  decide +kernel

example : EntryWF exProg 0 (Proc.spawn 7 0 [] (.int 0)) :=
  entryWF_spawn (fn := exFn) rfl rfl (by simp [AllWF]) rfl

/-- A program with a call: `f1` calls `f0` on its argument (`Function:0`, `Call`); both pass. -/
def exCallProg : Prog :=
  { exProg with functions := #[exFn, { instructions := #[.function 0, .call], captures := 0, typeId := 0 }] }

example : AllChecked exCallProg #[inferAnn exCallProg 0, inferAnn exCallProg 1] := by
  intro f hf
  have : f = 0 ∨ f = 1 := by simp [exCallProg] at hf; omega
  rcases this with rfl | rfl <;> decide +kernel

/-- A function the checker rejects: the two branches join with different heights. -/
example : checkAnn { exProg with functions := #[{ exFn with instructions := #[.duplicate, .jumpIf 1, .duplicate, .pop] }] } 0
    (inferAnn { exProg with functions := #[{ exFn with instructions := #[.duplicate, .jumpIf 1, .duplicate, .pop] }] } 0) = false := by
  decide +kernel

/-- `{ c₁, c₂ =x => x }`-like code: the first step's nil short-circuits to the end of the condition
(pc 5) *before* the `Store` of the second step; the consequence (`Pop, Load 0`) is reached only when
the condition's value is non-nil — i.e. only on the path that stored. -/
def guardFn : Function :=
  { instructions := #[.duplicate, .not, .jumpIf 2, .duplicate, .store,
                      .duplicate, .not, .jumpIf 2, .pop, .load 0],
    captures := 0, typeId := 0 }

def guardProg : Prog := { exProg with functions := #[guardFn] }

/-- At the join (pc 5) the annotation has the MIN locals (0) and the guard "non-nil top ⇒ 1 local";
`Duplicate`/`Not` carry it to the `JumpIf`, whose fall-through side gets the local. -/
example : inferAnn guardProg 0 =
    #[some ⟨1, 0, .none⟩, some ⟨2, 0, .dup 0⟩, some ⟨2, 0, .neg 0⟩, some ⟨1, 0, .none⟩, some ⟨2, 0, .dup 0⟩,
      some ⟨1, 0, .top 1⟩, some ⟨2, 0, .dup 1⟩, some ⟨2, 0, .neg 1⟩, some ⟨1, 1, .none⟩, some ⟨0, 1, .none⟩] := by
  decide +kernel

example : checkAnn guardProg 0 (inferAnn guardProg 0) = true := by decide +kernel

/-- Without the second `Not` the correlation is the wrong way round — the `Load` is reached exactly
when the value IS nil, i.e. on the path that did not store — and the checker rejects … -/
def badGuardFn : Function :=
  { guardFn with instructions := #[.duplicate, .not, .jumpIf 2, .duplicate, .store,
                                   .duplicate, .jumpIf 2, .pop, .load 0] }

example : checkAnn { exProg with functions := #[badGuardFn] } 0
    (inferAnn { exProg with functions := #[badGuardFn] } 0) = false := by decide +kernel

/-- … rightly: on a nil argument M-VM fails structurally (`VariableUndefined`) at that `Load`. -/
example :
    (do
      let p0 := Proc.spawn 7 0 [] Val.nil
      let step := fun (p : Proc) => match transition { exProg with functions := #[badGuardFn] } p (.run C07Dummy.oracle) with
        | some (.ok (p', _)) => some p'
        | _ => none
      let p1 ← step p0; let p2 ← step p1; let p3 ← step p2; let p4 ← step p3; let p5 ← step p4
      let p6 ← step p5
      match transition { exProg with functions := #[badGuardFn] } p6 (.run C07Dummy.oracle) with
      | some (.error e) => some e.isStructural
      | _ => none) = some true := by decide +kernel

end C07
