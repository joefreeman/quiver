import QuiverModel.Theorems.C02Call
/-
C02 (compiler correctness), on C02Call and C02Struct — **tail calls (`^`) and builtins are compiled correctly**, on
C07's M-VM: the fragment has loops and arithmetic.

Compile4's meaning functions answer an outcome — `norm v L'` (the construct ran to its end) or `exit res`
(a `^` was taken inside it; `res` is the result of the whole function). Accordingly every statement has two
targets (`Target`): the end of the construct's code with value and locals, or — everything enclosing the
`^` abandoned — the END OF THE FUNCTION'S CODE with the function's result on the stack and the locals cut
back to the captures (what `TailCall(true)`, the re-entered body and its final `Reset(#captures)` leave).

Compile4's programs are programs of Compile5 (`T4.up …`, C02Up). `ARunsX` adds to C02Call's runs a `TailCall(true)`
step (justified by `cs.app self arg = some res`, where `self` must be the function whose code runs, over the captures
in the frame's first locals: `SelfOK`) and a `Builtin(i), Call` step (`cs.bi i arg = some v`): a machine of level 4 in
the sense of C02Struct. `CallOK` and `TailOK` for `callSem Φ bi n` hold together by induction on the fuel
(`contracts_all`): a tail call cuts the locals back to the captures and re-enters the function at its first
instruction, where the structural theorem applies again.
-/
open QM.VM QM.RefSem.C4
open QM.RefSem.C1 (patBinds wfProg)
open C02L (St astepL OracleIntEq)
open C02F (InvC TRuns.trans call_step return_step tail_step located_toArray lift_step lift_func lift_bcall)

namespace C02T

mutual
  def nbT : T4 → Nat
    | .tup _ fs => nbFs fs
    | .mtch p => (patBinds p).length
    | _ => 0
  def nbCh : Ch4 → Nat
    | .nil => 0
    | .cons t r => nbT t + nbCh r
  def nbFs : Fs4 → Nat
    | .nil => 0
    | .cons c r => nbCh c + nbFs r
  def nbSq : Sq4 → Nat
    | .last c => nbCh c
    | .cons c r => nbCh c + nbSq r
end

mutual
  theorem nbT_up : (t : T4) → C02N.nbT t.up = nbT t
    | .int _ _ => rfl
    | .ripple => rfl
    | .tup _ fs => by simp only [T4.up, C02N.nbT, nbT, nbFs_up fs]
    | .var _ => rfl
    | .mtch _ => rfl
    | .block _ => rfl
    | .fnlit _ _ => rfl
    | .call _ => rfl
    | .callNil _ => rfl
    | .tailSelf => rfl
    | .bcall _ => rfl
  theorem nbCh_up : (c : Ch4) → C02N.nbCh c.up = nbCh c
    | .nil => rfl
    | .cons t r => by simp only [Ch4.up, C02N.nbCh, nbCh, nbT_up t, nbCh_up r]
  theorem nbFs_up : (fs : Fs4) → C02N.nbFs fs.up = nbFs fs
    | .nil => rfl
    | .cons c r => by simp only [Fs4.up, C02N.nbFs, nbFs, nbCh_up c, nbFs_up r]
end

theorem nbSq_up : (sq : Sq4) → C02N.nbSq sq.up = nbSq sq
  | .last c => by simp only [Sq4.up, C02N.nbSq, nbSq, nbCh_up c]
  | .cons c r => by simp only [Sq4.up, C02N.nbSq, nbSq, nbCh_up c, nbSq_up r]

theorem compileFs_len : (fs : Fs4) → (Γ : List String) → (k : Nat) →
      (compileFs Γ fs k).2.length = Γ.length + nbFs fs
  | fs, Γ, k => by rw [← compileFs_up, C02N.compileFs_len, nbFs_up]

theorem evalFs_ext (cs : Sem) : (fs : Fs4) → (Γ : List String) → (L : List Val) → (flow : Val) → (vs L' : List Val) →
      evalFs cs Γ L flow fs = some (vs, L') → ∃ ext, L' = L ++ ext ∧ ext.length = nbFs fs
  | fs, Γ, L, flow, vs, L', h => by
    rw [← nbFs_up]
    exact C02N.evalFs_ext cs.up fs.up Γ L flow vs L' (by rw [evalFs_up, h])

theorem evalSq_ext (cs : Sem) : (sq : Sq4) → (Γ : List String) → (L : List Val) → (flow v : Val) → (L' : List Val) →
      evalSq cs Γ L flow sq = some (.norm v L') →
      ∃ ext, L' = L ++ ext ∧ ext.length ≤ nbSq sq ∧ (v.isNil = false → ext.length = nbSq sq)
  | sq, Γ, L, flow, v, L', h => by
    rw [← nbSq_up]
    exact C02N.evalSq_ext cs.up sq.up Γ L flow v L' (by rw [evalSq_up, h]; rfl)

/-- abstract runs over the code of function `fi` (with `nc` captures) -/
inductive ARunsX (O : Oracle) (P : Prog) (code : Array Instr) (cs : Sem) (fi nc : Nat) : St → St → Prop where
  | refl (x : St) : ARunsX O P code cs fi nc x x
  | step {pc : Nat} {s L : List Val} {x y : St} (i : Instr) (hi : code[pc]? = some i)
      (h : astepL O P i pc s L = some x) (r : ARunsX O P code cs fi nc x y) : ARunsX O P code cs fi nc (pc, s, L) y
  | func {pc : Nat} {s L : List Val} {y : St} (fj : Nat) (fn : Function) (ws : List Val)
      (hi : code[pc]? = some (.function fj)) (hfn : P.functions[fj]? = some fn) (hc : fn.captures = ws.length)
      (r : ARunsX O P code cs fi nc (pc + 1, .fn fj (ValList.ofList ws) :: s, L) y) :
      ARunsX O P code cs fi nc (pc, ws.reverse ++ s, L) y
  | call {pc : Nat} {s L : List Val} {y : St} (fv arg res : Val) (hi : code[pc]? = some .call)
      (h : cs.app fv arg = some res) (r : ARunsX O P code cs fi nc (pc + 1, res :: s, L) y) :
      ARunsX O P code cs fi nc (pc, fv :: arg :: s, L) y
  /-- `TailCall(true)`: the function is re-entered with the flowing value; what that yields (`cs.app self arg`)
  is the function's result — the run is at the END of the function's code with the locals cut back to the
  captures. `self` is the function whose code this is, over the captures in the first `nc` locals. -/
  | tail {pc : Nat} {s L : List Val} {y : St} (sv arg res : Val) (hi : code[pc]? = some (.tailCall true))
      (hs : cs.self = some sv) (hsv : sv = .fn fi (ValList.ofList (L.take nc))) (hle : nc ≤ L.length)
      (h : cs.app sv arg = some res)
      (r : ARunsX O P code cs fi nc (code.size, res :: s, L.take nc) y) :
      ARunsX O P code cs fi nc (pc, arg :: s, L) y
  | bcall {pc : Nat} {s L : List Val} {y : St} (bi : Nat) (arg v : Val) (hi : code[pc]? = some (.builtin bi))
      (hi2 : code[pc + 1]? = some .call) (hb : bi < P.builtins) (h : cs.bi bi arg = some v)
      (r : ARunsX O P code cs fi nc (pc + 1 + 1, v :: s, L) y) : ARunsX O P code cs fi nc (pc, arg :: s, L) y

theorem ARunsX.trans {O : Oracle} {P : Prog} {code : Array Instr} {cs : Sem} {fi nc : Nat} {x y z : St}
    (h₁ : ARunsX O P code cs fi nc x y) (h₂ : ARunsX O P code cs fi nc y z) : ARunsX O P code cs fi nc x z := by
  induction h₁ with
  | refl => exact h₂
  | step i hi h _ ih => exact .step i hi h (ih h₂)
  | func fj fn ws hi hfn hc _ ih => exact .func fj fn ws hi hfn hc (ih h₂)
  | call fv arg res hi h _ ih => exact .call fv arg res hi h (ih h₂)
  | tail sv arg res hi hs hsv hle h _ ih => exact .tail sv arg res hi hs hsv hle h (ih h₂)
  | bcall bi arg v hi hi2 hb h _ ih => exact .bcall bi arg v hi hi2 hb h (ih h₂)

theorem ARunsX.ofL {O : Oracle} {P : Prog} {code : Array Instr} {cs : Sem} {fi nc : Nat} {x y : St}
    (h : C02L.ARunsL O P code x y) : ARunsX O P code cs fi nc x y := by
  induction h with
  | refl x => exact .refl x
  | step i hi h _ ih => exact .step i hi h ih

/-- where a construct's run ends: at the end of its code, or — a `^` was taken — at the end of the
function's code with the locals cut back to the captures -/
def Target (code : Array Instr) (nc pcEnd : Nat) (rest L : List Val) : Out → St
  | .norm v L' => (pcEnd, v :: rest, L')
  | .exit res => (code.size, res :: rest, L.take nc)

/-- the function `^` re-enters is the one whose code runs, over the captures in the frame's first locals -/
def SelfOK (cs : Sem) (fi nc : Nat) (L : List Val) : Prop :=
  ∀ sv, cs.self = some sv → sv = .fn fi (ValList.ofList (L.take nc))

theorem Target_up (code : Array Instr) (nc pcEnd : Nat) (rest L : List Val) (out : Out) :
    C02N.Target code nc pcEnd rest L out.up = Target code nc pcEnd rest L out := by
  cases out <;> rfl

theorem machine (O : Oracle) (P : Prog) (code : Array Instr) (cs : Sem) (fi nc : Nat) :
    C02N.Machine O P code cs.up fi nc 4 (ARunsX O P code cs fi nc) where
  trans := ARunsX.trans
  ofL := ARunsX.ofL
  func fj fn ws _ hi hfn hc := .func fj fn ws hi hfn hc (.refl _)
  call fv arg res _ hi h := .call fv arg res hi h (.refl _)
  tail sv arg res _ hi hs hsv hle h := .tail sv arg res hi hs hsv hle h (.refl _)
  bcall bi arg v _ hi hi2 hb h := .bcall bi arg v hi hi2 hb h (.refl _)
  tailN _ _ _ h := absurd h (by decide)

section Machine
variable {O : Oracle} {P : Prog} {code : Array Instr} {cs : Sem} {fi nc : Nat}

theorem compileT_aruns (hO : OracleIntEq O) (hP : wfProg P) (hsz : code.size < 2 ^ 63 - 1) :
      (t : T4) → (Γ : List String) → (pc : Nat) → (flow : Val) → (rest L : List Val) → (out : Out) →
      C02S.Located code pc (compileT Γ t).1 → wfT P t → L.length = Γ.length → nc ≤ L.length →
      SelfOK cs fi nc L → evalT cs Γ L flow t = some out →
      ARunsX O P code cs fi nc (pc, flow :: rest, L) (Target code nc (pc + (compileT Γ t).1.length) rest L out)
  | t, Γ, pc, flow, rest, L, out, hl, hw, hal, hnc, hself, hev => by
    have := (machine O P code cs fi nc).runT hO hP hsz t.up Γ pc _ flow rest L out.up ⟨by rwa [compileT_up], rfl⟩
      (wfT_up P t hw) (lvT_up t) hal hnc hself (by rw [evalT_up, hev]; rfl)
    rwa [compileT_up, Target_up] at this
theorem compileCh_aruns (hO : OracleIntEq O) (hP : wfProg P) (hsz : code.size < 2 ^ 63 - 1) :
      (c : Ch4) → (Γ : List String) → (pc : Nat) → (flow : Val) → (rest L : List Val) → (out : Out) →
      C02S.Located code pc (compileCh Γ c).1 → wfCh P c → L.length = Γ.length → nc ≤ L.length →
      SelfOK cs fi nc L → evalCh cs Γ L flow c = some out →
      ARunsX O P code cs fi nc (pc, flow :: rest, L) (Target code nc (pc + (compileCh Γ c).1.length) rest L out)
  | c, Γ, pc, flow, rest, L, out, hl, hw, hal, hnc, hself, hev => by
    have := (machine O P code cs fi nc).runCh hO hP hsz c.up Γ pc _ flow rest L out.up ⟨by rwa [compileCh_up], rfl⟩
      (wfCh_up P c hw) (lvCh_up c) hal hnc hself (by rw [evalCh_up, hev]; rfl)
    rwa [compileCh_up, Target_up] at this
theorem compileFs_aruns (hO : OracleIntEq O) (hP : wfProg P) (hsz : code.size < 2 ^ 63 - 1) :
      (fs : Fs4) → (Γ : List String) → (pc : Nat) → (flow : Val) → (rest L acc vs : List Val) →
      (L' : List Val) → C02S.Located code pc (compileFs Γ fs acc.length).1 → wfFs P fs →
      L.length = Γ.length → nc ≤ L.length → SelfOK cs fi nc L → evalFs cs Γ L flow fs = some (vs, L') →
      ARunsX O P code cs fi nc (pc, acc.reverse ++ flow :: rest, L)
          (pc + (compileFs Γ fs acc.length).1.length, (acc ++ vs).reverse ++ flow :: rest, L') ∧
        vs.length = fs.length
  | fs, Γ, pc, flow, rest, L, acc, vs, L', hl, hw, hal, hnc, hself, hev => by
    have := (machine O P code cs fi nc).runFs hO hP hsz fs.up Γ pc _ flow rest L acc vs L' ⟨by rwa [compileFs_up], rfl⟩
      (wfFs_up P fs hw) (lvFs_up fs) hal hnc hself (by rw [evalFs_up, hev])
    rwa [compileFs_up, Fs4.length_up] at this
theorem compileSq_aruns (hO : OracleIntEq O) (hP : wfProg P) (hsz : code.size < 2 ^ 63 - 1) :
      (sq : Sq4) → (Γ : List String) → (pc : Nat) → (flow : Val) → (rest L : List Val) → (out : Out) →
      C02S.Located code pc (compileSq Γ sq).1 → wfSq P sq → L.length = Γ.length → nc ≤ L.length →
      SelfOK cs fi nc L → evalSq cs Γ L flow sq = some out →
      ARunsX O P code cs fi nc (pc, flow :: rest, L) (Target code nc (pc + (compileSq Γ sq).1.length) rest L out)
  | sq, Γ, pc, flow, rest, L, out, hl, hw, hal, hnc, hself, hev => by
    have := (machine O P code cs fi nc).runSq hO hP hsz sq.up Γ pc _ flow rest L out.up ⟨by rwa [compileSq_up], rfl⟩
      (wfSq_up P sq hw) (lvSq_up sq) hal hnc hself (by rw [evalSq_up, hev]; rfl)
    rwa [compileSq_up, Target_up] at this
/-- the branches from one on: from the branch's start (with the previous condition's nil on the stack
unless it is the first) to the parameter clear at `PC`, value on the stack, locals `L ++ [parameter]` -/
theorem compileBrs_aruns (hO : OracleIntEq O) (hP : wfProg P) (hsz : code.size < 2 ^ 63 - 1) :
      (bs : Brs4) → (Γp : List String) → (n k : Nat) → (first : Bool) → (pos PC : Nat) →
      (flow junk : Val) → (rest L : List Val) → (out : Out) →
      C02S.Located code pos (compileBrs Γp n bs k first).1 →
      pos + (compileBrs Γp n bs k first).1.length = PC →
      C02S.Located code (PC + 2 + 2 * k) (compileBrs Γp n bs k first).2 →
      PC < code.size → wfBrs P bs → Γp.length = n + 1 → L.length = n → nc ≤ L.length →
      SelfOK cs fi nc L → (first = true → bs.isNil = false) → (first = false → junk = Val.nil) →
      evalBrs cs Γp (L ++ [flow]) flow bs = some out →
      ARunsX O P code cs fi nc (pos, (if first then rest else junk :: rest), L ++ [flow])
        (Target code nc PC rest (L ++ [flow]) out)
  | bs, Γp, n, k, first, pos, PC, flow, junk, rest, L, out, hl, hPC, hcl, hPCs, hw, hΓ, hL, hnc, hself, hf, hj, hev => by
    have := (machine O P code cs fi nc).runBrs hO hP hsz bs.up Γp n k first pos PC flow junk rest L out.up
      ⟨by rwa [compileBrs_up], by rwa [compileBrs_up]⟩ (by rwa [compileBrs_up]) hPCs (wfBrs_up P bs hw) (lvBrs_up bs)
      hΓ hL hnc hself (by rwa [Brs4.isNil_up]) hj (by rw [evalBrs_up, hev]; rfl)
    rwa [Target_up] at this

end Machine

/-- the builtins' meaning is the oracle's -/
def BiOK (O : Oracle) (cs : Sem) : Prop := ∀ i a v, cs.bi i a = some v → O.builtin i a = .value v

/-- every tail call `cs` gives a meaning to is realised by the VM: from the `TailCall(true)` to the END of
the function's code, the function's result in place of the argument, the locals cut back to the captures -/
def TailOK (O : Oracle) (P : Prog) (cs : Sem) : Prop :=
  ∀ sv arg res, cs.self = some sv → cs.app sv arg = some res →
    ∀ (fn : Function) (f : Frame) (r : List Frame) (pre : List Val) (pc : Nat) (rest L : List Val) (p : Proc),
      P.functions[f.functionIndex]? = some fn → fn.instructions[pc]? = some (.tailCall true) →
      sv = .fn f.functionIndex (ValList.ofList (L.take f.capturesCount)) → f.capturesCount ≤ L.length →
      InvC p f r pre pc (arg :: rest) L →
      ∃ q, C02S.TRuns O P p q ∧ InvC q f r pre fn.instructions.size (res :: rest) (L.take f.capturesCount)

theorem liftX (O : Oracle) (P : Prog) (cs : Sem) (hcs : C02F.CallOK O P cs.app) (hts : TailOK O P cs)
    (hbs : BiOK O cs) (fn : Function) (f : Frame) (r : List Frame) (pre : List Val)
    (hfn : P.functions[f.functionIndex]? = some fn) {x y : St}
    (h : ARunsX O P fn.instructions cs f.functionIndex f.capturesCount x y) :
    ∀ p : Proc, InvC p f r pre x.1 x.2.1 x.2.2 → ∃ q, C02S.TRuns O P p q ∧ InvC q f r pre y.1 y.2.1 y.2.2 := by
  induction h with
  | refl x => exact fun p hp => ⟨p, .refl p, hp⟩
  | step i hi hstep _ ih =>
    intro p hp
    obtain ⟨q, htr, hinv⟩ := lift_step O P fn f r pre hfn i hi hstep p hp
    obtain ⟨z, hz, hzi⟩ := ih q hinv
    exact ⟨z, .step htr hz, hzi⟩
  | func fj fnF ws hi hfnF hc _ ih =>
    intro p hp
    obtain ⟨q, htr, hinv⟩ := lift_func O P fn f r pre hfn fj fnF ws hi hfnF hc p hp
    obtain ⟨z, hz, hzi⟩ := ih q hinv
    exact ⟨z, .step htr hz, hzi⟩
  | call fv arg res hi hcall _ ih =>
    intro p hp
    obtain ⟨q, hq, hinv⟩ := hcs fv arg res hcall fn f r pre _ _ _ p hfn hi hp
    obtain ⟨z, hz, hzi⟩ := ih q hinv
    exact ⟨z, TRuns.trans hq hz, hzi⟩
  | tail sv arg res hi hs hsv hle happ _ ih =>
    intro p hp
    obtain ⟨q, hq, hinv⟩ := hts sv arg res hs happ fn f r pre _ _ _ p hfn hi hsv hle hp
    obtain ⟨z, hz, hzi⟩ := ih q hinv
    exact ⟨z, TRuns.trans hq hz, hzi⟩
  | bcall bi arg v hi hi2 hb hbi _ ih =>
    intro p hp
    obtain ⟨q, hq, hinv⟩ := lift_bcall O P fn f r pre hfn bi arg v hi hi2 hb (hbs bi arg v hbi) p hp
    obtain ⟨z, hz, hzi⟩ := ih q hinv
    exact ⟨z, TRuns.trans hq hz, hzi⟩

/-- the contracts at one fuel level: every application and every tail call `callSem Φ bi n` gives a
meaning to is realised by the VM -/
def Contracts (O : Oracle) (P : Prog) (Φ : FTab) (bi : Nat → Val → Option Val) (n : Nat) : Prop :=
  C02F.CallOK O P (callSem Φ bi n) ∧ ∀ sv, TailOK O P ⟨callSem Φ bi n, bi, some sv⟩

/-- the value of an outcome -/
def outVal : Out → Val
  | .norm v _ => v
  | .exit res => res

/-- an application that has a meaning is that of a closure of the table: its body on captures and argument, one
fuel level below -/
theorem callSem_succ {Φ : FTab} {bi : Nat → Val → Option Val} {n : Nat} {fv arg res : Val}
    (h : callSem Φ bi (n + 1) fv arg = some res) :
    ∃ fi cv d o, fv = .fn fi cv ∧ Φ.lookup fi = some d ∧ cv.toList.length = d.caps.length ∧
      evalBrs ⟨callSem Φ bi n, bi, some fv⟩ (d.caps ++ [""]) (cv.toList ++ [arg]) arg d.body = some o ∧
      outVal o = res := by
  cases fv with
  | fn fi cv =>
    simp only [callSem] at h
    split at h
    · rename_i d hd
      split at h
      · rename_i hlen
        split at h
        · rename_i v Lx hev
          exact ⟨fi, cv, d, _, rfl, hd, hlen, hev, Option.some.inj h⟩
        · rename_i res' hev
          exact ⟨fi, cv, d, _, rfl, hd, hlen, hev, Option.some.inj h⟩
        · cases h
      · cases h
    · cases h
  | _ => simp [callSem] at h

/-- a function's code run in a frame of that function whose locals are the captures, from counter 0 to
the end of the code — by falling off the end or through a tail call —, given the contracts for the calls
inside -/
theorem body_run (O : Oracle) (P : Prog) (hO : OracleIntEq O) (hP : wfProg P) (Φ : FTab) (hΦ : FnOK P Φ)
    (bi : Nat → Val → Option Val) (hbi : ∀ i a v, bi i a = some v → O.builtin i a = .value v) (n : Nat)
    (hn : Contracts O P Φ bi n) (cv : ValList) (d : FnDef) (g : Frame) (hd : Φ.lookup g.functionIndex = some d)
    (hlen : cv.toList.length = d.caps.length) (arg : Val) (o : Out)
    (hev : evalBrs ⟨callSem Φ bi n, bi, some (.fn g.functionIndex cv)⟩ (d.caps ++ [""]) (cv.toList ++ [arg]) arg
      d.body = some o)
    (r : List Frame) (pre rest : List Val)
    (hgc : g.capturesCount = cv.toList.length) (q1 : Proc) (hinv1 : InvC q1 g r pre 0 (arg :: rest) cv.toList) :
    ∃ fnC, P.functions[g.functionIndex]? = some fnC ∧ ∃ q2, C02S.TRuns O P q1 q2 ∧
      InvC q2 g r pre fnC.instructions.size (outVal o :: rest) cv.toList := by
  obtain ⟨fnC, hfnC, hcode, hcaps, hne, hwf, hszC⟩ := hΦ g.functionIndex d hd
  refine ⟨fnC, hfnC, ?_⟩
  have hloc : C02S.Located fnC.instructions 0 (compileT d.caps (.block d.body)).1 := by
    rw [hcode]; exact located_toArray _
  have hself : SelfOK ⟨callSem Φ bi n, bi, some (.fn g.functionIndex cv)⟩ g.functionIndex g.capturesCount
      cv.toList := by
    intro sv hs
    simp only [Option.some.injEq] at hs
    subst hs
    simp [hgc]
  have hsize : 0 + (compileT d.caps (.block d.body)).1.length = fnC.instructions.size := by
    rw [hcode]; simp [fnCode]
  have hevT : evalT ⟨callSem Φ bi n, bi, some (.fn g.functionIndex cv)⟩ d.caps cv.toList arg (.block d.body) =
      some (match o with | .norm v _ => .norm v cv.toList | .exit res => .exit res) := by
    cases o <;> simp only [evalT, hev, Option.map_some]
  have run := compileT_aruns (O := O) (P := P) (code := fnC.instructions)
    (cs := ⟨callSem Φ bi n, bi, some (.fn g.functionIndex cv)⟩) (fi := g.functionIndex) (nc := g.capturesCount)
    hO hP hszC (.block d.body) d.caps 0 arg rest cv.toList _ hloc ⟨hne, hwf⟩ hlen (Nat.le_of_eq hgc) hself hevT
  obtain ⟨q2, ht2, hinv2⟩ := liftX O P ⟨callSem Φ bi n, bi, some (.fn g.functionIndex cv)⟩ hn.1 (hn.2 _) hbi
    fnC g r pre hfnC run q1 hinv1
  refine ⟨q2, ht2, ?_⟩
  cases o with
  | norm v Lx => simpa only [Target, hsize, outVal] using hinv2
  | exit res => simpa only [Target, hgc, List.take_length, outVal] using hinv2

/-- **The knot.** By induction on the fuel: every application `callSem Φ bi n` gives a meaning to is
realised by `Call`, the callee's frame and the return; every tail call by `TailCall(true)` and the
restarted frame. The body runs by the structural theorem at the fuel level below, lifted with the
induction hypothesis for the calls and tail calls inside. -/
theorem contracts_all (O : Oracle) (P : Prog) (hO : OracleIntEq O) (hP : wfProg P) (Φ : FTab) (hΦ : FnOK P Φ)
    (bi : Nat → Val → Option Val) (hbi : ∀ i a v, bi i a = some v → O.builtin i a = .value v) :
    (n : Nat) → Contracts O P Φ bi n
  | 0 => by
    refine ⟨?_, ?_⟩
    · intro fv arg res h
      simp [callSem] at h
    · intro sv0 sv arg res _ h
      simp [callSem] at h
  | n + 1 => by
    have ih := contracts_all O P hO hP Φ hΦ bi hbi n
    refine ⟨?_, ?_⟩
    · intro fv arg res h fn f r pre pc rest L p hfn hcall hinv
      obtain ⟨fi, cv, d, o, rfl, hd, hlen, hev, rfl⟩ := callSem_succ h
      obtain ⟨fnC0, hfnC0, _⟩ := hΦ fi d hd
      obtain ⟨q1, ht1, hinv1⟩ := call_step O P fn fnC0 f r pre pc fi cv arg rest L p hfn hcall hfnC0 hinv
      obtain ⟨fnC, hfnC, q2, ht2, hinv2⟩ := body_run O P hO hP Φ hΦ bi hbi n ih cv d
        (Frame.new fi (pre ++ L).length cv.toList.length) hd hlen arg o hev
        ({ f with counter := pc } :: r) (pre ++ L) rest rfl q1 hinv1
      obtain ⟨q3, ht3, hinv3⟩ := return_step O P fnC f (Frame.new fi (pre ++ L).length cv.toList.length)
        r pre L pc (outVal o) rest cv.toList q2 (by simpa [Frame.new] using hfnC) hinv.1.2.2.2.1 hinv2
      exact ⟨q3, .step ht1 (TRuns.trans ht2 (.step ht3 (.refl _))), hinv3⟩
    · intro sv0 sv arg res hs h fn f r pre pc rest L p hfn htc hsv hle hinv
      obtain ⟨fi, cv, d, o, hfv, hd, hlen, hev, rfl⟩ := callSem_succ h
      rw [hsv] at hfv
      cases hfv
      have hcl : (ValList.ofList (L.take f.capturesCount)).toList.length = f.capturesCount := by
        simp [List.length_take, Nat.min_eq_left hle]
      obtain ⟨q1, ht1, hinv1⟩ := tail_step O P fn f r pre pc arg rest L p hfn htc hinv
      obtain ⟨fnC, hfnC, q2, ht2, hinv2⟩ := body_run O P hO hP Φ hΦ bi hbi n ih
        (ValList.ofList (L.take f.capturesCount)) d f hd hlen arg o (by rw [← hsv]; exact hev) r pre rest
        hcl.symm q1 (by simpa using hinv1)
      have : fnC = fn := by rw [hfn] at hfnC; exact (Option.some.inj hfnC).symm
      subst this
      exact ⟨q2, .step ht1 ht2, by simpa using hinv2⟩

/-- **Tail calls and builtin calls are compiled correctly** (with everything of C02Call around and inside
them). For a program whose function table is `Φ`, builtins whose meaning `bi` is the oracle's: a process of
M-VM whose current function contains the code of the sequence `sq` at `pc`, whose frame's locals `L` are
aligned with `Γ`, with the flowing value on top of the stack and no select in progress, reaches the end of
that code by `Executor::step` units alone — through every `Call` and `TailCall(true)` inside the functions
it calls, every restarted frame and every return — with the value `evalSq (topSem Φ bi n)` gives in place of
the flowing value and the frame's locals as it says. (`^` itself is only meaningful inside a function:
`topSem` has no `self`, so at this level the outcome is always normal.) -/
theorem compileSq4_correct (O : Oracle) (P : Prog) (hO : OracleIntEq O) (hP : wfProg P) (Φ : FTab)
    (hΦ : FnOK P Φ) (bi : Nat → Val → Option Val) (hbi : ∀ i a v, bi i a = some v → O.builtin i a = .value v)
    (n : Nat) (fn : Function) (f : Frame) (r : List Frame) (pre : List Val)
    (hfn : P.functions[f.functionIndex]? = some fn) (hsz : fn.instructions.size < 2 ^ 63 - 1) (sq : Sq4)
    (Γ : List String) (pc : Nat) (flow : Val) (rest L : List Val) (v : Val) (L' : List Val)
    (hl : C02S.Located fn.instructions pc (compileSq Γ sq).1) (hw : wfSq P sq) (hal : L.length = Γ.length)
    (hnc : f.capturesCount ≤ L.length)
    (hev : evalSq (topSem Φ bi n) Γ L flow sq = some (.norm v L'))
    (p : Proc) (hp : InvC p f r pre pc (flow :: rest) L) :
    ∃ q, C02S.TRuns O P p q ∧ InvC q f r pre (pc + (compileSq Γ sq).1.length) (v :: rest) L' := by
  have hc := contracts_all O P hO hP Φ hΦ bi hbi n
  have hts : TailOK O P (topSem Φ bi n) := by
    intro sv arg res hs
    simp [topSem] at hs
  have run := compileSq_aruns (O := O) (P := P) (code := fn.instructions) (cs := topSem Φ bi n)
    (fi := f.functionIndex) (nc := f.capturesCount) hO hP hsz sq Γ pc flow rest L _ hl hw hal hnc
    (by intro sv hs; simp [topSem] at hs) hev
  exact liftX O P (topSem Φ bi n) hc.1 hts hbi fn f r pre hfn run p hp

end C02T
