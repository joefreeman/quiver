import QuiverModel.Lemmas.Packaging.Exec
import QuiverModel.Lemmas.Packaging.Inject
import QuiverModel.Lemmas.Packaging.Nested
import QuiverModel.Lemmas.Packaging.Canon
import QuiverModel.Lemmas.Packaging.ShakeResources
import QuiverModel.Lemmas.Packaging.FuelSuffices
import QuiverModel.Lemmas.Packaging.MergeInj
/-
C10 — packaging steps preserve behaviour (property theorems). For `tree_shake`: (T1) the shaken program behaves like
the original, (T2) shaking is idempotent, (T3) it keeps exactly what is reachable from the entry.

  * `C10.validateB_sound`, `C10.checkRenaming_sound` — the validator is sound: whatever map it
    returns makes `P'` a consistent renaming (`IsRenaming`) of the reachable part of `P`.
  * `C10.checkRenamingExplain_ok_iff` — the driver's entry point agrees with `checkRenaming`.

  * `C10.run_commutes_with_renaming`, `C10.run_result_commutes` — execution commutes with such a renaming.
  * `C10.valueToInstrs_roundtrip`, `C10.injectCaptures_equiv`, `C10.injectCaptures_prelude_nested` — module
    import and capture injection.

The packaging steps themselves (ports in Core/Packaging/TreeShake.lean, Merge.lean):
  * `tree_shake`: `treeShake_structRenaming`, `treeShake_isRenaming`, `treeShake_preserves_behaviour` (T1),
    `treeShake_keeps_exactly_reachable` (T3), `treeShake_result_has_no_dead_entries`, `treeShake_idempotent`,
    `treeShake_idempotent_bytecode`, `treeShake_statement` (T2), `treeShake_fuel_suffices`,
    `legacy_shake_loses_process_entry` (F13 witness); through C08/C09 in Theorems/C10Tables.lean.
  * `merge_bytecode`: `merge_never_disturbs_loaded_programs`, `merge_isRenaming_types_tuples`,
    `merge_isRenaming_partial`, `merge_isRenaming`, `merge_preserves_behaviour`, `merge_fast_path_breaks_renaming`.
-/
namespace C10
open QM QM.Packaging

theorem validateB_sound {ρ : Ren} {P P' : Prog} {e e' : Nat}
    (h : validateB ρ P P' e e' = true) : IsRenaming ρ P P' e e' := by
  simp only [validateB, checks, List.all_cons, List.all_nil, Bool.and_true, Bool.and_eq_true] at h
  obtain ⟨hentry, hic, hif, hit, hiy, hib, hnil, hok, hfns, hconsts, htuples, hbuiltins, htypes, hres,
    hcompat, hfparam, hbparam, hcanon⟩ := h
  exact {
    entry := by simpa using hentry
    inj_const := AMap.inj_of_injB hic
    inj_fn := AMap.inj_of_injB hif
    inj_tuple := AMap.inj_of_injB hit
    inj_type := AMap.inj_of_injB hiy
    inj_builtin := AMap.inj_of_injB hib
    nil_fixed := by simpa using hnil
    ok_fixed := by simpa using hok
    fns := fun f f' hf => fnOK_spec (AMap.all_of_get hfns hf)
    consts := fun c c' hc => constOK_spec (AMap.all_of_get hconsts hc)
    tuples := fun t t' ht => tupleOK_spec (AMap.all_of_get htuples ht)
    builtins := fun b b' hb => builtinOK_spec (AMap.all_of_get hbuiltins hb)
    types := fun t t' ht => typeOK_spec (AMap.all_of_get htypes ht)
    resources := fun r r' hr => resourceOK_spec (AMap.all_of_get hres hr)
    compat := fun f f' F hf hF t ht t' ht' c c' hc hp =>
      compatFnOK_spec (AMap.all_of_get hcompat hf) hF ht ht' (mem_presentPairs hc hp)
    fparam := fun f f' hf c c' hc hp =>
      fparamOK_spec (AMap.all_of_get hfparam hf) (mem_presentPairs hc hp)
    bparam := fun b b' hb c c' hc hp =>
      bparamOK_spec (AMap.all_of_get hbparam hb) (mem_presentPairs hc hp)
    canon := fun a a' b b' ha hb => canonOK_spec hcanon ha hb }

/-- **Validator soundness.** If `checkRenaming` returns a map, `P'` is a consistent renaming of the
    reachable part of `P` under that map. (The recovery traversal is not trusted: only its output is
    validated.) -/
theorem checkRenaming_sound {P P' : Prog} {e e' : Nat} {ρ : Ren}
    (h : checkRenaming P P' e e' = some ρ) : IsRenaming ρ P P' e e' := by
  unfold checkRenaming at h
  split at h
  · rename_i ρ0 _
    split at h
    · rename_i hv
      cases h
      exact validateB_sound hv
    · cases h
  · cases h

/-- The driver answers `ok` exactly when `checkRenaming` returns a map (the same one). -/
theorem checkRenamingExplain_ok_iff {P P' : Prog} {e e' : Nat} {ρ : Ren} :
    checkRenamingExplain P P' e e' = .ok ρ ↔ checkRenaming P P' e e' = some ρ := by
  unfold checkRenamingExplain checkRenaming
  split
  · split <;> simp
  · simp

/-- Non-vacuity: a program with a dead function and a dead constant, and its shaken
    form; the validator accepts and recovers the shift. -/
def exP : Prog :=
  { consts := #[.int 7, .int 9],
    fns := #[{ instrs := [.const 0], captures := 0, typeId := 0 },
             { instrs := [.const 1, .function 2, .call, .isType 1], captures := 0, typeId := 0 },
             { instrs := [.tuple 2], captures := 0, typeId := 0 }],
    builtins := #[],
    tuples := #[⟨none, []⟩, ⟨some "Ok", []⟩, ⟨some "A", [(none, 1)]⟩],
    types := #[.callable 1 1 1, .int],
    resources := #[],
    compat := [(1, [.int])],
    canon := #[0, 1, 2] }

def exP' : Prog :=
  { consts := #[.int 9],
    fns := #[{ instrs := [.const 0, .function 1, .call, .isType 1], captures := 0, typeId := 0 },
             { instrs := [.tuple 2], captures := 0, typeId := 0 }],
    builtins := #[],
    tuples := #[⟨none, []⟩, ⟨some "Ok", []⟩, ⟨some "A", [(none, 1)]⟩],
    types := #[.callable 1 1 1, .int],
    resources := #[],
    compat := [(1, [.int])],
    canon := #[0, 1, 2] }

example : (checkRenaming exP exP' 1 0).isSome = true := by decide +kernel
example : ∃ ρ, IsRenaming ρ exP exP' 1 0 := by
  have h : (checkRenaming exP exP' 1 0).isSome = true := by decide +kernel
  obtain ⟨ρ, hρ⟩ := Option.isSome_iff_exists.mp h
  exact ⟨ρ, checkRenaming_sound hρ⟩
/-- …and rejects when the shaken program's compatibility row lost a tag (the F13 shape). -/
example : checkRenaming exP { exP' with compat := [] } 1 0 = none := by decide +kernel

/-- Side condition on a state of the *source* program: if the next instruction is a type test, the
    tested value's tag type has an entry in `P`'s type table (the value lies inside the program's
    type universe). The compiler registers the static type of every scrutinee, so accepted programs
    satisfy it (C01/C08 territory — here a hypothesis); without it what `IsType` answers depends on
    which *other* programs share the table (see notes/C10.md, "tagPresent"). -/
def IsTypeSafe (P : Prog) (s : St) : Prop :=
  ∀ fr rest t v st, s.frames = fr :: rest → fetch P fr = some (.isType t) → s.stack = v :: st →
    P.tagPresent v.tag = true

/-- One step (an instruction, a frame auto-pop, or completion) commutes with the renaming, given how
    the type tests of the current function answer: `hist` is the conclusion of `IsRenaming.compat` at the current
    test, left open so that the plain and the strict form can each supply it their way. -/
theorem step_commutes_of {ρ : Ren} {P P' : Prog} {e e' : Nat} (hρ : IsRenaming ρ P P' e e')
    {B B' : BuiltinSem} (hB : BuiltinsCommute ρ B B') {s s' : St} (hs : RelSt ρ s s')
    (hist : ∀ fr rest t t' v v' st, s.frames = fr :: rest → fetch P fr = some (.isType t) →
      (∃ F, P.fns[fr.fn]? = some F ∧ t ∈ isTypeOps F.instrs ∧ ∃ f', ρ.fn.get fr.fn = some f') →
      ρ.type.get t = some t' → s.stack = v :: st → RelVal ρ v v' →
      P.isCompat t v.tag = P'.isCompat t' v'.tag) :
    RelRes ρ (step P B s) (step P' B' s') := by
  obtain ⟨hstack, hlocals, hframes, hpers⟩ := hs
  rcases s with ⟨stk, lo, frs, pe⟩
  rcases s' with ⟨stk', lo', frs', pe'⟩
  simp only at hstack hlocals hframes hpers hist
  subst hpers
  unfold step
  cases hframes with
  | nil =>
    cases hstack with
    | nil => exact .err _
    | cons hv _ => exact .done hv
  | cons hfr hrest =>
    rename_i fr fr' rest rest'
    rcases fetch_rel hρ hfr with ⟨h1, h2⟩ | ⟨i, i', F, hF, hFi, h1, h2, hi⟩
    · simp only [h1, h2, hfr.base]
      have hempty : rest'.isEmpty = rest.isEmpty := by cases hrest <;> rfl
      rw [hempty]
      have hlo : RelVals ρ (if (!pe' || !rest.isEmpty) = true then lo.take fr.base else lo)
          (if (!pe' || !rest.isEmpty) = true then lo'.take fr.base else lo') := by
        split
        · exact hlocals.take _
        · exact hlocals
      cases hrest with
      | nil => exact relNext hstack hlo .nil
      | cons hc hcs => exact relNext hstack hlo (.cons hc.advance hcs)
    · simp only [h1, h2]
      have hs2 : RelSt ρ ⟨stk, lo, fr :: rest, pe'⟩ ⟨stk', lo', fr' :: rest', pe'⟩ :=
        ⟨hstack, hlocals, .cons hfr hrest, rfl⟩
      refine exec_commutes hρ hB hs2 hfr hrest hi ?_
      intro t t' v v' st hit ht hst hv
      subst hit
      exact hist fr rest t t' v v' st rfl h1 ⟨F, hF, mem_isTypeOps hFi, _, hfr.fn⟩ ht hst hv

theorem step_commutes {ρ : Ren} {P P' : Prog} {e e' : Nat} (hρ : IsRenaming ρ P P' e e')
    {B B' : BuiltinSem} (hB : BuiltinsCommute ρ B B') {s s' : St} (hs : RelSt ρ s s')
    (hsafe : IsTypeSafe P s) : RelRes ρ (step P B s) (step P' B' s') := by
  refine step_commutes_of hρ hB hs ?_
  intro fr rest t t' v v' st hfrs hfetch ⟨F, hF, hmem, f', hf'⟩ ht hst hv
  exact hρ.compat _ _ F hf' hF t hmem t' ht _ _ hv.tag (hsafe fr rest t v st hfrs hfetch hst)

theorem step_commutes_strict {ρ : Ren} {P P' : Prog} {e e' : Nat} (hρ : IsRenamingStrict ρ P P' e e')
    {B B' : BuiltinSem} (hB : BuiltinsCommute ρ B B') {s s' : St} (hs : RelSt ρ s s') :
    RelRes ρ (step P B s) (step P' B' s') := by
  refine step_commutes_of hρ.toIsRenaming hB hs ?_
  intro fr rest t t' v v' st _ _ ⟨F, hF, hmem, f', hf'⟩ ht _ hv
  exact hρ.compat_all _ _ F hf' hF t hmem t' ht _ _ hv.tag

/-- Lock-step simulation from any step lemma `hstep` that needs an invariant `Inv` of the source state; `Inv` has to
    hold in every state the source run reaches from `s`. `run_commute` is the same for fuelled runs and their results. -/
theorem steps_commute {ρ : Ren} {P P' : Prog} {B B' : BuiltinSem} {Inv : St → Prop}
    (hstep : ∀ {s s'}, RelSt ρ s s' → Inv s → RelRes ρ (step P B s) (step P' B' s')) {s t : St}
    (hst : Steps P B s t) :
    ∀ {s' : St}, RelSt ρ s s' → (∀ u, Steps P B s u → Inv u) → ∃ t', Steps P' B' s' t' ∧ RelSt ρ t t' := by
  induction hst with
  | refl s => intro s' hs _; exact ⟨s', .refl s', hs⟩
  | @cons s m u hm _ ih =>
    intro s' hs hinv
    have h1 := hstep hs (hinv s (.refl s))
    rw [hm] at h1
    generalize hm' : step P' B' s' = r' at h1
    cases h1 with
    | next hrel =>
      obtain ⟨t', ht', hrel'⟩ := ih hrel (fun u hu => hinv u (.cons hm hu))
      exact ⟨t', .cons hm' ht', hrel'⟩

theorem run_commute {ρ : Ren} {P P' : Prog} {B B' : BuiltinSem} {Inv : St → Prop}
    (hstep : ∀ {s s'}, RelSt ρ s s' → Inv s → RelRes ρ (step P B s) (step P' B' s')) :
    ∀ (fuel : Nat) {s s' : St} {r : Res}, RelSt ρ s s' → (∀ u, Steps P B s u → Inv u) →
      run P B fuel s = some r → ∃ r', run P' B' fuel s' = some r' ∧ RelRes ρ r r'
  | 0, _, _, _, _, _, h => nomatch h
  | fuel + 1, s, s', r, hs, hinv, h => by
    have h1 := hstep hs (hinv s (.refl s))
    simp only [run] at h ⊢
    generalize hq : step P B s = q at h h1
    generalize step P' B' s' = q' at h1
    cases h1 with
    | next hrel => exact run_commute hstep fuel hrel (fun u hu => hinv u (.cons hq hu)) h
    | err e => cases h; exact ⟨_, rfl, .err e⟩
    | panic => cases h; exact ⟨_, rfl, .panic⟩
    | yield hrel hi => cases h; exact ⟨_, rfl, .yield hrel hi⟩
    | done hv => cases h; exact ⟨_, rfl, .done hv⟩

/-- The start states of the two entries are related (`spawn_process(entry, [], argument)`). -/
theorem start_related {ρ : Ren} {P P' : Prog} {e e' : Nat} (hρ : IsRenaming ρ P P' e e') {a a' : Val}
    (ha : RelVal ρ a a') : RelSt ρ (St.start e a) (St.start e' a') :=
  ⟨.cons ha .nil, .nil, .cons ⟨hρ.entry, rfl, rfl, rfl⟩ .nil, rfl⟩

/-- **Execution commutes with renaming** (`Steps P B s t → Steps P' B' s' t'` with `t'` ρ-related to `t`): every
    state `P` reaches from `s` is matched by a ρ-related state `P'` reaches from the related `s'`, step for step (the
    fuelled form `run_result_commutes` has the same fuel on both sides) — for every input, every execution length, every builtin semantics that commutes
    with ρ. Covers tree-shake and merge for all executions at once. -/
theorem run_commutes_with_renaming {ρ : Ren} {P P' : Prog} {e e' : Nat} (hρ : IsRenaming ρ P P' e e')
    {B B' : BuiltinSem} (hB : BuiltinsCommute ρ B B') {s t : St} (hst : Steps P B s t) :
    ∀ {s' : St}, RelSt ρ s s' → (∀ u, Steps P B s u → IsTypeSafe P u) →
      ∃ t', Steps P' B' s' t' ∧ RelSt ρ t t' :=
  steps_commute (step_commutes hρ hB) hst

/-- …and so do the *results*: whatever a fuelled run of `P` ends with (value, error class, panic,
    or a yield to the scheduler with its state), the run of `P'` with the same fuel ends with the
    ρ-related result. -/
theorem run_result_commutes {ρ : Ren} {P P' : Prog} {e e' : Nat} (hρ : IsRenaming ρ P P' e e')
    {B B' : BuiltinSem} (hB : BuiltinsCommute ρ B B') :
    ∀ (fuel : Nat) {s s' : St} {r : Res}, RelSt ρ s s' → (∀ u, Steps P B s u → IsTypeSafe P u) →
      run P B fuel s = some r → ∃ r', run P' B' fuel s' = some r' ∧ RelRes ρ r r' :=
  run_commute (step_commutes hρ hB)

/-- The same without any side condition, for pairs the validator reports as `strict`. -/
theorem run_commutes_strict {ρ : Ren} {P P' : Prog} {e e' : Nat} (hρ : IsRenamingStrict ρ P P' e e')
    {B B' : BuiltinSem} (hB : BuiltinsCommute ρ B B') {s t : St} (hst : Steps P B s t) :
    ∀ {s' : St}, RelSt ρ s s' → ∃ t', Steps P' B' s' t' ∧ RelSt ρ t t' := by
  intro s' hs
  exact steps_commute (Inv := fun _ => True) (fun hs _ => step_commutes_strict hρ hB hs) hst hs (fun _ _ => trivial)

/-- The strict check is sound as well. -/
theorem strictB_sound {ρ : Ren} {P P' : Prog} {e e' : Nat} (h : validateB ρ P P' e e' = true)
    (hs : strictB ρ P P' = true) : IsRenamingStrict ρ P P' e e' :=
  { toIsRenaming := validateB_sound h
    compat_all := fun _ _ _ hf hF _ ht _ ht' _ _ hc =>
      compatFnOK_spec (AMap.all_of_get hs hf) hF ht ht' (mem_tagPairs hc) }

/-- **The `canon` clause of `IsRenaming` follows from name/label preservation** when both `canon`
    tables are the ones `compute_canonical_tuples` computes (`Prog.CanonComputed`, decided by
    `canonComputedB` and checked per program by the driver): two tuple ids are canonically equal iff
    their name and field labels agree (`canonOf_eq_iff_shape`), and the `tuples` clause says ρ preserves
    both. So `Equal` can be trusted across a renaming without looking at the tables at all. -/
theorem canon_of_name_label_preservation {ρ : Ren} {P P' : Prog} (hc : P.CanonComputed) (hc' : P'.CanonComputed)
    (htup : ∀ t t', ρ.tuple.get t = some t' →
      ∃ T T', P.tuples[t]? = some T ∧ P'.tuples[t']? = some T' ∧ T'.name = T.name ∧
        T'.fields.map (·.1) = T.fields.map (·.1) ∧
        mapOpt (fun (p : Option String × Nat) => ρ.type.get p.2) T.fields = some (T'.fields.map (·.2))) :
    ∀ a a' b b', ρ.tuple.get a = some a' → ρ.tuple.get b = some b' →
      (P.canonOf a = P.canonOf b ↔ P'.canonOf a' = P'.canonOf b') := by
  intro a a' b b' ha hb
  obtain ⟨Ta, Ta', hTa, hTa', hna, hla, _⟩ := htup a a' ha
  obtain ⟨Tb, Tb', hTb, hTb', hnb, hlb, _⟩ := htup b b' hb
  rw [canonOf_eq_iff_shape hc hTa hTb, canonOf_eq_iff_shape hc' hTa' hTb']
  have ea : shapeOf Ta' = shapeOf Ta := by simp [shapeOf, hna, hla]
  have eb : shapeOf Tb' = shapeOf Tb := by simp [shapeOf, hnb, hlb]
  rw [ea, eb]

/-- The hypothesis `run … = some r` of `run_result_commutes` is satisfiable: `exP` run from its entry ends
    within 20 steps. -/
example : ∃ r, run exP (fun _ _ => .panic) 20 (St.start 1 Val.nil) = some r := ⟨_, rfl⟩

/-- Model of `value_to_instructions_from_cache` (used for `%m` and `%m.f`): if emission succeeds for a
    well-formed value `v` — every tuple / function / builtin id resolves in `P` with the right arity, which holds
    for any value the VM built from `P`, and `v` contains no reference, process or resource — then
    (1) the program only grew (`P.Le P1`), and (2) wherever the emitted sequence is placed (any
    function, any offset, any surrounding stack / locals / frames, any later extension `Q` of the
    program, any builtin semantics) running it leaves **exactly `v`** on top of the untouched stack,
    locals and frames unchanged, `pc` just past the sequence. So using an imported value is the same
    as having evaluated the module body in place. Closures keep their captures (`Function(f)` pops
    the re-emitted capture values). -/
theorem valueToInstrs_roundtrip {P P1 : Prog} {v : Val} {is : List Instr}
    (h : v2iA P v = some (P1, is)) (hw : WfVal P v) :
    P.Le P1 ∧
    ∀ (Q : Prog), P1.Le Q → ∀ (B : BuiltinSem) (S L : List Val) (fn base caps pc : Nat) (rest : List Frame)
      (pers : Bool), CodeAt Q fn pc is →
      Steps Q B ⟨S, L, ⟨fn, base, caps, pc⟩ :: rest, pers⟩
                ⟨v :: S, L, ⟨fn, base, caps, pc + is.length⟩ :: rest, pers⟩ := by
  obtain ⟨hle, hreb⟩ := v2iA_rebuilds v P P1 is h hw
  exact ⟨hle, fun Q hQ B S L fn base caps pc rest pers hc => by
    simpa using hreb Q hQ B S L fn base caps pc rest pers hc⟩

theorem v2iAList_isSome_of (vs : List Val) (ih : ∀ v ∈ vs, ∀ (P : Prog), WfVal P v → (v2iA P v).isSome = true) :
    ∀ (P : Prog), WfVals P vs → (v2iAList P vs).isSome = true := by
  induction vs with
  | nil => exact fun _ _ => rfl
  | cons v vs ihvs =>
    intro P hw
    obtain ⟨ihv, ih⟩ := List.forall_mem_cons.1 ih
    have h1 := ihv P hw.1
    simp only [v2iAList]
    split
    · rename_i h; rw [h] at h1; cases h1
    · rename_i P1 i1 hv
      have h2 := ihvs ih P1 (WfVals.mono (v2iA_rebuilds v P P1 i1 hv hw.1).1 vs hw.2)
      split
      · rename_i h; rw [h] at h2; cases h2
      · rfl

/-- Emission fails only where the Rust reports an error: it succeeds on every well-formed value. -/
theorem valueToInstrs_total_on_wf : ∀ (v : Val) (P : Prog), WfVal P v → (v2iA P v).isSome = true := by
  intro v
  induction v using Val.induction with
  | int _ | bin _ => exact fun _ _ => rfl
  | ref _ | proc _ _ | res _ _ => exact fun _ hw => hw.elim
  | builtin b => exact fun P hw => by simp only [v2iA, show b < P.builtins.size from hw, if_true, Option.isSome_some]
  | tuple t fs ih =>
    intro P hw
    have := v2iAList_isSome_of fs ih P hw.2
    simp only [v2iA]
    split
    · rfl
    · rename_i h; rw [h] at this; cases this
  | fn f cs ih =>
    intro P hw
    obtain ⟨⟨F, hF, _⟩, hcs⟩ := hw
    have := v2iAList_isSome_of cs ih P hcs
    simp only [v2iA, hF]
    split
    · rfl
    · rename_i h; rw [h] at this; cases this

/-- What the compiler guarantees about a function body and capture injection relies on (C07's
    checker certifies the first for every emitted function): every jump lands inside the function
    (`0 ≤ target ≤ length`), and the function never resets its locals below its `n` captures. -/
structure BodyOK (F : Fn) (n : Nat) : Prop where
  jumps : ∀ (pc : Nat) (off : Int), (F.instrs[pc]? = some (.jump off) ∨ F.instrs[pc]? = some (.jumpIf off)) →
    0 ≤ (pc : Int) + off + 1 ∧ (pc : Int) + off + 1 ≤ F.instrs.length
  resets : ∀ (pc m : Nat), F.instrs[pc]? = some (.reset m) → n ≤ m

/-- Statement of behavioural equivalence for capture injection (`inject_function_captures`, the
    `quiv run` / `quiv compile` entry extraction) **in full generality** — any captures, including
    closures that capture themselves something: the injected capture-free function `g`, called with
    `a`, ends like the closure `fn f caps` called with `a`. For captures without nested capturing
    closures this is `injectCaptures_equiv` below (proved). In full generality the statement needs a
    value relation (a nested capturing closure is itself replaced by an injected function, so results
    are equal only up to that replacement, see `Rebuilt`) and is false as soon as such closures are
    compared with `Equal` (two closures whose captures are shape-equal but built with different tuple
    ids are `values_equal`, their injected functions are different indices) — it is kept as the
    statement, not claimed. -/
def InjectCapturesEquivStatement : Prop :=
  ∀ (P P2 : Prog) (f g : Nat) (caps : List Val) (F : Fn) (B : BuiltinSem) (a : Val) (fuel : Nat) (r : Res),
    injectCaptures P f caps = some (P2, g) → WfVals P caps → P.fns[f]? = some F → BodyOK F caps.length →
    run P2 B fuel ⟨[a], caps, [⟨f, 0, caps.length, 0⟩], false⟩ = some r →
    (∀ v, r = .done v → ∃ fuel', run P2 B fuel' (St.start g a) = some (.done v)) ∧
    (∀ e, r = .err e → ∃ fuel', run P2 B fuel' (St.start g a) = some (.err e))

theorem injectCaptures_some {P P2 : Prog} {f g : Nat} {caps : List Val} (h : injectCaptures P f caps = some (P2, g)) :
    ∃ P1 prelude F, v2iBStores P caps = some (P1, prelude) ∧ P1.fns[f]? = some F ∧ P1.Le P2 ∧
      P2.fns[g]? = some { instrs := prelude ++ F.instrs, captures := 0, typeId := F.typeId } := by
  unfold injectCaptures at h
  split at h
  · cases h
  · rename_i P1 prelude hst
    split at h
    · cases h
    · rename_i F hF
      have hle := registerFn_le P1 { instrs := prelude ++ F.instrs, captures := 0, typeId := F.typeId }
      have hget := registerFn_get P1 { instrs := prelude ++ F.instrs, captures := 0, typeId := F.typeId }
      rw [Option.some.inj h] at hle hget
      exact ⟨P1, prelude, F, hst, hF, hle, hget⟩

/-- For captures that contain no closure with captures of their
    own (integers, binaries, tuples, builtins, capture-free functions — `Flat`): the injected function
    `g` consists of a prelude followed by exactly the body of `f`, and running the prelude in the frame
    a call of `g` creates (no captures, `pc = 0`) reaches the first instruction of the body with the
    stack untouched (the argument on top) and **the closure's captures, in order, as the frame's first locals** —
    the configuration `Call` creates for the closure `fn f caps` itself. (Storing them in another order
    — e.g. reversed — falsifies this theorem.) -/
theorem injectCaptures_prelude_partial {P P2 : Prog} {f g : Nat} {caps : List Val}
    (h : injectCaptures P f caps = some (P2, g)) (hw : WfVals P caps) (hfl : FlatList caps) :
    P.Le P2 ∧ ∃ (F : Fn) (prelude : List Instr),
      P2.fns[f]? = some F ∧
      P2.fns[g]? = some { instrs := prelude ++ F.instrs, captures := 0, typeId := F.typeId } ∧
      ∀ (Q : Prog), P2.Le Q → ∀ (B : BuiltinSem) (S L : List Val) (base : Nat) (rest : List Frame)
        (pers : Bool),
        Steps Q B ⟨S, L, ⟨g, base, 0, 0⟩ :: rest, pers⟩
                  ⟨S, L ++ caps, ⟨g, base, 0, prelude.length⟩ :: rest, pers⟩ := by
  obtain ⟨P1, prelude, F, hst, hF, hle2, hget⟩ := injectCaptures_some h
  obtain ⟨hle1, hstores⟩ := v2iBStores_stores caps P P1 prelude hst hw hfl
  exact ⟨hle1.trans hle2, F, prelude, hle2.fns _ _ hF, hget, (hstores.mono hle2).at_entry hget⟩

/-- **Capture injection preserves behaviour**, for captures without nested
    capturing closures. In any program `Q` extending the injected one, with any builtin semantics, for
    every argument `a` and every execution: if the call of the closure `fn f caps` with `a` (frame of
    `f`, captures as the first locals) ends with a value / an error class / a panic, then the call of
    the injected function `g` with `a` (`spawn_process(g, [], a)`, what `quiv run` executes) ends with
    **the same** value / error class / panic (after possibly more steps: each `TailCall(true)` re-runs
    the prelude); if it yields to the scheduler, so does the other, at the same instruction, with
    identical stack and locals (the frames differ only in the bottom frame, `f@pc` vs `g@pc+prelude.length`:
    `InjRel`, not part of this statement). -/
theorem injectCaptures_equiv {P P2 : Prog} {f g : Nat} {caps : List Val} {F : Fn}
    (h : injectCaptures P f caps = some (P2, g)) (hw : WfVals P caps) (hfl : FlatList caps)
    (hF : P.fns[f]? = some F) (hbody : BodyOK F caps.length)
    (hsize : ∀ G, P2.fns[g]? = some G → G.instrs.length < 2 ^ 64) :
    ∀ (Q : Prog), P2.Le Q → ∀ (B : BuiltinSem) (a : Val) (pers : Bool) (fuel : Nat) (r : Res),
      run Q B fuel ⟨[a], caps, [⟨f, 0, caps.length, 0⟩], pers⟩ = some r →
      ∃ fuel' r', run Q B fuel' ⟨[a], [], [⟨g, 0, 0, 0⟩], pers⟩ = some r' ∧
        (∀ v, r = .done v → r' = .done v) ∧ (∀ e, r = .err e → r' = .err e) ∧ (r = .panic → r' = .panic) ∧
        (∀ t i, r = .yield t i → ∃ t', r' = .yield t' i ∧ t'.stack = t.stack ∧ t'.locals = t.locals) := by
  obtain ⟨hle, F', prelude, hF2, hG, hpre⟩ := injectCaptures_prelude_partial h hw hfl
  have hFF : F' = F := by
    have := hle.fns _ _ hF
    rw [hF2] at this; cases this; rfl
  subst hFF
  intro Q hQ B a pers fuel r hrun
  have hlen : (prelude ++ F'.instrs).length < 2 ^ 64 := hsize _ hG
  have hs : InjSetup Q B f g prelude.length caps.length caps F' prelude :=
    { hF := hQ.fns _ _ hF2
      hG := hQ.fns _ _ hG
      hk := rfl
      hn := rfl
      prelude := fun S L base rest pers => hpre Q hQ B S L base rest pers
      jumps := fun pc off hj => by
        obtain ⟨h0, h1⟩ := hbody.jumps pc off hj
        refine ⟨h0, ?_⟩
        have : ((prelude ++ F'.instrs).length : Int) < 2 ^ 64 := by exact_mod_cast hlen
        simp only [List.length_append, Int.natCast_add] at this
        omega
      resets := hbody.resets }
  -- after the prelude the `g` run is in the state related to the closure's start state
  have hstart := hpre Q hQ B [a] [] 0 [] pers
  simp only [List.nil_append] at hstart
  have hR : InjRel f g prelude.length caps.length 0 caps
      ⟨[a], caps, [⟨f, 0, caps.length, 0⟩], pers⟩ ⟨[a], caps, [⟨g, 0, 0, prelude.length⟩], pers⟩ :=
    ⟨rfl, rfl, rfl, Or.inr ⟨[], 0, rfl, (by simp), (by intro fr hfr; cases hfr), (by simp), (by simp)⟩⟩
  obtain ⟨fuel1, r', hrun', hrel⟩ := inj_sim_run hs fuel hR hrun
  obtain ⟨fuel2, hrun2⟩ := run_mono_steps hstart hrun'
  refine ⟨fuel2, r', hrun2, ?_, ?_, ?_, ?_⟩
  · intro v hv; subst hv; cases hrel; rfl
  · intro e he; subst he; cases hrel; rfl
  · intro hp; subst hp; cases hrel; rfl
  · intro t i ht; subst ht
    cases hrel with
    | yield _ hRt => exact ⟨_, rfl, hRt.stack, hRt.locals⟩

/-- The `done` / `err` part in the shape of `InjectCapturesEquivStatement` (for `Flat` captures). -/
theorem injectCaptures_equiv_results {P P2 : Prog} {f g : Nat} {caps : List Val} {F : Fn}
    (h : injectCaptures P f caps = some (P2, g)) (hw : WfVals P caps) (hfl : FlatList caps)
    (hF : P.fns[f]? = some F) (hbody : BodyOK F caps.length)
    (hsize : ∀ G, P2.fns[g]? = some G → G.instrs.length < 2 ^ 64)
    (B : BuiltinSem) (a : Val) (fuel : Nat) (r : Res)
    (hrun : run P2 B fuel ⟨[a], caps, [⟨f, 0, caps.length, 0⟩], false⟩ = some r) :
    (∀ v, r = .done v → ∃ fuel', run P2 B fuel' (St.start g a) = some (.done v)) ∧
    (∀ e, r = .err e → ∃ fuel', run P2 B fuel' (St.start g a) = some (.err e)) := by
  obtain ⟨fuel', r', hrun', hd, he, _, _⟩ :=
    injectCaptures_equiv h hw hfl hF hbody hsize P2 (Prog.Le.refl _) B a false fuel r hrun
  constructor
  · intro v hv; exact ⟨fuel', by rw [← hd v hv]; exact hrun'⟩
  · intro e hev; exact ⟨fuel', by rw [← he e hev]; exact hrun'⟩

/-- The prelude theorem for *arbitrary* captures, nested
    capturing closures included (what `Program::value_to_instructions` does recursively): the injected
    function `g` is a prelude followed by the body of `f`, and its prelude stores — in order — the
    captures **rebuilt**: every capturing closure inside them is itself replaced by an injected
    capture-free function with the same property (`Rebuilt`, recursively). For captures without
    nested capturing closures `Rebuilt` is equality and this is `injectCaptures_prelude_partial`. -/
theorem injectCaptures_prelude_nested {P P2 : Prog} {f g : Nat} {caps : List Val}
    (h : injectCaptures P f caps = some (P2, g)) (hw : WfVals P caps) :
    P.Le P2 ∧ ∃ (F : Fn) (prelude : List Instr) (caps' : List Val),
      P2.fns[f]? = some F ∧
      P2.fns[g]? = some { instrs := prelude ++ F.instrs, captures := 0, typeId := F.typeId } ∧
      All2 (Rebuilt P2) caps caps' ∧ PreludeStores P2 g prelude caps' := by
  obtain ⟨P1, prelude, F, hst, hF, hle2, hget⟩ := injectCaptures_some h
  obtain ⟨hle1, caps', hreb, hstores⟩ := v2iBStores_nested caps P P1 prelude hst hw
  exact ⟨hle1.trans hle2, F, prelude, caps', hle2.fns _ _ hF, hget, Rebuilt.monoList hle2 _ _ hreb,
    (hstores.mono hle2).at_entry hget⟩

/-- Non-vacuity: a closure capturing an integer and a tuple, injected into a small program. -/
example : ∃ P2 g, injectCaptures exP 2 [.int 5, .tuple 2 [.int 6]] = some (P2, g) ∧
    (P2.fns[g]?).map (·.instrs) = some [.const 2, .store, .const 3, .tuple 2, .store, .tuple 2] := by
  refine ⟨_, _, rfl, ?_⟩
  decide +kernel

/-- **(T1, structural part) — for EVERY program and entry.** Whenever the port of `tree_shake` returns
    (the Rust does not index out of range on a dangling id), the shaken program is a structural renaming
    of the original by the rank tables the sweep builds: entry ↦ entry, every kept function is the
    instruction-by-instruction image of the original, its callable type / every kept constant, tuple,
    builtin and type entry is the image of the original entry, all five tables are injective, NIL and OK
    keep ids 0 and 1. Proved from the mark phase (`markAll_closed`: the marks are closed under reference —
    every mark added by the guarded mutual recursion of `collect_type_refs` / `collect_tuple_refs`, the BFS,
    the builtin pass and the index-only pass has what it refers to marked at the end, `markAll_grow`) and
    the sweep phase (`sweep_structRenaming`). The
    port is tied to optimisation.rs by exact equality of the produced bytecode on every program the
    harness packages (`shake:model-equals-tree_shake`). -/
theorem treeShake_structRenaming {P : Prog} {e : Nat} {out : ShakeOut} (h : treeShake P e = some out) :
    IsStructRenaming out.ren P out.prog e out.entry := by
  obtain ⟨hm, hs⟩ := treeShakeWith_some h
  exact (sweep_structRenaming hs (markAll_closed hm)).2

/-- the same for the sweep before 5a04882 — it is a structural renaming too: what it loses is not
    structure but a *table row* (see `legacy_shake_loses_process_entry`) -/
theorem treeShakeLegacy_structRenaming {P : Prog} {e : Nat} {out : ShakeOut}
    (h : treeShakeWith true P e = some out) : IsStructRenaming out.ren P out.prog e out.entry := by
  obtain ⟨hm, hs⟩ := treeShakeWith_some h
  exact (sweep_structRenaming hs (markAll_closed hm)).2

/-- The three run-time tables `tree_shake` does not produce (`isCompat`, `msgCompatFn`, `msgCompatBuiltin`: the
    loader recomputes them from the shaken type table): what remains to be known about them — per instance by
    `validateB`, in general by C08's `rename_invariant` — for the shaken program to be a full `IsRenaming`; with
    them, that `ρ.resource` maps a resource index to one with the same name. -/
structure TablesAgree (ρ : Ren) (P P' : Prog) : Prop where
  compat : ∀ f f' F, ρ.fn.get f = some f' → P.fns[f]? = some F → ∀ t, t ∈ isTypeOps F.instrs →
    ∀ t', ρ.type.get t = some t' → ∀ c c', renameTag ρ c = some c' → P.tagPresent c = true →
      P.isCompat t c = P'.isCompat t' c'
  fparam : ∀ f f', ρ.fn.get f = some f' → ∀ c c', renameTag ρ c = some c' → P.tagPresent c = true →
    P.msgCompatFn f c = P'.msgCompatFn f' c'
  bparam : ∀ b b', ρ.builtin.get b = some b' → ∀ c c', renameTag ρ c = some c' → P.tagPresent c = true →
    P.msgCompatBuiltin b c = P'.msgCompatBuiltin b' c'
  resources : ∀ r r', ρ.resource.get r = some r' → ∃ n, P.resources[r]? = some n ∧ P'.resources[r']? = some n

theorem isRenaming_of_struct {ρ : Ren} {P P1 P' : Prog} {e e' : Nat} (hs : IsStructRenaming ρ P P1 e e')
    (hfns : P'.fns = P1.fns) (hconsts : P'.consts = P1.consts) (htuples : P'.tuples = P1.tuples)
    (hbuiltins : P'.builtins = P1.builtins) (htypes : P'.types = P1.types)
    (hc : P.CanonComputed) (hc' : P'.CanonComputed) (ht : TablesAgree ρ P P') : IsRenaming ρ P P' e e' :=
  have hs' : IsStructRenaming ρ P P' e e' :=
    { hs with
      fns := hfns ▸ hs.fns, consts := hconsts ▸ hs.consts, tuples := htuples ▸ hs.tuples,
      builtins := hbuiltins ▸ hs.builtins, types := htypes ▸ hs.types }
  { hs' with
    resources := ht.resources, compat := ht.compat, fparam := ht.fparam, bparam := ht.bparam
    canon := canon_of_name_label_preservation hc hc' hs'.tuples }

/-- **(T1) Shaking preserves behaviour for all programs, inputs and execution lengths.** `P'` is the
    shaken bytecode as loaded (same six tables as `treeShake` produced, plus the recomputed lookup
    tables). If the canonical-tuple tables are the computed ones and the compatibility tables agree
    through the sweep's renaming (`TablesAgree`), then `P'` is a full `IsRenaming` of `P`, hence every run
    of `P` from the entry is matched step for step by a related run of `P'`
    (`run_commutes_with_renaming`). -/
theorem treeShake_isRenaming {P P' : Prog} {e : Nat} {out : ShakeOut} (h : treeShake P e = some out)
    (hfns : P'.fns = out.prog.fns) (hconsts : P'.consts = out.prog.consts) (htuples : P'.tuples = out.prog.tuples)
    (hbuiltins : P'.builtins = out.prog.builtins) (htypes : P'.types = out.prog.types)
    (hc : P.CanonComputed) (hc' : P'.CanonComputed) (ht : TablesAgree out.ren P P') :
    IsRenaming out.ren P P' e out.entry :=
  isRenaming_of_struct (treeShake_structRenaming h) hfns hconsts htuples hbuiltins htypes hc hc' ht

theorem treeShake_preserves_behaviour {P P' : Prog} {e : Nat} {out : ShakeOut} (h : treeShake P e = some out)
    (hfns : P'.fns = out.prog.fns) (hconsts : P'.consts = out.prog.consts) (htuples : P'.tuples = out.prog.tuples)
    (hbuiltins : P'.builtins = out.prog.builtins) (htypes : P'.types = out.prog.types)
    (hc : P.CanonComputed) (hc' : P'.CanonComputed) (ht : TablesAgree out.ren P P')
    {B B' : BuiltinSem} (hB : BuiltinsCommute out.ren B B') {a a' : Val} (ha : RelVal out.ren a a') {t : St}
    (hrun : Steps P B (St.start e a) t) (hsafe : ∀ u, Steps P B (St.start e a) u → IsTypeSafe P u) :
    ∃ t', Steps P' B' (St.start out.entry a') t' ∧ RelSt out.ren t t' := by
  have hρ := treeShake_isRenaming h hfns hconsts htuples hbuiltins htypes hc hc' ht
  exact run_commutes_with_renaming hρ hB hrun (start_related hρ ha) hsafe

/-- (T2) idempotence and (T3 ⊇: everything reachable is kept) in one formula; proved as `treeShake_statement`
    from `treeShake_idempotent`, `treeShake_idempotent_bytecode` and `treeShake_keeps_everything_reachable`.
    (T3) in both directions is `treeShake_keeps_exactly_reachable`; (T1) is `treeShake_preserves_behaviour`
    (given `TablesAgree`) and `C10.treeShake_preserves_behaviour_computed` (Theorems/C10Tables.lean: `TablesAgree`
    derived from `TablesComputed` + `PresenceKept`). The driver checks per instance that `validateB` accepts the
    port's own renaming against the real tables and that shaking the shaken program returns it unchanged
    (including the resource list). -/
def TreeShakeStatement : Prop :=
  ∀ (P : Prog) (e : Nat) (out : ShakeOut), treeShake P e = some out →
    -- T2: shaking again changes nothing and renames by the identity
    (∀ out2, treeShake out.prog out.entry = some out2 →
      bytecodeDiff out2.prog out.prog = none ∧ out2.entry = out.entry ∧ ∀ f f', out2.ren.fn.get f = some f' → f' = f) ∧
    -- T3 (⊇): the marks are closed under reference — everything reachable is kept
    Closed P e out.marks

theorem treeShake_keeps_everything_reachable {P : Prog} {e : Nat} {out : ShakeOut} (h : treeShake P e = some out) :
    out.ren = shakeRen P out.marks ∧ Closed P e out.marks := by
  obtain ⟨hm, hs⟩ := treeShakeWith_some h
  exact ⟨(sweep_structRenaming hs (markAll_closed hm)).1, markAll_closed hm⟩

theorem treeShake_marks {P : Prog} {e : Nat} {out : ShakeOut} (h : treeShake P e = some out) :
    markAll P e false = some out.marks :=
  (treeShakeWith_some h).1

/-- **(T3 ⊆) Everything kept is reachable** — the converse invariant of the mark phase: every function,
    constant, tuple, type, builtin and resource name that `tree_shake` keeps is justified by a reference
    path from the entry, the NIL / OK tuples, or the index-only rule (`Reach`, Lemmas/Packaging/Reachable.lean);
    for every program and entry. -/
theorem treeShake_keeps_only_reachable {P : Prog} {e : Nat} {out : ShakeOut} (h : treeShake P e = some out) :
    Just P e out.marks :=
  markAll_just (treeShake_marks h)

theorem treeShake_sweep {P : Prog} {e : Nat} {out : ShakeOut} (h : treeShake P e = some out) :
    sweep P e out.marks = some out :=
  (treeShakeWith_some h).2

/-- Exactness for all six kinds of marks, resource names included (`markAll_exact`). -/
theorem treeShake_marks_iff_reach {P : Prog} {e : Nat} {out : ShakeOut} (h : treeShake P e = some out) :
    (∀ f, f ∈ out.marks.fns ↔ Reach P e (.fn f)) ∧ (∀ c, c ∈ out.marks.consts ↔ Reach P e (.const c)) ∧
    (∀ u, u ∈ out.marks.tuples ↔ Reach P e (.tuple u)) ∧ (∀ t, t ∈ out.marks.types ↔ Reach P e (.ty t)) ∧
    (∀ b, b ∈ out.marks.builtins ↔ Reach P e (.builtin b)) ∧ (∀ n, n ∈ out.marks.resources ↔ Reach P e (.res n)) := by
  obtain ⟨hx, _⟩ := markAll_exact (treeShake_marks h)
  exact ⟨fun f => hx (.fn f), fun c => hx (.const c), fun u => hx (.tuple u), fun t => hx (.ty t),
    fun b => hx (.builtin b), fun n => hx (.res n)⟩

/-- **(T3) Exactness: `tree_shake` keeps exactly what is reachable.** For every program and entry on which
    the shake succeeds, a function / constant / tuple / type / builtin is kept **iff** it is reachable
    (`Reach`: the entry, NIL and OK, what kept functions' instructions name — with the first `Type::Tuple`
    entry of a constructed tuple —, what kept types / tuples / builtins refer to, and the index-only entries
    of 5a04882). Resource names: kept ⇒ reachable (both directions: `treeShake_marks_iff_reach`). -/
theorem treeShake_keeps_exactly_reachable {P : Prog} {e : Nat} {out : ShakeOut} (h : treeShake P e = some out) :
    (∀ f, f ∈ out.marks.fns ↔ Reach P e (.fn f)) ∧ (∀ c, c ∈ out.marks.consts ↔ Reach P e (.const c)) ∧
    (∀ u, u ∈ out.marks.tuples ↔ Reach P e (.tuple u)) ∧ (∀ t, t ∈ out.marks.types ↔ Reach P e (.ty t)) ∧
    (∀ b, b ∈ out.marks.builtins ↔ Reach P e (.builtin b)) ∧ (∀ n, n ∈ out.marks.resources → Reach P e (.res n)) := by
  obtain ⟨a, b, c, d, f, g⟩ := treeShake_marks_iff_reach h
  exact ⟨a, b, c, d, f, fun n => (g n).mp⟩

/-- **(T2, semantic half) The shaken program has no dead entry.** Every function, constant, tuple, type and builtin of
    `tree_shake(P, e)` is reachable from the new entry IN the shaken program — for every program and entry.
    (`reach_transfer`: reachability transfers along the sweep's renaming, including the "first `Type::Tuple` entry"
    rule — the sweep is order preserving, `shake_first_tuple` — and the index-only rule; `rank_onto`: every index of a
    shaken table is the rank of a kept id; `markAll_nodup`: the marks are duplicate-free.) -/
theorem treeShake_result_has_no_dead_entries {P : Prog} {e : Nat} {out : ShakeOut} (h : treeShake P e = some out) :
    (∀ f, f < out.prog.fns.size → Reach out.prog out.entry (.fn f)) ∧
    (∀ c, c < out.prog.consts.size → Reach out.prog out.entry (.const c)) ∧
    (∀ u, u < out.prog.tuples.size → Reach out.prog out.entry (.tuple u)) ∧
    (∀ t, t < out.prog.types.size → Reach out.prog out.entry (.ty t)) ∧
    (∀ b, b < out.prog.builtins.size → Reach out.prog out.entry (.builtin b)) :=
  shaken_all_reachable (treeShake_marks h) (treeShake_sweep h)

/-- **(T2) A second shake drops nothing**: if `tree_shake` is run again on its own output, every function, constant,
    tuple, type and builtin of that output is marked (kept) — for every program and entry. The syntactic rest of
    idempotence is `treeShake_idempotent`. -/
theorem treeShake_second_shake_drops_nothing {P : Prog} {e : Nat} {out out2 : ShakeOut}
    (h : treeShake P e = some out) (h2 : treeShake out.prog out.entry = some out2) :
    (∀ f, f < out.prog.fns.size → f ∈ out2.marks.fns) ∧ (∀ c, c < out.prog.consts.size → c ∈ out2.marks.consts) ∧
    (∀ u, u < out.prog.tuples.size → u ∈ out2.marks.tuples) ∧ (∀ t, t < out.prog.types.size → t ∈ out2.marks.types) ∧
    (∀ b, b < out.prog.builtins.size → b ∈ out2.marks.builtins) := by
  obtain ⟨a, b, c, d, f⟩ := treeShake_result_has_no_dead_entries h
  obtain ⟨a2, b2, c2, d2, f2, _⟩ := treeShake_keeps_exactly_reachable h2
  exact ⟨fun x hx => (a2 x).mpr (a x hx), fun x hx => (b2 x).mpr (b x hx), fun x hx => (c2 x).mpr (c x hx),
    fun x hx => (d2 x).mpr (d x hx), fun x hx => (f2 x).mpr (f x hx)⟩

/-- **(T2) Idempotence of `tree_shake`**: shaking the shaken program again returns the same five tables, the same
    entry and identity remap tables — for every program and entry. (`treeShake_second_shake_drops_nothing`: all ids
    are marked again; the marks are duplicate-free and inside the tables, so each sorted mark list is `range n`
    (`sorted_eq_range`); a sweep under identity tables is the identity (`sweep_full_identity`).) The `resources` list
    is `treeShake_idempotent_bytecode`. -/
theorem treeShake_idempotent {P : Prog} {e : Nat} {out out2 : ShakeOut}
    (h : treeShake P e = some out) (h2 : treeShake out.prog out.entry = some out2) :
    out2.prog.fns = out.prog.fns ∧ out2.prog.consts = out.prog.consts ∧ out2.prog.tuples = out.prog.tuples ∧
    out2.prog.types = out.prog.types ∧ out2.prog.builtins = out.prog.builtins ∧ out2.entry = out.entry ∧
    (∀ f f', out2.ren.fn.get f = some f' → f' = f) ∧ (∀ c c', out2.ren.const.get c = some c' → c' = c) ∧
    (∀ u u', out2.ren.tuple.get u = some u' → u' = u) ∧ (∀ t t', out2.ren.type.get t = some t' → t' = t) ∧
    (∀ b b', out2.ren.builtin.get b = some b' → b' = b) := by
  obtain ⟨k1, k2, k3, k4, k5⟩ := treeShake_second_shake_drops_nothing h h2
  have hm2 := treeShake_marks h2
  have hsw := treeShake_sweep h2
  obtain ⟨n1, n2, n3⟩ := markAll_nodup hm2
  have hc2 := markAll_closed hm2
  obtain ⟨r1, r2, r3, r4, r5⟩ := sweep_inRange hsw
  have full : ∀ (l : List Nat) (n : Nat), l.Nodup → (∀ i ∈ sortAsc l, i < n) → (∀ x, x < n → x ∈ l) →
      sortAsc l = List.range n := by
    intro l n hn hin hall
    refine sorted_eq_range (sortAsc_sorted l) (sortAsc_nodup hn) (fun x => ⟨fun hx => hin x hx, fun hx => ?_⟩)
    exact mem_sortAsc.mpr (hall x hx)
  exact sweep_full_identity hsw
    (full _ _ n1 r1 k1) (full _ _ n2 r2 k2) (full _ _ hc2.nodupTuples r3 k3) (full _ _ hc2.nodupTypes r4 k4)
    (full _ _ n3 r5 k5)

/-- **The fuel of the port never runs out.** The mark phase is total — for every
    program, entry (and variant) `markAll` returns marks: the two recursive collectors with `collectFuel` (potential
    argument: every nested call beyond a guard marks a new id, and the cost of an id pays for its child list,
    `collectType_total` / `Phi_le_fuel`), the BFS with `bfsFuel` (every queue entry was pushed by an instruction of a
    newly marked function, `markFns_total`). Hence `treeShake P e` is exactly the sweep on those marks, and `none` can
    only come from the sweep: an index outside its table, where the Rust panics (`bytecode.functions[old_id]`, `.unwrap()`
    on an unmarked operand). -/
theorem treeShake_fuel_suffices (P : Prog) (e : Nat) :
    ∃ m, markAll P e false = some m ∧ treeShake P e = sweep P e m := by
  obtain ⟨m, hm⟩ := markAll_total P e false
  refine ⟨m, hm, ?_⟩
  unfold treeShake treeShakeWith
  rw [hm]

/-- **(T2, complete) the second shake returns the same bytecode**: all six tables (the resource-name list included),
    i.e. `bytecodeDiff = none`. -/
theorem treeShake_idempotent_bytecode {P : Prog} {e : Nat} {out out2 : ShakeOut}
    (h : treeShake P e = some out) (h2 : treeShake out.prog out.entry = some out2) :
    bytecodeDiff out2.prog out.prog = none := by
  obtain ⟨a, b, c, d, f, _⟩ := treeShake_idempotent h h2
  have r := second_shake_resources (treeShake_marks h) (treeShake_sweep h) (treeShake_marks h2) (treeShake_sweep h2)
  simp [bytecodeDiff, a, b, c, d, f, r]

/-- **`TreeShakeStatement` holds**: (T2) idempotence and (T3 ⊇) for every program and entry. -/
theorem treeShake_statement : TreeShakeStatement := by
  intro P e out h
  refine ⟨fun out2 h2 => ?_, (treeShake_keeps_everything_reachable h).2⟩
  obtain ⟨_, _, _, _, _, he, hf, _⟩ := treeShake_idempotent h h2
  exact ⟨treeShake_idempotent_bytecode h h2, he, hf⟩

/-- A spawning program in miniature: the entry spawns function 1, whose callable type (entry 1) receives
    and returns `'int`; the process type of the pids it creates is entry 2 — named by no instruction
    (index-only). -/
def exF13 : Prog :=
  { consts := #[],
    fns := #[{ instrs := [.function 1, .spawn], captures := 0, typeId := 1 },
             { instrs := [], captures := 0, typeId := 1 }],
    builtins := #[],
    tuples := #[⟨none, []⟩, ⟨some "Ok", []⟩],
    types := #[.int, .callable 0 0 0, .process (some 0) (some 0)],
    resources := #[], compat := [], canon := #[] }

/-- **Witness for F13**: the sweep before 5a04882 drops the index-only `Type::Process` entry, so in the
    shaken program the pid's tag type has no entry (`tagPresent = false`: every type test / mailbox filter
    on such a pid fails), although it has one in the source; the current sweep keeps it. Both are
    structural renamings (`treeShakeLegacy_structRenaming`) — the break is in `TablesAgree`, which is why
    (T1) cannot be had without it. -/
theorem legacy_shake_loses_process_entry :
    exF13.tagPresent (.proc 1) = true ∧
    ((treeShakeWith true exF13 0).map (fun o => (o.prog.types.size, o.prog.tagPresent (.proc 1)))) = some (2, false) ∧
    ((treeShake exF13 0).map (fun o => (o.prog.types.size, o.prog.tagPresent (.proc 1)))) = some (3, true) := by
  decide +kernel

/-- What a source program must satisfy for `merge_bytecode` to be a renaming at all (all three hold for
    bytecode built through `Program::register_*` by the compiler; none is checked by the Rust):
    * `backward`: a function refers only to functions with a SMALLER index — `remap_function` is applied
      while the function table is still being merged and falls back to the source index
      (`.unwrap_or(idx)`) for a function that has not been merged yet;
    * `noProcessLiteral`: `Instruction::Process(pid, f)` is not remapped at all (its `f` is already an
      environment index: REPL-only);
    * `dedup`: the source tables are duplicate-free (otherwise two source ids are merged into one and the
      remap tables are not injective). -/
structure MergeableSource (src : Prog) : Prop where
  backward : ∀ (i : Nat) (F : Fn), src.fns[i]? = some F → ∀ g, Instr.function g ∈ F.instrs → g < i
  noProcessLiteral : ∀ (i : Nat) (F : Fn), src.fns[i]? = some F → ∀ pid g, Instr.process pid g ∉ F.instrs
  dedup : src.consts.toList.Nodup ∧ src.fns.toList.Nodup ∧ src.types.toList.Nodup ∧ src.tuples.toList.Nodup ∧
    (src.builtins.toList.map (·.name)).Nodup

/-- The unconditioned statement: merging a `MergeableSource` into any environment program gives a structural
    renaming of `src` by the remap tables of the merge. No theorem of this type is proved. `merge_isRenaming`
    proves the conclusion `IsStructRenaming out.ren src out.prog e out.entry` from
    `mergeBytecode env src e = some out` under explicit hypotheses: `SrcWf src` (`backward`, `noProcessLiteral` and
    every operand inside the source tables), `hd` (= `dedup`), `hk` (no key bound twice in the final type / tuple
    memo tables), `Stratified src rT rU` (a rank decreasing along type references), `hfix` (NIL and OK are the
    field-less tuples 0 and 1 of both programs), `hout` (the merged tuple table is duplicate-free), `hbt` (a builtin
    already loaded under the same name has the renamed parameter / result types). Its two ingredients:
    memo-consistency of the deep import (`merge_types_tuples`, Lemmas/Packaging/MergeLoops.lean: every memoised
    id's entry in the target is the image of the source entry under the FINAL maps) and injectivity of the remap
    tables (`type_tuple_maps_inj`, `fn_map_inj`, Lemmas/Packaging/MergeInj.lean). The port `mergeBytecode`
    (Core/Packaging/Merge.lean) is tied to environment.rs by exact equality of the environment's program after
    every merge the harness performs, and every instance is validated with the port's own tables
    (`merge:model-equals-merge_bytecode`). The seeded fast path breaks the conclusion
    (`merge_fast_path_breaks_renaming`). -/
def MergeIsRenamingStatement : Prop :=
  ∀ (env src : Prog) (e : Nat) (out : MergeOut), MergeableSource src → mergeBytecode env src e = some out →
    IsStructRenaming out.ren src out.prog e out.entry

/-- two independently compiled programs whose type 1 is *structurally* the same entry `Union[0]` —
    but type 0 is `'int` in the environment and `'bin` in the incoming program -/
def exEnv : Prog :=
  { consts := #[], fns := #[], builtins := #[], tuples := #[⟨none, []⟩, ⟨some "Ok", []⟩],
    types := #[.int, .union [0]], resources := #[], compat := [], canon := #[] }

def exSrc : Prog :=
  { consts := #[], fns := #[{ instrs := [.isType 1], captures := 0, typeId := 1 }], builtins := #[],
    tuples := #[⟨none, []⟩, ⟨some "Ok", []⟩],
    types := #[.bin, .union [0]], resources := #[], compat := [], canon := #[] }

/-- **Witness for seeded C08-3** (`import_type` fast path: "a structurally equal entry at the same index
    maps to itself"): with the fast path the incoming program's `Union['bin]` (type 1) is identified
    with the environment's `Union['int]` — the `types` clause of the renaming fails for it — while the
    real deep import registers a new entry `Union[2]` behind a new `'bin` at 2 and validates. -/
theorem merge_fast_path_breaks_renaming :
    ((mergeBytecodeWith true exEnv exSrc 0).map (fun o =>
        (o.ren.type.get 1, o.prog.types.toList, o.ren.type.all (typeOK o.ren exSrc o.prog)))) =
      some (some 1, [.int, .union [0], .bin], false) ∧
    ((mergeBytecode exEnv exSrc 0).map (fun o =>
        (o.ren.type.get 1, o.prog.types.toList, o.ren.type.all (typeOK o.ren exSrc o.prog)))) =
      some (some 3, [.int, .union [0], .bin, .union [2]], true) := by
  decide +kernel

/-- **Memo-consistency of the deep import under the final remap tables.** For
    every environment, every incoming program and every entry on which `merge_bytecode` succeeds: every source
    type id and tuple id is mapped, and its image in the merged program is the source entry renamed through
    the FINAL `type_remap` / `tuple_remap` — the `types` and `tuples` clauses of `IsStructRenaming`
    (`MergeIsRenamingStatement`). Hypothesis `hk` (of every merge theorem; proved nowhere): no id is bound twice in the
    final memo tables (decided per instance by the driver, `keys-distinct`; a re-binding would mean that an id was
    imported a second time while its own children were being imported).
    `merge_fast_path_breaks_renaming` shows that with the seeded fast path the `types` clause fails. -/
theorem merge_isRenaming_types_tuples {env src : Prog} {e : Nat} {out : MergeOut}
    (h : mergeBytecode env src e = some out)
    (hk : (out.ren.type.map (·.1)).Nodup ∧ (out.ren.tuple.map (·.1)).Nodup) :
    (∀ t t', out.ren.type.get t = some t' →
      ∃ τ τ', src.types[t]? = some τ ∧ out.prog.types[t']? = some τ' ∧ renameTy out.ren τ = some τ') ∧
    (∀ t t', out.ren.tuple.get t = some t' →
      ∃ T T', src.tuples[t]? = some T ∧ out.prog.tuples[t']? = some T' ∧ T'.name = T.name ∧
        T'.fields.map (·.1) = T.fields.map (·.1) ∧
        mapOpt (fun (p : Option String × Nat) => out.ren.type.get p.2) T.fields = some (T'.fields.map (·.2))) ∧
    (∀ t, t < src.types.size → ∃ t', out.ren.type.get t = some t') ∧
    (∀ u, u < src.tuples.size → ∃ u', out.ren.tuple.get u = some u') :=
  merge_types_tuples h hk

/-- **Merging never disturbs what is already loaded.** Every constant, function, tuple, type and builtin index
    of the environment's program denotes the same entry after `merge_bytecode` (all five tables only grow at the
    end) — for every environment, incoming program and entry, without hypothesis. Hence a process that is
    running code of an earlier program finds the same entries under its indices after any later merge. (The five
    tables only: the lookup tables `compat`, `canon`, `fparam`, `bparam` and the resource list are recomputed for the
    whole program on load and are not part of this statement.) -/
theorem merge_never_disturbs_loaded_programs {env src : Prog} {e : Nat} {out : MergeOut}
    (h : mergeBytecode env src e = some out) : ProgLe5 env out.prog :=
  merge_extends_env h

/-- **Every image clause of `MergeIsRenamingStatement`**, for every environment and every
    well-formed incoming program (`SrcWf`: operands inside the program's own tables, functions refer to earlier
    functions only, no `Process` literal — what `remap_function`'s `.unwrap_or(idx)` silently relies on) on which
    `merge_bytecode` succeeds without re-binding a memo key (`hk`, decided per merge by the driver):
    * the entry is mapped to the reported entry; every source function id is mapped;
    * `fns`: the merged function is the source function renamed instruction by instruction through the FINAL tables,
      same captures, type id renamed;
    * `consts`, `types`, `tuples` (`merge_isRenaming_types_tuples`): the image entry is the renamed source entry;
    * `builtins`: the image has the same NAME (`register_builtin_info` lets a loaded builtin of that name win).
    The remaining clauses of `IsStructRenaming` — injectivity of the five maps, NIL / OK fixed, parameter / result
    types of builtins — are in `merge_isRenaming`, under further hypotheses. -/
theorem merge_isRenaming_partial {env src : Prog} {e : Nat} {out : MergeOut}
    (h : mergeBytecode env src e = some out) (hw : SrcWf src)
    (hk : (out.ren.type.map (·.1)).Nodup ∧ (out.ren.tuple.map (·.1)).Nodup) :
    out.ren.fn.get e = some out.entry ∧
    (∀ f f', out.ren.fn.get f = some f' → ∃ F F', src.fns[f]? = some F ∧ out.prog.fns[f']? = some F' ∧
      F'.captures = F.captures ∧ renameInstrs out.ren F.instrs = some F'.instrs ∧
      out.ren.type.get F.typeId = some F'.typeId) ∧
    (∀ c c', out.ren.const.get c = some c' → ∃ k, src.consts[c]? = some k ∧ out.prog.consts[c']? = some k) ∧
    (∀ b b', out.ren.builtin.get b = some b' → ∃ B B', src.builtins[b]? = some B ∧ out.prog.builtins[b']? = some B' ∧
      B'.name = B.name) ∧
    (∀ f, f < src.fns.size → ∃ f', out.ren.fn.get f = some f') :=
  merge_image_clauses h hw hk

/-- **`merge_bytecode` is a structural renaming** of the incoming program into the environment's
    program after the merge — `MergeIsRenamingStatement` with every side condition explicit — for every environment,
    every incoming program and every entry on which the merge succeeds:
    * `SrcWf src` (operands in range, backward function references, no `Process` literal) and duplicate-free source
      tables (`hd`; builtins by name) — `MergeableSource` plus range conditions; decided per merge by the driver;
    * `hk`: no id bound twice in the final memo tables (decided per merge);
    * `Stratified src rT rU`: the source type graph has a rank that decreases along references (what makes the
      injectivity induction go through; true when referents are registered first);
    * `hfix`: NIL and OK are the field-less tuples 0 and 1 of both programs; `hout`: the merged tuple table is
      duplicate-free (what `register_tuple` maintains);
    * `hbt`: a builtin that was already loaded under that name has the renamed parameter / result types (names
      determine builtins).
    Proved: the image clauses (`merge_isRenaming_partial`, by memo-consistency of the deep import), injectivity of all
    five remap tables (`type_tuple_maps_inj` by induction along the stratification with `renameTy_inj`, `fn_map_inj`
    by induction over the function index with `renameInstr_inj`, constants / builtins from duplicate-freeness),
    NIL / OK fixed. With the table clauses (`isRenaming_of_struct`) this gives `IsRenaming`, hence
    `run_commutes_with_renaming` for merged programs. -/
theorem merge_isRenaming {env src : Prog} {e : Nat} {out : MergeOut}
    (h : mergeBytecode env src e = some out) (hw : SrcWf src)
    (hk : (out.ren.type.map (·.1)).Nodup ∧ (out.ren.tuple.map (·.1)).Nodup)
    {rT rU : Nat → Nat} (hs : Stratified src rT rU)
    (hd : src.consts.toList.Nodup ∧ src.fns.toList.Nodup ∧ src.types.toList.Nodup ∧ src.tuples.toList.Nodup ∧
      (src.builtins.toList.map (·.name)).Nodup)
    (hfix : ∀ i, i < 2 → ∃ T : TupleInfo, T.fields = [] ∧ src.tuples[i]? = some T ∧ env.tuples[i]? = some T)
    (hout : out.prog.tuples.toList.Nodup)
    (hbt : ∀ b b' B B', out.ren.builtin.get b = some b' → src.builtins[b]? = some B → out.prog.builtins[b']? = some B' →
      out.ren.type.get B.paramType = some B'.paramType ∧ out.ren.type.get B.resultType = some B'.resultType) :
    IsStructRenaming out.ren src out.prog e out.entry :=
  merge_isStructRenaming h hw hk hs hd hfix hout hbt

/-- **(T1 for merge) Merging preserves behaviour for all inputs and execution lengths.** `P'` is the environment's program
    after the merge as the workers see it (the five tables of `merge_bytecode` that the hypotheses tie, plus the recomputed lookup tables).
    Under the side conditions of `merge_isRenaming`, with computed canonical-tuple tables and compatibility tables that
    agree through the remap tables (`TablesAgree`, validated on every merge of the run; its core for every program is
    `C10.merge_keeps_every_tag_verdict`), every run of the incoming program from its entry is matched step for step by a
    related run of the merged program from the remapped entry. -/
theorem merge_preserves_behaviour {env src P' : Prog} {e : Nat} {out : MergeOut}
    (h : mergeBytecode env src e = some out) (hw : SrcWf src)
    (hk : (out.ren.type.map (·.1)).Nodup ∧ (out.ren.tuple.map (·.1)).Nodup)
    {rT rU : Nat → Nat} (hs : Stratified src rT rU)
    (hd : src.consts.toList.Nodup ∧ src.fns.toList.Nodup ∧ src.types.toList.Nodup ∧ src.tuples.toList.Nodup ∧
      (src.builtins.toList.map (·.name)).Nodup)
    (hfix : ∀ i, i < 2 → ∃ T : TupleInfo, T.fields = [] ∧ src.tuples[i]? = some T ∧ env.tuples[i]? = some T)
    (hout : out.prog.tuples.toList.Nodup)
    (hbt : ∀ b b' B B', out.ren.builtin.get b = some b' → src.builtins[b]? = some B → out.prog.builtins[b']? = some B' →
      out.ren.type.get B.paramType = some B'.paramType ∧ out.ren.type.get B.resultType = some B'.resultType)
    (hfns : P'.fns = out.prog.fns) (hconsts : P'.consts = out.prog.consts) (htuples : P'.tuples = out.prog.tuples)
    (hbuiltins : P'.builtins = out.prog.builtins) (htypes : P'.types = out.prog.types)
    (hc : src.CanonComputed) (hc' : P'.CanonComputed) (ht : TablesAgree out.ren src P')
    {B B' : BuiltinSem} (hB : BuiltinsCommute out.ren B B') {a a' : Val} (ha : RelVal out.ren a a') {t : St}
    (hrun : Steps src B (St.start e a) t) (hsafe : ∀ u, Steps src B (St.start e a) u → IsTypeSafe src u) :
    ∃ t', Steps P' B' (St.start out.entry a') t' ∧ RelSt out.ren t t' := by
  have hρ := isRenaming_of_struct (merge_isRenaming h hw hk hs hd hfix hout hbt) hfns hconsts htuples hbuiltins htypes
    hc hc' ht
  exact run_commutes_with_renaming hρ hB hrun (start_related hρ ha) hsafe

end C10
