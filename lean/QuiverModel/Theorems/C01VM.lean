import QuiverModel.Lemmas.Soundness.WellTaggedStep
import QuiverModel.Theorems.C12Sigs
import QuiverModel.Lemmas.Types.InhLemmas
/-
C01, VM side — `wellTagged_preserved`: the runtime invariant "every tuple value is what its tag
claims" (`QM.Soundness.WT`: arity of the tuple id, every field inside the declared field type in the
sense of C09's `inh`) is preserved by every instruction of C07's M-VM, given the instruction's
*obligation*; the obligation is `True` for 21 of the 24 instructions.

This isolates, as explicit hypotheses, what has to be discharged from outside the VM:
  * `Tuple(id)` — THE COMPILER: the values packed are typed like the fields of the tuple id it chose
    (`FieldsTyped`); every tuple-literal / spread / ripple site of the compiler emits one;
  * `Call` of a builtin — THE BUILTINS: the result is well tagged (C12's
    `result_inhabits_declared_spec` for the pure families; effects by their registered signature);
  * `Select`, and the event `deliver` (`deliver_preserves`) — THE REST OF THE SYSTEM: an awaited
    result, a message is a well-tagged value of another process (the same invariant there). The
    events `spawned` and `effectDone` of `QM.VM.transition` have no lemma here.
`Call`, `TailCall`, `Send`, `Spawn` carry NO obligation for well-taggedness: they move values and
re-tag nothing. The compiler's guards at those points (`is_compatible` / `unify`: `guardAt`,
`call_guard_nongeneric_sound`, `guard_unify_sound_partial` in Theorems/C01.lean; missing at `TailCall`,
F5) are about a different thing — that the moved value lies in the DECLARED type of the slot it arrives
in. That per-slot typing is established by the compiler's inference (modelled for a fragment in
`Core/Soundness/Infer.lean`; its soundness theorem `C01.infer_sound_fragment` speaks of the reference
evaluator, not of this VM); what this file contributes is that the *meaning* of such a typing —
`inh T [] t (erase v)` for a well-tagged `v` — is stable: the VM never changes a value, it only builds
new tuples at `Tuple(id)`.
-/
namespace C01
open QM.Types QM.VM QM.Soundness

/-- one instruction; `Obligation` is `Core/Soundness/WellTagged.lean`'s. -/
theorem wellTagged_preserved {T : Table} {D : Decls} (hT : TableInit T) (O : Oracle) (P : Prog)
    (p p' : Proc) (a : Option Action) (i : Instr)
    (h : stepInstr O P p i = .ok (p', a)) (hp : ProcWT T D p) (hob : Obligation T D O P p i) :
    ProcWT T D p' ∧ ActionWT T D a := by
  cases i with
  | constant i => exact wt_constant h hp
  | pop => exact wt_pop h hp
  | duplicate => exact wt_duplicate h hp
  | pick n => exact wt_pick h hp
  | rotate n => exact wt_rotate h hp
  | reset n => exact wt_reset h hp
  | load i => exact wt_load h hp
  | store => exact wt_store h hp
  | tuple id => exact wt_tuple (O := O) h hp hob
  | get i => exact wt_get h hp
  | isType id => exact wt_isType hT h hp
  | jump off => exact wt_jump h hp
  | jumpIf off => exact wt_jumpIf h hp
  | call => exact wt_call h hp hob
  | tailCall r => exact wt_tailCall h hp
  | function i => exact wt_function h hp
  | builtin i => exact wt_builtinRef h hp
  | equal n => exact wt_equal hT h hp
  | not => exact wt_not hT h hp
  | spawn => exact wt_spawn h hp
  | send => exact wt_send h hp
  | self_ => exact wt_self h hp
  | select => exact wt_select h hp hob
  | process pid fidx => exact wt_processRef h hp

/-- the obligation is trivial except at `Tuple(id)`, `Call` and `Select`. -/
theorem obligation_trivial {T : Table} {D : Decls} (O : Oracle) (P : Prog) (p : Proc) (i : Instr)
    (h1 : ∀ id, i ≠ .tuple id) (h2 : i ≠ .call) (h3 : i ≠ .select) : Obligation T D O P p i := by
  cases i <;> first | trivial | (exfalso; first | exact h1 _ rfl | exact h2 rfl | exact h3 rfl)

/-- in particular `TailCall`, `Send` and `Spawn` carry no obligation (`Call`: next lemma). -/
theorem entry_points_move_values {T : Table} {D : Decls} (O : Oracle) (P : Prog) (p : Proc) (r : Bool) :
    Obligation T D O P p (.tailCall r) ∧ Obligation T D O P p .send ∧ Obligation T D O P p .spawn :=
  ⟨trivial, trivial, trivial⟩

/-- at `Call` the obligation concerns builtins only: calling a closure needs nothing. -/
theorem call_of_closure_needs_nothing {T : Table} {D : Decls} (O : Oracle) (P : Prog) (p : Proc)
    (fi : Nat) (caps : ValList) (rest : List Val) (h : p.stack = .fn fi caps :: rest) :
    Obligation T D O P p .call := by
  intro id param rest' v hstk
  rw [h] at hstk
  cases hstk

/-- the frame auto-pop and the "finished" bookkeeping keep the invariant. -/
theorem popFrame_preserves {T : Table} {D : Decls} (p : Proc) (hp : ProcWT T D p) : ProcWT T D (popFrame p) := by
  unfold popFrame
  split
  · exact hp
  · refine hp.update (by simpa using hp.stack) ?_ rfl rfl rfl
    simp only
    split
    · exact hp.locals.take _
    · exact hp.locals

theorem finish_preserves {T : Table} {D : Decls} (p : Proc) (hp : ProcWT T D p) : ProcWT T D (finish p) := by
  unfold finish
  split
  · exact hp
  · split
    · exact ⟨hp.stack, hp.locals, hp.mailbox, hp.sources, hp.receiving, fun v hv => by simp at hv⟩
    · rename_i v s hs
      have hst : ListWT T D (v :: s) := hs ▸ hp.stack
      refine ⟨hst.tail, hp.locals, hp.mailbox, hp.sources, hp.receiving, ?_⟩
      intro w hw
      simp only [Option.some.injEq, Except.ok.injEq] at hw
      exact hw ▸ hst.head

/-- the events by which the rest of the system hands a value to a process keep the invariant when
that value is well tagged. -/
theorem deliver_preserves {T : Table} {D : Decls} (P : Prog) (p p' : Proc) (a : Option Action) (m : Val)
    (h : transition P p (.deliver m) = some (.ok (p', a))) (hp : ProcWT T D p) (hm : WT T D m) :
    ProcWT T D p' := by
  simp only [transition, Option.some.injEq] at h
  cases h
  exact ⟨hp.stack, hp.locals, hp.mailbox.append (ListWT.cons hm ListWT.nil), hp.sources, hp.receiving, hp.result⟩

/-! ### The hypotheses are satisfiable (and the obligation at `Tuple(id)` is not vacuous)

table: tuple 0 nil, 1 Ok, 2 `P['int, 'bin]`; types 0 'int, 1 'bin. Packing `[7, <bin>]` into `P`
is allowed; packing `[<bin>, 7]` violates the obligation. -/
def tWT : Table :=
  { types := [.integer, .binary],
    tuples := [⟨none, []⟩, ⟨some 1, []⟩, ⟨some 5, [(none, 0), (none, 1)]⟩] }

def dWT : Decls := ⟨fun _ => 0, fun _ => 0, fun _ => 0⟩

example : TableInit tWT := ⟨⟨none, rfl⟩, ⟨some 1, rfl⟩⟩

example : WT tWT dWT (.tup 2 (.cons (.int 7) (.cons (.bin (.const 0)) .nil))) := by
  refine ⟨_, rfl, ?_⟩
  simp only [FieldsWT, WT, true_and, and_true]
  exact ⟨⟨2, by decide +kernel⟩, ⟨2, by decide +kernel⟩⟩

example : FieldsTyped tWT dWT [(none, 0), (none, 1)] [.int 7, .bin (.const 0)] := by
  simp only [FieldsTyped, and_true]
  exact ⟨⟨2, by decide +kernel⟩, ⟨2, by decide +kernel⟩⟩

/-- a binary is not an integer, for any fuel: the swapped packing is NOT permitted. -/
example : ¬ FieldsTyped tWT dWT [(none, 0), (none, 1)] [.bin (.const 0), .int 7] := by
  rintro ⟨h, _⟩
  obtain ⟨z, hz⟩ := (QM.Types.inh_integer (T := tWT) (t := 0) rfl).mp h
  cases hz

/-! ### `builtin_result_typed` — the obligation at `Call` of a pure builtin

Tied to the signature table REGENERATED from the live registry (`Generated/BuiltinSigs.lean`, written
by `gen_builtins` before every build — `pregen` in props/C01.json): for every pure builtin of the
registry that the builtins model (C12) covers, for every argument, a successful result is an
integer, a binary or nil — hence a well-tagged VM value — and inhabits the result `TypeSpec` the
registry declares (C12's `result_inhabits_declared_spec`). If a signature changes in the code this
no longer checks. -/

/-- the VM value of a builtin result (binary handles are irrelevant to tagging). -/
def resultVal : QM.Builtins.BArg → Val
  | .int z => .int z
  | .bin _ => .bin (.heap 0)
  | .tup [] => Val.nil
  | .tup (_ :: _) => Val.nil

theorem builtin_result_typed {T : Table} {D : Decls} (hT : TableInit T)
    (e : String × QM.Builtins.TSpec × QM.Builtins.TSpec × Bool)
    (he : e ∈ QM.Generated.builtinSigs) (hp : e.2.2.2 = true)
    (hm : (QM.Builtins.modelSig e.1).isSome = true) (arg v : QM.Builtins.BArg)
    (h : QM.Builtins.callBuiltin e.1 arg = some (.ok v)) :
    WT T D (resultVal v) ∧ QM.Builtins.inh e.2.2.1 v = true ∧
      ((∃ z, v = .int z) ∨ (∃ r, v = .bin r) ∨ v = .tup []) := by
  refine ⟨?_, C12.result_inhabits_declared_spec e he hp hm arg v h, ?_⟩
  · cases v with
    | int z => simp [resultVal, WT]
    | bin r => simp [resultVal, WT]
    | tup fs => cases fs <;> exact wt_nil hT
  · cases hs : QM.Builtins.modelSig e.1 with
    | none => rw [hs] at hm; cases hm
    | some pk =>
      obtain ⟨pp, k⟩ := pk
      have hk := QM.Builtins.callBuiltin_result_kind e.1 arg v pp k hs h
      cases k <;> cases v with
      | int z => first | exact Or.inl ⟨z, rfl⟩ | exact hk.elim
      | bin r => first | exact Or.inr (Or.inl ⟨r, rfl⟩) | exact hk.elim
      | tup fs =>
        cases fs with
        | nil => first | exact Or.inr (Or.inr rfl) | exact hk.elim
        | cons _ _ => exact hk.elim

/-- hence the `Call` obligation holds for an oracle that answers pure builtins as the model does. -/
theorem call_obligation_of_model {T : Table} {D : Decls} (hT : TableInit T) (O : Oracle) (P : Prog) (p : Proc)
    (hO : ∀ id param v, O.builtin id param = .value v →
      ∃ e ∈ QM.Generated.builtinSigs, e.2.2.2 = true ∧ (QM.Builtins.modelSig e.1).isSome = true ∧
        ∃ arg r, QM.Builtins.callBuiltin e.1 arg = some (.ok r) ∧ v = resultVal r) :
    Obligation T D O P p .call := by
  intro id param rest v _ hv
  obtain ⟨e, he, hp, hm, arg, r, hc, rfl⟩ := hO id param v hv
  exact (builtin_result_typed hT e he hp hm arg r hc).1

end C01
