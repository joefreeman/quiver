/-
C18 / C17 — theorems about the TYPE-EXPRESSION sub-language (model: `Core/Parse/Type.lean`, a port of
the "Type parsers" of `parser.rs` and of the type printer of `format.rs`; lemmas under
`Lemmas/Parse/`). For every input text / every type AST, no bound on sizes or depths.

In order: the fuel that ties the recursive knot does not matter (`fuel_suffices`, `fuel_monotone`,
`fuel_irrelevant`); the left-factored grammar (/repo 33df1c7, defect C18-F1) and the grammar that reads
the receive type once (/repo 1d93429, the code) are the same functions as the grammar with the separate
`(`-alternatives (/repo before 33df1c7); every text yields a
type or a located error (T1: `parseType_total`, …); what the parsers return is well-formed (`WFType`);
printing then parsing gives the type back (T2: `roundtrip` = `RoundTripStatement`), with two printing
rules of earlier states of /repo that break this; printing is idempotent (T3: `print_idempotent`); an alias
STATEMENT through `format_program` (`alias_statement_roundtrip`).
-/
import QuiverModel.Lemmas.Parse.AliasText
import QuiverModel.Lemmas.Parse.WF
namespace C18Types
open QM.Parse QM.Text

/-- With fuel above the input length `type_definition` never runs out of fuel
    (every recursive call of the grammar sits behind a consumed character). -/
theorem fuel_suffices (i : Str) (n : Nat) (h : i.length < n) : typeDefinition n i ≠ .out :=
  (knot_safe n).1.tot i h

/-- An answer obtained with some fuel is the answer with any larger fuel. -/
theorem fuel_monotone (i : Str) (n m : Nat) (h : n ≤ m) (hne : typeDefinition n i ≠ .out) :
    typeDefinition m i = typeDefinition n i :=
  (knot_mono_le h).1 i hne

/-- Every sufficient fuel gives the answer of `parseType` (fuel `length + 1`). -/
theorem fuel_irrelevant (i : Str) (n : Nat) (h : i.length < n) : typeDefinition n i = parseType i := by
  unfold parseType
  exact fuel_monotone i (i.length + 1) n (by omega) (fuel_suffices i _ (by omega))

example : parseType "'a".toList ≠ .out := fuel_suffices _ _ (Nat.lt_succ_self _)

/-! ## The left-factored grammar is the same function

`parseTypeF` is the model of /repo 33df1c7 (defect C18-F1): `base_type`, `function_input_type` and
`function_output_type` give every `(`-headed type to ONE function that parses the field list once
and decides afterwards. `parseType` is the grammar of /repo before 33df1c7. -/

/-- For EVERY input the left-factored parser and the parser with the alternatives of /repo before
    33df1c7 (unnamed partial type, then process form / grouping, each parsing
    the content again) return the same result — value, remainder, error position and code. -/
theorem partial_or_group_factored_eq (i : Str) : parseTypeF i = parseType i :=
  (knotF_eq (i.length + 1) i (Nat.lt_succ_self _)).1

/-- the same with any sufficient fuel, for `type_definition` and `base_type` -/
theorem factored_eq_fuel (n : Nat) (i : Str) (h : i.length < n) :
    (knotF n).td i = (knot n).td i ∧ (knotF n).bt i = (knot n).bt i := knotF_eq n i h

/-- one level, for ANY inner parsers that reject by the first character as a grammar does
    (`KHead`, true of every unfolded knot): the left-factored `base_type` / `function_input_type` ARE
    those with the separate alternatives, on every input and whatever the fuel. -/
theorem paren_alternatives_eq (k : Knot) :
    baseTypeF k.step = baseTypeWith k.step ∧ functionIoTypeF k.step = functionIoType k.step :=
  ⟨baseTypeF_eq (KHead.step k), functionIoTypeF_eq (KHead.step k)⟩

theorem parseTypeF_eq : parseTypeF = parseType := funext partial_or_group_factored_eq

/-! ## The grammar of /repo 1d93429 (receive position read once) is the same function

`parseTypeG` is the model of the code (/repo from 1d93429 on): `paren_type` continues the parenthesised
process forms `(@-> t)` / `(@t -> t)` from the first field it has already read
(`paren_process_from_first`) instead of trying the separate alternative, which parsed the receive
type a second time (exponential in the nesting depth of the receive position). -/

/-- For EVERY input the grammar of the code (/repo 1d93429) and the original
    grammar return the same result — value, remainder, error position and code. -/
theorem receive_factored_eq (i : Str) : parseTypeG i = parseType i :=
  parseTypeG_eq_parseType i

/-- the same with any sufficient fuel, for `type_definition` and `base_type` -/
theorem receive_factored_eq_fuel (n : Nat) (i : Str) (h : i.length < n) :
    (knotG n).td i = (knot n).td i ∧ (knotG n).bt i = (knot n).bt i := knotG_eq n i h

/-- one level, every input, whatever the fuel: over any knot of the grammar, `paren_type` with the
    continuation from the first field IS `paren_type` with the separate alternative (the proof uses
    that `type_definition` on `@…` reads the receive type with the `base_type` ONE LEVEL BELOW the one
    the alternative uses, and that the two agree: monotonicity across knot levels, `knot_krecv`). -/
theorem receive_alternative_eq (n : Nat) (groupFirst : Bool) :
    parenTypeG groupFirst (knot (n + 1)) = parenType groupFirst (knot (n + 1)) :=
  parenTypeG_eq (knot_krecv n) groupFirst

theorem parseTypeG_eq : parseTypeG = parseType := funext receive_factored_eq

theorem located {α : Type} {i : Str} {r : Res α} (hs : r.Within i) (hne : r ≠ .out) :
    (∃ a rest pre, r = .ok a rest ∧ i = pre ++ rest) ∨
    (∃ pos code pre, r = .err pos code ∧ i = pre ++ pos ∧ utf8Len pre + utf8Len pos = utf8Len i) := by
  cases r with
  | ok a rest =>
    obtain ⟨pre, hpre⟩ := hs
    exact Or.inl ⟨a, rest, pre, rfl, hpre.symm⟩
  | err pos code =>
    obtain ⟨pre, hpre⟩ := hs
    exact Or.inr ⟨pos, code, pre, rfl, hpre.symm, by rw [← hpre, utf8Len_append]⟩
  | out => exact absurd rfl hne

theorem located_strict {α : Type} {i : Str} {r : Res α} (hs : r.Within i) (hst : r.StrictIn i)
    (hne : r ≠ .out) :
    (∃ a rest pre, r = .ok a rest ∧ i = pre ++ rest ∧ pre ≠ []) ∨
    (∃ pos code pre, r = .err pos code ∧ i = pre ++ pos ∧ utf8Len pre + utf8Len pos = utf8Len i) := by
  rcases located hs hne with ⟨a, rest, pre, rfl, rfl⟩ | h
  · refine Or.inl ⟨a, rest, pre, rfl, rfl, ?_⟩
    rintro rfl
    exact Nat.lt_irrefl _ hst
  · exact Or.inr h

/-- (T1) For EVERY input text `type_definition` returns either a type and a
    remainder that is a proper suffix of the input (at least one character was consumed), or an error
    whose position is a suffix of the input — so its byte offset `utf8Len pre` lies inside the text,
    on a character boundary, and `offset + length(rest of input) = length(input)` as in
    `SourceSpan::from_span`. It never runs out of fuel. -/
theorem parseType_total (i : Str) :
    (∃ t rest pre, parseType i = .ok t rest ∧ i = pre ++ rest ∧ pre ≠ []) ∨
    (∃ pos code pre, parseType i = .err pos code ∧ i = pre ++ pos ∧
        utf8Len pre + utf8Len pos = utf8Len i) :=
  located_strict ((knot_sound (i.length + 1)).1 i) ((knot_strict (i.length + 1)).1 i)
    (fuel_suffices i (i.length + 1) (Nat.lt_succ_self _))

/-- the same for `base_type` -/
theorem parseBaseType_total (i : Str) :
    (∃ t rest pre, parseBaseType i = .ok t rest ∧ i = pre ++ rest ∧ pre ≠ []) ∨
    (∃ pos code pre, parseBaseType i = .err pos code ∧ i = pre ++ pos ∧
        utf8Len pre + utf8Len pos = utf8Len i) :=
  located_strict ((knot_sound (i.length + 1)).2 i) ((knot_strict (i.length + 1)).2 i)
    ((knot_safe (i.length + 1)).2.tot i (Nat.lt_succ_self _))

theorem Sound.parseType : Sound parseType := fun i => (knot_sound (i.length + 1)).1 i
theorem NoOut.parseType : NoOut parseType := fun i => fuel_suffices i _ (Nat.lt_succ_self _)

/-- (T1 for a whole alias statement `'name<'a, 'b> = type`): an alias and a
    remainder that is a suffix of the input, or an error positioned inside the input; never out of
    fuel. -/
theorem typeAlias_total (i : Str) :
    (∃ a rest pre, typeAlias i = .ok a rest ∧ i = pre ++ rest) ∨
    (∃ pos code pre, typeAlias i = .err pos code ∧ i = pre ++ pos ∧
        utf8Len pre + utf8Len pos = utf8Len i) := by
  have hp : Safe (i.length + 1) parseTypeG := by
    rw [parseTypeG_eq]; exact .of_noOut Sound.parseType NoOut.parseType
  have hsafe : Safe (i.length + 1) typeAlias :=
    .bind (.seq (.pchar _) (.opt .identifier)) fun _ =>
      .bind (.opt (.delimited (.pchar _) (.sepList1 .commaWs0 .typeName) (.pchar _))) fun _ =>
        .seq (.seq .ws0 (.seq (.pchar _) .ws0)) (.pmap hp)
  exact located (hsafe.1 i) (hsafe.2 i (Nat.lt_succ_self _))

/-- Every type AST returned by `type_definition` — on any input, with any
    remainder — satisfies the decidable well-formedness predicate `WFType` that the round-trip
    statement assumes (names are in the lexer's languages, unions/intersections have ≥ 2 members, an
    unnamed partial type is empty or has a named field, an `'alias[...]` tuple has a spread and no
    bare one, `^N` fits a `usize`, a module path is not empty). -/
theorem parseType_wf (i : Str) (t : Ty) (rest : Str) (h : parseType i = .ok t rest) : WFType t :=
  (knot_wf (i.length + 1)).1 i t rest h

/-- the same for the left-factored grammar (/repo 33df1c7) -/
theorem parseTypeF_wf (i : Str) (t : Ty) (rest : Str) (h : parseTypeF i = .ok t rest) : WFType t :=
  parseType_wf i t rest (by rw [← partial_or_group_factored_eq]; exact h)

theorem parseBaseType_wf (i : Str) (t : Ty) (rest : Str) (h : parseBaseType i = .ok t rest) :
    WFType t := (knot_wf (i.length + 1)).2 i t rest h

/-- An alias statement the parser returns is well-formed as a whole (name and
    parameters are identifiers, the type is `WFType`). -/
theorem typeAlias_wf (i : Str) (a : Alias) (rest : Str) (h : typeAlias i = .ok a rest) :
    a.wf = true := by
  have hpt : Post WFp parseTypeG := fun j t r e => parseType_wf j t r (by rw [← receive_factored_eq]; exact e)
  have : Post (fun a : Alias => a.wf = true) typeAlias := by
    unfold typeAlias
    refine Post.bind (Post.seq (Post.opt Post.identifier)) (fun name hname =>
      Post.bind (Post.opt (Post.delimited (Post.sepList1 Post.typeName))) (fun ps hps =>
        Post.seq (Post.pmap hpt ?_)))
    intro t ht
    show (Alias.mk name (ps.getD []) t).wf = true
    simp only [Alias.wf, Bool.and_eq_true]
    refine ⟨⟨?_, ?_⟩, ht⟩
    · cases name with
      | none => rfl
      | some n => exact hname n rfl
    · cases ps with
      | none => rfl
      | some l => exact List.all_eq_true.mpr (hps l rfl).2
  exact this i a rest h

example : (match parseType "Cons['t, ^] | Nil , x".toList with
    | .ok (.union [.tuple (some ['C', 'o', 'n', 's']) [_, .field none (.cycle none)] false, _]) _ => true
    | _ => false) = true := by decide +kernel
example (t : Ty) (rest : Str) (h : parseType "Cons['t, ^] | Nil , x".toList = .ok t rest) : WFType t :=
  parseType_wf _ t rest h

/-! ## (T2) round trip

`stopTd rest` is the explicit side condition on the text behind the printed type: it does not start
with a character that could continue a type (letters, digits, `_ ? ! < [ ( ' % / . @ ^ \ #`), it is
not whitespace followed by `(` (a bare tuple name is not accepted in front of that: defect D2), and
after whitespace and comments there is no `|` or `&`. `WFType` is `Ty.wf` (decidable). -/

def RoundTripStatement : Prop :=
  ∀ t : Ty, WFType t → ∀ rest : Str, stopTd rest = true →
    parseType (printTy t ++ rest) = .ok t rest

/-- (T2, `RoundTripStatement`) For EVERY type AST `t` that satisfies
    the decidable well-formedness predicate `WFType` (which every AST the parser returns satisfies:
    `parseType_wf`) and EVERY text `rest` that cannot continue a type (`stopTd rest`, explicit and
    decidable), parsing the printed type followed by `rest` returns exactly `t` and stops exactly at
    `rest`. All eleven constructors, nested without bound — primitives, alias references with or
    without type arguments (the argument-less ones named `int`/`bin`/`ref` print `<'int>` resp.
    `(<'int>)`), `^` and `^N`, resources, `'` / `'<a, b>`, module types `'%m/n.t<a>`, tuples and
    partial types (named or not; named, positional and spread fields; tuples named after an alias),
    process types, function types, unions and intersections; the printer is the one of /repo HEAD
    (`d1_…`, `d3_…` show that its rules of dea6b02 and of b32cfa9 are each needed). -/
theorem roundtrip : RoundTripStatement :=
  fun t hw rest hr => parseType_of_knot ((knot_good t.lvT).td t hw (Nat.le_refl _) rest hr)

/-- the same under the hypothesis `Ty.frag`, which holds of every type (`Ty.frag_all`) -/
theorem roundtrip_partial (t : Ty) (hw : WFType t) (_ : t.frag = true) (rest : Str)
    (hr : stopTd rest = true) : parseType (printTy t ++ rest) = .ok t rest := roundtrip t hw rest hr

/-- the same for the left-factored grammar (/repo 33df1c7) -/
theorem roundtrip_factored (t : Ty) (hw : WFType t) (rest : Str) (hr : stopTd rest = true) :
    parseTypeF (printTy t ++ rest) = .ok t rest := by
  rw [partial_or_group_factored_eq]; exact roundtrip t hw rest hr

/-- … and for the grammar of the code (/repo 1d93429) -/
theorem roundtrip_code (t : Ty) (hw : WFType t) (rest : Str) (hr : stopTd rest = true) :
    parseTypeG (printTy t ++ rest) = .ok t rest := by
  rw [receive_factored_eq]; exact roundtrip t hw rest hr

/-- parse ∘ print ∘ parse = parse: what the parser returns is a fixpoint of print-then-parse -/
theorem parse_print_parse (i : Str) (t : Ty) (r : Str) (h : parseType i = .ok t r) (rest : Str)
    (hr : stopTd rest = true) : parseType (printTy t ++ rest) = .ok t rest :=
  roundtrip t (parseType_wf i t r h) rest hr

/-- For comparing a printed text with a string literal by `rfl` / `decide`: the literal is
    `String.ofList` of its characters by definition, so the text is evaluated and `toList` of the
    literal (a walk over a byte array) is not. -/
theorem eq_toList {l : List Char} {s : String} (h : String.ofList l = s) : l = s.toList :=
  h ▸ String.toList_ofList.symm

/-- the hypotheses are satisfiable by a non-trivial type: a nested union of named tuples with a
    function-typed field and a type parameter reference:
    `(A[x: 'int, f: #'t -> (Nil | Cons['t, ^])] | B[[\Res, 'u]] | ^)` followed by `, …` -/
def exampleTy : Ty :=
  .union [
    .tuple (some "A".toList) [
      .field (some "x".toList) (.prim .int),
      .field (some "f".toList) (.func (.ident "t".toList [])
        (.union [.tuple (some "Nil".toList) [] false,
                 .tuple (some "Cons".toList) [.field none (.ident "t".toList []), .field none (.cycle none)] false]))] false,
    .tuple (some "B".toList) [.field none (.tuple none [.field none (.resource "Res".toList), .field none (.ident "u".toList [])] false)] false,
    .cycle none]

example : printTy exampleTy = "(A[x: 'int, f: #'t -> (Nil | Cons['t, ^])] | B[[\\Res, 'u]] | ^)".toList :=
  eq_toList rfl
example : WFType exampleTy ∧ exampleTy.frag = true ∧ stopTd ", 'bin]".toList = true := by
  decide +kernel
example : parseType (printTy exampleTy ++ ", 'bin]".toList) = .ok exampleTy ", 'bin]".toList :=
  roundtrip exampleTy (by decide +kernel) _ (by decide +kernel)

/-- a second witness: intersections, `^N`, and
    references named like a primitive in member, field, atom and function position:
    `(A[x: <'int>] & ^2 | #(<'bin>) -> ('a & (<'ref>)) | <'int>)` -/
def exampleTy2 : Ty :=
  .union [
    .inter [.tuple (some "A".toList) [.field (some "x".toList) (.ident "int".toList [])] false, .cycle (some 2)],
    .func (.ident "bin".toList []) (.inter [.ident "a".toList [], .ident "ref".toList []]),
    .ident "int".toList []]

example : printTy exampleTy2 = "(A[x: <'int>] & ^2 | (#(<'bin>) -> ('a & (<'ref>))) | <'int>)".toList :=
  -- `^2` is printed by `natDigits` (well-founded recursion), which `rfl` does not unfold
  eq_toList (by decide +kernel)
example : parseType (printTy exampleTy2 ++ "]".toList) = .ok exampleTy2 "]".toList :=
  roundtrip exampleTy2 (by decide +kernel) _ (by decide +kernel)

/-- partial types, in base-type, member and function position:
    `#(x: 'a, [^]) -> (P(y: ()) | () | (z: <'int>))` -/
def exampleTy3 : Ty :=
  .func (.tuple none [.field (some "x".toList) (.ident "a".toList []), .field none (.tuple none [.field none (.cycle none)] false)] true)
    (.union [.tuple (some "P".toList) [.field (some "y".toList) (.tuple none [] true)] true,
             .tuple none [] true,
             .tuple none [.field (some "z".toList) (.ident "int".toList [])] true])

example : printTy exampleTy3 = "#(x: 'a, [^]) -> (P(y: ()) | () | (z: <'int>))".toList := eq_toList rfl
example : parseType (printTy exampleTy3 ++ " // c".toList) = .ok exampleTy3 " // c".toList :=
  roundtrip exampleTy3 (by decide +kernel) _ (by decide +kernel)

/-- type arguments: `'tree<'k, (#'<'k> -> ') | ^1>` -/
def exampleTy4 : Ty :=
  .ident "tree".toList [.ident "k".toList [],
    .union [.func (.selfDefault [.ident "k".toList []]) (.selfDefault []), .cycle (some 1)]]

example : printTy exampleTy4 = "'tree<'k, ((#'<'k> -> ') | ^1)>".toList :=
  eq_toList (by decide +kernel)
example : parseType (printTy exampleTy4 ++ ", x".toList) = .ok exampleTy4 ", x".toList :=
  roundtrip exampleTy4 (by decide +kernel) _ (by decide +kernel)

/-- module types: `['%list<'int>, '%a/b?.c!, '%m.t<'%n>]` -/
def exampleTy5 : Ty :=
  .tuple none [.field none (.modty ["list".toList] none [.prim .int]),
    .field none (.modty ["a".toList, "b?".toList] (some "c!".toList) []),
    .field none (.modty ["m".toList] (some "t".toList) [.modty ["n".toList] none []])] false

example : printTy exampleTy5 = "['%list<'int>, '%a/b?.c!, '%m.t<'%n>]".toList := eq_toList rfl
example : parseType (printTy exampleTy5) = .ok exampleTy5 [] := by
  have := roundtrip exampleTy5 (by decide +kernel) [] (by decide +kernel)
  simpa using this

/-- spread fields and a tuple named after an alias:
    `'ev[...'ev, at: 'int] | K[..., ...'p<^>] | (...'q, x: [])` -/
def exampleTy6 : Ty :=
  .union [
    .tuple (some "ev".toList) [.spread (some "ev".toList) [], .field (some "at".toList) (.prim .int)] false,
    .tuple (some "K".toList) [.spread none [], .spread (some "p".toList) [.cycle none]] false,
    .tuple none [.spread (some "q".toList) [], .field (some "x".toList) (.tuple none [] false)] true]

example : printTy exampleTy6 = "('ev[...'ev, at: 'int] | K[..., ...'p<^>] | (...'q, x: []))".toList :=
  eq_toList rfl
example : parseType (printTy exampleTy6) = .ok exampleTy6 [] := by
  have := roundtrip exampleTy6 (by decide +kernel) [] (by decide +kernel)
  simpa using this

/-- process types, all four forms, in receive, return, member, field and function position:
    `(@(@'a -> @) -> (@-> 'r)) | @ & 'x | #@'m -> (@ | [@, @'t])` -/
def exampleTy7 : Ty :=
  .union [
    .proc (some (.proc (some (.ident "a".toList [])) (some (.proc none none))))
      (some (.proc none (some (.ident "r".toList [])))),
    .inter [.proc none none, .ident "x".toList []],
    .func (.proc (some (.ident "m".toList [])) none)
      (.union [.proc none none, .tuple none [.field none (.proc none none),
        .field none (.proc (some (.ident "t".toList [])) none)] false])]

example : printTy exampleTy7 =
    "((@(@'a -> @) -> (@-> 'r)) | @ & 'x | (#@'m -> (@ | [@, @'t])))".toList := eq_toList rfl
example : parseType (printTy exampleTy7 ++ "\n".toList) = .ok exampleTy7 "\n".toList :=
  roundtrip exampleTy7 (by decide +kernel) _ (by decide +kernel)

/-- the side condition is necessary: behind a bare tuple name, a line that starts with `(` makes the
    whole alias unreadable (defect D2, repaired in the formatter by 63d9fac) -/
theorem stop_condition_necessary :
    stopTd "\n(x) = y".toList = false ∧
    (match parseType ("Foo".toList ++ "\n(x) = y".toList) with | .err _ _ => true | _ => false) = true := by
  decide +kernel

/-- With the printing rule before dea6b02 (an argument-less
    reference named `int` printed `'int`) the round trip fails: the text reads back as the primitive
    (defect D1). With the rule of dea6b02 the reference prints `<'int>` and reads back exactly. -/
theorem d1_old_print_rule_breaks_roundtrip :
    (match parseType "'int".toList with | .ok (.prim .int) [] => true | _ => false) = true ∧
    Ty.prim .int ≠ Ty.ident "int".toList [] ∧
    printTy (.ident "int".toList []) = "<'int>".toList ∧
    (match parseType "<'int>".toList with
      | .ok (.ident ['i', 'n', 't'] []) [] => true | _ => false) = true := by
  refine ⟨by decide +kernel, by simp, eq_toList rfl, by decide +kernel⟩

/-- Defect D3 of /repo dea6b02, repaired by b32cfa9: with the dea6b02 rule alone a reference named like
    a primitive is printed
    `<'int>` also directly behind `#` / `-> `, where `function_input_type` / `function_output_type`
    have no `type_parameter` alternative — the text `#<'int> -> 'int` does not parse although the AST
    is one the parser produces (from `#(<'int>) -> 'int`). With b32cfa9 (`render_type_atom` wraps
    that reference in parentheses) the printed text is `#(<'int>) -> 'int` and reads back exactly. -/
theorem d3_dea6b02_only_rule_breaks_roundtrip :
    (match parseType "#<'int> -> 'int".toList with | .err _ _ => true | _ => false) = true ∧
    printTy (.func (.ident "int".toList []) (.prim .int)) = "#(<'int>) -> 'int".toList ∧
    (match parseType (printTy (.func (.ident "int".toList []) (.prim .int))) with
      | .ok (.func (.ident ['i', 'n', 't'] []) (.prim .int)) [] => true | _ => false) = true := by
  refine ⟨by decide +kernel, eq_toList rfl, by decide +kernel⟩

def PrintIdempotentStatement : Prop :=
  ∀ t : Ty, WFType t → ∀ t' rest, parseType (printTy t) = .ok t' rest → printTy t' = printTy t

/-- (T3) Printing what was read from a printed type gives the
    same text. -/
theorem print_idempotent : PrintIdempotentStatement := by
  intro t hw t' rest h
  have := roundtrip t hw [] (by decide)
  rw [List.append_nil] at this
  rw [this] at h
  injection h with h1 _
  rw [← h1]

example : ∀ t' rest, parseType (printTy exampleTy) = .ok t' rest → printTy t' = printTy exampleTy :=
  fun t' rest => print_idempotent exampleTy (by decide +kernel) t' rest

/-! ## The alias STATEMENT through `format_program`

`fmtAlias a` is `format_program` on the program that consists of the alias `a` (no trivia): the `Doc`
of `statement_doc` — for a union right-hand side `union_alias_doc`, a group of `line`, `| ` (the first
one only `if_break`) and the member — laid out by the engine of `pretty.rs` at width 100
(`QM.Text.print`, the model C17 is about), then `collapse_blanks` and `expand_literals`. -/

def AliasRoundTripStatement : Prop :=
  ∀ a : Alias, a.wf = true → typeAlias (fmtAlias a) = .ok a ['\n']

/-- The formatted statement is one of two explicit texts — the flat line
    `'name<'a> = type`, or, only when the right-hand side is a union, the broken layout
    `'name<'a> =⏎  | m1⏎  | m2 …` — followed by one newline. Nothing else can come out of the engine
    and the two post-passes (they change nothing: no line of these texts ends in white space, is
    blank, or starts with the NUL of a literal placeholder — `goodS_printTy`). -/
theorem alias_statement_layouts (a : Alias) (hw : a.wf = true) :
    fmtAlias a = printAlias a ++ ['\n'] ∨
    ∃ ts, a.ty = .union ts ∧ fmtAlias a = brokenAlias a.name a.params ts ++ ['\n'] :=
  fmtAlias_text a hw

/-- Which of the two layouts — the engine's `fits` computed: the
    members of a union alias are put on their own lines exactly when the flat line is longer than 100
    characters (`chars().count()`); every other alias stays on one line however long it is. -/
theorem alias_statement_layout_decided (a : Alias) (hw : a.wf = true) :
    fmtAlias a =
      (match a.ty with
       | .union ts =>
         if (printAlias a).length ≤ 100 then printAlias a else brokenAlias a.name a.params ts
       | _ => printAlias a) ++ ['\n'] :=
  fmtAlias_decided a hw

/-- (`AliasRoundTripStatement`) For EVERY well-formed alias
    (`Alias.wf`, decidable; every alias the parser returns satisfies it: `typeAlias_wf`), `type_alias`
    — over the grammar of the code, `parseTypeG` — reads the text `format_program` prints back to
    exactly the same alias and stops exactly at the final newline. Whatever layout the engine
    chose. -/
theorem alias_statement_roundtrip : AliasRoundTripStatement := by
  intro a hw
  rcases fmtAlias_text a hw with h | ⟨ts, hty, h⟩
  · rw [h]; exact typeAlias_flat a hw _ (by decide)
  · obtain ⟨name, ps, ty⟩ := a
    simp only at hty
    subst hty
    rw [h]
    exact typeAlias_broken name ps ts hw _ (by decide)

/-- … so `parse` of the formatted text is `Ok` with exactly this one statement (as far as the alias
    grammar decides `program`: the alias, the separator `\n`, end of input) -/
theorem alias_statement_program (a : Alias) (hw : a.wf = true) :
    programVerdict (fmtAlias a) = .aliasOnly a := by
  obtain ⟨s, hs⟩ := fmtAlias_quote a hw
  have h := alias_statement_roundtrip a hw
  have h0 : skipWsc false (fmtAlias a) = fmtAlias a := by
    rw [hs]; exact skipWsc_of_head (by simp [headAll, isMultispace])
  have hsep : seqSep ['\n'] = .ok () [] := rfl
  unfold programVerdict
  simp only [h0, h, hsep]
  rfl

/-- parse ∘ format ∘ parse = parse on alias statements -/
theorem alias_parse_format_parse (i : Str) (a : Alias) (r : Str) (h : typeAlias i = .ok a r) :
    typeAlias (fmtAlias a) = .ok a ['\n'] :=
  alias_statement_roundtrip a (typeAlias_wf i a r h)

/-- formatting what was read from a formatted alias gives the same text -/
theorem alias_format_idempotent (a : Alias) (hw : a.wf = true) (b : Alias) (r : Str)
    (h : typeAlias (fmtAlias a) = .ok b r) : fmtAlias b = fmtAlias a := by
  rw [alias_statement_roundtrip a hw] at h
  cases h
  rfl

/-- the two layouts of `'t<'a> = A[x: 'a] | #'a -> 'int | ^` -/
def exampleAlias : Alias :=
  ⟨some "t".toList, ["a".toList],
    .union [.tuple (some "A".toList) [.field (some "x".toList) (.ident "a".toList [])] false,
            .func (.ident "a".toList []) (.prim .int), .cycle none]⟩

example : exampleAlias.wf = true := by decide +kernel
example : printAlias exampleAlias = "'t<'a> = A[x: 'a] | (#'a -> 'int) | ^".toList := eq_toList rfl
example : brokenAlias exampleAlias.name exampleAlias.params
      [.tuple (some "A".toList) [.field (some "x".toList) (.ident "a".toList [])] false,
       .func (.ident "a".toList []) (.prim .int), .cycle none] =
    "'t<'a> =\n  | A[x: 'a]\n  | (#'a -> 'int)\n  | ^".toList := eq_toList rfl
example : typeAlias (fmtAlias exampleAlias) = .ok exampleAlias ['\n'] :=
  alias_statement_roundtrip exampleAlias (by decide +kernel)

end C18Types
