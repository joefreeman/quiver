import QuiverModel.Lemmas.Soundness.FieldAccessSound
/-
C01 — by-name field access (`e.x` compiled to one positional `Get(index)`).

Model: `QM.Soundness.getFieldByName` (type_queries.rs `get_field_by_name` as of 548536f, tied to the
code by the harness's field differential: verdict, emitted `Get` index and result type id).
  * `field_by_name_sound_tuple` / `field_by_name_sound_union`: when the access is accepted on a tuple
    type, resp. on a union of tuple types, with index `idx` and field types `tys`, every value of
    the type is a tuple whose field number `idx` carries the label and lies in one of `tys`
    (so `Get(idx)` reads the right field, at the type the compiler gives the access);
  * `skip_seen_types_unsound`: the same-index check must be made for EVERY variant — under the rule
    that skips a variant whose field type was already collected, `A[x: 'int, y: 'bin] |
    B[y: 'bin, x: 'int]` is accepted with index 0 and the value `B[y: 0xff, x: 2]` has a binary
    there; the current rule rejects the instance.
Not covered: partial-typed sources (finding N4 of notes/C01.md: for a partial type the index is the position in the
partial type, which is unsound) and nested unions.
-/
namespace C01
open QM.Types QM.Soundness

theorem field_by_name_sound_tuple (T : Table) (fuel t id idx : Nat) (x : Name) (tys : List Nat)
    (hty : T.types[t]? = some (.tuple id))
    (h : getFieldByName T (fuel + 1) t x = .ok idx tys) :
    ∀ v, inh T [] t v → ∃ name fs u ty, v = .tup name fs ∧ fs.toList[idx]? = some (some x, u) ∧
      ty ∈ tys ∧ inh T [] ty u := by
  intro v hv
  unfold getFieldByName getFieldByNameWith at h
  have hx : extractFieldSources T (fuel + 1) t = some [.tuple id] := by
    unfold extractFieldSources; rw [hty]
  have hn : hasNonTupleVariant T (fuel + 1) t = some false := by
    unfold hasNonTupleVariant; rw [hty]
  rw [hx, hn] at h
  simp only [List.isEmpty_cons, Bool.or_self, Bool.false_eq_true, if_false] at h
  obtain ⟨_, _, h3⟩ := fieldLoop_ok _ _ _ _ _ h
  obtain ⟨ft, hsrc, hft⟩ := h3 (.tuple id) (by simp)
  obtain ⟨name, fs, u, rfl, hu, hin⟩ := tuple_field hty hsrc hv
  exact ⟨name, fs, u, ft, rfl, hu, hft, hin⟩

theorem field_by_name_sound_union (T : Table) (fuel t idx : Nat) (x : Name) (ids tys : List Nat)
    (hty : T.types[t]? = some (.union ids))
    (hflat : ∀ i ∈ ids, ∃ id, T.types[i]? = some (.tuple id))
    (h : getFieldByName T (fuel + 2) t x = .ok idx tys) :
    ∀ v, inh T [] t v → ∃ name fs u ty, v = .tup name fs ∧ fs.toList[idx]? = some (some x, u) ∧
      ty ∈ tys ∧ inh T [t] ty u := by
  intro v hv
  unfold getFieldByName getFieldByNameWith at h
  obtain ⟨l, hl, hm⟩ := extract_union_tuples (T := T) (fuel := fuel) ids [] hflat
  have hx : extractFieldSources T (fuel + 2) t = some l := by
    unfold extractFieldSources; rw [hty]; simpa using hl
  rw [hx] at h
  cases hn : hasNonTupleVariant T (fuel + 2) t with
  | none => rw [hn] at h; cases h
  | some nt =>
    rw [hn] at h
    simp only at h
    split at h
    · cases h
    · obtain ⟨_, _, h3⟩ := fieldLoop_ok l none [] idx tys h
      -- the value is in one member
      obtain ⟨i, hi, hiv⟩ := (QM.Types.inh_union hty).mp hv
      obtain ⟨id, hid⟩ := hflat i hi
      obtain ⟨ft, hsrc, hft⟩ := h3 (.tuple id) (hm i hi id hid)
      obtain ⟨name, fs, u, rfl, hu, hin⟩ := tuple_field hid hsrc hiv
      exact ⟨name, fs, u, ft, rfl, hu, hft, hin⟩

/-! ### the same-index check is necessary

names: x = 1, y = 2, A = 10, B = 11.
tuples: 2 `A[x: 'int, y: 'bin]`, 3 `B[y: 'bin, x: 'int]`; types: 0 'int, 1 'bin, 2 A…, 3 B…, 4 `A… | B…`. -/
def tPerm : Table :=
  { types := [.integer, .binary, .tuple 2, .tuple 3, .union [2, 3]],
    tuples := [⟨none, []⟩, ⟨some 9, []⟩, ⟨some 10, [(some 1, 0), (some 2, 1)]⟩,
               ⟨some 11, [(some 2, 1), (some 1, 0)]⟩] }

def fsPerm : VFields := .cons (some 2) (.bin [255]) (.cons (some 1) (.int 2) .nil)

/-- `B[y: 0xff, x: 2]` -/
def vPerm : V := .tup (some 11) fsPerm

/-- the code rejects `e.x` on the permuted union… -/
theorem permuted_rejected : getFieldByName tPerm 8 4 1 = .notFound := by decide +kernel

/-- …while the rule that skips a variant whose field type was already seen accepts it with index 0
at type 'int, and a value of the type has a binary at index 0. -/
theorem skip_seen_types_unsound :
    getFieldByNameWith .skipSeenTypes tPerm 8 4 1 = .ok 0 [0] ∧ inhB tPerm 8 [] 4 vPerm = true ∧
      fsPerm.toList[0]? = some (some 2, .bin [255]) := by
  refine ⟨by decide +kernel, by decide +kernel, by decide +kernel⟩

/-- the hypotheses of the union theorem are satisfiable: same label at the same index in both
variants (`A[x: 'int, y: 'bin] | B[x: 'int, z: 'bin]`). -/
def tSame : Table :=
  { types := [.integer, .binary, .tuple 2, .tuple 3, .union [2, 3]],
    tuples := [⟨none, []⟩, ⟨some 9, []⟩, ⟨some 10, [(some 1, 0), (some 2, 1)]⟩,
               ⟨some 11, [(some 1, 0), (some 3, 1)]⟩] }

example : getFieldByName tSame 8 4 1 = .ok 0 [0, 0] := by decide +kernel

end C01
