import QuiverModel.Lemmas.Soundness.SubstSound
/-
C01 — Type soundness: accepted programs never get stuck on a type error.

This file is about the *guards* soundness rests on: the generic-call guard `unify` + `substitute`
(`QM.Soundness`, mirroring typing.rs as of fixes 8f4b36d and e4496af) and the non-generic guard
`is_compatible` (`QM.Types.isCompatible`, C09's model); the meaning of a type is `QM.Types.inh`
(C09's module `Core/Types/Inh.lean`). The other parts of C01: `C01Field.lean` (by-name field access),
`C01Seq.lean` (nil of a `,`-sequence), `C01Infer.lean` (`infer_sound_fragment`: the model of the
inference, `Core/Soundness/Infer.lean`, is sound on its fragment; it uses this file and the two
before), `C01VM.lean` (`wellTagged_preserved`, the run-time side). See notes/C01.md.

In order: `GuardUnifySound rules`, the full-strength statement — a `def`, FALSE for the code as it is
(`guard_unify_sound_refuted`: a `Cycle` position is never checked); before/after witnesses of the
repaired defects of `unify` (F6 / 8f4b36d, the union/union merge / e4496af, variant order, shared
names); the typed entry points and the guard the compiler applies at each (`guardAt`,
`tailcall_guard_missing`: F5); `call_guard_nongeneric_sound` (the non-generic branch, given C09's
`CompatSoundStatement`); `guard_unify_sound_partial`, the positive theorem on a fragment under the every-variant
rule, with `partial_needs_every_variant_rule`.
-/
namespace C01
open QM.Types QM.Soundness

/-- Soundness of the generic-call guard under a rule set: whenever unification of the parameter
type `p` with a closed argument type `a` succeeds with bindings `σ`, every value of the argument
type inhabits the parameter type instantiated by `σ`. -/
def GuardUnifySound (rules : Rules) : Prop :=
  ∀ (T T' T'' : Table) (cf f f' p a r : Nat) (σ : Bindings),
    Closed T a →
    unifyWith rules cf f T [] p a = some (T', some σ) →
    substitute σ f' T' p = some (T'', r) →
    ∀ v, inh T [] a v → inh T'' [] r v

/-- the statement about the code as it is. FALSE — see `guard_unify_sound_refuted`. -/
def GuardUnifySoundStatement : Prop := GuardUnifySound Rules.current

/-- Executable form of one instance of the statement: run the guard from empty bindings, substitute
into the parameter, and test the value against the argument type and against the instantiated
parameter type: `(result id, v ∈ a, v ∈ σ p)`. -/
def guardInstance (rules : Rules) (f : Nat) (T : Table) (p a : Nat) (v : V) : Option (Nat × Bool × Bool) :=
  match unifyWith rules f f T [] p a with
  | some (T', some σ) =>
    match substitute σ f T' p with
    | some (T'', r) => some (r, inhB T f [] a v, inhB T'' f [] r v)
    | none => none
  | _ => none

/-- does the guard reject the instance? -/
def guardRejects (rules : Rules) (f : Nat) (T : Table) (p a : Nat) : Bool :=
  match unifyWith rules f f T [] p a with
  | some (_, none) => true
  | _ => false

/-! ### F6 — union argument for a non-union parameter (repaired by 8f4b36d)

tuples: 0 nil, 1 Ok, 2 `['int, 't]`, 3 `['int, 'int]`;
types:  0 'int, 1 't, 2 `['int, 't]` (parameter), 3 `['int, 'int]`, 4 'bin,
        5 `['int, 'int] | 'bin` (argument: the type of `x = 2 { =1 => [1, 2] | 0x00 }`). -/
def tF6 : Table :=
  { types := [.integer, .variable 7, .tuple 2, .tuple 3, .binary, .union [3, 4]],
    tuples := [⟨none, []⟩, ⟨some 1, []⟩, ⟨none, [(none, 0), (none, 1)]⟩, ⟨none, [(none, 0), (none, 0)]⟩] }

/-- the run-time value of `x`: `0x00`. -/
def vF6 : V := .bin [0]

/-- the old rule accepts (binding `'t := 'int` from the first variant); `0x00` is a value of the
argument type but not of the instantiated parameter type `['int, 'int]` (type 3). -/
theorem F6_old_rule_unsound : guardInstance Rules.beforeF6 16 tF6 2 5 vF6 = some (3, true, false) := by
  decide +kernel

/-- …for every fuel, not only the one used above: a binary never inhabits a tuple type. -/
theorem F6_value_outside : ¬ inh tF6 [] 3 vF6 := fun h => by
  obtain ⟨_, _, hv, _⟩ := (QM.Types.inh_tuple (id := 3) (info := ⟨none, [(none, 0), (none, 0)]⟩) rfl rfl).mp h
  cases hv

/-- the current rule rejects the instance. -/
theorem F6_repaired : guardRejects Rules.current 16 tF6 2 5 = true := by decide +kernel

/-- the instance under the old rule, step by step: the bindings, the instantiated parameter, and
that `0x00` is a value of the argument type. -/
theorem F6_old_rule_run :
    unifyWith Rules.beforeF6 16 16 tF6 [] 2 5 = some (tF6, some [(7, 0)]) ∧
    substitute [(7, 0)] 16 tF6 2 = some (tF6, 3) ∧ inh tF6 [] 5 vF6 :=
  ⟨by decide +kernel, by decide +kernel, 8, by decide +kernel⟩

/-- hence the full statement fails for the rule set before the fix. -/
theorem unify_anyVariant_unsound : ¬ GuardUnifySound Rules.beforeF6 := fun h =>
  F6_value_outside
    (h tF6 tF6 tF6 16 16 16 2 5 3 [(7, 0)] ⟨8, by decide +kernel⟩ F6_old_rule_run.1 F6_old_rule_run.2.1 vF6
      F6_old_rule_run.2.2)

/-! ### Finding (open): a `Cycle` position is never checked (heterogeneous recursive argument)

`'list<'t> = Nil | Cons['t, ^]`, parameter `'list<'t>`, argument the literal
`Cons[1, Cons[0x00, Nil]]` of type `Cons['int, Cons['bin, Nil]]`.
names: Nil = 10, Cons = 11, 't = 7.
tuples: 2 Nil, 3 `Cons['t, ^]`, 4 `Cons['bin, Nil]`, 5 `Cons['int, Cons['bin, Nil]]`;
types: 0 'int, 1 'bin, 2 't, 3 Nil, 4 `^`, 5 `Cons['t, ^]`, 6 `Nil | Cons['t, ^]` (parameter),
       7 `Cons['bin, Nil]`, 8 `Cons['int, Cons['bin, Nil]]` (argument). -/
def tCyc : Table :=
  { types := [.integer, .binary, .variable 7, .tuple 2, .cycle 1, .tuple 3, .union [3, 5], .tuple 4, .tuple 5],
    tuples := [⟨none, []⟩, ⟨some 1, []⟩, ⟨some 10, []⟩, ⟨some 11, [(none, 2), (none, 4)]⟩,
               ⟨some 11, [(none, 1), (none, 3)]⟩, ⟨some 11, [(none, 0), (none, 7)]⟩] }

/-- `Cons[0x00, Nil]` -/
def vInner : V := .tup (some 11) (.cons none (.bin [0]) (.cons none (.tup (some 10) .nil) .nil))

/-- `Cons[1, Cons[0x00, Nil]]` -/
def vCyc : V := .tup (some 11) (.cons none (.int 1) (.cons none vInner .nil))

/-- the guard accepts with `'t := 'int` (only the head is looked at: the tail meets the `Cycle`
arm), the instantiated parameter is `'list<'int>` (new type 10), and the argument value — a value
of the argument type — is not a list of integers. The real compiler accepts
`second = #<'t>'list<'t> { … }, Cons[1, Cons[0x00, Nil]] second [~, 1] __integer_add__` and the
program dies with `TypeMismatch` (corpus/C01; finding N1 of notes/C01.md, listed there under the
harness's signature `unsound=unify-cycle-arm-unchecked`). -/
theorem unify_cycle_arm_unsound : guardInstance Rules.current 24 tCyc 6 8 vCyc = some (10, true, false) := by
  decide +kernel

/-- under the strict cycle rule the same instance is rejected. -/
theorem unify_cycle_arm_strict_rejects : guardRejects { cycle := .strict } 24 tCyc 6 8 = true := by decide +kernel

/-- the table after substitution: tuple 6 `Cons['int, ^]`, type 9, type 10 `Nil | Cons['int, ^]`. -/
def tCyc'' : Table :=
  { types := tCyc.types ++ [.tuple 6, .union [3, 9]], tuples := tCyc.tuples ++ [⟨some 11, [(none, 0), (none, 4)]⟩] }

theorem cyc_ty0 : tCyc''.types[0]? = some .integer := rfl
theorem cyc_ty3 : tCyc''.types[3]? = some (.tuple 2) := rfl
theorem cyc_ty4 : tCyc''.types[4]? = some (.cycle 1) := rfl
theorem cyc_ty9 : tCyc''.types[9]? = some (.tuple 6) := rfl
theorem cyc_ty10 : tCyc''.types[10]? = some (.union [3, 9]) := rfl
theorem cyc_tu2 : tCyc''.tuples[2]? = some ⟨some 10, []⟩ := rfl
theorem cyc_tu6 : tCyc''.tuples[6]? = some ⟨some 11, [(none, 0), (none, 4)]⟩ := rfl

/-- a `Cons` in `'list<'int>` (type 10) has an integer head and, through the back-reference, a tail
in `'list<'int>` again. -/
theorem cons_in_list_int {st : List Nat} {hd tl : V}
    (h : inh tCyc'' st 10 (.tup (some 11) (.cons none hd (.cons none tl .nil)))) :
    (∃ z, hd = .int z) ∧ inh tCyc'' (10 :: st) 4 tl := by
  obtain ⟨i, hi, h⟩ := (QM.Types.inh_union cyc_ty10).mp h
  simp only [List.mem_cons, List.not_mem_nil, or_false] at hi
  rcases hi with rfl | rfl
  · obtain ⟨_, _, hv, hn, _⟩ := (QM.Types.inh_tuple cyc_ty3 cyc_tu2).mp h
    cases hv; cases hn
  · obtain ⟨_, _, hv, _, hf⟩ := (QM.Types.inh_tuple cyc_ty9 cyc_tu6).mp h
    cases hv
    cases hf with
    | cons _ h0 hf =>
      cases hf with
      | cons _ h1 _ => exact ⟨(QM.Types.inh_integer cyc_ty0).mp h0, h1⟩

/-- …for every fuel: `Cons[1, Cons[0x00, Nil]]` is not a list of integers. -/
theorem cycle_value_outside : ¬ inh tCyc'' [] 10 vCyc := fun h => by
  obtain ⟨id, hid, h1⟩ := (QM.Types.inh_cycle cyc_ty4).mp (cons_in_list_int h).2
  cases hid
  obtain ⟨⟨z, hz⟩, _⟩ := cons_in_list_int h1
  cases hz

/-- The full statement is false for the code as it is. -/
theorem guard_unify_sound_refuted : ¬ GuardUnifySoundStatement := by
  intro h
  have hc : Closed tCyc 8 := ⟨8, by decide +kernel⟩
  have hu : unifyWith Rules.current 24 24 tCyc [] 6 8 = some (tCyc, some [(7, 0)]) := by decide +kernel
  have hs : substitute [(7, 0)] 24 tCyc 6 = some (tCyc'', 10) := by decide +kernel
  have hv : inh tCyc [] 8 vCyc := ⟨12, by decide +kernel⟩
  exact cycle_value_outside (h tCyc tCyc tCyc'' 24 24 24 6 8 10 [(7, 0)] hc hu hs vCyc hv)

/-! ### The union/union merge (repaired by e4496af)

`'ab<'t> = A['t] | B['t]`, argument type `A['int] | B['bin]` (a maker function's result), value
`B[0x00]`. names: A = 20, B = 21.
types: 0 'int, 1 'bin, 2 't, 3 `A['t]`, 4 `B['t]`, 5 `A['t] | B['t]` (parameter), 6 `A['int]`,
       7 `B['bin]`, 8 `A['int] | B['bin]` (argument). The instance is cycle-free and first-order. -/
def tMrg : Table :=
  { types := [.integer, .binary, .variable 7, .tuple 2, .tuple 3, .union [3, 4], .tuple 4, .tuple 5, .union [6, 7]],
    tuples := [⟨none, []⟩, ⟨some 1, []⟩, ⟨some 20, [(none, 2)]⟩, ⟨some 21, [(none, 2)]⟩,
               ⟨some 20, [(none, 0)]⟩, ⟨some 21, [(none, 1)]⟩] }

/-- `B[0x00]` -/
def vMrg : V := .tup (some 21) (.cons none (.bin [0]) .nil)

/-- before e4496af: the second variant's attempt widens `'t` to `'int | 'bin`, but the merge loop
skips that binding because it is not assignable to the existing `'int`: the guard answers
`'t := 'int`, and `B[0x00]` is outside `A['int] | B['int]` (new type 11). -/
theorem merge_old_rule_unsound :
    guardInstance Rules.beforeMergeFix 24 tMrg 5 8 vMrg = some (11, true, false) := by decide +kernel

/-- the current rule adopts the attempt's bindings: the same instance is typed correctly. -/
theorem merge_repaired : guardInstance Rules.current 24 tMrg 5 8 vMrg = some (12, true, true) := by decide +kernel

/-- the table after unification (the failed widening attempt registered `'int | 'bin` as type 9). -/
def tMrg' : Table := { tMrg with types := tMrg.types ++ [.union [0, 1]] }

/-- the table after substitution: tuple 6 `B['int]`, type 10 `B['int]`, type 11 `A['int] | B['int]`. -/
def tMrg'' : Table :=
  { types := tMrg'.types ++ [.tuple 6, .union [6, 10]], tuples := tMrg.tuples ++ [⟨some 21, [(none, 0)]⟩] }

/-- …for every fuel: `B[0x00]` is outside `A['int] | B['int]`. -/
theorem merge_value_outside : ¬ inh tMrg'' [] 11 vMrg := fun h => by
  obtain ⟨i, hi, h⟩ := (QM.Types.inh_union (ids := [6, 10]) rfl).mp h
  simp only [List.mem_cons, List.not_mem_nil, or_false] at hi
  rcases hi with rfl | rfl
  · obtain ⟨_, _, hv, hn, _⟩ := (QM.Types.inh_tuple (id := 4) (info := ⟨some 20, [(none, 0)]⟩) rfl rfl).mp h
    cases hv; cases hn
  · obtain ⟨_, _, hv, _, hf⟩ := (QM.Types.inh_tuple (id := 6) (info := ⟨some 21, [(none, 0)]⟩) rfl rfl).mp h
    cases hv
    cases hf with
    | cons _ h0 _ =>
      obtain ⟨z, hz⟩ := (QM.Types.inh_integer rfl).mp h0
      cases hz

/-- hence the full statement fails for the rule set before e4496af, on a cycle-free first-order
instance. -/
theorem unify_merge_skip_unsound : ¬ GuardUnifySound Rules.beforeMergeFix := by
  intro h
  have hc : Closed tMrg 8 := ⟨8, by decide +kernel⟩
  have hu : unifyWith Rules.beforeMergeFix 24 24 tMrg [] 5 8 = some (tMrg', some [(7, 0)]) := by decide +kernel
  have hs : substitute [(7, 0)] 24 tMrg' 5 = some (tMrg'', 11) := by decide +kernel
  have hv : inh tMrg [] 8 vMrg := ⟨8, by decide +kernel⟩
  exact merge_value_outside (h tMrg tMrg' tMrg'' 24 24 24 5 8 11 [(7, 0)] hc hu hs vMrg hv)

/-! ### The order of the parameter's variants in the union/union arm (repaired by e097c86)

types: 0 'int, 1 't, 2 `[]`, 3 `'t | []` (parameter, e.g. the result of a predicate `#'t -> ('t | [])`),
4 `'int | []` (argument). In declaration order the bare variable is offered the argument's `[]`
before the parameter's own `[]` and is widened to `'int | []`; with the structured variants first
it stays `'int`. (Both answers are sound; the old one typed the elements of `%iter.filter` with nil
and, through the recursive thunk type, lost `'int` altogether.) -/
def tOrd : Table :=
  { types := [.integer, .variable 7, .tuple 0, .union [1, 2], .union [0, 2]],
    tuples := [⟨none, []⟩] }

theorem order_declared_widens_with_nil :
    unifyWith Rules.beforeOrderFix 8 8 tOrd [] 3 4 = some (tOrd, some [(7, 4)]) := by decide +kernel

theorem order_structured_first_keeps_int :
    unifyWith Rules.current 8 8 tOrd [] 3 4 = some (tOrd, some [(7, 0)]) := by decide +kernel

/-! ### Caller's and callee's type variables (repair 10)

A generic function calls another one whose type parameters have the SAME names, arguments
crosswise: parameter `['a, 'b, 'b | 'bin]`, argument `[('b | 'bin), 'a, ('b | 'bin)]`.
types: 0 'a, 1 'b, 2 'bin, 3 `'b | 'bin`, 4 the parameter, 5 the argument. Under the shared-names
rule `'a := 'b | 'bin`, then `'b := ('a resolved) = 'b | 'bin`, and `'bin` against the argument's
`'b` resolves `'b` to a union that contains `'b` again — for ever (the compiler overflows its
stack); the model runs out of any fuel. With the caller's variables opaque the answer is
`'a := 'b | 'bin`, `'b := 'a | 'b` (both the CALLER's). -/
def tCross : Table :=
  { types := [.variable 7, .variable 8, .binary, .union [1, 2], .tuple 1, .tuple 2],
    tuples := [⟨none, []⟩, ⟨none, [(none, 0), (none, 1), (none, 3)]⟩, ⟨none, [(none, 3), (none, 0), (none, 3)]⟩] }

theorem shared_names_crosswise_never_ends :
    unifyWith Rules.sharedNames 8 20 tCross [] 4 5 = none ∧ unifyWith Rules.sharedNames 8 60 tCross [] 4 5 = none := by
  refine ⟨by decide +kernel, by decide +kernel⟩

theorem caller_opaque_crosswise_ends :
    unifyWith Rules.current 8 8 tCross [] 4 5 =
      some ({ tCross with types := tCross.types ++ [.union [0, 1]] }, some [(7, 3), (8, 6)]) := by decide +kernel

/-- `['a, 'a]` against `['a, 'int]` (the caller's `'a`): the shared-names rule skips the like-named
variable and binds `'a := 'int` only — `g = #<'a>['a, 'a] { $0 }, h = #<'a>'a { [$, 1] g }, 0xff h`
is typed `'int` under that rule and yields `0xff`; the current rule gives `'a := 'a | 'int`.
types: 0 'a, 1 'int, 2 `['a, 'a]`, 3 `['a, 'int]`. -/
def tSkip : Table :=
  { types := [.variable 7, .integer, .tuple 1, .tuple 2],
    tuples := [⟨none, []⟩, ⟨none, [(none, 0), (none, 0)]⟩, ⟨none, [(none, 0), (none, 1)]⟩] }

theorem shared_names_skip_drops_callers_variable :
    unifyWith Rules.sharedNames 8 8 tSkip [] 2 3 = some (tSkip, some [(7, 1)]) ∧
    unifyWith Rules.current 8 8 tSkip [] 2 3 =
      some ({ tSkip with types := tSkip.types ++ [.union [0, 1]] }, some [(7, 4)]) := by
  refine ⟨by decide +kernel, by decide +kernel⟩

/-! ### Typed entry points and their guards

Well-taggedness (`QM.Soundness.WT`: every tuple value `Tuple(id, fs)` has `fs[i]` in field type `i` of `id`) is
established at the points where a value crosses into a context with a *declared* type. The
compiler's guard at each point (compiler.rs): -/

inductive EntryPoint where
  /-- `apply_value_to_type`, callable target -/
  | call
  /-- `apply_value_to_type`, process target -/
  | send
  /-- `emit_arg_spawn` -/
  | spawn
  /-- `compile_function`: body type against the declared return type -/
  | declaredReturn
  /-- `compile_tail_call` / `compile_ripple_tail_call` -/
  | tailCall
  deriving DecidableEq, Repr

inductive Guard where
  /-- `contains_variables` → `unify` + `substitute`, else `is_compatible` (`callGuard`) -/
  | callGuard
  /-- `is_compatible(value, declared)` -/
  | compat
  deriving DecidableEq, Repr

/-- which guard the compiler applies where (read off compiler.rs). -/
def guardAt : EntryPoint → Option Guard
  | .call => some .callGuard
  | .send => some .compat
  | .spawn => some .compat
  | .declaredReturn => some .compat
  | .tailCall => none

/-- F5 (known finding): no guard exists at `TailCall` — `compile_tail_call` binds the argument type
to `_arg_type` and never compares it with the parameter type of the function being re-entered.
Reproducer: `f = #[a: 'int, b: 'int] { | [$a, 0] __integer_compare__ =0 => $b | 5 ^ }, [a: 1, b: 2] f`
(accepted; `TypeMismatch` at run time; corpus/C01, and the harness's repair differential K1 of
notes/C01.md: the failure goes away when the tail-call argument is routed through an identity
function of the parameter type). This
`rfl` is documentation of the reading, not a proof about the Rust code. -/
theorem tailcall_guard_missing : guardAt .tailCall = none := rfl

/-- C09's `CompatSoundStatement` for ordered tables and closed types, as the hypothesis the next lemma needs.
`Theorems/C09.lean` proves it for types without function / process components (`compat_sound_fo`,
`compat_sound_rec_fo`), not in general: the next lemma is conditional on it. -/
def GuardCompatSoundStatement : Prop :=
  ∀ (T : Table) (fuel a p : Nat), Ordered T → Closed T a → Closed T p →
    isCompatible T fuel a p = some true → ∀ v, inh T [] a v → inh T [] p v

/-- When neither the parameter nor the result type mentions a type variable, the call guard is
`is_compatible(arg, param)`: if it accepts, every value of the argument type inhabits the parameter
type — GIVEN the hypothesis `GuardCompatSoundStatement`, which C09 proves only for types without
function / process components. -/
theorem call_guard_nongeneric_sound (hC09 : GuardCompatSoundStatement)
    (rules : Rules) (fuel : Nat) (T T' : Table) (param result arg r : Nat)
    (hO : Ordered T) (ha : Closed T arg) (hp : Closed T param)
    (hvp : containsVariables T fuel param = some false)
    (hvr : containsVariables T fuel result = some false)
    (hacc : callGuard rules fuel T param result arg = .accept T' r) :
    T' = T ∧ r = result ∧ ∀ v, inh T [] arg v → inh T [] param v := by
  unfold callGuard at hacc
  rw [hvp, hvr] at hacc
  simp only [Bool.or_self, Bool.false_eq_true, if_false] at hacc
  cases hc : isCompatible T fuel arg param with
  | none => rw [hc] at hacc; cases hacc
  | some b =>
    cases b with
    | false => rw [hc] at hacc; cases hacc
    | true =>
      rw [hc] at hacc
      injection hacc with h1 h2
      exact ⟨h1.symm, h2.symm, hC09 T fuel arg param hO ha hp hc⟩

/-- the hypotheses are satisfiable: `['int, 'int]` passed for `['int, 'int]` on the F6 table. -/
example : callGuard Rules.current 16 tF6 3 0 3 = .accept tF6 0 := by decide +kernel

/-! ### The positive theorem on the fragment

Fragment (decidable predicates `QM.Soundness.patT` / `argT`, depth-indexed): the parameter type is
built from `'int`, `'bin`, type variables and tuples (any names / labels / nesting); the argument
type is closed and built from `'int`, `'bin`, tuples and unions — the type of a literal argument
such as `[1, [0x00, 2]]`, or of a maker function's result such as `[1, 2] | 'bin`. On this
fragment `unify` exercises the variable arm (fresh binding, and **widening** of an existing binding
through `union_type_ids`), the base arms, the tuple/tuple arm and the "non-union parameter, union
argument" arm (the arm fix 8f4b36d changed); `substitute` rebuilds and registers the instantiated
tuple types. What is missing for the full statement (`GuardUnifySound`): union / cycle / partial /
callable / process types in the PARAMETER and cycle / partial / callable / process types in the
argument — for cycles the statement is false (`guard_unify_sound_refuted`); a union parameter meets the union/union
arm, sound since e4496af on the instances tried but not covered by a proof yet. -/

/-- **Soundness of the generic-call guard on the fragment**: if unification of the parameter type
`p` with the argument type `a` (from empty bindings) succeeds with bindings `σ`, and `σ` is
substituted into `p`, every value of the argument type inhabits the instantiated parameter type —
for every table and every fuel, under the every-variant rule. -/
theorem guard_unify_sound_partial (rules : Rules) (hr : rules.unionArg = .everyVariant)
    (cf f f' : Nat) (T T' T'' : Table) (p a r n m : Nat) (σ : Bindings)
    (hp : patT T n p = true) (ha : argT T m a = true)
    (hu : unifyWith rules cf f T [] p a = some (T', some σ))
    (hs : substitute σ f' T' p = some (T'', r)) :
    ∀ v, inh T [] a v → inh T'' [] r v := by
  have hb0 : BOk T [] := fun x t h => by simp [Bindings.get, List.lookup] at h
  obtain ⟨hE, hbσ, _, hsound⟩ := unify_sound_aux rules hr cf f T [] p a T' σ n m hu hp ha hb0
  obtain ⟨_, _, hsub⟩ :=
    substitute_sound σ f' T' p T'' r n hs (patT_transfer hE n p n hp (Nat.le_refl _)) hbσ
  exact fun v hv => hsub v (hsound v hv)

/-- the bindings produced on the fragment only mention first-order types, and the tables only grow. -/
theorem guard_unify_partial_tables (rules : Rules) (hr : rules.unionArg = .everyVariant)
    (cf f f' : Nat) (T T' T'' : Table) (p a r n m : Nat) (σ : Bindings)
    (hp : patT T n p = true) (ha : argT T m a = true)
    (hu : unifyWith rules cf f T [] p a = some (T', some σ))
    (hs : substitute σ f' T' p = some (T'', r)) :
    Ext T T' ∧ Ext T' T'' ∧ BOk T' σ := by
  have hb0 : BOk T [] := fun x t h => by simp [Bindings.get, List.lookup] at h
  obtain ⟨hE, hbσ, _, _⟩ := unify_sound_aux rules hr cf f T [] p a T' σ n m hu hp ha hb0
  obtain ⟨hE', _, _⟩ :=
    substitute_sound σ f' T' p T'' r n hs (patT_transfer hE n p n hp (Nat.le_refl _)) hbσ
  exact ⟨hE, hE', hbσ⟩

/-- The hypotheses are satisfiable by a non-trivial instance with widening: parameter `['t, 't]`,
argument `['int, 'bin]` (the literal `[1, 0x00]`): the guard answers `'t := 'int | 'bin`, the
instantiated parameter is `[('int | 'bin), ('int | 'bin)]`.
tuples: 2 `['t, 't]`, 3 `['int, 'bin]`; types: 0 'int, 1 'bin, 2 't, 3 `['t, 't]`, 4 `['int, 'bin]`. -/
def tWiden : Table :=
  { types := [.integer, .binary, .variable 7, .tuple 2, .tuple 3],
    tuples := [⟨none, []⟩, ⟨some 1, []⟩, ⟨none, [(none, 2), (none, 2)]⟩, ⟨none, [(none, 0), (none, 1)]⟩] }

example : patT tWiden 2 3 = true ∧ argT tWiden 2 4 = true := by decide +kernel

example : unifyWith Rules.current 8 8 tWiden [] 3 4 =
    some ({ tWiden with types := tWiden.types ++ [.union [0, 1]] }, some [(7, 5)]) := by decide +kernel

/-- the instance, run: `[1, 0x00]` inhabits the instantiated parameter (new type 6). -/
example : guardInstance Rules.current 8 tWiden 3 4
    (.tup none (.cons none (.int 1) (.cons none (.bin [0]) .nil))) = some (6, true, true) := by decide +kernel

theorem current_rules_every_variant : Rules.current.unionArg = .everyVariant := rfl

/-- the guard of the code as it is (`Rules.current`) is sound on the fragment. -/
theorem guard_unify_sound_partial_current (cf f f' : Nat) (T T' T'' : Table) (p a r n m : Nat)
    (σ : Bindings) (hp : patT T n p = true) (ha : argT T m a = true)
    (hu : unify cf f T [] p a = some (T', some σ)) (hs : substitute σ f' T' p = some (T'', r)) :
    ∀ v, inh T [] a v → inh T'' [] r v :=
  guard_unify_sound_partial Rules.current rfl cf f f' T T' T'' p a r n m σ hp ha hu hs

/-- The rule hypothesis cannot be dropped: the F6 instance lies inside the fragment, and under the
rule before 8f4b36d the conclusion fails on it. -/
theorem partial_needs_every_variant_rule :
    patT tF6 2 2 = true ∧ argT tF6 3 5 = true ∧
    unifyWith Rules.beforeF6 16 16 tF6 [] 2 5 = some (tF6, some [(7, 0)]) ∧
    substitute [(7, 0)] 16 tF6 2 = some (tF6, 3) ∧
    inh tF6 [] 5 vF6 ∧ ¬ inh tF6 [] 3 vF6 := by
  exact ⟨by decide +kernel, by decide +kernel, F6_old_rule_run.1, F6_old_rule_run.2.1, F6_old_rule_run.2.2,
    F6_value_outside⟩

/-- a union argument handled by the every-variant arm: parameter `['int, 't]`, argument
`['int, 'int] | ['int, 'bin]`; the guard answers `'t := 'int | 'bin`.
tuples: 2 `['int, 't]`, 3 `['int, 'int]`, 4 `['int, 'bin]`;
types: 0 'int, 1 't, 2 `['int, 't]`, 3 `['int, 'int]`, 4 'bin, 5 `['int, 'bin]`, 6 the union. -/
def tUnionArg : Table :=
  { types := [.integer, .variable 7, .tuple 2, .tuple 3, .binary, .tuple 4, .union [3, 5]],
    tuples := [⟨none, []⟩, ⟨some 1, []⟩, ⟨none, [(none, 0), (none, 1)]⟩, ⟨none, [(none, 0), (none, 0)]⟩,
               ⟨none, [(none, 0), (none, 4)]⟩] }

example : patT tUnionArg 2 2 = true ∧ argT tUnionArg 3 6 = true := by decide +kernel

example : guardInstance Rules.current 12 tUnionArg 2 6
    (.tup none (.cons none (.int 1) (.cons none (.bin [0]) .nil))) = some (8, true, true) := by decide +kernel

end C01
