import QuiverModel.Core.RefSem.Compile4
import QuiverModel.Core.RefSem.Compile5
/-
The programs of Compile1 … Compile4 are programs of Compile5: for each level the embedding of the syntax
(`T#.up … Brs#.up`), with the same code (`compileX_up`), the same meaning (`evalX_up`; the lower levels' meanings
read in Compile5's terms: `sem0`, `semUp`, `Sem.up`, `normOut`, `Out.up`), well-formedness carried over (`wfX_up`) and
a bound on the level of the constructs used (`lvX_up`). Rests on the model files alone; what C02Struct proves once
about the runs of Compile5's compiled code reads off through it for every level.
-/

namespace C02N
open QM.VM QM.RefSem.C5

/-- a value and the locals afterwards, as an outcome (the meanings of Compile2 and Compile3 know no other) -/
def normOut (r : Val × List Val) : Out := .norm r.1 r.2

/-- nothing can be applied (the meaning Compile1 and Compile2 are read with) -/
def sem0 : Sem := ⟨fun _ _ => none, fun _ _ => none, none⟩

mutual
  /-- the level a term needs: 3 for function literals and calls, 4 for `^` and builtin calls, 5 for `^x`, and 0 for
  everything else — what C02Loc's machine runs alone; any bound below 3 says "nothing is applied" -/
  def lvT : T4 → Nat
    | .tup _ fs => lvFs fs
    | .block bs => lvBrs bs
    | .fnlit _ _ => 3
    | .call _ => 3
    | .callNil _ => 3
    | .tailSelf => 4
    | .bcall _ => 4
    | .tailNamed _ => 5
    | _ => 0
  def lvCh : Ch4 → Nat
    | .nil => 0
    | .cons t r => max (lvT t) (lvCh r)
  def lvFs : Fs4 → Nat
    | .nil => 0
    | .cons c r => max (lvCh c) (lvFs r)
  def lvSq : Sq4 → Nat
    | .last c => lvCh c
    | .cons c r => max (lvCh c) (lvSq r)
  def lvBrs : Brs4 → Nat
    | .nil => 0
    | .cons cond .none rest => max (lvSq cond) (lvBrs rest)
    | .cons cond (.some cons) rest => max (lvSq cond) (max (lvSq cons) (lvBrs rest))
end

end C02N

namespace QM.RefSem.C1
open C02N (sem0)

mutual
  /-- Compile5 has Compile1's constructs -/
  def T1.up : T1 → C5.T4
    | .int z i => .int z i
    | .ripple => .ripple
    | .tup id fs => .tup id fs.up
    | .var x => .var x
    | .mtch p => .mtch p
  def Ch1.up : Ch1 → C5.Ch4
    | .nil => .nil
    | .cons t r => .cons t.up r.up
  def Fs1.up : Fs1 → C5.Fs4
    | .nil => .nil
    | .cons c r => .cons c.up r.up
end

def Sq1.up : Sq1 → C5.Sq4
  | .last c => .last c.up
  | .cons c r => .cons c.up r.up

theorem Fs1.length_up : (fs : Fs1) → fs.up.length = fs.length
  | .nil => rfl
  | .cons _ r => by simp only [Fs1.up, C5.Fs4.length, Fs1.length, length_up r]

mutual
  theorem compileT_up : (t : T1) → (Γ : List String) → C5.compileT Γ t.up = compileT Γ t
    | .int _ _, _ => rfl
    | .ripple, _ => rfl
    | .tup _ fs, Γ => by simp only [T1.up, C5.compileT, compileT, compileFs_up fs]
    | .var _, _ => rfl
    | .mtch _, _ => rfl
  theorem compileCh_up : (c : Ch1) → (Γ : List String) → C5.compileCh Γ c.up = compileCh Γ c
    | .nil, _ => rfl
    | .cons t r, Γ => by simp only [Ch1.up, C5.compileCh, compileCh, compileT_up t, compileCh_up r]
  theorem compileFs_up : (fs : Fs1) → (Γ : List String) → (k : Nat) → C5.compileFs Γ fs.up k = compileFs Γ fs k
    | .nil, _, _ => rfl
    | .cons c r, Γ, k => by simp only [Fs1.up, C5.compileFs, compileFs, compileCh_up c, compileFs_up r]
end

theorem compileSq_up : (sq : Sq1) → (Γ : List String) → C5.compileSq Γ sq.up = compileSq Γ sq
  | .last c, Γ => by simp only [Sq1.up, C5.compileSq, compileSq, compileCh_up c]
  | .cons c r, Γ => by
    simp only [Sq1.up, C5.compileSq, compileSq, compileCh_up c, compileSq_up r, List.append_assoc]

mutual
  theorem evalT_up : (t : T1) → (Γ : List String) → (L : List VM.Val) →
      (flow : VM.Val) → C5.evalT sem0 Γ L flow t.up = (evalT Γ L flow t).map C02N.normOut
    | .int _ _, _, _, _ => rfl
    | .ripple, _, _, _ => rfl
    | .tup _ fs, Γ, L, flow => by
      simp only [T1.up, C5.evalT, evalT, evalFs_up fs, Option.map_map, Function.comp_def, C02N.normOut]
    | .var _, Γ, L, flow => by
      simp only [T1.up, C5.evalT, evalT, Option.map_bind, Option.map_map, Function.comp_def, C02N.normOut]
    | .mtch _, Γ, L, flow => by
      simp only [T1.up, C5.evalT, evalT, Option.map_map, Function.comp_def, C02N.normOut]
  theorem evalCh_up : (c : Ch1) → (Γ : List String) → (L : List VM.Val) →
      (flow : VM.Val) → C5.evalCh sem0 Γ L flow c.up = (evalCh Γ L flow c).map C02N.normOut
    | .nil, _, _, _ => rfl
    | .cons t r, Γ, L, flow => by
      simp only [Ch1.up, C5.evalCh, evalCh, evalT_up t, compileT_up t]
      cases evalT Γ L flow t with
      | none => rfl
      | some a => exact evalCh_up r _ _ _
  theorem evalFs_up : (fs : Fs1) → (Γ : List String) → (L : List VM.Val) →
      (flow : VM.Val) → C5.evalFs sem0 Γ L flow fs.up = evalFs Γ L flow fs
    | .nil, _, _, _ => rfl
    | .cons c r, Γ, L, flow => by
      simp only [Fs1.up, C5.evalFs, evalFs, evalCh_up c, compileCh_up c]
      cases evalCh Γ L flow c with
      | none => rfl
      | some a => simp only [Option.map_some, C02N.normOut, Option.bind_some, evalFs_up r]
end

theorem evalSq_up : (sq : Sq1) → (Γ : List String) → (L : List VM.Val) →
    (flow : VM.Val) → C5.evalSq sem0 Γ L flow sq.up = (evalSq Γ L flow sq).map C02N.normOut
  | .last c, Γ, L, flow => by simp only [Sq1.up, C5.evalSq, evalSq, evalCh_up c]
  | .cons c r, Γ, L, flow => by
    simp only [Sq1.up, C5.evalSq, evalSq, evalCh_up c, compileCh_up c]
    cases evalCh Γ L flow c with
    | none => rfl
    | some a =>
      simp only [Option.map_some, C02N.normOut, Option.bind_some]
      cases a.1.isNil with
      | true => rfl
      | false => exact evalSq_up r _ _ _

mutual
  theorem wfT_up (P : VM.Prog) : (t : T1) → wfT P t → C5.wfT P t.up
    | .int _ _, h => h
    | .ripple, h => h
    | .tup _ fs, h => ⟨by rw [Fs1.length_up]; exact h.1, wfFs_up P fs h.2⟩
    | .var _, h => h
    | .mtch _, h => h
  theorem wfCh_up (P : VM.Prog) : (c : Ch1) → wfCh P c → C5.wfCh P c.up
    | .nil, h => h
    | .cons t r, h => ⟨wfT_up P t h.1, wfCh_up P r h.2⟩
  theorem wfFs_up (P : VM.Prog) : (fs : Fs1) → wfFs P fs → C5.wfFs P fs.up
    | .nil, h => h
    | .cons c r, h => ⟨wfCh_up P c h.1, wfFs_up P r h.2⟩
end

theorem wfSq_up (P : VM.Prog) : (sq : Sq1) → wfSq P sq → C5.wfSq P sq.up
  | .last c, h => wfCh_up P c h
  | .cons c r, h => ⟨wfCh_up P c h.1, wfSq_up P r h.2⟩

mutual
  theorem lvT_up : (t : T1) → C02N.lvT t.up ≤ 2
    | .int _ _ => Nat.zero_le _
    | .ripple => Nat.zero_le _
    | .tup _ fs => lvFs_up fs
    | .var _ => Nat.zero_le _
    | .mtch _ => Nat.zero_le _
  theorem lvCh_up : (c : Ch1) → C02N.lvCh c.up ≤ 2
    | .nil => Nat.zero_le _
    | .cons t r => Nat.max_le.2 ⟨lvT_up t, lvCh_up r⟩
  theorem lvFs_up : (fs : Fs1) → C02N.lvFs fs.up ≤ 2
    | .nil => Nat.zero_le _
    | .cons c r => Nat.max_le.2 ⟨lvCh_up c, lvFs_up r⟩
end

theorem lvSq_up : (sq : Sq1) → C02N.lvSq sq.up ≤ 2
  | .last c => lvCh_up c
  | .cons c r => Nat.max_le.2 ⟨lvCh_up c, lvSq_up r⟩

end QM.RefSem.C1

namespace QM.RefSem.C2
open C02N (sem0)

mutual
  /-- Compile5 has Compile2's constructs and functions, calls, `^`, builtin calls, `^x` -/
  def T2.up : T2 → C5.T4
    | .int z i => .int z i
    | .ripple => .ripple
    | .tup id fs => .tup id fs.up
    | .var x => .var x
    | .mtch p => .mtch p
    | .block bs => .block bs.up
  def Ch2.up : Ch2 → C5.Ch4
    | .nil => .nil
    | .cons t r => .cons t.up r.up
  def Fs2.up : Fs2 → C5.Fs4
    | .nil => .nil
    | .cons c r => .cons c.up r.up
  def Sq2.up : Sq2 → C5.Sq4
    | .last c => .last c.up
    | .cons c r => .cons c.up r.up
  def Brs2.up : Brs2 → C5.Brs4
    | .nil => .nil
    | .cons cond .none rest => .cons cond.up .none rest.up
    | .cons cond (.some cons) rest => .cons cond.up (.some cons.up) rest.up
end

theorem Fs2.length_up : (fs : Fs2) → fs.up.length = fs.length
  | .nil => rfl
  | .cons _ r => by simp only [Fs2.up, C5.Fs4.length, Fs2.length, length_up r]

theorem Brs2.isNil_up : (bs : Brs2) → bs.up.isNil = bs.isNil
  | .nil => rfl
  | .cons _ .none _ => rfl
  | .cons _ (.some _) _ => rfl

mutual
  theorem compileT_up : (t : T2) → (Γ : List String) → C5.compileT Γ t.up = compileT Γ t
    | .int _ _, _ => rfl
    | .ripple, _ => rfl
    | .tup _ fs, Γ => by simp only [T2.up, C5.compileT, compileT, compileFs_up fs]
    | .var _, _ => rfl
    | .mtch _, _ => rfl
    | .block bs, Γ => by simp only [T2.up, C5.compileT, compileT, compileBrs_up bs]
  theorem compileCh_up : (c : Ch2) → (Γ : List String) → C5.compileCh Γ c.up = compileCh Γ c
    | .nil, _ => rfl
    | .cons t r, Γ => by simp only [Ch2.up, C5.compileCh, compileCh, compileT_up t, compileCh_up r]
  theorem compileFs_up : (fs : Fs2) → (Γ : List String) → (k : Nat) → C5.compileFs Γ fs.up k = compileFs Γ fs k
    | .nil, _, _ => rfl
    | .cons c r, Γ, k => by simp only [Fs2.up, C5.compileFs, compileFs, compileCh_up c, compileFs_up r]
  theorem compileSq_up : (sq : Sq2) → (Γ : List String) → C5.compileSq Γ sq.up = compileSq Γ sq
    | .last c, Γ => by simp only [Sq2.up, C5.compileSq, compileSq, compileCh_up c]
    | .cons c r, Γ => by simp only [Sq2.up, C5.compileSq, compileSq, compileCh_up c, compileSq_up r]
  theorem compileBrs_up : (bs : Brs2) → (Γp : List String) → (n k : Nat) → (first : Bool) →
      C5.compileBrs Γp n bs.up k first = compileBrs Γp n bs k first
    | .nil, _, _, _, _ => rfl
    | .cons cond .none rest, Γp, n, k, first => by
      simp only [Brs2.up, C5.compileBrs, compileBrs, compileSq_up cond, compileBrs_up rest, Brs2.isNil_up]
    | .cons cond (.some cons) rest, Γp, n, k, first => by
      simp only [Brs2.up, C5.compileBrs, compileBrs, compileSq_up cond, compileSq_up cons, compileBrs_up rest,
        Brs2.isNil_up]
end

mutual
  theorem evalT_up : (t : T2) → (Γ : List String) → (L : List VM.Val) →
      (flow : VM.Val) → C5.evalT sem0 Γ L flow t.up = (evalT Γ L flow t).map C02N.normOut
    | .int _ _, _, _, _ => rfl
    | .ripple, _, _, _ => rfl
    | .tup _ fs, Γ, L, flow => by
      simp only [T2.up, C5.evalT, evalT, evalFs_up fs, Option.map_map, Function.comp_def, C02N.normOut]
    | .var _, Γ, L, flow => by
      simp only [T2.up, C5.evalT, evalT, Option.map_bind, Option.map_map, Function.comp_def, C02N.normOut]
    | .mtch _, Γ, L, flow => by
      simp only [T2.up, C5.evalT, evalT, Option.map_map, Function.comp_def, C02N.normOut]
    | .block bs, Γ, L, flow => by
      simp only [T2.up, C5.evalT, evalT, evalBrs_up bs, Option.map_map]
      rfl
  theorem evalCh_up : (c : Ch2) → (Γ : List String) → (L : List VM.Val) →
      (flow : VM.Val) → C5.evalCh sem0 Γ L flow c.up = (evalCh Γ L flow c).map C02N.normOut
    | .nil, _, _, _ => rfl
    | .cons t r, Γ, L, flow => by
      simp only [Ch2.up, C5.evalCh, evalCh, evalT_up t, compileT_up t]
      cases evalT Γ L flow t with
      | none => rfl
      | some a => exact evalCh_up r _ _ _
  theorem evalFs_up : (fs : Fs2) → (Γ : List String) → (L : List VM.Val) →
      (flow : VM.Val) → C5.evalFs sem0 Γ L flow fs.up = evalFs Γ L flow fs
    | .nil, _, _, _ => rfl
    | .cons c r, Γ, L, flow => by
      simp only [Fs2.up, C5.evalFs, evalFs, evalCh_up c, compileCh_up c]
      cases evalCh Γ L flow c with
      | none => rfl
      | some a => simp only [Option.map_some, C02N.normOut, Option.bind_some, evalFs_up r]
  theorem evalSq_up : (sq : Sq2) → (Γ : List String) → (L : List VM.Val) →
      (flow : VM.Val) → C5.evalSq sem0 Γ L flow sq.up = (evalSq Γ L flow sq).map C02N.normOut
    | .last c, Γ, L, flow => by simp only [Sq2.up, C5.evalSq, evalSq, evalCh_up c]
    | .cons c r, Γ, L, flow => by
      simp only [Sq2.up, C5.evalSq, evalSq, evalCh_up c, compileCh_up c]
      cases evalCh Γ L flow c with
      | none => rfl
      | some a =>
        simp only [Option.map_some, C02N.normOut, Option.bind_some]
        cases a.1.isNil with
        | true => rfl
        | false => exact evalSq_up r _ _ _
  theorem evalBrs_up : (bs : Brs2) → (Γp : List String) →
      (Lp : List VM.Val) → (flow : VM.Val) →
      C5.evalBrs sem0 Γp Lp flow bs.up = (evalBrs Γp Lp flow bs).map fun v => .norm v Lp
    | .nil, _, _, _ => rfl
    | .cons cond .none rest, Γp, Lp, flow => by
      simp only [Brs2.up, C5.evalBrs, evalBrs, evalSq_up cond]
      cases evalSq Γp Lp flow cond with
      | none => rfl
      | some a =>
        simp only [Option.map_some, C02N.normOut, Option.bind_some]
        cases a.1.isNil with
        | true => exact evalBrs_up rest _ _ _
        | false => rfl
    | .cons cond (.some cons) rest, Γp, Lp, flow => by
      simp only [Brs2.up, C5.evalBrs, evalBrs, evalSq_up cond, compileSq_up cond]
      cases evalSq Γp Lp flow cond with
      | none => rfl
      | some a =>
        simp only [Option.map_some, C02N.normOut, Option.bind_some]
        cases a.1.isNil with
        | true => exact evalBrs_up rest _ _ _
        | false =>
          simp only [Bool.false_eq_true, if_false, evalSq_up cons, Option.map_map]
          rfl
end

mutual
  theorem wfT_up (P : VM.Prog) : (t : T2) → wfT P t → C5.wfT P t.up
    | .int _ _, h => h
    | .ripple, h => h
    | .tup _ fs, h => ⟨by rw [Fs2.length_up]; exact h.1, wfFs_up P fs h.2⟩
    | .var _, h => h
    | .mtch _, h => h
    | .block bs, h => ⟨by rw [Brs2.isNil_up]; exact h.1, wfBrs_up P bs h.2⟩
  theorem wfCh_up (P : VM.Prog) : (c : Ch2) → wfCh P c → C5.wfCh P c.up
    | .nil, h => h
    | .cons t r, h => ⟨wfT_up P t h.1, wfCh_up P r h.2⟩
  theorem wfFs_up (P : VM.Prog) : (fs : Fs2) → wfFs P fs → C5.wfFs P fs.up
    | .nil, h => h
    | .cons c r, h => ⟨wfCh_up P c h.1, wfFs_up P r h.2⟩
  theorem wfSq_up (P : VM.Prog) : (sq : Sq2) → wfSq P sq → C5.wfSq P sq.up
    | .last c, h => wfCh_up P c h
    | .cons c r, h => ⟨wfCh_up P c h.1, wfSq_up P r h.2⟩
  theorem wfBrs_up (P : VM.Prog) : (bs : Brs2) → wfBrs P bs → C5.wfBrs P bs.up
    | .nil, h => h
    | .cons cond .none rest, h => ⟨wfSq_up P cond h.1, wfBrs_up P rest h.2⟩
    | .cons cond (.some cons) rest, h => ⟨wfSq_up P cond h.1, wfSq_up P cons h.2.1, wfBrs_up P rest h.2.2⟩
end

mutual
  theorem lvT_up : (t : T2) → C02N.lvT t.up ≤ 2
    | .int _ _ => Nat.zero_le _
    | .ripple => Nat.zero_le _
    | .tup _ fs => lvFs_up fs
    | .var _ => Nat.zero_le _
    | .mtch _ => Nat.zero_le _
    | .block bs => lvBrs_up bs
  theorem lvCh_up : (c : Ch2) → C02N.lvCh c.up ≤ 2
    | .nil => Nat.zero_le _
    | .cons t r => Nat.max_le.2 ⟨lvT_up t, lvCh_up r⟩
  theorem lvFs_up : (fs : Fs2) → C02N.lvFs fs.up ≤ 2
    | .nil => Nat.zero_le _
    | .cons c r => Nat.max_le.2 ⟨lvCh_up c, lvFs_up r⟩
  theorem lvSq_up : (sq : Sq2) → C02N.lvSq sq.up ≤ 2
    | .last c => lvCh_up c
    | .cons c r => Nat.max_le.2 ⟨lvCh_up c, lvSq_up r⟩
  theorem lvBrs_up : (bs : Brs2) → C02N.lvBrs bs.up ≤ 2
    | .nil => Nat.zero_le _
    | .cons cond .none rest => Nat.max_le.2 ⟨lvSq_up cond, lvBrs_up rest⟩
    | .cons cond (.some cons) rest => Nat.max_le.2 ⟨lvSq_up cond, Nat.max_le.2 ⟨lvSq_up cons, lvBrs_up rest⟩⟩
end

end QM.RefSem.C2

namespace QM.RefSem.C3

mutual
  /-- Compile5 has Compile3's constructs, `^`, builtin calls and `^x` -/
  def T3.up : T3 → C5.T4
    | .int z i => .int z i
    | .ripple => .ripple
    | .tup id fs => .tup id fs.up
    | .var x => .var x
    | .mtch p => .mtch p
    | .block bs => .block bs.up
    | .fnlit fi caps => .fnlit fi caps
    | .call x => .call x
    | .callNil x => .callNil x
  def Ch3.up : Ch3 → C5.Ch4
    | .nil => .nil
    | .cons t r => .cons t.up r.up
  def Fs3.up : Fs3 → C5.Fs4
    | .nil => .nil
    | .cons c r => .cons c.up r.up
  def Sq3.up : Sq3 → C5.Sq4
    | .last c => .last c.up
    | .cons c r => .cons c.up r.up
  def Brs3.up : Brs3 → C5.Brs4
    | .nil => .nil
    | .cons cond .none rest => .cons cond.up .none rest.up
    | .cons cond (.some cons) rest => .cons cond.up (.some cons.up) rest.up
end

/-- no builtins, no enclosing function -/
def semUp (cs : VM.Val → VM.Val → Option VM.Val) : C5.Sem := ⟨cs, fun _ _ => none, none⟩

theorem Fs3.length_up : (fs : Fs3) → fs.up.length = fs.length
  | .nil => rfl
  | .cons _ r => by simp only [Fs3.up, C5.Fs4.length, Fs3.length, length_up r]

theorem loadsOf_up (Γ : List String) : (caps : List String) → C5.loadsOf Γ caps = loadsOf Γ caps
  | [] => rfl
  | _ :: r => by simp only [C5.loadsOf, loadsOf, loadsOf_up Γ r]

theorem capVals_up (Γ : List String) (L : List VM.Val) : (caps : List String) → C5.capVals Γ L caps = capVals Γ L caps
  | [] => rfl
  | _ :: r => by simp only [C5.capVals, capVals, capVals_up Γ L r]; rfl

theorem Brs3.isNil_up : (bs : Brs3) → bs.up.isNil = bs.isNil
  | .nil => rfl
  | .cons _ .none _ => rfl
  | .cons _ (.some _) _ => rfl

mutual
  theorem compileT_up : (t : T3) → (Γ : List String) → C5.compileT Γ t.up = compileT Γ t
    | .int _ _, _ => rfl
    | .ripple, _ => rfl
    | .tup _ fs, Γ => by simp only [T3.up, C5.compileT, compileT, compileFs_up fs]
    | .var _, _ => rfl
    | .mtch _, _ => rfl
    | .block bs, Γ => by simp only [T3.up, C5.compileT, compileT, compileBrs_up bs]
    | .fnlit _ _, _ => by simp only [T3.up, C5.compileT, compileT, loadsOf_up]
    | .call _, _ => rfl
    | .callNil _, _ => rfl
  theorem compileCh_up : (c : Ch3) → (Γ : List String) → C5.compileCh Γ c.up = compileCh Γ c
    | .nil, _ => rfl
    | .cons t r, Γ => by simp only [Ch3.up, C5.compileCh, compileCh, compileT_up t, compileCh_up r]
  theorem compileFs_up : (fs : Fs3) → (Γ : List String) → (k : Nat) → C5.compileFs Γ fs.up k = compileFs Γ fs k
    | .nil, _, _ => rfl
    | .cons c r, Γ, k => by simp only [Fs3.up, C5.compileFs, compileFs, compileCh_up c, compileFs_up r]
  theorem compileSq_up : (sq : Sq3) → (Γ : List String) → C5.compileSq Γ sq.up = compileSq Γ sq
    | .last c, Γ => by simp only [Sq3.up, C5.compileSq, compileSq, compileCh_up c]
    | .cons c r, Γ => by simp only [Sq3.up, C5.compileSq, compileSq, compileCh_up c, compileSq_up r]
  theorem compileBrs_up : (bs : Brs3) → (Γp : List String) → (n k : Nat) → (first : Bool) →
      C5.compileBrs Γp n bs.up k first = compileBrs Γp n bs k first
    | .nil, _, _, _, _ => rfl
    | .cons cond .none rest, Γp, n, k, first => by
      simp only [Brs3.up, C5.compileBrs, compileBrs, compileSq_up cond, compileBrs_up rest, Brs3.isNil_up]
    | .cons cond (.some cons) rest, Γp, n, k, first => by
      simp only [Brs3.up, C5.compileBrs, compileBrs, compileSq_up cond, compileSq_up cons, compileBrs_up rest,
        Brs3.isNil_up]
end

mutual
  theorem evalT_up (cs : VM.Val → VM.Val → Option VM.Val) : (t : T3) → (Γ : List String) → (L : List VM.Val) →
      (flow : VM.Val) → C5.evalT (semUp cs) Γ L flow t.up = (evalT cs Γ L flow t).map C02N.normOut
    | .int _ _, _, _, _ => rfl
    | .ripple, _, _, _ => rfl
    | .tup _ fs, Γ, L, flow => by
      simp only [T3.up, C5.evalT, evalT, evalFs_up cs fs, Option.map_map, Function.comp_def, C02N.normOut]
    | .var _, Γ, L, flow => by
      simp only [T3.up, C5.evalT, evalT, Option.map_bind, Option.map_map, Function.comp_def, C02N.normOut]
    | .mtch _, Γ, L, flow => by
      simp only [T3.up, C5.evalT, evalT, Option.map_map, Function.comp_def, C02N.normOut]
    | .block bs, Γ, L, flow => by
      simp only [T3.up, C5.evalT, evalT, evalBrs_up cs bs, Option.map_map]
      rfl
    | .fnlit _ _, Γ, L, flow => by
      simp only [T3.up, C5.evalT, evalT, capVals_up, Option.map_map, Function.comp_def, C02N.normOut]
    | .call _, Γ, L, flow => by
      simp only [T3.up, C5.evalT, evalT, semUp, Option.map_bind, Option.map_map, Function.comp_def, C02N.normOut]
    | .callNil _, Γ, L, flow => by
      simp only [T3.up, C5.evalT, evalT, semUp, Option.map_bind, Option.map_map, Function.comp_def, C02N.normOut]
  theorem evalCh_up (cs : VM.Val → VM.Val → Option VM.Val) : (c : Ch3) → (Γ : List String) → (L : List VM.Val) →
      (flow : VM.Val) → C5.evalCh (semUp cs) Γ L flow c.up = (evalCh cs Γ L flow c).map C02N.normOut
    | .nil, _, _, _ => rfl
    | .cons t r, Γ, L, flow => by
      simp only [Ch3.up, C5.evalCh, evalCh, evalT_up cs t, compileT_up t]
      cases evalT cs Γ L flow t with
      | none => rfl
      | some a => exact evalCh_up cs r _ _ _
  theorem evalFs_up (cs : VM.Val → VM.Val → Option VM.Val) : (fs : Fs3) → (Γ : List String) → (L : List VM.Val) →
      (flow : VM.Val) → C5.evalFs (semUp cs) Γ L flow fs.up = evalFs cs Γ L flow fs
    | .nil, _, _, _ => rfl
    | .cons c r, Γ, L, flow => by
      simp only [Fs3.up, C5.evalFs, evalFs, evalCh_up cs c, compileCh_up c]
      cases evalCh cs Γ L flow c with
      | none => rfl
      | some a => simp only [Option.map_some, C02N.normOut, Option.bind_some, evalFs_up cs r]
  theorem evalSq_up (cs : VM.Val → VM.Val → Option VM.Val) : (sq : Sq3) → (Γ : List String) → (L : List VM.Val) →
      (flow : VM.Val) → C5.evalSq (semUp cs) Γ L flow sq.up = (evalSq cs Γ L flow sq).map C02N.normOut
    | .last c, Γ, L, flow => by simp only [Sq3.up, C5.evalSq, evalSq, evalCh_up cs c]
    | .cons c r, Γ, L, flow => by
      simp only [Sq3.up, C5.evalSq, evalSq, evalCh_up cs c, compileCh_up c]
      cases evalCh cs Γ L flow c with
      | none => rfl
      | some a =>
        simp only [Option.map_some, C02N.normOut, Option.bind_some]
        cases a.1.isNil with
        | true => rfl
        | false => exact evalSq_up cs r _ _ _
  theorem evalBrs_up (cs : VM.Val → VM.Val → Option VM.Val) : (bs : Brs3) → (Γp : List String) →
      (Lp : List VM.Val) → (flow : VM.Val) →
      C5.evalBrs (semUp cs) Γp Lp flow bs.up = (evalBrs cs Γp Lp flow bs).map fun v => .norm v Lp
    | .nil, _, _, _ => rfl
    | .cons cond .none rest, Γp, Lp, flow => by
      simp only [Brs3.up, C5.evalBrs, evalBrs, evalSq_up cs cond]
      cases evalSq cs Γp Lp flow cond with
      | none => rfl
      | some a =>
        simp only [Option.map_some, C02N.normOut, Option.bind_some]
        cases a.1.isNil with
        | true => exact evalBrs_up cs rest _ _ _
        | false => rfl
    | .cons cond (.some cons) rest, Γp, Lp, flow => by
      simp only [Brs3.up, C5.evalBrs, evalBrs, evalSq_up cs cond, compileSq_up cond]
      cases evalSq cs Γp Lp flow cond with
      | none => rfl
      | some a =>
        simp only [Option.map_some, C02N.normOut, Option.bind_some]
        cases a.1.isNil with
        | true => exact evalBrs_up cs rest _ _ _
        | false =>
          simp only [Bool.false_eq_true, if_false, evalSq_up cs cons, Option.map_map]
          rfl
end

mutual
  theorem wfT_up (P : VM.Prog) : (t : T3) → wfT P t → C5.wfT P t.up
    | .int _ _, h => h
    | .ripple, h => h
    | .tup _ fs, h => ⟨by rw [Fs3.length_up]; exact h.1, wfFs_up P fs h.2⟩
    | .var _, h => h
    | .mtch _, h => h
    | .block bs, h => ⟨by rw [Brs3.isNil_up]; exact h.1, wfBrs_up P bs h.2⟩
    | .fnlit _ _, h => h
    | .call _, h => h
    | .callNil _, h => h
  theorem wfCh_up (P : VM.Prog) : (c : Ch3) → wfCh P c → C5.wfCh P c.up
    | .nil, h => h
    | .cons t r, h => ⟨wfT_up P t h.1, wfCh_up P r h.2⟩
  theorem wfFs_up (P : VM.Prog) : (fs : Fs3) → wfFs P fs → C5.wfFs P fs.up
    | .nil, h => h
    | .cons c r, h => ⟨wfCh_up P c h.1, wfFs_up P r h.2⟩
  theorem wfSq_up (P : VM.Prog) : (sq : Sq3) → wfSq P sq → C5.wfSq P sq.up
    | .last c, h => wfCh_up P c h
    | .cons c r, h => ⟨wfCh_up P c h.1, wfSq_up P r h.2⟩
  theorem wfBrs_up (P : VM.Prog) : (bs : Brs3) → wfBrs P bs → C5.wfBrs P bs.up
    | .nil, h => h
    | .cons cond .none rest, h => ⟨wfSq_up P cond h.1, wfBrs_up P rest h.2⟩
    | .cons cond (.some cons) rest, h => ⟨wfSq_up P cond h.1, wfSq_up P cons h.2.1, wfBrs_up P rest h.2.2⟩
end

mutual
  theorem lvT_up : (t : T3) → C02N.lvT t.up ≤ 3
    | .int _ _ => Nat.zero_le _
    | .ripple => Nat.zero_le _
    | .tup _ fs => lvFs_up fs
    | .var _ => Nat.zero_le _
    | .mtch _ => Nat.zero_le _
    | .block bs => lvBrs_up bs
    | .fnlit _ _ => Nat.le_refl _
    | .call _ => Nat.le_refl _
    | .callNil _ => Nat.le_refl _
  theorem lvCh_up : (c : Ch3) → C02N.lvCh c.up ≤ 3
    | .nil => Nat.zero_le _
    | .cons t r => Nat.max_le.2 ⟨lvT_up t, lvCh_up r⟩
  theorem lvFs_up : (fs : Fs3) → C02N.lvFs fs.up ≤ 3
    | .nil => Nat.zero_le _
    | .cons c r => Nat.max_le.2 ⟨lvCh_up c, lvFs_up r⟩
  theorem lvSq_up : (sq : Sq3) → C02N.lvSq sq.up ≤ 3
    | .last c => lvCh_up c
    | .cons c r => Nat.max_le.2 ⟨lvCh_up c, lvSq_up r⟩
  theorem lvBrs_up : (bs : Brs3) → C02N.lvBrs bs.up ≤ 3
    | .nil => Nat.zero_le _
    | .cons cond .none rest => Nat.max_le.2 ⟨lvSq_up cond, lvBrs_up rest⟩
    | .cons cond (.some cons) rest => Nat.max_le.2 ⟨lvSq_up cond, Nat.max_le.2 ⟨lvSq_up cons, lvBrs_up rest⟩⟩
end

end QM.RefSem.C3

namespace QM.RefSem.C4

mutual
  /-- Compile5 has Compile4's constructs and `^x` -/
  def T4.up : T4 → C5.T4
    | .int z i => .int z i
    | .ripple => .ripple
    | .tup id fs => .tup id fs.up
    | .var x => .var x
    | .mtch p => .mtch p
    | .block bs => .block bs.up
    | .fnlit fi caps => .fnlit fi caps
    | .call x => .call x
    | .callNil x => .callNil x
    | .tailSelf => .tailSelf
    | .bcall bi => .bcall bi
  def Ch4.up : Ch4 → C5.Ch4
    | .nil => .nil
    | .cons t r => .cons t.up r.up
  def Fs4.up : Fs4 → C5.Fs4
    | .nil => .nil
    | .cons c r => .cons c.up r.up
  def Sq4.up : Sq4 → C5.Sq4
    | .last c => .last c.up
    | .cons c r => .cons c.up r.up
  def Brs4.up : Brs4 → C5.Brs4
    | .nil => .nil
    | .cons cond .none rest => .cons cond.up .none rest.up
    | .cons cond (.some cons) rest => .cons cond.up (.some cons.up) rest.up
end

def Out.up : Out → C5.Out
  | .norm v L => .norm v L
  | .exit res => .exit res

def Sem.up (cs : Sem) : C5.Sem := ⟨cs.app, cs.bi, cs.self⟩

theorem Fs4.length_up : (fs : Fs4) → fs.up.length = fs.length
  | .nil => rfl
  | .cons _ r => by simp only [Fs4.up, C5.Fs4.length, Fs4.length, length_up r]

theorem loadsOf_up (Γ : List String) : (caps : List String) → C5.loadsOf Γ caps = loadsOf Γ caps
  | [] => rfl
  | _ :: r => by simp only [C5.loadsOf, loadsOf, loadsOf_up Γ r]

theorem capVals_up (Γ : List String) (L : List VM.Val) : (caps : List String) → C5.capVals Γ L caps = capVals Γ L caps
  | [] => rfl
  | _ :: r => by simp only [C5.capVals, capVals, capVals_up Γ L r]; rfl

theorem Brs4.isNil_up : (bs : Brs4) → bs.up.isNil = bs.isNil
  | .nil => rfl
  | .cons _ .none _ => rfl
  | .cons _ (.some _) _ => rfl

mutual
  theorem compileT_up : (t : T4) → (Γ : List String) → C5.compileT Γ t.up = compileT Γ t
    | .int _ _, _ => rfl
    | .ripple, _ => rfl
    | .tup _ fs, Γ => by simp only [T4.up, C5.compileT, compileT, compileFs_up fs]
    | .var _, _ => rfl
    | .mtch _, _ => rfl
    | .block bs, Γ => by simp only [T4.up, C5.compileT, compileT, compileBrs_up bs]
    | .fnlit _ _, _ => by simp only [T4.up, C5.compileT, compileT, loadsOf_up]
    | .call _, _ => rfl
    | .callNil _, _ => rfl
    | .tailSelf, _ => rfl
    | .bcall _, _ => rfl
  theorem compileCh_up : (c : Ch4) → (Γ : List String) → C5.compileCh Γ c.up = compileCh Γ c
    | .nil, _ => rfl
    | .cons t r, Γ => by simp only [Ch4.up, C5.compileCh, compileCh, compileT_up t, compileCh_up r]
  theorem compileFs_up : (fs : Fs4) → (Γ : List String) → (k : Nat) → C5.compileFs Γ fs.up k = compileFs Γ fs k
    | .nil, _, _ => rfl
    | .cons c r, Γ, k => by simp only [Fs4.up, C5.compileFs, compileFs, compileCh_up c, compileFs_up r]
  theorem compileSq_up : (sq : Sq4) → (Γ : List String) → C5.compileSq Γ sq.up = compileSq Γ sq
    | .last c, Γ => by simp only [Sq4.up, C5.compileSq, compileSq, compileCh_up c]
    | .cons c r, Γ => by simp only [Sq4.up, C5.compileSq, compileSq, compileCh_up c, compileSq_up r]
  theorem compileBrs_up : (bs : Brs4) → (Γp : List String) → (n k : Nat) → (first : Bool) →
      C5.compileBrs Γp n bs.up k first = compileBrs Γp n bs k first
    | .nil, _, _, _, _ => rfl
    | .cons cond .none rest, Γp, n, k, first => by
      simp only [Brs4.up, C5.compileBrs, compileBrs, compileSq_up cond, compileBrs_up rest, Brs4.isNil_up]
    | .cons cond (.some cons) rest, Γp, n, k, first => by
      simp only [Brs4.up, C5.compileBrs, compileBrs, compileSq_up cond, compileSq_up cons, compileBrs_up rest,
        Brs4.isNil_up]
end

mutual
  theorem evalT_up (cs : Sem) : (t : T4) → (Γ : List String) → (L : List VM.Val) → (flow : VM.Val) →
      C5.evalT cs.up Γ L flow t.up = (evalT cs Γ L flow t).map Out.up
    | .int _ _, _, _, _ => rfl
    | .ripple, _, _, _ => rfl
    | .tup _ fs, Γ, L, flow => by
      simp only [T4.up, C5.evalT, evalT, evalFs_up cs fs, Option.map_map, Function.comp_def, Out.up]
    | .var _, Γ, L, flow => by
      simp only [T4.up, C5.evalT, evalT, Option.map_bind, Option.map_map, Function.comp_def, Out.up]
    | .mtch _, Γ, L, flow => by
      simp only [T4.up, C5.evalT, evalT, Option.map_map, Function.comp_def, Out.up]
    | .block bs, Γ, L, flow => by
      simp only [T4.up, C5.evalT, evalT, evalBrs_up cs bs, Option.map_map]
      cases evalBrs cs (Γ ++ [""]) (L ++ [flow]) flow bs with
      | none => rfl
      | some o => cases o <;> rfl
    | .fnlit _ _, Γ, L, flow => by
      simp only [T4.up, C5.evalT, evalT, capVals_up, Option.map_map, Function.comp_def, Out.up]
    | .call _, Γ, L, flow => by
      simp only [T4.up, C5.evalT, evalT, Sem.up, Option.map_bind, Option.map_map, Function.comp_def, Out.up]
    | .callNil _, Γ, L, flow => by
      simp only [T4.up, C5.evalT, evalT, Sem.up, Option.map_bind, Option.map_map, Function.comp_def, Out.up]
    | .tailSelf, Γ, L, flow => by
      simp only [T4.up, C5.evalT, evalT, Sem.up, Option.map_bind, Option.map_map, Function.comp_def, Out.up]
    | .bcall _, Γ, L, flow => by
      simp only [T4.up, C5.evalT, evalT, Sem.up, Option.map_map, Function.comp_def, Out.up]
  theorem evalCh_up (cs : Sem) : (c : Ch4) → (Γ : List String) → (L : List VM.Val) → (flow : VM.Val) →
      C5.evalCh cs.up Γ L flow c.up = (evalCh cs Γ L flow c).map Out.up
    | .nil, _, _, _ => rfl
    | .cons t r, Γ, L, flow => by
      simp only [Ch4.up, C5.evalCh, evalCh, evalT_up cs t, compileT_up t]
      cases evalT cs Γ L flow t with
      | none => rfl
      | some o =>
        cases o with
        | norm v L₁ => exact evalCh_up cs r _ _ _
        | exit res => rfl
  theorem evalFs_up (cs : Sem) : (fs : Fs4) → (Γ : List String) → (L : List VM.Val) → (flow : VM.Val) →
      C5.evalFs cs.up Γ L flow fs.up = evalFs cs Γ L flow fs
    | .nil, _, _, _ => rfl
    | .cons c r, Γ, L, flow => by
      simp only [Fs4.up, C5.evalFs, evalFs, evalCh_up cs c, compileCh_up c]
      cases evalCh cs Γ L flow c with
      | none => rfl
      | some o =>
        cases o with
        | norm v L₁ => simp only [Option.map_some, Out.up, Option.bind_some, evalFs_up cs r]
        | exit res => rfl
  theorem evalSq_up (cs : Sem) : (sq : Sq4) → (Γ : List String) → (L : List VM.Val) → (flow : VM.Val) →
      C5.evalSq cs.up Γ L flow sq.up = (evalSq cs Γ L flow sq).map Out.up
    | .last c, Γ, L, flow => by simp only [Sq4.up, C5.evalSq, evalSq, evalCh_up cs c]
    | .cons c r, Γ, L, flow => by
      simp only [Sq4.up, C5.evalSq, evalSq, evalCh_up cs c, compileCh_up c]
      cases evalCh cs Γ L flow c with
      | none => rfl
      | some o =>
        cases o with
        | norm v L₁ =>
          simp only [Option.map_some, Out.up, Option.bind_some]
          cases v.isNil with
          | true => rfl
          | false => exact evalSq_up cs r _ _ _
        | exit res => rfl
  theorem evalBrs_up (cs : Sem) : (bs : Brs4) → (Γp : List String) → (Lp : List VM.Val) → (flow : VM.Val) →
      C5.evalBrs cs.up Γp Lp flow bs.up = (evalBrs cs Γp Lp flow bs).map Out.up
    | .nil, _, _, _ => rfl
    | .cons cond .none rest, Γp, Lp, flow => by
      simp only [Brs4.up, C5.evalBrs, evalBrs, evalSq_up cs cond]
      cases evalSq cs Γp Lp flow cond with
      | none => rfl
      | some o =>
        cases o with
        | norm v Lc =>
          simp only [Option.map_some, Out.up, Option.bind_some]
          cases v.isNil with
          | true => exact evalBrs_up cs rest _ _ _
          | false => rfl
        | exit res => rfl
    | .cons cond (.some cons) rest, Γp, Lp, flow => by
      simp only [Brs4.up, C5.evalBrs, evalBrs, evalSq_up cs cond, compileSq_up cond]
      cases evalSq cs Γp Lp flow cond with
      | none => rfl
      | some o =>
        cases o with
        | norm v Lc =>
          simp only [Option.map_some, Out.up, Option.bind_some]
          cases v.isNil with
          | true => exact evalBrs_up cs rest _ _ _
          | false =>
            simp only [Bool.false_eq_true, if_false, evalSq_up cs cons, Option.map_map]
            cases evalSq cs (compileSq Γp cond).2 Lc flow cons with
            | none => rfl
            | some o2 => cases o2 <;> rfl
        | exit res => rfl
end

mutual
  theorem wfT_up (P : VM.Prog) : (t : T4) → wfT P t → C5.wfT P t.up
    | .int _ _, h => h
    | .ripple, h => h
    | .tup _ fs, h => ⟨by rw [Fs4.length_up]; exact h.1, wfFs_up P fs h.2⟩
    | .var _, h => h
    | .mtch _, h => h
    | .block bs, h => ⟨by rw [Brs4.isNil_up]; exact h.1, wfBrs_up P bs h.2⟩
    | .fnlit _ _, h => h
    | .call _, h => h
    | .callNil _, h => h
    | .tailSelf, h => h
    | .bcall _, h => h
  theorem wfCh_up (P : VM.Prog) : (c : Ch4) → wfCh P c → C5.wfCh P c.up
    | .nil, h => h
    | .cons t r, h => ⟨wfT_up P t h.1, wfCh_up P r h.2⟩
  theorem wfFs_up (P : VM.Prog) : (fs : Fs4) → wfFs P fs → C5.wfFs P fs.up
    | .nil, h => h
    | .cons c r, h => ⟨wfCh_up P c h.1, wfFs_up P r h.2⟩
  theorem wfSq_up (P : VM.Prog) : (sq : Sq4) → wfSq P sq → C5.wfSq P sq.up
    | .last c, h => wfCh_up P c h
    | .cons c r, h => ⟨wfCh_up P c h.1, wfSq_up P r h.2⟩
  theorem wfBrs_up (P : VM.Prog) : (bs : Brs4) → wfBrs P bs → C5.wfBrs P bs.up
    | .nil, h => h
    | .cons cond .none rest, h => ⟨wfSq_up P cond h.1, wfBrs_up P rest h.2⟩
    | .cons cond (.some cons) rest, h => ⟨wfSq_up P cond h.1, wfSq_up P cons h.2.1, wfBrs_up P rest h.2.2⟩
end

mutual
  theorem lvT_up : (t : T4) → C02N.lvT t.up ≤ 4
    | .int _ _ => Nat.zero_le _
    | .ripple => Nat.zero_le _
    | .tup _ fs => lvFs_up fs
    | .var _ => Nat.zero_le _
    | .mtch _ => Nat.zero_le _
    | .block bs => lvBrs_up bs
    | .fnlit _ _ => Nat.le_succ 3
    | .call _ => Nat.le_succ 3
    | .callNil _ => Nat.le_succ 3
    | .tailSelf => Nat.le_refl _
    | .bcall _ => Nat.le_refl _
  theorem lvCh_up : (c : Ch4) → C02N.lvCh c.up ≤ 4
    | .nil => Nat.zero_le _
    | .cons t r => Nat.max_le.2 ⟨lvT_up t, lvCh_up r⟩
  theorem lvFs_up : (fs : Fs4) → C02N.lvFs fs.up ≤ 4
    | .nil => Nat.zero_le _
    | .cons c r => Nat.max_le.2 ⟨lvCh_up c, lvFs_up r⟩
  theorem lvSq_up : (sq : Sq4) → C02N.lvSq sq.up ≤ 4
    | .last c => lvCh_up c
    | .cons c r => Nat.max_le.2 ⟨lvCh_up c, lvSq_up r⟩
  theorem lvBrs_up : (bs : Brs4) → C02N.lvBrs bs.up ≤ 4
    | .nil => Nat.zero_le _
    | .cons cond .none rest => Nat.max_le.2 ⟨lvSq_up cond, lvBrs_up rest⟩
    | .cons cond (.some cons) rest => Nat.max_le.2 ⟨lvSq_up cond, Nat.max_le.2 ⟨lvSq_up cons, lvBrs_up rest⟩⟩
end

end QM.RefSem.C4
