import QuiverModel.Theorems.C08
import QuiverModel.Theorems.C10
import QuiverModel.Lemmas.Packaging.MergeBridge
/-
C10 × C08 — what `tree_shake` and `merge_bytecode` do to the run-time compatibility verdicts, for every program.

`treeShake_preserves_behaviour` and `merge_preserves_behaviour` (Theorems/C10.lean) have, beside `CanonComputed` for
both programs, one hypothesis about tables, `TablesAgree`. This file derives its core from the model of the type relation (`QM.Types`, Theorems/C08.lean):

`tree_shake`:
  * `shake_embeds` (Lemmas/Packaging/Bridge.lean): the shaken type and tuple tables embed into the
    original ones (`QM.Types.Embeds`), by the sweep's rank tables read backwards — every program, entry;
  * `shake_keeps_assignability` / `shake_keeps_overlap`: hence `is_compatible` / `types_overlap` give the
    same verdict on any two kept type ids before and after shaking (`C08.compat_rename`, `C08.overlap_rename`);
  * `shake_keeps_tag_verdict` (`C08.rename_invariant`, two `tagType` hypotheses) and, through
    `C08.rename_invariant_of_embeds`, `shake_keeps_every_kept_tag_verdict`: a kept pattern accepts a tag that has
    an index entry after shaking exactly when the original pattern accepted the original tag;
  * `tagType_of_present`: `Prog.tagPresent` (Core/Packaging) is C08's "the index has an entry";
  * `TablesComputed` (the run-time tables ARE what C08's model of `compute_type_compatibility` /
    `compute_param_compatibility` yields) and `EntriesKept` (a kept tag with an index entry keeps one) ⇒
    **`treeShake_tablesAgree`**; `PresenceKept` ⇒ `EntriesKept` (`entriesKept_of_presenceKept`), hence
    **`treeShake_preserves_behaviour_computed`**: (T1) with no hypothesis that relates the tables of the two
    programs to each other. `shake_resources` gives the resource clause; `shake_keeps_code_tag_presence` and
    `presenceKept_of_data` reduce `PresenceKept` to the data tags (`DataPresenceKept`).
  * `tablesComputedB`, `presenceKeptB`, `fnTypesCallableB`, `shakeHypotheses`: Boolean checks after the hypotheses of
    `treeShake_preserves_behaviour_computed`, evaluated by the driver per instance. No theorem relates them to
    the hypotheses; `tablesComputedB` looks only at the tags whose ids are inside the tables (`progTags`).

`merge_bytecode`:
  * `merge_embeds` (from `merge_types_tuples`, `type_tuple_maps_inj`, `embeds_of_clauses`): the incoming
    program's type and tuple tables embed into the merged ones by the remap tables;
  * `merge_keeps_assignability`, `merge_keeps_overlap`, `merge_keeps_every_tag_verdict`: the verdicts of the
    incoming program are those of the merged program on the images.

`PresenceKept` is the precise form of the F13 exception: a tag whose type entry the sweep drops has
`tagType = none` afterwards (`C08.rename_loses_tag_without_entry`: accepted by nothing), which is what
`C10.legacy_shake_loses_process_entry` exhibits for the pre-5a04882 sweep and what `Prog.tagPresent`
exempts in `IsRenaming`. It is NOT true of every bytecode (a `Type::Integer` entry that nothing kept refers
to is dropped, after which an integer is tested by the fallback rule) — it is checked per instance by the
validator; see notes/C10.md.
-/
namespace C10
open QM QM.Packaging
open QM.Types (CInput CTag TypeIndex tagType tagAccepts isCompatible typesOverlap CTag.mapIds Embeds)

/-- a program as the input of C08's compatibility computation -/
def toCInput (ι : String → Nat) (P : Prog) : CInput :=
  { table := toTable ι P
    functions := P.fns.toList.map (fun F => ⟨F.typeId, isTypeOps F.instrs⟩)
    builtins := P.builtins.toList.map (fun B => (B.paramType, B.resultType))
    resources := P.resources.toList.map ι }

theorem toCInput_functions (ι : String → Nat) (P : Prog) (f : Nat) :
    (toCInput ι P).functions[f]? = (P.fns[f]?).map (fun F => ⟨F.typeId, isTypeOps F.instrs⟩) := by
  rw [toCInput, List.getElem?_map, Array.getElem?_toList]

theorem toCInput_builtins (ι : String → Nat) (P : Prog) (b : Nat) :
    (toCInput ι P).builtins[b]? = (P.builtins[b]?).map (fun B => (B.paramType, B.resultType)) := by
  rw [toCInput, List.getElem?_map, Array.getElem?_toList]

theorem toCInput_resources (ι : String → Nat) (P : Prog) (r : Nat) :
    (toCInput ι P).resources[r]? = (P.resources[r]?).map ι := by
  rw [toCInput, List.getElem?_map, Array.getElem?_toList]

/-- **Assignability between kept types is unchanged by shaking** — every program, entry, fuel. -/
theorem shake_keeps_assignability (ι : String → Nat) {P : Prog} {e : Nat} {out : ShakeOut}
    (h : treeShake P e = some out) (fuel a' b' : Nat) :
    isCompatible (toTable ι P) fuel (backMap (sortAsc out.marks.types) P.types.size a')
        (backMap (sortAsc out.marks.types) P.types.size b') =
      isCompatible (toTable ι out.prog) fuel a' b' :=
  C08.compat_rename (shake_embeds ι h) fuel a' b'

theorem shake_keeps_overlap (ι : String → Nat) {P : Prog} {e : Nat} {out : ShakeOut}
    (h : treeShake P e = some out) (fuel a' b' : Nat) :
    typesOverlap (toTable ι P) fuel (backMap (sortAsc out.marks.types) P.types.size a')
        (backMap (sortAsc out.marks.types) P.types.size b') =
      typesOverlap (toTable ι out.prog) fuel a' b' :=
  C08.overlap_rename (shake_embeds ι h) fuel a' b'

/-- **A kept pattern accepts a kept tag after shaking iff it did before**, when the tag's index entry
    afterwards (`id'`) is the image of its entry before. -/
theorem shake_keeps_tag_verdict (ι : String → Nat) {P : Prog} {e : Nat} {out : ShakeOut}
    (h : treeShake P e = some out) (fuel p' id' : Nat) (c c' : CTag)
    (hc' : tagType (toCInput ι out.prog) (TypeIndex.build (toTable ι out.prog)) c' = some id')
    (hc : tagType (toCInput ι P) (TypeIndex.build (toTable ι P)) c =
      some (backMap (sortAsc out.marks.types) P.types.size id')) :
    tagAccepts (toCInput ι P) (TypeIndex.build (toTable ι P)) fuel
        (backMap (sortAsc out.marks.types) P.types.size p') c =
      tagAccepts (toCInput ι out.prog) (TypeIndex.build (toTable ι out.prog)) fuel p' c' :=
  C08.rename_invariant (toCInput ι out.prog) (toCInput ι P) (shake_embeds ι h) fuel p' id' c' c hc' hc

/-- …and a tag whose entry the sweep dropped is accepted by nothing afterwards (the F13 exception). -/
theorem shake_dropped_tag_never_accepted (ι : String → Nat) (P' : Prog) (fuel p' : Nat) (c' : CTag)
    (hc' : tagType (toCInput ι P') (TypeIndex.build (toTable ι P')) c' = none)
    (hp : c' ≠ .integer ∧ c' ≠ .binary ∧ c' ≠ .reference) :
    tagAccepts (toCInput ι P') (TypeIndex.build (toTable ι P')) fuel p' c' = some false :=
  C08.rename_loses_tag_without_entry (toCInput ι P') fuel p' c' hc' hp

/-- **Type-test verdicts travel along an embedding of programs** (`C08.rename_invariant_of_embeds` in terms of
    programs); resources are matched by name. -/
theorem tagAccepts_of_embeds (ι : String → Nat) {P Q : Prog} {ρ τ : Nat → Nat}
    (E : Embeds ρ τ (toTable ι P) (toTable ι Q)) (hnd : (toTable ι Q).types.Nodup) (φ β : Nat → Nat)
    (hfn : ∀ f F, P.fns[f]? = some F → ∃ F', Q.fns[φ f]? = some F' ∧ F'.typeId = ρ F.typeId)
    (hbi : ∀ b B, P.builtins[b]? = some B →
      ∃ B', Q.builtins[β b]? = some B' ∧ B'.paramType = ρ B.paramType ∧ B'.resultType = ρ B.resultType)
    (hres : ∀ n ∈ P.resources.toList, n ∈ Q.resources.toList) (fuel p id : Nat) (c : CTag)
    (hc : tagType (toCInput ι P) (TypeIndex.build (toTable ι P)) c = some id) :
    tagAccepts (toCInput ι Q) (TypeIndex.build (toTable ι Q)) fuel (ρ p)
        (c.mapIds τ φ β (fun rid => match P.resources[rid]? with
          | some n => nameIdx n Q.resources.toList
          | none => 0)) =
      tagAccepts (toCInput ι P) (TypeIndex.build (toTable ι P)) fuel p c := by
  refine C08.rename_invariant_of_embeds (toCInput ι P) (toCInput ι Q) E hnd φ β _ ?_ ?_ ?_ fuel p id c hc
  · intro fid f hf
    rw [toCInput_functions] at hf
    obtain ⟨F, hF, rfl⟩ := Option.map_eq_some_iff.mp hf
    obtain ⟨F', hF', hid⟩ := hfn fid F hF
    exact ⟨⟨F'.typeId, isTypeOps F'.instrs⟩, by rw [toCInput_functions, hF']; rfl, hid⟩
  · intro bid b hb
    rw [toCInput_builtins] at hb
    obtain ⟨B, hB, rfl⟩ := Option.map_eq_some_iff.mp hb
    obtain ⟨B', hB', hp, hr⟩ := hbi bid B hB
    rw [toCInput_builtins, hB', ← hp, ← hr]; rfl
  · intro rid n hn
    rw [toCInput_resources] at hn
    obtain ⟨s, hs, rfl⟩ := Option.map_eq_some_iff.mp hn
    have hmem : s ∈ Q.resources.toList := hres s (List.mem_of_getElem? (Array.getElem?_toList ▸ hs))
    simp only [toCInput_resources, hs, ← Array.getElem?_toList, nameIdx_get hmem, Option.map_some]

/-- new function id ↦ old function id, etc. (the rank tables read backwards) -/
def backFn (P : Prog) (out : ShakeOut) : Nat → Nat := backMap (sortAsc out.marks.fns) P.fns.size
def backBuiltin (P : Prog) (out : ShakeOut) : Nat → Nat := backMap (sortAsc out.marks.builtins) P.builtins.size
def backResource (P : Prog) (out : ShakeOut) : Nat → Nat := fun rid =>
  match out.prog.resources[rid]? with
  | some n => nameIdx n P.resources.toList
  | none => 0

/-- **`TablesAgree` in substance, for every program** (through `C08.rename_invariant_of_embeds`):
    every tag `c'` that has an index entry in the SHAKEN program is accepted by a kept pattern `p'` after
    shaking exactly when the corresponding tag of the original program (tuple / function / builtin /
    resource ids read back through the rank tables) was accepted by the original pattern — unlike
    `shake_keeps_tag_verdict`, with no hypothesis about the original program's index. Hypotheses: the original
    type table is duplicate-free (what `register_type` guarantees; needed because `TypeIndex::build` keeps first
    occurrences) and the shaken resource names occur among the original ones. The F13 exception is exactly the complement: a tag
    WITHOUT an index entry after shaking (`shake_dropped_tag_never_accepted`). -/
theorem shake_keeps_every_kept_tag_verdict (ι : String → Nat) {P : Prog} {e : Nat} {out : ShakeOut}
    (h : treeShake P e = some out) (hnd : (toTable ι P).types.Nodup)
    (hresP : ∀ n ∈ out.prog.resources.toList, n ∈ P.resources.toList)
    (fuel p' id' : Nat) (c' : CTag)
    (hc' : tagType (toCInput ι out.prog) (TypeIndex.build (toTable ι out.prog)) c' = some id') :
    tagAccepts (toCInput ι P) (TypeIndex.build (toTable ι P)) fuel
        (backMap (sortAsc out.marks.types) P.types.size p')
        (c'.mapIds (backMap (sortAsc out.marks.tuples) P.tuples.size) (backFn P out) (backBuiltin P out)
          (backResource P out)) =
      tagAccepts (toCInput ι out.prog) (TypeIndex.build (toTable ι out.prog)) fuel p' c' := by
  obtain ⟨hm, hsw⟩ := treeShakeWith_some h
  have hc := markAll_closed hm
  obtain ⟨fs, fs', bs, hfs, hfs', hfnsEq, hbs, hbEq, _⟩ := sweep_fns_builtins hsw
  refine tagAccepts_of_embeds ι (shake_embeds ι h) hnd (backFn P out) (backBuiltin P out) ?_ ?_ hresP fuel p' id' c' hc'
  · -- the original function behind a kept one has the back-image of its type id
    intro fid F' hF'
    rw [hfnsEq, List.getElem?_toArray] at hF'
    obtain ⟨_, hn⟩ | ⟨F, F2, hF, hF2, hsh⟩ := mapOpt_get? hfs' fid
    · cases hF'.symm.trans hn
    · cases hF'.symm.trans hF2
      obtain ⟨is, _, rfl⟩ := Option.map_eq_some_iff.mp hsh
      obtain ⟨hold, hPF⟩ := backMap_getAll hfs hF P.fns.size
      exact ⟨F, hPF, (back_of_marked (hc.fns _ (mem_sortAsc.mp hold) F hPF)).symm⟩
  · intro bid B' hB'
    rw [hbEq, List.getElem?_toArray, List.getElem?_map] at hB'
    obtain ⟨B, hB, rfl⟩ := Option.map_eq_some_iff.mp hB'
    obtain ⟨hold, hPB⟩ := backMap_getAll hbs hB P.builtins.size
    obtain ⟨hp, hr⟩ := hc.builtins _ (mem_sortAsc.mp hold) B hPB
    exact ⟨B, hPB, (back_of_marked hp).symm, (back_of_marked hr).symm⟩

/-- the run-time tag of Core/Packaging as C08's concrete tag -/
def tagTo : Tag → CTag
  | .int => .integer
  | .bin => .binary
  | .ref => .reference
  | .tuple t => .tuple t
  | .fn f => .function f
  | .builtin b => .builtin b
  | .proc f => .process f
  | .res r => .resource r

/-- the run-time tables of `P` are what C08's model of `compute_type_compatibility` / `compute_param_compatibility`
    yields with fuel `fuel`: one clause per table, for EVERY tag (also one whose ids lie outside the tables) -/
structure TablesComputed (ι : String → Nat) (fuel : Nat) (P : Prog) : Prop where
  compat : ∀ (f : Nat) (F : Fn), P.fns[f]? = some F → ∀ t, t ∈ isTypeOps F.instrs → ∀ c,
    tagAccepts (toCInput ι P) (TypeIndex.build (toTable ι P)) fuel t (tagTo c) = some (P.isCompat t c)
  fparam : ∀ (f : Nat) (F : Fn) (p r v : Nat), P.fns[f]? = some F → P.types[F.typeId]? = some (.callable p r v) → ∀ c,
    tagAccepts (toCInput ι P) (TypeIndex.build (toTable ι P)) fuel p (tagTo c) = some (P.msgCompatFn f c)
  bparam : ∀ (b : Nat) (B : BuiltinInfo), P.builtins[b]? = some B → ∀ c,
    tagAccepts (toCInput ι P) (TypeIndex.build (toTable ι P)) fuel B.paramType (tagTo c) =
      some (P.msgCompatBuiltin b c)

/-- a tag that is present in `P` and whose ids ρ keeps has an index entry in `P'` (the complement of the F13 situation) -/
def EntriesKept (ι : String → Nat) (ρ : Ren) (P P' : Prog) : Prop :=
  ∀ c c', renameTag ρ c = some c' → P.tagPresent c = true →
    ∃ id', tagType (toCInput ι P') (TypeIndex.build (toTable ι P')) (tagTo c') = some id'

/-- the ids of a tag that C08's index insists on being inside the tables -/
def TagInRange (P : Prog) : Tag → Prop
  | .tuple t => t < P.tuples.size
  | .fn f => f < P.fns.size
  | _ => True

/-- **`Prog.tagPresent` is C08's "the index has an entry"**: a tag that is present (and whose ids are in
    range) has a tag type in `TypeIndex.build` of the converted tables. -/
theorem tagType_of_present (ι : String → Nat) (P : Prog) (c : Tag) (hp : P.tagPresent c = true)
    (hr : TagInRange P c) :
    ∃ id, tagType (toCInput ι P) (TypeIndex.build (toTable ι P)) (tagTo c) = some id := by
  -- an entry of the type table puts its key into the index
  have assoc : ∀ {κ : Type} [DecidableEq κ] (keyOf : QM.Types.Ty → Option κ) (k : κ) {n : Nat} {τ : Ty},
      P.types[n]? = some τ → keyOf (tyTo ι τ) = some k →
      ∃ j, QM.Types.lookupFirst k (QM.Types.assocFrom keyOf [] 0 (toTable ι P).types) = some j :=
    fun keyOf k n τ hn hk => QM.Types.build_assoc_complete keyOf (toTable ι P) k n _ (toTable_get ι hn) hk
  have prim : ∀ (p : QM.Types.Ty → Bool) {n : Nat} {τ : Ty}, P.types[n]? = some τ → p (tyTo ι τ) = true →
      ∃ j, QM.Types.primFrom p none 0 (toTable ι P).types = some j :=
    fun p n τ hn hk => QM.Types.build_prim_complete p (toTable ι P) n _ (toTable_get ι hn) hk
  cases c with
  | int =>
    obtain ⟨n, hn⟩ := any_beq_get hp
    simp only [tagTo, tagType, TypeIndex.build, QM.Types.buildFrom_integer]
    exact prim QM.Types.isIntTy hn rfl
  | bin =>
    obtain ⟨n, hn⟩ := any_beq_get hp
    simp only [tagTo, tagType, TypeIndex.build, QM.Types.buildFrom_binary]
    exact prim QM.Types.isBinTy hn rfl
  | ref =>
    obtain ⟨n, hn⟩ := any_beq_get hp
    simp only [tagTo, tagType, TypeIndex.build, QM.Types.buildFrom_reference]
    exact prim QM.Types.isRefTy hn rfl
  | tuple t =>
    obtain ⟨n, hn⟩ := any_beq_get hp
    simp only [tagTo, tagType, TypeIndex.build, QM.Types.buildFrom_tuple]
    refine assoc (QM.Types.tupleKey (toTable ι P)) t hn (if_pos ?_)
    exact (List.length_map _).symm ▸ hr
  | fn f =>
    have hlt : f < P.fns.size := hr
    simp only [tagTo, tagType, toCInput_functions, Array.getElem?_eq_getElem hlt, Option.map_some]
    exact ⟨_, rfl⟩
  | builtin b =>
    simp only [Prog.tagPresent] at hp
    split at hp
    · rename_i B hB
      obtain ⟨τ, hm, hτ⟩ := List.any_eq_true.mp hp
      obtain ⟨n, hn⟩ := List.getElem?_of_mem hm
      rw [Array.getElem?_toList] at hn
      split at hτ
      · rename_i p r v
        obtain ⟨⟨rfl, rfl⟩, hv⟩ : (p = B.paramType ∧ r = B.resultType) ∧ P.isNeverTy v = true := by
          simpa only [Bool.and_eq_true, beq_iff_eq] using hτ
        simp only [tagTo, tagType, toCInput_builtins, hB, Option.map_some, Option.bind_some, TypeIndex.build,
          QM.Types.buildFrom_callable]
        refine assoc (QM.Types.callKey (toTable ι P)) _ hn (if_pos ?_)
        unfold Prog.isNeverTy at hv
        split at hv
        · rename_i hu
          rw [toTable_types, hu]; rfl
        · cases hv
      · cases hτ
    · cases hp
  | proc f =>
    simp only [Prog.tagPresent] at hp
    split at hp
    · rename_i F hF
      -- the key under which the index files the process type of `F`, and an entry with that key
      obtain ⟨s, r, hany, hkey⟩ : ∃ s r, P.types.toList.any (· == Ty.process s r) = true ∧
          (QM.Types.extractFn (toTable ι P) ⟨F.typeId, isTypeOps F.instrs⟩).2.2 = (s, r) := by
        unfold QM.Types.extractFn
        rw [toTable_types]
        cases hty : P.types[F.typeId]? with
        | none => rw [hty] at hp; exact ⟨none, none, hp, rfl⟩
        | some σ =>
          rw [hty] at hp
          cases σ with
          | callable p r v => exact ⟨some v, some r, hp, rfl⟩
          | _ => exact ⟨none, none, hp, rfl⟩
      obtain ⟨n, hn⟩ := any_beq_get hany
      simp only [tagTo, tagType, toCInput_functions, hF, Option.map_some, Option.bind_some, TypeIndex.build,
        QM.Types.buildFrom_process]
      have := assoc QM.Types.procKey (s, r) hn rfl
      rw [← hkey] at this
      exact this
    · cases hp
  | res r =>
    simp only [Prog.tagPresent] at hp
    split at hp
    · rename_i nm hR
      obtain ⟨n, hn⟩ := any_beq_get hp
      simp only [tagTo, tagType, toCInput_resources, hR, Option.map_some, Option.bind_some, TypeIndex.build,
        QM.Types.buildFrom_resource]
      exact assoc QM.Types.resKey _ hn rfl
    · cases hp

/-- the resource clause of `TablesAgree`, from the definition of the sweep's resource map -/
theorem shake_resources {P : Prog} {e : Nat} {out : ShakeOut} (h : treeShake P e = some out) :
    ∀ r r', out.ren.resource.get r = some r' →
      ∃ n, P.resources[r]? = some n ∧ out.prog.resources[r']? = some n := by
  intro r r' hr
  obtain ⟨_, _, _, _, _, _, _, _, hrEq⟩ := sweep_fns_builtins (treeShake_sweep h)
  rw [(treeShake_keeps_everything_reachable h).1] at hr
  -- the pair `(r, r')` was produced by the filter at `i = r`
  obtain ⟨i, _, hi⟩ := List.mem_filterMap.mp (AMap.mem_of_get hr)
  split at hi
  · rename_i n hn
    obtain ⟨j, hj, hij⟩ := Option.map_eq_some_iff.mp hi
    cases hij
    obtain ⟨hlt, hp, _⟩ := List.findIdx?_eq_some_iff_getElem.mp hj
    exact ⟨n, hn, by rw [hrEq, List.getElem?_toArray, List.getElem?_eq_getElem hlt, beq_iff_eq.mp hp]⟩
  · cases hi

theorem tag_back {P : Prog} {out : ShakeOut} (hren : out.ren = shakeRen P out.marks)
    (hres : ∀ r r', out.ren.resource.get r = some r' →
      ∃ n, P.resources[r]? = some n ∧ out.prog.resources[r']? = some n)
    (hnodupR : P.resources.toList.Nodup) {c c' : Tag} (hc : renameTag out.ren c = some c') :
    (tagTo c').mapIds (backMap (sortAsc out.marks.tuples) P.tuples.size) (backFn P out) (backBuiltin P out)
      (backResource P out) = tagTo c := by
  have rk : ∀ {l : List Nat} {m : AMap} {a i n : Nat}, m = rankMap l → m.get a = some i → backMap l n i = a :=
    fun hm hg => backMap_of_rank (hm ▸ hg)
  cases c with
  | int | bin | ref => cases hc; rfl
  | tuple t =>
    obtain ⟨t', ht', rfl⟩ := Option.map_eq_some_iff.mp hc
    exact congrArg CTag.tuple (rk (congrArg Ren.tuple hren) ht')
  | fn f =>
    obtain ⟨f', hf', rfl⟩ := Option.map_eq_some_iff.mp hc
    exact congrArg CTag.function (rk (congrArg Ren.fn hren) hf')
  | builtin b =>
    obtain ⟨b', hb', rfl⟩ := Option.map_eq_some_iff.mp hc
    exact congrArg CTag.builtin (rk (congrArg Ren.builtin hren) hb')
  | proc f =>
    obtain ⟨f', hf', rfl⟩ := Option.map_eq_some_iff.mp hc
    exact congrArg CTag.process (rk (congrArg Ren.fn hren) hf')
  | res r =>
    obtain ⟨r', hr', rfl⟩ := Option.map_eq_some_iff.mp hc
    obtain ⟨n, h1, h2⟩ := hres r r' hr'
    simp only [tagTo, CTag.mapIds, backResource, h2, nameIdx_of_get hnodupR (Array.getElem?_toList ▸ h1)]

/-- **`TablesAgree` from the definition of the tables.** If the run-time tables of the original and of the
    shaken program are the computed ones (`TablesComputed`: each row is what C08's model of
    `compute_type_compatibility` / `compute_param_compatibility` yields, with enough fuel) and every tag
    that has an index entry before shaking and whose ids are kept still has one afterwards
    (`EntriesKept` — the exact complement of the F13 situation), then the tables agree through the sweep's
    renaming. -/
theorem treeShake_tablesAgree (ι : String → Nat) (fuel : Nat) {P P' : Prog} {e : Nat} {out : ShakeOut}
    (h : treeShake P e = some out)
    (hfns : P'.fns = out.prog.fns) (htuples : P'.tuples = out.prog.tuples)
    (hbuiltins : P'.builtins = out.prog.builtins) (htypes : P'.types = out.prog.types)
    (hresources : P'.resources = out.prog.resources)
    (hnd : (toTable ι P).types.Nodup) (hnodupR : P.resources.toList.Nodup)
    (hresP : ∀ n ∈ out.prog.resources.toList, n ∈ P.resources.toList)
    (hcall : ∀ (f : Nat) (F : Fn), P.fns[f]? = some F → ∃ p r v, P.types[F.typeId]? = some (.callable p r v))
    (hT : TablesComputed ι fuel P) (hT' : TablesComputed ι fuel P') (hK : EntriesKept ι out.ren P P') :
    TablesAgree out.ren P P' := by
  have hs := treeShake_structRenaming h
  have hren := (treeShake_keeps_everything_reachable h).1
  have hty : out.ren.type = rankMap (sortAsc out.marks.types) := by rw [hren]; rfl
  have hcin : toCInput ι P' = toCInput ι out.prog := by
    simp only [toCInput, toTable, hfns, htuples, hbuiltins, htypes, hresources]
  have htab : toTable ι P' = toTable ι out.prog := by simp only [toTable, htuples, htypes]
  have hres' := shake_resources h
  have hres : ∀ r r', out.ren.resource.get r = some r' →
      ∃ n, P.resources[r]? = some n ∧ P'.resources[r']? = some n := by
    intro r r' hr; rw [hresources]; exact hres' r r' hr
  -- rows computed for a kept pattern and a kept, present tag before and after carry the same verdict
  have agree : ∀ {t t' c c' x x'}, out.ren.type.get t = some t' → renameTag out.ren c = some c' →
      P.tagPresent c = true →
      tagAccepts (toCInput ι P) (TypeIndex.build (toTable ι P)) fuel t (tagTo c) = some x →
      tagAccepts (toCInput ι P') (TypeIndex.build (toTable ι P')) fuel t' (tagTo c') = some x' → x = x' := by
    intro t t' c c' x x' ht hc hp h1 h2
    obtain ⟨id', hid⟩ := hK c c' hc hp
    rw [hcin, htab] at hid h2
    have := shake_keeps_every_kept_tag_verdict ι h hnd hresP fuel t' id' (tagTo c') hid
    rw [backMap_of_rank (hty ▸ ht), tag_back hren hres' hnodupR hc, h1, h2] at this
    exact Option.some.inj this
  refine ⟨?_, ?_, ?_, hres⟩
  · intro f f' F hf hF t ht t' ht' c c' hc hp
    obtain ⟨F0, F', hF0, hF', _, hins, _⟩ := hs.fns f f' hf
    cases hF.symm.trans hF0
    exact agree ht' hc hp (hT.compat f F hF t ht c)
      (hT'.compat f' F' (hfns ▸ hF') t' (isTypeOps_rename hins ht ht') c')
  · intro f f' hf c c' hc hp
    obtain ⟨F, F', hF, hF', _, _, htid⟩ := hs.fns f f' hf
    obtain ⟨p, r, v, hcal⟩ := hcall f F hF
    obtain ⟨τ, τ', hτ, hτ', hrt⟩ := hs.types F.typeId F'.typeId htid
    cases hcal.symm.trans hτ
    obtain ⟨p', r', v', hp', _, _, rfl⟩ := renameTy_callable hrt
    exact agree hp' hc hp (hT.fparam f F p r v hF hcal c) (hT'.fparam f' F' p' r' v' (hfns ▸ hF') (htypes ▸ hτ') c')
  · intro b b' hb c c' hc hp
    obtain ⟨B, B', hB, hB', _, hpt, _⟩ := hs.builtins b b' hb
    exact agree hpt hc hp (hT.bparam b B hB c) (hT'.bparam b' B' (hbuiltins ▸ hB') c')

/-- `EntriesKept` holds outright for function tags: a kept function is a function of the shaken program. -/
theorem entriesKept_fn (ι : String → Nat) {P P' : Prog} {e : Nat} {out : ShakeOut} (h : treeShake P e = some out)
    (hfns : P'.fns = out.prog.fns) {f : Nat} {c' : Tag} (hc : renameTag out.ren (.fn f) = some c') :
    ∃ id', tagType (toCInput ι P') (TypeIndex.build (toTable ι P')) (tagTo c') = some id' := by
  obtain ⟨f', hf', rfl⟩ := Option.map_eq_some_iff.mp hc
  obtain ⟨F, F', _, hF', _⟩ := (treeShake_structRenaming h).fns f f' hf'
  simp only [tagTo, tagType, toCInput_functions, hfns, hF', Option.map_some]
  exact ⟨_, rfl⟩

/-- **The F13 proviso in the model's own vocabulary**: every tag whose ids are kept and whose tag type has an
    entry in the source type table still has one after the step. (False for the pre-5a04882 sweep:
    `legacy_shake_loses_process_entry`.) -/
def PresenceKept (ρ : Ren) (P P' : Prog) : Prop :=
  ∀ c c', renameTag ρ c = some c' → P.tagPresent c = true → P'.tagPresent c' = true

theorem entriesKept_of_presenceKept (ι : String → Nat) {P P' : Prog} {e : Nat} {out : ShakeOut}
    (h : treeShake P e = some out) (hfns : P'.fns = out.prog.fns) (htuples : P'.tuples = out.prog.tuples)
    (hK : PresenceKept out.ren P P') : EntriesKept ι out.ren P P' := by
  intro c c' hc hp
  refine tagType_of_present ι P' c' (hK c c' hc hp) ?_
  have hs := treeShake_structRenaming h
  cases c with
  | tuple t =>
    obtain ⟨t', ht', rfl⟩ := Option.map_eq_some_iff.mp hc
    obtain ⟨_, T', _, hT', _⟩ := hs.tuples t t' ht'
    exact (Array.getElem?_eq_some_iff.mp (htuples ▸ hT')).1
  | fn f =>
    obtain ⟨f', hf', rfl⟩ := Option.map_eq_some_iff.mp hc
    obtain ⟨_, F', _, hF', _⟩ := hs.fns f f' hf'
    exact (Array.getElem?_eq_some_iff.mp (hfns ▸ hF')).1
  | int | bin | ref => cases hc; trivial
  | builtin b | proc b | res b => obtain ⟨b', _, rfl⟩ := Option.map_eq_some_iff.mp hc; trivial

/-- **(T1) without `TablesAgree`**: shaking preserves behaviour for all inputs and execution lengths, for every
    program whose tables are the computed ones (`TablesComputed`, `CanonComputed`) and whose kept tags keep
    their index entries (`PresenceKept`). The remaining hypotheses are well-formedness of the INPUT: its type
    table and resource list are duplicate-free, every function's type is a callable, the resource names of
    the shaken program occur in the original resource list. -/
theorem treeShake_preserves_behaviour_computed (ι : String → Nat) (fuel : Nat) {P P' : Prog} {e : Nat}
    {out : ShakeOut} (h : treeShake P e = some out)
    (hfns : P'.fns = out.prog.fns) (hconsts : P'.consts = out.prog.consts) (htuples : P'.tuples = out.prog.tuples)
    (hbuiltins : P'.builtins = out.prog.builtins) (htypes : P'.types = out.prog.types)
    (hresources : P'.resources = out.prog.resources)
    (hc : P.CanonComputed) (hc' : P'.CanonComputed)
    (hnd : (toTable ι P).types.Nodup) (hnodupR : P.resources.toList.Nodup)
    (hresP : ∀ n ∈ out.prog.resources.toList, n ∈ P.resources.toList)
    (hcall : ∀ (f : Nat) (F : Fn), P.fns[f]? = some F → ∃ p r v, P.types[F.typeId]? = some (.callable p r v))
    (hT : TablesComputed ι fuel P) (hT' : TablesComputed ι fuel P') (hK : PresenceKept out.ren P P')
    {B B' : BuiltinSem} (hB : BuiltinsCommute out.ren B B') {a a' : Val} (ha : RelVal out.ren a a') {t : St}
    (hrun : Steps P B (St.start e a) t) (hsafe : ∀ u, Steps P B (St.start e a) u → IsTypeSafe P u) :
    ∃ t', Steps P' B' (St.start out.entry a') t' ∧ RelSt out.ren t t' :=
  treeShake_preserves_behaviour h hfns hconsts htuples hbuiltins htypes hc hc'
    (treeShake_tablesAgree ι fuel h hfns htuples hbuiltins htypes hresources hnd hnodupR hresP hcall hT hT'
      (entriesKept_of_presenceKept ι h hfns htuples hK))
    hB ha hrun hsafe

/-- function, process and builtin tags: the tags whose type entry is referenced by nothing (index-only) -/
def isCodeTag : Tag → Bool
  | .fn _ => true
  | .proc _ => true
  | .builtin _ => true
  | _ => false

/-- **The F13 repair as a theorem** (the general form of `legacy_shake_loses_process_entry`'s second half):
    the current sweep keeps the index entry of every kept function, of every process of a kept function
    and of every kept builtin — the tags whose type entry no instruction and no other type refers to. For
    every program whose function types are callable types, and every entry. -/
theorem shake_keeps_code_tag_presence {P : Prog} {e : Nat} {out : ShakeOut} (h : treeShake P e = some out)
    (hcall : ∀ (f : Nat) (F : Fn), P.fns[f]? = some F → ∃ p r v, P.types[F.typeId]? = some (.callable p r v))
    {c c' : Tag} (hcode : isCodeTag c = true)
    (hc : renameTag out.ren c = some c') (hp : P.tagPresent c = true) : out.prog.tagPresent c' = true := by
  have hs := treeShake_structRenaming h
  have hren := (treeShake_keeps_everything_reachable h).1
  -- an index-only entry is marked, so it has an image, which is the renamed entry
  have ioImg : ∀ {n : Nat} {τ : Ty}, P.types[n]? = some τ → isIndexOnly P out.marks τ = true →
      ∃ (n' : Nat) (τ' : Ty), out.prog.types[n']? = some τ' ∧ renameTy out.ren τ = some τ' := by
    intro n τ hn hio
    obtain ⟨n', hn'⟩ := rankMap_get_of_mem (mem_sortAsc.mpr ((markAll_extra (treeShake_marks h)).2 rfl n τ hn hio))
    obtain ⟨τ0, τ', hτ0, hτ', hrt⟩ := hs.types n n' (hren ▸ hn')
    cases hn.symm.trans hτ0
    exact ⟨n', τ', hτ', hrt⟩
  cases c with
  | fn f => obtain ⟨f', _, rfl⟩ := Option.map_eq_some_iff.mp hc; rfl
  | proc f =>
    obtain ⟨f', hf', rfl⟩ := Option.map_eq_some_iff.mp hc
    obtain ⟨F, F', hF, hF', _, _, htid⟩ := hs.fns f f' hf'
    obtain ⟨p, r, v, hcal⟩ := hcall f F hF
    simp only [Prog.tagPresent, hF, hcal] at hp
    obtain ⟨n, hn⟩ := any_beq_get hp
    -- the entry is index-only for the kept function `f`
    have hio : isIndexOnly P out.marks (Ty.process (some v) (some r)) = true :=
      List.any_eq_true.mpr ⟨f, rank_mem (hren ▸ hf'), by simp only [hF, hcal, beq_self_eq_true, Bool.and_self]⟩
    obtain ⟨n', τ', hτ', hrt⟩ := ioImg hn hio
    obtain ⟨σ0, σ', hσ0, hσ', hrs⟩ := hs.types F.typeId F'.typeId htid
    cases hcal.symm.trans hσ0
    obtain ⟨p2, r2, v2, _, hr2, hv2, rfl⟩ := renameTy_callable hrs
    obtain ⟨s', r', hs', hr', rfl⟩ := renameTy_process hrt
    cases (congrArg (Option.map some) hv2).symm.trans hs'
    cases (congrArg (Option.map some) hr2).symm.trans hr'
    simp only [Prog.tagPresent, hF', hσ']
    exact any_of_get hτ' (beq_self_eq_true _)
  | builtin b =>
    obtain ⟨b', hb', rfl⟩ := Option.map_eq_some_iff.mp hc
    obtain ⟨B, B', hB, hB', _, hpt, hrt⟩ := hs.builtins b b' hb'
    simp only [Prog.tagPresent, hB] at hp
    obtain ⟨n, τ, hn, hτ⟩ := any_eq_get hp
    split at hτ
    · rename_i p r v
      obtain ⟨⟨rfl, rfl⟩, hv⟩ : (p = B.paramType ∧ r = B.resultType) ∧ P.isNeverTy v = true := by
        simpa only [Bool.and_eq_true, beq_iff_eq] using hτ
      have hio : isIndexOnly P out.marks (Ty.callable B.paramType B.resultType v) = true :=
        Bool.and_eq_true_iff.mpr ⟨hv, List.any_eq_true.mpr
          ⟨b, rank_mem (hren ▸ hb'), by simp only [hB, beq_self_eq_true, Bool.and_self]⟩⟩
      obtain ⟨n', τ', hτ', hrt'⟩ := ioImg hn hio
      obtain ⟨p2, r2, v2, hp2, hr2, hv2, rfl⟩ := renameTy_callable hrt'
      cases hpt.symm.trans hp2
      cases hrt.symm.trans hr2
      simp only [Prog.tagPresent, hB']
      exact any_of_get hτ' (by simp only [beq_self_eq_true, isNeverTy_rename hs hv2 hv, Bool.and_self])
    · cases hτ
  | int | bin | ref | tuple _ | res _ => cases hcode

theorem tagPresent_congr {P P' : Prog} (h1 : P'.fns = P.fns) (h2 : P'.types = P.types)
    (h3 : P'.builtins = P.builtins) (h4 : P'.resources = P.resources) (c : Tag) :
    P'.tagPresent c = P.tagPresent c := by
  unfold Prog.tagPresent Prog.isNeverTy
  rw [h1, h2, h3, h4]

/-- `PresenceKept` restricted to the DATA tags (int, bin, ref, tuples, resources): what remains to be known per
    program (the validator checks it per instance) once the code tags are covered by
    `shake_keeps_code_tag_presence`. -/
def DataPresenceKept (ρ : Ren) (P P' : Prog) : Prop :=
  ∀ c c', isCodeTag c = false →
    renameTag ρ c = some c' → P.tagPresent c = true → P'.tagPresent c' = true

theorem presenceKept_of_data {P P' : Prog} {e : Nat} {out : ShakeOut} (h : treeShake P e = some out)
    (hfns : P'.fns = out.prog.fns) (hbuiltins : P'.builtins = out.prog.builtins) (htypes : P'.types = out.prog.types)
    (hresources : P'.resources = out.prog.resources)
    (hcall : ∀ (f : Nat) (F : Fn), P.fns[f]? = some F → ∃ p r v, P.types[F.typeId]? = some (.callable p r v))
    (hd : DataPresenceKept out.ren P P') : PresenceKept out.ren P P' := by
  intro c c' hc hp
  have code : isCodeTag c = true → P'.tagPresent c' = true := by
    intro hcode
    rw [tagPresent_congr hfns htypes hbuiltins hresources]
    exact shake_keeps_code_tag_presence h hcall hcode hc hp
  cases hcode : isCodeTag c with
  | true => exact code hcode
  | false => exact hd c c' hcode hc hp

def progNames (P : Prog) : List String :=
  (P.types.toList.flatMap (fun τ => match τ with
    | .part n fs => n.toList ++ fs.map (·.1)
    | .resource n => [n]
    | .var n => [n]
    | _ => [])) ++
  (P.tuples.toList.flatMap (fun T => T.name.toList ++ T.fields.filterMap (·.1))) ++ P.resources.toList

/-- an interning that is injective on the names of the program (position in its name list) -/
def internIn (names : List String) (s : String) : Nat := names.idxOf s

/-- every tag whose ids are inside the program's tables (the tags `compute_*_compatibility` iterates over) -/
def progTags (P : Prog) : List Tag :=
  [.int, .bin, .ref] ++ (List.range P.tuples.size).map .tuple ++ (List.range P.fns.size).map .fn ++
    (List.range P.builtins.size).map .builtin ++ (List.range P.fns.size).map .proc ++
    (List.range P.resources.size).map .res

/-- `TablesComputed` on every tag in range -/
def tablesComputedB (ι : String → Nat) (fuel : Nat) (P : Prog) : Bool :=
  let inp := toCInput ι P
  let idx := TypeIndex.build inp.table
  let tags := progTags P
  let ok (pat : Nat) (row : Tag → Bool) : Bool :=
    tags.all (fun c => tagAccepts inp idx fuel pat (tagTo c) == some (row c))
  let ops := (P.fns.toList.flatMap (fun F => isTypeOps F.instrs)).eraseDups
  ops.all (fun t => ok t (P.isCompat t)) &&
  (List.range P.fns.size).all (fun f =>
    match P.fns[f]? with
    | some F =>
      match P.types[F.typeId]? with
      | some (.callable p _ _) => ok p (P.msgCompatFn f)
      | _ => true
    | none => true) &&
  (List.range P.builtins.size).all (fun b =>
    match P.builtins[b]? with
    | some B => ok B.paramType (P.msgCompatBuiltin b)
    | none => true)

def presenceKeptB (ρ : Ren) (P P' : Prog) : Bool :=
  (progTags P).all (fun c =>
    match renameTag ρ c with
    | some c' => !P.tagPresent c || P'.tagPresent c'
    | none => true)

def fnTypesCallableB (P : Prog) : Bool :=
  P.fns.toList.all (fun F => match P.types[F.typeId]? with | some (.callable _ _ _) => true | _ => false)

/-- all hypotheses about the pair (original `P` with its tables, shaken `P'` as loaded with its tables) -/
def shakeHypotheses (fuel : Nat) (P P' : Prog) (e : Nat) : String :=
  match treeShake P e with
  | none => "none"
  | some out =>
    let ι := internIn (progNames P)
    let tcA := tablesComputedB ι fuel P
    let tcB := tablesComputedB ι fuel P'
    let nodupT := decide ((toTable ι P).types.Nodup)
    let nodupR := decide (P.resources.toList.Nodup)
    let callable := fnTypesCallableB P
    let resnames := out.prog.resources.toList.all (fun n => P.resources.toList.contains n)
    let presence := presenceKeptB out.ren P P'
    let all := tcA && tcB && nodupT && nodupR && callable && resnames && presence
    let lost := (progTags P).filter (fun c =>
      match renameTag out.ren c with
      | some c' => P.tagPresent c && !P'.tagPresent c'
      | none => false)
    let kind : Tag → String
      | .int => "int" | .bin => "bin" | .ref => "ref" | .tuple t => s!"tuple{t}" | .fn _ => "fn"
      | .builtin _ => "builtin" | .proc _ => "proc" | .res _ => "res"
    let lostS := if lost.isEmpty then "-" else ",".intercalate (lost.map kind).eraseDups
    s!"hyp all={all} lost-entries={lostS} tables-computed-A={tcA} tables-computed-B={tcB} types-nodup={nodupT} resources-nodup={nodupR} fn-types-callable={callable} resource-names={resnames} presence-kept={presence}"

/-- **The merged tables contain a renamed copy of the incoming program's type and tuple tables** (C09's `Embeds`),
    by `type_remap` / `tuple_remap` made total (`fwdMap`) — for every environment and incoming program. -/
theorem merge_embeds (ι : String → Nat) {env src : Prog} {e : Nat} {out : MergeOut}
    (h : mergeBytecode env src e = some out)
    (hk : (out.ren.type.map (·.1)).Nodup ∧ (out.ren.tuple.map (·.1)).Nodup)
    {rT rU : Nat → Nat} (hs : Stratified src rT rU)
    (hnT : src.types.toList.Nodup) (hnU : src.tuples.toList.Nodup) :
    Embeds (fwdMap out.ren.type out.prog.types.size) (fwdMap out.ren.tuple out.prog.tuples.size)
      (toTable ι src) (toTable ι out.prog) := by
  obtain ⟨TC, UC, ttot, utot⟩ := merge_types_tuples h hk
  obtain ⟨iy, it⟩ := type_tuple_maps_inj hs hnT hnU TC UC
  exact embeds_of_clauses ι iy it TC UC ttot utot

/-- **Merging preserves assignability** between any two types of the incoming program — every environment, program,
    fuel, pair of type ids. -/
theorem merge_keeps_assignability (ι : String → Nat) {env src : Prog} {e : Nat} {out : MergeOut}
    (h : mergeBytecode env src e = some out)
    (hk : (out.ren.type.map (·.1)).Nodup ∧ (out.ren.tuple.map (·.1)).Nodup)
    {rT rU : Nat → Nat} (hs : Stratified src rT rU)
    (hnT : src.types.toList.Nodup) (hnU : src.tuples.toList.Nodup) (fuel a b : Nat) :
    isCompatible (toTable ι out.prog) fuel (fwdMap out.ren.type out.prog.types.size a)
        (fwdMap out.ren.type out.prog.types.size b) =
      isCompatible (toTable ι src) fuel a b :=
  C08.compat_rename (merge_embeds ι h hk hs hnT hnU) fuel a b

theorem merge_keeps_overlap (ι : String → Nat) {env src : Prog} {e : Nat} {out : MergeOut}
    (h : mergeBytecode env src e = some out)
    (hk : (out.ren.type.map (·.1)).Nodup ∧ (out.ren.tuple.map (·.1)).Nodup)
    {rT rU : Nat → Nat} (hs : Stratified src rT rU)
    (hnT : src.types.toList.Nodup) (hnU : src.tuples.toList.Nodup) (fuel a b : Nat) :
    typesOverlap (toTable ι out.prog) fuel (fwdMap out.ren.type out.prog.types.size a)
        (fwdMap out.ren.type out.prog.types.size b) =
      typesOverlap (toTable ι src) fuel a b :=
  C08.overlap_rename (merge_embeds ι h hk hs hnT hnU) fuel a b

/-- **Merging preserves every run-time type-test verdict of the incoming program**: a pattern of the incoming program
    accepts a tag (that has an index entry there) exactly when the merged pattern accepts the merged tag in the
    environment's program — through `C08.rename_invariant_of_embeds`. Hypotheses: those of `merge_isRenaming`
    that concern types (`hk`, `Stratified`, duplicate-free source tables), `SrcWf`, the merged type table duplicate-free
    (`register_type`), `hbt` (an already loaded builtin of the same name has the renamed types) and the source's
    resource names occur among the merged ones. -/
theorem merge_keeps_every_tag_verdict (ι : String → Nat) {env src : Prog} {e : Nat} {out : MergeOut}
    (h : mergeBytecode env src e = some out) (hw : SrcWf src)
    (hk : (out.ren.type.map (·.1)).Nodup ∧ (out.ren.tuple.map (·.1)).Nodup)
    {rT rU : Nat → Nat} (hs : Stratified src rT rU)
    (hnT : src.types.toList.Nodup) (hnU : src.tuples.toList.Nodup)
    (hnd : (toTable ι out.prog).types.Nodup)
    (hbt : ∀ b b' B B', out.ren.builtin.get b = some b' → src.builtins[b]? = some B → out.prog.builtins[b']? = some B' →
      out.ren.type.get B.paramType = some B'.paramType ∧ out.ren.type.get B.resultType = some B'.resultType)
    (hresP : ∀ n ∈ src.resources.toList, n ∈ out.prog.resources.toList)
    (fuel p id : Nat) (c : CTag)
    (hc : tagType (toCInput ι src) (TypeIndex.build (toTable ι src)) c = some id) :
    tagAccepts (toCInput ι out.prog) (TypeIndex.build (toTable ι out.prog)) fuel
        (fwdMap out.ren.type out.prog.types.size p)
        (c.mapIds (fwdMap out.ren.tuple out.prog.tuples.size) (fwdMap out.ren.fn out.prog.fns.size)
          (fwdMap out.ren.builtin out.prog.builtins.size)
          (fun rid => match src.resources[rid]? with
            | some n => nameIdx n out.prog.resources.toList
            | none => 0)) =
      tagAccepts (toCInput ι src) (TypeIndex.build (toTable ι src)) fuel p c := by
  obtain ⟨_, FC, _, BC, ftot⟩ := merge_image_clauses h hw hk
  refine tagAccepts_of_embeds ι (merge_embeds ι h hk hs hnT hnU) hnd _ _ ?_ ?_ hresP fuel p id c hc
  · intro fid F hF
    obtain ⟨f', hf'⟩ := ftot fid (Array.getElem?_eq_some_iff.mp hF).1
    obtain ⟨F0, F1, a1, a2, _, _, a5⟩ := FC fid f' hf'
    cases hF.symm.trans a1
    exact ⟨F1, fwdMap_of_get hf' ▸ a2, (fwdMap_of_get a5).symm⟩
  · intro bid B hB
    obtain ⟨b', hb'⟩ := merge_builtin_total h bid (Array.getElem?_eq_some_iff.mp hB).1
    obtain ⟨B0, B1, a1, a2, _⟩ := BC bid b' hb'
    cases hB.symm.trans a1
    obtain ⟨hp, hr⟩ := hbt bid b' B B1 hb' hB a2
    exact ⟨B1, fwdMap_of_get hb' ▸ a2, (fwdMap_of_get hp).symm, (fwdMap_of_get hr).symm⟩

/-- the hypothesis `hresP` of the table theorems, from a well-formedness condition of the input alone: if the
    program's resource list names all its resource types (what `collect_resource_names` computes), the shaken
    program's resource names occur among the original ones -/
theorem shake_resources_listed {P : Prog} {e : Nat} {out : ShakeOut} (h : treeShake P e = some out)
    (hl : ∀ (t : Nat) (n : String), P.types[t]? = some (.resource n) → n ∈ P.resources.toList) :
    ∀ n ∈ out.prog.resources.toList, n ∈ P.resources.toList := by
  intro n hn
  obtain ⟨_, _, _, _, _, _, _, _, hr⟩ := sweep_fns_builtins (treeShake_sweep h)
  rw [hr] at hn
  have hn' : n ∈ out.marks.resources := by
    have : n ∈ sortStrAsc out.marks.resources := by simpa using hn
    exact (sortStrAsc_perm _).mem_iff.mp this
  obtain ⟨t, _, ht⟩ := reach_res_inv ((treeShake_keeps_only_reachable h).resources n hn')
  exact hl t n ht

end C10
