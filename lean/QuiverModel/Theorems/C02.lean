import QuiverModel.Core.RefSem.Eval
/-
C02 — laws of the reference semantics (M-RefSem, `QuiverModel/Core/RefSem/Eval.lean`).

The reference evaluator is the formalisation of `docs/spec.md` that the compiled programs are
compared against (`harness/src/bin/c02`). These theorems state, for every program, environment, flowing value and
fuel, the laws the spec states. Most of them are one defining clause of the evaluator read back with a hypothesis put
in (what they check is that the formalisation says what the spec says); the ones with an argument of their own are
fuel monotonicity, determinism and `seq_only_adds_bindings`. Fuel only decides *whether* there is a
result, never *which* (`eval_fuel_mono`, `eval_result_unique`); a sequence short-circuits on nil and
runs no later step (`seq_nil_short_circuits`), a chain does not (`chain_is_infallible_pipe`); a match
yields `Ok`/nil and its bindings are visible afterwards, a bare binder always succeeds
(`match_verdict*`); a block leaves the outer environment unchanged (`block_scopes_bindings`); a
non-nil condition commits the branch even if the consequence is nil, a nil condition restarts the
next branch from the block parameter (`branch_commit*`); every tuple field receives the flowing value
(`tuple_fields_receive_flow`); a nilary callee ignores the flow (`nilary_ignores_flow`); evaluation only
ever adds bindings in front of the environment (`seq_only_adds_bindings`).
-/
open QM.RefSem

namespace C02

/-- `a ⊑ b`: `b` is `a` unless `a` ran out of fuel -/
def Le {α : Type} (a b : Res α) : Prop := a = .fuelOut ∨ a = b

theorem Le.refl {α} (a : Res α) : Le a a := Or.inr rfl

theorem Le.trans {α} {a b c : Res α} (h₁ : Le a b) (h₂ : Le b c) : Le a c := by
  rcases h₁ with h | h
  · exact Or.inl h
  · subst h; exact h₂

theorem Le.bind {α β} {a a' : Res α} {f f' : α → Res β}
    (h : Le a a') (hf : ∀ x, Le (f x) (f' x)) : Le (a.bind f) (a'.bind f') := by
  rcases h with h | h
  · subst h; exact Or.inl rfl
  · subst h
    cases a with
    | ok x => exact hf x
    | fuelOut => exact Or.inl rfl
    | err c => exact Or.inr rfl
    | unspec y => exact Or.inr rfl

/-- all judgement forms are monotone in the fuel, from `n` to `n + 1` -/
structure Mono (n : Nat) : Prop where
  apply : ∀ f a, Le (apply n f a) (apply (n + 1) f a)
  callFlow : ∀ f a, Le (callFlow n f a) (callFlow (n + 1) f a)
  evalExpr : ∀ env flow e, Le (evalExpr n env flow e) (evalExpr (n + 1) env flow e)
  evalSeq : ∀ env flow cs, Le (evalSeq n env flow cs) (evalSeq (n + 1) env flow cs)
  evalChain : ∀ env flow c, Le (evalChain n env flow c) (evalChain (n + 1) env flow c)
  evalTerms : ∀ env flow ts, Le (evalTerms n env flow ts) (evalTerms (n + 1) env flow ts)
  evalTerm : ∀ env flow t, Le (evalTerm n env flow t) (evalTerm (n + 1) env flow t)
  evalFields : ∀ env flow fs acc inh,
    Le (evalFields n env flow fs acc inh) (evalFields (n + 1) env flow fs acc inh)

theorem mono_succ (n : Nat) (ih : Mono n) : Mono (n + 1) := by
  constructor
  · intro f a
    cases f with
    | clo nilary body cenv =>
      cases body with
      | none => simp only [QM.RefSem.apply]; exact Le.refl _
      | some b => simp only [QM.RefSem.apply]; exact ih.evalExpr _ _ _
    | int z => simp only [QM.RefSem.apply]; exact Le.refl _
    | bin bs => simp only [QM.RefSem.apply]; exact Le.refl _
    | tup nm fs => simp only [QM.RefSem.apply]; exact Le.refl _
    | builtin nm => simp only [QM.RefSem.apply]; exact Le.refl _
  · intro f a
    unfold QM.RefSem.callFlow
    split <;> exact ih.apply _ _
  · intro env flow e
    cases e with
    | mk bs =>
      cases bs with
      | nil => simp only [QM.RefSem.evalExpr]; exact Le.refl _
      | cons b rest =>
        cases b with
        | mk cond cons =>
          simp only [QM.RefSem.evalExpr]
          refine Le.bind (ih.evalSeq _ _ _) (fun x => ?_)
          split
          · exact ih.evalExpr _ _ _
          · split
            · exact Le.refl _
            · exact Le.bind (ih.evalSeq _ _ _) (fun _ => Le.refl _)
  · intro env flow cs
    cases cs with
    | nil => simp only [QM.RefSem.evalSeq]; exact Le.refl _
    | cons c cs =>
      simp only [QM.RefSem.evalSeq]
      refine Le.bind (ih.evalChain _ _ _) (fun x => ?_)
      split
      · exact Le.refl _
      · split
        · exact Le.refl _
        · exact ih.evalSeq _ _ _
  · intro env flow c
    cases c with
    | mk pat terms =>
      simp only [QM.RefSem.evalChain]
      exact Le.bind (ih.evalTerms _ _ _) (fun _ => Le.refl _)
  · intro env flow ts
    cases ts with
    | nil => simp only [QM.RefSem.evalTerms]; exact Le.refl _
    | cons t ts =>
      simp only [QM.RefSem.evalTerms]
      exact Le.bind (ih.evalTerm _ _ _) (fun _ => ih.evalTerms _ _ _)
  · intro env flow t
    cases t with
    | lit l => simp only [QM.RefSem.evalTerm]; exact Le.refl _
    | tuple name fields =>
      simp only [QM.RefSem.evalTerm]
      exact Le.bind (ih.evalFields _ _ _ _ _) (fun _ => Le.refl _)
    | mtch p => simp only [QM.RefSem.evalTerm]; exact Le.refl _
    | block e =>
      simp only [QM.RefSem.evalTerm]
      exact Le.bind (ih.evalExpr _ _ _) (fun _ => Le.refl _)
    | fn nilary body => simp only [QM.RefSem.evalTerm]; exact Le.refl _
    | access s accs =>
      cases s with
      | ripple => simp only [QM.RefSem.evalTerm]; exact Le.refl _
      | builtin name =>
        simp only [QM.RefSem.evalTerm]
        exact Le.bind (ih.callFlow _ _) (fun _ => Le.refl _)
      | var x | param =>
        simp only [QM.RefSem.evalTerm]
        refine Le.bind (Le.refl _) (fun b => Le.bind (Le.refl _) (fun v => ?_))
        split
        · exact Le.bind (ih.callFlow _ _) (fun _ => Le.refl _)
        · exact Le.refl _
    | ref s accs =>
      cases s <;> simp only [QM.RefSem.evalTerm] <;> exact Le.refl _
    | tail f =>
      cases f with
      | none =>
        simp only [QM.RefSem.evalTerm]
        exact Le.bind (Le.refl _) (fun f => Le.bind (ih.callFlow _ _) (fun _ => Le.refl _))
      | some xa =>
        cases xa with
        | mk x accs =>
          simp only [QM.RefSem.evalTerm]
          exact Le.bind (Le.refl _) (fun b => Le.bind (Le.refl _)
            (fun f => Le.bind (ih.callFlow _ _) (fun _ => Le.refl _)))
    | tailRipple =>
      simp only [QM.RefSem.evalTerm]
      split
      · exact Le.bind (ih.apply _ _) (fun _ => Le.refl _)
      · exact Le.refl _
  · intro env flow fs acc inh
    cases fs with
    | nil => simp only [QM.RefSem.evalFields]; exact Le.refl _
    | cons f rest =>
      cases f with
      | val label c =>
        simp only [QM.RefSem.evalFields]
        exact Le.bind (ih.evalChain _ _ _) (fun _ => ih.evalFields _ _ _ _ _)
      | spread src =>
        simp only [QM.RefSem.evalFields]
        refine Le.bind (Le.refl _) (fun sv => ?_)
        split
        · exact ih.evalFields _ _ _ _ _
        · exact Le.refl _

theorem mono_all (n : Nat) : Mono n := by
  induction n with
  | zero =>
    constructor <;> intros <;> left <;>
      simp [QM.RefSem.apply, QM.RefSem.callFlow, QM.RefSem.evalExpr, QM.RefSem.evalSeq,
        QM.RefSem.evalChain, QM.RefSem.evalTerms, QM.RefSem.evalTerm, QM.RefSem.evalFields]
  | succ n ih => exact mono_succ n ih

theorem evalSeq_mono_le {n m : Nat} (h : n ≤ m) (env : Env) (flow : Val) (cs : List Chain) :
    Le (evalSeq n env flow cs) (evalSeq m env flow cs) := by
  induction h with
  | refl => exact Le.refl _
  | step _ ih => exact Le.trans ih ((mono_all _).evalSeq _ _ _)

theorem evalExpr_mono_le {n m : Nat} (h : n ≤ m) (env : Env) (flow : Val) (e : Expr) :
    Le (evalExpr n env flow e) (evalExpr m env flow e) := by
  induction h with
  | refl => exact Le.refl _
  | step _ ih => exact Le.trans ih ((mono_all _).evalExpr _ _ _)

theorem apply_mono_le {n m : Nat} (h : n ≤ m) (f a : Val) :
    Le (apply n f a) (apply m f a) := by
  induction h with
  | refl => exact Le.refl _
  | step _ ih => exact Le.trans ih ((mono_all _).apply _ _)

/-- **More fuel never changes a result**: once a program has a result other than `fuelOut`, every
larger fuel gives the same result. -/
theorem eval_fuel_mono {n m : Nat} (h : n ≤ m) (steps : List Chain) (r : Res Val)
    (hr : evalProgram n steps = r) (hne : r ≠ .fuelOut) : evalProgram m steps = r := by
  subst hr
  unfold evalProgram at *
  have hle := Le.bind (f := fun (x : Val × Env) => Res.ok x.1) (f' := fun (x : Val × Env) => Res.ok x.1)
    (evalSeq_mono_le h [] Val.nil steps) (fun _ => Le.refl _)
  rcases hle with h0 | h1
  · exact absurd h0 hne
  · exact h1.symm

/-- the same for a function application (the form in which C01 uses the evaluator) -/
theorem apply_fuel_mono {n m : Nat} (h : n ≤ m) (f a : Val) (r : Res Val)
    (hr : apply n f a = r) (hne : r ≠ .fuelOut) : apply m f a = r := by
  subst hr
  rcases apply_mono_le h f a with h0 | h1
  · exact absurd h0 hne
  · exact h1.symm

/-- **Determinism**: the value of a program does not depend on the fuel it was given — any two
runs that both finish agree (in value, error class, or being unspecified). -/
theorem eval_result_unique (n m : Nat) (steps : List Chain) (r₁ r₂ : Res Val)
    (h₁ : evalProgram n steps = r₁) (h₂ : evalProgram m steps = r₂)
    (hne₁ : r₁ ≠ .fuelOut) (hne₂ : r₂ ≠ .fuelOut) : r₁ = r₂ := by
  rcases Nat.le_total n m with h | h
  · have := eval_fuel_mono h steps r₁ h₁ hne₁
    rw [h₂] at this; exact this.symm
  · have := eval_fuel_mono h steps r₂ h₂ hne₂
    rw [h₁] at this; exact this

/-- **A sequence short-circuits on nil**: if a step evaluates to nil and more steps follow, the
sequence is nil — -/
theorem seq_nil_short_circuits (n : Nat) (env env' : Env) (flow v : Val) (c c' : Chain) (cs : List Chain)
    (h : evalChain n env flow c = .ok (v, env')) (hnil : v.isNil = true) :
    evalSeq (n + 1) env flow (c :: c' :: cs) = .ok (Val.nil, env') := by
  simp [QM.RefSem.evalSeq, h, Res.bind, hnil]

/-- — and no later step is evaluated: the result does not depend on what the later steps are. -/
theorem seq_nil_skips_rest (n : Nat) (env env' : Env) (flow v : Val) (c c₁ c₂ : Chain) (cs₁ cs₂ : List Chain)
    (h : evalChain n env flow c = .ok (v, env')) (hnil : v.isNil = true) :
    evalSeq (n + 1) env flow (c :: c₁ :: cs₁) = evalSeq (n + 1) env flow (c :: c₂ :: cs₂) := by
  rw [seq_nil_short_circuits n env env' flow v c c₁ cs₁ h hnil,
    seq_nil_short_circuits n env env' flow v c c₂ cs₂ h hnil]

/-- A non-nil step's value is what the next step starts from ("a sequence threads"), in the
environment the step left ("variable bindings persist across steps"). -/
theorem seq_threads (n : Nat) (env env' : Env) (flow v : Val) (c c' : Chain) (cs : List Chain)
    (h : evalChain n env flow c = .ok (v, env')) (hnn : v.isNil = false) :
    evalSeq (n + 1) env flow (c :: c' :: cs) = evalSeq n env' v (c' :: cs) := by
  simp [QM.RefSem.evalSeq, h, Res.bind, hnn]

/-- **A chain is an infallible pipe**: whatever a term evaluates to — nil included — flows into the
next term. -/
theorem chain_is_infallible_pipe (n : Nat) (env env' : Env) (flow v : Val) (t : Term) (ts : List Term)
    (h : evalTerm n env flow t = .ok (v, env')) :
    evalTerms (n + 1) env flow (t :: ts) = evalTerms n env' v ts := by
  simp [QM.RefSem.evalTerms, h, Res.bind]

/-- in particular a nil term result does not end the chain -/
theorem chain_nil_flows_on (n : Nat) (env env' : Env) (flow : Val) (t : Term) (ts : List Term)
    (h : evalTerm n env flow t = .ok (Val.nil, env')) :
    evalTerms (n + 1) env flow (t :: ts) = evalTerms n env' Val.nil ts :=
  chain_is_infallible_pipe n env env' flow Val.nil t ts h

/-- **A bare binder always succeeds** — on every value, nil included — with verdict `Ok`, and the
binding is visible afterwards. -/
theorem match_verdict_binder (env : Env) (x : String) (v : Val) :
    doMatch env (.bind x) v = .ok (Val.okv, (x, some v) :: env) := by
  simp [doMatch, matchPat, bindVar, lookup]

theorem match_binder_visible (env : Env) (x : String) (v : Val) :
    readVar ((x, some v) :: env) x = .ok v := by
  simp [readVar, lookup]

/-- the placeholder too -/
theorem match_verdict_placeholder (env : Env) (v : Val) :
    doMatch env .wild v = .ok (Val.okv, env) := by
  simp [doMatch, matchPat]

/-- **A match evaluates to `Ok` or nil** (the matched value does not flow onward), and its
environment extends the previous one: with the pattern's bindings on success, with the pattern's
variables (in scope, without a value) on failure. -/
theorem match_verdict (env env' : Env) (p : Pat) (v w : Val)
    (h : doMatch env p v = .ok (w, env')) :
    (w = Val.okv ∧ ∃ bs, matchPat env p v [] = .matched bs ∧ env' = bs ++ env) ∨
    (w = Val.nil ∧ matchPat env p v [] = .failed ∧
      env' = (patVars p).map (fun x => (x, none)) ++ env) := by
  unfold doMatch at h
  split at h
  · rename_i bs hm
    injection h with h
    injection h with h1 h2
    exact Or.inl ⟨h1.symm, bs, hm, h2.symm⟩
  · rename_i hm
    injection h with h
    injection h with h1 h2
    exact Or.inr ⟨h1.symm, hm, h2.symm⟩
  · exact absurd h (by simp)

/-- **A block leaves the outer environment unchanged** ("Variables assigned within a block shadow
outer variables but don't affect them"). -/
theorem block_scopes_bindings (n : Nat) (env env' : Env) (flow v : Val) (e : Expr)
    (h : evalTerm n env flow (.block e) = .ok (v, env')) : env' = env := by
  cases n with
  | zero => simp [QM.RefSem.evalTerm] at h
  | succ n =>
    simp only [QM.RefSem.evalTerm] at h
    cases hx : evalExpr n env flow e with
    | ok x => rw [hx] at h; simp [Res.bind] at h; exact h.2.symm
    | fuelOut => rw [hx] at h; simp [Res.bind] at h
    | err c => rw [hx] at h; simp [Res.bind] at h
    | unspec y => rw [hx] at h; simp [Res.bind] at h

/-- **Branch commit**: after a non-nil condition the consequence's value is the block's value — even
if it is nil, and whatever branches follow. The consequence starts from the block parameter `flow`
and sees the condition's bindings `env'`. -/
theorem branch_commit (n : Nat) (env env' : Env) (flow v : Val) (cond cons : List Chain)
    (rest : List Branch)
    (h : evalSeq n env flow cond = .ok (v, env')) (hnn : v.isNil = false) :
    evalExpr (n + 1) env flow (.mk (.mk cond (some cons) :: rest)) =
      (evalSeq n env' flow cons).bind (fun x => .ok x.1) := by
  simp [QM.RefSem.evalExpr, h, Res.bind, hnn]

/-- a branch without consequence has the value of its (non-nil) condition -/
theorem branch_value_without_consequence (n : Nat) (env env' : Env) (flow v : Val) (cond : List Chain)
    (rest : List Branch)
    (h : evalSeq n env flow cond = .ok (v, env')) (hnn : v.isNil = false) :
    evalExpr (n + 1) env flow (.mk (.mk cond none :: rest)) = .ok v := by
  simp [QM.RefSem.evalExpr, h, Res.bind, hnn]

/-- **after a nil condition the next branch starts again from the block parameter** (and from the
environment the block was entered with: the failed branch's bindings are gone). -/
theorem branch_fallthrough (n : Nat) (env env' : Env) (flow v : Val) (cond : List Chain)
    (cons : Option (List Chain)) (rest : List Branch)
    (h : evalSeq n env flow cond = .ok (v, env')) (hnil : v.isNil = true) :
    evalExpr (n + 1) env flow (.mk (.mk cond cons :: rest)) = evalExpr n env flow (.mk rest) := by
  simp [QM.RefSem.evalExpr, h, Res.bind, hnil]

/-- no branch left: the block is nil -/
theorem block_without_branch_is_nil (n : Nat) (env : Env) (flow : Val) :
    evalExpr (n + 1) env flow (.mk []) = .ok Val.nil := by
  simp [QM.RefSem.evalExpr]

/-- **Every tuple field receives the flowing value**: the field's chain starts from `flow` — not from
the previous field's value — and the remaining fields again from `flow`, in the environment the
field left. -/
theorem tuple_fields_receive_flow (n : Nat) (env : Env) (flow : Val) (label : Option String) (c : Chain)
    (rest : List Field) (acc : Fields) (inh : Option (Option String)) :
    evalFields (n + 1) env flow (.val label c :: rest) acc inh =
      (evalChain n env flow c).bind (fun x => evalFields n x.2 flow rest (setOrAppend acc label x.1) inh) := by
  simp [QM.RefSem.evalFields]

/-- **A nilary callee ignores the flowing value** and is called with nil. -/
theorem nilary_ignores_flow (n : Nat) (body : Option Expr) (cenv : Env) (flow : Val) :
    callFlow (n + 1) (.clo true body cenv) flow = apply n (.clo true body cenv) Val.nil := by
  simp [QM.RefSem.callFlow]

/-- a non-nilary closure is called with the flowing value -/
theorem callable_receives_flow (n : Nat) (body : Option Expr) (cenv : Env) (flow : Val) :
    callFlow (n + 1) (.clo false body cenv) flow = apply n (.clo false body cenv) flow := by
  simp [QM.RefSem.callFlow]

/-- `$` is the argument and `^` the function itself inside a body -/
theorem apply_binds_parameter (n : Nat) (nilary : Bool) (body : Expr) (cenv : Env) (arg : Val) :
    apply (n + 1) (.clo nilary (some body) cenv) arg =
      evalExpr n (("$", some arg) :: ("^", some (.clo nilary (some body) cenv)) :: cenv) arg body := by
  simp [QM.RefSem.apply]

/-- `P` holds of an `ok` result (nothing is claimed about the other outcomes) -/
def OkSat {α : Type} (P : α → Prop) : Res α → Prop
  | .ok a => P a
  | _ => True

theorem OkSat.bind {α β} {P : α → Prop} {Q : β → Prop} {a : Res α} {f : α → Res β}
    (ha : OkSat P a) (hf : ∀ x, P x → OkSat Q (f x)) : OkSat Q (a.bind f) := by
  cases a with
  | ok x => exact hf x ha
  | fuelOut => trivial
  | err c => trivial
  | unspec y => trivial

/-- `env'` extends `env`: bindings are only ever added in front -/
def Extends (env env' : Env) : Prop := ∃ bs, env' = bs ++ env

theorem Extends.refl (env : Env) : Extends env env := ⟨[], rfl⟩
theorem Extends.trans {a b c : Env} (h₁ : Extends a b) (h₂ : Extends b c) : Extends a c := by
  obtain ⟨x, rfl⟩ := h₁
  obtain ⟨y, rfl⟩ := h₂
  exact ⟨y ++ x, by simp⟩

theorem doMatch_extends (env : Env) (p : Pat) (v : Val) :
    OkSat (fun r => Extends env r.2) (doMatch env p v) := by
  unfold doMatch
  split
  · exact ⟨_, rfl⟩
  · exact ⟨_, rfl⟩
  · trivial

theorem OkSat.mono {α} {P Q : α → Prop} {a : Res α} (h : OkSat P a) (hpq : ∀ x, P x → Q x) : OkSat Q a := by
  cases a with
  | ok x => exact hpq x h
  | fuelOut => trivial
  | err c => trivial
  | unspec y => trivial

/-- all judgement forms, at fuel `n`, leave an environment that extends the one they started from -/
structure EnvExt (n : Nat) : Prop where
  evalSeq : ∀ env flow cs, OkSat (fun r => Extends env r.2) (evalSeq n env flow cs)
  evalChain : ∀ env flow c, OkSat (fun r => Extends env r.2) (evalChain n env flow c)
  evalTerms : ∀ env flow ts, OkSat (fun r => Extends env r.2) (evalTerms n env flow ts)
  evalTerm : ∀ env flow t, OkSat (fun r => Extends env r.2) (evalTerm n env flow t)
  evalFields : ∀ env flow fs acc inh,
    OkSat (fun r => Extends env r.2.2) (evalFields n env flow fs acc inh)

theorem envExt_succ (n : Nat) (ih : EnvExt n) : EnvExt (n + 1) := by
  constructor
  · intro env flow cs
    cases cs with
    | nil => simp only [QM.RefSem.evalSeq]; exact Extends.refl _
    | cons c cs =>
      simp only [QM.RefSem.evalSeq]
      refine OkSat.bind (ih.evalChain env flow c) (fun x hx => ?_)
      split
      · exact hx
      · split
        · exact hx
        · exact OkSat.mono (ih.evalSeq _ _ _) (fun _ h => Extends.trans hx h)
  · intro env flow c
    cases c with
    | mk pat terms =>
      simp only [QM.RefSem.evalChain]
      refine OkSat.bind (ih.evalTerms env flow terms) (fun x hx => ?_)
      split
      · exact hx
      · exact OkSat.mono (doMatch_extends _ _ _) (fun _ h => Extends.trans hx h)
  · intro env flow ts
    cases ts with
    | nil => simp only [QM.RefSem.evalTerms]; exact Extends.refl _
    | cons t ts =>
      simp only [QM.RefSem.evalTerms]
      refine OkSat.bind (ih.evalTerm env flow t) (fun x hx => ?_)
      exact OkSat.mono (ih.evalTerms _ _ _) (fun _ h => Extends.trans hx h)
  · intro env flow t
    have hpure : ∀ {α} (r : Res α) (g : α → Val),
        OkSat (fun x : Val × Env => Extends env x.2) (r.bind fun a => .ok (g a, env)) := by
      intro α r g
      cases r <;> simp [Res.bind, OkSat, Extends.refl]
    cases t with
    | lit l => simp only [QM.RefSem.evalTerm]; exact Extends.refl _
    | tuple name fields =>
      simp only [QM.RefSem.evalTerm]
      exact OkSat.bind (ih.evalFields env flow fields [] none) (fun x hx => hx)
    | mtch p => simp only [QM.RefSem.evalTerm]; exact doMatch_extends _ _ _
    | block e => simp only [QM.RefSem.evalTerm]; exact hpure _ _
    | fn nilary body => simp only [QM.RefSem.evalTerm]; exact Extends.refl _
    | access s accs =>
      cases s with
      | ripple => simp only [QM.RefSem.evalTerm]; exact hpure _ _
      | builtin name => simp only [QM.RefSem.evalTerm]; exact hpure _ _
      | var x =>
        simp only [QM.RefSem.evalTerm]
        refine OkSat.bind (P := fun _ => True) (by cases readVar env x <;> trivial) (fun b _ => ?_)
        refine OkSat.bind (P := fun _ => True) (by cases project b accs <;> trivial) (fun v _ => ?_)
        split
        · exact hpure _ _
        · exact Extends.refl _
      | param =>
        simp only [QM.RefSem.evalTerm]
        refine OkSat.bind (P := fun _ => True) (by cases readVar env "$" <;> trivial) (fun b _ => ?_)
        refine OkSat.bind (P := fun _ => True) (by cases project b accs <;> trivial) (fun v _ => ?_)
        split
        · exact hpure _ _
        · exact Extends.refl _
    | ref s accs =>
      cases s with
      | ripple => simp only [QM.RefSem.evalTerm]; trivial
      | builtin name => simp only [QM.RefSem.evalTerm]; exact Extends.refl _
      | var x =>
        simp only [QM.RefSem.evalTerm]
        refine OkSat.bind (P := fun _ => True) (by cases readVar env x <;> trivial) (fun b _ => ?_)
        exact hpure _ _
      | param =>
        simp only [QM.RefSem.evalTerm]
        refine OkSat.bind (P := fun _ => True) (by cases readVar env "$" <;> trivial) (fun b _ => ?_)
        exact hpure _ _
    | tail f =>
      cases f with
      | none =>
        simp only [QM.RefSem.evalTerm]
        refine OkSat.bind (P := fun _ => True) (by cases readVar env "^" <;> trivial) (fun b _ => ?_)
        exact hpure _ _
      | some xa =>
        cases xa with
        | mk x accs =>
          simp only [QM.RefSem.evalTerm]
          refine OkSat.bind (P := fun _ => True) (by cases readVar env x <;> trivial) (fun b _ => ?_)
          refine OkSat.bind (P := fun _ => True) (by cases project b accs <;> trivial) (fun v _ => ?_)
          exact hpure _ _
    | tailRipple =>
      simp only [QM.RefSem.evalTerm]
      split
      · exact hpure _ _
      · trivial
  · intro env flow fs acc inh
    cases fs with
    | nil => simp only [QM.RefSem.evalFields]; exact Extends.refl _
    | cons f rest =>
      cases f with
      | val label c =>
        simp only [QM.RefSem.evalFields]
        refine OkSat.bind (ih.evalChain env flow c) (fun x hx => ?_)
        exact OkSat.mono (ih.evalFields _ _ _ _ _) (fun _ h => Extends.trans hx h)
      | spread src =>
        simp only [QM.RefSem.evalFields]
        refine OkSat.bind (P := fun _ => True) (by cases src <;> simp [OkSat] <;> cases readVar env _ <;> trivial) (fun sv _ => ?_)
        split
        · exact ih.evalFields _ _ _ _ _
        · trivial

theorem envExt_all (n : Nat) : EnvExt n := by
  induction n with
  | zero =>
    constructor <;> intros <;>
      simp [QM.RefSem.evalSeq, QM.RefSem.evalChain, QM.RefSem.evalTerms, QM.RefSem.evalTerm,
        QM.RefSem.evalFields, OkSat]
  | succ n ih => exact envExt_succ n ih

/-- **Bindings persist and are never altered**: whatever a sequence (chain, term, tuple) does, the
environment it leaves is the one it started from with bindings added in front — an earlier binding
is never removed or overwritten (rebinding shadows). -/
theorem seq_only_adds_bindings (n : Nat) (env env' : Env) (flow v : Val) (cs : List Chain)
    (h : evalSeq n env flow cs = .ok (v, env')) : ∃ bs, env' = bs ++ env := by
  have := (envExt_all n).evalSeq env flow cs
  rw [h] at this
  exact this

/- Concrete programs: the hypotheses above are satisfiable, and the evaluator computes. -/

namespace Ex
/-- `a = 5 { | =1 => 10 | =2 => 20 }, a` (defect F11: must be `[]`) -/
def f11a : List Chain :=
  [ .mk (some (.bind "a")) [.lit (.int 5), .block (.mk [
        .mk [.mk none [.mtch (.lit (.int 1))]] (some [.mk none [.lit (.int 10)]]),
        .mk [.mk none [.mtch (.lit (.int 2))]] (some [.mk none [.lit (.int 20)]])])],
    .mk none [.access (.var "a") []] ]

/-- `5 { | =1 => 10 | =2 => 20 } =a, b = 7, c = 8, [a, b, c]` (must be `[[], 7, 8]`) -/
def f11b : List Chain :=
  [ .mk none [.lit (.int 5), .block (.mk [
        .mk [.mk none [.mtch (.lit (.int 1))]] (some [.mk none [.lit (.int 10)]]),
        .mk [.mk none [.mtch (.lit (.int 2))]] (some [.mk none [.lit (.int 20)]])]),
      .mtch (.bind "a")],
    .mk (some (.bind "b")) [.lit (.int 7)],
    .mk (some (.bind "c")) [.lit (.int 8)],
    .mk none [.tuple .anon [
      .val none (.mk none [.access (.var "a") []]),
      .val none (.mk none [.access (.var "b") []]),
      .val none (.mk none [.access (.var "c") []])]] ]

example : evalProgram 12 f11a = .ok Val.nil := by rfl
example : evalProgram 30 f11b =
    .ok (.tup none [(none, Val.nil), (none, .int 7), (none, .int 8)]) := by rfl
/-- fuel decides only whether there is a result (`eval_fuel_mono` with n = 12, m = 40) -/
example : evalProgram 3 f11a = .fuelOut := by rfl
example : evalProgram 40 f11a = .ok Val.nil :=
  eval_fuel_mono (n := 12) (m := 40) (by decide) f11a _ (by rfl) (by simp)

/-- `[], 5` : the hypothesis of `seq_nil_short_circuits` holds for the step `[]` -/
example : evalChain 4 [] Val.nil (.mk none [.tuple .anon []]) = .ok (Val.nil, []) := by rfl
example : evalProgram 9 [.mk none [.tuple .anon []], .mk none [.lit (.int 5)]] = .ok Val.nil := by rfl
/-- `[] [~, 5]` : one chain, nil flows on (`chain_is_infallible_pipe`) -/
example : evalProgram 12 [.mk none [.tuple .anon [],
      .tuple .anon [.val none (.mk none [.access .ripple []]), .val none (.mk none [.lit (.int 5)])]]] =
    .ok (.tup none [(none, Val.nil), (none, .int 5)]) := by rfl
/-- `5 [~, ~]` : every field receives the flow (`tuple_fields_receive_flow`) -/
example : evalProgram 12 [.mk none [.lit (.int 5),
      .tuple .anon [.val none (.mk none [.access .ripple []]), .val none (.mk none [.access .ripple []])]]] =
    .ok (.tup none [(none, .int 5), (none, .int 5)]) := by rfl
/-- `{ 1 => [], 10 | 2 => 20 }` : the consequence fails after a succeeding condition, the block is
nil (`branch_commit`), the second branch is not tried -/
example : evalProgram 12 [.mk none [.block (.mk [
      .mk [.mk none [.lit (.int 1)]] (some [.mk none [.tuple .anon []], .mk none [.lit (.int 10)]]),
      .mk [.mk none [.lit (.int 2)]] (some [.mk none [.lit (.int 20)]])])]] = .ok Val.nil := by rfl
/-- `x = 1, { x = 2 }, x` : `block_scopes_bindings` -/
example : evalProgram 12 [.mk (some (.bind "x")) [.lit (.int 1)],
      .mk none [.block (.mk [.mk [.mk (some (.bind "x")) [.lit (.int 2)]] none])],
      .mk none [.access (.var "x") []]] = .ok (.int 1) := by rfl
/-- `x = 1, f = #{ x }, x = 2, [] f` : closures capture bindings (value 1) -/
example : evalProgram 30 [.mk (some (.bind "x")) [.lit (.int 1)],
      .mk (some (.bind "f")) [.fn true (some (.mk [.mk [.mk none [.access (.var "x") []]] none]))],
      .mk (some (.bind "x")) [.lit (.int 2)],
      .mk none [.tuple .anon [], .access (.var "f") []]] = .ok (.int 1) := by rfl
/-- `[5, 6] =[x, x]` fails, `[5, 5] =[x, x]` succeeds (repeated binder = equality) -/
example : doMatch [] (.tup none [(none, .bind "x"), (none, .bind "x")])
    (.tup none [(none, .int 5), (none, .int 6)]) = .ok (Val.nil, [("x", none), ("x", none)]) := by rfl
example : doMatch [] (.tup none [(none, .bind "x"), (none, .bind "x")])
    (.tup none [(none, .int 5), (none, .int 5)]) = .ok (Val.okv, [("x", some (.int 5))]) := by rfl
end Ex

end C02
