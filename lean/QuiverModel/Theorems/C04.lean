import QuiverModel.Lemmas.Sys.Await
import QuiverModel.Lemmas.Sys.Live
import QuiverModel.Lemmas.Sys.Dead
/-
C04 — Messages: exactly-once, per-sender FIFO, and no lost wake-ups.

The theorems are about `QM.Sys.run (Sys.init n prog req) cs` (a few building blocks are stated for an arbitrary state
and say so): the state of M-Sys
(Core/Sys/Basic.lean — the model the driver `qm_c04` executes in lock-step with the real
Environment/Workers) after ANY sequence `cs` of scheduler choices: any interleaving of environment
and worker steps, any partial visibility of the queues, any time-slice length (`fuel`), any
hash-iteration order (`ordQ`, `ordE`), any clock ticks; for any worker count `n ≥ 1` and any
well-formed script table `prog`.
-/
namespace C04
open QM.Sys
set_option linter.unusedSectionVars false
section
variable [Cfg]

/-- The state after the choices `cs`, from the start-up state of `Repl::evaluate`. -/
abbrev reach (n : Nat) (prog : Prog) (req : Nat) (cs : List Choice) : Sys := run (Sys.init n prog req) cs

/-- The routing invariant (`RInv`): no `EnvironmentError` (`fault = false`), every pid that occurs in
a queue, a register or an awaiter table is routed, a process lives on the worker the router names,
every command sits in the queue of the worker it concerns — after every choice sequence. -/
theorem routing_invariant (n : Nat) (prog : Prog) (req : Nat) (hn : 0 < n) (hwf : ProgWF prog) (cs : List Choice) :
    PreStart (reach n prog req cs) ∨ RInv (reach n prog req cs) :=
  invariant_of_steps Rules.current RInv (fun _ h => RInv.of_started h)
    (fun _ _ h hs => h.step Rules.current_tame hs) n prog req hn hwf cs

/-- The delivery invariant (`DInv`) after every choice sequence. -/
theorem delivery_invariant (n : Nat) (prog : Prog) (req : Nat) (hn : 0 < n) (hwf : ProgWF prog) (cs : List Choice) :
    PreStart (reach n prog req cs) ∨ DInv (reach n prog req cs) :=
  invariant_of_steps Rules.current DInv (fun _ h => DInv.of_started h)
    (fun _ _ h hs => h.step Rules.current_tame hs) n prog req hn hwf cs

/-- **Message conservation** for every pair (sender `a`, receiver `b`): what `notify_message` has
appended to `b`'s mailbox from `a`, followed by the `DeliverMessage` commands for it still queued
at `b`'s worker, followed by the `DeliverAction` events still queued at `a`'s worker, is exactly the
sequence of sends `a → b` handled so far — in order.  Hence exactly-once (no loss, no duplicate)
and per-sender FIFO. -/
theorem delivery_conservation (n : Nat) (prog : Prog) (req : Nat) (hn : 0 < n) (hwf : ProgWF prog)
    (cs : List Choice) (a b : Pid) :
    let s := reach n prog req cs
    sel a b s.appended ++ selC a b (s.cmdQ (home s b)) ++ selE a b (s.evtQ (home s a)) = sel a b s.sent := by
  intro s
  rcases delivery_invariant n prog req hn hwf cs with h | h
  · show sel a b s.appended ++ selC a b (s.cmdQ (home s b)) ++ selE a b (s.evtQ (home s a)) = sel a b s.sent
    rw [h.appended, h.sent, (Inert.facts (K := fun _ => True) (h.inert _)).2.1, h.evtQ]; rfl
  · exact h.conserve a b

/-- The same with the workers named by the router. -/
theorem delivery_conservation_routed (n : Nat) (prog : Prog) (req : Nat) (hn : 0 < n) (hwf : ProgWF prog)
    (cs : List Choice) (a b : Pid) (wa wb : Wid)
    (ha : (reach n prog req cs).env.router a = some wa) (hb : (reach n prog req cs).env.router b = some wb) :
    let s := reach n prog req cs
    sel a b s.appended ++ selC a b (s.cmdQ wb) ++ selE a b (s.evtQ wa) = sel a b s.sent := by
  intro s
  have := delivery_conservation n prog req hn hwf cs a b
  simp only [home_eq ha, home_eq hb] at this
  exact this

/-- Exactly-once / FIFO as a prefix statement: the messages from `a` in `b`'s mailbox history are a
prefix of the messages `a` sent to `b`. -/
theorem appended_prefix_of_sent (n : Nat) (prog : Prog) (req : Nat) (hn : 0 < n) (hwf : ProgWF prog)
    (cs : List Choice) (a b : Pid) :
    sel a b (reach n prog req cs).appended <+: sel a b (reach n prog req cs).sent := by
  have := delivery_conservation n prog req hn hwf cs a b
  simp only [List.append_assoc] at this
  exact ⟨_, this⟩

/-- No message is ever dropped: `notify_message` always finds its target process (a
`DeliverMessage` never overtakes the `SpawnProcess` of its target). -/
theorem no_message_dropped (n : Nat) (prog : Prog) (req : Nat) (hn : 0 < n) (hwf : ProgWF prog) (cs : List Choice) :
    (reach n prog req cs).dropped = [] := by
  rcases delivery_invariant n prog req hn hwf cs with h | h
  · exact h.dropped
  · exact h.nodrop

/-- No `EnvironmentError` is ever produced. -/
theorem no_fault (n : Nat) (prog : Prog) (req : Nat) (hn : 0 < n) (hwf : ProgWF prog) (cs : List Choice) :
    (reach n prog req cs).fault = false := by
  rcases routing_invariant n prog req hn hwf cs with h | h
  · exact h.nofault
  · exact h.nofault

/-- When all queues are empty everything that was sent has been appended, in send order. -/
theorem quiescent_all_delivered (n : Nat) (prog : Prog) (req : Nat) (hn : 0 < n) (hwf : ProgWF prog)
    (cs : List Choice) (a b : Pid) (hidle : (reach n prog req cs).idle) :
    sel a b (reach n prog req cs).appended = sel a b (reach n prog req cs).sent := by
  have hc := delivery_conservation n prog req hn hwf cs a b
  rcases routing_invariant n prog req hn hwf cs with h | h
  · rw [h.appended, h.sent]
  · have hlt : ∀ p, home (reach n prog req cs) p < (reach n prog req cs).n := by
      intro p
      unfold home
      cases hr : (reach n prog req cs).env.router p with
      | some w => exact h.wbound p w hr
      | none =>
        have hz := h.zero
        unfold Routed at hz
        cases h0 : (reach n prog req cs).env.router 0 with
        | none => rw [h0] at hz; simp at hz
        | some w0 => exact Nat.lt_of_le_of_lt (Nat.zero_le _) (h.wbound 0 w0 h0)
    simp only [] at hc
    rw [(hidle _ (hlt b)).1, (hidle _ (hlt a)).2.1] at hc
    simpa [selC, selE, cmdMsgs, evtMsgs] using hc

/-- **Spawn replies are conserved** per caller `c`: the pids `notify_spawn` has handed to `c`, followed
by the `NotifySpawn` commands for `c` still queued at its worker, are exactly the pids the
environment allocated for `c`'s SpawnActions, in order: every SpawnAction handled produces exactly
one NotifySpawn, delivered to the caller's worker. -/
theorem spawn_reply (n : Nat) (prog : Prog) (req : Nat) (hn : 0 < n) (hwf : ProgWF prog) (cs : List Choice) (c : Pid) :
    let s := reach n prog req cs
    notifiedOf c s.spawnNotified ++ notifyC c (s.cmdQ (home s c)) = spawnedOf c s.spawned := by
  intro s
  rcases delivery_invariant n prog req hn hwf cs with h | h
  · show notifiedOf c s.spawnNotified ++ notifyC c (s.cmdQ (home s c)) = spawnedOf c s.spawned
    rw [h.spawnNotified, h.spawned, (Inert.facts (K := fun _ => True) (h.inert _)).2.2.1]; rfl
  · exact h.spawnReply c

/-- The scheduling invariant (`SInv`) after every choice sequence. -/
theorem sched_invariant (n : Nat) (prog : Prog) (req : Nat) (hn : 0 < n) (hwf : ProgWF prog) (cs : List Choice) :
    PreStart (reach n prog req cs) ∨ SInv (reach n prog req cs) :=
  invariant_of_steps Rules.current SInv (fun _ h => SInv.of_started h)
    (fun _ _ h hs => h.step Rules.current_sane hs) n prog req hn hwf cs

theorem preStart_sched {s : Sys} (h : PreStart s) (w : Wid) : WSched (s.wk w) ∧ (s.wk w).spawning = [] := by
  rw [h.wk]
  by_cases e : w = 0
  · subst e
    simp only [upd_same]
    refine ⟨{ qnd := by simp [W0init, WorkerSt.setProc, WorkerSt.empty], spnd := by simp [W0init, WorkerSt.setProc, WorkerSt.empty],
              send := by simp [W0init, WorkerSt.setProc, WorkerSt.empty], dqs := ?_, dss := ?_, live := ?_ }, by simp [W0init, WorkerSt.setProc, WorkerSt.empty]⟩
    · intro p hp; simp [W0init, WorkerSt.setProc, WorkerSt.empty] at hp
    · intro p hp; simp [W0init, WorkerSt.setProc, WorkerSt.empty] at hp
    · intro p hp; simp [W0init, WorkerSt.setProc, WorkerSt.empty] at hp
  · simp only [upd_other _ _ _ _ e]
    refine ⟨{ qnd := by simp [WorkerSt.empty], spnd := by simp [WorkerSt.empty], send := by simp [WorkerSt.empty],
              dqs := ?_, dss := ?_, live := ?_ }, by simp [WorkerSt.empty]⟩
    · intro p hp; simp [WorkerSt.empty] at hp
    · intro p hp; simp [WorkerSt.empty] at hp
    · intro p hp; simp [WorkerSt.empty] at hp

/-- **Re-queue only if parked**: on every worker, `queue`, `spawning` and `selecting` are duplicate
free and pairwise disjoint, and every process in one of them exists and is unfinished — a process is
never runnable twice, never runnable while parked, never parked for two reasons. -/
theorem sched_sets_disjoint (n : Nat) (prog : Prog) (req : Nat) (hn : 0 < n) (hwf : ProgWF prog) (cs : List Choice)
    (w : Wid) : WSched ((reach n prog req cs).wk w) := by
  rcases sched_invariant n prog req hn hwf cs with h | h
  · exact (preStart_sched h w).1
  · exact h.sched w

/-- **A spawner always receives its pid**: while a process is parked in `spawning`, its SpawnAction
is queued at its worker's event queue or the NotifySpawn for it is queued at its worker's command
queue. -/
theorem spawner_receives_pid (n : Nat) (prog : Prog) (req : Nat) (hn : 0 < n) (hwf : ProgWF prog) (cs : List Choice)
    (w : Wid) (c : Pid) (hc : c ∈ ((reach n prog req cs).wk w).spawning) :
    (∃ fn regs coloc, Evt.spawn c fn regs coloc ∈ (reach n prog req cs).evtQ w) ∨
    (∃ p, Cmd.notifySpawn c p ∈ (reach n prog req cs).cmdQ w) := by
  rcases sched_invariant n prog req hn hwf cs with h | h
  · rw [(preStart_sched h w).2] at hc; simp at hc
  · exact h.spawner w c hc

/-- … hence when the queues are empty nobody is waiting for a spawn reply. -/
theorem quiescent_no_spawner_waiting (n : Nat) (prog : Prog) (req : Nat) (hn : 0 < n) (hwf : ProgWF prog)
    (cs : List Choice) (hidle : (reach n prog req cs).idle) (w : Wid) (hw : w < (reach n prog req cs).n) :
    ((reach n prog req cs).wk w).spawning = [] := by
  apply List.eq_nil_iff_forall_not_mem.mpr
  intro c hc
  rcases spawner_receives_pid n prog req hn hwf cs w c hc with ⟨_, _, _, h1⟩ | ⟨_, h1⟩
  · rw [(hidle w hw).2.1] at h1; simp at h1
  · rw [(hidle w hw).1] at h1; simp at h1

/-- The wake-up invariant (`WInv`) after every choice sequence. -/
theorem wakeup_invariant (n : Nat) (prog : Prog) (req : Nat) (hn : 0 < n) (hwf : ProgWF prog) (cs : List Choice) :
    PreStart (reach n prog req cs) ∨ WInv (reach n prog req cs) :=
  invariant_of_steps Rules.current WInv (fun _ h => WInv.of_started h) (fun _ _ h hs => h.step hs) n prog req hn hwf cs

/-- **No lost wake-up.**  A process parked in `selecting` either has no ready source in its local
state — no message in its mailbox that one of the select's receive sources accepts, no awaited
target with a stored result or a recorded failure — or something that will re-queue it is in flight:
a `DeliverMessage` or `UpdateAwaitResults` for it, or a link of its await chain (`AwaitAction`,
`QueryAndAwait`, `ProcessResults`).  (Timeouts are woken by `check_expired_timeouts` at the next
executor step; the quiescence detector treats a pending timeout as "not quiescent".) -/
theorem no_lost_wakeup (n : Nat) (prog : Prog) (req : Nat) (hn : 0 < n) (hwf : ProgWF prog) (cs : List Choice)
    (w : Wid) (p : Pid) (x : Proc) (hsel : p ∈ ((reach n prog req cs).wk w).selecting)
    (hx : ((reach n prog req cs).wk w).procs p = some x) :
    ¬ LocalReady (reach n prog req cs).prog x ∨ WakePending (reach n prog req cs) p := by
  rcases wakeup_invariant n prog req hn hwf cs with h | h
  · rw [(h.wk_idle w).2.1] at hsel; simp at hsel
  · exact h.core.wake w p x hsel hx

/-- Everything in flight that concerns a process sits in the queue of a real worker. -/
theorem wakePending_not_idle {s : Sys} (h : WInv s) {p : Pid} (hp : WakePending s p) :
    ∃ w, w < s.n ∧ (s.cmdQ w ≠ [] ∨ s.evtQ w ≠ []) := by
  have hr := h.si.r
  rcases hp with ⟨w, c, hc, hm⟩ | ⟨w, e, he, hm⟩
  · refine ⟨w, ?_, Or.inl (List.ne_nil_of_mem hc)⟩
    have hcok := hr.cmds w c hc
    cases c with
    | deliver t m => exact hr.wbound t w hcok
    | updateAwait a rs => exact hr.wbound a w hcok
    | queryAwait a ts =>
      obtain ⟨t, ht⟩ := List.exists_mem_of_ne_nil ts (h.core.neQ w a ts hc)
      exact hr.wbound t w (hcok.2 t ht)
    | misc => simp [mentionsC] at hm
    | start _ => simp [mentionsC] at hm
    | resume _ _ => simp [mentionsC] at hm
    | spawn _ _ _ => simp [mentionsC] at hm
    | notifySpawn _ _ => simp [mentionsC] at hm
    | getResult _ _ => simp [mentionsC] at hm
  · refine ⟨w, ?_, Or.inr (List.ne_nil_of_mem he)⟩
    have heok := hr.evts w e he
    cases e with
    | await a ts => exact hr.wbound a w heok.1
    | procResults a rs =>
      obtain ⟨tr, htr⟩ := List.exists_mem_of_ne_nil rs (h.core.neR w a rs he)
      exact hr.wbound tr.1 w (heok.2 tr htr)
    | spawn _ _ _ _ => simp [mentionsE] at hm
    | deliver _ _ => simp [mentionsE] at hm
    | resultResp _ _ => simp [mentionsE] at hm
    | exited _ => simp [mentionsE] at hm

/-- … hence **the system never becomes idle while a blocked process has a ready source**: when all
queues of all workers are empty, no process parked in a select has a ready source in its local
state. -/
theorem quiescent_no_blocked_ready (n : Nat) (prog : Prog) (req : Nat) (hn : 0 < n) (hwf : ProgWF prog) (cs : List Choice)
    (hidle : (reach n prog req cs).idle) (w : Wid) (p : Pid) (x : Proc)
    (hsel : p ∈ ((reach n prog req cs).wk w).selecting) (hx : ((reach n prog req cs).wk w).procs p = some x) :
    ¬ LocalReady (reach n prog req cs).prog x := by
  rcases wakeup_invariant n prog req hn hwf cs with h | h
  · rw [(h.wk_idle w).2.1] at hsel; simp at hsel
  · rcases h.core.wake w p x hsel hx with h1 | h1
    · exact h1
    · obtain ⟨w', hw', hne⟩ := wakePending_not_idle h h1
      rcases hne with hne | hne
      · exact absurd (hidle w' hw').1 hne
      · exact absurd (hidle w' hw').2.1 hne

/-- **Spawn pairing**: for every worker and process, the number of SpawnActions plus NotifySpawns
in flight for it at that worker is 1 if it is parked in `spawning` and 0 otherwise: a NotifySpawn
always finds its caller parked, and a parked spawner has exactly one reply coming. -/
theorem spawn_pairing (n : Nat) (prog : Prog) (req : Nat) (hn : 0 < n) (hwf : ProgWF prog) (cs : List Choice)
    (w : Wid) (c : Pid) :
    ((reach n prog req cs).evtQ w).countP (isSpawnEvt c) + ((reach n prog req cs).cmdQ w).countP (isNotify c) =
      if c ∈ ((reach n prog req cs).wk w).spawning then 1 else 0 := by
  rcases wakeup_invariant n prog req hn hwf cs with h | h
  · rw [h.evtQ w, (preStart_sched h w).2]
    simp only [List.countP_nil, Nat.zero_add, List.not_mem_nil, if_false]
    rw [List.countP_eq_zero]
    intro c' hc'
    have := (h.inert w c' hc').2.2 c
    cases c' <;> simp_all [isNotify, cmdNotify]
  · exact h.pair w c

/-! ### await answers -/

/-- an answer carrying the result of `t` for awaiter `a` is on its way (or will be produced: `a` is
registered at `t`'s worker, or a fresh query for `t` on behalf of `a` is in flight) -/
def AnswerInFlight (s : Sys) (a t : Pid) : Prop :=
  (∃ w rs r, Evt.procResults a rs ∈ s.evtQ w ∧ (t, some r) ∈ rs) ∨
  (∃ w r, pendingHas s a w t r) ∨
  (∃ w rs r, Cmd.updateAwait a rs ∈ s.cmdQ w ∧ (t, some r) ∈ rs) ∨
  (∃ w, a ∈ (s.wk w).awaitersFor t) ∨
  (∃ w ts, Evt.await a ts ∈ s.evtQ w ∧ t ∈ ts) ∨ (∃ w ts, Cmd.queryAwait a ts ∈ s.cmdQ w ∧ t ∈ ts)

/-- the awaiter's current select does not (any longer) wait for `t` -/
def NotAwaiting (s : Sys) (a t : Pid) : Prop :=
  ∀ w x, (s.wk w).procs a = some x → x.result.isSome ∨ (alookup x.awaiting t).isNone

/-- Full statement of answer completeness (NOT proved at system level): every completed target a
worker has reported to an awaiter has been applied at the awaiter's worker, or the answer is still
on its way, or the awaiter's select no longer waits for that target (its `pending_awaits` entry was
replaced by a newer select's and the collected answers for the completed one were discarded). -/
def AwaitAnswerCompleteStatement : Prop :=
  ∀ (n : Nat) (prog : Prog) (req : Nat), 0 < n → ProgWF prog → ∀ (cs : List Choice) (a t : Pid),
    (a, t) ∈ (reach n prog req cs).reported →
      (a, t) ∈ (reach n prog req cs).learned ∨ AnswerInFlight (reach n prog req cs) a t ∨ NotAwaiting (reach n prog req cs) a t

/-- Proved part: the step that the repaired defect F8 concerned.  On EVERY state, handling a further
ProcessResults event with MERGED answers never loses a result already collected in the pending
entry of the awaiter: it stays collected or leaves in the UpdateAwaitResults command.
(`replace_loses_await_answer` below: the replace variant loses it.)  Together with
`no_lost_wakeup` (the answer chain never dies: `WCore.pend` — every worker the environment still
expects has its query or its answer in flight) this is what the system-level statement rests on;
the remaining links (worker → event, event → pending entry, command → `awaiting` map) each move the
result verbatim. -/
theorem await_answer_complete_partial (s : Sys) (a : Pid) (new : Results) (w0 : Wid) (t : Pid) (r : Res)
    (hrouted : (s.env.router a).isSome) (hhas : pendingHas s a w0 t r) (hnew : alookup new t = none) :
    pendingHas (handleProcResultsWith mergeAnswer s a new) a w0 t r ∨
    ∃ aw rs, Cmd.updateAwait a rs ∈ (handleProcResultsWith mergeAnswer s a new).cmdQ aw ∧ (t, some r) ∈ rs :=
  merge_keeps_collected s a new w0 t r hrouted hhas hnew

/-- Every worker the environment still expects an answer from (for the pending await of `p`) has its
QueryAndAwait still queued or its ProcessResults on the way: the collection always completes. -/
theorem pending_await_completes (n : Nat) (prog : Prog) (req : Nat) (hn : 0 < n) (hwf : ProgWF prog) (cs : List Choice)
    (p : Pid) (pa : PendingAwait) (hp : (reach n prog req cs).env.pending p = some pa) (w : Wid) (hw : w ∈ pa.expected) :
    InFlightFrom (reach n prog req cs) p w := by
  rcases wakeup_invariant n prog req hn hwf cs with h | h
  · rw [h.pending] at hp; cases hp
  · exact h.core.pend p pa hp w hw

/-- **Results are stable**: from any state satisfying the scheduling invariant (every state after
start-up does: `sched_invariant`), no scheduler choice changes the result of a process that has one. -/
theorem results_stable (s : Sys) (h : SInv s) (c : Choice) : ResMono s (sysStep s c) ∧ SInv (sysStep s c) := by
  have := sysStep_invariant Rules.current (fun s' => SInv s' ∧ ResMono s s')
    (fun s' m hs => ⟨hs.1.micro Rules.current_sane m, hs.2.trans (ResMono.micro hs.1 m)⟩) s c ⟨h, ResMono.refl s⟩
  exact ⟨this.2, this.1⟩

/-- **Completion reports are truthful**: every completed target in a ProcessResults event in flight
carries exactly the result that target has on the reporting worker (and, by `results_stable`, will
always have).  The later links of the answer chain copy it verbatim (`mergeAnswer` / flatten /
`applyResults`; `await_answer_complete_partial`). -/
theorem reports_truthful (n : Nat) (prog : Prog) (req : Nat) (hn : 0 < n) (hwf : ProgWF prog) (cs : List Choice)
    (w : Wid) (a : Pid) (rs : Results) (hm : Evt.procResults a rs ∈ (reach n prog req cs).evtQ w)
    (t : Pid) (r : Res) (htr : (t, some r) ∈ rs) : ((reach n prog req cs).wk w).resultOf t = some r := by
  have hinv : PreStart (reach n prog req cs) ∨ EInv (reach n prog req cs) :=
    invariant_of_steps Rules.current EInv (fun _ h => EInv.of_started h) (fun _ _ h hs => h.step hs) n prog req hn hwf cs
  rcases hinv with h | h
  · rw [h.evtQ w] at hm; simp at hm
  · exact h.evt w a rs hm t r htr

/-! ### spawn replies -/

/-- **Every spawn reply re-queues its caller**: each NotifySpawn applied so far found its caller
parked in `spawning` (flag `true` in the ghost history), so — with `notify_spawn_requeues_iff_parked`
and `spawn_reply` — every spawner is resumed exactly once per spawn, with the new pid. -/
theorem spawner_always_requeued (n : Nat) (prog : Prog) (req : Nat) (hn : 0 < n) (hwf : ProgWF prog) (cs : List Choice) :
    ∀ x ∈ (reach n prog req cs).spawnNotified, x.2.2 = true := by
  have hinv : PreStart (reach n prog req cs) ∨ NInv (reach n prog req cs) :=
    invariant_of_steps Rules.current NInv (fun _ h => NInv.of_started h) (fun _ _ h hs => h.step hs) n prog req hn hwf cs
  rcases hinv with h | h
  · intro x hx; rw [h.spawnNotified] at hx; simp at hx
  · exact h.all

/-- `notify_spawn` re-queues the caller iff it was parked in `spawning` (and always hands it the
pid): the handler on an arbitrary state. -/
theorem notify_spawn_requeues_iff_parked (s : Sys) (i : Wid) (caller newPid : Pid) (x : Proc)
    (hx : (s.wk i).procs caller = some x) :
    let s' := handleCmd s i (.notifySpawn caller newPid)
    ((s'.wk i).queue = if caller ∈ (s.wk i).spawning then (s.wk i).queue ++ [caller] else (s.wk i).queue) ∧
    caller ∉ (s'.wk i).spawning ∧
    (s'.wk i).procs caller = some { x with regs := x.regs ++ [newPid], pc := x.pc + 1, spawnIssued := false } := by
  by_cases hsp : caller ∈ (s.wk i).spawning
  · simp [handleCmd, handleCmdWith, hx, hsp, mem_serase]
  · simp [handleCmd, handleCmdWith, hx, hsp, mem_serase]

end

/-! ### concrete witnesses: the hypotheses are satisfiable by non-trivial reachable states (configuration: the
default, all variants off: /repo before 5cb2956, b0190c3, 4dd92c6) -/

/-- main spawns a child that sends it one message -/
def exProg : Prog := [[.spawn 1 [0], .select [.recv .any]], [.send 1 1 0]]
def exCs : List Choice := [.worker 0 100 5 [] [], .env [100, 100], .worker 1 100 5 [] [], .env [100, 100]]

theorem exProg_wf : ProgWF exProg := by
  refine ⟨by decide, ?_⟩
  intro sc hsc fn pass h
  simp [exProg] at hsc
  rcases hsc with rfl | rfl <;> simp at h
  obtain ⟨rfl, _⟩ := h; decide

/-- a reachable state with a message in flight in the receiver's command queue, behind the spawn
reply of the same caller -/
example : sel 1 0 (reach 2 exProg 1 exCs).sent = [{ src := 1, tag := 1, seq := 0 }]
    ∧ selC 1 0 ((reach 2 exProg 1 exCs).cmdQ 0) = [{ src := 1, tag := 1, seq := 0 }]
    ∧ sel 1 0 (reach 2 exProg 1 exCs).appended = []
    ∧ notifyC 0 ((reach 2 exProg 1 exCs).cmdQ 0) = [1]
    ∧ spawnedOf 0 (reach 2 exProg 1 exCs).spawned = [1] := by decide

/-- … and after worker 0's next step the message is in the mailbox history and the spawner has its pid -/
example : sel 1 0 (reach 2 exProg 1 (exCs ++ [.worker 0 100 5 [] []])).appended = [{ src := 1, tag := 1, seq := 0 }]
    ∧ notifiedOf 0 (reach 2 exProg 1 (exCs ++ [.worker 0 100 5 [] []])).spawnNotified = [1] := by decide

/-- a reachable state with a process parked in a select, nothing ready locally, and the message
that will wake it in flight in its worker's command queue -/
example :
    let s := reach 2 exProg 1 [.worker 0 100 5 [] [], .env [100, 100], .worker 0 100 5 [] [], .worker 1 100 5 [] [], .env [100, 100]]
    0 ∈ (s.wk 0).selecting ∧ ((s.wk 0).procs 0).map (·.mailbox) = some [] ∧
    Cmd.deliver 0 { src := 1, tag := 1, seq := 0 } ∈ s.cmdQ 0 := by decide

/-! ### the variants differ: one run under each setting -/

/-- variant `exitReports` (notes/C14-fixes/01): the worker of the child reports its termination
(`Evt.exited 1`) in the worker step in which it finishes, after what that step had already emitted;
without the variant nothing is reported.  Every theorem of this file (outside this section of
concrete witnesses) is stated for an arbitrary configuration `[Cfg]`, i.e. holds for both. -/
example :
    (@reach { exitReports := true } 2 exProg 1 [.worker 0 100 5 [] [], .env [100, 100], .worker 1 100 5 [] [], .worker 1 100 5 [] []]).evtQ 1 =
      [.deliver 0 { src := 1, tag := 1, seq := 0 }, .exited 1] ∧
    (@reach { exitReports := false } 2 exProg 1 [.worker 0 100 5 [] [], .env [100, 100], .worker 1 100 5 [] [], .worker 1 100 5 [] []]).evtQ 1 =
      [.deliver 0 { src := 1, tag := 1, seq := 0 }] := by decide

/-- main: `c = @{}, 7 c, ! [50]` — the child finishes at once, the message reaches it afterwards -/
def deadProg : Prog := [[.spawn 1 [], .send 1 7 0, .select [.timeout 50]], []]

def deadCs : List Choice :=
  [.worker 0 100 5 [] [], .env [100, 100], .worker 0 100 5 [] [], .worker 1 100 5 [] [], .env [100, 100],
   .worker 0 100 5 [] [], .worker 1 100 5 [] [], .env [100, 100], .worker 0 100 5 [] [], .worker 1 100 5 [] [],
   .env [100, 100], .worker 1 100 5 [] [], .worker 0 100 5 [] []]

/-- variant `releaseDead` (notes/C06-fixes/01): a message that reaches a process which has already
finished (and is not persistent) is handled — counted in `appended` — but not stored: the mailbox
stays empty and the message is listed in `deadDropped`.  Without the variant the same run puts
it into the dead process's mailbox, where nobody reads it. -/
example :
    (let s := @reach { releaseDead := true } 2 deadProg 1 deadCs
     (s.sent.length, s.appended.length, s.deadDropped.length, ((s.wk 1).procs 1).map (·.mailbox.length),
       ((s.wk 1).procs 1).map (·.result.isSome))) = (1, 1, 1, some 0, some true) ∧
    (let s := @reach { releaseDead := false } 2 deadProg 1 deadCs
     (s.sent.length, s.appended.length, s.deadDropped.length, ((s.wk 1).procs 1).map (·.mailbox.length),
       ((s.wk 1).procs 1).map (·.result.isSome))) = (1, 1, 0, some 1, some true) := by decide

/-! ### the theorems depend on the repairs (witnesses of the earlier rules) -/

/-- main: `c1 = @{ ! [50] }, c2 = @{ [2,0] me }, ! [c1, #recv], c3 = @{}, ! [c3]` -/
def staleProg : Prog :=
  [[.spawn 1 [], .spawn 2 [0], .select [.proc 1, .recv .any], .spawn 3 [], .select [.proc 3]],
   [.select [.timeout 50]], [.send 1 2 0], []]

def staleCs : List Choice :=
  [.worker 0 100 5 [] [], .env [100, 100], .worker 0 100 5 [] [], .env [100, 100], .worker 0 100 5 [] [],
   .worker 0 100 5 [] [], .env [100, 100], .worker 0 100 5 [] [], .worker 0 100 5 [] [], .worker 1 100 5 [] [],
   .env [0, 100], .worker 0 100 5 [] []]

/-- F16 (repaired by c08a680).  With `mark_active` on an empty await answer, a process parked in
`spawning` is re-queued by the late answer of a select that already completed through a message; its
`Spawn` runs a second time and it fails — although no script contains `fail`.  With the current rule
(`wake_selecting`) the same schedule leaves it parked, waiting for its spawn reply. -/
theorem stale_answer_wakes_spawner :
    (((runWith Rules.markActiveOnEmpty (Sys.init 2 staleProg 1) staleCs).wk 0).procs 0).map (·.result) = some (some .err)
    ∧ (((run (Sys.init 2 staleProg 1) staleCs).wk 0).procs 0).map (·.result) = some none
    ∧ 0 ∈ ((run (Sys.init 2 staleProg 1) staleCs).wk 0).spawning := by decide

/-- awaiter 0 awaits `[1, 3, 2]`; 1 and 3 live on worker 1, 2 on worker 0 -/
def lostProg : Prog :=
  [[.spawn 1 [], .spawn 2 [], .spawn 3 [], .select [.proc 1, .proc 3, .proc 2]], [], [.select [.recv .any]],
   [.select [.timeout 5]]]

def lostCs : List Choice :=
  [.worker 0 100 9 [] [], .env [100, 100], .worker 0 100 9 [] [], .env [100, 100], .worker 0 100 9 [] [],
   .worker 0 100 9 [] [], .worker 1 100 9 [] [], .env [100, 100], .worker 1 100 9 [] [], .worker 0 100 9 [] [],
   .env [100, 100], .worker 1 100 9 [] [], .tick 10, .worker 1 100 9 [] [], .env [0, 100], .worker 0 100 9 [] [],
   .env [100, 100], .worker 0 100 9 [] []]

/-- F8 (repaired by b8eb814), the 3-target / 2-worker schedule.  With `responses.insert` (replace),
worker 1's later completion report for 3 replaces its pending answer `{1: done, 3: pending}` while
worker 0 has not answered yet: process 1's result is reported but never reaches the awaiter, whose
select yields the result of 3 although 1 has priority.  With merged answers (the code now) the same
schedule delivers both and the select yields the result of 1. -/
theorem replace_loses_await_answer :
    let bad := runWith Rules.replaceAnswers (Sys.init 2 lostProg 1) lostCs
    let good := run (Sys.init 2 lostProg 1) lostCs
    (bad.reported = [(0, 1), (0, 3)] ∧ bad.learned = [(0, 3)]
      ∧ ((bad.wk 0).procs 0).map (·.result) = some (some (.ok [-1, 0, -1, 3, -1, -2, -2, -2]))
      ∧ (∀ w, w < 2 → bad.cmdQ w = [] ∧ (bad.evtQ w).all (fun e => match e with | .resultResp _ _ => true | _ => false)))
    ∧ (good.reported = [(0, 1), (0, 3)] ∧ good.learned = [(0, 3), (0, 1)]
      ∧ ((good.wk 0).procs 0).map (·.result) = some (some (.ok [-1, 0, -1, 1, -2, -2]))) := by decide

/-- main: `c1 = @{ !recv, fail }, c2 = @{ [2,0] me }, c3 = @{ !recv }, c4 = @{ !recv }, ! [c1, #recv],
[0,0] c1, ! [c3, c4, 20]` -/
def staleFailProg : Prog :=
  [[.spawn 1 [], .spawn 2 [0], .spawn 3 [], .spawn 4 [], .select [.proc 1, .recv .any], .send 1 0 0,
    .select [.proc 3, .proc 4, .timeout 20]],
   [.select [.recv .any], .fail], [.send 1 2 0], [.select [.recv .any]], [.select [.recv .any]]]

def staleFailCs : List Choice :=
  let W0 := Choice.worker 0 100 9 [] []
  let W1 := Choice.worker 1 100 9 [] []
  let E := Choice.env [100, 100]
  let E1 := Choice.env [0, 100]
  [W0, E, W0, E, W0, E, W0, E, W0, W0, W0, E, W1, W0, E, W0, W0, W0, E, W1, E1, W0, E, W0,
   E, W1, E1, W0, E, W0, .tick 30, W0, W0]

/-- F17 (repaired by 755cedc).  With the earlier rule (`update_await_results` wakes the awaiter only
if the answer carries no result at all) the initial answer of `! [c3, c4, 20]`, merged with the
stale failure report of `c1`, wakes nobody: the select is never evaluated (`selStart = none`), its
timeout never starts, and the system is idle — a lost wake-up.  With the current rule the same
schedule evaluates the select, the timeout fires and the process finishes with `[0, [2,0], []]`. -/
theorem stale_failure_suppresses_wakeup :
    let bad := runWith Rules.wakeOnlyOnEmptyAnswer (Sys.init 2 staleFailProg 1) staleFailCs
    let good := run (Sys.init 2 staleFailProg 1) staleFailCs
    (0 ∈ (bad.wk 0).selecting ∧ ((bad.wk 0).procs 0).map (·.selStart) = some none
      ∧ (∀ w, w < 2 → bad.cmdQ w = [] ∧ bad.evtQ w = [] ∧ (bad.wk w).queue = [])
      ∧ (∀ w, w < 2 → (bad.wk w).hasTimeout bad.prog = false))
    ∧ ((good.wk 0).procs 0).map (·.result) = some (some (.ok [-1, 0, -1, 2, 0, -2, -1, -2, -2])) := by
  decide +kernel

section
variable [Cfg]

/-! ### await answers end to end -/

/-- The faithful-answer invariant (`TInv`) after every choice sequence. -/
theorem stored_invariant (n : Nat) (prog : Prog) (req : Nat) (hn : 0 < n) (hwf : ProgWF prog) (cs : List Choice) :
    PreStart (reach n prog req cs) ∨ TInv (reach n prog req cs) :=
  invariant_of_steps Rules.current TInv (fun _ h => TInv.of_started h) (fun _ _ h hs => h.step hs) n prog req hn hwf cs

/-- **Await answers are faithful end to end**: a result stored in an awaiter's `awaiting` map —
whether it came through the local notification of `Executor::step`, or through
ProcessResults → the environment's pending answers (merged) → UpdateAwaitResults — is the result
the awaited process really has, on whichever worker it lives; so is every result still travelling
in a pending answer or an UpdateAwaitResults command. -/
theorem stored_results_faithful (n : Nat) (prog : Prog) (req : Nat) (hn : 0 < n) (hwf : ProgWF prog) (cs : List Choice) :
    (∀ w a x t v, ((reach n prog req cs).wk w).procs a = some x → (t, some v) ∈ x.awaiting →
      ∃ w', ((reach n prog req cs).wk w').resultOf t = some (.ok v)) ∧
    (∀ w a rs t r, Cmd.updateAwait a rs ∈ (reach n prog req cs).cmdQ w → (t, some r) ∈ rs →
      ∃ w', ((reach n prog req cs).wk w').resultOf t = some r) ∧
    (∀ a pa w rs t r, (reach n prog req cs).env.pending a = some pa → (w, rs) ∈ pa.responses → (t, some r) ∈ rs →
      ∃ w', ((reach n prog req cs).wk w').resultOf t = some r) := by
  rcases stored_invariant n prog req hn hwf cs with h | h
  · refine ⟨?_, ?_, ?_⟩
    · intro w a x t v hx hm
      rw [h.wk] at hx
      by_cases e : w = 0
      · subst e
        simp only [upd_same, W0init, WorkerSt.setProc, WorkerSt.empty, upd_apply] at hx
        split at hx
        · simp only [Option.some.injEq] at hx; subst hx; simp [Proc.sleeping, Proc.fresh] at hm
        · cases hx
      · simp [e, WorkerSt.empty] at hx
    · intro w a rs t r hm
      by_cases ew : w = 0
      · subst ew; obtain ⟨k, req', hq⟩ := h.cmd0; rw [hq] at hm; simp at hm
      · have := h.cmdOther w ew _ hm; cases this
    · intro a pa w rs t r hp; rw [h.pending] at hp; cases hp
  · exact ⟨fun w a x t v hx hm => h.core.stored w a x t v hx hm,
           fun w a rs t r hm ht => h.core.updc w a rs t r hm ht,
           fun a pa w rs t r hp hm ht => h.core.pend a pa w rs t r hp hm ht⟩

/-! ### messages to a process that can no longer receive (variant `releaseDead`) -/

/-- The invariant about dropped messages (`XInv`) after every choice sequence. -/
theorem dead_drop_invariant (n : Nat) (prog : Prog) (req : Nat) (hn : 0 < n) (hwf : ProgWF prog) (cs : List Choice) :
    PreStart (reach n prog req cs) ∨ XInv (reach n prog req cs) :=
  invariant_of_steps Rules.current XInv (fun _ h => XInv.of_started h) (fun _ _ h hs => h.step hs) n prog req hn hwf cs

/-- With the variant `releaseDead` off (/repo before 4dd92c6) `notify_message` stores every message it handles for a
known process: nothing is recorded as dropped. -/
theorem nothing_dropped_without_variant (n : Nat) (prog : Prog) (req : Nat) (hn : 0 < n) (hwf : ProgWF prog)
    (cs : List Choice) (hoff : Cfg.releaseDead = false) : (reach n prog req cs).deadDropped = [] := by
  rcases dead_drop_invariant n prog req hn hwf cs with h | h
  · exact h.deadDropped
  · exact h.off hoff

/-- With the variant on, a message that was handled but not stored (`deadDropped`) is one of the
handled ones (so conservation, exactly-once and FIFO above still count it), and its receiver HAS a
result on its worker: it had terminated before the message reached it.  C04 speaks of messages sent
to a LIVE process; these are the others. -/
theorem dropped_only_for_finished_receiver (n : Nat) (prog : Prog) (req : Nat) (hn : 0 < n) (hwf : ProgWF prog)
    (cs : List Choice) (t : Pid) (m : Msg) (hm : (t, m) ∈ (reach n prog req cs).deadDropped) :
    (t, m) ∈ (reach n prog req cs).appended ∧ ∃ w r, ((reach n prog req cs).wk w).resultOf t = some r := by
  rcases dead_drop_invariant n prog req hn hwf cs with h | h
  · rw [h.deadDropped] at hm; cases hm
  · obtain ⟨r, w, hw⟩ := h.fin (t, m) hm
    exact ⟨h.sub (t, m) hm, w, r, hw⟩

/-- **A live process loses nothing**, whatever the configuration: for a process that has no result
yet, no message addressed to it was ever dropped: none of the messages `notify_message` handled for it
(`appended`, which by `delivery_conservation` is exactly what was sent to it and has arrived, in
per-sender order) is in `deadDropped`, the list of those that were not put into the mailbox. -/
theorem live_receiver_loses_nothing (n : Nat) (prog : Prog) (req : Nat) (hn : 0 < n) (hwf : ProgWF prog)
    (cs : List Choice) (w : Wid) (b : Pid) (x : Proc) (hx : ((reach n prog req cs).wk w).procs b = some x)
    (hr : x.result = none) (m : Msg) : (b, m) ∉ (reach n prog req cs).deadDropped := by
  rcases dead_drop_invariant n prog req hn hwf cs with h | h
  · rw [h.deadDropped]; intro hm; cases hm
  · exact h.live_lost_nothing hx hr m

/-! ### no process is forgotten by the scheduler -/

/-- **No process in limbo**: in every reachable state — any worker count, any choices, the start-up
phase included — a process that has no result is in `queue`, `spawning` or `selecting` of its
executor: nothing is ever dropped from the scheduler's sets while it still has work to do. -/
theorem no_process_in_limbo (n : Nat) (prog : Prog) (req : Nat) (cs : List Choice) (w : Wid) (p : Pid) (x : Proc)
    (hx : ((reach n prog req cs).wk w).procs p = some x) (hr : x.result = none) :
    p ∈ ((reach n prog req cs).wk w).queue ∨ p ∈ ((reach n prog req cs).wk w).spawning ∨
    p ∈ ((reach n prog req cs).wk w).selecting :=
  no_limbo n prog req cs w p x hx hr

/-- **What an idle system looks like**: every unfinished process is parked in `selecting`, in a
select none of whose sources is locally ready (no matching message in its mailbox, no stored
answer, no failed target; timeouts are not counted: the hypothesis is `idle`, which does not look at
the clock). With `no_lost_wakeup`: an idle system is stuck only on selects that have nothing to take
but a timeout. -/
theorem idle_unfinished_parked (n : Nat) (prog : Prog) (req : Nat) (hn : 0 < n) (hwf : ProgWF prog) (cs : List Choice)
    (hidle : (reach n prog req cs).idle) (w : Wid) (hw : w < (reach n prog req cs).n) (p : Pid) (x : Proc)
    (hx : ((reach n prog req cs).wk w).procs p = some x) (hr : x.result = none) :
    p ∈ ((reach n prog req cs).wk w).selecting ∧ ¬ LocalReady (reach n prog req cs).prog x := by
  have hsel : p ∈ ((reach n prog req cs).wk w).selecting := by
    rcases no_process_in_limbo n prog req cs w p x hx hr with h | h | h
    · rw [(hidle w hw).2.2] at h; cases h
    · rw [quiescent_no_spawner_waiting n prog req hn hwf cs hidle w hw] at h; cases h
    · exact h
  exact ⟨hsel, quiescent_no_blocked_ready n prog req hn hwf cs hidle w p x hsel hx⟩

end

end C04
