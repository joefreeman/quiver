import QuiverModel.Lemmas.Types.RecSound
import QuiverModel.Lemmas.Types.SubTrans
import QuiverModel.Lemmas.Types.Diff
/-
C09 — Assignability implies containment; overlap detection is complete; narrowing never drops a
value that can occur.

Model: `QM.Types.checkRel` (= `check_type_relation` of /repo/quiver-core/src/types.rs at the commit under /repo),
`isCompatible` (mode ALL), `typesOverlap` (mode ANY), `intersect` / `complement` / `unionIds`
(narrowing.rs / typing.rs); meaning of types: `QM.Types.inh` (Core/Types/Inh.lean).

Part 1 (up to the next heading): reflexivity, and kernel-checked regression witnesses — for every repaired
defect of the relation, (a) the historical variant of the model accepts/rejects the pair the way the
old code did, (b) a concrete value shows that this verdict was wrong, (c) the current model gives
the right verdict. The same tables are in /verif/corpus/C09 and are replayed on the real
`quiver_core::types::{is_compatible, types_overlap}` by every run of the harness.
-/
namespace C09
open QM.Types

/-- `is_compatible(a, a)` is `true` for every table and every id (fast path), with any fuel ≥ 1. -/
theorem compat_refl (T : Table) (a fuel : Nat) : isCompatible T (fuel + 1) a a = some true := by
  simp [isCompatible, checkRel, checkRelV, sameContext]

/-- likewise every id overlaps itself — including `never`, which is what the code does
(`self_id == pattern_id` is tested before the empty-union arm). -/
theorem overlap_refl (T : Table) (a fuel : Nat) : typesOverlap T (fuel + 1) a a = some true := by
  simp [typesOverlap, checkRel, checkRelV, sameContext]

example : isCompatible ⟨[.integer], []⟩ 1 0 0 = some true := compat_refl _ _ _

/-! ### Regression witnesses (names: 1 = Ok, others as commented) -/

/-- verdict of a historical variant in mode ALL -/
def compatV (vr : Variant) (T : Table) (fuel a b : Nat) : Option Bool :=
  (checkRelV vr T .all fuel [] {} a b).map (·.1)

/-- verdict of a historical variant in mode ANY -/
def overlapV (vr : Variant) (T : Table) (fuel a b : Nat) : Option Bool :=
  (checkRelV vr T .any fuel [] {} a b).map (·.1)

/-- F9: 0 = int, 1 = `(x: int)`, 2 = `P(x: int)`   (x = 2, P = 3, Q = 9) -/
def tF9 : Table :=
  ⟨[.integer, .part none [(2, 0)], .part (some 3) [(2, 0)]], [⟨none, []⟩, ⟨some 1, []⟩]⟩

/-- `Q[x: 1]` -/
def vF9 : V := .tup (some 9) (.cons (some 2) (.int 1) .nil)

theorem F9_old_rule_accepts : compatV { nameRuleBothOnly := true } tF9 8 1 2 = some true := by decide +kernel
theorem F9_value_only_left : inhB tF9 8 [] 1 vF9 = true ∧ inhB tF9 8 [] 2 vF9 = false := by decide +kernel
theorem F9_repaired : isCompatible tF9 8 1 2 = some false := by decide +kernel
theorem F9_converse_kept : isCompatible tF9 8 2 1 = some true := by decide +kernel

/-- F12: 0 int, 1 bin, 2 `int|bin`, 3 `T2[int|bin, bin]`, 4 `T2[int,int]`, 5 `T2[int,bin]`,
6 `T2[int,int] | T2[int,bin]`, 7 the same union in the other order   (T2 = 2) -/
def tF12 : Table :=
  ⟨[.integer, .binary, .union [0, 1], .tuple 2, .tuple 3, .tuple 4, .union [4, 5], .union [5, 4]],
   [⟨none, []⟩, ⟨some 1, []⟩, ⟨some 2, [(none, 2), (none, 1)]⟩, ⟨some 2, [(none, 0), (none, 0)]⟩,
    ⟨some 2, [(none, 0), (none, 1)]⟩]⟩

/-- `T2[0x00, 0x00]` -/
def vF12 : V := .tup (some 2) (.cons none (.bin [0]) (.cons none (.bin [0]) .nil))

theorem F12_old_rule_accepts :
    compatV { keepFailedAssumptions := true } tF12 12 3 6 = some true := by decide +kernel
/-- …and the old verdict depended on the order of the variants -/
theorem F12_old_rule_order_dependent :
    compatV { keepFailedAssumptions := true } tF12 12 3 7 = some false := by decide +kernel
theorem F12_value_only_left : inhB tF12 12 [] 3 vF12 = true ∧ inhB tF12 12 [] 6 vF12 = false := by
  decide +kernel
theorem F12_repaired : isCompatible tF12 12 3 6 = some false ∧ isCompatible tF12 12 3 7 = some false := by
  decide +kernel

/-- f506776: 0 int, 1 `(x: int)`, 2 `B(x: int)`, 3 `Ok(x: int)`   (x = 2, B = 3) -/
def tF14 : Table :=
  ⟨[.integer, .part none [(2, 0)], .part (some 3) [(2, 0)], .part (some 1) [(2, 0)]],
   [⟨none, []⟩, ⟨some 1, []⟩]⟩

/-- `B[x: 1]` -/
def vF14 : V := .tup (some 3) (.cons (some 2) (.int 1) .nil)

theorem F14_old_rule_rejects : overlapV { nameRuleAllInAny := true } tF14 8 1 2 = some false := by decide +kernel
theorem F14_common_value : inhB tF14 8 [] 1 vF14 = true ∧ inhB tF14 8 [] 2 vF14 = true := by decide +kernel
theorem F14_repaired : typesOverlap tF14 8 1 2 = some true ∧ typesOverlap tF14 8 2 1 = some true := by
  decide +kernel
theorem F14_two_names_still_disjoint : typesOverlap tF14 8 2 3 = some false := by decide +kernel

/-- 5646380: 0 int, 1 bin, 2 `(x: int)`, 3 `(y: int)`, 4 `(x: bin)`   (x = 2, y = 3) -/
def tF15 : Table :=
  ⟨[.integer, .binary, .part none [(2, 0)], .part none [(3, 0)], .part none [(2, 1)]],
   [⟨none, []⟩, ⟨some 1, []⟩]⟩

/-- `[x: 1, y: 2]` -/
def vF15 : V := .tup none (.cons (some 2) (.int 1) (.cons (some 3) (.int 2) .nil))

theorem F15_old_rule_rejects : overlapV { partFieldsAnyStrict := true } tF15 8 2 3 = some false := by
  decide +kernel
theorem F15_common_value : inhB tF15 8 [] 2 vF15 = true ∧ inhB tF15 8 [] 3 vF15 = true := by decide +kernel
theorem F15_repaired : typesOverlap tF15 8 2 3 = some true ∧ typesOverlap tF15 8 3 2 = some true := by
  decide +kernel
theorem F15_same_field_disjoint_types : typesOverlap tF15 8 2 4 = some false := by decide +kernel
/-- the intersection `(x: int) & (y: int)` of the spec's `'rw` example is not `never`: with
5646380 it was the left operand (the fallback of `intersect_pair`), since 02d463a it is `(x: int, y: int)` -/
theorem F15_intersection_not_never :
    (intersect { partialIntersectKeepsLeft := true } 16 8 tF15 2 3).map (·.2) = some 2 ∧
      ∃ T' r, intersect Variant.current 16 8 tF15 2 3 = some (T', r) ∧
        T'.types[r]? = some (.part none [(2, 0), (3, 0)]) := by
  refine ⟨by decide +kernel, _, _, rfl, ?_⟩
  decide +kernel

/-- f3628e7: 0 int, 1 bin, 2 `A(x: int)`, 3 `A[x: int]`, 4 `B[x: int]`, 5 `A[x: bin]`
(A = 2, x = 3, B = 4) -/
def tF16 : Table :=
  ⟨[.integer, .binary, .part (some 2) [(3, 0)], .tuple 2, .tuple 3, .tuple 4],
   [⟨none, []⟩, ⟨some 1, []⟩, ⟨some 2, [(some 3, 0)]⟩, ⟨some 4, [(some 3, 0)]⟩, ⟨some 2, [(some 3, 1)]⟩]⟩

/-- `A[x: 1]` -/
def vF16 : V := .tup (some 2) (.cons (some 3) (.int 1) .nil)

theorem F16_old_rule_rejects : overlapV { noPartTupleArm := true } tF16 8 2 3 = some false := by decide +kernel
theorem F16_common_value : inhB tF16 8 [] 2 vF16 = true ∧ inhB tF16 8 [] 3 vF16 = true := by decide +kernel
theorem F16_repaired : typesOverlap tF16 8 2 3 = some true := by decide +kernel
theorem F16_wrong_name_or_type_still_disjoint :
    typesOverlap tF16 8 2 4 = some false ∧ typesOverlap tF16 8 2 5 = some false := by decide +kernel
theorem F16_partial_never_assignable_to_tuple : isCompatible tF16 8 2 3 = some false := by decide +kernel

/-! ### Part 2: assignability implies containment (first-order cycle-free types)

Hypothesis, decidable and checked by the harness on every generated table: `FO T t` — only int / bin /
ref / resource / tuple / partial / union nodes are reachable from `t` in finitely many steps (no
`Cycle`, `Variable`, callable, process). No hypothesis on the table (no ordering needed: the proof
measures a pair by the first-order ranks of its ids), no bound on its size, on the depth of the
types or on the fuel. -/

/-- fuel never matters for a verdict that was given -/
theorem compat_fuel_irrelevant (T : Table) {n m : Nat} (hnm : n ≤ m) (a b : Nat) {r : Bool}
    (h : isCompatible T n a b = some r) : isCompatible T m a b = some r :=
  isCompatible_mono T hnm a b h

theorem overlap_fuel_irrelevant (T : Table) {n m : Nat} (hnm : n ≤ m) (a b : Nat) {r : Bool}
    (h : typesOverlap T n a b = some r) : typesOverlap T m a b = some r :=
  typesOverlap_mono T hnm a b h

/-- inhabitation is monotone in its fuel (so `inh` = "`inhB` says yes with enough fuel") -/
theorem inhB_fuel_mono (T : Table) {n m : Nat} (hnm : n ≤ m) (st : List Nat) (t : Nat) (v : V)
    (h : inhB T n st t v = true) : inhB T m st t v = true :=
  inhB_mono T hnm st t v h

/-- **Soundness of assignability.** If `is_compatible(a, b)` answers `true` (with any fuel) for
first-order cycle-free types — of ANY table, ordered or not: the measure of the proof is the
first-order rank (`rk`) — every value of `a` is a value of `b`. -/
theorem compat_sound_fo (T : Table) (a b fuel : Nat) (ha : FO T a) (hb : FO T b)
    (h : isCompatible T fuel a b = some true) : ∀ v, inh T [] a v → inh T [] b v :=
  isCompatible_valid_fo ha hb h [] []

/-- the same from an arbitrary set of already-valid assumptions and any stack (the form in which
the relation is used below a union during narrowing) -/
theorem checkRel_sound_fo (T : Table) (fuel : Nat) (asm : Asm) (st : Stk)
    (a b : Nat) (ha : FO T a) (hb : FO T b) (hasm : ∀ p ∈ asm, Valid T p.1 p.2.1) (asm' : Asm)
    (h : checkRel T .all fuel asm st a b = some (true, asm')) :
    (∀ v, inh T [] a v → inh T [] b v) ∧ ∀ p ∈ asm', Valid T p.1 p.2.1 :=
  ⟨(checkRel_valid_fo ha hb hasm h).1 [] [], (checkRel_valid_fo ha hb hasm h).2⟩

/-- the hypotheses are satisfiable by a non-trivial pair: `T2[int, bin] ≤ T2[int,int] | T2[int,bin]` -/
example : FO tF12 5 ∧ FO tF12 6 ∧ isCompatible tF12 12 5 6 = some true := by
  refine ⟨⟨4, by decide +kernel⟩, ⟨4, by decide +kernel⟩, by decide +kernel⟩

/-- …and the theorem then gives containment for every value, e.g. `T2[7, 0x00]` -/
example : inh tF12 [] 6 (.tup (some 2) (.cons none (.int 7) (.cons none (.bin [0]) .nil))) :=
  compat_sound_fo tF12 5 6 12 ⟨4, by decide +kernel⟩ ⟨4, by decide +kernel⟩ (by decide +kernel) _ ⟨8, by decide +kernel⟩

/-- chains of accepted assignments are sound (semantic transitivity of what the checker accepts) -/
theorem compat_chain_sound_fo (T : Table) (a b c f1 f2 : Nat) (ha : FO T a)
    (hb : FO T b) (hc : FO T c) (h1 : isCompatible T f1 a b = some true)
    (h2 : isCompatible T f2 b c = some true) : ∀ v, inh T [] a v → inh T [] c v :=
  fun v hv => compat_sound_fo T b c f2 hb hc h2 v (compat_sound_fo T a b f1 ha hb h1 v hv)

/-! ### Part 3: overlap detection is complete (first-order cycle-free types)

Values are well-labelled (`V.wf`: no tuple carries a label twice — the only values the language can
build). No ordering hypothesis is needed here, and nothing about the assumption set: looking an
assumption up can only answer `true`. -/

/-- **Completeness of overlap.** If two first-order cycle-free types share a well-labelled value,
`types_overlap` does not answer `false` (so a reachable branch is never pruned as dead). -/
theorem overlap_complete_fo (T : Table) (a b fuel : Nat) (ha : FO T a) (hb : FO T b)
    (hv : ∃ v, v.wf = true ∧ inh T [] a v ∧ inh T [] b v) : typesOverlap T fuel a b ≠ some false := by
  intro h
  obtain ⟨asm', hc⟩ := typesOverlap_eq_some.mp h
  obtain ⟨v, hwf, hav, hbv⟩ := hv
  exact checkRel_any_bad fuel [] {} a b asm' hc ha hb [] [] v hwf ⟨hav, hbv⟩

/-- with enough fuel to get an answer at all, the answer is `true` -/
theorem overlap_complete_fo' (T : Table) (a b fuel : Nat) (ha : FO T a) (hb : FO T b)
    (hv : ∃ v, v.wf = true ∧ inh T [] a v ∧ inh T [] b v) (r : Bool)
    (h : typesOverlap T fuel a b = some r) : r = true := by
  cases r with
  | true => rfl
  | false => exact absurd h (overlap_complete_fo T a b fuel ha hb hv)

/-- hypotheses satisfiable by a non-trivial pair: `(x: int)` and `(y: int)` share `[x: 1, y: 2]` -/
example : FO tF15 2 ∧ FO tF15 3 ∧ vF15.wf = true ∧ inh tF15 [] 2 vF15 ∧ inh tF15 [] 3 vF15 :=
  ⟨⟨3, by decide +kernel⟩, ⟨3, by decide +kernel⟩, by decide +kernel, ⟨4, by decide +kernel⟩, ⟨4, by decide +kernel⟩⟩

/-- the well-labelled hypothesis is needed: `(x: int)` and `(x: bin)` are judged disjoint, and only
the ill-labelled `[x: 1, x: 0x00]` (which the language cannot build) is in both -/
theorem overlap_needs_well_labelled :
    typesOverlap tF15 8 2 4 = some false ∧
      inhB tF15 8 [] 2 (.tup none (.cons (some 2) (.int 1) (.cons (some 2) (.bin [0]) .nil))) = true ∧
      inhB tF15 8 [] 4 (.tup none (.cons (some 2) (.int 1) (.cons (some 2) (.bin [0]) .nil))) = true ∧
      (V.tup none (.cons (some 2) (.int 1) (.cons (some 2) (.bin [0]) .nil))).wf = false := by
  decide +kernel

/-! ### Part 4: recursive first-order types; the verdict does not depend on the checker's state; transitivity -/

/-- the full soundness statement of C09 over closed contractive types -/
def CompatSoundStatement : Prop :=
  ∀ (T : Table) (a b fuel : Nat), Ordered T → Closed T a → Closed T b →
    isCompatible T fuel a b = some true → ∀ v, inh T [] a v → inh T [] b v

/-- assignability is transitive (as a statement about the checker's verdicts) -/
def CompatTransStatement : Prop :=
  ∀ (T : Table) (a b c fuel : Nat), Ordered T → Closed T a → Closed T b → Closed T c →
    isCompatible T fuel a b = some true → isCompatible T fuel b c = some true →
    ∃ fuel', isCompatible T fuel' a c = some true

/-- **Soundness of assignability on RECURSIVE first-order types.** In an ordered table (no forward
references: what `register_*` builds), for types in which only int / bin / ref / resource / tuple /
partial / union / `Cycle` nodes are reachable (`RFO`) and a right-hand type that is closed and
contractive (`Closed`): if `is_compatible(a, b)` answers `true` — with any fuel — every value of `a` is a
value of `b`. (Nothing is asked of the left type beyond `RFO`: a dangling back-reference on the left
denotes the empty type.) This is `CompatSoundStatement` for every type without function / process
components; it holds of the code since fd75268, 4bee69d, ecfc5db and dc4f190. Part 6 has a table for the
rule each of them replaced: R1 and R1b (fd75268) and R6 (ecfc5db) with a value of the left type that the
right type lacks, R1 and R6 also as refutations of `CompatSoundStatementV` for the old rule; R5 (4bee69d)
and R7 (dc4f190), on function types, as verdicts only — the old rule accepts, the code as it is refuses.

Proof (`Lemmas/Types/RecDer*.lean`, `RecInv.lean`, `RecSound.lean`): (1) a successful run returns a set
of assumptions that is SUPPORTED — each is justified by one union step whose premises are derivable from
the set again (`run_supported`); (2) a supported set is sound, by induction on the fuel with which the
value inhabits the left type; the steps that only unfold the right type are handled by an inner
induction on the number of guard flags that are set, then the id (`phi_step`). Since ecfc5db the two
stacks of the checker are the stacks of `inhB` (sorted on an ordered table: `pushStack` = cons); since
dc4f190 an assumption is about the two types below the stacks it was made under, which is what makes
"supported" a property of the set alone. -/
theorem compat_sound_rec_fo (T : Table) (hT : Ordered T) (a b fuel : Nat) (ha : RFO T a) (hb : RFO T b)
    (hcb : Closed T b) (h : isCompatible T fuel a b = some true) :
    ∀ v, inh T [] a v → inh T [] b v := by
  obtain ⟨asm', hc⟩ := isCompatible_eq_some.mp h
  obtain ⟨hsupp, hder⟩ := run_supported T fuel a b ha hb asm' hc
  rintro v ⟨n, hn⟩
  exact phi_all hT (A := (· ∈ asm')) hsupp n a b {} [] [] trivial
    ⟨rfl, trivial, hcb, trivial⟩ hder v hn

/-- **On first-order types the verdict does not depend on the state of the checker**: whatever
assumptions (`Sub` pairs) and stacks a check starts from, `true` means the stateless syntactic relation
`Sub` (`Lemmas/Types/Sub.lean`: the arms of the checker without assumption set, stacks and equal-id
shortcuts), and on a `Sub` pair every check with fuel above the rank sum answers `true`. Partial types
must not name a field twice (`PartsDistinct`; with a repeated name such a type is not even assignable
to itself below different enclosing types, because the partial-vs-partial arm looks at the first field
of a name only). -/
theorem compat_stateless_fo (T : Table) (hd : PartsDistinct T) (a b : Nat) (ha : FO T a) (hb : FO T b) :
    (∀ fuel asm st asm', (∀ p ∈ asm, Sub T p.1 p.2.1) →
        checkRel T .all fuel asm st a b = some (true, asm') → Sub T a b) ∧
    (Sub T a b → ∀ fuel asm st, rk T a + rk T b < fuel →
        ∃ asm', checkRel T .all fuel asm st a b = some (true, asm')) :=
  ⟨fun fuel asm st asm' hasm h => checkRel_sub hd fuel asm st a b ha hb hasm asm' h,
   fun hsub fuel asm st hlt => (checkRel_comp T fuel asm st a b ha hb hlt).2 hsub⟩

/-- with fuel above the rank sum `is_compatible` always answers on first-order types -/
theorem compat_total_fo (T : Table) (a b fuel : Nat) (ha : FO T a) (hb : FO T b)
    (hlt : rk T a + rk T b < fuel) : ∃ r, isCompatible T fuel a b = some r := by
  obtain ⟨r, asm', h⟩ := (checkRel_comp T fuel [] {} a b ha hb hlt).1
  exact ⟨r, isCompatible_eq_some.mpr ⟨asm', h⟩⟩

theorem sub_of_compat_fo (T : Table) (hd : PartsDistinct T) (a b fuel : Nat) (ha : FO T a) (hb : FO T b)
    (h : isCompatible T fuel a b = some true) : Sub T a b := by
  obtain ⟨asm', hc⟩ := isCompatible_eq_some.mp h
  exact checkRel_sub hd fuel [] {} a b ha hb (fun _ hp => absurd hp List.not_mem_nil) asm' hc

theorem compat_of_sub_fo (T : Table) (a b fuel : Nat) (ha : FO T a) (hb : FO T b)
    (hlt : rk T a + rk T b < fuel) (h : Sub T a b) : isCompatible T fuel a b = some true :=
  isCompatible_eq_some.mpr ((checkRel_comp T fuel [] {} a b ha hb hlt).2 h)

/-- **Assignability is transitive** on first-order types (any table whose partial types do not repeat
a field name; any fuels): from `a ≤ b` and `b ≤ c` every check of `a ≤ c` with fuel above the rank sum
answers `true`. This is `CompatTransStatement` for the first-order fragment (with an explicit fuel). -/
theorem compat_trans_fo (T : Table) (hd : PartsDistinct T) (a b c f1 f2 fuel : Nat)
    (ha : FO T a) (hb : FO T b) (hc : FO T c)
    (hab : isCompatible T f1 a b = some true) (hbc : isCompatible T f2 b c = some true)
    (hlt : rk T a + rk T c < fuel) : isCompatible T fuel a c = some true :=
  compat_of_sub_fo T a c fuel ha hc hlt
    ((sub_of_compat_fo T hd a b f1 ha hb hab).trans (sub_of_compat_fo T hd b c f2 hb hc hbc))

/-- the statement in the form of `CompatTransStatement` -/
theorem compat_trans_fo' (T : Table) (hd : PartsDistinct T) (a b c fuel : Nat)
    (ha : FO T a) (hb : FO T b) (hc : FO T c)
    (hab : isCompatible T fuel a b = some true) (hbc : isCompatible T fuel b c = some true) :
    ∃ fuel', isCompatible T fuel' a c = some true :=
  ⟨_, compat_trans_fo T hd a b c fuel fuel (rk T a + rk T c + 1) ha hb hc hab hbc (by omega)⟩

/-- a verdict about a union is a verdict about each of its variants (first-order) -/
theorem compat_variant_fo (T : Table) (hd : PartsDistinct T) (s p v f fuel : Nat) (vs : List Nat)
    (hs : FO T s) (hp : FO T p) (hty : T.types[s]? = some (.union vs)) (hv : v ∈ vs)
    (h : isCompatible T f s p = some true) (hlt : rk T v + rk T p < fuel) :
    isCompatible T fuel v p = some true := by
  obtain ⟨tp, htp, _⟩ := hp.unfold
  have hsub := (Sub.union_left_iff hty htp).mp (sub_of_compat_fo T hd s p f hs hp h) v hv
  exact compat_of_sub_fo T v p fuel (hs.union hty v hv) hp hlt hsub

/-! ### Part 5: narrowing (`intersect_types`, `compute_complement`, `union_type_ids`) never drops a value

`F12_value_not_right` serves the example after `complement_extends`. -/

/-- **Intersection never drops a value** (`intersect_types`, first-order operands; any table, any
fuels): a well-labelled value of both operands is a value of the result, read in the table the
function returns; that table only extends the old one and the result is first-order again. The
fallback `types_overlap(a, b) ? a : never` is justified by `overlap_complete_fo`. -/
theorem intersect_keeps (vr : Variant) (T T' : Table) (rf fuel a b r : Nat) (ha : FO T a) (hb : FO T b)
    (h : intersect vr rf fuel T a b = some (T', r)) :
    ∀ v, v.wf = true → inh T [] a v → inh T [] b v → inh T' [] r v :=
  (intersect_ok vr rf fuel T a b ha hb T' r h).2.2

theorem intersect_extends (vr : Variant) (T T' : Table) (rf fuel a b r : Nat) (ha : FO T a) (hb : FO T b)
    (h : intersect vr rf fuel T a b = some (T', r)) : Table.Sub T T' ∧ FO T' r :=
  ⟨(intersect_ok vr rf fuel T a b ha hb T' r h).1, (intersect_ok vr rf fuel T a b ha hb T' r h).2.1⟩

/-- non-trivial instance: `(x: int) & (y: int)` (the spec's `'rw`) keeps `[x: 1, y: 2]` -/
example : ∃ T' r, intersect Variant.current 16 8 tF15 2 3 = some (T', r) ∧ inh T' [] r vF15 := by
  cases h : intersect Variant.current 16 8 tF15 2 3 with
  | none => exact absurd h (by decide +kernel)
  | some p =>
    exact ⟨p.1, p.2, rfl, intersect_keeps Variant.current tF15 p.1 16 8 2 3 p.2 ⟨3, by decide +kernel⟩ ⟨3, by decide +kernel⟩ h vF15
      (by decide +kernel) ⟨4, by decide +kernel⟩ ⟨4, by decide +kernel⟩⟩

/-- **Subtraction never drops a value** (`compute_complement`, first-order operands; any table, any
fuels; the code with fix e0ad7de, which compares field labels): a well-labelled value of
the original type that is NOT a value of the narrowed type is a value of the result, read in the
table the function returns (the proof does not use `v.wf`: `complement_ok` is stated for every value). The `is_compatible(a, b) ⇒ []` shortcut is justified by the soundness
theorem, `contains_cycle` finds nothing in a first-order type (`cyclicPair_fo`), and the structural
tuple difference `[A] ∖ [b] = ⋃ᵢ [A₀, …, Aᵢ∖bᵢ, …]` by `subtractFields_ok`. -/
theorem complement_keeps (T T' : Table) (rf fuel a b r : Nat) (ha : FO T a) (hb : FO T b)
    (h : complement Variant.current rf fuel T a b = some (T', r)) :
    ∀ v, v.wf = true → inh T [] a v → ¬ inh T [] b v → inh T' [] r v :=
  fun v _ => (complement_ok Variant.current rfl rf fuel T a b ha hb T' r h).2.2 v

theorem complement_extends (T T' : Table) (rf fuel a b r : Nat) (ha : FO T a) (hb : FO T b)
    (h : complement Variant.current rf fuel T a b = some (T', r)) : Table.Sub T T' ∧ FO T' r :=
  ⟨(complement_ok Variant.current rfl rf fuel T a b ha hb T' r h).1,
   (complement_ok Variant.current rfl rf fuel T a b ha hb T' r h).2.1⟩

/-- `T2[0x00, 0x00]` is not in `T2[int,int] | T2[int,bin]`, whatever the fuel -/
theorem F12_value_not_right : ¬ inh tF12 [] 6 vF12 := by
  intro hv
  obtain ⟨i, hi, hiv⟩ := (inh_union (T := tF12) (t := 6) (ids := [4, 5]) rfl).mp hv
  simp only [List.mem_cons, List.not_mem_nil, or_false] at hi
  -- both variants are `T2` tuples whose first field is an `int`
  rcases hi with rfl | rfl
  all_goals
    obtain ⟨_, fs, hv', _, hf⟩ := (inh_tuple rfl rfl).mp hiv
    simp only [vF12, V.tup.injEq] at hv'
    obtain ⟨_, rfl⟩ := hv'
    cases hf with
    | cons _ h2 _ =>
      obtain ⟨z, hz⟩ := (inh_integer (T := tF12) (t := 0) rfl).mp h2
      cases hz

/-- non-trivial instance: `T2[int|bin, bin] ∖ (T2[int,int] | T2[int,bin])` keeps `T2[0x00, 0x00]` -/
example : ∃ T' r, complement Variant.current 16 8 tF12 3 6 = some (T', r) ∧ inh T' [] r vF12 := by
  cases h : complement Variant.current 16 8 tF12 3 6 with
  | none => exact absurd h (by decide +kernel)
  | some p =>
    exact ⟨p.1, p.2, rfl, complement_keeps tF12 p.1 16 8 3 6 p.2 ⟨4, by decide +kernel⟩ ⟨4, by decide +kernel⟩ h vF12
      (by decide +kernel) ⟨12, by decide +kernel⟩ F12_value_not_right⟩

/-- **`union_type_ids` is sound and complete** (first-order arguments): the id it returns, read in
the table it returns, has exactly the values of the arguments — flattening one level of unions,
de-duplicating, collapsing a single id and registering `never` for none change nothing. Registration
only appends, and a first-order type means the same in the larger table (`FO.inh_sub`). -/
theorem union_flatten_sound (T : Table) (ids : List Nat) (hfo : ∀ i ∈ ids, FO T i) (v : V) :
    inh (unionIds T ids).1 [] (unionIds T ids).2 v ↔ ∃ i ∈ ids, inh T [] i v :=
  unionIds_sem T ids hfo v

example : (unionIds tF12 [2, 0, 1]).2 = 2 ∧ ∀ i ∈ [2, 0, 1], FO tF12 i :=
  ⟨by decide +kernel, by intro i hi; simp at hi; rcases hi with rfl | rfl | rfl <;> exact ⟨3, by decide +kernel⟩⟩

/-- overlap detection is complete (full statement) -/
def OverlapCompleteStatement : Prop :=
  ∀ (T : Table) (a b fuel : Nat), Ordered T → Closed T a → Closed T b →
    (∃ v, v.wf = true ∧ inh T [] a v ∧ inh T [] b v) → typesOverlap T fuel a b ≠ some false

/-! ### Part 6: kernel-checked tables on recursive / higher-order types, and where the full statements stand

* `CompatSoundStatement`: proved for every type without function / process components
  (`compat_sound_rec_fo`). Refuted here is `CompatSoundStatementV` for the relation as it was before
  fd75268 (`compat_sound_failed_on_recursive_types_before_R1`) and before ecfc5db
  (`compat_sound_failed_on_recursive_types_before_R6`). For function / process types and the code as it
  is there are only the verdicts on the tables R5, R7, R4: neither a proof nor a counter-example.
* `CompatTransStatement`: neither proved nor refuted; `compat_trans_fo` is its first-order, `PartsDistinct`
  case.
* `OverlapCompleteStatement`: FALSE of the code as it is (`overlap_complete_fails_on_process_types`, R2);
  `overlap_complete_fo` is its first-order case.

The tables carry the names they have in notes/C09.md. R2's is the one the harness still finds on the
real `quiver_core::types` (`overlap=callable-components-by-overlap` in known_findings.jsonl). -/

/-- R1: 0 `Nil`, 1 `^1`, 2 `A[y: ^1]`, 3 `A[y: Nil]`, 4 `A[y: ^] | A[y: Nil]`, 5 `A(y: Nil)`
(A = 2, y = 3, Nil = 4) -/
def tR1 : Table :=
  ⟨[.tuple 2, .cycle 1, .tuple 3, .tuple 4, .union [2, 3], .part (some 2) [(3, 0)]],
   [⟨none, []⟩, ⟨some 1, []⟩, ⟨some 4, []⟩, ⟨some 2, [(some 3, 1)]⟩, ⟨some 2, [(some 3, 0)]⟩]⟩

/-- `A[y: A[y: Nil]]` -/
def vR1 : V :=
  .tup (some 2) (.cons (some 3) (.tup (some 2) (.cons (some 3) (.tup (some 4) .nil) .nil)) .nil)

/-- before fd75268 the left-hand `^1` met an empty right-hand stack and was accepted -/
theorem R1_accepted : compatV { leftCycleOnRightStack := true } tR1 16 4 5 = some true := by decide +kernel
/-- with a stack of its own for the left type the pair is rejected -/
theorem R1_repaired : isCompatible tR1 16 4 5 = some false := by decide +kernel
theorem R1_closed : Ordered tR1 ∧ Closed tR1 4 ∧ Closed tR1 5 :=
  ⟨by decide +kernel, ⟨8, by decide +kernel⟩, ⟨8, by decide +kernel⟩⟩
theorem R1_value_left : inh tR1 [] 4 vR1 := ⟨8, by decide +kernel⟩

theorem R1_value_not_right : ¬ inh tR1 [] 5 vR1 := by
  intro h
  obtain ⟨name, fs, hv, _, hf⟩ := (inh_part (T := tR1) (t := 5) (pn := some 2) (pfs := [(3, 0)]) rfl).mp h
  obtain ⟨q, hq, _, hqv⟩ := hf (3, 0) (by simp)
  simp only [vR1, V.tup.injEq] at hv
  obtain ⟨_, rfl⟩ := hv
  simp only [VFields.toList, List.mem_cons, List.not_mem_nil, or_false] at hq
  subst hq
  obtain ⟨name', fs', hv', hn', _⟩ :=
    (inh_tuple (T := tR1) (t := 0) (id := 2) (info := ⟨some 4, []⟩) rfl rfl).mp hqv
  simp only [V.tup.injEq] at hv'
  obtain ⟨rfl, _⟩ := hv'
  simp at hn'

/-- the soundness statement for a historical variant of the relation -/
def CompatSoundStatementV (vr : Variant) : Prop :=
  ∀ (T : Table) (a b fuel : Nat), Ordered T → Closed T a → Closed T b →
    compatV vr T fuel a b = some true → ∀ v, inh T [] a v → inh T [] b v

/-- **before fd75268 the full soundness statement did not hold for recursive types** -/
theorem compat_sound_failed_on_recursive_types_before_R1 :
    ¬ CompatSoundStatementV { leftCycleOnRightStack := true } := fun h =>
  R1_value_not_right (h tR1 4 5 16 R1_closed.1 R1_closed.2.1 R1_closed.2.2 R1_accepted vR1 R1_value_left)

/-- R1, second part (fixed by fd75268): 0 int, 1 `^1`, 2 bin, 3 `[y: ^1, bin]`, 4 `B(x: ^1)`, 5 `[x: ^1]`,
6 `U1 = [y: ^, bin] | B(x: ^) | [x: ^] | int`, 7 `int | U1`, 8 `U2 = … | bin` (same first three variants),
9 `U2 | int`. Two `Cycle`s of equal depth were taken for the same type without resolving them, so the
shared variant `[y: ^1, bin]` was accepted although its `^1` is `U1` on the left and `U2` on the right.
(B = 2, x = 3, y = 4) -/
def tR1b : Table :=
  ⟨[.integer, .cycle 1, .binary, .tuple 2, .part (some 2) [(3, 1)], .tuple 3, .union [3, 4, 5, 0],
    .union [0, 6], .union [3, 4, 5, 2], .union [8, 0]],
   [⟨none, []⟩, ⟨some 1, []⟩, ⟨none, [(some 4, 1), (none, 2)]⟩, ⟨none, [(some 3, 1)]⟩]⟩

/-- `[y: [y: 0, 0x], 0x]` -/
def vR1b : V :=
  .tup none (.cons (some 4) (.tup none (.cons (some 4) (.int 0) (.cons none (.bin []) .nil)))
    (.cons none (.bin []) .nil))

theorem R1b_old_rule_accepts : compatV { cycleSameDepthShortcut := true } tR1b 32 7 9 = some true := by
  decide +kernel
theorem R1b_value : inhB tR1b 16 [] 7 vR1b = true ∧ inhB tR1b 16 [] 9 vR1b = false := by decide +kernel
theorem R1b_closed : Ordered tR1b ∧ Closed tR1b 7 ∧ Closed tR1b 9 :=
  ⟨by decide +kernel, ⟨8, by decide +kernel⟩, ⟨8, by decide +kernel⟩⟩
theorem R1b_repaired : isCompatible tR1b 32 7 9 = some false := by decide +kernel

theorem R1b_recursive_pair :
    Ordered tR1b ∧ RFO tR1b 6 ∧ RFO tR1b 7 ∧ Closed tR1b 7 ∧ isCompatible tR1b 32 6 7 = some true :=
  ⟨R1b_closed.1, ⟨8, by decide +kernel⟩, ⟨8, by decide +kernel⟩, R1b_closed.2.1, by decide +kernel⟩

/-- the hypotheses of `compat_sound_rec_fo` are satisfiable by a non-trivial recursive pair: in R1b's
table `U1 = [y: ^, bin] | B(x: ^) | [x: ^] | int` is assignable to `int | U1` (6 ≤ 7) -/
example : Ordered tR1b ∧ RFO tR1b 6 ∧ RFO tR1b 7 ∧ Closed tR1b 7 ∧ isCompatible tR1b 32 6 7 = some true :=
  R1b_recursive_pair

/-- …and the theorem then gives containment of every value, e.g. `[y: 0, 0x]` -/
example : inh tR1b [] 7 (.tup none (.cons (some 4) (.int 0) (.cons none (.bin []) .nil))) :=
  compat_sound_rec_fo tR1b R1b_recursive_pair.1 6 7 32 R1b_recursive_pair.2.1 R1b_recursive_pair.2.2.1
    R1b_recursive_pair.2.2.2.1 R1b_recursive_pair.2.2.2.2 _ ⟨8, by decide +kernel⟩

/-- R5 (fixed by 4bee69d): 0 int, 1 bin, 2 `int | bin`, 3 `^1`, 4 `^2`, 5 resource, 6 `^2 | res`,
7 `@(int / ^1)`, 8 never, 9 `#((^2 | res) -> 7)`, 10 `res | ^2`, 11 `A = #((res | ^) -> 7 ! never)`,
12 `d = #((res | ^) -> 7 ! int | bin)`. The parameter union 10 is ONE id, but its `^` is `A` in 11 and `d`
in 12: `d ≤ A` needs `A ≤ d`, which fails on the receive types — the equal-id fast path hid that. -/
def tR5 : Table :=
  ⟨[.integer, .binary, .union [0, 1], .cycle 1, .cycle 2, .resource 2, .union [4, 5],
    .process (some 0) (some 3), .union [], .callable 6 7 8, .union [5, 4], .callable 10 7 8,
    .callable 10 7 2], [⟨none, []⟩, ⟨some 1, []⟩]⟩

theorem R5_old_rule_accepts : compatV { equalIdsIgnoreContext := true } tR5 48 12 11 = some true := by
  decide +kernel
/-- …although the premise it needs is refuted by every variant -/
theorem R5_premise_fails : compatV { equalIdsIgnoreContext := true } tR5 48 11 12 = some false ∧
    isCompatible tR5 48 11 12 = some false := by decide +kernel
theorem R5_repaired : isCompatible tR5 48 12 11 = some false := by decide +kernel

/-- R6 (fixed by ecfc5db — what was left of R1): 0 int, 1 `^2`, 2 `^2 | int`, 3 `[x: (^ | int)]`, 4 `A[[x: (^ | int)]]`,
5 `Nil`, 6 bin, 7 `^1`, 8 `B[x: bin, y: ^1]`, 9 `'p = Nil | A[[x: (^ | int)]] | B[x: bin, y: ^]`, 10 ref,
11 `^2 | ref`, 12 `B[x: (^ | ref), y: ^1]`, 13 `'q = Nil | A[[x: (^ | int)]] | B[x: (^ | ref), y: ^]`.
A resolved `Cycle` went on with the whole stack: inside `A[[x: (^ | int)]]` the `^` was resolved to `'p` while
`(^ | int)` was still on the stack, `'p` was "already there" and not pushed again, and the `^`s of its variants
were then counted from `(^ | int)`: `bin ≤ (^ | ref)` was accepted by an assumption that closes on itself.
(Nil = 2, A = 3, B = 4, x = 5, y = 6) -/
def tR6 : Table :=
  ⟨[.integer, .cycle 2, .union [1, 0], .tuple 2, .tuple 3, .tuple 4, .binary, .cycle 1, .tuple 5,
    .union [5, 4, 8], .reference, .union [1, 10], .tuple 6, .union [5, 4, 12]],
   [⟨none, []⟩, ⟨some 1, []⟩, ⟨none, [(some 5, 2)]⟩, ⟨some 3, [(none, 3)]⟩, ⟨some 2, []⟩,
    ⟨some 4, [(some 5, 6), (some 6, 7)]⟩, ⟨some 4, [(some 5, 11), (some 6, 7)]⟩]⟩

/-- `B[x: 0x, y: Nil]` -/
def vR6 : V := .tup (some 4) (.cons (some 5) (.bin []) (.cons (some 6) (.tup (some 2) .nil) .nil))

/-- the rules of the code before ecfc5db (assumptions were still keyed by ids alone then: the
acceptance needs an assumption that closes on itself across the polluted stacks) -/
def vrBeforeR6 : Variant where
  cycleKeepsInnerStack := true
  asmKeyedByIdsOnly := true

theorem R6_accepted : compatV vrBeforeR6 tR6 64 9 13 = some true := by decide +kernel
/-- with the entries above the target set aside the pair is rejected -/
theorem R6_repaired : isCompatible tR6 64 9 13 = some false := by decide +kernel
theorem R6_closed : Ordered tR6 ∧ Closed tR6 9 ∧ Closed tR6 13 :=
  ⟨by decide +kernel, ⟨8, by decide +kernel⟩, ⟨8, by decide +kernel⟩⟩
theorem R6_value_left : inh tR6 [] 9 vR6 := ⟨8, by decide +kernel⟩

/-- no variant of `'q` is a type of binaries -/
theorem R6_bin_not_q (bs : List UInt8) : ¬ inh tR6 [] 13 (.bin bs) := by
  intro h
  obtain ⟨i, hi, hv⟩ := (inh_union (T := tR6) (t := 13) (ids := [5, 4, 12]) rfl).mp h
  simp only [List.mem_cons, List.not_mem_nil, or_false] at hi
  -- every variant is a tuple type
  rcases hi with rfl | rfl | rfl
  all_goals
    obtain ⟨_, _, hv', _⟩ := (inh_tuple rfl rfl).mp hv
    cases hv'

theorem R6_value_not_right : ¬ inh tR6 [] 13 vR6 := by
  intro h
  obtain ⟨i, hi, hv⟩ := (inh_union (T := tR6) (t := 13) (ids := [5, 4, 12]) rfl).mp h
  simp only [List.mem_cons, List.not_mem_nil, or_false] at hi
  rcases hi with rfl | rfl | rfl
  -- the first two variants carry other names
  iterate 2
    obtain ⟨_, _, hv', hn, _⟩ := (inh_tuple rfl rfl).mp hv
    simp only [vR6, V.tup.injEq] at hv'
    obtain ⟨rfl, _⟩ := hv'
    simp at hn
  · obtain ⟨_, _, hv', _, hf⟩ :=
      (inh_tuple (T := tR6) (t := 12) (id := 6) (info := ⟨some 4, [(some 5, 11), (some 6, 7)]⟩) rfl rfl).mp hv
    simp only [vR6, V.tup.injEq] at hv'
    obtain ⟨_, rfl⟩ := hv'
    simp only [VFields.toList] at hf
    cases hf with
    | cons _ hx _ =>
      -- the field `x`: a binary in `^2 | ref` below `'q`
      obtain ⟨j, hj, hxv⟩ := (inh_union (T := tR6) (t := 11) (ids := [1, 10]) rfl).mp hx
      simp only [List.mem_cons, List.not_mem_nil, or_false] at hj
      rcases hj with rfl | rfl
      · obtain ⟨id, hr, hid⟩ := (inh_cycle (T := tR6) (t := 1) (d := 2) rfl).mp hxv
        simp only [resolveCycle] at hr
        simp at hr
        subst hr
        exact R6_bin_not_q [] hid
      · obtain ⟨_, hr⟩ := (inh_reference (T := tR6) (t := 10) rfl).mp hxv
        cases hr

/-- **before ecfc5db the full soundness statement did not hold** (recursive first-order types with a
back-reference below a nested union) -/
theorem compat_sound_failed_on_recursive_types_before_R6 :
    ¬ CompatSoundStatementV vrBeforeR6 := fun h =>
  R6_value_not_right (h tR6 9 13 64 R6_closed.1 R6_closed.2.1 R6_closed.2.2 R6_accepted vR6 R6_value_left)

/-- R7 (fixed by dc4f190): 0 `^1`, 1 `^2`, 2 never, 3 `#^1 -> ^2` (a function from itself to the enclosing union),
4 `F[#^1 -> ^2]`, 5 `Ok`, 6 `'p = Ok | F[#^1 -> ^]`, 7 `Z`, 8 `'q = Ok | F[#^1 -> ^] | Z`. The function type 3 is
ONE id; below `'p` it is `μf. #f -> 'p`, below `'q` it is `μg. #g -> 'q`. `f ≤ g` asks `g ≤ f` for the parameter;
that question is the same pair of ids `(3, 3)`, the assumption just made answered it, and `'p ≤ 'q` was accepted
although `g ≤ f` needs `'q ≤ 'p`, which fails on `Z`. (F = 2, Z = 3) -/
def tR7 : Table :=
  ⟨[.cycle 1, .cycle 2, .union [], .callable 0 1 2, .tuple 2, .tuple 1, .union [5, 4], .tuple 3,
    .union [5, 4, 7]],
   [⟨none, []⟩, ⟨some 1, []⟩, ⟨some 2, [(none, 3)]⟩, ⟨some 3, []⟩]⟩

/-- the same two types with an id of its own for every occurrence (6 = `'p`, 14 = `'q`) -/
def tR7u : Table :=
  ⟨[.tuple 2, .cycle 1, .cycle 2, .union [], .callable 1 2 3, .tuple 3, .union [0, 5], .tuple 4, .cycle 1,
    .cycle 2, .union [], .callable 8 9 10, .tuple 5, .tuple 6, .union [7, 12, 13]],
   [⟨none, []⟩, ⟨some 1, []⟩, ⟨some 1, []⟩, ⟨some 2, [(none, 4)]⟩, ⟨some 1, []⟩, ⟨some 2, [(none, 11)]⟩,
    ⟨some 3, []⟩]⟩

theorem R7_accepted : compatV { asmKeyedByIdsOnly := true } tR7 64 6 8 = some true := by decide +kernel
/-- …and refused as soon as the two occurrences of the function type do not share their id, by the old
rule as by the code as it is -/
theorem R7_refused_unfolded : compatV { asmKeyedByIdsOnly := true } tR7u 64 6 14 = some false ∧
    isCompatible tR7u 64 6 14 = some false := by decide +kernel
/-- an assumption that carries its stacks does not answer the converse question -/
theorem R7_repaired : isCompatible tR7 64 6 8 = some false := by decide +kernel
/-- the converse, which the parameter position needs, is refused in both tables -/
theorem R7_converse_refused : isCompatible tR7 64 8 6 = some false ∧ isCompatible tR7u 64 14 6 = some false := by
  decide +kernel

/-- A WRITTEN intersection of partial types (C02's finding, fixed by 02d463a): 0 int, 1 bin,
2 `'r = (read: int)`, 3 `'w = (write: bin)` (read = 2, write = 3). `intersect_pair` had no arm for two
partial types: the fallback kept the LEFT operand when the two overlap, so `'r & 'w` resolved to `'r`,
which `[read: 1]` inhabits (`Variant.partialIntersectKeepsLeft`). The arm builds
`(read: int, write: bin)`. (`intersect_keeps` holds for both: keeping the left operand is a superset.) -/
def tRW : Table :=
  ⟨[.integer, .binary, .part none [(2, 0)], .part none [(3, 1)]], [⟨none, []⟩, ⟨some 1, []⟩]⟩

/-- `[read: 1]` and `[read: 1, write: 0x02]` -/
def vR : V := .tup none (.cons (some 2) (.int 1) .nil)
def vRW : V := .tup none (.cons (some 2) (.int 1) (.cons (some 3) (.bin [2]) .nil))

theorem RW_left_operand_kept :
    (intersect { partialIntersectKeepsLeft := true } 16 8 tRW 2 3).map (·.2) = some 2 ∧
      inhB tRW 8 [] 2 vR = true ∧
      inhB tRW 8 [] 3 vR = false := by decide +kernel

theorem RW_exact :
    ∃ T' r, intersect Variant.current 16 8 tRW 2 3 = some (T', r) ∧
      T'.types[r]? = some (.part none [(2, 0), (3, 1)]) ∧ inhB T' 8 [] r vR = false ∧
      inhB T' 8 [] r vRW = true := by
  refine ⟨_, _, rfl, ?_⟩
  decide +kernel

/-- R8 (fixed by 7120dc6; a consequence of 02d463a on RECURSIVE types): 0 never, 1 int, 2 `never | int`,
3 `(x: never | int)`, 4 `Nil`, 5 `^1`, 6 `(x: int, y: ^1)`, 7 `Nil | (x: int, y: ^1)` (x = 2, y = 3, Nil = 4).
`intersect_types` takes the variants of 7 one by one; the partial-vs-partial arm copied the field `y: ^1`,
which only the variant 6 has, into the result `(x: int, y: ^1)` — read outside the union its `^1` has no
boundary left, and `[x: 0, y: Nil]`, a value of both operands, was refused (`Variant.partialIntersectUnguarded`).
Since 7120dc6 the arm keeps the left operand when either operand contains a `Cycle`. `intersect_keeps` is a theorem
about FIRST-ORDER operands (`FO`: no `Cycle`) and is not contradicted: 7 is recursive. -/
def tR8 : Table :=
  ⟨[.union [], .integer, .union [0, 1], .part none [(2, 2)], .tuple 2, .cycle 1,
    .part none [(2, 1), (3, 5)], .union [4, 6]], [⟨none, []⟩, ⟨some 1, []⟩, ⟨some 4, []⟩]⟩

/-- `[x: 0, y: Nil]` -/
def vR8 : V := .tup none (.cons (some 2) (.int 0) (.cons (some 3) (.tup (some 4) .nil) .nil))

theorem R8_value_of_both : vR8.wf = true ∧ inhB tR8 8 [] 3 vR8 = true ∧ inhB tR8 8 [] 7 vR8 = true := by
  decide +kernel
/-- the result is the variant's partial type, and it refuses the value -/
theorem R8_dropped :
    ∃ T' r, intersect { partialIntersectUnguarded := true } 16 8 tR8 3 7 = some (T', r) ∧
      T'.types[r]? = some (.part none [(2, 1), (3, 5)]) ∧ inhB T' 16 [] r vR8 = false := by
  refine ⟨_, _, rfl, ?_⟩
  decide +kernel
/-- with the guard the left operand is kept, and it has the value -/
theorem R8_repaired : (intersect Variant.current 16 8 tR8 3 7).map (·.2) = some 3 := by decide +kernel
/-- the old rule kept the left operand, which has the value -/
theorem R8_old_rule_kept_left :
    (intersect { partialIntersectKeepsLeft := true } 16 8 tR8 3 7).map (·.2) = some 3 := by decide +kernel
/-- the right operand is recursive (closed, `RFO`), not first-order: `intersect_keeps` does not apply -/
theorem R8_not_first_order : foB tR8 16 7 = false ∧ rfoB tR8 16 7 = true ∧ closedB tR8 16 [] 7 = true := by
  decide +kernel

/-- R2: 0 int, 1 never, 2 `@(never / int)`, 3 `@(int / int)` — the first is assignable to the
second, a process declared with type 2 inhabits both, yet they "do not overlap" -/
def tR2 : Table :=
  ⟨[.integer, .union [], .process (some 1) (some 0), .process (some 0) (some 0)],
   [⟨none, []⟩, ⟨some 1, []⟩]⟩

theorem R2_assignable : isCompatible tR2 8 2 3 = some true := by decide +kernel
theorem R2_no_overlap : typesOverlap tR2 8 2 3 = some false ∧ typesOverlap tR2 8 3 2 = some false := by
  decide +kernel
theorem R2_common_value : inh tR2 [] 2 (.proc 2) ∧ inh tR2 [] 3 (.proc 2) :=
  ⟨⟨4, by decide +kernel⟩, ⟨4, by decide +kernel⟩⟩

/-- **the full overlap-completeness statement does not hold for process / callable types** -/
theorem overlap_complete_fails_on_process_types : ¬ OverlapCompleteStatement := fun h =>
  h tR2 2 3 8 (by decide +kernel) ⟨4, by decide +kernel⟩ ⟨4, by decide +kernel⟩ ⟨.proc 2, by decide +kernel, R2_common_value⟩ R2_no_overlap.1

/-- R4 (fixed by 30aca33): 0 int, 1 `^1`, 2 never, 3 `'f = #(^1 -> int)`, 4 `'g = #('f -> int)`. Without
an assumption in the callable arm the check made no progress on this pair (the model, like the code,
ran out of every fuel; the compiler overflowed its stack); with it the pair is accepted — `'g` is one
unfolding of `'f`. -/
def tR4 : Table :=
  ⟨[.integer, .cycle 1, .union [], .callable 1 0 2, .callable 3 0 2], [⟨none, []⟩, ⟨some 1, []⟩]⟩

/-- the relation before 30aca33 and the four later repairs of the recursive arms (fd75268, 4bee69d, ecfc5db,
dc4f190) -/
def vrBeforeRecursiveFixes : Variant where
  callableNoAssumption := true
  leftCycleOnRightStack := true
  cycleSameDepthShortcut := true
  equalIdsIgnoreContext := true
  cycleKeepsInnerStack := true
  asmKeyedByIdsOnly := true

theorem R4_old_rule_no_answer : compatV vrBeforeRecursiveFixes tR4 64 3 4 = none := by decide +kernel
theorem R4_repaired : isCompatible tR4 16 3 4 = some true ∧ isCompatible tR4 16 4 3 = some true := by
  decide +kernel

/-- R3(i) (fixed by e0ad7de): 0 int, 1 `^1`, 2 `Nil`, 3 `Cons[int, ^]`, 4 `'l = Nil | Cons[int, ^]`,
5 `None`, 6 `Cons[x: int, y: ^]`, 7 `'m = None | Cons[x: int, y: ^]`
(Nil = 2, Cons = 3, None = 4, x = 5, y = 6) -/
def tR3 : Table :=
  ⟨[.integer, .cycle 1, .tuple 2, .tuple 3, .union [2, 3], .tuple 4, .tuple 5, .union [5, 6]],
   [⟨none, []⟩, ⟨some 1, []⟩, ⟨some 2, []⟩, ⟨some 3, [(none, 0), (none, 1)]⟩, ⟨some 4, []⟩,
    ⟨some 3, [(some 5, 0), (some 6, 1)]⟩]⟩

/-- `Cons[5, Nil]` -/
def vR3 : V := .tup (some 3) (.cons none (.int 5) (.cons none (.tup (some 2) .nil) .nil))

theorem R3_value : inhB tR3 12 [] 4 vR3 = true ∧ inhB tR3 12 [] 7 vR3 = false := by decide +kernel
/-- the old intersection `'l ∩ 'm` was `Cons[int, ^]` (labels ignored) … -/
theorem R3_old_intersection :
    (intersect { narrowIgnoresLabels := true } 32 8 tR3 4 7).map (·.2) = some 3 := by decide +kernel
/-- … so the old complement of `'l` by that narrowed type, and by `'m` itself, lost the Cons values -/
theorem R3_old_complement :
    (complement { narrowIgnoresLabels := true } 32 8 tR3 4 7).map (·.2) = some 2 := by decide +kernel
theorem R3_repaired :
    (intersect Variant.current 32 8 tR3 4 7).map (fun p => p.1.types[p.2]?) = some (some (.union [])) ∧
      (complement Variant.current 32 8 tR3 4 7).map (·.2) = some 4 := by decide +kernel

/-- R3(iii) (fixed by 9604765): 0 bin, 1 int, 2 `^1`, 3 `Ok[x: int, y: ^1]`, 4 `Ok[Ok[…]]`, 5 `^2`,
6 `^2 | bin | int`, 7 `^2 | ^2`, 8 `@(6 / 7)`, 9 `'t = Ok[Ok[x: int, y: ^]] | @((^ | bin | int) / (^ | ^))`,
10 `int | bin`, 11 `@(int / int | bin)`   (x = 2, y = 3) -/
def tR3b : Table :=
  ⟨[.binary, .integer, .cycle 1, .tuple 2, .tuple 3, .cycle 2, .union [5, 0, 1], .union [5, 5],
    .process (some 6) (some 7), .union [4, 8], .union [1, 0], .process (some 1) (some 10)],
   [⟨none, []⟩, ⟨some 1, []⟩, ⟨some 1, [(some 2, 1), (some 3, 2)]⟩, ⟨some 1, [(none, 3)]⟩]⟩

theorem R3b_not_assignable : isCompatible tR3b 32 11 9 = some false := by decide +kernel
/-- the old `contains_cycle` saw no cycle in the process variant, asked `is_compatible` about it with
its cycles dangling, and the complement came out as `never` -/
theorem R3b_old_complement :
    (complement { cycleCheckSkipsCallable := true } 32 8 tR3b 11 9).map (fun p => p.1.types[p.2]?) =
      some (some (.union [])) := by decide +kernel
theorem R3b_repaired : (complement Variant.current 32 8 tR3b 11 9).map (·.2) = some 11 := by decide +kernel

end C09
