import QuiverModel.Core.NumShapeModel
import QuiverModel.Generated.NumShape
/-
C20 — the hand-written model is tied to the *current text* of std/num.qv: `Generated/NumShape.lean`
is regenerated on every run of `./check C20` (pregen `gen_numshape`: std/num.qv parsed with the real
parser `quiver_compiler::parse`), and the statements below are re-checked by the kernel against it.
When num.qv gains or loses an export, a definition or a branch, reorders branches, changes a
pattern, a callee or any other token of a body, `num_shape_matches` no longer checks (so do harmless
rewrites — intended: whoever changes num.qv re-reads the model). The finer statements say how deep
a change goes: names only / branch structure / full bodies. `modelShape` (`Core/NumShapeModel.lean`) is a table
written by hand beside `Core/Num.lean`; nothing in Lean links the two.
-/
namespace C20
open QM QM.Num

/-- branch structure without the bodies' full text -/
def structureOf (d : DefShape) : String × String × String × List BranchShape :=
  (d.name, d.param, d.binds, d.branches)

/-- the module's type aliases are the ones the model's value types mirror -/
theorem num_aliases_match : Generated.numShape.aliases = modelShape.aliases := by first | rfl | fail "num_aliases_match: std/num.qv no longer has the structure the model Core/Num.lean was written against (compare Generated/NumShape.lean with Core/NumShapeModel.lean)"

/-- same top-level definitions, in the same order -/
theorem num_definition_names_match :
    Generated.numShape.defs.map (·.name) = modelShape.defs.map (·.name) := by first | rfl | fail "num_definition_names_match: std/num.qv no longer has the structure the model Core/Num.lean was written against (compare Generated/NumShape.lean with Core/NumShapeModel.lean)"

/-- same exported record fields, in the same order (every export is modelled, none is missing) -/
theorem num_export_names_match :
    Generated.numShape.exports.map (·.name) = modelShape.exports.map (·.name) := by first | rfl | fail "num_export_names_match: std/num.qv no longer has the structure the model Core/Num.lean was written against (compare Generated/NumShape.lean with Core/NumShapeModel.lean)"

/-- same parameter types, same branches in the same order with the same leading patterns,
consequences and callees — for every definition and every export -/
theorem num_branch_structure_matches :
    Generated.numShape.defs.map structureOf = modelShape.defs.map structureOf ∧
    Generated.numShape.exports.map structureOf = modelShape.exports.map structureOf := by
  first | exact ⟨rfl, rfl⟩ | fail "num_branch_structure_matches: a parameter type, branch, leading pattern or callee of std/num.qv differs from the model's table (compare Generated/NumShape.lean with Core/NumShapeModel.lean)"

/-- **the live std/num.qv has exactly the structure the model was written against** (full canonical
bodies included) -/
theorem num_shape_matches : Generated.numShape = modelShape := by first | rfl | fail "num_shape_matches: std/num.qv no longer has the structure the model Core/Num.lean was written against (compare Generated/NumShape.lean with Core/NumShapeModel.lean)"

/-- the table is not vacuous: 29 definitions, 22 exports, `add` dispatches over six branches -/
example : modelShape.defs.length = 29 ∧ modelShape.exports.length = 22 ∧
    (modelShape.exports.filter (·.name == "add")).map (·.branches.length) = [6] := by decide +kernel

end C20
