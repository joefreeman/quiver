import QuiverModel.Lemmas.Types.Rename
import QuiverModel.Lemmas.Types.IndexLemmas
import QuiverModel.Theorems.C09
/-
C08 — Runtime type tests accept only members and never reject known members.

Model: `QM.Types.{TypeIndex.build, tagType, tagAccepts, compatSet, typeCompat, isType, checkMessage}`
(Core/Types/Compat.lean = compatibility.rs + the executor's table lookups). The runtime never looks at the
structure of a value: it maps it to a tag and looks the tag up in a set precomputed per pattern type.
The theorems say that this set holds exactly the tags the computation accepts (`compatSet_spec`), and that a tag
with a type entry is accepted iff that type is assignable to the pattern (`tagAccepts_of_type`; without an entry
never, `tagAccepts_absent`); hence — with C09's soundness theorem — every value of an accepted tag's type
inhabits the pattern (`isType_sound`), and a tag whose type, or a union with that type as a variant, is assignable
to the pattern is accepted (`isType_complete`, `isType_complete_for_variant`); `mailbox_filter_spec` characterises
`check_message_compatible` including its permissive cases. The theorems speak of tags and of the values of a
tag's type: the map from a runtime value to its tag (`get_concrete_type`) is not modelled. Second half: the test is
invariant under renamings of type and tuple ids (`rename_invariant`, `tagType_embeds`), with the F13 tables for
the side condition.
-/
namespace C08
open QM.Types

theorem filterTags_spec {f : CTag → Option Bool} :
    ∀ {l r : List CTag}, filterTags f l = some r → ∀ c, c ∈ r ↔ c ∈ l ∧ f c = some true := by
  intro l
  induction l with
  | nil => intro r h c; cases h; simp
  | cons x xs ih =>
    intro r h c
    unfold filterTags at h
    split at h
    · rename_i r' hx hr
      cases h
      simp only [List.mem_cons, ih hr c]
      constructor
      · rintro (rfl | ⟨h1, h2⟩)
        · exact ⟨Or.inl rfl, hx⟩
        · exact ⟨Or.inr h1, h2⟩
      · rintro ⟨rfl | h1, h2⟩
        · exact Or.inl rfl
        · exact Or.inr ⟨h1, h2⟩
    · rename_i r' hx hr
      cases h
      rw [ih hr]
      constructor
      · rintro ⟨h1, h2⟩; exact ⟨List.mem_cons_of_mem _ h1, h2⟩
      · rintro ⟨h1, h2⟩
        rcases List.mem_cons.mp h1 with rfl | h1
        · rw [hx] at h2; cases h2
        · exact ⟨h1, h2⟩
    · cases h

/-- **The set computed for a pattern holds exactly the accepted tags**: a tag is in it iff the computation
iterates over the tag and decides to accept it (`tagAccepts`; how that decision reads in terms of
`is_compatible` is `tagAccepts_of_type` / `tagAccepts_absent`). -/
theorem compatSet_spec (inp : CInput) (idx : TypeIndex) (fuel pattern : Nat) (set : List CTag)
    (h : compatSet inp idx fuel pattern = some set) (c : CTag) :
    c ∈ set ↔ c ∈ allTags inp ∧ tagAccepts inp idx fuel pattern c = some true :=
  filterTags_spec h c

/-- a tag with a type entry is accepted iff that type is assignable to the pattern -/
theorem tagAccepts_of_type (inp : CInput) (idx : TypeIndex) (fuel pattern id : Nat) (c : CTag)
    (h : tagType inp idx c = some id) :
    tagAccepts inp idx fuel pattern c = isCompatible inp.table fuel id pattern := by
  simp [tagAccepts, h]

/-- **absent type entry ⇒ never accepted** (tuple, function-as-process, builtin, resource tags): this
is why a type entry must be present for every tag that can occur at run time — the side condition
F13 violated -/
theorem tagAccepts_absent (inp : CInput) (idx : TypeIndex) (fuel pattern : Nat) (c : CTag)
    (h : tagType inp idx c = none) (hc : c ≠ .integer ∧ c ≠ .binary ∧ c ≠ .reference) :
    tagAccepts inp idx fuel pattern c = some false := by
  unfold tagAccepts
  rw [h]
  cases c <;> simp_all

theorem listMapO_length {α β : Type} {f : α → Option β} :
    ∀ {l : List α} {r : List β}, listMapO f l = some r → r.length = l.length := by
  intro l
  induction l with
  | nil => intro r h; cases h; rfl
  | cons x xs ih =>
    intro r h
    unfold listMapO at h
    split at h
    · rename_i y ys hx hr
      cases h
      simp [ih hr]
    · cases h

theorem listMapO_get {α β : Type} {f : α → Option β} :
    ∀ {l : List α} {r : List β}, listMapO f l = some r →
      ∀ (i : Nat) (x : α), l[i]? = some x → ∃ y, f x = some y ∧ r[i]? = some y := by
  intro l
  induction l with
  | nil => intro r _ i x hx; simp at hx
  | cons a as ih =>
    intro r h i x hx
    unfold listMapO at h
    split at h
    · rename_i y ys ha hr
      cases h
      cases i with
      | zero => cases hx; exact ⟨y, ha, rfl⟩
      | succ i => exact ih hr i x hx
    · cases h

theorem typeCompat_entry (inp : CInput) (fuel : Nat) (tc : List (List CTag))
    (h : typeCompat inp fuel = some tc) (p : Nat) (hp : p < inp.table.types.length)
    (hused : p ∈ inp.functions.flatMap (·.isTypes)) :
    ∃ set, compatSet inp (TypeIndex.build inp.table) fuel p = some set ∧ tc[p]? = some set := by
  unfold typeCompat at h
  obtain ⟨y, h1, h2⟩ := listMapO_get h p p (by simp [hp])
  have hc : (inp.functions.flatMap (·.isTypes)).contains p = true := by simpa using hused
  simp only [hc, if_true] at h1
  exact ⟨y, h1, h2⟩

/-- a pattern no `IsType` instruction uses accepts nothing -/
theorem typeCompat_unused (inp : CInput) (fuel : Nat) (tc : List (List CTag))
    (h : typeCompat inp fuel = some tc) (p : Nat) (hp : p < inp.table.types.length)
    (hunused : p ∉ inp.functions.flatMap (·.isTypes)) (c : CTag) : isType tc p c = false := by
  unfold typeCompat at h
  obtain ⟨y, h1, h2⟩ := listMapO_get h p p (by simp [hp])
  have hc : (inp.functions.flatMap (·.isTypes)).contains p = false := by simpa using hunused
  simp only [hc, Bool.false_eq_true, if_false, Option.some.injEq] at h1
  subst h1
  simp [isType, h2]

/-- **Soundness of the runtime test** (first-order fragment, imports C09 `compat_sound_fo`): if the
test accepts a tag whose type entry is `id`, every value of type `id` inhabits the pattern. (The statement has
no runtime value in it: that a value carrying the tag has the type `id` is the hypothesis `inh … id v`.) -/
theorem isType_sound (inp : CInput) (fuel : Nat) (tc : List (List CTag))
    (h : typeCompat inp fuel = some tc) (p id : Nat) (c : CTag)
    (hacc : isType tc p c = true) (hty : tagType inp (TypeIndex.build inp.table) c = some id)
    (hid : FO inp.table id) (hp : FO inp.table p) :
    ∀ v, inh inp.table [] id v → inh inp.table [] p v := by
  -- the pattern is inside the table and used by an IsType instruction, else nothing is accepted
  have hplt : p < inp.table.types.length := by
    obtain ⟨ty, hty', _⟩ := hp.unfold
    exact (List.getElem?_eq_some_iff.mp hty').1
  by_cases hused : p ∈ inp.functions.flatMap (·.isTypes)
  · obtain ⟨set, hset, hget⟩ := typeCompat_entry inp fuel tc h p hplt hused
    have hmem : c ∈ set := by
      simp only [isType, hget] at hacc
      simpa using hacc
    have hacc' := ((compatSet_spec inp _ fuel p set hset c).mp hmem).2
    rw [tagAccepts_of_type inp _ fuel p id c hty] at hacc'
    exact C09.compat_sound_fo inp.table id p fuel hid hp hacc'
  · rw [typeCompat_unused inp fuel tc h p hplt hused c] at hacc
    simp at hacc

/-- **Completeness for the tag's own type**: if the type entry of a tag is assignable to a pattern
that some `IsType` instruction uses, the runtime test accepts the tag. (For a static union type `S`
whose variant is the tag's type this needs "`S ≤ t` implies `variant ≤ t`" as a fact about the
checker's verdicts: `isType_complete_for_variant` below proves it for first-order types; for all closed
types it is `IsTypeCompleteForVariantStatement`, checked by the harness on every generated input.) -/
theorem isType_complete (inp : CInput) (fuel : Nat) (tc : List (List CTag))
    (h : typeCompat inp fuel = some tc) (p id : Nat) (c : CTag)
    (hplt : p < inp.table.types.length) (hused : p ∈ inp.functions.flatMap (·.isTypes))
    (hc : c ∈ allTags inp) (hty : tagType inp (TypeIndex.build inp.table) c = some id)
    (hcompat : isCompatible inp.table fuel id p = some true) : isType tc p c = true := by
  obtain ⟨set, hset, hget⟩ := typeCompat_entry inp fuel tc h p hplt hused
  have : c ∈ set := (compatSet_spec inp _ fuel p set hset c).mpr
    ⟨hc, by rw [tagAccepts_of_type inp _ fuel p id c hty]; exact hcompat⟩
  simp only [isType, hget]
  simpa using this

theorem filterTags_total {f : CTag → Option Bool} :
    ∀ {l r : List CTag}, filterTags f l = some r → ∀ c ∈ l, ∃ b, f c = some b := by
  intro l
  induction l with
  | nil => intro r _ c hc; simp at hc
  | cons x xs ih =>
    intro r h c hc
    unfold filterTags at h
    cases hx : f x with
    | none => simp [hx] at h
    | some b =>
      cases hr : filterTags f xs with
      | none => cases b <;> simp [hx, hr] at h
      | some r' =>
        rcases List.mem_cons.mp hc with rfl | hc
        · exact ⟨b, hx⟩
        · exact ih hr c hc

/-- **Completeness for a variant of a static union type** (first-order types; partial types of the
table do not repeat a field name): if a union `s` is assignable to a pattern `p` that some `IsType`
instruction uses, the runtime test accepts every tag whose type entry is a variant of `s` — "never
reject a known member". The step "`s ≤ p` implies `variant ≤ p`" is a fact about the checker's verdicts
(`C09.compat_variant_fo`: on first-order types the verdict does not depend on the assumptions and
stacks a check starts from). -/
theorem isType_complete_for_variant (inp : CInput) (fuel : Nat) (tc : List (List CTag)) (p s id : Nat)
    (c : CTag) (vs : List Nat) (hd : PartsDistinct inp.table) (hs : FO inp.table s) (hp : FO inp.table p)
    (h : typeCompat inp fuel = some tc) (hused : p ∈ inp.functions.flatMap (·.isTypes))
    (hc : c ∈ allTags inp) (hty : tagType inp (TypeIndex.build inp.table) c = some id)
    (hsty : inp.table.types[s]? = some (.union vs)) (hid : id ∈ vs)
    (hcompat : isCompatible inp.table fuel s p = some true) : isType tc p c = true := by
  have hplt : p < inp.table.types.length := by
    obtain ⟨ty, hty', _⟩ := hp.unfold
    exact (List.getElem?_eq_some_iff.mp hty').1
  obtain ⟨set, hset, hget⟩ := typeCompat_entry inp fuel tc h p hplt hused
  -- the table computation answered for this tag, with the table's fuel …
  obtain ⟨b, hb⟩ := filterTags_total hset c hc
  rw [tagAccepts_of_type inp _ fuel p id c hty] at hb
  -- … and with enough fuel the answer is `true`
  have hbig := C09.compat_variant_fo inp.table hd s p id fuel
    (max fuel (rk inp.table id + rk inp.table p + 1)) vs hs hp hsty hid hcompat (by omega)
  have hb' : isCompatible inp.table (max fuel (rk inp.table id + rk inp.table p + 1)) id p = some b :=
    C09.compat_fuel_irrelevant inp.table (Nat.le_max_left fuel _) id p hb
  rw [hbig] at hb'
  cases hb'
  exact isType_complete inp fuel tc h p id c hplt hused hc hty hb

/-- the statement over all closed types (recursive, callable) stays a statement; the harness checks it on
every generated input -/
def IsTypeCompleteForVariantStatement : Prop :=
  ∀ (inp : CInput) (fuel : Nat) (tc : List (List CTag)) (p s id : Nat) (c : CTag) (vs : List Nat),
    Ordered inp.table → Closed inp.table s → Closed inp.table p →
    typeCompat inp fuel = some tc → p ∈ inp.functions.flatMap (·.isTypes) → c ∈ allTags inp →
    tagType inp (TypeIndex.build inp.table) c = some id →
    inp.table.types[s]? = some (.union vs) → id ∈ vs →
    isCompatible inp.table fuel s p = some true → isType tc p c = true

/-- `check_message_compatible`: a function / builtin source filters by its parameter table; when
the table has no entry for the source, and for every other kind of source, every message passes. -/
theorem mailbox_filter_spec (fp bp : List (List CTag)) (msg : CTag) (src : Source) :
    checkMessage fp bp msg src = true ↔
      match src with
      | .function f => (∀ set, fp[f]? = some set → msg ∈ set)
      | .builtin b => (∀ set, bp[b]? = some set → msg ∈ set)
      | .other => True := by
  cases src with
  | function f =>
    simp only [checkMessage]
    cases fp[f]? <;> simp
  | builtin b =>
    simp only [checkMessage]
    cases bp[b]? <;> simp
  | other => simp [checkMessage]

/-! ### renaming invariance, and the kernel-checked F13 witness

Tree shaking, merging behind other programs and module import rename type ids and tuple ids. If the
new table contains a renamed copy of the old one (`Embeds ρ τ T T'`: `ρ`, `τ` injective, the entry at
the image of an id is the renamed entry), the relation gives the same verdicts on the images
(`checkRelV_map`, proved arm by arm for every mode, fuel, assumption set, stack and historical
variant). Hence a tag is accepted by the image of a pattern exactly when it was accepted by the
pattern — *provided the tag still has a type entry and it is the image of the old one*. That side
condition is what F13 broke: the `Type::Process` entry that only the index uses was dropped. -/

theorem verdict_rename {ρ τ : Nat → Nat} {T T' : Table} (E : Embeds ρ τ T T') (mode : Mode) (fuel a b : Nat) :
    (checkRel T' mode fuel [] {} (ρ a) (ρ b)).map (·.1) = (checkRel T mode fuel [] {} a b).map (·.1) := by
  have := checkRelV_map E Variant.current mode fuel [] {} a b
  simp only [mapAsm, List.map_nil, Stk.map] at this
  unfold checkRel
  rw [this]
  cases checkRelV Variant.current T mode fuel [] {} a b <;> rfl

theorem compat_rename {ρ τ : Nat → Nat} {T T' : Table} (E : Embeds ρ τ T T') (fuel a b : Nat) :
    isCompatible T' fuel (ρ a) (ρ b) = isCompatible T fuel a b :=
  verdict_rename E .all fuel a b

theorem overlap_rename {ρ τ : Nat → Nat} {T T' : Table} (E : Embeds ρ τ T T') (fuel a b : Nat) :
    typesOverlap T' fuel (ρ a) (ρ b) = typesOverlap T fuel a b :=
  verdict_rename E .any fuel a b

/-- **Renaming invariance of the runtime test.** `c'` is the tag `c` in the new numbering (tuple,
function, builtin, resource ids renamed in any way); if its type entry is the image of the old one,
it is accepted by the image of a pattern exactly when `c` was accepted by the pattern. -/
theorem rename_invariant {ρ τ : Nat → Nat} (inp inp' : CInput) (E : Embeds ρ τ inp.table inp'.table)
    (fuel p id : Nat) (c c' : CTag)
    (h : tagType inp (TypeIndex.build inp.table) c = some id)
    (h' : tagType inp' (TypeIndex.build inp'.table) c' = some (ρ id)) :
    tagAccepts inp' (TypeIndex.build inp'.table) fuel (ρ p) c' =
      tagAccepts inp (TypeIndex.build inp.table) fuel p c := by
  rw [tagAccepts_of_type inp' _ fuel (ρ p) (ρ id) c' h', tagAccepts_of_type inp _ fuel p id c h]
  exact compat_rename E fuel id p

/-- the tag `c` in another numbering of tuples (`τ`), functions (`φ`), builtins (`β`), resources (`γ`) -/
def _root_.QM.Types.CTag.mapIds (τ φ β γ : Nat → Nat) : CTag → CTag
  | .integer => .integer
  | .binary => .binary
  | .reference => .reference
  | .tuple id => .tuple (τ id)
  | .function id => .function (φ id)
  | .builtin id => .builtin (β id)
  | .process fn => .process (φ fn)
  | .resource id => .resource (γ id)

theorem extractFn_typeId (T : Table) (f : FnInfo) : (extractFn T f).2.1 = f.typeId := by
  unfold extractFn
  split <;> rfl

theorem extractFn_embeds {ρ τ : Nat → Nat} {T T' : Table} (E : Embeds ρ τ T T') (f f' : FnInfo)
    (hf : f'.typeId = ρ f.typeId) :
    (extractFn T' f').2.2 = ((extractFn T f).2.2.1.map ρ, (extractFn T f).2.2.2.map ρ) := by
  unfold extractFn
  rw [hf, E.types]
  cases hty : T.types[f.typeId]? with
  | none => rfl
  | some ty => cases ty <;> rfl

/-- **`TypeIndex.build` commutes with an embedding into a duplicate-free table**: if the type table of
`inp` embeds into the type table of `inp'` (`Embeds`: tree shake read backwards, merge read forwards),
`inp'`'s type table has no two equal entries, and the functions / builtins / resources of `inp` sit in
`inp'` at the renamed indices with renamed types, then the index entry of every tag of `inp` is carried
to the index entry of the renamed tag — the side condition of `rename_invariant`. (`TypeIndex.build`
keeps FIRST occurrences; in a duplicate-free table the entry of a key is unique, so no order condition
is needed. Without duplicate-freeness the statement is false: an earlier equal entry outside the image
takes the slot.) -/
theorem tagType_embeds {ρ τ : Nat → Nat} (inp inp' : CInput) (E : Embeds ρ τ inp.table inp'.table)
    (hnd : inp'.table.types.Nodup) (φ β γ : Nat → Nat)
    (hfn : ∀ fid f, inp.functions[fid]? = some f →
      ∃ f', inp'.functions[φ fid]? = some f' ∧ f'.typeId = ρ f.typeId)
    (hbi : ∀ bid b, inp.builtins[bid]? = some b → inp'.builtins[β bid]? = some (ρ b.1, ρ b.2))
    (hres : ∀ rid n, inp.resources[rid]? = some n → inp'.resources[γ rid]? = some n)
    (c : CTag) (id : Nat) (h : tagType inp (TypeIndex.build inp.table) c = some id) :
    tagType inp' (TypeIndex.build inp'.table) (c.mapIds τ φ β γ) = some (ρ id) := by
  cases c with
  | integer => exact integer_index_embeds E hnd id h
  | binary => exact binary_index_embeds E hnd id h
  | reference => exact reference_index_embeds E hnd id h
  | tuple tid => exact tuple_index_embeds E hnd tid id h
  | function fid =>
    simp only [tagType, CTag.mapIds] at h ⊢
    cases hf : inp.functions[fid]? with
    | none => simp [hf] at h
    | some f =>
      obtain ⟨f', hf', hty⟩ := hfn fid f hf
      simp only [hf, Option.map_some, Option.some.injEq, extractFn_typeId] at h
      simp only [hf', Option.map_some, extractFn_typeId, hty, h]
  | builtin bid =>
    simp only [tagType, CTag.mapIds] at h ⊢
    cases hb : inp.builtins[bid]? with
    | none => simp [hb] at h
    | some b =>
      simp only [hb, Option.bind_some] at h
      simp only [hbi bid b hb, Option.bind_some]
      exact callable_index_embeds E hnd b.1 b.2 id h
  | process fid =>
    simp only [tagType, CTag.mapIds] at h ⊢
    cases hf : inp.functions[fid]? with
    | none => simp [hf] at h
    | some f =>
      obtain ⟨f', hf', hty⟩ := hfn fid f hf
      simp only [hf, Option.bind_some] at h
      simp only [hf', Option.bind_some]
      have e := extractFn_embeds E f f' hty
      rw [show (extractFn inp'.table f').2.2.1 = (extractFn inp.table f).2.2.1.map ρ from by rw [e],
        show (extractFn inp'.table f').2.2.2 = (extractFn inp.table f).2.2.2.map ρ from by rw [e]]
      exact process_index_embeds E hnd _ _ id h
  | resource rid =>
    simp only [tagType, CTag.mapIds] at h ⊢
    cases hr : inp.resources[rid]? with
    | none => simp [hr] at h
    | some n =>
      simp only [hr, Option.bind_some] at h
      simp only [hres rid n hr, Option.bind_some]
      exact resource_index_embeds E hnd n id h

/-- `rename_invariant` without its two index hypotheses -/
theorem rename_invariant_of_embeds {ρ τ : Nat → Nat} (inp inp' : CInput)
    (E : Embeds ρ τ inp.table inp'.table) (hnd : inp'.table.types.Nodup) (φ β γ : Nat → Nat)
    (hfn : ∀ fid f, inp.functions[fid]? = some f →
      ∃ f', inp'.functions[φ fid]? = some f' ∧ f'.typeId = ρ f.typeId)
    (hbi : ∀ bid b, inp.builtins[bid]? = some b → inp'.builtins[β bid]? = some (ρ b.1, ρ b.2))
    (hres : ∀ rid n, inp.resources[rid]? = some n → inp'.resources[γ rid]? = some n)
    (fuel p id : Nat) (c : CTag) (h : tagType inp (TypeIndex.build inp.table) c = some id) :
    tagAccepts inp' (TypeIndex.build inp'.table) fuel (ρ p) (c.mapIds τ φ β γ) =
      tagAccepts inp (TypeIndex.build inp.table) fuel p c :=
  rename_invariant inp inp' E fuel p id c _ h (tagType_embeds inp inp' E hnd φ β γ hfn hbi hres c id h)

/-- …and the converse side condition: a tag that lost its entry is accepted by nothing (F13) -/
theorem rename_loses_tag_without_entry (inp' : CInput) (fuel p' : Nat) (c' : CTag)
    (h' : tagType inp' (TypeIndex.build inp'.table) c' = none)
    (hc : c' ≠ .integer ∧ c' ≠ .binary ∧ c' ≠ .reference) :
    tagAccepts inp' (TypeIndex.build inp'.table) fuel p' c' = some false :=
  tagAccepts_absent inp' _ fuel p' c' h' hc

/-- the hypotheses of `rename_invariant` are satisfiable by a non-trivial embedding: F12's table
behind one more type (a `ref` entry in front) and two more tuples -/
example : ∃ (ρ τ : Nat → Nat) (T' : Table), Embeds ρ τ C09.tF12 T' ∧ ρ 3 = 4 ∧ τ 2 = 4 :=
  ⟨(· + 1), (· + 2),
    ⟨.reference :: C09.tF12.types.map (Ty.rename (· + 1) (· + 2)),
      ⟨none, []⟩ :: ⟨some 1, []⟩ :: C09.tF12.tuples.map (TupleInfo.rename (· + 1))⟩,
    ⟨fun _ _ h => Nat.add_right_cancel h, fun _ _ h => Nat.add_right_cancel h,
      fun _ => List.getElem?_map .., fun _ => List.getElem?_map ..⟩, rfl, rfl⟩

/-- F13, direct: 0 int, 1 never, 2 `#(int -> int ! never)` (the spawned function's type),
3 `@(never / int)` = the `Type::Process` entry registered at the spawn site; function 0 has type 2 and
tests `IsType 3` -/
def f13Direct : CInput :=
  ⟨⟨[.integer, .union [], .callable 0 0 1, .process (some 1) (some 0)], [⟨none, []⟩, ⟨some 1, []⟩]⟩,
   [⟨2, [3]⟩], [], []⟩

/-- F13, tree-shaken by the old code: the `Type::Process` entry is gone (no instruction refers to
it) — the same input without it -/
def f13Shaken : CInput :=
  ⟨⟨[.integer, .union [], .callable 0 0 1], [⟨none, []⟩, ⟨some 1, []⟩]⟩, [⟨2, [2]⟩], [], []⟩

theorem F13_direct_has_entry : tagType f13Direct (TypeIndex.build f13Direct.table) (.process 0) = some 3 := by
  decide +kernel
theorem F13_direct_accepts :
    (typeCompat f13Direct 8).map (fun tc => isType tc 3 (.process 0)) = some true := by decide +kernel
theorem F13_shaken_has_no_entry :
    tagType f13Shaken (TypeIndex.build f13Shaken.table) (.process 0) = none := by decide +kernel
/-- without the entry the process tag is accepted by NO pattern, whatever the fuel -/
theorem F13_shaken_never_accepts (fuel pattern : Nat) :
    tagAccepts f13Shaken (TypeIndex.build f13Shaken.table) fuel pattern (.process 0) = some false :=
  tagAccepts_absent _ _ _ _ _ F13_shaken_has_no_entry (by decide +kernel)

/-- hypotheses of `isType_sound` are satisfiable: F12's table with a function testing `IsType 6` -/
example : ∃ inp : CInput,
    (typeCompat inp 12).map (fun tc => isType tc 6 (.tuple 4)) = some true ∧
    tagType inp (TypeIndex.build inp.table) (.tuple 4) = some 5 ∧ FO inp.table 5 ∧ FO inp.table 6 :=
  ⟨⟨C09.tF12, [⟨0, [6]⟩], [], []⟩, by decide +kernel, by decide +kernel, ⟨4, by decide +kernel⟩, ⟨4, by decide +kernel⟩⟩

end C08
