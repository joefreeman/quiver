import QuiverModel.Lemmas.VM.HeapBridge
import QuiverModel.Theorems.C06
import QuiverModel.Theorems.C16
/-
C16, heap half — binaries dropped by earlier iterations are reclaimed:
`tail_loop_heap_bound` and `dropped_binaries_reclaimed`, on M-Heap (C06's model and invariant).
Imports Lemmas/VM/HeapBridge.lean, which supplies the agreement of the two models on a tail call
(`Bridge.tailcall_agrees`) and the reclamation lemmas (`in_use_after_reclaim`,
`slotsInUse_after_reclaim_le`, `reclaimed_of_unreachable`, `tailcall_self_countRefs`); the one fact
taken from Theorems/C16.lean is `C16.tailcall_reenters` (the process re-enters `AtEntry`).
-/
namespace C16
open QM.Heap QM.Heap.State

open Bridge
open QM.VM (Prog Anns AllChecked)

/-- Heap half of C16. Take an executor state `s` (M-Heap, invariant `Inv`,
nothing in transit — i.e. between two handlers) whose process `pid` is, as a VM process, a state
`vp` of a certified program (`QM.VM.Inv`, C07) about to execute a tail call (`^`: `r = true`;
`^f` / `^~`: `r = false`) that succeeds. Then on the heap model the same instruction succeeds and,
in the state `t` after it — the return to the loop head —
  * the process re-enters with the sizes of `C16.AtEntry` (frames, locals =
    locals base + captures, stack = entry height — functions of the activation only), so its roots
    are the argument, what lies below the frame, the captures, and the mailbox / result / select /
    awaiting entries, which the tail call does not touch;
  * for every slot, the references from all roots changed exactly by the difference between the
    old and the new roots of this process (the iteration's locals are gone);
  * `Inv t` holds and nothing is in transit, so at the start of the next `step`
    (`process_pending_free`) **every slot in use is reachable from the roots of `t`** (or is a
    never-retained allocation), the number of slots in use is at most
    `t.reachable.length + t.fresh.length`, and every slot that is not reachable — in particular
    every binary allocated by an earlier iteration and not reachable from the argument — is back in
    the reuse pool, with the deferred-free queue empty.
The bound mentions `t` only: it is the same at the first and at the k-th return to the loop head. -/
def TailLoopHeapBoundStatement : Prop :=
  ∀ (P : Prog) (A : Array Anns) (s0 : Nat), AllChecked P A →
  ∀ (vp vp' : QM.VM.Proc) (act : Option QM.VM.Action) (r : Bool) (f : QM.VM.Frame) (rest : List QM.VM.Frame),
    QM.VM.Inv P A s0 vp → vp.frames = f :: rest → vp.park = .none →
    P.currentInstr vp = some (.tailCall r) → QM.VM.handleTailCall P vp r = .ok (vp', act) →
  ∀ (env : Env), C06.EnvOk env → (∀ i, (P.functions[i]?).isSome = true → env.fnExists i = true) →
  ∀ (s : State) (pid : Nat) (p : Proc), Inv s → s.transit = [] → s.getProc pid = some p → Shadows vp p →
    (exec env s pid (.tailCall r)).2 = .ok ∧
    Inv (exec env s pid (.tailCall r)).1 ∧ (exec env s pid (.tailCall r)).1.transit = [] ∧
    ∃ (p' : Proc) (fi : Nat),
      (exec env s pid (.tailCall r)).1.getProc pid = some p' ∧ Shadows vp' p' ∧
      C16.AtEntry P A s0 rest f.localsBase fi vp' ∧
      p'.frames.length = vp'.frames.length ∧ p'.locals.length = vp'.locals.length ∧
      p'.stack.length = vp'.stack.length ∧
      p'.mailbox = p.mailbox ∧ p'.result = p.result ∧ p'.selectState = p.selectState ∧
      p'.awaiting = p.awaiting ∧
      (∀ i, (exec env s pid (.tailCall r)).1.countRefs i + p.count i = s.countRefs i + p'.count i) ∧
      (∀ i, i < (exec env s pid (.tailCall r)).1.heap.size →
        (processPendingFree (exec env s pid (.tailCall r)).1).isFreed i = false →
        i ∈ (exec env s pid (.tailCall r)).1.reachable ∨ i ∈ (exec env s pid (.tailCall r)).1.fresh) ∧
      slotsInUse (processPendingFree (exec env s pid (.tailCall r)).1)
        ≤ (exec env s pid (.tailCall r)).1.reachable.length + (exec env s pid (.tailCall r)).1.fresh.length ∧
      (∀ i, i < (exec env s pid (.tailCall r)).1.heap.size → i ∉ (exec env s pid (.tailCall r)).1.reachable →
        i ∉ (exec env s pid (.tailCall r)).1.fresh →
        (processPendingFree (exec env s pid (.tailCall r)).1).isFreed i = true ∧
        i ∈ (processPendingFree (exec env s pid (.tailCall r)).1).free) ∧
      (processPendingFree (exec env s pid (.tailCall r)).1).pendingFree = []

theorem tail_loop_heap_bound : TailLoopHeapBoundStatement := by
  intro P A s0 hA vp vp' act r f rest hvm hfr hpark hcur hstep env henv hfx s pid p hinv ht hp hsh
  have hexec : exec env s pid (.tailCall r) = handleTailCall s pid r env.fnExists := rfl
  obtain ⟨hI, _, htr⟩ := C06.acct_step_instr env henv hinv pid (.tailCall r) trivial
  have ht' : (exec env s pid (.tailCall r)).1.transit = [] := htr.trans ht
  obtain ⟨hok, p', hgp, hsh', hcnt, hm, hres, hsel, haw⟩ := tailcall_agrees hstep hp hsh env.fnExists hfx
  obtain ⟨fi, hent, _⟩ := C16.tailcall_reenters hA hvm hfr hpark hcur hstep
  rw [hexec] at *
  refine ⟨hok, hI, ht', p', fi, hgp, hsh', hent, ?_, ?_, ?_, hm, hres, hsel, haw, hcnt, ?_, ?_, ?_, ?_⟩
  · rw [hsh'.frames, List.length_map]
  · rw [hsh'.locals, List.length_map]
  · rw [hsh'.stack, List.length_map]
  · exact in_use_after_reclaim hI ht'
  · exact slotsInUse_after_reclaim_le hI ht'
  · exact fun i hi hnr hnf => reclaimed_of_unreachable hI ht' hi hnr hnf
  · exact pendingFree_processPendingFree _

/-- A binary that, before a self tail call, is referenced only
from the iteration's locals (everything above the captures) — not from the argument, the captures,
the rest of the stack, the mailbox, another process or the constant cache — is in the reuse pool
after the tail call and the next `process_pending_free`. -/
theorem dropped_binaries_reclaimed {s : State} {pid : Nat} {p : Proc} {arg : Val} {st : List Val}
    {f : Frame} {rest : List Frame} (env : Env) (henv : C06.EnvOk env)
    (hinv : Inv s) (ht : s.transit = [])
    (hp : s.getProc pid = some p) (hs : p.stack = arg :: st) (hf : p.frames = f :: rest)
    (i : Nat) (hi : i < s.heap.size)
    (honly : s.countRefs i = countList i (p.locals.drop (f.localsBase + f.capturesCount)))
    (hnf : i ∉ s.fresh) :
    (processPendingFree (exec env s pid (.tailCall true)).1).isFreed i = true ∧
    i ∈ (processPendingFree (exec env s pid (.tailCall true)).1).free := by
  have hexec : exec env s pid (.tailCall true) = handleTailCall s pid true env.fnExists := rfl
  obtain ⟨hI, hst, htr⟩ := C06.acct_step_instr env henv hinv pid (.tailCall true) trivial
  rw [hexec] at hI hst htr ⊢
  have ht' := htr.trans ht
  have hc := tailcall_self_countRefs env.fnExists hp hs hf i
  have hz : (handleTailCall s pid true env.fnExists).1.countRefs i = 0 := by omega
  have hnr : i ∉ (handleTailCall s pid true env.fnExists).1.reachable := by
    rw [mem_reachable_iff]; omega
  -- the tail call allocates nothing: `fresh` can only shrink
  exact reclaimed_of_unreachable hI ht' (Nat.lt_of_lt_of_le hi hst.size) hnr
    fun h => hnf (fresh_tailcall_self_sub s pid env.fnExists i h)

section Example
open QM.VM (Instr Function Prog Anns inferAnn)

/-- `Store` (bind the argument — a heap binary — to a local), push the next argument, `^`. -/
def exProg : Prog :=
  { constants := #[.int 0],
    functions := #[{ instructions := #[.store, .constant 0, .tailCall true], captures := 0, typeId := 0 }],
    tuples := #[0, 0], types := 1, builtins := 0 }

def exAnns : Array Anns := #[inferAnn exProg 0]

theorem exProg_checked : AllChecked exProg exAnns := by
  intro f hf
  have : f = 0 := by simp [exProg] at hf; omega
  subst this
  decide +kernel

/-- M-Heap: process 0 spawned with a heap binary as argument (slot 0), the argument stored into a
local, the integer 0 pushed: the state just before the tail call. -/
def exHeap : State :=
  let s := (spawnProcess State.init 0 (some 0) [] (.bin (.heap 0)) [[7]] false).1
  let s := (exec {} s 0 .store).1
  (exec {} s 0 (.constant 0 (some (.int 0)))).1

def exHeapProc : Proc :=
  { stack := [.int 0], locals := [.bin (.heap 0)], frames := [⟨0, 0, 0, 2⟩] }

theorem exHeap_proc : exHeap.getProc 0 = some exHeapProc := by rfl

theorem exHeap_inv : Inv exHeap := by
  have e : C06.EnvOk {} := by intro id r hr; cases hr
  have h0 := C06.acct_step_spawnProcess C06.acct_init 0 (some 0) [] (.bin (.heap 0)) [[7]] false rfl
  have h1 := (C06.acct_step_instr {} e h0 0 .store trivial).1
  exact (C06.acct_step_instr {} e h1 0 (.constant 0 (some (.int 0))) trivial).1

theorem exHeap_transit : exHeap.transit = [] := by
  have : exHeap.transit.length = 0 := by decide +kernel
  exact List.eq_nil_of_length_eq_zero this

/-- the same process in M-VM -/
def exVM : QM.VM.Proc :=
  { stack := [.int 0], locals := [.bin (.heap 0)], frames := [⟨0, 0, 0, 2⟩] }

theorem exVM_shadows : Bridge.Shadows exVM exHeapProc := ⟨rfl, rfl, rfl⟩

theorem exVM_inv : QM.VM.Inv exProg exAnns 0 exVM := by
  refine QM.VM.Inv.intro (f := ⟨0, 0, 0, 2⟩) (rest := []) (sb := 0) rfl ?_ ?_ ?_ ?_ rfl ?_ rfl
  · intro v hv; simp [exVM] at hv; subst hv; rfl
  · intro v hv; simp [exVM] at hv; subst hv; rfl
  · intro st h; cases h
  · intro st h; cases h
  · exact .normal exProg.functions[0] ⟨1, 1, .none⟩ (.tailCall true)
      ⟨rfl, fun _ => rfl, by decide +kernel, rfl⟩ (by decide) rfl rfl (by intro st h; cases h) (by simp)

/-- all hypotheses of `tail_loop_heap_bound` hold for it … -/
example :
    (exec {} exHeap 0 (.tailCall true)).2 = .ok ∧ Inv (exec {} exHeap 0 (.tailCall true)).1 ∧
    slotsInUse (processPendingFree (exec {} exHeap 0 (.tailCall true)).1)
      ≤ (exec {} exHeap 0 (.tailCall true)).1.reachable.length + (exec {} exHeap 0 (.tailCall true)).1.fresh.length := by
  have e : C06.EnvOk {} := by intro id r hr; cases hr
  have hstep : QM.VM.handleTailCall exProg exVM true =
      .ok ({ exVM with locals := [], frames := [QM.VM.Frame.new 0 0 0] }, none) := rfl
  obtain ⟨h1, h2, _, _, _, _, _, _, _, _, _, _, _, _, _, _, _, h3, _⟩ :=
    tail_loop_heap_bound exProg exAnns 0 exProg_checked exVM _ none true ⟨0, 0, 0, 2⟩ [] exVM_inv rfl rfl rfl hstep
      {} e (fun _ _ => rfl) exHeap 0 exHeapProc exHeap_inv exHeap_transit exHeap_proc exVM_shadows
  exact ⟨h1, h2, h3⟩

/-- … and it is not vacuous: the binary bound by the iteration (slot 0) is in use before the tail
call, unreachable after it, and back in the reuse pool after the next `process_pending_free`; the
next iteration's allocation reuses it. -/
example : slotsInUse exHeap = 1 ∧ (exec {} exHeap 0 (.tailCall true)).1.reachable = [] ∧
    slotsInUse (processPendingFree (exec {} exHeap 0 (.tailCall true)).1) = 0 ∧
    (processPendingFree (exec {} exHeap 0 (.tailCall true)).1).free = [0] ∧
    (allocate (processPendingFree (exec {} exHeap 0 (.tailCall true)).1) (.owned [9])).1 = some 0 := by
  decide +kernel

end Example

end C16
