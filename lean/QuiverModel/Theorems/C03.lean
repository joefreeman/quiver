import QuiverModel.Theorems.C04
import QuiverModel.Lemmas.Sys.Commute
import QuiverModel.Lemmas.Sys.Kahn
import QuiverModel.Lemmas.Sys.Stream
import QuiverModel.Lemmas.Sys.Uniq
/-
C03 — Results do not depend on scheduling, worker count or time-slice length.

Level `other`: the end-to-end confluence statement (`ConfluenceStatement`) is NOT proved in full.
Proved for script tables with a static register typing (`RegTyping`: every select has one process source
or one receive): DETERMINACY — every process's history is the Kahn trace of its script (`kahn_invariant`,
`history_is_trace`), so two runs with any worker counts, quanta, schedules and ordering hints agree
on every history prefix and on every result both have (`confluence_histories_agree`,
`confluence_results_agree`, given that arrivals follow fixed streams; without receives
`confluence_results_agree_noRecv`; with receives, from static hypotheses on the table alone —
one sender script per mailbox, every script spawned at one place — `confluence_results_agree_static`; all for runs
past start-up, `¬ PreStart`).
The statement's conclusion then follows from the progress half alone (`confluence_static_partial`,
`confluence_await_spawn_partial`; missing hypothesis `ProgressStatement`).  Not proved: progress.
Also proved on M-Sys (the model executed in
lock-step with the real Environment/Workers), the building blocks: worker steps are local and commute, the time slice is additive in its budget, the
arrival order in a single-sender mailbox is the sender's send order in every schedule, no schedule
produces an internal error, no schedule loses a wake-up (from C04).  The rest is exploration
(harness/src/bin/c03.rs).
-/
namespace C03
open QM.Sys
set_option linter.unusedSectionVars false
section
variable [Cfg]

/-- **Steps of two different workers commute**: for `i ≠ j`, performing `Worker::step` of worker
`i` (any visibility, slice length, iteration orders) and then of worker `j` yields the same
system state as the other order — workers, queues, environment, clock, fault flag; only the order of
entries in the ghost histories differs.  (Each worker step reads and writes only its own executor,
its own command queue and its own event queue: `Local.workerStep`.) -/
theorem worker_steps_commute (s : Sys) (i j : Wid) (hij : i ≠ j) (hi : i < s.n) (hj : j < s.n)
    (vi fi : Nat) (qi ei : List Pid) (vj fj : Nat) (qj ej : List Pid) :
    CoreEq (sysStep (sysStep s (.worker i vi fi qi ei)) (.worker j vj fj qj ej))
           (sysStep (sysStep s (.worker j vj fj qj ej)) (.worker i vi fi qi ei)) := by
  have hA := Local.workerStep Rules.current i vi fi qi ei
  have hB := Local.workerStep Rules.current j vj fj qj ej
  have hnA : (workerStepWith Rules.current s i vi fi qi ei).n = s.n := (hA.frame s).n
  have hnB : (workerStepWith Rules.current s j vj fj qj ej).n = s.n := (hB.frame s).n
  simp only [sysStep, sysStepWith, hi, hj, if_true, hnA, hnB]
  exact local_commute hA hB hij s

/-- A worker step is local to its worker: it reads and writes only worker `i`'s executor, command queue and
event queue (and appends to the ghost histories).  Its interaction with the environment, which consumes events
and produces commands in FIFO order per worker, is the subject of `C04.delivery_conservation`. -/
theorem worker_step_local (R : Rules) (i : Wid) (vis fuel : Nat) (ordQ ordE : List Pid) :
    Local (fun s => workerStepWith R s i vis fuel ordQ ordE) i := Local.workerStep R i vis fuel ordQ ordE

/-- **Where a time slice is cut is irrelevant for what the process does**: running a process for
`f1` attempts and — if the slice ended only because the budget was used up — for `f2` more is the
same as running it for `f1 + f2` attempts at once.  (A slice boundary changes nothing but the
rotation of the run queue.) -/
theorem quantum_irrelevant_single (prog : Prog) (now : Nat) (self : Pid) (f1 f2 : Nat) (p : Proc) :
    slice prog now self (f1 + f2) p = contWith prog now self f2 (slice prog now self f1 p) :=
  slice_add prog now self f1 f2 p

/-- … in particular a slice that reaches a routed action, a park or the end of the process within
`f1` attempts is not changed by a larger budget. -/
theorem quantum_irrelevant_after_boundary (prog : Prog) (now : Nat) (self : Pid) (f1 f2 : Nat) (p : Proc)
    (h : (slice prog now self f1 p).2 ≠ .cont) :
    slice prog now self (f1 + f2) p = slice prog now self f1 p := by
  rw [slice_add]
  generalize slice prog now self f1 p = r at h
  obtain ⟨p', out⟩ := r
  cases out <;> first | rfl | exact absurd rfl h

/-- all messages ever sent to `b` come from `a`: a property of one run, about pids (its static counterpart, about scripts, is
`QM.Sys.SingleSenderTable`; no lemma relates the two) -/
def SingleSender (s : Sys) (a b : Pid) : Prop := ∀ rm ∈ s.sent, rm.1 = b → rm.2.src = a

/-- the arrival history of `b` (all senders): what `notify_message` handled for it — under the variant `releaseDead` including
messages for a finished process, which are not stored -/
def arrivals (s : Sys) (b : Pid) : List Msg := (s.appended.filter (fun rm => rm.1 = b)).map (·.2)

/-- **The content and order of a single-sender mailbox are determined by the sender alone**: in
every schedule, with any number of workers and any slicing, what has arrived in `b`'s mailbox is a
prefix of the sequence of messages `a` sent to `b`, in send order — and all of it once the queues
are empty.  (The inductive core of the Kahn-style confluence argument.) -/
theorem mailbox_sequence_determined (n : Nat) (prog : Prog) (req : Nat) (hn : 0 < n) (hwf : ProgWF prog)
    (cs : List Choice) (a b : Pid) (hs : SingleSender (C04.reach n prog req cs) a b) :
    arrivals (C04.reach n prog req cs) b <+: sel a b (C04.reach n prog req cs).sent ∧
    ((C04.reach n prog req cs).idle → arrivals (C04.reach n prog req cs) b = sel a b (C04.reach n prog req cs).sent) := by
  -- everything that arrived was sent: by conservation for the pair (src, b)
  have harr : ∀ rm ∈ (C04.reach n prog req cs).appended, rm.1 = b → rm.2.src = a := by
    intro rm hrm hb
    have hpre := C04.appended_prefix_of_sent n prog req hn hwf cs rm.2.src b
    have hin : rm.2 ∈ sel rm.2.src b (C04.reach n prog req cs).appended := by
      simp only [sel, List.mem_filterMap]
      exact ⟨rm, hrm, by simp [hb]⟩
    have hin2 := hpre.subset hin
    simp only [sel, List.mem_filterMap] at hin2
    obtain ⟨rm2, hrm2, heq⟩ := hin2
    split at heq
    · rename_i hc
      simp only [Option.some.injEq] at heq
      rw [← heq]
      exact hs rm2 hrm2 hc.1
    · cases heq
  have he : arrivals (C04.reach n prog req cs) b = sel a b (C04.reach n prog req cs).appended :=
    filter_eq_sel a b _ harr
  rw [he]
  exact ⟨C04.appended_prefix_of_sent n prog req hn hwf cs a b,
         fun hidle => C04.quiescent_all_delivered n prog req hn hwf cs a b hidle⟩

/-- **No internal error**: from any state satisfying the routing invariant (every pid in any queue,
register or awaiter table is routed, …) no scheduler choice makes `Environment::step` or
`Worker::step` return an `EnvironmentError`, and the invariant is kept. -/
theorem no_internal_error (s : Sys) (h : RInv s) (c : Choice) : (sysStep s c).fault = false ∧ RInv (sysStep s c) := by
  have := sysStep_invariant Rules.current RInv (fun s m hs => hs.micro Rules.current_tame m) s c h
  exact ⟨this.nofault, this⟩

/-- … and none is ever produced from start-up (`C04.no_fault`). -/
theorem no_internal_error_reachable (n : Nat) (prog : Prog) (req : Nat) (hn : 0 < n) (hwf : ProgWF prog) (cs : List Choice) :
    (C04.reach n prog req cs).fault = false := C04.no_fault n prog req hn hwf cs

/-- No schedule loses a wake-up (`C04.quiescent_no_blocked_ready`, `C04.quiescent_no_spawner_waiting`):
when the system is idle no parked process has a ready source and no spawner waits for its pid. -/
theorem no_deadlock_from_lost_wakeup (n : Nat) (prog : Prog) (req : Nat) (hn : 0 < n) (hwf : ProgWF prog) (cs : List Choice)
    (hidle : (C04.reach n prog req cs).idle) (w : Wid) (hw : w < (C04.reach n prog req cs).n) :
    ((C04.reach n prog req cs).wk w).spawning = [] ∧
    ∀ p x, p ∈ ((C04.reach n prog req cs).wk w).selecting → ((C04.reach n prog req cs).wk w).procs p = some x →
      ¬ LocalReady (C04.reach n prog req cs).prog x :=
  ⟨C04.quiescent_no_spawner_waiting n prog req hn hwf cs hidle w hw,
   fun p x hp hx => C04.quiescent_no_blocked_ready n prog req hn hwf cs hidle w p x hp hx⟩

/-- a script table is in the confluent class: every select has exactly one source and it is not a
timeout, nothing fails (single-sender mailboxes are a property of runs: `SingleSender`) -/
def ConfluentProg (prog : Prog) : Prop :=
  ∀ sc ∈ prog, ∀ a ∈ sc, match a with
    | .select [.proc _] => True
    | .select [.recv _] => True
    | .select _ => False
    | .fail => False
    | _ => True

/-- final results per script: the result of a process that ran script `k` (one process under `SpawnOnce`:
`one_process_per_script`).  Before start-up the sleeping record of pid 0 counts as a result of script 0. -/
def resultOfScript (s : Sys) (k : Nat) (r : Res) : Prop :=
  ∃ w p x, (s.wk w).procs p = some x ∧ x.fn = k ∧ x.result = some r

/-- **Confluence** (full statement, NOT proved): for a confluent script table, any two complete (idle) runs — with any two
worker counts, any slicing, any interleaving — of which the first has single-sender mailboxes (for every `a`, `b`: all
messages to `b` come from `a`, or none does) give the same result for every script. -/
def ConfluenceStatement : Prop :=
  ∀ (prog : Prog), ProgWF prog → ConfluentProg prog →
    ∀ (n1 n2 : Nat) (req1 req2 : Nat) (cs1 cs2 : List Choice), 0 < n1 → 0 < n2 →
      (C04.reach n1 prog req1 cs1).idle → (C04.reach n2 prog req2 cs2).idle →
      (∀ a b, SingleSender (C04.reach n1 prog req1 cs1) a b ∨ ∀ rm ∈ (C04.reach n1 prog req1 cs1).sent, rm.1 ≠ b ∨ rm.2.src ≠ a) →
      ∀ k r, resultOfScript (C04.reach n1 prog req1 cs1) k r → resultOfScript (C04.reach n2 prog req2 cs2) k r

/-- what is proved towards it on every state, collected: commutation of worker steps, slice additivity,
no internal error. -/
theorem confluence_partial :
    (∀ (s : Sys) (i j : Wid), i ≠ j → i < s.n → j < s.n → ∀ vi fi qi ei vj fj qj ej,
      CoreEq (sysStep (sysStep s (.worker i vi fi qi ei)) (.worker j vj fj qj ej))
             (sysStep (sysStep s (.worker j vj fj qj ej)) (.worker i vi fi qi ei))) ∧
    (∀ prog now self f1 f2 p, slice prog now self (f1 + f2) p = contWith prog now self f2 (slice prog now self f1 p)) ∧
    (∀ n prog req, 0 < n → ProgWF prog → ∀ cs, (C04.reach n prog req cs).fault = false) :=
  ⟨fun s i j hij hi hj vi fi qi ei vj fj qj ej => worker_steps_commute s i j hij hi hj vi fi qi ei vj fj qj ej,
   fun prog now self f1 f2 p => slice_add prog now self f1 f2 p,
   fun n prog req hn hwf cs => C04.no_fault n prog req hn hwf cs⟩

end

/-- `worker_steps_commute` is not only about idle workers: a reachable state in which two workers both have commands to handle -/
example : (C04.reach 2 C04.exProg 1 [.worker 0 100 5 [] [], .env [100, 100]]).cmdQ 1 ≠ [] ∧
    (C04.reach 2 C04.exProg 1 [.worker 0 100 5 [] [], .env [100, 100]]).cmdQ 0 ≠ [] := by decide

section
variable [Cfg]


theorem not_preStart_of_idle {s : Sys} (hidle : s.idle) : ¬ PreStart s := by
  intro h
  obtain ⟨k, req, hq⟩ := h.cmd0
  have := (hidle 0 h.npos).1
  rw [hq] at this
  cases k <;> simp [List.replicate] at this

/-- no script of the table receives -/
def NoRecv (prog : Prog) : Prop := ∀ k, hasRecv prog k = false

theorem streamOK_of_noRecv {prog : Prog} (h : NoRecv prog) (σ : Nat → List (Nat × Nat)) (s : Sys) (hp : s.prog = prog) :
    StreamOK σ s := by
  intro w p x _ hr
  rw [hp, h x.fn] at hr; cases hr

theorem reach_prog (n : Nat) (prog : Prog) (req : Nat) (cs : List Choice) : (C04.reach n prog req cs).prog = prog :=
  run_prog Rules.current (Sys.init n prog req) cs

/-- **Kahn invariant**, reachable states: for a script table with a static register typing
(`RegTyping`: send/spawn/await/receive scripts, every select ONE process source or ONE receive —
plain, typed or filter) every process's history `acc` is THE trace of its script at its position,
and a finished process's result is the value of its complete trace — for every worker count,
slicing, interleaving and ordering hint, in every run whose arrival histories follow the streams
`σ` (`StreamOK`: what was appended to the mailbox of a receiving process is a prefix of `σ` of its
script; vacuous for tables without receives, `streamOK_of_noRecv`). -/
theorem kahn_invariant (ρ : Nat → Nat → Nat) (ar : Nat → Nat) (σ : Nat → List (Nat × Nat)) (n : Nat) (prog : Prog) (req : Nat)
    (hn : 0 < n) (hwf : ProgWF prog) (hty : RegTyping prog ρ ar) (cs : List Choice)
    (hsd : StreamOK σ (C04.reach n prog req cs)) :
    PreStart (C04.reach n prog req cs) ∨ KInv ρ ar σ (C04.reach n prog req cs) :=
  QM.Sys.kahn_invariant ρ ar σ n prog req hn hwf hty cs hsd

/-- every process's history is the Kahn trace of its script (started states) -/
theorem history_is_trace (ρ : Nat → Nat → Nat) (ar : Nat → Nat) (σ : Nat → List (Nat × Nat)) (n : Nat) (prog : Prog) (req : Nat)
    (hn : 0 < n) (hwf : ProgWF prog) (hty : RegTyping prog ρ ar) (cs : List Choice)
    (hsd : StreamOK σ (C04.reach n prog req cs)) (hs : ¬ PreStart (C04.reach n prog req cs))
    (w : Wid) (p : Pid) (x : Proc) (hx : ((C04.reach n prog req cs).wk w).procs p = some x) :
    (∃ rem, Trace prog ρ σ x.fn x.pc x.acc rem) ∧
    (∀ r, x.result = some r → r = .ok x.value ∧ x.pc = (prog.getD x.fn []).length) := by
  rcases kahn_invariant ρ ar σ n prog req hn hwf hty cs hsd with h | h
  · exact absurd h hs
  · have hp := h.procs w p x hx
    have hpr := reach_prog n prog req cs
    obtain ⟨rem, htr, _⟩ := hp.trace
    refine ⟨⟨rem, by rwa [hpr] at htr⟩, ?_⟩
    intro r hr
    cases r with
    | err => exact absurd hr hp.noerr
    | ok v =>
      obtain ⟨h1, h2, _⟩ := hp.fin v hr
      rw [hpr] at h2
      exact ⟨by rw [h1], h2⟩

/-- **Determinacy of histories** across runs: two processes that run the same script — in two runs
with any worker counts, quanta, schedules — have prefix-related histories. -/
theorem confluence_histories_agree (ρ : Nat → Nat → Nat) (ar : Nat → Nat) (σ : Nat → List (Nat × Nat)) (prog : Prog)
    (hwf : ProgWF prog) (hty : RegTyping prog ρ ar) (n1 n2 req1 req2 : Nat) (cs1 cs2 : List Choice) (hn1 : 0 < n1) (hn2 : 0 < n2)
    (hsd1 : StreamOK σ (C04.reach n1 prog req1 cs1)) (hsd2 : StreamOK σ (C04.reach n2 prog req2 cs2))
    (hs1 : ¬ PreStart (C04.reach n1 prog req1 cs1)) (hs2 : ¬ PreStart (C04.reach n2 prog req2 cs2))
    (w1 w2 : Wid) (p1 p2 : Pid) (x1 x2 : Proc)
    (hx1 : ((C04.reach n1 prog req1 cs1).wk w1).procs p1 = some x1)
    (hx2 : ((C04.reach n2 prog req2 cs2).wk w2).procs p2 = some x2)
    (hfn : x1.fn = x2.fn) (hle : x1.pc ≤ x2.pc) : x1.acc <+: x2.acc := by
  obtain ⟨r1, t1⟩ := (history_is_trace ρ ar σ n1 prog req1 hn1 hwf hty cs1 hsd1 hs1 w1 p1 x1 hx1).1
  obtain ⟨r2, t2⟩ := (history_is_trace ρ ar σ n2 prog req2 hn2 hwf hty cs2 hsd2 hs2 w2 p2 x2 hx2).1
  rw [hfn] at t1
  exact t2.prefix t1 hle

/-- **Determinacy of results** (the safety half of confluence): whenever two runs both have a
result for a script, it is the same result — any worker counts, any quanta, any interleavings, any
ordering hints; send/spawn/await/receive tables, arrival histories following `σ`. -/
theorem confluence_results_agree (ρ : Nat → Nat → Nat) (ar : Nat → Nat) (σ : Nat → List (Nat × Nat)) (prog : Prog)
    (hwf : ProgWF prog) (hty : RegTyping prog ρ ar) (n1 n2 req1 req2 : Nat) (cs1 cs2 : List Choice) (hn1 : 0 < n1) (hn2 : 0 < n2)
    (hsd1 : StreamOK σ (C04.reach n1 prog req1 cs1)) (hsd2 : StreamOK σ (C04.reach n2 prog req2 cs2))
    (hs1 : ¬ PreStart (C04.reach n1 prog req1 cs1)) (hs2 : ¬ PreStart (C04.reach n2 prog req2 cs2))
    (k : Nat) (r1 r2 : Res)
    (h1 : resultOfScript (C04.reach n1 prog req1 cs1) k r1) (h2 : resultOfScript (C04.reach n2 prog req2 cs2) k r2) :
    r1 = r2 := by
  obtain ⟨w1, p1, x1, hx1, hf1, hr1⟩ := h1
  obtain ⟨w2, p2, x2, hx2, hf2, hr2⟩ := h2
  obtain ⟨⟨m1, t1⟩, f1⟩ := history_is_trace ρ ar σ n1 prog req1 hn1 hwf hty cs1 hsd1 hs1 w1 p1 x1 hx1
  obtain ⟨⟨m2, t2⟩, f2⟩ := history_is_trace ρ ar σ n2 prog req2 hn2 hwf hty cs2 hsd2 hs2 w2 p2 x2 hx2
  obtain ⟨e1, l1⟩ := f1 r1 hr1
  obtain ⟨e2, l2⟩ := f2 r2 hr2
  rw [hf1, l1] at t1
  rw [hf2, l2] at t2
  rw [hf1] at t1; rw [hf2] at t2
  have := (t1.det t2).1
  rw [e1, e2]; simp [Proc.value, hf1, hf2, this]

/-- the await/spawn/send fragment (no receive): determinacy of results with no hypothesis on the runs but that both are
past start-up -/
theorem confluence_results_agree_noRecv (ρ : Nat → Nat → Nat) (ar : Nat → Nat) (prog : Prog)
    (hwf : ProgWF prog) (hty : RegTyping prog ρ ar) (hnr : NoRecv prog)
    (n1 n2 req1 req2 : Nat) (cs1 cs2 : List Choice) (hn1 : 0 < n1) (hn2 : 0 < n2)
    (hs1 : ¬ PreStart (C04.reach n1 prog req1 cs1)) (hs2 : ¬ PreStart (C04.reach n2 prog req2 cs2))
    (k : Nat) (r1 r2 : Res)
    (h1 : resultOfScript (C04.reach n1 prog req1 cs1) k r1) (h2 : resultOfScript (C04.reach n2 prog req2 cs2) k r2) :
    r1 = r2 :=
  confluence_results_agree ρ ar (fun _ => []) prog hwf hty n1 n2 req1 req2 cs1 cs2 hn1 hn2
    (streamOK_of_noRecv hnr _ _ (reach_prog _ _ _ _)) (streamOK_of_noRecv hnr _ _ (reach_prog _ _ _ _)) hs1 hs2 k r1 r2 h1 h2

/-- the progress half, as a statement about one script table: an idle run has a result for every
script any other run has a result for.  (No condition on the other run: before start-up it has the result of the sleeping
record of pid 0 for script 0, so the statement asks every idle run to finish script 0.) -/
def ProgressStatement (prog : Prog) : Prop :=
  ∀ (n1 n2 req1 req2 : Nat) (cs1 cs2 : List Choice), 0 < n1 → 0 < n2 →
    (C04.reach n2 prog req2 cs2).idle →
    ∀ k r, resultOfScript (C04.reach n1 prog req1 cs1) k r → ∃ r', resultOfScript (C04.reach n2 prog req2 cs2) k r'

/-- the arrival half, as a statement about one script table and its streams: in every run the
arrival history of every receiving process is a prefix of the stream of its script (for the
confluent class — one sender per mailbox — the stream is the sender's static send sequence
`streamOf`; proved there for started states from the static hypotheses, `streamOK_static`, and for one
pair of pids in every run, `mailbox_sequence_determined`) -/
def StreamStatement (prog : Prog) (σ : Nat → List (Nat × Nat)) : Prop :=
  ∀ (n req : Nat) (cs : List Choice), 0 < n → StreamOK σ (C04.reach n prog req cs)

/-- a pid has one script, in every reachable state (start-up included; afterwards `Sid.functional`) -/
theorem pid_has_one_script (n : Nat) (prog : Prog) (req : Nat) (hn : 0 < n) (hwf : ProgWF prog) (cs : List Choice)
    (q : Pid) (f f' : Nat) (h : Sid (C04.reach n prog req cs) q f) (h' : Sid (C04.reach n prog req cs) q f') : f = f' := by
  rcases C04.sched_invariant n prog req hn hwf cs with hp | hs
  · -- start-up: only process 0 (script 0), no SpawnProcess command
    have hcmd : ∀ w regs g, Cmd.spawn q g regs ∉ (C04.reach n prog req cs).cmdQ w := by
      intro w regs g hm
      have := (hp.inert w) _ hm
      simp [cmdCreate] at this
    have hproc : ∀ g, Sid (C04.reach n prog req cs) q g → g = 0 := by
      rintro g (⟨w, y, hy, hg⟩ | ⟨w, regs, hm⟩)
      · rw [hp.wk] at hy
        by_cases e : w = 0
        · subst e
          simp only [upd_same, W0init, WorkerSt.setProc, WorkerSt.empty, upd_apply] at hy
          split at hy
          · simp only [Option.some.injEq] at hy; subst hy; exact hg.symm
          · cases hy
        · simp [e, WorkerSt.empty] at hy
      · exact absurd hm (hcmd w regs g)
    rw [hproc f h, hproc f' h']
  · exact h.functional hs h'

/-- **Confluence up to progress and arrival order**: the conclusion of `ConfluenceStatement` for
every send/spawn/await/receive script table with a register typing, from `ProgressStatement` (a
liveness property of the await protocol, cf. `C04.AwaitAnswerCompleteStatement`; it does not mention
results) and `StreamStatement` (arrival order; it does not mention results either). -/
theorem confluence_partial_kahn (ρ : Nat → Nat → Nat) (ar : Nat → Nat) (σ : Nat → List (Nat × Nat)) (prog : Prog)
    (hwf : ProgWF prog) (hty : RegTyping prog ρ ar) (hprogress : ProgressStatement prog) (hstream : StreamStatement prog σ)
    (n1 n2 req1 req2 : Nat) (cs1 cs2 : List Choice) (hn1 : 0 < n1) (hn2 : 0 < n2)
    (hi1 : (C04.reach n1 prog req1 cs1).idle) (hi2 : (C04.reach n2 prog req2 cs2).idle)
    (k : Nat) (r : Res) (h1 : resultOfScript (C04.reach n1 prog req1 cs1) k r) :
    resultOfScript (C04.reach n2 prog req2 cs2) k r := by
  obtain ⟨r', h2⟩ := hprogress n1 n2 req1 req2 cs1 cs2 hn1 hn2 hi2 k r h1
  have := confluence_results_agree ρ ar σ prog hwf hty n1 n2 req1 req2 cs1 cs2 hn1 hn2
    (hstream n1 req1 cs1 hn1) (hstream n2 req2 cs2 hn2)
    (not_preStart_of_idle hi1) (not_preStart_of_idle hi2) k r r' h1 h2
  rw [this]; exact h2

/-- **Determinacy for the confluent class, arrival order included** (no hypothesis about arrivals):
script table with a register typing in which every mailbox has ONE sender script
(`SingleSenderTable`), two runs — any worker counts, quanta, schedules, hints — in whose final
states no script is run by two pids (`Uniq`; it then holds throughout both runs): whenever both
runs have a result for a script it is the same result.  The arrival histories are PROVED to follow
the static streams `streamOf prog ρ snd` (`QM.Sys.kahn_invariant_unique`: the sender's sends are
its script's sends up to its position — `M1` —, arrivals are a prefix of them —
`C04.delivery_conservation` —, and selective receive over a stream is a function of it). -/
theorem confluence_results_agree_confluent (ρ : Nat → Nat → Nat) (ar : Nat → Nat) (snd : Nat → Nat) (prog : Prog)
    (hwf : ProgWF prog) (hty : RegTyping prog ρ ar) (htab : SingleSenderTable prog ρ ar snd)
    (n1 n2 req1 req2 : Nat) (cs1 cs2 : List Choice) (hn1 : 0 < n1) (hn2 : 0 < n2)
    (hu1 : Uniq (C04.reach n1 prog req1 cs1)) (hu2 : Uniq (C04.reach n2 prog req2 cs2))
    (hs1 : ¬ PreStart (C04.reach n1 prog req1 cs1)) (hs2 : ¬ PreStart (C04.reach n2 prog req2 cs2))
    (k : Nat) (r1 r2 : Res)
    (h1 : resultOfScript (C04.reach n1 prog req1 cs1) k r1) (h2 : resultOfScript (C04.reach n2 prog req2 cs2) k r2) :
    r1 = r2 := by
  exact confluence_results_agree ρ ar (streamOf prog ρ snd) prog hwf hty n1 n2 req1 req2 cs1 cs2 hn1 hn2
    ((kahn_invariant_unique ρ ar snd n1 prog req1 hn1 hwf hty htab cs1 hu1).elim (absurd · hs1) (·.2))
    ((kahn_invariant_unique ρ ar snd n2 prog req2 hn2 hwf hty htab cs2 hu2).elim (absurd · hs2) (·.2)) hs1 hs2 k r1 r2 h1 h2

/-- the conclusion of `ConfluenceStatement` for the confluent class from `ProgressStatement` alone
(plus: no script run twice in either run) -/
theorem confluence_confluent_partial (ρ : Nat → Nat → Nat) (ar : Nat → Nat) (snd : Nat → Nat) (prog : Prog)
    (hwf : ProgWF prog) (hty : RegTyping prog ρ ar) (htab : SingleSenderTable prog ρ ar snd) (hprogress : ProgressStatement prog)
    (n1 n2 req1 req2 : Nat) (cs1 cs2 : List Choice) (hn1 : 0 < n1) (hn2 : 0 < n2)
    (hi1 : (C04.reach n1 prog req1 cs1).idle) (hi2 : (C04.reach n2 prog req2 cs2).idle)
    (hu1 : Uniq (C04.reach n1 prog req1 cs1)) (hu2 : Uniq (C04.reach n2 prog req2 cs2))
    (k : Nat) (r : Res) (h1 : resultOfScript (C04.reach n1 prog req1 cs1) k r) :
    resultOfScript (C04.reach n2 prog req2 cs2) k r := by
  obtain ⟨r', h2⟩ := hprogress n1 n2 req1 req2 cs1 cs2 hn1 hn2 hi2 k r h1
  have := confluence_results_agree_confluent ρ ar snd prog hwf hty htab n1 n2 req1 req2 cs1 cs2 hn1 hn2 hu1 hu2
    (not_preStart_of_idle hi1) (not_preStart_of_idle hi2) k r r' h1 h2
  rw [this]; exact h2

theorem streamOK_static (ρ : Nat → Nat → Nat) (ar : Nat → Nat) (snd : Nat → Nat) (prog : Prog)
    (hwf : ProgWF prog) (hty : RegTyping prog ρ ar) (htab : SingleSenderTable prog ρ ar snd) (hso : SpawnOnce prog)
    (n req : Nat) (cs : List Choice) (hn : 0 < n) (hs : ¬ PreStart (C04.reach n prog req cs)) :
    StreamOK (streamOf prog ρ snd) (C04.reach n prog req cs) :=
  (kahn_invariant_static ρ ar snd n prog req hn hwf hty htab hso cs).elim (absurd · hs) (·.2.1)

/-- **Determinacy of the confluent class from STATIC hypotheses only**: script table with a
register typing (`RegTyping`: every select one process source or one receive — plain, typed or
filter), one sender script per mailbox (`SingleSenderTable`), every script spawned at one place
(`SpawnOnce`).  Any two runs — any worker counts, any quanta, any interleavings, any visibility, any
ordering hints — agree on the result of every script both have a result for.  Of the runs only that
they are past start-up (`¬ PreStart`: before it the sleeping record of pid 0 has a result) is assumed. -/
theorem confluence_results_agree_static (ρ : Nat → Nat → Nat) (ar : Nat → Nat) (snd : Nat → Nat) (prog : Prog)
    (hwf : ProgWF prog) (hty : RegTyping prog ρ ar) (htab : SingleSenderTable prog ρ ar snd) (hso : SpawnOnce prog)
    (n1 n2 req1 req2 : Nat) (cs1 cs2 : List Choice) (hn1 : 0 < n1) (hn2 : 0 < n2)
    (hs1 : ¬ PreStart (C04.reach n1 prog req1 cs1)) (hs2 : ¬ PreStart (C04.reach n2 prog req2 cs2))
    (k : Nat) (r1 r2 : Res)
    (h1 : resultOfScript (C04.reach n1 prog req1 cs1) k r1) (h2 : resultOfScript (C04.reach n2 prog req2 cs2) k r2) :
    r1 = r2 := by
  exact confluence_results_agree ρ ar (streamOf prog ρ snd) prog hwf hty n1 n2 req1 req2 cs1 cs2 hn1 hn2
    (streamOK_static ρ ar snd prog hwf hty htab hso n1 req1 cs1 hn1 hs1) (streamOK_static ρ ar snd prog hwf hty htab hso n2 req2 cs2 hn2 hs2)
    hs1 hs2 k r1 r2 h1 h2

/-- … and their histories are prefix-related at all times -/
theorem confluence_histories_agree_static (ρ : Nat → Nat → Nat) (ar : Nat → Nat) (snd : Nat → Nat) (prog : Prog)
    (hwf : ProgWF prog) (hty : RegTyping prog ρ ar) (htab : SingleSenderTable prog ρ ar snd) (hso : SpawnOnce prog)
    (n1 n2 req1 req2 : Nat) (cs1 cs2 : List Choice) (hn1 : 0 < n1) (hn2 : 0 < n2)
    (hs1 : ¬ PreStart (C04.reach n1 prog req1 cs1)) (hs2 : ¬ PreStart (C04.reach n2 prog req2 cs2))
    (w1 w2 : Wid) (p1 p2 : Pid) (x1 x2 : Proc)
    (hx1 : ((C04.reach n1 prog req1 cs1).wk w1).procs p1 = some x1)
    (hx2 : ((C04.reach n2 prog req2 cs2).wk w2).procs p2 = some x2)
    (hfn : x1.fn = x2.fn) (hle : x1.pc ≤ x2.pc) : x1.acc <+: x2.acc := by
  exact confluence_histories_agree ρ ar (streamOf prog ρ snd) prog hwf hty n1 n2 req1 req2 cs1 cs2 hn1 hn2
    (streamOK_static ρ ar snd prog hwf hty htab hso n1 req1 cs1 hn1 hs1) (streamOK_static ρ ar snd prog hwf hty htab hso n2 req2 cs2 hn2 hs2)
    hs1 hs2 w1 w2 p1 p2 x1 x2 hx1 hx2 hfn hle

/-- no script is ever run by two processes, from the static `SpawnOnce` (`RegTyping` and `SingleSenderTable` are hypotheses
only because the invariant behind it, `UInv`, is kept together with `KInv`: `kahn_invariant_static`) -/
theorem one_process_per_script (ρ : Nat → Nat → Nat) (ar : Nat → Nat) (snd : Nat → Nat) (prog : Prog)
    (hwf : ProgWF prog) (hty : RegTyping prog ρ ar) (htab : SingleSenderTable prog ρ ar snd) (hso : SpawnOnce prog)
    (n req : Nat) (cs : List Choice) (hn : 0 < n) (hs : ¬ PreStart (C04.reach n prog req cs))
    (w w' : Wid) (p p' : Pid) (x x' : Proc)
    (hx : ((C04.reach n prog req cs).wk w).procs p = some x) (hx' : ((C04.reach n prog req cs).wk w').procs p' = some x')
    (hf : x.fn = x'.fn) : p = p' := by
  rcases kahn_invariant_static ρ ar snd n prog req hn hwf hty htab hso cs with h | h
  · exact absurd h hs
  · exact h.2.2 p p' x.fn (Or.inl ⟨w, x, hx, rfl⟩) (Or.inl ⟨w', x', hx', hf.symm⟩)

/-- **Confluence of the confluent class up to progress**: the conclusion of `ConfluenceStatement`
from static hypotheses on the script table and `ProgressStatement` alone. -/
theorem confluence_static_partial (ρ : Nat → Nat → Nat) (ar : Nat → Nat) (snd : Nat → Nat) (prog : Prog)
    (hwf : ProgWF prog) (hty : RegTyping prog ρ ar) (htab : SingleSenderTable prog ρ ar snd) (hso : SpawnOnce prog)
    (hprogress : ProgressStatement prog)
    (n1 n2 req1 req2 : Nat) (cs1 cs2 : List Choice) (hn1 : 0 < n1) (hn2 : 0 < n2)
    (hi1 : (C04.reach n1 prog req1 cs1).idle) (hi2 : (C04.reach n2 prog req2 cs2).idle)
    (k : Nat) (r : Res) (h1 : resultOfScript (C04.reach n1 prog req1 cs1) k r) :
    resultOfScript (C04.reach n2 prog req2 cs2) k r := by
  obtain ⟨r', h2⟩ := hprogress n1 n2 req1 req2 cs1 cs2 hn1 hn2 hi2 k r h1
  have := confluence_results_agree_static ρ ar snd prog hwf hty htab hso n1 n2 req1 req2 cs1 cs2 hn1 hn2
    (not_preStart_of_idle hi1) (not_preStart_of_idle hi2) k r r' h1 h2
  rw [this]; exact h2

/-- the await/spawn/send fragment: from `ProgressStatement` alone -/
theorem confluence_await_spawn_partial (ρ : Nat → Nat → Nat) (ar : Nat → Nat) (prog : Prog) (hwf : ProgWF prog)
    (hty : RegTyping prog ρ ar) (hnr : NoRecv prog) (hprogress : ProgressStatement prog)
    (n1 n2 req1 req2 : Nat) (cs1 cs2 : List Choice) (hn1 : 0 < n1) (hn2 : 0 < n2)
    (hi1 : (C04.reach n1 prog req1 cs1).idle) (hi2 : (C04.reach n2 prog req2 cs2).idle)
    (k : Nat) (r : Res) (h1 : resultOfScript (C04.reach n1 prog req1 cs1) k r) :
    resultOfScript (C04.reach n2 prog req2 cs2) k r :=
  confluence_partial_kahn ρ ar (fun _ => []) prog hwf hty hprogress
    (fun n req cs _ => streamOK_of_noRecv hnr _ _ (reach_prog _ _ _ _)) n1 n2 req1 req2 cs1 cs2 hn1 hn2 hi1 hi2 k r h1

/-! ### example tables: `kProg` meets the hypotheses on the table of `confluence_results_agree_noRecv`, `rProg` (with a
receive) those of `confluence_results_agree_static` except `ProgWF rProg`, which is not stated -/

/-- the actions of a script table, each with its script and position -/
def acts (prog : Prog) : List (Nat × Nat × Act) :=
  (List.range prog.length).flatMap fun k => (List.range (prog.getD k []).length).map fun j => (k, j, (prog.getD k []).getD j .fail)

theorem mem_acts {prog : Prog} {k j : Nat} {a : Act} (h : (prog.getD k [])[j]? = some a) : (k, j, a) ∈ acts prog := by
  have hj := (List.getElem?_eq_some_iff.mp h).1
  have hk : k < prog.length := by
    rcases Nat.lt_or_ge k prog.length with h1 | h1
    · exact h1
    · rw [List.getD_eq_getElem?_getD, List.getElem?_eq_none h1] at hj; cases hj
  exact List.mem_flatMap.mpr ⟨k, List.mem_range.mpr hk, List.mem_map.mpr ⟨j, List.mem_range.mpr hj, by
    rw [List.getD_eq_getElem?_getD (l := prog.getD k []), h]; rfl⟩⟩

theorem forall_acts {prog : Prog} {P : Nat → Nat → Act → Prop} (h : ∀ x ∈ acts prog, P x.1 x.2.1 x.2.2) {k j : Nat} {a : Act}
    (hs : (prog.getD k [])[j]? = some a) : P k j a := h _ (mem_acts hs)

instance ActTyped.dec (prog : Prog) (ρ : Nat → Nat → Nat) (ar : Nat → Nat) (k j : Nat) : ∀ a, Decidable (ActTyped prog ρ ar k j a)
  | .send _ _ _ => isTrue trivial
  | .spawn _ _ => by dsimp only [ActTyped]; infer_instance
  | .select [.proc _] => by dsimp only [ActTyped]; infer_instance
  | .select [.recv _] => isTrue trivial
  | .select [] | .select [.timeout _] | .select (_ :: _ :: _) | .fail => isFalse (by simp [ActTyped])

/-- main spawns A, spawns B handing it A, awaits B then A; A finishes at once; B awaits A -/
def kProg : Prog :=
  [[.spawn 1 [], .spawn 2 [1], .select [.proc 2], .select [.proc 1]], [], [.select [.proc 1]]]

def kRho : Nat → Nat → Nat
  | 0, r => r
  | 1, _ => 1
  | 2, 0 => 2
  | _, _ => 1

def kAr : Nat → Nat := fun k => if k = 2 then 1 else 0

theorem kProg_wf : ProgWF kProg := by
  refine ⟨by decide, ?_⟩
  intro sc hsc fn pass hm
  simp [kProg] at hsc
  rcases hsc with rfl | rfl | rfl <;> simp at hm <;> (rcases hm with ⟨rfl, _⟩ | ⟨rfl, _⟩) <;> decide

theorem kProg_typed : RegTyping kProg kRho kAr :=
  ⟨rfl, rfl, fun _ _ _ h => forall_acts (P := ActTyped kProg kRho kAr) (by decide) h⟩

theorem kProg_noRecv : NoRecv kProg := by
  intro k
  match k with
  | 0 => rfl
  | 1 => rfl
  | 2 => rfl
  | k + 3 => simp [hasRecv, kProg]

/-- a table with receives: main spawns R, sends it `(1,0)` then `(2,0)`, awaits it; R first takes the
message with tag 2 (a filter passing over the older one), then whatever is left -/
def rProg : Prog :=
  [[.spawn 1 [], .send 1 1 0, .send 1 2 0, .select [.proc 1]], [.select [.recv (.tag 2)], .select [.recv .any]]]

def rRho : Nat → Nat → Nat
  | 0, r => r
  | _, _ => 1

theorem rProg_acts {k j : Nat} {a : Act} (h : (rProg.getD k [])[j]? = some a) :
    (k, j, a) ∈ [(0, 0, Act.spawn 1 []), (0, 1, .send 1 1 0), (0, 2, .send 1 2 0), (0, 3, .select [.proc 1]),
      (1, 0, .select [.recv (.tag 2)]), (1, 1, .select [.recv .any])] := mem_acts h

theorem rProg_typed : RegTyping rProg rRho (fun _ => 0) :=
  ⟨rfl, rfl, fun _ _ _ h => forall_acts (P := ActTyped rProg rRho (fun _ => 0)) (by decide) h⟩

theorem rProg_singleSender : SingleSenderTable rProg rRho (fun _ => 0) (fun _ => 0) := by
  refine ⟨?_⟩
  intro k j r tag seq h
  have := rProg_acts h
  simp only [List.mem_cons, Prod.mk.injEq, List.not_mem_nil, or_false, reduceCtorEq, and_false, false_or, Act.send.injEq] at this
  rcases this with ⟨rfl, rfl, rfl, _, _⟩ | ⟨rfl, rfl, rfl, _, _⟩ <;> exact ⟨rfl, by decide⟩

theorem rProg_spawnOnce : SpawnOnce rProg := by
  have key : ∀ {k j f pass}, (rProg.getD k [])[j]? = some (Act.spawn f pass) → k = 0 ∧ j = 0 ∧ f = 1 := by
    intro k j f pass h
    have := rProg_acts h
    simp only [List.mem_cons, Prod.mk.injEq, List.not_mem_nil, or_false, reduceCtorEq, and_false, or_false, Act.spawn.injEq] at this
    exact ⟨this.1, this.2.1, this.2.2.1⟩
  refine ⟨fun k j pass h => absurd (key h).2.2 (by decide), fun k j pass k' j' pass' f h h' => ?_⟩
  exact ⟨(key h).1.trans (key h').1.symm, (key h).2.1.trans (key h').2.1.symm⟩

/-- its static stream -/
example : streamOf rProg rRho (fun _ => 0) 1 = [(1, 0), (2, 0)] := by decide

/-- the trace of the receiver over the stream `[(1,0),(2,0)]`: first `(2,0)`, then `(1,0)` -/
example : Trace rProg rRho (fun k => if k = 1 then [(1, 0), (2, 0)] else []) 1 2 [keyVal (2, 0), keyVal (1, 0)] [] :=
  Trace.recv 1 1 [keyVal (2, 0)] [(1, 0)] .any (1, 0) []
    (Trace.recv 1 0 [] [(1, 0), (2, 0)] (.tag 2) (2, 0) [(1, 0)] (Trace.zero 1) rfl rfl) rfl rfl

end

/-- a concrete two-worker run of `kProg`: after main's first slice on worker 0, one environment step and one step of
worker 1, process 1 (script 1) has finished ON WORKER 1, with the value of its (empty) trace -/
example : ((C04.reach 2 kProg 1 [.worker 0 100 5 [] [], .env [100, 100], .worker 1 100 5 [] []]).wk 1).resultOf 1 =
    some (.ok (Val.tuple [[1]])) := by decide +kernel


end C03
