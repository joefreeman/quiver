import QuiverModel.Theorems.C02Ref1
import QuiverModel.Theorems.C01Infer
/-
C02 ∘ C01 — **a typed program's compiled code runs to a value of its type** (straight-line fragment).

The composition of
  * C02's compile correctness + bridge (`C02R.compileSq1_runs_to_reference_value`, Theorems/C02Ref1.lean):
    the code Compile1's `compileSq` emits for a straight-line sequence (integer literals, `~`, nested tuples, variable
    reads, `=x` / `x = e`, `=_`, `,` with the nil short-circuit) RUNS on M-VM's `transition` to a value `v`,
    and `v` — tuple ids resolved to names — is the value M-RefSem's `evalSeq` computes, and
  * C01's soundness of the typed fragment of the inference (`C01.infer_seq_sound`, Theorems/C01Infer.lean):
    for a sequence `inferSeq` accepts with type `τ`, whatever `evalSeq` answers inhabits `τ`.

`typed_compiled_run`: if `inferSeq` accepts the (name-resolved) sequence at type `τ` — and elaborates it to
itself, as it does for accessor-free programs — then the compiled code, started in an M-VM state whose
frame's locals are what the typing environment and the reference environment say (`EnvRel`, `EnvOK`), runs
by `Executor::step` units alone to the end of the code and leaves a value whose name-resolved form inhabits
`τ` (`VT c τ`). Nothing is presupposed about the run: definedness comes from `boundSq` (every variable read
resolves to a slot), progress and preservation from the two theorems.
-/
open QM.RefSem.C1 C02.Bridge

namespace C02C01

theorem typed_compiled_run
    -- the machine side (C02)
    (O : QM.VM.Oracle) (P : QM.VM.Prog) (hO : C02L.OracleIntEq O) (hP : wfProg P)
    (nm : Nat → Option String) (hnm : C02R.NmOk nm) (fn : QM.VM.Function) (f : QM.VM.Frame)
    (r : List QM.VM.Frame) (pre : List QM.VM.Val) (hfn : P.functions[f.functionIndex]? = some fn)
    (hsz : fn.instructions.size < 2 ^ 63 - 1) (sq : Sq1) (Γ : List String) (pc : Nat) (flow : QM.VM.Val)
    (rest L : List QM.VM.Val) (env : QM.RefSem.Env)
    (hl : C02S.Located fn.instructions pc (compileSq Γ sq).1) (hw : wfSq P sq) (hok : C02R.okSq nm sq)
    (hb : C02R.boundSq Γ sq) (hal : L.length = Γ.length) (hE : C02R.EnvRel nm Γ L env)
    (hflow : C02S.NilOk nm flow) (p : QM.VM.Proc) (hp : C02L.InvL p f r pre pc (flow :: rest) L)
    -- the typing side (C01)
    (c : QM.Soundness.Ctx) (hr : C01.CurrentRules c) (Γt : QM.Soundness.TEnv) (ft τ : Nat)
    (hinf : QM.Soundness.inferSeq c Γt ft (C02R.toRefSq nm sq) = some (τ, C02R.toRefSq nm sq))
    (hEt : C01.EnvOK c Γt env) (hft : QM.Soundness.VT c ft (erase nm flow)) :
    ∃ q v L', C02S.TRuns O P p q ∧
      C02L.InvL q f r pre (pc + (compileSq Γ sq).1.length) (v :: rest) L' ∧
      QM.Soundness.VT c τ (erase nm v) := by
  obtain ⟨q, v, L', env', N, hrun, hinv, href⟩ :=
    C02R.compileSq1_runs_to_reference_value O P hO hP nm hnm fn f r pre hfn hsz sq Γ pc flow rest L env
      hl hw hok hb hal hE hflow p hp
  have hgood := C01.infer_seq_sound c hr hinf hEt hft N
  rw [href N (Nat.le_refl N)] at hgood
  exact ⟨q, v, L', hrun, hinv, hgood⟩

end C02C01
