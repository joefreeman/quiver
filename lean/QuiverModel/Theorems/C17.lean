import QuiverModel.Lemmas.Text.FragSeq
/-
C17 — Formatting is a fixpoint and preserves the program and its comments.
Property theorems about M-Text (the layout engine of `pretty.rs` and the string re-escaping of
`format.rs` / `parser.rs`). Every theorem is `C17.<name>`.

What these theorems do NOT cover: the parser and the AST→Doc builder of `format.rs` outside the
FRAGMENT of the last two sections (one statement: a sequence of chains of identifiers, accesses,
literals, strings and tuples, no trivia; the last section lists what is covered and what is not).
The four statements of the property about the whole pipeline are decided by the implementation
oracle in `harness/src/bin/c17` (exploration, not proof) — see `notes/C17.md`.
-/
namespace C17
open QM.Text

/-! ## Totality of the layout engine

`printLoop`, `fitsLoop`, `flattenLoop`, `flatWidthLoop` are defined by well-founded recursion on the
size of the pending work (no fuel): Lean's termination checker has accepted the measure
`Σ size(stack) + Σ (size(suffix) + 1)` for the `print` loop — including the two places where frames
move *back* onto the stack (line-suffix flush before a newline and at end of input). The theorems
below make the bound explicit. -/

theorem printLoop_pieces_le (w col : Nat) (st suf : List Frame) :
    (printLoop w col st suf).length ≤ framesSize st + sufSize suf := by
  refine printLoop_induct w
    (motive := fun col st suf => (printLoop w col st suf).length ≤ framesSize st + sufSize suf)
    ?_ ?_ ?_ ?_ ?_ ?_ col st suf
  · intro col; rw [printLoop_nil_nil]; exact Nat.zero_le _
  · intro col s ss ih
    rw [printLoop_nil_cons]
    simp only [framesSize, sufSize, sufSize_eq] at ih ⊢; omega
  · intro col f st suf ps fs h ih
    have := h.size_le
    rw [h.eq, List.length_append]
    simp only [framesSize, framesSize_append] at ih ⊢; omega
  · intro col i m d st suf ih
    rw [printLoop_lineSuffix w col _ st suf d rfl]
    simp only [framesSize, sufSize_append, sufSize, Doc.size] at ih ⊢; omega
  · intro col f st hb ih
    have := f.doc.size_pos
    rw [printLoop_break_nil w col f st hb]
    simp only [framesSize, sufSize, List.length_cons] at ih ⊢; omega
  · intro col f st s ss hb ih
    rw [printLoop_break_cons w col f st hb s ss]
    simp only [framesSize_append, framesSize, sufSize_eq, sufSize, List.cons_append] at ih ⊢
    omega

/-- `print` is total: for every document and every width it yields a string, and the number of
    pieces (`Text` atoms, spaces, newlines) appended to the output is at most the size of the
    document — nothing is emitted twice by the suffix-flush re-push of a line break. -/
theorem print_total (d : Doc) (w : Nat) :
    (∃ out : List Char, print d w = out) ∧ (printPieces d w).length ≤ d.size := by
  refine ⟨⟨_, rfl⟩, ?_⟩
  have := printLoop_pieces_le w 0 [⟨0, .brk, d⟩] []
  simpa [printPieces, framesSize, sufSize] using this

example : print (.mkGroup (.concat [.text ['a'], .line, .lineSuffix (.text ['/', '/']), .text ['b']])) 80
    = ['a', ' ', 'b', '/', '/'] := by
  simp [print, printPieces, Doc.mkGroup, forcesBreak, forcesBreakAny, printLoop, fits, fitsLoop, popFrame,
    mkFrames, toIsize, renderPieces, Piece.render, stripTrailingWhitespace, rustLines, rustLinesAux,
    trimEnd, isWhitespace, joinNl]

/-- The flag computed by `pretty::group` is the one `forces_break` reports for the group. -/
theorem forcesBreak_mkGroup (d : Doc) : forcesBreak (Doc.mkGroup d) = forcesBreak d := by
  simp [Doc.mkGroup, forcesBreak]

/-! ## Line-breaking decisions never change, drop or reorder text atoms

`atomsOf (printPieces d w)` is the sequence of `Text` atoms `print` appends to its output (spaces and
newlines are separate pieces). `Reads d m as` says: `as` is a reading of the atoms of `d` in document
order in which every `IfBreak` contributes the branch of the mode its enclosing group is laid out in
(forced groups in break mode). Which mode a group gets is the only thing the width can influence. -/

/-- **Nothing lost, nothing duplicated** (all documents): at every width the emitted atoms are a
    permutation of a reading of the document — a permutation only because `LineSuffix` content is
    deferred to the end of its line. -/
theorem print_atoms_perm (d : Doc) (w : Nat) :
    ∃ as, Reads d .brk as ∧ (atomsOf (printPieces d w)).Perm as := by
  obtain ⟨a, b, ha, hb, hp⟩ := printLoop_atoms w 0 [⟨0, .brk, d⟩] []
  rw [hb.nil_inv] at hp
  exact ⟨a, ha.single_inv, by simpa [printPieces] using hp⟩

/-- **Order** (documents without line suffixes): the emitted atoms ARE a reading of the document, in
    document order. -/
theorem print_atoms_order (d : Doc) (w : Nat) (hs : noSuffix d = true) :
    Reads d .brk (atomsOf (printPieces d w)) := by
  have := printLoop_order w 0 [⟨0, .brk, d⟩] [] rfl (NoSuffixStack.single hs)
  exact this.single_inv

/-- **print_tokens_width_independent**: when both branches of every `IfBreak` carry the same atoms
    (e.g. none), the atom sequence does not depend on the width at all: it is `atomsDet d`. -/
theorem print_tokens_width_independent (d : Doc) (w₁ w₂ : Nat) (hs : noSuffix d = true)
    (hn : ifBreakNeutral d = true) :
    atomsOf (printPieces d w₁) = atomsOf (printPieces d w₂) ∧
    atomsOf (printPieces d w₁) = atomsDet d := by
  have h1 := Reads.det d .brk _ hn (print_atoms_order d w₁ hs)
  have h2 := Reads.det d .brk _ hn (print_atoms_order d w₂ hs)
  exact ⟨h1.trans h2.symm, h1⟩

/-- …and with line suffixes, up to the deferral: the same atoms at every width. -/
theorem print_tokens_width_independent_perm (d : Doc) (w₁ w₂ : Nat) (hn : ifBreakNeutral d = true) :
    (atomsOf (printPieces d w₁)).Perm (atomsOf (printPieces d w₂)) := by
  obtain ⟨a1, h1, p1⟩ := print_atoms_perm d w₁
  obtain ⟨a2, h2, p2⟩ := print_atoms_perm d w₂
  rw [Reads.det d .brk a1 hn h1] at p1
  rw [Reads.det d .brk a2 hn h2] at p2
  exact p1.trans p2.symm

/-- The full-strength statement for arbitrary documents is the relational one: `print_atoms_order`
    (+ `print_atoms_perm` when there are line suffixes). For `IfBreak`s whose branches differ
    (`~> `, trailing `,`, leading `| ` in format.rs) the atoms legitimately depend on the layout; what
    the theorems guarantee is that they are chosen consistently with the mode of the enclosing group. -/
def print_tokens_width_independentStatement : Prop :=
  ∀ (d : Doc) (w : Nat), noSuffix d = true → Reads d .brk (atomsOf (printPieces d w))

theorem print_tokens_width_independentStatement_holds : print_tokens_width_independentStatement :=
  fun d w hs => print_atoms_order d w hs

example : noSuffix (.mkGroup (.concat [.text ['a'], .line, .ifBreak (.text ['~']) .nil, .text ['b']])) = true
    ∧ ifBreakNeutral (.concat [.text ['a'], .line, .text ['b']]) = true := by
  simp [Doc.mkGroup, noSuffix, noSuffixList, ifBreakNeutral, ifBreakNeutralList]

/-! ## Line suffixes are flushed before the next newline and at the end of input -/

/-- **lineSuffix_flushed**: for documents whose line suffixes hold plain texts (what format.rs
    builds), from any state with buffered suffix texts `ss` the output continues with pieces of the
    current line (no newline among them), then `ss` in order, then the suffixes buffered meanwhile,
    and only then a newline or the end of the output: a trailing comment is never pushed past a line
    break and never lost at end of input. -/
theorem lineSuffix_flushed (w col : Nat) (st suf : List Frame) (ss : List (List Char))
    (hst : ∀ f ∈ st, textSuffixes f.doc = true) (hsuf : IsTextFrames suf ss) :
    FlushShape (printLoop w col st suf) ss :=
  printLoop_flush w col st suf hst ss hsuf

/-- At the top level: a suffix met first comes out before the first newline (or at the end). -/
theorem lineSuffix_flushed_top (d : Doc) (w : Nat) (s : List Char) (hd : textSuffixes d = true) :
    FlushShape (printPieces (.concat [.lineSuffix (.text s), d]) w) [s] := by
  unfold printPieces
  rw [printLoop_concat w 0 ⟨0, .brk, _⟩ [] [] _ rfl]
  simp only [mkFrames, List.append_nil]
  rw [printLoop_lineSuffix w 0 ⟨0, .brk, _⟩ _ [] _ rfl]
  exact printLoop_flush w 0 _ _ (fun f hf => by simp at hf; subst hf; exact hd) [s]
    (by simp [IsTextFrames])

example : printPieces (.concat [.lineSuffix (.text ['/', '/']), .text ['x'], .hardline, .text ['y']]) 80
    = [.atom ['x'], .atom ['/', '/'], .nl 0, .atom ['y']] := by
  simp [printPieces, printLoop, mkFrames]

/-! ## `flatten` is the wide layout -/

/-- **flatten_eq_print_wide**: for a document that `flatten` may legally be applied to — no hard
    line and no line suffix in its flat reading, no group flagged as forced (`flatOk`) — printing the
    document as a group at any width that holds its flat layout gives exactly `flatten d`. The width
    must be below 2^63: `fits` casts the remaining width to `isize`, so at width ≥ 2^63 every group
    breaks (the differential exercises that edge). -/
theorem flatten_eq_print_wide (d : Doc) (w : Nat) (hok : flatOk d = true)
    (hfit : piecesWidth (flatPieces d) ≤ w) (hw : w < 2 ^ 63) :
    print (.group d false) w = flatten d :=
  print_group_eq_flatten d w hok hfit hw

/-- In terms of `forces_break` (the check format.rs makes before calling `flatten`): for documents
    built with `pretty::group` that have no line suffix in their flat reading, `¬ forces_break d`
    suffices, and `pretty::group d` is that group. -/
theorem flatten_eq_print_wide_of_not_forcesBreak (d : Doc) (w : Nat) (hwf : wfGroups d = true)
    (hns : noSuffixFlat d = true) (hf : forcesBreak d = false)
    (hfit : piecesWidth (flatPieces d) ≤ w) (hw : w < 2 ^ 63) :
    print (Doc.mkGroup d) w = flatten d := by
  have : Doc.mkGroup d = .group d false := by simp [Doc.mkGroup, hf]
  rw [this]
  exact print_group_eq_flatten d w (flatOk_of_not_forcesBreak d hwf hns hf) hfit hw

/-- The hypothesis about line suffixes cannot be dropped: `flatten` inlines a suffix where it stands,
    `print` defers it to the end of the line. -/
example : flatten (.concat [.lineSuffix (.text ['c']), .text ['x']]) = ['c', 'x'] ∧
    print (.group (.concat [.lineSuffix (.text ['c']), .text ['x']]) false) 80 = ['x', 'c'] := by
  constructor
  · simp [flatten, flattenLoop, stripTrailingWhitespace, rustLines, rustLinesAux, trimEnd, isWhitespace, joinNl]
  · simp [print, printPieces, printLoop, fits, fitsLoop, popFrame, mkFrames, toIsize, renderPieces,
      Piece.render, stripTrailingWhitespace, rustLines, rustLinesAux, trimEnd, isWhitespace, joinNl]

/-! ## String re-escaping round trips

`format.rs` re-renders every string literal from its decoded value; these theorems say that the
parser reads the rendering back to exactly that value — for every value, no hypotheses. -/

/-- **escape_single_roundtrip** (term position, `string_segments`): the escaped text followed by the
    closing quote scans as one text segment equal to the value — in particular an escaped `{` never
    opens a hole and an escaped quote never ends the literal. -/
theorem escape_single_roundtrip (s rest : List Char) :
    stringSegments (escapeSingle s ++ '"' :: rest) = .closed s rest :=
  stringSegments_escapeSingle s rest

/-- **escape_single_roundtrip** (pattern position, `single_line_string` + `parse_string_content`):
    the scan for the closing quote stops exactly after the escaped text, and decoding it gives the
    value. (String patterns — also `"""` ones — are printed in this form.) -/
theorem escape_single_roundtrip_pattern (s rest : List Char) :
    scanCloseSingle (escapeSingle s ++ '"' :: rest) = some (utf8Len (escapeSingle s)) ∧
    decodeSingle (escapeSingle s) = .ok s := by
  constructor
  · simpa [scanCloseSingle] using scanCloseSingleAux_escape 0 s rest
  · exact decodeSingleAux_escape 0 s

example : escapeSingle ['a', '"', '{', '\n', '\\'] = "a\\\"\\{\\n\\\\".toList := by
  simp [escapeSingle]

/-- **The multi-line round trip** (`multiline_string_doc` as of a7d7642; for EVERY value and every
    space margin): the text the formatter puts between the `"""` delimiters is scanned to its end by
    the escape-aware scan, and de-indenting + decoding it (term position,
    `process_multiline_segments`) gives back exactly the value — including trailing spaces (`\s`),
    blank-line runs, `"""` inside the value, tabs, carriage returns, backslashes and braces. -/
theorem escape_multi_roundtrip (v margin rest : List Char) (hm : ∀ c ∈ margin, c = ' ') :
    processMultilineSegments (renderedRaw margin (multilineLines v)) = .text v ∧
    scanCloseMulti (renderedRaw margin (multilineLines v) ++ '"' :: '"' :: '"' :: rest) =
      some (utf8Len (renderedRaw margin (multilineLines v))) := by
  have hok : ∀ L ∈ multilineLines v, ∃ l ∈ splitNl v, L = protRec (escapeMultiText l) ∧ LineOk l L := by
    intro L hL
    rw [multilineLines_eq] at hL
    simp only [List.mem_map] at hL
    obtain ⟨l, hl, rfl⟩ := hL
    exact ⟨l, hl, rfl, renderedLine_ok l (splitNl_lines_noNl v l hl)⟩
  have hne : multilineLines v ≠ [] := by
    rw [multilineLines_eq]; simpa using splitNl_ne_nil v
  constructor
  · unfold processMultilineSegments
    rw [multilineDedent_rendered margin _ hm hne
      (fun L hL => by obtain ⟨_, _, _, ok⟩ := hok L hL; exact ok.noNl)
      (fun L hL => by obtain ⟨_, _, _, ok⟩ := hok L hL; exact ok.noCr)
      (fun L hL => by obtain ⟨_, _, _, ok⟩ := hok L hL; exact ok.blank)]
    simp only
    rw [multilineLines_eq, processSegments_lines _ (splitNl_ne_nil v) (splitNl_lines_noNl v),
      joinNl_splitNl]
  · have hclean : EscClean (renderedRaw margin (multilineLines v)) := by
      unfold renderedRaw
      refine .char _ _ (by decide) (by decide) (EscClean.append (EscClean.joinNl _ ?_)
        (.char _ _ (by decide) (by decide) (EscClean.spaces margin hm)))
      intro x hx
      simp only [List.mem_map] at hx
      obtain ⟨L, hL, rfl⟩ := hx
      obtain ⟨_, _, _, ok⟩ := hok L hL
      unfold indentLine; split
      · exact .nil
      · exact (EscClean.spaces margin hm).append ok.clean
    have := scanCloseMultiAux_clean _ hclean 0 rest
    simpa [scanCloseMulti] using this

example : renderedRaw [' ', ' '] (multilineLines ['a', ' ', '\n', '\n', '"'])
    = "\n  a\\s\n\n  \\\"\n  ".toList := by
  simp [renderedRaw, multilineLines, splitNl, escapeMultiText, protectTrailingSpaces, trailingSpaces,
    indentLine, joinNl]

/-- The content lines `expand_literals` writes for the placeholder line of literal 0 at a space
    margin are exactly the lines of `renderedRaw`. -/
theorem expandLine_placeholder (margin : List Char) (Ls : List (List Char))
    (hm : ∀ c ∈ margin, c = ' ') :
    expandLine [Ls] (margin ++ literalPlaceholder 0) = some (Ls.map (indentLine margin)) := by
  have key : ∀ m : List Char, (∀ c ∈ m, c = ' ') →
      (m ++ literalPlaceholder 0).takeWhile (· = ' ') = m ∧
      (m ++ literalPlaceholder 0).dropWhile (· = ' ') = literalPlaceholder 0 := by
    intro m
    induction m with
    | nil => intro _; simp [literalPlaceholder]
    | cons c t ih =>
      intro h
      have hc := h c (by simp); subst hc
      have := ih (fun x hx => h x (by simp [hx]))
      simp [this.1, this.2]
  obtain ⟨htw, hdw⟩ := key margin hm
  unfold expandLine
  simp only [htw, hdw]
  simp [literalPlaceholder, natDigits, parseUsize, indentLine]

/-! ## The fragment model: format, then parse, gives the program back

On the fragment of Core/Text/Fragment (one statement; no trivia; what it covers is listed in the last
section) both directions are modelled — the AST→`Doc` builders of `format.rs` (`programDoc`: the docs of
`sequence_doc_with`/`chain_doc`/`field_doc`/`tuple_doc`/`bracketed`, groups, `break_if_wider_than`
and all) and the productions of `parser.rs` the fragment reaches (`programP`, on the nom combinator
layer of Core/Parse/Type) — and both are tied to the implementation by the `frag` differential of
`harness/src/bin/c17`. The theorems hold for EVERY page width, not only `WIDTH` = 100: whichever
groups the engine decides to break, the text is one of the layouts of `t` (`Frag.LayP`), every layout
is free of trailing white space (so `strip_trailing_whitespace` is the identity on it) and the parser
reads every layout back as `t`. -/

open QM.Frag QM.Parse in
/-- The pieces the engine prints for the program `ts` carry the text of a layout of `ts`. (The pieces
    themselves are cut differently in places: the engine emits a field label `x: `, the `~> ` of a
    continuation line and the flattened head of a chain ending in a tuple as one atom each, and the
    space between two terms as an atom; the layout language keeps the spaces apart.) -/
theorem fragment_prints_layout (ts : List T) (h : WFProg ts) (w : Nat) :
    ∃ ps, renderPieces (printPieces (programDoc ts) w) = renderPieces ps ∧ SeqP 0 ts ps := by
  unfold printPieces programDoc
  rw [pl_concat]
  simp only [mkFrames, List.cons_append, List.nil_append]
  obtain ⟨ps', ps, col', hp, hr, hl⟩ := printsAs_sequence h w 0 0 .brk []
  rw [hp, printLoop_nil_nil, List.append_nil]
  exact ⟨ps, hr, hl⟩

open QM.Frag QM.Parse in
/-- `print` of the program's document is the text of that layout: stripping trailing white space
    changes nothing (a layout is blocks of lines that end in a non-blank character, with single empty
    lines — around "tall" steps — between them). -/
theorem fragment_print_eq (ts : List T) (h : WFProg ts) (w : Nat) :
    print (programDoc ts) w = renderPieces (printPieces (programDoc ts) w) := by
  obtain ⟨ps, hr, hl⟩ := fragment_prints_layout ts h w
  obtain ⟨bs, hne, rfl, hall⟩ := seqP_blocks hl
  unfold print
  rw [hr]
  exact (post_passes_blocks hne hall).1

open QM.Frag QM.Parse in
/-- the tail of `program` after the (only) sequence, at the end of the text or before its final
    newline -/
theorem programP_of_sequence {ts : List T} {s : Str} {n : Nat} (hh : HeadOk s) (hn : n = s.length + 1)
    (hseq : sequenceP n s = .ok ts []) : programP s = .ok [ts] [] := by
  unfold programP
  rw [seq_ok (wsc_headOk hh), ← hn]
  refine before_ok (b := ()) (before_ok (b := none) (sepList0_cons hseq (sepTail_of_fails seqSep_fails_nil))
    (opt_of_fails seqSep_fails_nil)) ?_
  simp [QM.Parse.seq, QM.Parse.bind, wsc, skipWsc, peof]

open QM.Frag QM.Parse in
/-- `program` reads every layout of a sequence back (any indentation, any choice of flat or broken per
    tuple), at the end of the text or before its final newline -/
theorem programP_seqP {z : Nat} {ts : List T} {ps : List Piece} (hl : SeqP z ts ps) {fin : Str}
    (hfin : fin = [] ∨ fin = ['\n']) : programP (renderPieces ps ++ fin) = .ok [ts] [] := by
  refine programP_of_sequence ((seqP_head hl).append _) rfl ?_
  unfold sequenceP
  have hlen : (renderPieces ps).length < (renderPieces ps ++ fin).length + 1 := by simp; omega
  rcases hfin with rfl | rfl
  · exact before_ok (b := none) (seqP_lay hl _ [] hlen stopC_nil (sepTail_of_fails seqSep_fails_nil))
      (opt_of_fails seqSep_fails_nil)
  · exact before_ok (b := some ())
      (seqP_lay hl _ ['\n'] hlen stopC_nl
        (sepTail_item_fails seqSep_final (by simp) (chainP_fails (termP_fails_nil _))))
      (opt_ok seqSep_final)

open QM.Frag QM.Parse in
/-- C17 on the fragment: for every program `ts` of the fragment and every page width, parsing the
    formatted text gives the program back — one statement, the sequence `ts`; the whole text is
    consumed. -/
theorem format_fixpoint_fragment (ts : List T) (h : WFProg ts) (w : Nat) :
    programP (print (programDoc ts) w) = .ok [ts] [] := by
  obtain ⟨ps, hr, hl⟩ := fragment_prints_layout ts h w
  rw [fragment_print_eq ts h w, hr, ← List.append_nil (renderPieces ps)]
  exact programP_seqP hl (.inl rfl)

open QM.Frag QM.Parse in
/-- … hence formatting is a fixpoint there: formatting what the formatted text parses to gives the
    same text again (the second run sees the same program `ts`). -/
theorem format_idempotent_fragment (ts : List T) (h : WFProg ts) (w : Nat) :
    ∃ ts', programP (print (programDoc ts) w) = .ok [ts'] [] ∧
      print (programDoc ts') w = print (programDoc ts) w :=
  ⟨ts, format_fixpoint_fragment ts h w, rfl⟩

open QM.Frag QM.Parse in
/-- The model of `format_program` on the fragment returns the layout's text and a final newline:
    `collapse_blanks` finds no run of blank lines to merge and no trailing blank line to drop (a layout
    has single empty lines only, between blocks of lines that end in a non-blank character),
    `expand_literals` finds no placeholder line (no line starts, after its indentation, with NUL) and
    nothing panics. -/
theorem fmtFrag_eq (ts : List T) (h : WFProg ts) :
    fmtFrag ts = renderPieces (printPieces (programDoc ts) pageWidth) ++ ['\n'] := by
  obtain ⟨ps, hr, hl⟩ := fragment_prints_layout ts h pageWidth
  obtain ⟨bs, hne, rfl, hall⟩ := seqP_blocks hl
  have hp := (post_passes_blocks hne hall).2
  unfold fmtFrag
  rw [fragment_print_eq ts h pageWidth, hr, hp.1, hp.2]

open QM.Frag QM.Parse in
/-- C17 on the fragment, for the whole of `format_program` (layout at `WIDTH`, `collapse_blanks`,
    `expand_literals`): parsing the formatted program gives the program back. -/
theorem format_program_fixpoint_fragment (ts : List T) (h : WFProg ts) :
    programP (fmtFrag ts) = .ok [ts] [] := by
  obtain ⟨ps, hr, hl⟩ := fragment_prints_layout ts h pageWidth
  rw [fmtFrag_eq ts h, hr]
  exact programP_seqP hl (.inr rfl)

open QM.Frag QM.Parse in
/-- … and formatting that again gives the same text: `format_program` is a fixpoint on the fragment. -/
theorem format_program_idempotent_fragment (ts : List T) (h : WFProg ts) :
    ∃ ts', programP (fmtFrag ts) = .ok [ts'] [] ∧ fmtFrag ts' = fmtFrag ts :=
  ⟨ts, format_program_fixpoint_fragment ts h, rfl⟩

/-! ## The statement for the whole language, and how much of it is covered

`FormatFixpointStatement parse format InLang` is C17's round-trip half for a language given by its
parser and formatter: every program of the language, formatted, parses back to itself, and whatever
the formatted text parses to formats to the same text again (idempotence). For Quiver, `parse` and
`format` are `quiver_compiler::parse` and `format_program` and `InLang` is "is the AST of some source";
the theorem below instantiates it for the two MODELS restricted to the fragment, and the `frag`
differential ties the two models to the two Rust functions on that fragment.

Covered: one statement that is a sequence of one or more steps (`,` /
newline separated, "tall" steps set off by blank lines); each step — and each field value — a chain
of one or more terms; a term is a bare identifier, an identifier with accessors (`x.f.0`), a bare
tuple name, an integer or binary literal, a single-line string without holes, or an anonymous or
named tuple of unnamed / named fields; no trivia. ALL chains of these terms: juxtaposition chains,
pipelines with their `~> ` continuation lines, and chains ending in a tuple whose head `chain_doc`
flattens onto one line (`pretty::flatten` of a term's doc is the text of its flat layout,
`flatten_termDoc`). `WFProg` asks only that there is a step and that every step is `T.WF`: names in
their lexical class, bytes below 256, accessor indices below 2^64, the terms of a chain not chains.
Outside (decided by the implementation oracle only): bindings and
patterns (`x = …`, `(a) = …` — hence the `(`-initial step rules of 0ca76af / 63d9fac), blocks and
branches, functions, spawns, selects, strings with holes and `"""` strings, imports,
spreads, type aliases, and all comments / blank lines. -/

/-- C17's round-trip statement for a language (`InLang`) with parser `parse` and formatter `format`. -/
def FormatFixpointStatement {Prog : Type} (parse : List Char → Option Prog) (format : Prog → List Char)
    (InLang : Prog → Prop) : Prop :=
  ∀ p, InLang p →
    parse (format p) = some p ∧ ∀ p', parse (format p) = some p' → format p' = format p

open QM.Frag QM.Parse in
/-- what `quiver_compiler::parse` returns, restricted to programs that are one sequence -/
def fragParse (s : List Char) : Option (List T) :=
  match programP s with
  | .ok [ts] [] => some ts
  | _ => none

open QM.Frag QM.Parse in
/-- the statement holds for the fragment (models of `parse` and `format_program`) -/
theorem formatFixpointStatement_fragment : FormatFixpointStatement fragParse fmtFrag WFProg := by
  intro ts h
  have hp : fragParse (fmtFrag ts) = some ts := by
    unfold fragParse; rw [format_program_fixpoint_fragment ts h]
  refine ⟨hp, ?_⟩
  intro p' h'
  rw [hp] at h'
  cases h'
  rfl

open QM.Frag QM.Parse in
/-- The parser rule behind the formatter's "tuple name, then `(`" rule (0ca76af, 63d9fac): a bare tuple
    name followed by white space — a newline included — and `(` is NOT read as that name (it is the
    head of a partial pattern/type), so a newline is not a step separator there. (Steps starting with
    `(` are outside the fragment; on the implementation the rule is exercised by `corpus/C17/f20*`,
    `f23*`.) -/
theorem bare_name_refuses_paren_after_newline :
    tupleP (fieldP (chainP (termP 1))) ['A', '\n', '(', ')'] ≠ .ok (.tup (some ['A']) []) ['\n', '(', ')'] := by
  have h1 : Fails (bracketsP (fieldP (chainP (termP 1)))) ['\n', '(', ')'] := bracketsP_fails rfl
  have hname : tupleName ['A', '\n', '(', ')'] = .ok ['A'] ['\n', '(', ')'] :=
    tupleName_append (n := ['A']) (rest := ['\n', '(', ')']) rfl (by intro c t e; cases e; decide)
  have h3 : Fails (bind tupleName fun n => pmap (peekNot (seq ws0 (pchar '(')))
      (fun _ => T.tup (some n) [])) ['A', '\n', '(', ')'] := by
    refine Fails.bind_ok hname (Fails.pmap ?_)
    exact ⟨['\n', '(', ')'], .not, by simp [peekNot, QM.Parse.seq, QM.Parse.bind, ws0, pchar, isMultispace]⟩
  have hfail : Fails (tupleP (fieldP (chainP (termP 1)))) ['A', '\n', '(', ')'] :=
    Fails.alt (Fails.bind_ok hname (Fails.pmap h1))
      (Fails.alt (Fails.pmap (bracketsP_fails rfl)) h3)
  obtain ⟨e, c, he⟩ := hfail
  rw [he]
  intro h
  cases h

end C17
