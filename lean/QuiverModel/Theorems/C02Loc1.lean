import QuiverModel.Theorems.C02Struct
/-
C02 (compiler correctness), on C02Loc and C02Struct — **sequences with locals, bindings and simple match patterns are
compiled correctly** (Core/RefSem/Compile1.lean), on C07's M-VM.

Compile1's programs are programs of Compile5 (`T1.up …`, C02Up) that use no construct above level 2, and C02Loc's
`ARunsL` is a machine of level 2 (`C02N.machineL`): `compileFs_aruns`, `compileSq_aruns` are C02Struct's structural
theorems read through the embedding — `Load(slot Γ x)` reads the value `x` was bound to because the locals stay
aligned with the compile-time names (`L.length = Γ.length`, `C02N.compileFs_len` with `C02N.evalFs_ext`).
`compileSq1_correct` lifts the run to `transition`.
-/
open QM.VM QM.RefSem.C1

namespace C02L
open C02N (sem0)

section Terms
variable {O : Oracle} {P : Prog} {code : Array Instr}

theorem compileFs_aruns (hO : OracleIntEq O) (hP : wfProg P) (hsz : code.size < 2 ^ 63 - 1) :
      (fs : Fs1) → (Γ : List String) → (pc : Nat) → (flow : Val) → (rest L acc vs : List Val) →
      (L' : List Val) → C02S.Located code pc (compileFs Γ fs acc.length).1 → wfFs P fs →
      L.length = Γ.length → evalFs Γ L flow fs = some (vs, L') →
      ARunsL O P code (pc, acc.reverse ++ flow :: rest, L)
          (pc + (compileFs Γ fs acc.length).1.length, (acc ++ vs).reverse ++ flow :: rest, L') ∧
        L'.length = (compileFs Γ fs acc.length).2.length ∧ vs.length = fs.length
  | fs, Γ, pc, flow, rest, L, acc, vs, L', hl, hw, hal, hev => by
    have run := (C02N.machineL O P code).runFs hO hP hsz fs.up Γ pc _ flow rest L acc vs L' ⟨by rwa [compileFs_up], rfl⟩
      (wfFs_up P fs hw) (lvFs_up fs) hal (Nat.zero_le _) (C02N.selfOK_sem0 L) (by rw [evalFs_up, hev])
    rw [compileFs_up, Fs1.length_up] at run
    obtain ⟨ext, rfl, he⟩ := C02N.evalFs_ext sem0 fs.up Γ L flow vs L' (by rw [evalFs_up, hev])
    exact ⟨run.1, by rw [← compileFs_up, C02N.compileFs_len, List.length_append, hal, he], run.2⟩

theorem compileSq_aruns (hO : OracleIntEq O) (hP : wfProg P) (hsz : code.size < 2 ^ 63 - 1) :
    (sq : Sq1) → (Γ : List String) → (pc : Nat) → (flow : Val) → (rest L : List Val) → (v : Val) →
    (L' : List Val) → C02S.Located code pc (compileSq Γ sq).1 → wfSq P sq → L.length = Γ.length →
    evalSq Γ L flow sq = some (v, L') →
    ARunsL O P code (pc, flow :: rest, L) (pc + (compileSq Γ sq).1.length, v :: rest, L')
  | sq, Γ, pc, flow, rest, L, v, L', hl, hw, hal, hev => by
    have run := (C02N.machineL O P code).runSq hO hP hsz sq.up Γ pc _ flow rest L (.norm v L')
      ⟨by rwa [compileSq_up], rfl⟩ (wfSq_up P sq hw) (lvSq_up sq) hal (Nat.zero_le _) (C02N.selfOK_sem0 L)
      (by rw [evalSq_up, hev]; rfl)
    rwa [compileSq_up] at run

end Terms

/-- **Sequences with locals, bindings and simple matches are compiled correctly**: a process of M-VM
whose current function contains the code of `c₁, c₂, …` (compiled with the slot names `Γ`) at `pc`,
whose frame's locals `L` are aligned with `Γ`, with the flowing value on top of its stack, reaches the
end of that code by `Executor::step` units alone, with the sequence's value in place of the flowing
value and the frame's locals extended exactly as `evalSq` says (the locals of the frames below and the
rest of the stack untouched). -/
theorem compileSq1_correct (O : Oracle) (P : Prog) (hO : OracleIntEq O) (hP : wfProg P) (fn : Function)
    (f : Frame) (r : List Frame) (pre : List Val) (hfn : P.functions[f.functionIndex]? = some fn)
    (hsz : fn.instructions.size < 2 ^ 63 - 1) (sq : Sq1) (Γ : List String) (pc : Nat) (flow : Val)
    (rest L : List Val) (v : Val) (L' : List Val)
    (hl : C02S.Located fn.instructions pc (compileSq Γ sq).1) (hw : wfSq P sq)
    (hal : L.length = Γ.length) (hev : evalSq Γ L flow sq = some (v, L'))
    (p : Proc) (hp : InvL p f r pre pc (flow :: rest) L) :
    ∃ q, C02S.TRuns O P p q ∧ InvL q f r pre (pc + (compileSq Γ sq).1.length) (v :: rest) L' :=
  liftL O P fn f r pre hfn (compileSq_aruns hO hP hsz sq Γ pc flow rest L v L' hl hw hal hev) p hp

end C02L
