import QuiverModel.Core.Heap.Unfixed
import QuiverModel.Lemmas.Heap.Select
import QuiverModel.Lemmas.Heap.Reach
import QuiverModel.Lemmas.Heap.ResultPres
/-
C06 — Binary heap accounting is exact: no leak, no premature free, no aliasing damage.

Model: M-Heap (`Core/Heap/Basic.lean`: state, `retain`/`release`, choke points, allocation,
reclamation, transfer by copy) + its instruction layer (`Core/Heap/Instr.lean`, `Exec.lean`,
`Select.lean`: the value-movement pattern of every handler, including the select machinery).

Invariant: `QM.Heap.Inv` (`Lemmas/Heap/Inv.lean`), whose clause `acct` is

    Acct s : ∀ i, s.rc i = s.countRefs i + s.floating i

(`countRefs` = number of *paths* from a root to `Binary::Heap(i)` — `retain` walks into every tuple
every time; `floating` = occurrences in handles that left a root by a raw `pop` and remain
counted). All theorems are for every state, value, process id and program table, and for every
builtin behaviour that satisfies `BuiltinOk`; nothing is bounded.
-/
namespace C06
open QM.Heap QM.Heap.State

theorem acct_init : Inv State.init := by
  refine ⟨rfl, rfl, ?_, ?_, ?_, ?_, ?_, ?_, ?_, rfl⟩
  · intro i; simp [State.init, State.rc, State.countRefs, State.procsCount, State.constCount,
      State.constCountL, State.floating]
  · intro i hi; simp [State.init, State.isFreed] at hi
  · intro j hj; simp [State.init] at hj
  · intro i hi; simp [State.init, State.isFreed] at hi
  · simp [State.init]
  · intro i hi; simp [State.init] at hi
  · intro j hj; simp [State.init] at hj

theorem acct_of_inv {s : State} (h : Inv s) :
    ∀ i, s.rc i = s.countRefs i + s.floating i := h.acct

theorem acct_step_pushValue {s : State} (h : Inv s) (pid : Nat) {v : Val} (hv : Live s v) :
    Inv (pushValue s pid v) := (goodT_pushValue h pid hv).inv

theorem acct_step_popValue {s : State} (h : Inv s) (pid : Nat) : Inv (popValue s pid).2 := (goodT_popValue h pid).inv

theorem acct_step_pushLocal {s : State} (h : Inv s) (pid : Nat) {v : Val} (hv : Live s v) :
    Inv (pushLocal s pid v) := (goodT_pushLocal h pid hv).inv

theorem acct_step_truncateLocals {s : State} (h : Inv s) (pid len : Nat) : Inv (truncateLocals s pid len) :=
  (goodT_truncateLocals h pid len).inv

theorem acct_step_replaceLocals {s : State} (h : Inv s) (pid : Nat) {newLocals : List Val}
    (hv : LiveL s newLocals) : Inv (replaceLocals s pid newLocals).2 := (goodT_replaceLocals h pid hv).inv

theorem acct_step_releaseOrphanLocals {s : State} (h : Inv s) (pid : Nat) (keep : List Nat) :
    Inv (releaseOrphanLocals s pid keep).2 := (goodT_releaseOrphanLocals h pid keep).inv

theorem acct_step_allocate {s : State} (h : Inv s) (d : Data) : Inv (allocate s d).2 := inv_allocate h d

theorem acct_step_processPendingFree {s : State} (h : Inv s) : Inv (processPendingFree s) :=
  inv_processPendingFree h

theorem acct_step_materialize {s : State} (h : Inv s) (index : Nat) (hnf : s.isFreed index = false) :
    Inv (materialize s index).2 := inv_materialize h index hnf

theorem acct_step_cachedConstantBinary {s : State} (h : Inv s) (index : Nat) (bytes : Option Bytes) :
    Inv (cachedConstantBinary s index bytes).2 := (cachedConstantBinary_spec h index bytes).1

theorem acct_step_injectHeapData {s : State} (h : Inv s) (v : Val) (hd : List Bytes) :
    Inv (injectHeapData s v hd).2 := (injectHeapData_spec h v hd).1.inv

/-- a popped handle stays usable (its slots are neither freed nor overwritten) until the next
reclamation point, whatever its count has dropped to -/
theorem popped_handle_live {s : State} (h : Inv s) (pid : Nat) (v : Val) (hv : (popValue s pid).1 = some v) :
    Live (popValue s pid).2 v := by
  obtain hp | ⟨w, t, hp, _, l⟩ := popValue_cases h pid <;> rw [hp] at hv ⊢
  · cases hv
  · exact Option.some.inj hv ▸ l

/-- side conditions of the two handlers that drop a raw-popped handle on a failure path. They are
assumed here: verified bytecode of a type-checked program has them (C07: stack depth; C01: a send
target is a process), but no theorem of this development derives them from C07 / C01. -/
def InstrPre (s : State) (pid : Nat) : Instr → Prop
  | .spawn => (stackOf s pid).length ≠ 1
  | .send => (stackOf s pid).length ≠ 1 ∧
      ∀ t, (stackOf s pid).head? = some t → (∃ a b, t = Val.proc a b) ∨ t.heapFree
  | _ => True

/-- every builtin's result mentions only slots of its argument and slots it allocated itself -/
def EnvOk (env : Env) : Prop := ∀ id r, env.run id = some r → BuiltinOk r

/-- **acct_step** for instructions: the invariant is kept, no live slot is freed or overwritten,
and nothing is left in transit — whether the handler succeeds or fails half-way. -/
theorem acct_step_instr (env : Env) (henv : EnvOk env) {s : State} (h : Inv s) (pid : Nat) (i : Instr)
    (hpre : InstrPre s pid i) :
    Inv (exec env s pid i).1 ∧ Stable s (exec env s pid i).1 ∧ (exec env s pid i).1.transit = s.transit := by
  have key : GoodT s (exec env s pid i).1 := by
    cases i with
    | constant index c => exact good_handleConstant h pid index c
    | pop => exact good_handlePop h pid
    | duplicate => exact good_handleDuplicate h pid
    | pick n => exact good_handlePick h pid n
    | rotate n => exact good_handleRotate h pid n
    | load index => exact good_handleLoad h pid index
    | store => exact good_handleStore h pid
    | tuple t sz => exact good_handleTuple h pid t sz
    | get index => exact good_handleGet h pid index
    | isType t => exact good_handleIsType h pid _
    | jump t => exact good_handleJump h pid t
    | jumpIf t => exact good_handleJumpIf h pid t
    | call => exact good_handleCall h pid _ _ henv
    | tailCall r => exact good_handleTailCall h pid r _
    | function fi c => exact good_handleFunction h pid fi c
    | reset index => exact good_handleReset h pid index
    | builtin index k => exact good_handleBuiltin h pid index k
    | equal n => exact good_handleEqual h pid n _
    | not => exact good_handleNot h pid
    | spawn => exact good_handleSpawn h pid hpre
    | send => exact good_handleSend h pid hpre.1 hpre.2
    | self sw => exact good_handleSelf h pid sw
    | processRef a b => exact good_handleProcessRef h pid a b
  exact key.parts

/-- … including the `Err` arm of the step loop (the running process has no result yet) -/
theorem acct_step_stepInstr (env : Env) (henv : EnvOk env) {s : State} (h : Inv s) (pid : Nat) (i : Instr)
    (hpre : InstrPre s pid i)
    (hrun : ∀ p v, (exec env s pid i).1.getProc pid = some p → p.result ≠ some (.ok v)) :
    Inv (stepInstr env s pid i).1 ∧ Stable s (stepInstr env s pid i).1
      ∧ (stepInstr env s pid i).1.transit = s.transit := by
  have ⟨a, b, c⟩ := acct_step_instr env henv h pid i hpre
  unfold stepInstr
  cases he : exec env s pid i with
  | mk s1 o =>
    rw [he] at a b c hrun
    cases o with
    | fail =>
      have g := good_setError a pid hrun
      exact ⟨g.inv, b.trans g.stable, g.transit.trans c⟩
    | ok => exact ⟨a, b, c⟩
    | act x => exact ⟨a, b, c⟩
    | wait => exact ⟨a, b, c⟩

/-- no instruction handler touches the stored result of any process -/
theorem exec_keeps_results (env : Env) (s : State) (pid : Nat) (i : Instr) (q : Nat) :
    ((exec env s pid i).1.getProc q).map (·.result) = (s.getProc q).map (·.result) :=
  sameRes_exec env s pid i q

/-- `acct_step_stepInstr` with its side condition on the state BEFORE the instruction: the running
process has no stored result (`resume_process` takes it; a fresh process has none) -/
theorem acct_step_stepInstr_pre (env : Env) (henv : EnvOk env) {s : State} (h : Inv s) (pid : Nat) (i : Instr)
    (hpre : InstrPre s pid i) (hrun : ∀ p v, s.getProc pid = some p → p.result ≠ some (.ok v)) :
    Inv (stepInstr env s pid i).1 ∧ Stable s (stepInstr env s pid i).1
      ∧ (stepInstr env s pid i).1.transit = s.transit := by
  refine acct_step_stepInstr env henv h pid i hpre ?_
  intro p v hp
  have hk := exec_keeps_results env s pid i pid
  rw [hp] at hk
  cases hs : s.getProc pid with
  | none => rw [hs] at hk; cases hk
  | some p0 =>
    rw [hs] at hk
    simp only [Option.map_some, Option.some.injEq] at hk
    rw [hk]; exact hrun p0 v hs

/-- **acct_step** for `Select` (`handle_select` with everything below it: continuation, initialise,
source scan, filter call, verdict, completion): for every clock, compatibility table, set of failed
targets and builtin behaviour -/
theorem acct_step_select (env : SelEnv) (henv : ∀ id r, env.run id = some r → BuiltinOk r)
    {s : State} (h : Inv s) (pid : Nat) :
    Inv (handleSelect env s pid).1 ∧ Stable s (handleSelect env s pid).1
      ∧ (handleSelect env s pid).1.transit = s.transit := by
  exact (good_handleSelect env henv h pid).parts

/-- **acct_step** for the gated `Select` (`handle_select` of /repo since b0190c3: a select with process
sources evaluates nothing until every target has been answered): for either value of the gate -/
theorem acct_step_selectWaiting (env : SelEnv) (henv : ∀ id r, env.run id = some r → BuiltinOk r)
    (pending : Bool) {s : State} (h : Inv s) (pid : Nat) :
    Inv (handleSelectWaiting env pending s pid).1 ∧ Stable s (handleSelectWaiting env pending s pid).1
      ∧ (handleSelectWaiting env pending s pid).1.transit = s.transit := by
  exact (good_handleSelectWaiting env henv pending h pid).parts

/-- a closed gate parks a select that has no filter verdict pending (`hrecv`) and whose recorded
position is the current one (`hpos`): nothing is evaluated, the state is unchanged -/
theorem selectWaiting_closed_gate_parks {env : SelEnv} {s : State} {pid : Nat} {p : Proc} {st : SelectState}
    (hp : s.getProc pid = some p) (hst : p.selectState = some st) (hrecv : st.receiving = none)
    (hpos : st.frame = p.frames.length - 1 ∧ st.instruction = topCounter p.frames) :
    handleSelectWaiting env true s pid = (s, .wait) := by
  have hc : handleSelectContinuation s pid = (s, some none) := by
    simp [handleSelectContinuation, hp, hst, hrecv, hpos.1, hpos.2]
  simp [handleSelectWaiting, hc, hasSelectStateB, hp, hst]

/-- with the gate open it is `handle_select` itself -/
theorem selectWaiting_open_gate (env : SelEnv) (s : State) (pid : Nat) :
    handleSelectWaiting env false s pid = handleSelect env s pid := by
  unfold handleSelectWaiting
  cases hc : handleSelectContinuation s pid with
  | mk s1 o =>
    cases o with
    | none => simp [handleSelect, hc]
    | some rr => simp

/-- the repaired `call_receive_function`: the message of an abandoned filter call is released -/
theorem acct_step_callReceiveFunction (env : SelEnv) (henv : ∀ id r, env.run id = some r → BuiltinOk r)
    {s : State} (h : Inv s) (pid receiveIdx msgIdx : Nat) {message source : Val}
    (hm : Live s message) (hsrc : Live s source) (hsel : HasSel s pid) :
    Inv (callReceiveFunction env s pid receiveIdx msgIdx message source).1
      ∧ (callReceiveFunction env s pid receiveIdx msgIdx message source).1.transit = s.transit := by
  have g := good_callReceiveFunction env henv h pid receiveIdx msgIdx hm hsrc hsel
  exact ⟨g.inv, g.transit⟩

theorem acct_step_completeSelect {s : State} (h : Inv s) (pid : Nat) {result : Val} (hr : Live s result) :
    Inv (completeSelect s pid result).1 ∧ (completeSelect s pid result).1.transit = s.transit := by
  have g := good_completeSelect h pid hr
  exact ⟨g.inv, g.transit⟩

theorem acct_step_spawnProcess {s : State} (h : Inv s) (id : Nat) (fi : Option Nat) (caps : List Val)
    (arg : Val) (hd : List Bytes) (persistent : Bool) (hnew : s.getProc id = none) :
    Inv (spawnProcess s id fi caps arg hd persistent).1 := (good_spawnProcess h id fi caps arg hd persistent hnew).inv

theorem acct_step_notifySpawn {s : State} (h : Inv s) (id a b : Nat) : Inv (notifySpawn s id a b) :=
  (good_notifySpawn h id a b).inv

theorem acct_step_notifyMessage {s : State} (h : Inv s) (id : Nat) (m : Val) (hd : List Bytes) :
    Inv (notifyMessage s id m hd).1 := (good_notifyMessage h id m hd).inv

theorem acct_step_notifyResult {s : State} (h : Inv s) (awaiter awaited : Nat) (r : Val) (hd : List Bytes) :
    Inv (notifyResult s awaiter awaited r hd).1 := (good_notifyResult h awaiter awaited r hd).inv

theorem acct_step_notifyEffectCompletion {s : State} (h : Inv s) (pid : Nat) (r : Option Val) (hd : List Bytes)
    (hrun : ∃ p, s.getProc pid = some p ∧ p.result = none) :
    Inv (notifyEffectCompletion s pid r hd).1 := (good_notifyEffectCompletion h pid r hd hrun).inv

theorem acct_step_resumeProcess {s : State} (h : Inv s) (id fi : Nat) : Inv (resumeProcess s id fi).1 :=
  (good_resumeProcess h id fi).inv

theorem acct_step_compactLocals {s : State} (h : Inv s) (pid : Nat) (keep : List Nat) :
    Inv (compactLocals s pid keep).1 := (good_compactLocals h pid keep).inv

theorem acct_step_popFrame {s : State} (h : Inv s) (pid : Nat) : Inv (popFrame s pid) := (good_popFrame h pid).inv

theorem acct_step_finish {s : State} (h : Inv s) (pid : Nat)
    (hrun : ∀ p v, s.getProc pid = some p → p.result ≠ some (.ok v)) : Inv (finish s pid).1 :=
  (good_finish h pid hrun).inv

theorem acct_step_notifyAwaiters {s : State} (h : Inv s) (pid : Nat) : Inv (notifyAwaiters s pid) :=
  (good_notifyAwaiters h pid).inv

/-- same-worker awaiter notification passes an empty heap list: for a result that mentions a heap
slot the injection fails before anything is allocated or counted — the state is untouched (the
result then travels worker → environment → worker); nothing leaks, nothing is counted twice. -/
theorem notifyResult_empty_heap_noop (s : State) (awaiter awaited : Nat) {v : Val} {j : Nat}
    (h : 0 < v.count j) : (notifyResult s awaiter awaited v []).1 = s := by
  unfold notifyResult
  split
  · rfl
  · split
    · rw [injectHeapData_nil_fails s h]
    · rfl

/-! ### finished processes (finding F17): `release_dead_roots` and the guarded `notify_message` of
/repo since 4dd92c6 -/

theorem acct_step_releaseDeadRoots {s : State} (h : Inv s) (pid : Nat) :
    Inv (releaseDeadRoots s pid) ∧ Stable s (releaseDeadRoots s pid)
      ∧ (releaseDeadRoots s pid).transit = s.transit := by
  exact (good_releaseDeadRoots h pid).parts

theorem acct_step_notifyMessageGuarded {s : State} (h : Inv s) (id : Nat) (m : Val) (hd : List Bytes) :
    Inv (notifyMessageGuarded s id m hd).1 := (good_notifyMessageGuarded h id m hd).inv

/-- after `release_dead_roots` a process that cannot be resumed roots nothing but its result -/
theorem dead_process_roots_only_result {s : State} {pid : Nat} {p : Proc} (hp : s.getProc pid = some p)
    (hnp : p.persistent = false) :
    ∃ p', (releaseDeadRoots s pid).getProc pid = some p' ∧ p'.roots = Res.vals p.result := by
  refine ⟨withoutDeadRoots p, ?_, roots_after_releaseDeadRoots p hnp⟩
  unfold releaseDeadRoots
  rw [hp]
  simp only
  rw [getProc_of_sameRoots (sameRoots_releaseList _ _)]
  simp

/-- an undeliverable message leaves the state untouched -/
theorem undeliverable_message_allocates_nothing {s : State} (id : Nat) (m : Val) (hd : List Bytes)
    (hnd : ∀ p, s.getProc id = some p → deliverable p = false) : (notifyMessageGuarded s id m hd).1 = s := by
  unfold notifyMessageGuarded
  split
  · rename_i p hp; simp [hnd p hp]
  · rfl

/-- what `check_refcounts` tests: a slot is counted exactly when `reachable_heap_indices`
contains it -/
theorem positive_iff_reachable {s : State} (h : Inv s) (ht : s.transit = []) (i : Nat) :
    0 < s.rc i ↔ i ∈ s.reachable := h.pos_iff_reachable ht i

/-- a freed slot is not reachable and no counted handle mentions it -/
theorem no_use_after_free {s : State} (h : Inv s) (i : Nat) (hf : s.isFreed i = true) :
    i ∉ s.reachable ∧ s.floating i = 0 := by
  have hz := h.freedZero i hf
  rw [h.acct i] at hz
  rw [mem_reachable_iff]; omega

/-- the reuse pool is exactly the set of freed slots -/
theorem free_iff_freed {s : State} (h : Inv s) (i : Nat) : i ∈ s.free ↔ s.isFreed i = true :=
  ⟨h.freeFreed i, h.freedFree i⟩

/-- `process_pending_free` frees a slot only if it had been queued, is not reachable, and no counted
handle mentions it -/
theorem free_only_unreachable {s : State} (h : Inv s) (i : Nat)
    (hf : (processPendingFree s).isFreed i = true) (hnf : s.isFreed i = false) :
    i ∈ s.pendingFree ∧ i ∉ s.reachable ∧ s.floating i = 0 := by
  have ⟨hz, hq⟩ := freed_by_ppf i hf hnf
  rw [h.acct i] at hz
  rw [mem_reachable_iff]
  exact ⟨hq, by omega, by omega⟩

/-! ## `bytes_stable`

Every operation other than reclamation leaves every un-freed slot un-freed and its bytes intact
(`Stable`: second component of `acct_step_instr`, `acct_step_select`, `acct_step_releaseDeadRoots`);
in particular allocation reuses freed slots only and `materialize` preserves content. -/

theorem bytes_stable_allocate {s : State} (h : Inv s) (d : Data) : Stable s (allocate s d).2 := stable_allocate h d

theorem bytes_stable_materialize (s : State) (index : Nat) :
    Stable s (materialize s index).2 ∧ ∀ i, (materialize s index).2.bytesAt i = s.bytesAt i :=
  ⟨stable_materialize s index, bytesAt_materialize s index⟩

theorem bytes_stable_inject {s : State} (h : Inv s) (v : Val) (hd : List Bytes) :
    Stable s (injectHeapData s v hd).2 := (injectHeapData_spec h v hd).1.stable

/-- reclamation leaves every slot alone that is reachable or mentioned by a counted handle -/
theorem bytes_stable_reclaim {s : State} (h : Inv s) (i : Nat) (hi : i ∈ s.reachable ∨ 0 < s.floating i) :
    (processPendingFree s).isFreed i = false ∧ (processPendingFree s).bytesAt i = s.bytesAt i := by
  have hpos : 0 < s.rc i := by
    rw [h.acct i]
    cases hi with
    | inl hr => have := (mem_reachable_iff s i).mp hr; omega
    | inr hf => omega
  have hnf : s.isFreed i = false := by
    cases hq : s.isFreed i with
    | false => rfl
    | true => have := h.freedZero i hq; omega
  have hnf' : (processPendingFree s).isFreed i = false := by
    cases hq : (processPendingFree s).isFreed i with
    | false => rfl
    | true => have := (freed_by_ppf i hq hnf).1; omega
  exact ⟨hnf', bytesAt_processPendingFree h hnf'⟩

/-- an uncounted handle (a value popped earlier in the same handler, a freshly allocated slot) also
survives everything except reclamation — which runs only at the start of `step`, when no such handle
exists -/
theorem bytes_stable_handle {s t : State} {v : Val} (hv : Live s v) (hst : Stable s t) :
    Live t v ∧ ∀ j, 0 < v.count j → t.bytesAt j = s.bytesAt j :=
  ⟨hv.stable hst, fun j hj => (hst.keep j (hv j hj).1 (hv j hj).2).2⟩

/-- a value extracted on one executor and injected into another reads, against the receiving heap,
exactly as it read against the sending heap (bytes for slot numbers); the injected handle is live
and shares no slot with anything the receiver already held -/
theorem transfer_copies {src dst : State} (hdst : Inv dst) {v v' : Val} {hd : List Bytes}
    (hx : extractHeapData src v = some (v', hd)) {w : Val} (hi : (injectHeapData dst v' hd).1 = some w) :
    erase (injectHeapData dst v' hd).2.bytesAt w = erase src.bytesAt v
      ∧ Live (injectHeapData dst v' hd).2 w
      ∧ ∀ u, Live dst u → ∀ j, 0 < w.count j → u.count j = 0 := by
  have ⟨_, _, c⟩ := injectHeapData_spec hdst v' hd
  have ⟨l, e, f⟩ := c w hi
  exact ⟨e.trans (extractHeapData_erase hx), l, f⟩

/-- at a slice boundary (nothing in transit) every slot that is not reachable — and is not a
never-retained allocation — is free after the next `process_pending_free`, i.e. after the start of
the next `step` -/
theorem reclaimed {s : State} (h : Inv s) (ht : s.transit = []) (hfresh : s.fresh = []) (i : Nat)
    (hi : i < s.heap.size) (hu : i ∉ s.reachable) :
    (processPendingFree s).isFreed i = true ∧ i ∈ (processPendingFree s).free
      ∧ (processPendingFree s).pendingFree = [] := by
  have hz := h.rc_zero_of_unreachable ht hu
  have hfr : (processPendingFree s).isFreed i = true := by
    cases hq : s.isFreed i with
    | true => exact isFreed_processPendingFree h hq
    | false =>
      cases h.queued i hi hz hq with
      | inl hp => exact ppf_frees h i hp hz
      | inr hf => rw [hfresh] at hf; cases hf
  exact ⟨hfr, (inv_processPendingFree h).freedFree i hfr, pendingFree_processPendingFree s⟩

/-! ## every state an executor can reach

`Reach` closes the initial state under every operation the executor and its worker perform on the
heap and the roots — in any order, for any process, any program tables, any clock, any message or
result arriving at any time: this is "every program and every scheduling down to one instruction per
slice" on the model side. Premises of the constructors: `InstrPre` (`instr`) and the condition on
builtins (`EnvOk`, `BuiltinOk`); besides these, the running process has no stored `ok` result
(`instr`, `finish`: before the step; `select`: after `handleSelect`, since nothing states that the
select machinery keeps stored results), the id given to `spawnProcess`
is unused (`getProc id = none`), the process of a completed effect exists and has no result
(`notifyEffect`), and `materialize` is applied to an un-freed slot. All are assumptions here
(`notes/C06.md`, "Side conditions that remain in statements"). `finish`, `notifyMessage` and
`stepSelect` are the code before 4dd92c6 / b0190c3; `releaseDeadRoots`, `notifyMessageGuarded` and
`stepSelectWaiting` (what /repo runs since) have their `acct_step_*` above but no constructor. -/

inductive Reach : State → Prop where
  | init : Reach State.init
  /-- start of a `step`: reclamation -/
  | reclaim {s} : Reach s → Reach (processPendingFree s)
  /-- one instruction of the time slice of process `pid` (handler + `Err` arm) -/
  | instr {s} (env : Env) (pid : Nat) (i : Instr) : Reach s → EnvOk env → InstrPre s pid i →
      (∀ p v, s.getProc pid = some p → p.result ≠ some (.ok v)) →
      Reach (stepInstr env s pid i).1
  /-- a `Select` instruction (first execution or any re-entry) -/
  | select {s} (env : SelEnv) (pid : Nat) : Reach s → (∀ id r, env.run id = some r → BuiltinOk r) →
      (∀ p v, (handleSelect env s pid).1.getProc pid = some p → p.result ≠ some (.ok v)) →
      Reach (stepSelect env s pid).1
  /-- end of the slice: frame auto-pop, completion, same-executor awaiters -/
  | popFrame {s} (pid : Nat) : Reach s → Reach (popFrame s pid)
  | finish {s} (pid : Nat) : Reach s → (∀ p v, s.getProc pid = some p → p.result ≠ some (.ok v)) →
      Reach (finish s pid).1
  | notifyAwaiters {s} (pid : Nat) : Reach s → Reach (notifyAwaiters s pid)
  /-- commands handled by the worker between slices -/
  | spawnProcess {s} (id : Nat) (fi : Option Nat) (caps : List Val) (arg : Val) (hd : List Bytes) (pers : Bool) :
      Reach s → s.getProc id = none → Reach (spawnProcess s id fi caps arg hd pers).1
  | notifySpawn {s} (id a b : Nat) : Reach s → Reach (notifySpawn s id a b)
  | notifyMessage {s} (id : Nat) (m : Val) (hd : List Bytes) : Reach s → Reach (notifyMessage s id m hd).1
  | notifyResult {s} (a b : Nat) (r : Val) (hd : List Bytes) : Reach s → Reach (notifyResult s a b r hd).1
  | notifyEffect {s} (pid : Nat) (r : Option Val) (hd : List Bytes) : Reach s →
      (∃ p, s.getProc pid = some p ∧ p.result = none) → Reach (notifyEffectCompletion s pid r hd).1
  | resume {s} (id fi : Nat) : Reach s → Reach (resumeProcess s id fi).1
  | compact {s} (pid : Nat) (keep : List Nat) : Reach s → Reach (compactLocals s pid keep).1
  | orphans {s} (pid : Nat) (keep : List Nat) : Reach s → Reach (releaseOrphanLocals s pid keep).2
  /-- a builtin flattens a binary of its argument (a live handle: the slot is not freed) -/
  | materialize {s} (index : Nat) : Reach s → s.isFreed index = false → Reach (materialize s index).2

/-- **the invariant holds, and nothing is in transit, in every reachable state** -/
theorem reach_inv {s : State} (h : Reach s) : Inv s ∧ s.transit = [] := by
  induction h with
  | init => exact ⟨acct_init, rfl⟩
  | reclaim _ ih => exact ⟨inv_processPendingFree ih.1, (ppf_frame ih.1).2.2.1.transit.trans ih.2⟩
  | instr env pid i _ he hp hr ih =>
    have ⟨a, _, c⟩ := acct_step_stepInstr_pre env he ih.1 pid i hp hr
    exact ⟨a, c.trans ih.2⟩
  | select env pid _ he hr ih =>
    have g := good_handleSelect env he ih.1 pid
    unfold stepSelect
    cases hc : handleSelect env _ pid with
    | mk s1 o =>
      rw [hc] at g hr
      cases o with
      | fail => exact (g.andThen (good_setError · pid hr)).at_boundary ih
      | _ => exact g.at_boundary ih
  | popFrame pid _ ih => exact (good_popFrame ih.1 pid).at_boundary ih
  | finish pid _ hr ih => exact (good_finish ih.1 pid hr).at_boundary ih
  | notifyAwaiters pid _ ih => exact (good_notifyAwaiters ih.1 pid).at_boundary ih
  | spawnProcess id fi caps arg hd pers _ hn ih =>
    exact (good_spawnProcess ih.1 id fi caps arg hd pers hn).at_boundary ih
  | notifySpawn id a b _ ih => exact (good_notifySpawn ih.1 id a b).at_boundary ih
  | notifyMessage id m hd _ ih => exact (good_notifyMessage ih.1 id m hd).at_boundary ih
  | notifyResult a b r hd _ ih => exact (good_notifyResult ih.1 a b r hd).at_boundary ih
  | notifyEffect pid r hd _ hp ih => exact (good_notifyEffectCompletion ih.1 pid r hd hp).at_boundary ih
  | resume id fi _ ih => exact (good_resumeProcess ih.1 id fi).at_boundary ih
  | compact pid keep _ ih => exact (good_compactLocals ih.1 pid keep).at_boundary ih
  | orphans pid keep _ ih => exact (goodT_releaseOrphanLocals ih.1 pid keep).at_boundary ih
  | materialize index _ hnf ih =>
    exact ⟨inv_materialize ih.1 index hnf, (rootsEq_materialize _ index).transit.trans ih.2⟩

/-- **C06 on the model, for every reachable state**: a slot is counted exactly when it is reachable;
a freed slot is unreachable; the reuse pool is the set of freed slots -/
theorem reachable_states_exact {s : State} (h : Reach s) (i : Nat) :
    (0 < s.rc i ↔ i ∈ s.reachable) ∧ (s.isFreed i = true → i ∉ s.reachable) ∧ (i ∈ s.free ↔ s.isFreed i = true) := by
  have ⟨hi, ht⟩ := reach_inv h
  exact ⟨positive_iff_reachable hi ht i, fun hf => (no_use_after_free hi i hf).1, free_iff_freed hi i⟩

/-- **no assertion can fire**: the ghost flag `uaf` records every situation in which one of the
heap's debug assertions would fail — `retain`, `release`, `get_binary_data` (a builtin reading its
argument) or `materialize` of a freed slot ("use-after-free"), and a `release` underflow. It is
never set in a reachable state. -/
theorem no_assertion_fires {s : State} (h : Reach s) : s.uaf = false := (reach_inv h).1.noUaf

/-! ## the theorems depend on the repairs: the code as it was breaks the property

Each witness is a concrete state evaluated by the kernel (`decide`). -/

section Witnesses

/-- F7 (27c635d). Process 1 is in a select; the lower-priority filter (receive index 1) is running on
message `m0` (slot 0), which `select_state.receiving` holds; `m1` (slot 1) has arrived for the
higher-priority source. -/
def exSelectState : SelectState :=
  { frame := 0, instruction := 3, sources := [Val.func 7 [], Val.func 8 []], cursors := [0, 0], startTime := some 0, receiving := some (1, Val.heapBin 0) }

def exSelectProc : Proc :=
  { frames := [⟨0, 0, 0, 3⟩], mailbox := [Val.heapBin 0, Val.heapBin 1], selectState := some exSelectState }

def exSelect : State :=
  { heap := #[.owned [0x68], .owned [0x01, 0x02]], refcounts := #[2, 1], freed := #[false, false], procs := [(1, exSelectProc)] }

example : ∀ i, i < 2 → exSelect.rc i = exSelect.countRefs i + exSelect.floating i := by decide +kernel

/-- the old `call_receive_function` overwrites the slot: slot 0 stays counted twice with one path left -/
theorem unfixed_callReceiveFunction_breaks_acct :
    ¬ Acct (callReceiveFunctionUnfixed {} exSelect 1 0 1 (Val.heapBin 1) (Val.func 7 [])).1 := by
  intro h; exact absurd (h 0) (by decide +kernel)

example : (callReceiveFunctionUnfixed {} exSelect 1 0 1 (Val.heapBin 1) (Val.func 7 [])).1.rc 0 = 2 := by decide +kernel
example : (callReceiveFunctionUnfixed {} exSelect 1 0 1 (Val.heapBin 1) (Val.func 7 [])).1.countRefs 0 = 1 := by decide +kernel

/-- the repaired one releases the abandoned message -/
example : ∀ i, i < 2 →
    (callReceiveFunction {} exSelect 1 0 1 (Val.heapBin 1) (Val.func 7 [])).1.rc i
      = (callReceiveFunction {} exSelect 1 0 1 (Val.heapBin 1) (Val.func 7 [])).1.countRefs i := by decide +kernel

/-- F14 (795fca7). Process 1 still holds the first result of process 2 in `awaiting` (slot 0). -/
def exAwait : State :=
  { heap := #[.owned [1]], refcounts := #[1], freed := #[false],
    procs := [(1, { awaiting := [(2, some (Val.heapBin 0))] })] }

example : exAwait.rc 0 = exAwait.countRefs 0 + exAwait.floating 0 := by decide +kernel

theorem unfixed_notifyResult_breaks_acct :
    ¬ Acct (notifyResultUnfixed exAwait 1 2 (Val.heapBin 0) [[9]]).1 := by
  intro h; exact absurd (h 0) (by decide +kernel)

example : (notifyResult exAwait 1 2 (Val.heapBin 0) [[9]]).1.rc 0 = 0 := by decide +kernel
example : (notifyResult exAwait 1 2 (Val.heapBin 0) [[9]]).1.pendingFree = [0] := by decide +kernel

/-- F16 (bc74ad3). Process 1 has completed with a value (slot 0); overwriting its result with the
error of a process it once awaited leaves slot 0 counted and unreachable. -/
def exDone : State :=
  { heap := #[.owned [1, 2]], refcounts := #[1], freed := #[false],
    procs := [(1, { result := some (.ok (Val.heapBin 0)), awaiting := [(2, none)] })] }

example : exDone.rc 0 = exDone.countRefs 0 + exDone.floating 0 := by decide +kernel

theorem late_error_overwrite_breaks_acct : ¬ Acct (setError exDone 1) := by
  intro h; exact absurd (h 0) (by decide +kernel)

/-- F15 (fd2e22f). Two captures holding different binaries (slots 0 and 1 of the parent). -/
def exParent : State :=
  { heap := #[.owned [0x01, 0x02], .owned [0x03, 0x04]], refcounts := #[1, 1], freed := #[false, false],
    procs := [(0, { locals := [Val.heapBin 0, Val.heapBin 1] })] }

/-- the old transfer makes the second capture read the first capture's bytes … -/
theorem unfixed_spawn_transfer_corrupts :
    ((transferAllUnfixed exParent {} [Val.heapBin 0, Val.heapBin 1]).1.map
        (readBins (transferAllUnfixed exParent {} [Val.heapBin 0, Val.heapBin 1]).2))
      = some [[0x01, 0x02], [0x01, 0x02]] := by decide +kernel

/-- … and strands the copies it allocated for nothing (4 slots for 2 binaries) -/
example : (transferAllUnfixed exParent {} [Val.heapBin 0, Val.heapBin 1]).2.heap.size = 4 := by decide +kernel

/-- the repaired transfer copies each binary once and every capture reads its own bytes (an
instance of `transfer_copies`) -/
example :
    ((transferAll exParent {} [Val.heapBin 0, Val.heapBin 1]).1.map
        (readBins (transferAll exParent {} [Val.heapBin 0, Val.heapBin 1]).2))
      = some [[0x01, 0x02], [0x03, 0x04]] := by decide +kernel
example : (transferAll exParent {} [Val.heapBin 0, Val.heapBin 1]).2.heap.size = 2 := by decide +kernel

/-- F17 (/repo before 4dd92c6). Process 1 finishes; beneath its result (slot 1) the
operand stack holds what a tail call inside a tuple field abandoned (slot 0), and a message nobody
received sits in its mailbox (slot 2). -/
def exFinishing : State :=
  { heap := #[.owned [1], .owned [2], .owned [3]], refcounts := #[1, 1, 1], freed := #[false, false, false],
    procs := [(1, { stack := [Val.heapBin 1, Val.heapBin 0], mailbox := [Val.heapBin 2] })] }

example : ∀ i, i < 3 → exFinishing.rc i = exFinishing.countRefs i + exFinishing.floating i := by decide +kernel

/-- `finish` (the code before 4dd92c6): the finished process keeps both forever — counted, "reachable", never
reclaimed -/
theorem finished_process_keeps_dead_roots :
    (processPendingFree (finish exFinishing 1).1).reachable = [0, 2, 1]
      ∧ (processPendingFree (finish exFinishing 1).1).free = [] := by decide +kernel

/-- the same holds for a message that arrives after completion (`notifyMessage`, the code before 4dd92c6) -/
example : (processPendingFree (notifyMessage (finish exFinishing 1).1 1 (Val.heapBin 0) [[9]]).1).reachable.length = 4 := by
  decide +kernel

/-- with `release_dead_roots` only the result stays; the rest is in the reuse pool after the next step, and a
late message allocates nothing -/
theorem repaired_finish_reclaims_dead_roots :
    (processPendingFree (releaseDeadRoots (finish exFinishing 1).1 1)).reachable = [1]
      ∧ (processPendingFree (releaseDeadRoots (finish exFinishing 1).1 1)).free.length = 2 := by decide +kernel
example : (notifyMessageGuarded (releaseDeadRoots (finish exFinishing 1).1 1) 1 (Val.heapBin 0) [[9]]).1.heap.size = 3 := by
  decide +kernel

/-- the assertion flag is not vacuous: using a handle to a freed slot, or releasing more often than
retained, sets it -/
def exFreed : State :=
  { heap := #[.owned []], refcounts := #[0], freed := #[true], free := [0] }
example : (retain exFreed (Val.heapBin 0)).uaf = true := by decide +kernel
example : (materialize exFreed 0).2.uaf = true := by decide +kernel
example : (release exAwait (Val.tuple 0 [Val.heapBin 0, Val.heapBin 0])).uaf = true := by decide +kernel
example : (release exAwait (Val.heapBin 0)).uaf = false := by decide +kernel

end Witnesses

/-! ## the hypotheses are satisfiable: a non-trivial state that satisfies the invariant -/

section Examples

/-- process 0 spawned, a binary constant pushed, duplicated, stored, a tuple built, a field taken -/
def exRun : State :=
  let s := (spawnProcess State.init 0 (some 0) [] Val.nil [] false).1
  let s := (exec {} s 0 (.constant 0 (some (.bin [1, 2])))).1
  let s := (exec {} s 0 .duplicate).1
  let s := (exec {} s 0 .store).1
  let s := (exec {} s 0 (.constant 1 (some (.bin [3])))).1
  let s := (exec {} s 0 (.tuple 2 (some 2))).1
  let s := (exec {} s 0 .duplicate).1
  (exec {} s 0 (.get 1)).1

theorem exRun_inv : Inv exRun := by
  have e : EnvOk {} := by intro id r hr; cases hr
  have h0 := acct_step_spawnProcess acct_init 0 (some 0) [] Val.nil [] false rfl
  have h1 := (acct_step_instr {} e h0 0 (.constant 0 (some (.bin [1, 2]))) trivial).1
  have h2 := (acct_step_instr {} e h1 0 .duplicate trivial).1
  have h3 := (acct_step_instr {} e h2 0 .store trivial).1
  have h4 := (acct_step_instr {} e h3 0 (.constant 1 (some (.bin [3]))) trivial).1
  have h5 := (acct_step_instr {} e h4 0 (.tuple 2 (some 2)) trivial).1
  have h6 := (acct_step_instr {} e h5 0 .duplicate trivial).1
  exact (acct_step_instr {} e h6 0 (.get 1) trivial).1

/-- it is non-trivial: two slots, shared along several paths -/
example : exRun.rc 0 = 3 ∧ exRun.rc 1 = 3 ∧ exRun.reachable.length = 6 ∧ exRun.transit.length = 0 := by decide +kernel
/-- `positive_iff_reachable` applies to it -/
theorem exRun_transit : exRun.transit = [] := by
  have : exRun.transit.length = 0 := by decide +kernel
  exact List.eq_nil_of_length_eq_zero this
example : 0 < exRun.rc 1 ↔ 1 ∈ exRun.reachable := positive_iff_reachable exRun_inv exRun_transit 1
/-- `reclaimed` in action: the result replaced by the repaired `notify_result` (slot 0) is in the
reuse pool after the next `process_pending_free`, and the next allocation reuses it -/
example : (processPendingFree (notifyResult exAwait 1 2 (Val.heapBin 0) [[9]]).1).free = [0] := by decide +kernel
example : (allocate (processPendingFree (notifyResult exAwait 1 2 (Val.heapBin 0) [[9]]).1) (.owned [5])).1 = some 0 := by decide +kernel

end Examples

end C06
