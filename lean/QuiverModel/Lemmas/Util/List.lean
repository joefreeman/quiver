/-
List facts that more than one area uses and core Lean does not state in this form.
-/
namespace QM
universe u v
variable {α : Type u} {β : Type v}

theorem getElem?_inj_of_nodup {l : List α} (hn : l.Nodup) {i j : Nat} {x : α}
    (hi : l[i]? = some x) (hj : l[j]? = some x) : i = j :=
  (List.getElem?_inj (List.getElem?_eq_some_iff.mp hi).1 hn).mp (hi.trans hj.symm)

/-- A pair is in `zip` when its components sit at one index. The facts about `zip` below and in the areas
    are read off this. -/
theorem mem_zip_iff {l : List α} {cs : List β} {a : α} {c : β} :
    (a, c) ∈ l.zip cs ↔ ∃ j : Nat, l[j]? = some a ∧ cs[j]? = some c := by
  simp only [List.mem_iff_getElem?, List.getElem?_zip_eq_some]

theorem mem_zip_swap {l : List α} {cs : List β} {a : α} {c : β} (h : (c, a) ∈ cs.zip l) : (a, c) ∈ l.zip cs :=
  let ⟨j, h1, h2⟩ := mem_zip_iff.mp h; mem_zip_iff.mpr ⟨j, h2, h1⟩

theorem exists_zip_of_mem_right {l : List α} {cs : List β} (hl : l.length = cs.length) {c : β}
    (hc : c ∈ cs) : ∃ a, (a, c) ∈ l.zip cs := by
  obtain ⟨i, hi, rfl⟩ := List.mem_iff_getElem.mp hc
  exact ⟨l[i]'(hl ▸ hi), mem_zip_iff.mpr ⟨i, List.getElem?_eq_getElem _, List.getElem?_eq_getElem hi⟩⟩

theorem foldl_invariant (P : β → Prop) (f : β → α → β) (hf : ∀ b a, P b → P (f b a)) :
    ∀ (l : List α) (b : β), P b → P (l.foldl f b)
  | [], _, h => h
  | a :: l, b, h => foldl_invariant P f hf l (f b a) (hf b a h)

theorem foldl_rel_of_step {R : β → β → Prop} (refl : ∀ b, R b b) (trans : ∀ {a b c}, R a b → R b c → R a c)
    (f : β → α → β) (hf : ∀ b a, R b (f b a)) (l : List α) (b : β) : R b (l.foldl f b) :=
  foldl_invariant (R b) f (fun c a h => trans h (hf c a)) l b (refl b)

/-- A search `f` written as "is it the head, else one more than the index in the tail", for the entries
    satisfying `p`: a hit is the index of such an entry. -/
theorem indexOf?_spec {p : α → Bool} {f : List α → Option Nat} (hnil : f [] = none)
    (hcons : ∀ c cs, f (c :: cs) = if p c then some 0 else (f cs).map (· + 1)) {l : List α} {i : Nat}
    (h : f l = some i) : ∃ x, l[i]? = some x ∧ p x = true := by
  induction l generalizing i with
  | nil => rw [hnil] at h; cases h
  | cons c cs ih =>
    rw [hcons] at h
    split at h
    · cases h; exact ⟨c, rfl, ‹_›⟩
    · obtain ⟨j, hj, rfl⟩ := Option.map_eq_some_iff.mp h
      exact ih hj

theorem mem_of_lookup {κ : Type u} [BEq κ] [LawfulBEq κ] {l : List (κ × β)} {k : κ} {v : β}
    (h : l.lookup k = some v) : (k, v) ∈ l := by
  obtain ⟨l₁, l₂, rfl, -⟩ := List.lookup_eq_some_iff.mp h
  simp

theorem lookup_eq_some_iff_of_nodup {κ : Type u} [DecidableEq κ] {l : List (κ × β)} (hn : (l.map (·.1)).Nodup)
    (k : κ) (v : β) : l.lookup k = some v ↔ (k, v) ∈ l := by
  induction l with
  | nil => simp
  | cons e t ih =>
    obtain ⟨a, b⟩ := e
    rw [List.map_cons, List.nodup_cons] at hn
    rw [List.lookup_cons, List.mem_cons, Prod.mk.injEq]
    by_cases hka : k = a
    · subst hka
      have : (k, v) ∉ t := fun h => hn.1 (List.mem_map_of_mem (f := (·.1)) h)
      simp [this, eq_comm]
    · simp [beq_false_of_ne hka, hka, ih hn.2]

end QM
