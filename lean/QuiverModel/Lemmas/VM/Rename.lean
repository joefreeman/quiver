import QuiverModel.Lemmas.VM.Shape
/-
Index renaming (for `C07.renaming_preserves_check`): `tree_shake` and the environment's merge
renumber constants, tuples, types, functions and builtins. `transfer_rename`: the checker's transfer
function is invariant under a consistent renaming.
-/
namespace QM.VM

/-- Index renaming of the five tables (as `tree_shake` and the environment's merge apply). -/
structure Renaming where
  const : Nat → Nat
  tuple : Nat → Nat
  type : Nat → Nat
  func : Nat → Nat
  builtin : Nat → Nat

/-- The instruction with its static indices renamed. -/
def Renaming.instr (ρ : Renaming) : Instr → Instr
  | .constant i => .constant (ρ.const i)
  | .tuple id => .tuple (ρ.tuple id)
  | .isType id => .isType (ρ.type id)
  | .function i => .function (ρ.func i)
  | .builtin i => .builtin (ρ.builtin i)
  | .process pid f => .process pid (ρ.func f)
  | i => i

/-- `P'` contains `P` under `ρ`: every index valid in `P` is mapped to a valid index of `P'` with
the same meaning (same tuple arity; the function at the new index is the renamed old function with
the same number of captures). -/
structure Renames (ρ : Renaming) (P P' : Prog) : Prop where
  const : ∀ i, i < P.constants.size → ρ.const i < P'.constants.size
  tuple : ∀ id a, P.tuples[id]? = some a → P'.tuples[ρ.tuple id]? = some a
  type : ∀ id, id < P.types → ρ.type id < P'.types
  func : ∀ i fn, P.functions[i]? = some fn →
    ∃ fn', P'.functions[ρ.func i]? = some fn' ∧ fn'.captures = fn.captures ∧
      fn'.instructions = fn.instructions.map ρ.instr
  builtin : ∀ i, i < P.builtins → ρ.builtin i < P'.builtins

theorem transfer_rename {ρ : Renaming} {P P' : Prog} (h : Renames ρ P P') {n caps pc : Nat} {a : Ann}
    {i : Instr} {succs : List (Nat × Ann)} (ht : transfer P n caps pc a i = .ok succs) :
    transfer P' n caps pc a (ρ.instr i) = .ok succs := by
  cases i with
  | constant k =>
    obtain ⟨hk, e⟩ := ok_of_ite ht
    exact (if_pos (h.const k hk)).trans e
  | tuple id =>
    simp only [transfer, Renaming.instr] at ht ⊢
    split at ht
    · cases ht
    · rename_i ar har
      rw [h.tuple id ar har]
      exact ht
  | isType id =>
    obtain ⟨hk, e⟩ := ok_of_ite ht
    exact (if_pos (h.type id hk)).trans e
  | function k =>
    simp only [transfer, Renaming.instr] at ht ⊢
    split at ht
    · cases ht
    · rename_i fn hfn
      obtain ⟨fn', hfn', hc, _⟩ := h.func k fn hfn
      rw [hfn']
      simp only [hc]
      exact ht
  | builtin k =>
    obtain ⟨hk, e⟩ := ok_of_ite ht
    exact (if_pos (h.builtin k hk)).trans e
  | process q k =>
    obtain ⟨hk, e⟩ := ok_of_ite ht
    obtain ⟨fn', hfn', _⟩ := h.func k _ (Array.getElem?_eq_getElem hk)
    exact (if_pos (Array.getElem?_eq_some_iff.mp hfn').1).trans e
  | tailCall r => cases r <;> exact ht
  | _ => exact ht

end QM.VM
