import QuiverModel.Lemmas.VM.Sound
/-
Frame-list lemmas for M-VM (for `Theorems/C16.lean`): what instructions, frame pops and events do to
`Proc.frames` — unconditionally, at the model level — and the preservation of an *activation*.
-/
namespace QM.VM

/-- What one instruction can do to the frame list (model level, unconditional): change the current
frame's counter, push one frame on top, or replace the current frame by one with the same locals
base. -/
inductive FramesStep (f : Frame) (rest : List Frame) (frames' : List Frame) : Prop
  | counter (c : Nat) (h : frames' = { f with counter := c } :: rest)
  | push (g : Frame) (h : frames' = g :: f :: rest)
  | replace (g : Frame) (h : frames' = g :: rest) (hlb : g.localsBase = f.localsBase)

section
variable {O : Oracle} {P : Prog} {p p' : Proc} {act : Option Action} {f : Frame} {rest : List Frame}

theorem FramesStep.same (hfr : p.frames = f :: rest) : FramesStep f rest p.frames :=
  .counter f.counter hfr

theorem FramesStep.bump (hfr : p.frames = f :: rest) : FramesStep f rest p.bump.frames :=
  .counter _ (by rw [Proc.bump_eq hfr])

theorem FramesStep.setCounter (hfr : p.frames = f :: rest) (c : Nat) :
    FramesStep f rest (p.setCounter c).frames :=
  .counter c (by simp only [Proc.setCounter, hfr])

theorem handleCall_frames (h : handleCall O P p = .ok (p', act)) (hfr : p.frames = f :: rest) :
    FramesStep f rest p'.frames := by
  unfold handleCall at h
  repeat' split at h
  all_goals cases h
  · exact .push _ (congrArg _ hfr)
  · exact .bump hfr
  · exact .same hfr

theorem selectDecide_frames {st : SelectState} (h : selectDecide O P p st = .ok (p', act))
    (hfr : p.frames = f :: rest) : FramesStep f rest p'.frames := by
  unfold selectDecide at h
  split at h
  · cases h; exact .bump hfr
  · split at h
    · exact handleCall_frames h hfr
    · cases h
  · cases h; exact .same hfr
  all_goals cases h

/-- What a successful `TailCall` is, at the model level: `^` keeps the argument, cuts the locals
back to the frame's captures and resets the frame; `^f` / `^~` pop a closure of an existing
function, cut the locals back to the frame's base, append the closure's captures and replace the
frame by a fresh one of the target. -/
theorem handleTailCall_ok {r : Bool} (h : handleTailCall P p r = .ok (p', act)) :
    ∃ f rest arg s, p.frames = f :: rest ∧
      ((r = true ∧ p.stack = arg :: s ∧
          p' = { p with stack := arg :: s, locals := p.locals.take (f.localsBase + f.capturesCount),
                        frames := Frame.new f.functionIndex f.localsBase f.capturesCount :: rest }) ∨
       (r = false ∧ ∃ fi caps, p.stack = .fn fi caps :: arg :: s ∧ (P.functions[fi]?).isSome = true ∧
          p' = { p with stack := arg :: s, locals := p.locals.take f.localsBase ++ caps.toList,
                        frames := Frame.new fi f.localsBase caps.toList.length :: rest })) := by
  unfold handleTailCall at h
  repeat' split at h
  all_goals cases h
  · exact ⟨_, _, _, _, ‹_›, .inl ⟨‹_›, ‹_›, rfl⟩⟩
  · exact ⟨_, _, _, _, ‹_›, .inr ⟨Bool.eq_false_iff.mpr ‹_›, _, _, ‹_›, by rw [‹P.functions[_]? = _›]; rfl, rfl⟩⟩

theorem stepInstr_frames {i : Instr} (hfr : p.frames = f :: rest)
    (h : stepInstr O P p i = .ok (p', act)) : FramesStep f rest p'.frames := by
  cases i with
  | call => exact handleCall_frames h hfr
  | tailCall r =>
    obtain ⟨_, _, _, _, hfr', ⟨_, _, rfl⟩ | ⟨_, _, _, _, _, rfl⟩⟩ := handleTailCall_ok h <;>
      cases hfr.symm.trans hfr' <;> exact .replace _ rfl rfl
  | select =>
    change handleSelect O P p = _ at h
    unfold handleSelect at h
    split at h
    · split at h
      · cases h
      · split at h
        · split at h
          · cases h
          · exact selectDecide_frames h hfr
        · exact selectDecide_frames h hfr
    · split at h
      · cases h
      · simp only at h
        split at h <;> cases h <;> exact .same hfr
  | spawn =>
    change handleSpawn p = _ at h
    unfold handleSpawn at h
    (repeat' split at h) <;> cases h <;> exact .same hfr
  | jump off =>
    change handleJump p off = _ at h
    unfold handleJump at h
    simp only [hfr] at h
    split at h <;> cases h
    exact .setCounter hfr _
  | jumpIf off =>
    change handleJumpIf p off = _ at h
    unfold handleJumpIf at h
    simp only [hfr] at h
    (repeat' split at h) <;> cases h
    · exact .setCounter rfl _
    · exact .bump rfl
  | _ =>
    -- every other handler fails or ends in `bump` of a process with the frames of `p`
    dsimp only [stepInstr, handleConstant, handlePop, handleDuplicate, handlePick, handleRotate,
      handleReset, handleLoad, handleStore, handleTuple, handleGet, handleIsType, handleFunction,
      handleBuiltin, handleEqual, handleNot, handleSend, handleSelf, handleProcessRef] at h
    (repeat' split at h) <;> cases h <;> exact .bump hfr

theorem popFrame_frames {g : Frame} {r : List Frame} (hfr : p.frames = g :: r) :
    (popFrame p).frames = r ∨
    ∃ h t, r = h :: t ∧ (popFrame p).frames = { h with counter := h.counter + 1 } :: t := by
  simp only [popFrame, hfr]
  cases hsel : p.selectState with
  | none =>
    cases r with
    | nil => left; simp
    | cons h t => right; exact ⟨h, t, rfl, by simp⟩
  | some st =>
    cases r with
    | nil => left; simp
    | cons h t =>
      simp only
      split
      · left; rfl
      · right; exact ⟨h, t, rfl, rfl⟩

end

/-- *The activation* `(rest, lb)`: some frame with locals base `lb` sits directly on top of the
suspended frames `rest` (possibly below further frames it has called). -/
def InActivation (rest : List Frame) (lb : Nat) (p : Proc) : Prop :=
  ∃ top f, p.frames = top ++ f :: rest ∧ f.localsBase = lb

section
variable {rest : List Frame} {lb : Nat} {g g' : Frame} {r : List Frame}

theorem activation_head (h : ∃ top f, g :: r = top ++ f :: rest ∧ f.localsBase = lb)
    (hg : g'.localsBase = g.localsBase) : ∃ top f, g' :: r = top ++ f :: rest ∧ f.localsBase = lb := by
  obtain ⟨top, f, h, hlb⟩ := h
  cases top with
  | nil => cases h; exact ⟨[], g', rfl, hg.trans hlb⟩
  | cons t top => cases h; exact ⟨g' :: top, f, rfl, hlb⟩

theorem activation_tail (h : ∃ top f, g :: r = top ++ f :: rest ∧ f.localsBase = lb)
    (hd : rest.length + 1 ≤ r.length) : ∃ top f, r = top ++ f :: rest ∧ f.localsBase = lb := by
  obtain ⟨top, f, h, hlb⟩ := h
  cases top with
  | nil => cases h; exact absurd hd (Nat.not_succ_le_self _)
  | cons t top => cases h; exact ⟨top, f, rfl, hlb⟩
end

/-- As long as the frame stack does not drop below the activation's depth, the activation — its
suspended frames and its locals base — is preserved by every transition: calls push above it,
returns pop back to it, tail calls replace its frame in place. -/
theorem transition_activation {P : Prog} {p p' : Proc} {ev : Event} {act : Option Action}
    {rest : List Frame} {lb : Nat}
    (hact : InActivation rest lb p) (htr : transition P p ev = some (.ok (p', act)))
    (hdepth : rest.length + 1 ≤ p'.frames.length) : InActivation rest lb p' := by
  obtain ⟨g, r, hfr⟩ : ∃ g r, p.frames = g :: r := by
    obtain ⟨top, f, h, _⟩ := hact
    cases top <;> exact ⟨_, _, h⟩
  have hact : ∃ top f, g :: r = top ++ f :: rest ∧ f.localsBase = lb := hfr ▸ hact
  have hbump : ∀ q : Proc, q.frames = g :: r → InActivation rest lb q.bump := fun q hq => by
    rw [InActivation, Proc.bump_eq hq]
    exact activation_head hact rfl
  cases ev with
  | run O =>
    simp only [transition, hfr] at htr
    split at htr
    · cases htr
    · split at htr
      · cases htr
      · split at htr
        · -- frame pop
          cases htr
          rcases popFrame_frames hfr with h | ⟨h, t, rfl, h2⟩
          · rw [InActivation, h]
            exact activation_tail hact (h ▸ hdepth)
          · rw [InActivation, h2]
            exact activation_head (activation_tail hact (h2 ▸ hdepth :)) rfl
        · -- one instruction
          cases Option.some.inj htr |> stepInstr_frames hfr with
          | counter c h => rw [InActivation, h]; exact activation_head hact rfl
          | push g' h =>
            obtain ⟨top, f, hf, hlb⟩ := hact
            exact ⟨g' :: top, f, by rw [h, hf]; rfl, hlb⟩
          | replace g' h hg => rw [InActivation, h]; exact activation_head hact hg
  | spawned v =>
    simp only [transition] at htr
    split at htr <;> cases htr
    exact hbump _ hfr
  | effectDone rv =>
    simp only [transition] at htr
    split at htr
    · cases rv <;> cases htr
      exact hbump _ hfr
    · cases htr
  | wake =>
    simp only [transition] at htr
    split at htr <;> cases htr
    exact hfr ▸ hact
  | deliver m =>
    cases htr
    exact hfr ▸ hact

end QM.VM
