import QuiverModel.Lemmas.Heap.Reach
import QuiverModel.Lemmas.Heap.Reclaim
import QuiverModel.Core.Heap.Instr
import QuiverModel.Lemmas.Heap.Choke
import QuiverModel.Lemmas.VM.Frames
/-
Bridge between M-Heap (C06: `Core/Heap`, `Lemmas/Heap`) and M-VM (C07: `Lemmas/VM/Frames.lean`) for
the heap half of C16 (`Theorems/C16Heap.lean`): what the choke points and `handle_tail_call` do to
the process table of an M-Heap state (`RootsUpd`), the roots a tail call removes, "slots in use after
reclamation ≤ reachable + fresh" (`slotsInUse_after_reclaim_le`), and the agreement of the two models
on `handle_tail_call` (`Bridge.tailcall_agrees`).
-/
namespace C16
open QM.Heap QM.Heap.State

theorem aset_self {α : Type} {k : Nat} {a : α} : ∀ {m : List (Nat × α)}, aget m k = some a → aset m k a = m
  | [], h => nomatch h
  | (k', v') :: m, h => by
    by_cases hk : k' = k
    · simp only [aget, hk, if_true, Option.some.injEq] at h
      simp only [aset, hk, h, if_true]
    · simp only [aget, hk, if_false] at h
      simp only [aset, hk, if_false, aset_self h]

/-- `t` is `s` with process `pid` replaced by `p'` as far as the roots are concerned. -/
structure RootsUpd (s t : State) (pid : Nat) (p' : Proc) : Prop where
  procs : t.procs = aset s.procs pid p'
  consts : t.constantBinaries = s.constantBinaries
  transit : t.transit = s.transit

theorem RootsUpd.getProc {s t : State} {pid : Nat} {p' : Proc} (h : RootsUpd s t pid p') :
    t.getProc pid = some p' := by simp [State.getProc, h.procs, aget_aset_same]

theorem RootsUpd.getProc_ne {s t : State} {pid q : Nat} {p' : Proc} (h : RootsUpd s t pid p') (hq : q ≠ pid) :
    t.getProc q = s.getProc q := by simp [State.getProc, h.procs, aget_aset_ne _ _ _ _ hq]

theorem RootsUpd.refl {s : State} {pid : Nat} {p : Proc} (hp : s.getProc pid = some p) : RootsUpd s s pid p :=
  ⟨(aset_self hp).symm, rfl, rfl⟩

theorem RootsUpd.trans {s t u : State} {pid : Nat} {p' p'' : Proc}
    (h1 : RootsUpd s t pid p') (h2 : RootsUpd t u pid p'') : RootsUpd s u pid p'' :=
  ⟨by rw [h2.procs, h1.procs, aset_aset], h2.consts.trans h1.consts, h2.transit.trans h1.transit⟩

theorem RootsUpd.of_sameRoots {s t u : State} {pid : Nat} {p' : Proc}
    (h1 : RootsUpd s t pid p') (h2 : SameRoots t u) : RootsUpd s u pid p' :=
  ⟨h2.procs.trans h1.procs, h2.consts.trans h1.consts, h2.transit.trans h1.transit⟩

theorem rootsUpd_setProc (s : State) (pid : Nat) (p' : Proc) : RootsUpd s (s.setProc pid p') pid p' :=
  ⟨rfl, rfl, rfl⟩

theorem rootsUpd_sameRoots_setProc {s t : State} (h : SameRoots s t) (pid : Nat) (p' : Proc) :
    RootsUpd s (t.setProc pid p') pid p' :=
  ⟨by simp [State.setProc, h.procs], by simp [State.setProc, h.consts], by simp [State.setProc, h.transit]⟩

theorem RootsUpd.countRefs {s t : State} {pid : Nat} {p p' : Proc} (h : RootsUpd s t pid p')
    (hp : s.getProc pid = some p) (i : Nat) :
    t.countRefs i + p.count i = s.countRefs i + p'.count i := by
  have := procsCount_aset s.procs pid p p' i hp
  simp only [State.countRefs, State.constCount, h.procs, h.consts]
  omega

theorem rootsUpd_pushValue {s : State} {pid : Nat} {p : Proc} (hp : s.getProc pid = some p) (v : Val) :
    RootsUpd s (pushValue s pid v) pid { p with stack := v :: p.stack } := by
  simp only [pushValue, hp]
  exact rootsUpd_sameRoots_setProc (sameRoots_retain s v) pid _

theorem rootsUpd_pushLocal {s : State} {pid : Nat} {p : Proc} (hp : s.getProc pid = some p) (v : Val) :
    RootsUpd s (pushLocal s pid v) pid { p with locals := p.locals ++ [v] } := by
  simp only [pushLocal, hp]
  exact rootsUpd_sameRoots_setProc (sameRoots_retain s v) pid _

theorem popValue_cons {s : State} {pid : Nat} {p : Proc} {v : Val} {rest : List Val}
    (hp : s.getProc pid = some p) (hs : p.stack = v :: rest) :
    (popValue s pid).1 = some v ∧ RootsUpd s (popValue s pid).2 pid { p with stack := rest } := by
  constructor
  · simp [popValue, hp, hs]
  · simp only [popValue, hp, hs]
    exact (rootsUpd_setProc s pid _).of_sameRoots (sameRoots_release _ v)

theorem rootsUpd_truncateLocals {s : State} {pid : Nat} {p : Proc} (hp : s.getProc pid = some p) (len : Nat) :
    RootsUpd s (truncateLocals s pid len) pid { p with locals := p.locals.take len } := by
  simp only [truncateLocals, hp]
  split
  · exact (rootsUpd_setProc s pid _).of_sameRoots (sameRoots_releaseList _ _)
  · rw [List.take_of_length_le (Nat.le_of_not_gt ‹_›)]
    exact .refl hp

theorem rootsUpd_pushLocals {pid : Nat} : ∀ (vs : List Val) {s : State} {p : Proc}, s.getProc pid = some p →
    RootsUpd s (pushLocals s pid vs) pid { p with locals := p.locals ++ vs }
  | [], s, p, hp => by
    rw [pushLocals, List.append_nil]
    exact .refl hp
  | v :: vs, s, p, hp => by
    have h1 := rootsUpd_pushLocal hp v
    have h2 := rootsUpd_pushLocals vs h1.getProc
    simp only [pushLocals]
    have := h1.trans h2
    simpa [List.append_assoc] using this

theorem rootsUpd_modFrames {s : State} {pid : Nat} {p : Proc} (hp : s.getProc pid = some p)
    (g : List Frame → List Frame) : RootsUpd s (modFrames s pid g) pid { p with frames := g p.frames } := by
  simp only [modFrames, hp]
  exact rootsUpd_setProc s pid _

theorem RootsUpd.step {s t u : State} {pid : Nat} {p' p'' : Proc} (h : RootsUpd s t pid p')
    (next : t.getProc pid = some p' → RootsUpd t u pid p'') : RootsUpd s u pid p'' :=
  h.trans (next h.getProc)

theorem rootsUpd_replaceTop {s : State} {pid : Nat} {p : Proc} {f : Frame} {rest : List Frame}
    (hp : s.getProc pid = some p) (hf : p.frames = f :: rest) (nf : Frame) :
    RootsUpd s (modFrames s pid (replaceTop nf)) pid { p with frames := nf :: rest } := by
  have h := rootsUpd_modFrames hp (replaceTop nf)
  rwa [hf] at h

theorem framesOf_eq {s : State} {pid : Nat} {p : Proc} (hp : s.getProc pid = some p) :
    framesOf s pid = p.frames := by
  simp only [framesOf, hp]

theorem handleTailCall_self_eq {s s1 : State} {pid : Nat} {arg : Val} {f : Frame} {rest : List Frame}
    {fx : Nat → Bool} (h1 : popValue s pid = (some arg, s1)) (hfr : framesOf s1 pid = f :: rest) :
    handleTailCall s pid true fx =
      (modFrames (pushValue (truncateLocals s1 pid (f.localsBase + f.capturesCount)) pid arg) pid
        (replaceTop ⟨f.fn, f.localsBase, f.capturesCount, 0⟩), .ok) := by
  simp only [handleTailCall, h1, hfr, if_true]

theorem handleTailCall_named_eq {s s1 s2 : State} {pid fi : Nat} {caps : List Val} {arg : Val} {f : Frame}
    {rest : List Frame} {fx : Nat → Bool} (h1 : popValue s pid = (some (.func fi caps), s1))
    (h2 : popValue s1 pid = (some arg, s2)) (hfx : fx fi = true) (hfr : framesOf s2 pid = f :: rest) :
    handleTailCall s pid false fx =
      (modFrames (pushValue (pushLocals (truncateLocals s2 pid f.localsBase) pid caps) pid arg) pid
        (replaceTop ⟨fi, f.localsBase, caps.length, 0⟩), .ok) := by
  simp only [handleTailCall, h1, h2, hfx, hfr, Bool.false_eq_true, if_false, Bool.not_true]

/-- **`handle_tail_call(recurse = true)` on M-Heap**: the argument is popped and pushed back, the
locals are truncated to the captures, the frame is reset — nothing else moves. -/
theorem tailcall_self_spec {s : State} {pid : Nat} {p : Proc} {arg : Val} {st : List Val} {f : Frame}
    {rest : List Frame} (fx : Nat → Bool)
    (hp : s.getProc pid = some p) (hs : p.stack = arg :: st) (hf : p.frames = f :: rest) :
    (handleTailCall s pid true fx).2 = .ok ∧
    RootsUpd s (handleTailCall s pid true fx).1 pid
      { p with stack := arg :: st, locals := p.locals.take (f.localsBase + f.capturesCount),
               frames := ⟨f.fn, f.localsBase, f.capturesCount, 0⟩ :: rest } := by
  obtain ⟨e1, u1⟩ := popValue_cons hp hs
  rw [handleTailCall_self_eq (Prod.ext e1 rfl) ((framesOf_eq u1.getProc).trans hf)]
  exact ⟨rfl, ((u1.step (rootsUpd_truncateLocals · _)).step (rootsUpd_pushValue · arg)).step
    (rootsUpd_replaceTop · hf _)⟩

/-- **`handle_tail_call(recurse = false)` on M-Heap** (`^f`, `^~`): function value and argument are
popped, the locals are truncated to the frame's base and the target's captures appended, the
argument is pushed back, the frame is replaced. -/
theorem tailcall_named_spec {s : State} {pid : Nat} {p : Proc} {fi : Nat} {caps : List Val} {arg : Val}
    {st : List Val} {f : Frame} {rest : List Frame} (fx : Nat → Bool) (hfx : fx fi = true)
    (hp : s.getProc pid = some p) (hs : p.stack = .func fi caps :: arg :: st) (hf : p.frames = f :: rest) :
    (handleTailCall s pid false fx).2 = .ok ∧
    RootsUpd s (handleTailCall s pid false fx).1 pid
      { p with stack := arg :: st, locals := p.locals.take f.localsBase ++ caps,
               frames := ⟨fi, f.localsBase, caps.length, 0⟩ :: rest } := by
  obtain ⟨e1, u1⟩ := popValue_cons hp hs
  obtain ⟨e2, u2⟩ := popValue_cons (p := { p with stack := arg :: st }) u1.getProc rfl
  have u12 := u1.trans u2
  rw [handleTailCall_named_eq (Prod.ext e1 rfl) (Prod.ext e2 rfl) hfx ((framesOf_eq u12.getProc).trans hf)]
  exact ⟨rfl, (((u12.step (rootsUpd_truncateLocals · _)).step (rootsUpd_pushLocals caps ·)).step
    (rootsUpd_pushValue · arg)).step (rootsUpd_replaceTop · hf _)⟩

/-- a slot in use (allocated and not freed) is reachable, or queued for reclamation, or a
never-retained allocation (the membership form of slots in use ≤ live + pending + fresh) -/
theorem in_use_live_or_pending {s : State} (h : Inv s) (ht : s.transit = []) (i : Nat)
    (hi : i < s.heap.size) (hf : s.isFreed i = false) :
    i ∈ s.reachable ∨ i ∈ s.pendingFree ∨ i ∈ s.fresh := by
  by_cases hr : i ∈ s.reachable
  · exact Or.inl hr
  · exact Or.inr (h.queued i hi (h.rc_zero_of_unreachable ht hr) hf)

/-- after `process_pending_free` (the start of the next `step`) a slot in use is reachable or a
never-retained allocation: **pending is drained** -/
theorem in_use_after_reclaim {s : State} (h : Inv s) (ht : s.transit = []) (i : Nat)
    (hi : i < s.heap.size) (hf : (processPendingFree s).isFreed i = false) :
    i ∈ s.reachable ∨ i ∈ s.fresh := by
  have hnf : s.isFreed i = false := by
    cases hq : s.isFreed i with
    | false => rfl
    | true => rw [isFreed_processPendingFree h hq] at hf; cases hf
  by_cases hr : i ∈ s.reachable
  · exact Or.inl hr
  · have hz := h.rc_zero_of_unreachable ht hr
    -- queued at count 0 means freed by the loop
    exact (h.queued i hi hz hnf).elim (fun hq => by rw [ppf_frees h i hq hz] at hf; cases hf) Or.inr

/-- … so a slot that is neither reachable nor a never-retained allocation is back in the reuse pool. -/
theorem reclaimed_of_unreachable {s : State} (h : Inv s) (ht : s.transit = []) {i : Nat}
    (hi : i < s.heap.size) (hnr : i ∉ s.reachable) (hnf : i ∉ s.fresh) :
    (processPendingFree s).isFreed i = true ∧ i ∈ (processPendingFree s).free := by
  have hfreed : (processPendingFree s).isFreed i = true := by
    cases hq : (processPendingFree s).isFreed i with
    | true => rfl
    | false => exact (in_use_after_reclaim h ht i hi hq).elim (absurd · hnr) (absurd · hnf)
  exact ⟨hfreed, (inv_processPendingFree h).freedFree i hfreed⟩

/-- **A self tail call removes exactly the iteration's locals from the roots**: for every slot, the
number of references from all roots after the call plus the references from the dropped locals
(everything above the captures) is the number before. -/
theorem tailcall_self_countRefs {s : State} {pid : Nat} {p : Proc} {arg : Val} {st : List Val} {f : Frame}
    {rest : List Frame} (fx : Nat → Bool)
    (hp : s.getProc pid = some p) (hs : p.stack = arg :: st) (hf : p.frames = f :: rest) (i : Nat) :
    (handleTailCall s pid true fx).1.countRefs i
        + countList i (p.locals.drop (f.localsBase + f.capturesCount)) = s.countRefs i := by
  have h := (tailcall_self_spec fx hp hs hf).2.countRefs hp i
  have htd := countList_take_drop i (f.localsBase + f.capturesCount) p.locals
  simp only [Proc.count_eq, hs] at h
  omega

/-- … and a named / ripple tail call replaces the frame's locals (old captures included) by the
target's captures and drops the function value. -/
theorem tailcall_named_countRefs {s : State} {pid : Nat} {p : Proc} {fi : Nat} {caps : List Val} {arg : Val}
    {st : List Val} {f : Frame} {rest : List Frame} (fx : Nat → Bool) (hfx : fx fi = true)
    (hp : s.getProc pid = some p) (hs : p.stack = .func fi caps :: arg :: st) (hf : p.frames = f :: rest)
    (i : Nat) :
    (handleTailCall s pid false fx).1.countRefs i + countList i (p.locals.drop f.localsBase)
      = s.countRefs i := by
  have h := (tailcall_named_spec fx hfx hp hs hf).2.countRefs hp i
  have htd := countList_take_drop i f.localsBase p.locals
  simp only [Proc.count_eq, hs, countList_cons, countList_append, count_func] at h
  omega

/-- Number of heap slots in use (allocated and not freed). -/
def slotsInUse (s : State) : Nat := ((List.range s.heap.size).filter (fun i => !s.isFreed i)).length

/-- **Slots in use after reclamation ≤ reachable (+ never-retained allocations)**, counting
reachable handles with multiplicity. -/
theorem slotsInUse_after_reclaim_le {s : State} (h : Inv s) (ht : s.transit = []) :
    slotsInUse (processPendingFree s) ≤ s.reachable.length + s.fresh.length := by
  unfold slotsInUse
  rw [(ppf_frame h).1, ← List.length_append]
  apply List.Nodup.length_le_of_subset
  · exact List.Nodup.sublist List.filter_sublist List.nodup_range
  · intro i hi
    simp only [List.mem_filter, List.mem_range, Bool.not_eq_eq_eq_not, Bool.not_true] at hi
    rcases in_use_after_reclaim h ht i hi.1 hi.2 with h1 | h1
    · exact List.mem_append_left _ h1
    · exact List.mem_append_right _ h1

namespace Bridge
open QM.VM (Prog Anns AllChecked)

mutual
/-- An M-Heap value read as an M-VM value (same constructors; payload lists become `ValList`). -/
def toVM : QM.Heap.Val → QM.VM.Val
  | .int z => .int z
  | .bin (.const i) => .bin (.const i)
  | .bin (.heap i) => .bin (.heap i)
  | .ref r => .ref r
  | .tuple id fs => .tup id (toVMList fs)
  | .func id cs => .fn id (toVMList cs)
  | .builtin id => .builtin id
  | .proc a b => .proc a b
  | .resource a b => .res a b
def toVMList : List QM.Heap.Val → QM.VM.ValList
  | [] => .nil
  | v :: vs => .cons (toVM v) (toVMList vs)
end

theorem toVMList_toList : ∀ vs : List QM.Heap.Val, (toVMList vs).toList = vs.map toVM
  | [] => by simp [toVMList]
  | v :: vs => by simp [toVMList, toVMList_toList vs]

def toVMFrame (f : QM.Heap.Frame) : QM.VM.Frame := ⟨f.fn, f.localsBase, f.capturesCount, f.counter⟩

/-- `vp` (M-VM) and `p` (M-Heap) describe the same process: same stack, locals and frames. -/
structure Shadows (vp : QM.VM.Proc) (p : QM.Heap.Proc) : Prop where
  stack : vp.stack = p.stack.map toVM
  locals : vp.locals = p.locals.map toVM
  frames : vp.frames = p.frames.map toVMFrame

theorem toVM_eq_fn {v : QM.Heap.Val} {fi : Nat} {vcaps : QM.VM.ValList} (h : toVM v = .fn fi vcaps) :
    ∃ caps, v = .func fi caps ∧ toVMList caps = vcaps := by
  cases v with
  | func fi' caps => cases h; exact ⟨caps, rfl, rfl⟩
  | bin b => cases b <;> cases h
  | _ => cases h

/-- **The two models agree on `handle_tail_call`**: if the M-VM handler succeeds on a process, the
M-Heap handler succeeds on any state holding the same process, and the results describe the same
process again. -/
theorem tailcall_agrees {P : Prog} {vp vp' : QM.VM.Proc} {act : Option QM.VM.Action} {r : Bool}
    (hstep : QM.VM.handleTailCall P vp r = .ok (vp', act))
    {s : QM.Heap.State} {pid : Nat} {p : QM.Heap.Proc} (hp : s.getProc pid = some p) (hsh : Shadows vp p)
    (fx : Nat → Bool) (hfx : ∀ i, (P.functions[i]?).isSome = true → fx i = true) :
    (QM.Heap.handleTailCall s pid r fx).2 = .ok ∧
    ∃ p', (QM.Heap.handleTailCall s pid r fx).1.getProc pid = some p' ∧ Shadows vp' p' ∧
      (∀ i, (QM.Heap.handleTailCall s pid r fx).1.countRefs i + p.count i = s.countRefs i + p'.count i) ∧
      p'.mailbox = p.mailbox ∧ p'.result = p.result ∧ p'.selectState = p.selectState ∧
      p'.awaiting = p.awaiting := by
  obtain ⟨vf, vrest, varg, vst, hvf, hcase⟩ := QM.VM.handleTailCall_ok hstep
  obtain ⟨f, rest, hf, rfl, rfl⟩ := List.map_eq_cons_iff.mp (hsh.frames.symm.trans hvf)
  rcases hcase with ⟨rfl, hvs, rfl⟩ | ⟨rfl, fi, vcaps, hvs, hfn, rfl⟩
  · obtain ⟨arg, st, hs, rfl, rfl⟩ := List.map_eq_cons_iff.mp (hsh.stack.symm.trans hvs)
    obtain ⟨hok, hu⟩ := tailcall_self_spec fx hp hs hf
    exact ⟨hok, _, hu.getProc, ⟨rfl, by rw [hsh.locals, List.map_take]; rfl, rfl⟩,
      fun i => hu.countRefs hp i, rfl, rfl, rfl, rfl⟩
  · obtain ⟨fv, st1, hs, hfv, hst1⟩ := List.map_eq_cons_iff.mp (hsh.stack.symm.trans hvs)
    obtain ⟨arg, st, rfl, rfl, rfl⟩ := List.map_eq_cons_iff.mp hst1
    obtain ⟨caps, rfl, rfl⟩ := toVM_eq_fn hfv
    obtain ⟨hok, hu⟩ := tailcall_named_spec fx (hfx fi hfn) hp hs hf
    exact ⟨hok, _, hu.getProc,
      ⟨rfl, by rw [hsh.locals, List.map_append, List.map_take, toVMList_toList]; rfl,
        by rw [toVMList_toList, List.length_map]; rfl⟩,
      fun i => hu.countRefs hp i, rfl, rfl, rfl, rfl⟩

end Bridge

/-! `fresh` along a self tail call (for `dropped_binaries_reclaimed`). -/

theorem fresh_setProc (s : State) (pid : Nat) (p : Proc) : (s.setProc pid p).fresh = s.fresh := rfl

theorem fresh_popValue (s : State) (pid : Nat) : (popValue s pid).2.fresh = s.fresh := by
  unfold popValue
  split
  · split
    · simp [fresh_release, fresh_setProc]
    · rfl
  · rfl

theorem fresh_truncateLocals (s : State) (pid len : Nat) : (truncateLocals s pid len).fresh = s.fresh := by
  unfold truncateLocals
  split
  · split
    · simp [fresh_releaseList, fresh_setProc]
    · rfl
  · rfl

theorem fresh_pushValue_sub (s : State) (pid : Nat) (v : Val) (i : Nat)
    (h : i ∈ (pushValue s pid v).fresh) : i ∈ s.fresh := by
  unfold pushValue at h
  split at h
  · rw [fresh_setProc] at h; exact fresh_retain_sub s v i h
  · exact h

theorem fresh_modFrames (s : State) (pid : Nat) (g : List Frame → List Frame) :
    (modFrames s pid g).fresh = s.fresh := by
  unfold modFrames
  split <;> rfl

/-- a self tail call allocates nothing -/
theorem fresh_tailcall_self_sub (s : State) (pid : Nat) (fx : Nat → Bool) (i : Nat)
    (h : i ∈ (handleTailCall s pid true fx).1.fresh) : i ∈ s.fresh := by
  unfold handleTailCall at h
  simp only [if_true] at h
  have hpop := fresh_popValue s pid
  generalize popValue s pid = r1 at *
  obtain ⟨o1, s1⟩ := r1
  cases o1 with
  | none => simp only at h hpop; rw [← hpop]; exact h
  | some arg =>
    simp only at h hpop
    split at h
    · simp only at h; rw [← hpop]; exact h
    · simp only [fresh_modFrames] at h
      have := fresh_pushValue_sub _ _ _ _ h
      rw [fresh_truncateLocals, hpop] at this
      exact this


end C16
