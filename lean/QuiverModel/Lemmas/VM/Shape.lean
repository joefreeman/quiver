import QuiverModel.Lemmas.VM.WF
/-
Shape lemmas for M-VM × M-Check: what one instruction does to the *sizes* of the process (stack
length, locals length, current frame's counter), stated against the checker's abstract `transfer`.
-/
namespace QM.VM

/-- Instructions that neither push/replace a frame nor park the process. -/
def Instr.simple : Instr → Bool
  | .call | .tailCall _ | .spawn | .select => false
  | _ => true

theorem jumpTarget_eq {pc n : Nat} {off : Int} (hn : n < maxCode)
    (h0 : 0 ≤ staticTarget pc off) (h1 : staticTarget pc off ≤ n) :
    jumpTarget pc off = (staticTarget pc off).toNat := by
  unfold jumpTarget staticTarget at *
  unfold maxCode at hn
  have : ((pc : Int) + off + 1) % (2 ^ 64 : Int) = (pc : Int) + off + 1 := by
    apply Int.emod_eq_of_lt h0
    omega
  rw [this]

@[simp] theorem GuardSem.none_iff {lb lLen : Nat} {stk : List Val} :
    GuardSem lb lLen .none stk ↔ True := by simp [GuardSem]

@[simp] theorem Val.isNil_ok : Val.ok.isNil = false := rfl
@[simp] theorem Val.isNil_nil : Val.nil.isNil = true := rfl

/-- Shape effect of an instruction that stays in the current frame: the frame's counter becomes
`pc'`, the stack has `sb + out.height` cells, there are at least `out.locals` frame-relative
locals, the guard of `out` holds, nothing else that the invariant looks at changes. -/
structure StepsTo (p p' : Proc) (fr : Frame) (rest : List Frame) (sb : Nat) (pc' : Nat) (out : Ann) : Prop where
  frames : p'.frames = { fr with counter := pc' } :: rest
  stack : p'.stack.length = sb + out.height
  locals : fr.localsBase + out.locals ≤ p'.locals.length
  guard : GuardSem fr.localsBase p'.locals.length out.guard p'.stack
  park : p'.park = p.park
  sel : p'.selectState = p.selectState
  result : p'.result = p.result
  persistent : p'.persistent = p.persistent
  pid : p'.pid = p.pid

/-- The step does not fail structurally, and the state it leads to, if any, satisfies `Q`. -/
def Safe (Q : Proc → Prop) : Res → Prop
  | .error e => e.isStructural = false
  | .ok (p', _) => Q p'

/-- A step result that is not a structural failure and, if it is a state, has the shape of one of
the successors `succs` and keeps the values well-formed. -/
def SoundStep (P : Prog) (p : Proc) (fr : Frame) (rest : List Frame) (sb : Nat)
    (succs : List (Nat × Ann)) : Res → Prop :=
  Safe fun p' => (∃ s ∈ succs, StepsTo p p' fr rest sb s.1 s.2) ∧
    (AllWF P p.stack → AllWF P p.locals → AllWF P p'.stack ∧ AllWF P p'.locals)

section
variable {P : Prog} {p : Proc} {fr : Frame} {rest : List Frame} {sb : Nat}
  {succs : List (Nat × Ann)} {h l : Nat} {g : Guard} {stk loc : List Val} {act : Option Action}

theorem SoundStep.next (hfr : p.frames = fr :: rest) (hm : (fr.counter + 1, ⟨h, l, g⟩) ∈ succs)
    (hs : stk.length = sb + h) (hl : fr.localsBase + l ≤ loc.length)
    (hg : GuardSem fr.localsBase loc.length g stk)
    (hw : AllWF P p.stack → AllWF P p.locals → AllWF P stk ∧ AllWF P loc) :
    SoundStep P p fr rest sb succs (.ok ({ p with stack := stk, locals := loc }.bump, act)) := by
  simp only [Proc.bump, hfr]
  exact ⟨⟨_, hm, rfl, hs, hl, hg, rfl, rfl, rfl, rfl, rfl⟩, hw⟩

theorem SoundStep.goto {c : Nat} (hfr : p.frames = fr :: rest) (hm : (c, ⟨h, l, g⟩) ∈ succs)
    (hs : stk.length = sb + h) (hl : fr.localsBase + l ≤ p.locals.length)
    (hg : GuardSem fr.localsBase p.locals.length g stk)
    (hw : AllWF P p.stack → AllWF P stk) :
    SoundStep P p fr rest sb succs (.ok ({ p with stack := stk }.setCounter c, act)) := by
  simp only [Proc.setCounter, hfr]
  exact ⟨⟨_, hm, rfl, hs, hl, hg, rfl, rfl, rfl, rfl, rfl⟩, fun h h' => ⟨hw h, h'⟩⟩
end

/-- What `transfer` has checked when a conditional rule accepts. -/
theorem ok_of_ite {c : Prop} [Decidable c] {t : Except String (List (Nat × Ann))} {e : String}
    {succs : List (Nat × Ann)} (h : (if c then t else .error e) = .ok succs) : c ∧ t = .ok succs := by
  split at h
  · exact ⟨‹c›, h⟩
  · cases h

theorem height_after {stk : List Val} {sb h m : Nat} (hs : stk.length = sb + h) (hm : m ≤ h)
    (new : List Val) : (new ++ stk.drop m).length = sb + (h - m + new.length) := by
  rw [List.length_append, List.length_drop, hs, Nat.add_sub_assoc hm, Nat.add_comm, Nat.add_assoc]

theorem stack_cons {stk : List Val} {sb h : Nat} (hs : stk.length = sb + h) (hh : 1 ≤ h) :
    ∃ v s, stk = v :: s := by
  cases stk with
  | nil => exact absurd (Nat.le_trans hh (Nat.le_add_left h sb)) (hs ▸ by decide)
  | cons v s => exact ⟨v, s, rfl⟩

theorem stack_cons₂ {stk : List Val} {sb h : Nat} (hs : stk.length = sb + h) (hh : 2 ≤ h) :
    ∃ v w s, stk = v :: w :: s := by
  obtain ⟨v, s, rfl⟩ := stack_cons hs (Nat.le_of_succ_le hh)
  obtain ⟨w, s, rfl⟩ := stack_cons (height_after hs (Nat.le_of_succ_le hh) []) (Nat.le_sub_one_of_lt hh)
  exact ⟨v, w, s, rfl⟩

theorem add_max_le {lb g l len : Nat} (h1 : lb + g ≤ len) (h2 : lb + l ≤ len) : lb + max g l ≤ len :=
  Nat.add_max_add_left .. ▸ Nat.max_le.mpr ⟨h1, h2⟩

theorem Bool.of_eq_not : ∀ {a b : Bool}, a = (!b) → (a = false → b = true) ∧ (a = true → b = false) := by
  decide

/-- **Local soundness of the transfer function** for instructions that stay in the frame: from a
state of the annotated shape the instruction does not fail structurally, its result has the shape
`transfer` predicts for one of the successors, and it keeps the values well-formed. -/
theorem simple_step_sound {O : Oracle} {P : Prog} {p : Proc} {fr : Frame} {rest : List Frame}
    {n caps : Nat} {a : Ann} {i : Instr} {succs : List (Nat × Ann)} {sb : Nat}
    (hfr : p.frames = fr :: rest)
    (htr : transfer P n caps fr.counter a i = .ok succs)
    (hs : p.stack.length = sb + a.height)
    (hl : fr.localsBase + a.locals ≤ p.locals.length)
    (hg : GuardSem fr.localsBase p.locals.length a.guard p.stack)
    (hsimple : i.simple = true)
    (hn : n < maxCode) :
    SoundStep P p fr rest sb succs (stepInstr O P p i) := by
  -- With the process a record of variables and its stack a `cons` where the rule says so, each handler
  -- computes; the stack heights `SoundStep.next` asks for are instances of `height_after` up to
  -- unfolding `drop`, `++` and `length` on the cells that are known.
  obtain ⟨pid, stk, loc, _, mb, pers, res, sel, park⟩ := p
  cases hfr
  cases i with
  | constant k =>
    obtain ⟨hk, ⟨⟩⟩ := ok_of_ite htr
    unfold stepInstr handleConstant
    simp only [Array.getElem?_eq_getElem hk]
    cases P.constants[k] <;>
      exact .next rfl (.head _) (height_after hs (Nat.zero_le _) [_]) hl trivial
        fun hw hw' => ⟨.cons rfl hw, hw'⟩
  | pop =>
    obtain ⟨hh, ⟨⟩⟩ := ok_of_ite htr
    obtain ⟨v, s, rfl⟩ := stack_cons hs hh
    exact .next rfl (.head _) (height_after hs hh []) hl trivial
      fun hw hw' => ⟨(AllWF.cons_iff.mp hw).2, hw'⟩
  | duplicate =>
    obtain ⟨hh, ⟨⟩⟩ := ok_of_ite htr
    obtain ⟨v, s, rfl⟩ := stack_cons hs hh
    refine .next rfl (.head _) (height_after hs (Nat.zero_le _) [v]) hl ?_
      fun hw hw' => ⟨.cons (AllWF.cons_iff.mp hw).1 hw, hw'⟩
    cases hga : a.guard with
    | top g => exact ⟨v, s, rfl, fun hv => add_max_le ((hga ▸ hg) v s rfl hv) hl⟩
    | _ => exact ⟨v, s, rfl, fun _ => hl⟩
  | pick k =>
    obtain ⟨hk, ⟨⟩⟩ := ok_of_ite htr
    have hk' : k < stk.length := hs ▸ Nat.lt_add_left sb hk
    unfold stepInstr handlePick
    simp only [List.getElem?_eq_getElem hk']
    exact .next rfl (.head _) (height_after hs (Nat.zero_le _) [_]) hl trivial
      fun hw hw' => ⟨.cons (hw _ (List.getElem_mem hk')) hw, hw'⟩
  | rotate k =>
    obtain ⟨⟨hk1, hk⟩, ⟨⟩⟩ := ok_of_ite htr
    obtain ⟨j, rfl⟩ : ∃ j, k = j + 1 := ⟨k - 1, (Nat.sub_add_cancel hk1).symm⟩
    have hj : j < stk.length := hs ▸ Nat.lt_add_left sb hk
    unfold stepInstr handleRotate
    simp only [if_neg (Nat.not_lt.mpr hj), List.getElem?_eq_getElem hj]
    refine .next rfl (.head _) ?_ hl trivial
      fun hw hw' => ⟨.cons (hw _ (List.getElem_mem hj)) (hw.eraseIdx j), hw'⟩
    rw [List.length_cons, List.length_eraseIdx_of_lt hj, Nat.sub_add_cancel (Nat.zero_lt_of_lt hj)]
    exact hs
  | reset k =>
    obtain ⟨hk, ⟨⟩⟩ := ok_of_ite htr
    have hk' : fr.localsBase + k ≤ loc.length := Nat.le_trans (Nat.add_le_add_left hk _) hl
    show SoundStep _ _ _ _ _ _ (ite _ _ _)
    rw [if_neg (Nat.not_lt.mpr hk')]
    exact .next rfl (.head _) hs (List.length_take ▸ Nat.le_min.mpr ⟨Nat.le_refl _, hk'⟩) trivial
      fun hw hw' => ⟨hw, hw'.take _⟩
  | load k =>
    obtain ⟨hk, ⟨⟩⟩ := ok_of_ite htr
    have hk' : fr.localsBase + k < loc.length := Nat.lt_of_lt_of_le (Nat.add_lt_add_left hk _) hl
    unfold stepInstr handleLoad
    simp only [List.getElem?_eq_getElem hk']
    exact .next rfl (.head _) (height_after hs (Nat.zero_le _) [_]) hl trivial
      fun hw hw' => ⟨.cons (hw' _ (List.getElem_mem hk')) hw, hw'⟩
  | store =>
    obtain ⟨hh, ⟨⟩⟩ := ok_of_ite htr
    obtain ⟨v, s, rfl⟩ := stack_cons hs hh
    exact .next rfl (.head _) (height_after hs hh []) (List.length_append ▸ Nat.succ_le_succ hl) trivial
      fun hw hw' => ⟨hw.tail, AllWF.append_iff.mpr ⟨hw', .cons hw.head .nil⟩⟩
  | tuple id =>
    cases har : P.tuples[id]? with
    | none => simp only [transfer, har] at htr; cases htr
    | some arity =>
      simp only [transfer, har] at htr
      obtain ⟨hle, ⟨⟩⟩ := ok_of_ite htr
      unfold stepInstr handleTuple
      simp only [har, if_neg (Nat.not_lt.mpr (hs ▸ Nat.le_add_left_of_le hle))]
      exact .next rfl (.head _) (height_after hs hle [_]) hl trivial
        fun hw hw' => ⟨.cons (Val.wf_tup (hw.take _).reverse) (hw.drop _), hw'⟩
  | get k =>
    obtain ⟨hh, ⟨⟩⟩ := ok_of_ite htr
    obtain ⟨v, s, rfl⟩ := stack_cons hs hh
    cases v with
    | tup id els =>
      unfold stepInstr handleGet
      cases hget : els.toList[k]? with
      | none => simp only [hget]; rfl
      | some e =>
        simp only [hget]
        exact .next rfl (.head _) hs hl trivial
          fun hw hw' => ⟨.cons ((Val.wf_tup_inv hw.head).getElem? hget) hw.tail, hw'⟩
    | _ => rfl
  | isType id =>
    obtain ⟨_, htr⟩ := ok_of_ite htr
    obtain ⟨hh, ⟨⟩⟩ := ok_of_ite htr
    obtain ⟨v, s, rfl⟩ := stack_cons hs hh
    exact .next rfl (.head _) hs hl trivial fun hw hw' => ⟨.cons (Val.wf_verdict _) hw.tail, hw'⟩
  | jump off =>
    obtain ⟨⟨h0, h1, hoff⟩, ⟨⟩⟩ := ok_of_ite htr
    unfold stepInstr handleJump
    simp only [if_neg hoff]
    exact .goto rfl (jumpTarget_eq hn h0 h1 ▸ .head _) hs hl hg id
  | jumpIf off =>
    obtain ⟨hh, htr1⟩ := ok_of_ite htr
    obtain ⟨⟨h0, h1, hoff⟩, htr2⟩ := ok_of_ite htr1
    obtain ⟨v, s, rfl⟩ := stack_cons hs hh
    have hs' := height_after hs hh []
    -- the two successors: taken (the popped cell `v` is not nil) with guard `g1`, not taken with `l2` locals
    obtain ⟨g1, l2, rfl, htaken, hnot⟩ : ∃ g1 l2,
        succs = [((staticTarget fr.counter off).toNat, ⟨a.height - 1, a.locals, g1⟩),
          (fr.counter + 1, ⟨a.height - 1, l2, .none⟩)] ∧
        (v.isNil = false → GuardSem fr.localsBase loc.length g1 s) ∧
        (v.isNil = true → fr.localsBase + l2 ≤ loc.length) := by
      split at htr2 <;> cases htr2
      · rename_i g hga
        obtain ⟨_, w, _, ⟨⟩, hneg, himp⟩ := hga ▸ hg
        exact ⟨_, _, rfl, fun hv => ⟨w, _, rfl, (Bool.of_eq_not hneg).1 hv⟩,
          fun hv => add_max_le (himp ((Bool.of_eq_not hneg).2 hv)) hl⟩
      · exact ⟨_, _, rfl, fun _ => trivial, fun _ => hl⟩
    unfold stepInstr handleJumpIf
    cases hv : v.isNil <;> simp only [hv, if_neg hoff, Bool.not_true, Bool.not_false, if_true, if_false,
      Bool.false_eq_true]
    · exact .goto rfl (jumpTarget_eq hn h0 h1 ▸ .head _) hs' hl (htaken hv) AllWF.tail
    · exact .next rfl (.tail _ (.head _)) hs' (hnot hv) trivial fun hw hw' => ⟨hw.tail, hw'⟩
  | function k =>
    cases hfn : P.functions[k]? with
    | none => simp only [transfer, hfn] at htr; cases htr
    | some fn =>
      simp only [transfer, hfn] at htr
      obtain ⟨hle, ⟨⟩⟩ := ok_of_ite htr
      have hle' : fn.captures ≤ stk.length := hs ▸ Nat.le_add_left_of_le hle
      unfold stepInstr handleFunction
      simp only [hfn, if_neg (Nat.not_lt.mpr hle')]
      exact .next rfl (.head _) (height_after hs hle [_]) hl trivial fun hw hw' =>
        ⟨.cons (Val.wf_fn hfn (by rw [List.length_reverse, List.length_take, Nat.min_eq_left hle'])
          (hw.take _).reverse) (hw.drop _), hw'⟩
  | builtin k =>
    obtain ⟨hk, ⟨⟩⟩ := ok_of_ite htr
    unfold stepInstr handleBuiltin
    simp only [if_neg (Nat.not_le.mpr hk)]
    exact .next rfl (.head _) (height_after hs (Nat.zero_le _) [_]) hl trivial
      fun hw hw' => ⟨.cons rfl hw, hw'⟩
  | equal k =>
    obtain ⟨⟨hk1, hk⟩, ⟨⟩⟩ := ok_of_ite htr
    have hk' : k ≤ stk.length := hs ▸ Nat.le_add_left_of_le hk
    simp only [stepInstr, handleEqual, if_neg (Nat.not_lt.mpr hk')]
    split
    · rename_i hrev
      have := congrArg List.length hrev
      rw [List.length_reverse, List.length_take, Nat.min_eq_left hk'] at this
      exact absurd (this ▸ hk1) (by decide)
    · exact .next rfl (.head _) (height_after hs hk [_]) hl trivial
        fun hw hw' => ⟨.cons (Val.wf_verdict _) (hw.drop _), hw'⟩
  | not =>
    obtain ⟨hh, ⟨⟩⟩ := ok_of_ite htr
    obtain ⟨v, s, rfl⟩ := stack_cons hs hh
    refine .next rfl (.head _) hs hl ?_ fun hw hw' => ⟨.cons (Val.wf_verdict _) hw.tail, hw'⟩
    cases hga : a.guard with
    | dup g =>
      obtain ⟨_, _, ⟨⟩, himp⟩ := hga ▸ hg
      exact ⟨_, v, _, rfl, by cases v.isNil <;> rfl, himp⟩
    | _ => trivial
  | send =>
    obtain ⟨hh, ⟨⟩⟩ := ok_of_ite htr
    obtain ⟨t, m, s, rfl⟩ := stack_cons₂ hs hh
    unfold stepInstr handleSend
    dsimp only
    split
    · rfl
    · cases t
      case proc =>
        exact .next rfl (.head _) (height_after hs (Nat.le_of_succ_le hh) []) hl trivial
          fun hw hw' => ⟨.cons hw.head hw.tail.tail, hw'⟩
      all_goals rfl
  | self_ =>
    cases htr
    unfold stepInstr handleSelf
    simp only [List.getLast?_eq_some_getLast (List.cons_ne_nil fr rest)]
    exact .next rfl (.head _) (height_after hs (Nat.zero_le _) [_]) hl trivial
      fun hw hw' => ⟨.cons rfl hw, hw'⟩
  | process q fidx =>
    obtain ⟨_, ⟨⟩⟩ := ok_of_ite htr
    exact .next rfl (.head _) (height_after hs (Nat.zero_le _) [_]) hl trivial
      fun hw hw' => ⟨.cons rfl hw, hw'⟩
  | call | tailCall _ | spawn | select => cases hsimple


/-- What `checkFn` establishes, unpacked. -/
structure Checked (P : Prog) (fn : Function) (anns : Anns) : Prop where
  size : anns.size = fn.instructions.size
  small : fn.instructions.size < maxCode
  entry : flowsTo fn.instructions.size anns 0 ⟨1, fn.captures, .none⟩ = true
  local_ : ∀ pc a i, anns[pc]? = some (some a) → fn.instructions[pc]? = some i →
    ∃ succs, transfer P fn.instructions.size fn.captures pc a i = .ok succs ∧
      ∀ s ∈ succs, flowsTo fn.instructions.size anns s.1 s.2 = true

theorem checkFn_spec {P : Prog} {fn : Function} {anns : Anns} (h : checkFn P fn anns = true) :
    Checked P fn anns := by
  unfold checkFn at h
  simp only [Bool.and_eq_true, beq_iff_eq, decide_eq_true_eq, List.all_eq_true, List.mem_range] at h
  obtain ⟨⟨⟨h1, h2⟩, h3⟩, h4⟩ := h
  refine ⟨h1, h2, h3, ?_⟩
  intro pc a i ha hi
  have hpc : pc < fn.instructions.size := by
    have := (Array.getElem?_eq_some_iff.mp hi).1
    exact this
  have := h4 pc hpc
  unfold checkPc at this
  rw [ha, hi] at this
  simp only at this
  split at this
  · cases this
  · rename_i succs hs
    refine ⟨succs, hs, ?_⟩
    intro s hs'
    have := List.all_eq_true.mp this s hs'
    exact this

theorem eff_le {out : Ann} {lb lLen : Nat} {v : Val} {s : List Val} (hl : lb + out.locals ≤ lLen)
    (hg : GuardSem lb lLen out.guard (v :: s)) (hv : v.isNil = false) : lb + out.eff ≤ lLen := by
  unfold Ann.eff
  split
  · rename_i g ho
    exact add_max_le ((ho ▸ hg) v s rfl hv) hl
  · rename_i g ho
    obtain ⟨_, _, ⟨⟩, himp⟩ := ho ▸ hg
    exact add_max_le (himp hv) hl
  · exact hl

theorem guard_of_flows {out b : Ann} {lb lLen : Nat} {stk : List Val}
    (hf : guardFlows out b = true) (hl : lb + out.locals ≤ lLen)
    (hg : GuardSem lb lLen out.guard stk) : GuardSem lb lLen b.guard stk := by
  unfold guardFlows at hf
  split at hf <;> rename_i hb <;> rw [hb]
  · trivial
  · rintro v s rfl hv
    rcases Bool.or_eq_true .. ▸ hf with hz | hle
    · obtain ⟨_, _, ⟨⟩, hv'⟩ := eq_of_beq hz ▸ hg
      exact absurd hv' (hv ▸ Bool.false_ne_true)
    · exact Nat.le_trans (Nat.add_le_add_left (of_decide_eq_true hle) lb) (eff_le hl hg hv)
  · split at hf
    · rename_i g' ho
      obtain ⟨w, s, hstk, himp⟩ := ho ▸ hg
      exact ⟨w, s, hstk, fun hv =>
        Nat.le_trans (Nat.add_le_add_left (of_decide_eq_true hf) lb) (add_max_le (himp hv) hl)⟩
    · cases hf
  · split at hf
    · rename_i g' ho
      obtain ⟨n, w, s, hstk, hneg, himp⟩ := ho ▸ hg
      exact ⟨n, w, s, hstk, hneg, fun hv =>
        Nat.le_trans (Nat.add_le_add_left (of_decide_eq_true hf) lb) (add_max_le (himp hv) hl)⟩
    · cases hf
  · exact eq_of_beq hf ▸ hg

/-- The abstract state at `pc` admits a concrete frame whose stack is `stk` over a base of `sb` and
whose locals number `lLen` over a base of `lb`: either the frame is exhausted (`pc = n`) with
exactly one value over the base, or `pc` is annotated, the height is the annotated one, there are
at least the annotated locals and the annotated guard holds. -/
def AtPc (n : Nat) (anns : Anns) (pc : Nat) (stk : List Val) (lLen sb lb : Nat) : Prop :=
  (pc = n ∧ stk.length = sb + 1) ∨
  (∃ a, anns[pc]? = some (some a) ∧ stk.length = sb + a.height ∧ lb + a.locals ≤ lLen ∧
    GuardSem lb lLen a.guard stk)

theorem flowsTo_atPc {n : Nat} {anns : Anns} {pc' : Nat} {out : Ann} {stk : List Val} {lLen sb lb : Nat}
    (h : flowsTo n anns pc' out = true) (hs : stk.length = sb + out.height) (hl : lb + out.locals ≤ lLen)
    (hg : GuardSem lb lLen out.guard stk) :
    AtPc n anns pc' stk lLen sb lb := by
  unfold flowsTo at h
  split at h
  · exact .inl ⟨‹_›, eq_of_beq h ▸ hs⟩
  · split at h
    · rename_i b hb
      simp only [Bool.and_eq_true, beq_iff_eq, decide_eq_true_eq] at h
      exact .inr ⟨b, hb, h.1.1 ▸ hs, Nat.le_trans (Nat.add_le_add_left h.1.2 lb) hl, guard_of_flows h.2 hl hg⟩
    · cases h

end QM.VM
