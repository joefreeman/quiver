import QuiverModel.Lemmas.VM.Shape
import QuiverModel.Lemmas.VM.Proc
/-
Soundness of M-Check for M-VM — the bytecode-verifier argument. Serves C07 (`C07.checkAnn_sound`)
and, through Lemmas/VM/Frames.lean, C16.

`inv_step`: one `transition` (any event, any well-formed oracle) from a state satisfying `Inv`
either is not enabled, or fails with a non-structural error, or leads to a state satisfying `Inv`.
`checkAnn_sound_full`: hence every state reachable from an entry state satisfies `Inv` and no
transition from it fails structurally.
-/
namespace QM.VM

variable {s0 : Nat}

/-- `Below` does not depend on the select state as long as it points at or above the frame on top
of the suspended ones. -/
theorem Below.change_sel {P : Prog} {A : Array Anns} {sel sel' : Option SelectState} :
    ∀ {rest : List Frame} {sb lb : Nat},
      (∀ st, sel = some st → rest.length ≤ st.frame) →
      (∀ st, sel' = some st → rest.length ≤ st.frame) →
      Below P A s0 sel rest sb lb → Below P A s0 sel' rest sb lb
  | [], _, _, _, _, h => h
  | g :: rest, sb, lb, h1, h2, h => by
    obtain ⟨fn, a, i, sbg, hat, hl, hcase, hrec⟩ := h
    refine ⟨fn, a, i, sbg, hat, hl, ?_, Below.change_sel (fun st hst => Nat.le_of_succ_le (h1 st hst))
      (fun st hst => Nat.le_of_succ_le (h2 st hst)) hrec⟩
    rcases hcase with ⟨hi, hs, _⟩ | ⟨_, _, st, hst, hk, _, _⟩
    · exact .inl ⟨hi, hs, fun st hst hk => Nat.lt_irrefl _ (hk ▸ h2 st hst)⟩
    · exact absurd (hk ▸ h1 st hst) (Nat.lt_irrefl _)

theorem FrameAt.lt_size {P : Prog} {A : Array Anns} {g : Frame} {fn : Function} {a : Ann} {i : Instr}
    (h : FrameAt P A g fn a i) : g.functionIndex < P.functions.size ∧ g.counter < fn.instructions.size :=
  ⟨(Array.getElem?_eq_some_iff.mp h.hfn).1, (Array.getElem?_eq_some_iff.mp h.hinstr).1⟩

theorem FrameAt.caps_eq {P : Prog} {A : Array Anns} {g : Frame} {fn : Function} {a : Ann}
    (h : FrameAt P A g fn a (.tailCall true)) : g.capturesCount = fn.captures := by
  refine h.hcc ?_
  obtain ⟨hlt, hget⟩ := Array.getElem?_eq_some_iff.mp h.hinstr
  rw [Function.selfTail, List.contains_iff_mem, ← hget]
  exact Array.getElem_mem_toList hlt

theorem checked_of {P : Prog} {A : Array Anns} (hA : AllChecked P A) {fi : Nat} {fn : Function}
    (hfn : P.functions[fi]? = some fn) : Checked P fn (annsOf A fi) := by
  have := hA fi (Array.getElem?_eq_some_iff.mp hfn).1
  rw [checkAnn, hfn] at this
  exact checkFn_spec this

theorem FrameAt.transfer {P : Prog} {A : Array Anns} (hA : AllChecked P A) {g : Frame} {fn : Function}
    {a : Ann} {i : Instr} (h : FrameAt P A g fn a i) :
    ∃ succs, QM.VM.transfer P fn.instructions.size fn.captures g.counter a i = .ok succs ∧
      ∀ s ∈ succs, flowsTo fn.instructions.size (annsOf A g.functionIndex) s.1 s.2 = true :=
  (checked_of hA h.hfn).local_ _ a i h.hann h.hinstr

theorem top_of_flow {P : Prog} {A : Array Anns} (hA : AllChecked P A) {f : Frame} {fn : Function}
    {pc' : Nat} {out : Ann} {k sb : Nat} {stk : List Val} {lLen : Nat} {park : Park}
    {sel : Option SelectState}
    (hfn : P.functions[f.functionIndex]? = some fn) (hcc : CapsOK f fn)
    (hflow : flowsTo fn.instructions.size (annsOf A f.functionIndex) pc' out = true)
    (hs : stk.length = sb + out.height) (hl : f.localsBase + out.locals ≤ lLen)
    (hg : GuardSem f.localsBase lLen out.guard stk)
    (hpark : park = .none) (hsel : SelNotAt sel k) :
    TopShape P A { f with counter := pc' } k sb stk lLen park sel := by
  rcases flowsTo_atPc hflow hs hl hg with ⟨hpc, hs'⟩ | ⟨b, hb, hs', hl', hg'⟩
  · exact .exhausted fn hfn hpc hs' (Nat.le_trans (Nat.le_add_right _ _) hl) hpark hsel
  · have hlt : pc' < fn.instructions.size :=
      (checked_of hA hfn).size ▸ (Array.getElem?_eq_some_iff.mp hb).1
    exact .normal fn b _ ⟨hfn, hcc, hb, Array.getElem?_eq_getElem hlt⟩ hl' hs' hpark hsel hg'

theorem top_of_entry {P : Prog} {A : Array Anns} (hA : AllChecked P A) {fi lb cc : Nat} {fn : Function}
    {k sb : Nat} {stk : List Val} {lLen : Nat} {park : Park} {sel : Option SelectState}
    (hfn : P.functions[fi]? = some fn) (hcc : cc = fn.captures)
    (hs : stk.length = sb + 1) (hl : lb + fn.captures ≤ lLen)
    (hpark : park = .none) (hsel : SelNotAt sel k) :
    TopShape P A (Frame.new fi lb cc) k sb stk lLen park sel :=
  top_of_flow (f := Frame.new fi lb cc) hA hfn (fun _ => hcc) (checked_of hA hfn).entry hs hl trivial
    hpark hsel

theorem Inv.intro {P : Prog} {A : Array Anns} {p : Proc} {f : Frame} {rest : List Frame} {sb : Nat}
    (hfr : p.frames = f :: rest)
    (hsw : AllWF P p.stack) (hlw : AllWF P p.locals)
    (hselw : ∀ st, p.selectState = some st → AllWF P st.sources)
    (hselb : ∀ st, p.selectState = some st → st.frame < rest.length + 1)
    (hres : p.result = none)
    (htop : TopShape P A f rest.length sb p.stack p.locals.length p.park p.selectState)
    (hbelow : Below P A s0 p.selectState rest sb f.localsBase) : Inv P A s0 p where
  stackWF := hsw
  localsWF := hlw
  selWF := hselw
  selBound := by rw [hfr]; exact hselb
  noErr := by rw [hres]; exact fun _ h => nomatch h
  shape := by rw [hfr]; exact ⟨hres, sb, htop, hbelow⟩

theorem Inv.unpack {P : Prog} {A : Array Anns} {p : Proc} {f : Frame} {rest : List Frame}
    (h : Inv P A s0 p) (hfr : p.frames = f :: rest) :
    p.result = none ∧ ∃ sb,
      TopShape P A f rest.length sb p.stack p.locals.length p.park p.selectState ∧
      Below P A s0 p.selectState rest sb f.localsBase := by
  have := h.shape
  rw [hfr] at this
  exact this

theorem Inv.selBound_cons {P : Prog} {A : Array Anns} {p : Proc} {f : Frame} {rest : List Frame}
    (h : Inv P A s0 p) (hfr : p.frames = f :: rest) :
    ∀ st, p.selectState = some st → st.frame < rest.length + 1 := by
  have := h.selBound
  rw [hfr] at this
  exact this

theorem inv_entry {P : Prog} {A : Array Anns} (hA : AllChecked P A) {p : Proc} (h : EntryWF P s0 p) :
    Inv P A s0 p := by
  obtain ⟨⟨fi, lb, cc, _⟩, fn, hfr, rfl, hfn, hcc, hl⟩ := h.frame
  have hsel : ∀ st, p.selectState ≠ some st := fun _ hst => nomatch h.sel ▸ hst
  exact Inv.intro (rest := []) (sb := s0) hfr h.stackWF h.localsWF (fun st hst => absurd hst (hsel st))
    (fun st hst => absurd hst (hsel st)) h.result
    (top_of_flow (f := ⟨fi, lb, cc, 0⟩) hA hfn hcc (checked_of hA hfn).entry h.stack hl trivial h.park
      fun st hst => absurd hst (hsel st)) rfl

theorem Safe.imp {Q Q' : Proc → Prop} {r : Res} (h : Safe Q r) (hq : ∀ p', Q p' → Q' p') : Safe Q' r := by
  cases r with
  | error e => exact h
  | ok x => exact hq _ h

/-- The `normal` case of `Inv`, unpacked: `p` is about to run instruction `i`, annotated `a`, in its
current frame `f` over the suspended frames `rest`; `sb` cells lie below the frame's argument. -/
structure Running (P : Prog) (A : Array Anns) (s0 : Nat) (p : Proc) (f : Frame) (rest : List Frame)
    (fn : Function) (a : Ann) (i : Instr) (sb : Nat) : Prop where
  inv : Inv P A s0 p
  frames : p.frames = f :: rest
  result : p.result = none
  instr : FrameAt P A f fn a i
  locals : f.localsBase + a.locals ≤ p.locals.length
  stack : p.stack.length = sb + a.height
  guard : GuardSem f.localsBase p.locals.length a.guard p.stack
  park : p.park = .none
  sel : SelNotAt p.selectState rest.length
  below : Below P A s0 p.selectState rest sb f.localsBase

theorem run_simple {P : Prog} {A : Array Anns} (hA : AllChecked P A) {O : Oracle} {p : Proc}
    {f : Frame} {rest : List Frame} {fn : Function} {a : Ann} {i : Instr} {sb : Nat}
    (h : Running P A s0 p f rest fn a i sb) (hsimple : i.simple = true) :
    Safe (Inv P A s0) (stepInstr O P p i) := by
  obtain ⟨hinv, hfr, hres, hat, hl, hs, hg, hpark, hsel, hbelow⟩ := h
  obtain ⟨succs, htr, hflow⟩ := hat.transfer hA
  refine (simple_step_sound hfr htr hs hl hg hsimple (checked_of hA hat.hfn).small).imp ?_
  intro p' ⟨⟨s, hsm, hst⟩, hwf⟩
  obtain ⟨hsw, hlw⟩ := hwf hinv.stackWF hinv.localsWF
  exact Inv.intro hst.frames hsw hlw (hst.sel ▸ hinv.selWF) (hst.sel ▸ hinv.selBound_cons hfr)
    (hst.result.trans hres)
    (top_of_flow hA hat.hfn hat.hcc (hflow s hsm) hst.stack hst.locals hst.guard (hst.park.trans hpark)
      (hst.sel ▸ hsel))
    (hst.sel ▸ hbelow)

section
variable {P : Prog} {n caps pc : Nat} {a : Ann} {succs : List (Nat × Ann)}

theorem transfer_call (h : transfer P n caps pc a .call = .ok succs) :
    2 ≤ a.height ∧ succs = [(pc + 1, ⟨a.height - 1, a.locals, .none⟩)] :=
  (ok_of_ite h).imp_right fun e => (Except.ok.inj e).symm

theorem transfer_spawn (h : transfer P n caps pc a .spawn = .ok succs) :
    2 ≤ a.height ∧ succs = [(pc + 1, ⟨a.height - 1, a.locals, .none⟩)] :=
  (ok_of_ite h).imp_right fun e => (Except.ok.inj e).symm

theorem transfer_select (h : transfer P n caps pc a .select = .ok succs) :
    1 ≤ a.height ∧ succs = [(pc + 1, ⟨a.height, a.locals, .none⟩)] :=
  (ok_of_ite h).imp_right fun e => (Except.ok.inj e).symm

theorem transfer_tailCall_true (h : transfer P n caps pc a (.tailCall true) = .ok succs) :
    a.height = 1 ∧ caps ≤ a.locals :=
  (ok_of_ite h).imp_right fun e => (ok_of_ite e).1

theorem transfer_tailCall_false (h : transfer P n caps pc a (.tailCall false) = .ok succs) :
    a.height = 2 :=
  (ok_of_ite h).1
end

theorem run_call {P : Prog} {A : Array Anns} (hA : AllChecked P A) {O : Oracle} (hO : OracleWF P O)
    {p : Proc} {f : Frame} {rest : List Frame} {fn : Function} {a : Ann} {sb : Nat}
    (h : Running P A s0 p f rest fn a .call sb) : Safe (Inv P A s0) (handleCall O P p) := by
  obtain ⟨hinv, hfr, hres, hat, hl, hs, _, hpark, hsel, hbelow⟩ := h
  obtain ⟨succs, htr, hflow⟩ := hat.transfer hA
  obtain ⟨hh, rfl⟩ := transfer_call htr
  have hselb := hinv.selBound_cons hfr
  obtain ⟨fv, param, s', hst⟩ := stack_cons₂ hs hh
  have hsw := hst ▸ hinv.stackWF
  rw [hst] at hs
  cases fv with
  | fn fi caps =>
    obtain ⟨fn', hfn', hcaps, hcw⟩ := Val.wf_fn_inv hsw.head
    simp only [handleCall, hst, hfn', ok]
    exact Inv.intro (rest := f :: rest) (sb := s'.length) (congrArg _ hfr) hsw.tail
      (AllWF.append_iff.mpr ⟨hinv.localsWF, hcw⟩) hinv.selWF
      (fun st h => Nat.lt_succ_of_lt (hselb st h)) hres
      (top_of_entry hA hfn' hcaps rfl (by rw [List.length_append, hcaps]; exact Nat.le_refl _) hpark
        fun st h hk => Nat.lt_irrefl _ (hk ▸ hselb st h))
      ⟨fn, a, .call, sb, hat, hl, .inl ⟨rfl, hs, hsel⟩, hbelow⟩
  | builtin id =>
    simp only [handleCall, hst]
    cases hb : O.builtin id param with
    | unrecognised => rfl
    | fail cls => rfl
    | value v =>
      simp only [ok, Proc.bump_eq (p := { p with stack := v :: s' }) hfr]
      exact Inv.intro rfl (.cons (hO.1 id param v hb) hsw.tail.tail) hinv.localsWF hinv.selWF hselb hres
        (top_of_flow hA hat.hfn hat.hcc (hflow _ (.head _)) (height_after hs (Nat.le_of_succ_le hh) [])
          hl trivial hpark hsel)
        hbelow
    | action =>
      exact Inv.intro hfr hsw.tail.tail hinv.localsWF hinv.selWF hselb hres
        (.effecting fn a hat hl hs rfl hsel) hbelow
  | _ => simp only [handleCall, hst]; rfl

theorem Frame.new_eq (fi lb cc : Nat) : Frame.new fi lb cc = ⟨fi, lb, cc, 0⟩ := rfl

/-- **What a `TailCall` does from the annotated shape** — `^` (`TailCall(true)`) and `^f` / `^~`
(`TailCall(false)`) alike: it fails non-structurally, or the argument stays over the callers' `sb`
cells, the locals are cut back to the frame's base followed by the target's captures, and a fresh
frame of the target replaces the current one. A self tail call is the case where the target is the
frame's own function and the captures are the frame's own. -/
theorem tailCall_spec {P : Prog} {A : Array Anns} (hA : AllChecked P A)
    {p : Proc} {f : Frame} {rest : List Frame} {fn : Function} {a : Ann} {sb : Nat} {r : Bool}
    (h : Running P A s0 p f rest fn a (.tailCall r) sb) :
    Safe (fun p' => ∃ fi fn' arg s caps, P.functions[fi]? = some fn' ∧ caps.length = fn'.captures ∧
        AllWF P (arg :: s) ∧ AllWF P caps ∧ s.length = sb ∧ (r = true → fi = f.functionIndex) ∧
        p' = { p with stack := arg :: s, locals := p.locals.take f.localsBase ++ caps,
                      frames := Frame.new fi f.localsBase fn'.captures :: rest })
      (handleTailCall P p r) := by
  obtain ⟨hinv, hfr, _, hat, hl, hs, _⟩ := h
  have hsw := hinv.stackWF
  have hlw := hinv.localsWF
  obtain ⟨succs, htr, _⟩ := hat.transfer hA
  cases r with
  | true =>
    obtain ⟨hh, hcaps⟩ := transfer_tailCall_true htr
    rw [hh] at hs
    obtain ⟨arg, s, hst⟩ := stack_cons hs (Nat.le_refl 1)
    rw [hst] at hs hsw
    simp only [handleTailCall, hst, hfr, ok, if_true, hat.caps_eq, List.take_add]
    refine ⟨_, fn, arg, s, _, hat.hfn, ?_, hsw, (hlw.drop _).take _, Nat.succ.inj hs, fun _ => rfl, rfl⟩
    rw [List.length_take, List.length_drop]
    exact Nat.min_eq_left (Nat.le_sub_of_add_le' (Nat.le_trans (Nat.add_le_add_left hcaps _) hl))
  | false =>
    rw [transfer_tailCall_false htr] at hs
    obtain ⟨fv, arg, s, hst⟩ := stack_cons₂ hs (Nat.le_refl 2)
    rw [hst] at hs hsw
    cases fv with
    | fn fi caps =>
      obtain ⟨fn', hfn', hcl, hcw⟩ := Val.wf_fn_inv hsw.head
      simp only [handleTailCall, hst, hfn', hfr, ok, Bool.false_eq_true, if_false, hcl]
      exact ⟨fi, fn', arg, s, _, hfn', hcl, hsw.tail, hcw, Nat.succ.inj (Nat.succ.inj hs), nofun, rfl⟩
    | _ => simp only [handleTailCall, hst]; rfl

theorem run_tailCall {P : Prog} {A : Array Anns} (hA : AllChecked P A)
    {p : Proc} {f : Frame} {rest : List Frame} {fn : Function} {a : Ann} {sb : Nat} {r : Bool}
    (h : Running P A s0 p f rest fn a (.tailCall r) sb) : Safe (Inv P A s0) (handleTailCall P p r) := by
  refine (tailCall_spec hA h).imp ?_
  obtain ⟨hinv, hfr, hres, _, hl, _, _, hpark, hsel, hbelow⟩ := h
  rintro _ ⟨fi, fn', arg, s, caps, hfn', hcl, hsw, hcw, hslen, _, rfl⟩
  refine Inv.intro rfl hsw (AllWF.append_iff.mpr ⟨hinv.localsWF.take _, hcw⟩) hinv.selWF
    (hinv.selBound_cons hfr) hres (top_of_entry hA hfn' rfl (congrArg (· + 1) hslen) ?_ hpark hsel) hbelow
  rw [List.length_append, List.length_take, hcl,
    Nat.min_eq_left (Nat.le_trans (Nat.le_add_right _ _) hl)]
  exact Nat.le_refl _

theorem run_spawn {P : Prog} {A : Array Anns} (hA : AllChecked P A)
    {p : Proc} {f : Frame} {rest : List Frame} {fn : Function} {a : Ann} {sb : Nat}
    (h : Running P A s0 p f rest fn a .spawn sb) : Safe (Inv P A s0) (handleSpawn p) := by
  obtain ⟨hinv, hfr, hres, hat, hl, hs, _, _, hsel, hbelow⟩ := h
  obtain ⟨succs, htr, _⟩ := hat.transfer hA
  obtain ⟨hh, _⟩ := transfer_spawn htr
  obtain ⟨fv, arg, s', hst⟩ := stack_cons₂ hs hh
  rw [hst] at hs
  unfold handleSpawn
  split
  · rfl
  · cases fv with
    | fn fi caps =>
      simp only [hst]
      exact Inv.intro hfr (hst ▸ hinv.stackWF :).tail.tail hinv.localsWF hinv.selWF
        (hinv.selBound_cons hfr) hres (.spawning fn a hat hl hs rfl hsel) hbelow
    | _ => simp only [hst]; rfl

theorem run_pop {P : Prog} {A : Array Anns} (hA : AllChecked P A)
    {p : Proc} {f : Frame} {rest : List Frame} {sb : Nat}
    (hinv : Inv P A s0 p) (hfr : p.frames = f :: rest) (hres : p.result = none)
    (hs : p.stack.length = sb + 1) (hl : f.localsBase ≤ p.locals.length)
    (hpark : p.park = .none) (hsel : SelNotAt p.selectState rest.length)
    (hbelow : Below P A s0 p.selectState rest sb f.localsBase) :
    Inv P A s0 (popFrame p) := by
  have hselb : ∀ st, p.selectState = some st → st.frame < rest.length := fun st h =>
    Nat.lt_of_le_of_ne (Nat.le_of_lt_succ (hinv.selBound_cons hfr st h)) (hsel st h)
  have hlen : (p.locals.take f.localsBase).length = f.localsBase :=
    List.length_take.trans (Nat.min_eq_left hl)
  cases rest with
  | nil =>
    have hnone : p.selectState = none := by
      cases h : p.selectState with
      | none => rfl
      | some st => exact absurd (hselb st h) (Nat.not_lt_zero _)
    simp only [popFrame, hfr, hnone]
    refine ⟨hinv.stackWF, ?_, (fun _ h => nomatch h), (fun _ h => nomatch h), hinv.noErr, ?_⟩
    · show AllWF P (if _ then _ else _)
      split
      · exact hinv.localsWF.take _
      · exact hinv.localsWF
    · exact ⟨hpark, fun _ => (hbelow : sb = s0) ▸ hs⟩
  | cons g r =>
    obtain ⟨fng, ag, ig, sbg, hatg, hlg, hcase, hrec⟩ := hbelow
    obtain ⟨succs, htr, hflow⟩ := hatg.transfer hA
    rcases hcase with ⟨rfl, hsb, hselg⟩ | ⟨rfl, hsb, st, hst, hk, hpcst, hrecv⟩
    · -- returning to a `Call`: counter incremented, one value replaced the two operands
      obtain ⟨hh, rfl⟩ := transfer_call htr
      have hpop : popFrame p = { p with frames := { g with counter := g.counter + 1 } :: r,
                                        locals := p.locals.take f.localsBase } := by
        simp only [popFrame, hfr]
        cases hsel' : p.selectState with
        | none => simp
        | some st => simp [hselg st hsel']
      rw [hpop]
      exact Inv.intro rfl hinv.stackWF (hinv.localsWF.take _) hinv.selWF hselb hres
        (top_of_flow hA hatg.hfn hatg.hcc (hflow _ (.head _))
          (hs.trans ((congrArg (· - 1) hsb).trans (Nat.add_sub_assoc (Nat.le_of_succ_le hh) sbg)))
          (Nat.le_trans hlg (Nat.le_of_eq hlen.symm)) trivial hpark hselg)
        hrec
    · -- returning the verdict of a filter function to the active `Select`: counter unchanged
      have hpop : popFrame p = { p with frames := g :: r, locals := p.locals.take f.localsBase } := by
        simp only [popFrame, hfr, hst]
        simp [hk, hpcst]
      rw [hpop]
      exact Inv.intro rfl hinv.stackWF (hinv.localsWF.take _) hinv.selWF hselb hres
        (.selecting fng ag hatg (Nat.le_trans hlg (Nat.le_of_eq hlen.symm)) st hst hk hpcst (.inr ⟨hrecv, hs.trans hsb, hpark⟩)) hrec

theorem run_finish {P : Prog} {A : Array Anns} {p : Proc}
    (hinv : Inv P A s0 p) (hfr : p.frames = []) : Inv P A s0 (finish p) := by
  have hsh := hinv.shape
  have hsb := hinv.selBound
  rw [hfr] at hsh hsb
  unfold finish
  cases hres : p.result with
  | some r => exact hinv
  | none =>
    cases hst : p.stack with
    | nil => exact absurd (hst ▸ hsh.2 hres) (Nat.succ_ne_zero _).symm
    | cons v s =>
      exact ⟨(hst ▸ hinv.stackWF :).tail, hinv.localsWF, hinv.selWF,
        fun st h => absurd (hsb st h) (Nat.not_lt_zero _), (fun _ h => nomatch h),
        by rw [hfr]; exact ⟨hsh.1, (fun h => nomatch h)⟩⟩

theorem TopShape.park_of_selecting {P : Prog} {A : Array Anns} {f : Frame} {k sb : Nat}
    {stk : List Val} {lLen : Nat} {sel : Option SelectState}
    (h : TopShape P A f k sb stk lLen .selecting sel) :
    TopShape P A f k sb stk lLen .none sel := by
  cases h with
  | exhausted _ _ _ _ _ hpark => cases hpark
  | normal _ _ _ _ _ _ hpark => cases hpark
  | spawning _ _ _ _ _ hpark => cases hpark
  | effecting _ _ _ _ _ hpark => cases hpark
  | selecting fn a hat hl st hst hk hpc hs =>
    refine .selecting fn a hat hl st hst hk hpc ?_
    rcases hs with ⟨h1, h2, _⟩ | ⟨_, _, h3⟩
    · exact .inl ⟨h1, h2, .inl rfl⟩
    · cases h3

theorem Inv.frames_of_park {P : Prog} {A : Array Anns} {p : Proc} (hinv : Inv P A s0 p)
    (hpark : p.park ≠ .none) : ∃ f rest, p.frames = f :: rest := by
  cases hfr : p.frames with
  | nil =>
    have := hinv.shape
    rw [hfr] at this
    exact absurd this.1 hpark
  | cons f rest => exact ⟨f, rest, rfl⟩

theorem ev_wake {P : Prog} {A : Array Anns} {p : Proc} (hinv : Inv P A s0 p) (hpark : p.park = .selecting) :
    Inv P A s0 ({ p with park := .none }) := by
  obtain ⟨f, rest, hfr⟩ := hinv.frames_of_park (by rw [hpark]; exact Park.noConfusion)
  obtain ⟨hres, sb, htop, hbelow⟩ := hinv.unpack hfr
  exact Inv.intro (p := { p with park := .none }) hfr hinv.stackWF hinv.localsWF hinv.selWF
    (hinv.selBound_cons hfr) hres (hpark ▸ htop).park_of_selecting hbelow

/-- the state is `transition … (.deliver m)` unfolded -/
theorem ev_deliver {P : Prog} {A : Array Anns} {p : Proc} (hinv : Inv P A s0 p) (m : Val) :
    Inv P A s0 (Proc.mk p.pid p.stack p.locals p.frames (p.mailbox ++ [m]) p.persistent p.result
      p.selectState (if p.park = .selecting then .none else p.park)) := by
  split
  · have := ev_wake hinv ‹_›
    exact ⟨this.stackWF, this.localsWF, this.selWF, this.selBound, this.noErr, this.shape⟩
  · exact ⟨hinv.stackWF, hinv.localsWF, hinv.selWF, hinv.selBound, hinv.noErr, hinv.shape⟩

theorem ev_resume {P : Prog} {A : Array Anns} (hA : AllChecked P A) {p : Proc} {v : Val}
    (hinv : Inv P A s0 p) (hv : v.wf P = true) (hpark : p.park = .spawning ∨ p.park = .effecting) :
    Inv P A s0 ({ p with stack := v :: p.stack, park := .none }.bump) := by
  obtain ⟨f, rest, hfr⟩ := hinv.frames_of_park fun h => by rw [h] at hpark; exact nomatch hpark
  obtain ⟨hres, sb, htop, hbelow⟩ := hinv.unpack hfr
  -- the instruction the process is parked in
  obtain ⟨fn, a, i, hat, hi, hl, hs, hsel⟩ : ∃ fn a i, FrameAt P A f fn a i ∧ (i = .spawn ∨ i = .call) ∧
      f.localsBase + a.locals ≤ p.locals.length ∧ p.stack.length + 2 = sb + a.height ∧
      SelNotAt p.selectState rest.length := by
    cases htop with
    | exhausted _ _ _ _ _ hp => rw [hp] at hpark; exact nomatch hpark
    | normal _ _ _ _ _ _ hp => rw [hp] at hpark; exact nomatch hpark
    | spawning fn a hat hl hs _ hsel => exact ⟨fn, a, _, hat, .inl rfl, hl, hs, hsel⟩
    | effecting fn a hat hl hs _ hsel => exact ⟨fn, a, _, hat, .inr rfl, hl, hs, hsel⟩
    | selecting _ _ _ _ _ _ _ _ hs =>
      rcases hs with ⟨_, _, h | h⟩ | ⟨_, _, h⟩ <;> rw [h] at hpark <;> exact nomatch hpark
  obtain ⟨succs, htr, hflow⟩ := hat.transfer hA
  obtain ⟨hh, rfl⟩ : 2 ≤ a.height ∧ succs = [(f.counter + 1, ⟨a.height - 1, a.locals, .none⟩)] := by
    rcases hi with rfl | rfl
    · exact transfer_spawn htr
    · exact transfer_call htr
  rw [Proc.bump_eq (p := { p with stack := v :: p.stack, park := .none }) hfr]
  exact Inv.intro rfl (.cons hv hinv.stackWF) hinv.localsWF hinv.selWF (hinv.selBound_cons hfr) hres
    (top_of_flow hA hat.hfn hat.hcc (hflow _ (.head _))
      ((congrArg (· - 1) hs).trans (Nat.add_sub_assoc (Nat.le_of_succ_le hh) sb)) hl trivial rfl hsel)
    hbelow

/-! `Select` runs more than once at one pc: the first execution pops the sources and installs the
select state (or parks on its awaits); every later one pops the verdict of a filter function if one
is pending, then lets the oracle decide (`selectDecide`). The select state changes while callers are
suspended below: `Below.change_sel` allows it because they only ask it to point at or above them. -/

theorem run_selectDecide {P : Prog} {A : Array Anns} (hA : AllChecked P A) {O : Oracle} (hO : OracleWF P O)
    {q : Proc} {st : SelectState} {f : Frame} {rest : List Frame} {fn : Function} {a : Ann} {sb : Nat}
    (hfr : q.frames = f :: rest) (hres : q.result = none)
    (hat : FrameAt P A f fn a .select) (hl : f.localsBase + a.locals ≤ q.locals.length)
    (hsw : AllWF P q.stack) (hlw : AllWF P q.locals) (hsrc : AllWF P st.sources)
    (hsel : q.selectState = some st) (hk : st.frame = rest.length) (hpc : st.instruction = f.counter)
    (hs : q.stack.length + 1 = sb + a.height) (hpark : q.park = .none)
    (hbelow : Below P A s0 q.selectState rest sb f.localsBase) :
    Safe (Inv P A s0) (selectDecide O P q st) := by
  obtain ⟨succs, htr, hflow⟩ := hat.transfer hA
  obtain ⟨hh, rfl⟩ := transfer_select htr
  have hge : ∀ st', q.selectState = some st' → rest.length ≤ st'.frame := fun st' h =>
    Nat.le_of_eq ((Option.some.inj (hsel ▸ h)) ▸ hk).symm
  unfold selectDecide
  cases hdec : O.select with
  | complete v =>
    simp only [ok, Proc.bump_eq (p := { q with selectState := none, stack := v :: q.stack }) hfr]
    exact Inv.intro rfl (.cons (hO.2.1 v hdec) hsw) hlw (fun _ h => nomatch h) (fun _ h => nomatch h) hres
      (top_of_flow hA hat.hfn hat.hcc (hflow _ (.head _)) hs hl trivial hpark fun _ h => nomatch h)
      (hbelow.change_sel hge fun _ h => nomatch h)
  | callReceive k msg =>
    simp only
    cases hsk : st.sources[k]? with
    | none => rfl
    | some src =>
      cases src with
      | fn fi caps =>
        obtain ⟨fn', hfn', hcaps, hcw⟩ := Val.wf_fn_inv (hsrc.getElem? hsk)
        simp only [handleCall, hfn', ok]
        exact Inv.intro (rest := f :: rest) (sb := q.stack.length) (congrArg _ hfr)
          (.cons (hO.2.2 k msg hdec) hsw) (AllWF.append_iff.mpr ⟨hlw, hcw⟩)
          (fun _ h => by cases h; exact hsrc)
          (fun _ h => by cases h; exact Nat.lt_succ_of_lt (Nat.lt_succ_of_le (Nat.le_of_eq hk)))
          hres
          (top_of_entry hA hfn' hcaps rfl (by rw [List.length_append, hcaps]; exact Nat.le_refl _) hpark
            fun _ h hk' => by cases h; exact absurd (hk.symm.trans hk') (Nat.ne_of_lt (Nat.lt_succ_self _)))
          ⟨fn, a, .select, sb, hat, hl, .inr ⟨rfl, hs, _, rfl, hk, hpc, rfl⟩,
            hbelow.change_sel hge fun _ h => by cases h; exact Nat.le_of_eq hk.symm⟩
      | _ => rfl
  | park =>
    exact Inv.intro hfr hsw hlw (fun _ h => by cases h; exact hsrc)
      (fun _ h => by cases h; exact Nat.lt_succ_of_le (Nat.le_of_eq hk)) hres
      (.selecting fn a hat hl _ rfl hk hpc (.inl ⟨rfl, hs, .inr rfl⟩))
      (hbelow.change_sel hge fun _ h => by cases h; exact Nat.le_of_eq hk.symm)
  | failType => rfl
  | failInvalid => rfl
  | failAwaited cls => rfl

theorem run_select {P : Prog} {A : Array Anns} (hA : AllChecked P A) {O : Oracle} (hO : OracleWF P O)
    {p : Proc} {f : Frame} {rest : List Frame} {fn : Function} {a : Ann} {sb : Nat}
    (hinv : Inv P A s0 p) (hfr : p.frames = f :: rest) (hres : p.result = none)
    (hat : FrameAt P A f fn a .select) (hl : f.localsBase + a.locals ≤ p.locals.length)
    (hpark : p.park = .none)
    (hbelow : Below P A s0 p.selectState rest sb f.localsBase)
    (hcase : (p.stack.length = sb + a.height ∧ SelNotAt p.selectState rest.length) ∨
      (∃ st, p.selectState = some st ∧ st.frame = rest.length ∧ st.instruction = f.counter ∧
        ((st.receiving = none ∧ p.stack.length + 1 = sb + a.height) ∨
         (st.receiving.isSome = true ∧ p.stack.length = sb + a.height)))) :
    Safe (Inv P A s0) (handleSelect O P p) := by
  obtain ⟨succs, htr, _⟩ := hat.transfer hA
  obtain ⟨hh, _⟩ := transfer_select htr
  have hcur : p.curCounter = f.counter := by rw [Proc.curCounter, hfr]
  have hflen : p.frames.length - 1 = rest.length := by rw [hfr]; rfl
  unfold handleSelect
  rcases hcase with ⟨hs, hsel⟩ | ⟨st, hst, hk, hpc, hs⟩
  · -- first execution: initialise (or a stale foreign select state: InvalidArgument)
    cases hss : p.selectState with
    | some st => simp only [hflen, hsel st hss, ne_eq, not_false_eq_true, true_or, if_true]; rfl
    | none =>
      obtain ⟨v, s, hstk⟩ := stack_cons hs hh
      have hsw := hstk ▸ hinv.stackWF
      have hb : Below P A s0 (some (SelectState.mk rest.length f.counter (selectSources v) none))
          rest sb f.localsBase :=
        (hss ▸ hbelow : Below P A s0 none rest sb f.localsBase).change_sel (fun _ h => by cases h)
          fun _ h => by cases h; exact Nat.le_refl _
      have key : ∀ park, park = Park.none ∨ park = .selecting → Inv P A s0 { p with
          stack := s, selectState := some ⟨rest.length, f.counter, selectSources v, none⟩, park := park } :=
        fun park hp => Inv.intro hfr hsw.tail hinv.localsWF
          (fun _ h => by cases h; exact selectSources_wf hsw.head)
          (fun _ h => by cases h; exact Nat.lt_succ_self _) hres
          (.selecting fn a hat hl _ rfl rfl rfl (.inl ⟨rfl, (hstk ▸ hs :), hp⟩)) hb
      simp only [hstk, hflen, hcur]
      split
      · exact key _ (.inl hpark)
      · exact key _ (.inr rfl)
  · -- continuing the active select
    have hsrc := hinv.selWF st hst
    simp only [hst, hflen, hcur, hk, hpc, ne_eq, not_true_eq_false, or_self, if_false]
    rcases hs with ⟨hrn, hs⟩ | ⟨hrs, hs⟩
    · rw [hrn]
      exact run_selectDecide hA hO hfr hres hat hl hinv.stackWF hinv.localsWF hsrc hst hk hpc hs hpark hbelow
    · cases hrecv : st.receiving with
      | none => rw [hrecv] at hrs; cases hrs
      | some rm =>
        obtain ⟨verdict, s, hstk⟩ := stack_cons hs hh
        simp only [hstk]
        exact run_selectDecide (q := { p with stack := s }) hA hO hfr hres hat hl
          (hstk ▸ hinv.stackWF :).tail hinv.localsWF hsrc hst hk hpc (hstk ▸ hs :) hpark hbelow

/-- **One transition preserves the invariant and does not fail structurally.** -/
theorem inv_step {P : Prog} {A : Array Anns} (hA : AllChecked P A) {p : Proc} {ev : Event}
    (hinv : Inv P A s0 p) (hev : EventWF P ev) :
    match transition P p ev with
    | none => True
    | some r => Safe (Inv P A s0) r := by
  cases ev with
  | run O =>
    have hO : OracleWF P O := hev
    by_cases hguard : p.park ≠ .none ∨ p.result.isSome = true
    · simp only [transition, if_pos hguard]
    · have hpark : p.park = .none := Decidable.of_not_not fun h => hguard (.inl h)
      simp only [transition, if_neg hguard]
      cases hfr : p.frames with
      | nil => exact run_finish hinv hfr
      | cons f rest =>
        obtain ⟨hres, sb, htop, hbelow⟩ := hinv.unpack hfr
        cases htop with
        | exhausted fn hfn hpc hs hl _ hsel =>
          simp only [hfn, hpc, Array.getElem?_eq_none (Nat.le_refl _)]
          exact run_pop hA hinv hfr hres hs hl hpark hsel hbelow
        | normal fn a i hat hl hs _ hsel hg =>
          simp only [hat.hfn, hat.hinstr]
          have h : Running P A s0 p f rest fn a i sb := ⟨hinv, hfr, hres, hat, hl, hs, hg, hpark, hsel, hbelow⟩
          cases i with
          | call => exact run_call hA hO h
          | tailCall r => exact run_tailCall hA h
          | spawn => exact run_spawn hA h
          | select => exact run_select hA hO hinv hfr hres hat hl hpark hbelow (.inl ⟨hs, hsel⟩)
          | _ => exact run_simple hA h rfl
        | spawning _ _ _ _ _ hp => exact nomatch hp ▸ hpark
        | effecting _ _ _ _ _ hp => exact nomatch hp ▸ hpark
        | selecting fn a hat hl st hst hk hpc hs =>
          simp only [hat.hfn, hat.hinstr]
          refine run_select hA hO hinv hfr hres hat hl hpark hbelow (.inr ⟨st, hst, hk, hpc, ?_⟩)
          rcases hs with ⟨h1, h2, _⟩ | ⟨h1, h2, _⟩
          · exact .inl ⟨h1, h2⟩
          · exact .inr ⟨h1, h2⟩
  | spawned v =>
    by_cases hp : p.park = .spawning
    · simp only [transition, if_pos hp]
      exact ev_resume hA hinv hev (.inl hp)
    · simp only [transition, if_neg hp]
  | effectDone r =>
    by_cases hp : p.park = .effecting
    · cases r with
      | none => simp only [transition, if_pos hp]; rfl
      | some v =>
        simp only [transition, if_pos hp]
        exact ev_resume hA hinv hev (.inr hp)
    · simp only [transition, if_neg hp]
  | wake =>
    by_cases hp : p.park = .selecting
    · simp only [transition, if_pos hp]
      exact ev_wake hinv hp
    · simp only [transition, if_neg hp]
  | deliver m => exact ev_deliver hinv m

/-- Soundness of the checker: `Inv` along `ReachWF`, by `inv_step`; no structural failure. -/
theorem checkAnn_sound_full {P : Prog} {A : Array Anns} (hA : AllChecked P A) {p0 p : Proc}
    (h0 : EntryWF P s0 p0) (hr : ReachWF P p0 p) :
    Inv P A s0 p ∧
    ∀ ev, EventWF P ev → ∀ e, transition P p ev = some (.error e) → e.isStructural = false := by
  have hinv : Inv P A s0 p := by
    induction hr with
    | refl => exact inv_entry hA h0
    | step _ hev htr ih =>
      have := inv_step hA ih hev
      rw [htr] at this
      exact this
  refine ⟨hinv, ?_⟩
  intro ev hev e htr
  have := inv_step hA hinv hev
  rw [htr] at this
  exact this

end QM.VM
