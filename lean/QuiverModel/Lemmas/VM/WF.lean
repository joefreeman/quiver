import QuiverModel.Core.VM.Inv
/-
Well-formed values (`Val.wf`, `AllWF`): how the predicate meets the list operations the handlers of
`Core/VM/Step.lean` apply to the stack and the locals, and how closures and tuples are built and
taken apart.
-/
namespace QM.VM

theorem ValList.wf_iff {P : Prog} : (l : ValList) → (ValList.wf P l = true ↔ AllWF P l.toList)
  | .nil => by simp [ValList.wf, AllWF]
  | .cons v vs => by
    have ih := ValList.wf_iff (P := P) vs
    simp [ValList.wf, AllWF, ih]

theorem AllWF.nil {P : Prog} : AllWF P [] := by simp [AllWF]

@[simp] theorem AllWF.cons_iff {P : Prog} {v : Val} {l : List Val} :
    AllWF P (v :: l) ↔ v.wf P = true ∧ AllWF P l := by simp [AllWF]

@[simp] theorem AllWF.append_iff {P : Prog} {l l' : List Val} :
    AllWF P (l ++ l') ↔ AllWF P l ∧ AllWF P l' := by
  simp only [AllWF, List.mem_append]
  constructor
  · intro h; exact ⟨fun v hv => h v (Or.inl hv), fun v hv => h v (Or.inr hv)⟩
  · rintro ⟨h1, h2⟩ v (hv | hv)
    · exact h1 v hv
    · exact h2 v hv

theorem AllWF.cons {P : Prog} {v : Val} {l : List Val} (hv : v.wf P = true) (h : AllWF P l) :
    AllWF P (v :: l) :=
  AllWF.cons_iff.mpr ⟨hv, h⟩

theorem AllWF.head {P : Prog} {v : Val} {l : List Val} (h : AllWF P (v :: l)) : v.wf P = true :=
  (AllWF.cons_iff.mp h).1

theorem AllWF.tail {P : Prog} {v : Val} {l : List Val} (h : AllWF P (v :: l)) : AllWF P l :=
  (AllWF.cons_iff.mp h).2

theorem AllWF.sublist {P : Prog} {l l' : List Val} (hs : l'.Sublist l) (h : AllWF P l) : AllWF P l' :=
  fun v hv => h v (hs.subset hv)

theorem AllWF.take {P : Prog} {l : List Val} (n : Nat) (h : AllWF P l) : AllWF P (l.take n) :=
  h.sublist (List.take_sublist n l)

theorem AllWF.drop {P : Prog} {l : List Val} (n : Nat) (h : AllWF P l) : AllWF P (l.drop n) :=
  h.sublist (List.drop_sublist n l)

theorem AllWF.eraseIdx {P : Prog} {l : List Val} (n : Nat) (h : AllWF P l) : AllWF P (l.eraseIdx n) :=
  h.sublist (List.eraseIdx_sublist l n)

theorem AllWF.reverse {P : Prog} {l : List Val} (h : AllWF P l) : AllWF P l.reverse :=
  fun v hv => h v (List.mem_reverse.mp hv)

theorem AllWF.getElem? {P : Prog} {l : List Val} {n : Nat} {v : Val} (h : AllWF P l)
    (hv : l[n]? = some v) : v.wf P = true :=
  h v (List.mem_of_getElem? hv)

@[simp] theorem Val.wf_nil {P : Prog} : Val.nil.wf P = true := by simp [Val.nil, Val.wf, ValList.wf]
@[simp] theorem Val.wf_ok {P : Prog} : Val.ok.wf P = true := by simp [Val.ok, Val.wf, ValList.wf]

/-- The verdict `IsType`, `Equal` and `Not` push. -/
theorem Val.wf_verdict {P : Prog} (c : Bool) : (if c then Val.ok else Val.nil).wf P = true := by
  cases c <;> rfl

theorem Val.wf_tup {P : Prog} {id : Nat} {l : List Val} (h : AllWF P l) :
    (Val.tup id (ValList.ofList l)).wf P = true := by
  simp [Val.wf, ValList.wf_iff, h]

theorem Val.wf_fn {P : Prog} {i : Nat} {fn : Function} {l : List Val}
    (hfn : P.functions[i]? = some fn) (hlen : l.length = fn.captures) (h : AllWF P l) :
    (Val.fn i (ValList.ofList l)).wf P = true := by
  simp [Val.wf, ValList.wf_iff, h, hfn, hlen]

theorem Val.wf_fn_inv {P : Prog} {i : Nat} {caps : ValList} (h : (Val.fn i caps).wf P = true) :
    ∃ fn, P.functions[i]? = some fn ∧ caps.toList.length = fn.captures ∧ AllWF P caps.toList := by
  simp only [Val.wf, Bool.and_eq_true] at h
  obtain ⟨h1, h2⟩ := h
  split at h1
  · rename_i fn hfn
    exact ⟨fn, hfn, by simpa using h1, (ValList.wf_iff caps).mp h2⟩
  · cases h1

theorem Val.wf_tup_inv {P : Prog} {id : Nat} {els : ValList} (h : (Val.tup id els).wf P = true) :
    AllWF P els.toList := by
  simp only [Val.wf] at h
  exact (ValList.wf_iff els).mp h

theorem selectSources_wf {P : Prog} {v : Val} (h : v.wf P = true) : AllWF P (selectSources v) := by
  cases v with
  | tup id els => exact Val.wf_tup_inv h
  | _ => simp_all [selectSources, AllWF]

end QM.VM
