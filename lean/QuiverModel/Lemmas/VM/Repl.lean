import QuiverModel.Lemmas.VM.Sound
/-
REPL continuation lines (for `C07.checkAnn_sound_repl`): the program view `P.withCaptures f0 n`, the
fact that `P` and the view take the same transitions as long as no `Function(f0)` instruction exists
(`transition_withCaptures`), and the entry state of a continuation line.
-/
namespace QM.VM

/-- `P` with the `captures` of function `f0` replaced by `n` — the view under which a REPL
continuation line (which starts with the session's `n` variables as locals) is certified. -/
def Prog.withCaptures (P : Prog) (f0 n : Nat) : Prog :=
  { P with functions := P.functions.modify f0 (fun fn => { fn with captures := n }) }

theorem withCaptures_get (P : Prog) (f0 n i : Nat) :
    (P.withCaptures f0 n).functions[i]? =
      (P.functions[i]?).map (fun fn => if f0 = i then { fn with captures := n } else fn) := by
  simp only [Prog.withCaptures, Array.getElem?_modify]
  cases P.functions[i]? with
  | none => simp
  | some v => by_cases h : f0 = i <;> simp [h]

theorem withCaptures_get_none {P : Prog} {f0 n i : Nat} (h : P.functions[i]? = none) :
    (P.withCaptures f0 n).functions[i]? = none := by simp [withCaptures_get, h]

theorem withCaptures_get_some {P : Prog} {f0 n i : Nat} {fn : Function} (h : P.functions[i]? = some fn) :
    ∃ fn', (P.withCaptures f0 n).functions[i]? = some fn' ∧ fn'.instructions = fn.instructions ∧
      (i ≠ f0 → fn' = fn) := by
  rw [withCaptures_get, h]
  by_cases hi : f0 = i
  · exact ⟨{ fn with captures := n }, by simp [hi], rfl, fun hne => absurd hi.symm hne⟩
  · exact ⟨fn, by simp [hi], rfl, fun _ => rfl⟩

theorem withCaptures_get_cases (P : Prog) (f0 n i : Nat) :
    (P.functions[i]? = none ∧ (P.withCaptures f0 n).functions[i]? = none) ∨
    ∃ fn fn', P.functions[i]? = some fn ∧ (P.withCaptures f0 n).functions[i]? = some fn' := by
  cases h : P.functions[i]? with
  | none => exact .inl ⟨rfl, withCaptures_get_none h⟩
  | some fn =>
    obtain ⟨fn', h', _⟩ := withCaptures_get_some (f0 := f0) (n := n) h
    exact .inr ⟨fn, fn', rfl, h'⟩

theorem handleCall_withCaptures (O : Oracle) (P : Prog) (f0 n : Nat) (p : Proc) :
    handleCall O (P.withCaptures f0 n) p = handleCall O P p := by
  unfold handleCall
  split
  · rfl
  · rename_i fi _ _ _
    rcases withCaptures_get_cases P f0 n fi with ⟨h, h'⟩ | ⟨_, _, h, h'⟩ <;> rw [h, h']
  · rfl
  · rfl

theorem handleTailCall_withCaptures (P : Prog) (f0 n : Nat) (p : Proc) (r : Bool) :
    handleTailCall (P.withCaptures f0 n) p r = handleTailCall P p r := by
  unfold handleTailCall
  split
  · rfl
  · split
    · rfl
    · split
      · rfl
      · split
        · rename_i fi _ _
          rcases withCaptures_get_cases P f0 n fi with ⟨h, h'⟩ | ⟨_, _, h, h'⟩ <;> rw [h, h']
        · rfl

theorem selectDecide_withCaptures (O : Oracle) (P : Prog) (f0 n : Nat) (q : Proc) (st : SelectState) :
    selectDecide O (P.withCaptures f0 n) q st = selectDecide O P q st := by
  simp only [selectDecide, handleCall_withCaptures]

theorem stepInstr_withCaptures (O : Oracle) (P : Prog) (f0 n : Nat) (p : Proc) (i : Instr)
    (hi : i ≠ .function f0) : stepInstr O (P.withCaptures f0 n) p i = stepInstr O P p i := by
  cases i with
  | call => exact handleCall_withCaptures O P f0 n p
  | tailCall r => exact handleTailCall_withCaptures P f0 n p r
  | function k =>
    have hk : k ≠ f0 := fun h => hi (by rw [h])
    show handleFunction _ p k = handleFunction P p k
    unfold handleFunction
    cases h : P.functions[k]? with
    | none => rw [withCaptures_get_none h]
    | some fn =>
      obtain ⟨fn', h', _, heq⟩ := withCaptures_get_some (f0 := f0) (n := n) h
      rw [h', heq hk]
  | select =>
    show handleSelect O _ p = handleSelect O P p
    simp only [handleSelect, selectDecide_withCaptures]
  | _ => rfl

theorem transition_withCaptures (P : Prog) (f0 n : Nat)
    (hno : ∀ (f : Nat) (fn : Function), P.functions[f]? = some fn → Instr.function f0 ∉ fn.instructions.toList)
    (p : Proc) (ev : Event) : transition (P.withCaptures f0 n) p ev = transition P p ev := by
  cases ev with
  | run O =>
    simp only [transition]
    split
    · rfl
    · split
      · rfl
      · rename_i f rest hfr
        cases h : P.functions[f.functionIndex]? with
        | none => simp [withCaptures_get_none h]
        | some fn0 =>
          obtain ⟨fn', h', hins, _⟩ := withCaptures_get_some (f0 := f0) (n := n) h
          simp only [h', hins]
          cases hi : fn0.instructions[f.counter]? with
          | none => rfl
          | some i =>
            simp only
            rw [stepInstr_withCaptures]
            intro heq
            have hmem : i ∈ fn0.instructions.toList := by
              obtain ⟨hlt, hget⟩ := Array.getElem?_eq_some_iff.mp hi
              rw [← hget]; exact Array.getElem_mem_toList hlt
            rw [heq] at hmem
            exact hno _ fn0 h hmem
  | _ => rfl

/-- Entry state of a REPL continuation line: the persistent process resumes with one frame of the
line's function `f0` (`Frame::new(f0, 0, 0)` in `resume_process`, any `captures_count`), the
previous result on the stack, and the session's variables — at least `n` of them — as locals. The
line's function contains no bare `^` (the compiler rejects it at top level). Values are well-formed
for the view `P.withCaptures f0 n`. -/
structure ReplEntry (P : Prog) (f0 n s0 : Nat) (p : Proc) : Prop where
  frame : ∃ f fn, p.frames = [f] ∧ f.counter = 0 ∧ f.functionIndex = f0 ∧ P.functions[f0]? = some fn ∧
    fn.selfTail = false ∧ f.localsBase + n ≤ p.locals.length
  stack : p.stack.length = s0 + 1
  stackWF : AllWF (P.withCaptures f0 n) p.stack
  localsWF : AllWF (P.withCaptures f0 n) p.locals
  park : p.park = .none
  result : p.result = none
  sel : p.selectState = none

/-- Reachability in `P` (the program the executor runs) under events that are well-formed for the
view `P.withCaptures f0 n`. -/
inductive ReplReach (P : Prog) (f0 n : Nat) : Proc → Proc → Prop
  | refl (p : Proc) : ReplReach P f0 n p p
  | step {p0 p p' : Proc} {ev : Event} {act : Option Action} :
      ReplReach P f0 n p0 p → EventWF (P.withCaptures f0 n) ev →
      transition P p ev = some (.ok (p', act)) → ReplReach P f0 n p0 p'

theorem replEntry_entryWF {P : Prog} {f0 n s0 : Nat} {p : Proc} (h : ReplEntry P f0 n s0 p) :
    EntryWF (P.withCaptures f0 n) s0 p := by
  obtain ⟨f, fn, hfr, hc, hf0, hfn, hself, hl⟩ := h.frame
  have hget : (P.withCaptures f0 n).functions[f.functionIndex]? = some { fn with captures := n } := by
    rw [hf0, withCaptures_get, hfn]; simp
  refine ⟨⟨f, _, hfr, hc, hget, ?_, by simpa using hl⟩, h.stack, h.stackWF, h.localsWF, h.park, h.result, h.sel⟩
  intro hs
  simp [Function.selfTail] at hs hself
  exact absurd hs hself

end QM.VM
