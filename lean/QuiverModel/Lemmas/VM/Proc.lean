import QuiverModel.Core.VM.Step
/-
What `Proc.bump`, `Proc.setCounter` and `Proc.push` leave alone.
-/
namespace QM.VM

@[simp] theorem Proc.bump_stack (p : Proc) : p.bump.stack = p.stack := by
  unfold Proc.bump; split <;> rfl
@[simp] theorem Proc.bump_locals (p : Proc) : p.bump.locals = p.locals := by
  unfold Proc.bump; split <;> rfl
@[simp] theorem Proc.bump_sel (p : Proc) : p.bump.selectState = p.selectState := by
  unfold Proc.bump; split <;> rfl
@[simp] theorem Proc.bump_park (p : Proc) : p.bump.park = p.park := by
  unfold Proc.bump; split <;> rfl
@[simp] theorem Proc.bump_result (p : Proc) : p.bump.result = p.result := by
  unfold Proc.bump; split <;> rfl
@[simp] theorem Proc.setCounter_stack (p : Proc) (c : Nat) : (p.setCounter c).stack = p.stack := by
  unfold Proc.setCounter; split <;> rfl
@[simp] theorem Proc.setCounter_locals (p : Proc) (c : Nat) : (p.setCounter c).locals = p.locals := by
  unfold Proc.setCounter; split <;> rfl
@[simp] theorem Proc.setCounter_sel (p : Proc) (c : Nat) : (p.setCounter c).selectState = p.selectState := by
  unfold Proc.setCounter; split <;> rfl
@[simp] theorem Proc.push_stack (p : Proc) (v : Val) : (p.push v).stack = v :: p.stack := rfl
@[simp] theorem Proc.push_locals (p : Proc) (v : Val) : (p.push v).locals = p.locals := rfl

theorem Proc.bump_eq {p : Proc} {f : Frame} {rest : List Frame} (hfr : p.frames = f :: rest) :
    p.bump = { p with frames := { f with counter := f.counter + 1 } :: rest } := by
  simp only [Proc.bump, hfr]

end QM.VM
