import QuiverModel.Core.Exec.Error
import QuiverModel.Lemmas.Exec.Select
namespace QM.Exec
variable {V : Type}

/-
For Theorems/C15.lean. Executor side: the awaiter loop touches one process record per awaiter (`notifyAll_getProc`,
`announce_getProc`), `notify_effect_completion` in one equation. Worker side: `query_and_await` for a failed target
(`queryOne_failed`, `queryOne_failed_waits`) and `check_completed_processes` (`checkAll_reports`).
-/

theorem getProc_setProc_self (ex : Exec V) (k : Nat) (p : Proc V) : (ex.setProc k p).getProc k = some p := by
  simp [Exec.getProc, Exec.setProc, amLookup_insert_self]

theorem getProc_setProc_ne (ex : Exec V) (k k' : Nat) (p : Proc V) (h : k' ≠ k) :
    (ex.setProc k p).getProc k' = ex.getProc k' := by
  simp [Exec.getProc, Exec.setProc, amLookup_insert_ne _ _ _ _ h]

theorem getProc_wake (ex : Exec V) (a k : Nat) : (ex.wake a).getProc k = ex.getProc k := by
  unfold Exec.wake; split <;> rfl

theorem mem_queue_wake (ex : Exec V) (a q : Nat) (h : q ≠ a) : q ∈ (ex.wake a).queue ↔ q ∈ ex.queue := by
  unfold Exec.wake; split <;> simp [h]

theorem mem_selecting_wake (ex : Exec V) (a q : Nat) (h : q ≠ a) : q ∈ (ex.wake a).selecting ↔ q ∈ ex.selecting := by
  unfold Exec.wake; split <;> simp [List.mem_filter, h]

theorem wake_wakes (ex : Exec V) (a : Nat) (h : a ∈ ex.selecting) :
    a ∈ (ex.wake a).queue ∧ a ∉ (ex.wake a).selecting := by
  unfold Exec.wake; simp [h, List.mem_filter]

/-- what the awaiter loop of `Executor::step` does to one awaiter's record: the `contains_key` guard of the loop, then
`Proc.notified` -/
def Proc.notifiedIfKey (p : Proc V) (pid : Nat) (r : Res V) : Proc V :=
  if (amLookup pid p.awaiting).isSome then p.notified pid r else p

theorem notifyFinished_getProc_self (ex : Exec V) (a pid : Nat) (r : Res V) (p : Proc V)
    (hp : ex.getProc a = some p) :
    (ex.notifyFinished a pid r).getProc a = some (p.notifiedIfKey pid r) := by
  unfold Exec.notifyFinished Proc.notifiedIfKey
  rw [hp]
  simp only []
  split
  · cases r with
    | ok v =>
      simp only [Exec.notifyResultOk, hp, getProc_wake, getProc_setProc_self, Proc.notified]
    | err e =>
      simp only [Exec.notifyFailure, hp, Proc.notified]
      split
      · simp only [getProc_wake, getProc_setProc_self]
      · exact hp
  · exact hp

theorem notifyFinished_getProc_ne (ex : Exec V) (a pid q : Nat) (r : Res V) (h : q ≠ a) :
    (ex.notifyFinished a pid r).getProc q = ex.getProc q := by
  unfold Exec.notifyFinished
  cases hp : ex.getProc a with
  | none => rfl
  | some p =>
    simp only []
    split
    · cases r with
      | ok v => simp only [Exec.notifyResultOk, hp, getProc_wake, getProc_setProc_ne _ _ _ _ h]
      | err e =>
        simp only [Exec.notifyFailure, hp]
        split
        · simp only [getProc_wake, getProc_setProc_ne _ _ _ _ h]
        · rfl
    · rfl

theorem notifyFinished_sets_ne (ex : Exec V) (a pid q : Nat) (r : Res V) (h : q ≠ a) :
    (q ∈ (ex.notifyFinished a pid r).queue ↔ q ∈ ex.queue) ∧
    (q ∈ (ex.notifyFinished a pid r).selecting ↔ q ∈ ex.selecting) := by
  unfold Exec.notifyFinished
  cases hp : ex.getProc a with
  | none => exact ⟨Iff.rfl, Iff.rfl⟩
  | some p =>
    simp only []
    split
    · cases r with
      | ok v =>
        simp only [Exec.notifyResultOk, hp]
        exact ⟨mem_queue_wake _ a q h, mem_selecting_wake _ a q h⟩
      | err e =>
        simp only [Exec.notifyFailure, hp]
        split
        · exact ⟨mem_queue_wake _ a q h, mem_selecting_wake _ a q h⟩
        · exact ⟨Iff.rfl, Iff.rfl⟩
    · exact ⟨Iff.rfl, Iff.rfl⟩


theorem amInsert_idem {α} (k : Nat) (v : α) (m : AMap α) : amInsert k v (amInsert k v m) = amInsert k v m := by
  simp [amInsert, List.filter_filter]

theorem notified_frame (p : Proc V) (pid : Nat) (r : Res V) :
    (p.notified pid r).result = p.result ∧ (p.notified pid r).mailbox = p.mailbox ∧
    (p.notified pid r).sel = p.sel := by
  cases r with
  | ok v => simp only [Proc.notified, Proc.storeResult]; split <;> exact ⟨rfl, rfl, rfl⟩
  | err e => simp only [Proc.notified]; split <;> exact ⟨rfl, rfl, rfl⟩

theorem notified_err_awaiting (p : Proc V) (pid : Nat) (e : ErrClass) :
    (p.notified pid (.err e)).awaiting = p.awaiting := by
  simp only [Proc.notified]; split <;> rfl

theorem notified_key (p : Proc V) (pid : Nat) (r : Res V) :
    (amLookup pid (p.notified pid r).awaiting).isSome = (amLookup pid p.awaiting).isSome := by
  cases r with
  | ok v =>
    simp only [Proc.notified, Proc.storeResult]
    split
    · rename_i h
      simp only [Proc.stillAwaiting, Bool.and_eq_true] at h
      simp [amLookup_insert_self, h.2]
    · rfl
  | err e => rw [notified_err_awaiting]

theorem notified_idem (p : Proc V) (pid : Nat) (r : Res V) :
    (p.notified pid r).notified pid r = p.notified pid r := by
  cases r with
  | ok v =>
    simp only [Proc.notified, Proc.storeResult]
    by_cases h : p.stillAwaiting pid = true
    · have h' : ({ p with awaiting := amInsert pid (some v) p.awaiting } : Proc V).stillAwaiting pid = true := by
        simp only [Proc.stillAwaiting, Bool.and_eq_true] at h ⊢
        exact ⟨h.1, by simp [amLookup_insert_self]⟩
      simp only [h, if_true, h', amInsert_idem]
    · simp only [h]; simp [h]
  | err e =>
    by_cases h : p.stillAwaiting pid = true
    · have h1 : p.notified pid (.err e) = p.recordFailure pid e := by simp [Proc.notified, h]
      have h' : (p.recordFailure pid e).stillAwaiting pid = true := h
      rw [h1]
      have h2 : (p.recordFailure pid e).notified pid (.err e) = (p.recordFailure pid e).recordFailure pid e := by
        simp [Proc.notified, h']
      rw [h2]
      simp only [Proc.recordFailure, amInsert_idem]
    · have h1 : p.notified pid (.err e) = p := by simp [Proc.notified, h]
      rw [h1, h1]

theorem notifiedIfKey_idem (p : Proc V) (pid : Nat) (r : Res V) :
    (p.notifiedIfKey pid r).notifiedIfKey pid r = p.notifiedIfKey pid r := by
  unfold Proc.notifiedIfKey
  by_cases h : (amLookup pid p.awaiting).isSome = true
  · simp only [h, if_true, notified_key, notified_idem]
  · simp only [h]; simp [h]


theorem notifyAll_getProc (pid : Nat) (r : Res V) : ∀ (as : List Nat) (ex : Exec V) (q : Nat),
    (notifyAll pid r as ex).getProc q =
      (ex.getProc q).map (fun p => if q ∈ as then p.notifiedIfKey pid r else p) := by
  intro as
  induction as with
  | nil => intro ex q; simp [notifyAll]
  | cons a rest ih =>
    intro ex q
    simp only [notifyAll]
    rw [ih]
    by_cases hqa : q = a
    · subst hqa
      cases hp : ex.getProc q with
      | none =>
        have : (ex.notifyFinished q pid r).getProc q = none := by
          simp [Exec.notifyFinished, hp]
        simp [this]
      | some p =>
        rw [notifyFinished_getProc_self ex q pid r p hp]
        simp only [Option.map_some, List.mem_cons, true_or, if_true]
        split
        · rw [notifiedIfKey_idem]
        · rfl
    · rw [notifyFinished_getProc_ne ex a pid q r hqa]
      simp [hqa]

theorem notifyAll_sets (pid : Nat) (r : Res V) : ∀ (as : List Nat) (ex : Exec V) (q : Nat), q ∉ as →
    ((q ∈ (notifyAll pid r as ex).queue ↔ q ∈ ex.queue) ∧
     (q ∈ (notifyAll pid r as ex).selecting ↔ q ∈ ex.selecting)) := by
  intro as
  induction as with
  | nil => intro ex q _; exact ⟨Iff.rfl, Iff.rfl⟩
  | cons a rest ih =>
    intro ex q hq
    simp only [notifyAll]
    have hqa : q ≠ a := fun h => hq (by simp [h])
    have hqr : q ∉ rest := fun h => hq (by simp [h])
    obtain ⟨h1, h2⟩ := ih (ex.notifyFinished a pid r) q hqr
    obtain ⟨h3, h4⟩ := notifyFinished_sets_ne ex a pid q r hqa
    exact ⟨h1.trans h3, h2.trans h4⟩

theorem amLookup_some_mem {α} {k : Nat} {v : α} : ∀ {m : AMap α}, amLookup k m = some v → ∃ x ∈ m, x.1 = k
  | [], h => by simp [amLookup] at h
  | (k', v') :: rest, h => by
    by_cases hk : k' = k
    · exact ⟨(k', v'), by simp, hk⟩
    · simp only [amLookup, hk, if_false] at h
      obtain ⟨x, hx, hxe⟩ := amLookup_some_mem h
      exact ⟨x, by simp [hx], hxe⟩

theorem mem_awaitersOf (ex : Exec V) (pid q : Nat) (p : Proc V) (hp : ex.getProc q = some p) :
    q ∈ ex.awaitersOf pid ↔ (amLookup pid p.awaiting).isSome = true := by
  unfold Exec.awaitersOf
  simp only [List.mem_filter, hp, List.mem_map]
  exact ⟨fun h => h.2, fun h => ⟨amLookup_some_mem hp, h⟩⟩

theorem announce_getProc (ex : Exec V) (pid : Nat) (r : Res V) (q : Nat) (p : Proc V)
    (hp : ex.getProc q = some p) :
    (ex.announce pid r).getProc q = some (p.notifiedIfKey pid r) := by
  unfold Exec.announce
  rw [notifyAll_getProc, hp]
  simp only [Option.map_some, Option.some.injEq]
  split
  · rfl
  · rename_i h
    have : ¬ (amLookup pid p.awaiting).isSome = true := fun hk => h ((mem_awaitersOf ex pid q p hp).mpr hk)
    simp [Proc.notifiedIfKey, this]


theorem notifyEffectCompletion_eq (ex : Exec V) (pid : Nat) (r : Option V) :
    ex.notifyEffectCompletion pid r =
      (ex.getProc pid).map (fun p =>
        let ex1 := ({ ex with effecting := ex.effecting.filter (· != pid) } : Exec V).setProc pid
          (match r with | some _ => p | none => { p with result := some (.err .invalidArgument) })
        if decide (pid ∈ ex.effecting) then { ex1 with queue := ex1.queue ++ [pid] } else ex1) := by
  unfold Exec.notifyEffectCompletion
  have h0 : ({ ex with effecting := ex.effecting.filter (· != pid) } : Exec V).getProc pid = ex.getProc pid := rfl
  dsimp only
  rw [h0]
  cases ex.getProc pid with
  | none => rfl
  | some p => cases r <;> rfl


theorem completedValue_of_err (w : Worker V) (t : Nat) (pt : Proc V) (e : ErrClass)
    (hp : w.ex.getProc t = some pt) (hr : pt.result = some (.err e)) : w.completedValue t = none := by
  unfold Worker.completedValue
  rw [hp]; simp only [hr]
  split <;> simp_all

theorem queryOne_failed (w : Worker V) (a t : Nat) (pt : Proc V) (e : ErrClass)
    (hv : w.variant.selectWaitsForAnswer = false)
    (hp : w.ex.getProc t = some pt) (hr : pt.result = some (.err e)) :
    (w.queryOne a t).2 = (t, none) ∧ (w.queryOne a t).1.ex = w.ex ∧
    t ∈ (w.queryOne a t).1.awaited ∧
    ∃ l, amLookup t (w.queryOne a t).1.awaitersFor = some l ∧ a ∈ l := by
  have hnr : w.completedResult t = none := by
    unfold Worker.completedResult
    rw [completedValue_of_err w t pt e hp hr]; simp [hv]
  unfold Worker.queryOne
  rw [hnr]
  refine ⟨rfl, rfl, ?_, _, amLookup_insert_self _ _ _, by simp⟩
  simp only []
  split
  · assumption
  · simp

theorem queryOne_failed_waits (w : Worker V) (a t : Nat) (pt : Proc V) (e : ErrClass)
    (hv : w.variant.selectWaitsForAnswer = true)
    (hp : w.ex.getProc t = some pt) (hr : pt.result = some (.err e)) (hst : w.ex.status t pt = .failed) :
    w.queryOne a t = (w, (t, some (.err e))) := by
  have hnr : w.completedResult t = some (.err e) := by
    unfold Worker.completedResult
    rw [completedValue_of_err w t pt e hp hr]; simp [hv, hp, hst, hr]
  unfold Worker.queryOne
  rw [hnr]

theorem checkOne_lookup_ne (w : Worker V) (pid t : Nat) (h : t ≠ pid) :
    amLookup t (w.checkOne pid).1.awaitersFor = amLookup t w.awaitersFor ∧ (w.checkOne pid).1.ex = w.ex := by
  unfold Worker.checkOne
  split
  · exact ⟨by simp only [amRemove]; exact amLookup_filter_ne pid t _ h, rfl⟩
  · exact ⟨rfl, rfl⟩

theorem checkAll_reports (t a : Nat) (r : Res V) : ∀ (l : List Nat) (w : Worker V) (aws : List Nat) (pt : Proc V),
    t ∈ l → w.ex.getProc t = some pt → pt.result = some r →
    amLookup t w.awaitersFor = some aws → a ∈ aws →
    ∃ ev ∈ (w.checkAll l).2, ev.awaiter = a ∧ ev.results = [(t, some r)] := by
  intro l
  induction l with
  | nil => intro w aws pt h; simp at h
  | cons pid rest ih =>
    intro w aws pt hmem hp hr hl ha
    simp only [Worker.checkAll]
    by_cases hpid : pid = t
    · subst hpid
      have hc : (w.checkOne pid).2 = aws.map (fun a => ({ awaiter := a, results := [(pid, some r)] } : ProcessResults V)) := by
        simp [Worker.checkOne, hp, hr, hl]
      refine ⟨{ awaiter := a, results := [(pid, some r)] }, ?_, rfl, rfl⟩
      apply List.mem_append_left
      rw [hc]
      exact List.mem_map.mpr ⟨a, ha, rfl⟩
    · have hne : t ≠ pid := fun h => hpid h.symm
      have hrest : t ∈ rest := by
        rcases List.mem_cons.mp hmem with h | h
        · exact (hne h).elim
        · exact h
      obtain ⟨h1, h2⟩ := checkOne_lookup_ne w pid t hne
      obtain ⟨ev, hev, h3, h4⟩ := ih (w.checkOne pid).1 aws pt hrest (by rw [h2]; exact hp) hr (by rw [h1]; exact hl) ha
      exact ⟨ev, List.mem_append_right _ hev, h3, h4⟩


end QM.Exec
