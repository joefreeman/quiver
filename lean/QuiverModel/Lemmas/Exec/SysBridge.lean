import QuiverModel.Lemmas.Sys.Await
import QuiverModel.Lemmas.Sys.Step
/-
The links of C15's failure chain on C04's protocol model M-Sys (Core/Sys/Basic.lean), each on EVERY state:
* the environment: a later outcome overrides the placeholder in a pending await, a report without a pending
  await is forwarded (`handle_process_results`);
* the awaiter's worker: `update_await_results` records a failure and wakes the select, and otherwise keeps the
  awaiter's record (`Keeps`, `SameCtl`);
* the target's worker: every registered awaiter is reported to once, and `query_and_await` for a failed target
  registers the awaiter (or, with `selectWaits`, answers with the error);
* the answer-combining rule of seeded/C15-3 with the state its witnesses in Theorems/C15.lean run on.
-/
namespace QM.Sys
variable [Cfg]

/-- the LAST binding of `t` in `more` wins in `aextend m more` (`HashMap::extend`) -/
def lastBinding {β : Type} : List (Nat × β) → Nat → Option β
  | [], _ => none
  | (k, v) :: rest, t =>
    match lastBinding rest t with
    | some x => some x
    | none => if k = t then some v else none

theorem alookup_aextend {β : Type} : ∀ (more m : List (Nat × β)) (t : Nat),
    alookup (aextend m more) t = (match lastBinding more t with | some v => some v | none => alookup m t)
  | [], m, t => by simp [aextend, lastBinding]
  | (k, v) :: more, m, t => by
    show alookup (aextend (ainsert m k v) more) t = _
    rw [alookup_aextend more (ainsert m k v) t]
    simp only [lastBinding]
    cases lastBinding more t with
    | some x => rfl
    | none =>
      simp only [alookup_ainsert]
      by_cases h : k = t
      · simp [h]
      · simp [h]

theorem mem_keys_of_lastBinding {β : Type} : ∀ (l : List (Nat × β)) (t : Nat) (x : β),
    lastBinding l t = some x → t ∈ l.map (·.1)
  | [], _, _, h => by simp [lastBinding] at h
  | (k, v) :: rest, t, x, h => by
    simp only [lastBinding] at h
    cases hr : lastBinding rest t with
    | some y => simp [mem_keys_of_lastBinding rest t y hr]
    | none =>
      rw [hr] at h
      by_cases hk : k = t
      · simp [hk]
      · simp [hk] at h

theorem lastBinding_of_alookup_unique {β : Type} : ∀ (l : List (Nat × β)) (t : Nat) (v : β),
    (l.map (·.1)).Nodup → alookup l t = some v → lastBinding l t = some v
  | [], _, _, _, h => by simp [alookup] at h
  | (k, v') :: rest, t, v, hnd, h => by
    simp only [List.map_cons, List.nodup_cons] at hnd
    unfold alookup at h
    simp only [lastBinding]
    by_cases hk : k = t
    · simp only [hk, if_true, Option.some.injEq] at h
      subst hk h
      have : lastBinding rest k = none := by
        cases hl : lastBinding rest k with
        | none => rfl
        | some x => exact (hnd.1 (mem_keys_of_lastBinding rest k x hl)).elim
      simp [this]
    · simp only [hk, if_false] at h
      rw [lastBinding_of_alookup_unique rest t v hnd.2 h]

/-- **The real outcome overrides the placeholder.** On EVERY state: the awaiter `a` has a pending
(initial, multi-worker) await query; worker `w0` reports `new`, in which target `t` has the outcome `r`
(e.g. `Some(Err)` after the placeholder `None` of a still running — or already failed — target). Then
afterwards the pending entry holds `r` for `t` (whatever it held before, in particular the placeholder),
or `r` has left for the awaiter in an UpdateAwaitResults command. (`seeded/C15-3` made the first report
win: `C15.first_report_wins_loses_failure`.) -/
theorem outcome_overrides_placeholder (s : Sys) (a : Pid) (new : Results) (w0 : Wid) (t : Pid) (r : Res)
    (pa : PendingAwait) (hp : s.env.pending a = some pa)
    (hrouted : (s.env.router a).isSome)
    (hsender : ∃ k v rest, new = (k, v) :: rest ∧ s.env.router k = some w0)
    (hnd : (new.map (·.1)).Nodup) (hnew : alookup new t = some (some r)) :
    pendingHas (handleProcResultsWith mergeAnswer s a new) a w0 t r ∨
    ∃ aw rs, Cmd.updateAwait a rs ∈ (handleProcResultsWith mergeAnswer s a new).cmdQ aw ∧ (t, some r) ∈ rs := by
  obtain ⟨k, v, rest, hn, hk⟩ := hsender
  unfold handleProcResultsWith
  simp only [hp]
  cases hra : s.env.router a with
  | none => rw [hra] at hrouted; cases hrouted
  | some aw =>
    subst hn
    dsimp only
    rw [hk]
    dsimp only
    have hkeep : ∃ rs1, alookup (ainsert pa.responses w0 (mergeAnswer (alookup pa.responses w0) ((k, v) :: rest))) w0 = some rs1 ∧
        alookup rs1 t = some (some r) := by
      rw [alookup_ainsert]
      simp only [if_true]
      refine ⟨_, rfl, ?_⟩
      unfold mergeAnswer
      cases alookup pa.responses w0 with
      | none => exact hnew
      | some old =>
        show alookup (aextend old ((k, v) :: rest)) t = some (some r)
        rw [alookup_aextend, lastBinding_of_alookup_unique _ t _ hnd hnew]
    obtain ⟨rs1, hk1, hk2⟩ := hkeep
    split
    · right
      refine ⟨aw, _, mem_pushCmd_self _ _ _, ?_⟩
      rw [List.mem_flatten]
      exact ⟨rs1, List.mem_map.mpr ⟨(w0, rs1), alookup_mem hk1, rfl⟩, alookup_mem hk2⟩
    · left
      exact ⟨{ expected := pa.expected.filter (· ≠ w0), responses := ainsert pa.responses w0 (mergeAnswer (alookup pa.responses w0) ((k, v) :: rest)) },
        rs1, by simp, hk1, hk2⟩

/-- A completion report for an awaiter WITHOUT a pending initial query (a later completion) is forwarded
verbatim to the awaiter's worker. -/
theorem report_without_pending_is_forwarded (s : Sys) (a : Pid) (rs : Results) (aw : Wid)
    (hp : s.env.pending a = none) (hr : s.env.router a = some aw) :
    Cmd.updateAwait a rs ∈ (handleProcResultsWith mergeAnswer s a rs).cmdQ aw ∧
    (handleProcResultsWith mergeAnswer s a rs).fault = s.fault := by
  unfold handleProcResultsWith
  simp only [hp, hr]
  exact ⟨mem_pushCmd_self _ _ _, rfl⟩

/-- what a notification may change in the awaiter's record -/
structure Keeps (x x' : Proc) : Prop where
  result : x'.result = x.result
  keys : ∀ k, (alookup x'.awaiting k).isSome = (alookup x.awaiting k).isSome
  failed : ∀ k ∈ x.awaitFailed, k ∈ x'.awaitFailed
  stored : ∀ k v, (k, some v) ∈ x.awaiting → ∃ v', (k, some v') ∈ x'.awaiting

theorem Keeps.refl (x : Proc) : Keeps x x := ⟨rfl, fun _ => rfl, fun _ h => h, fun _ v h => ⟨v, h⟩⟩
theorem Keeps.trans {x y z : Proc} (h1 : Keeps x y) (h2 : Keeps y z) : Keeps x z :=
  ⟨h2.result.trans h1.result, fun k => (h2.keys k).trans (h1.keys k), fun k hk => h2.failed k (h1.failed k hk),
   fun k v h => by obtain ⟨v', h'⟩ := h1.stored k v h; exact h2.stored k v' h'⟩

/-- control state, registers and the select flag are the same (a notification never touches them) -/
structure SameCtl (x x' : Proc) : Prop where
  fn : x'.fn = x.fn
  pc : x'.pc = x.pc
  regs : x'.regs = x.regs
  sel : x'.selInit = x.selInit

theorem SameCtl.refl (x : Proc) : SameCtl x x := ⟨rfl, rfl, rfl, rfl⟩
theorem SameCtl.trans {x y z : Proc} (h1 : SameCtl x y) (h2 : SameCtl y z) : SameCtl x z :=
  ⟨h2.fn.trans h1.fn, h2.pc.trans h1.pc, h2.regs.trans h1.regs, h2.sel.trans h1.sel⟩

theorem Keeps.still {x x' : Proc} (h : Keeps x x') (t : Pid) : x'.stillAwaiting t = x.stillAwaiting t := by
  simp [Proc.stillAwaiting, h.result, h.keys t]

theorem notifyResult_keeps (w : WorkerSt) (a t : Pid) (r : Res) (x : Proc) (hx : w.procs a = some x) :
    ∃ x', (w.notifyResult a t r).procs a = some x' ∧ Keeps x x' ∧ SameCtl x x' ∧
      (r = .err → x.stillAwaiting t = true → t ∈ x'.awaitFailed) := by
  cases r with
  | ok v =>
    simp only [WorkerSt.notifyResult, WorkerSt.notifyResultOk, wakeSelecting_procs, WorkerSt.modProc, hx]
    by_cases hs : x.stillAwaiting t = true
    · refine ⟨{ x with awaiting := ainsert x.awaiting t (some v), unanswered := x.unanswered.filter (· ≠ t) }, by simp [hs],
        ⟨rfl, ?_, fun _ h => h, fun k v0 h => mem_ainsert_some h⟩, ⟨rfl, rfl, rfl, rfl⟩, by intro h; cases h⟩
      intro k
      simp only [alookup_ainsert]
      by_cases hk : t = k
      · subst hk
        simp only [Proc.stillAwaiting, Bool.and_eq_true] at hs
        simp [hs.2]
      · simp [hk]
    · exact ⟨x, by simp [hs], Keeps.refl x, SameCtl.refl x, by intro h; cases h⟩
  | err =>
    simp only [WorkerSt.notifyResult, WorkerSt.notifyFailure, hx]
    by_cases hs : x.stillAwaiting t = true
    · simp only [hs, if_true, wakeSelecting_procs, WorkerSt.modProc, hx]
      exact ⟨{ x with awaitFailed := sinsert x.awaitFailed t, unanswered := x.unanswered.filter (· ≠ t) }, by simp,
        ⟨rfl, fun _ => rfl, fun k hk => mem_sinsert.mpr (Or.inl hk), fun _ v h => ⟨v, h⟩⟩, ⟨rfl, rfl, rfl, rfl⟩,
        fun _ _ => mem_sinsert.mpr (Or.inr rfl)⟩
    · have hs' : x.stillAwaiting t = false := by simpa using hs
      simp only [hs']
      exact ⟨x, by simpa using hx, Keeps.refl x, SameCtl.refl x, fun _ h => by cases h⟩

theorem notifyPending_keeps (w : WorkerSt) (a t : Pid) (x : Proc) (hx : w.procs a = some x) :
    ∃ x', (w.notifyPending a t).procs a = some x' ∧ Keeps x x' ∧ SameCtl x x' :=
  ⟨{ x with unanswered := x.unanswered.filter (· ≠ t) }, by simp [WorkerSt.notifyPending, WorkerSt.modProc, hx],
    ⟨rfl, fun _ => rfl, fun _ h => h, fun _ v h => ⟨v, h⟩⟩, ⟨rfl, rfl, rfl, rfl⟩⟩

theorem applyResults_keeps (a : Pid) : ∀ (rs : Results) (w : WorkerSt) (x : Proc), w.procs a = some x →
    ∃ x', (applyResults w a rs).procs a = some x' ∧ Keeps x x' ∧ SameCtl x x' ∧
      ∀ t, (t, some Res.err) ∈ rs → x.stillAwaiting t = true → t ∈ x'.awaitFailed
  | [], w, x, hx => ⟨x, hx, Keeps.refl x, SameCtl.refl x, by intro t h; simp at h⟩
  | (t0, none) :: rest, w, x, hx => by
    obtain ⟨x1, g1, g2, gc⟩ := notifyPending_keeps w a t0 x hx
    obtain ⟨x', h1, h2, hc, h3⟩ := applyResults_keeps a rest (w.notifyPending a t0) x1 g1
    refine ⟨x', by simpa [applyResults] using h1, g2.trans h2, gc.trans hc, ?_⟩
    intro t ht hs
    rcases List.mem_cons.mp ht with h | h
    · cases h
    · exact h3 t h (by rw [g2.still]; exact hs)
  | (t0, some r) :: rest, w, x, hx => by
    obtain ⟨x1, g1, g2, gc, g3⟩ := notifyResult_keeps w a t0 r x hx
    obtain ⟨x', h1, h2, hc, h3⟩ := applyResults_keeps a rest (w.notifyResult a t0 r) x1 g1
    refine ⟨x', by simpa [applyResults] using h1, g2.trans h2, gc.trans hc, ?_⟩
    intro t ht hs
    rcases List.mem_cons.mp ht with h | h
    · simp only [Prod.mk.injEq, Option.some.injEq] at h
      obtain ⟨rfl, rfl⟩ := h
      exact h2.failed _ (g3 rfl hs)
    · exact h3 t h (by rw [g2.still]; exact hs)

/-- **The awaiter's worker records the failure and wakes the select.** On EVERY state: an
UpdateAwaitResults for `a` that carries `Some(Err)` for a target `a`'s current select still awaits leaves
`t` in `awaiting_failed` (a ready source of that select) and `a` out of `selecting` — whatever else the
answer carries, and in whatever order. -/
theorem update_records_failure (s : Sys) (i : Wid) (a : Pid) (rs : Results) (x : Proc) (t : Pid)
    (hx : (s.wk i).procs a = some x) (hs : x.stillAwaiting t = true) (ht : (t, some Res.err) ∈ rs) :
    ∃ x', ((handleCmd s i (.updateAwait a rs)).wk i).procs a = some x' ∧ t ∈ x'.awaitFailed ∧
      x'.result = x.result ∧
      a ∉ ((handleCmd s i (.updateAwait a rs)).wk i).selecting := by
  obtain ⟨x', h1, h2, _, h3⟩ := applyResults_keeps a rs (s.wk i) x hx
  refine ⟨x', ?_, h3 t ht hs, h2.result, ?_⟩
  · simp [handleCmd, handleCmdWith, Rules.current, Sys.setWk, wakeSelecting_procs, h1]
  · simp only [handleCmd, handleCmdWith, Rules.current, Sys.setWk, Bool.false_and, Bool.false_eq_true, if_false, upd_same]
    exact fun h => (mem_wakeSelecting.mp h).2 rfl

/-- **Every registered awaiter gets exactly one report per registration**, and the registry is
cleared: `check_completed_processes` for one awaited target that has a result (value or error). -/
theorem registered_awaiters_each_reported (s : Sys) (i : Wid) (t : Pid) (r : Res)
    (hr : (s.wk i).resultOf t = some r) :
    (reportTarget s i t).evtQ i = s.evtQ i ++ ((s.wk i).awaitersFor t).map (fun a => Evt.procResults a [(t, some r)]) ∧
    ((reportTarget s i t).wk i).awaitersFor t = [] ∧ (reportTarget s i t).fault = s.fault := by
  rw [reportTarget_commit, commit_evtQ_self, commit_wk_self]
  unfold reportOut
  rw [hr]
  exact ⟨rfl, upd_same _ _ _, rfl⟩

/-- **Awaiting after the failure**: `query_and_await` for a target that has already FAILED answers the
placeholder and registers the awaiter (a failed process is not `Completed`), so that the
`check_completed_processes` ending the same worker step reports the error. -/
theorem query_of_failed_target_registers (hv : Cfg.selectWaits = false) (w : WorkerSt) (a t : Pid) (x : Proc)
    (hx : w.procs t = some x) (hr : x.result = some .err) :
    (queryTargets w a [t]).2 = [(t, none)] ∧ a ∈ (queryTargets w a [t]).1.awaitersFor t ∧
    t ∈ (queryTargets w a [t]).1.awaited ∧ (queryTargets w a [t]).1.resultOf t = some .err := by
  have hc : w.completedStatus t = none := by
    unfold WorkerSt.completedStatus
    rw [hx]; simp only [hr]
    split
    · rfl
    · split
      · rfl
      · simp [hv]
  simp only [queryTargets, hc, ainsert]
  refine ⟨by simp, by simp, mem_sinsert.mpr (Or.inr rfl), ?_⟩
  simp [WorkerSt.resultOf, hx, hr]


/-- Variant `selectWaits` (notes/C05-fixes/01): a target that has FAILED — and is neither queued nor parked — is
answered with its error in the first answer; nobody is registered, no second message follows. -/
theorem query_of_failed_target_answers_waits (hv : Cfg.selectWaits = true) (w : WorkerSt) (a t : Pid) (x : Proc)
    (hx : w.procs t = some x) (hr : x.result = some .err) (hq : t ∉ w.queue)
    (hp : ¬ (t ∈ w.spawning ∨ t ∈ w.selecting)) :
    queryTargets w a [t] = (w, [(t, some .err)]) := by
  have hc : w.completedStatus t = some .err := by
    unfold WorkerSt.completedStatus
    simp [hx, hr, hq, hp, hv]
  simp [queryTargets, hc, ainsert]

/-- `entry(target).or_insert_with(..)`: what a worker reported FIRST for a target stays -/
def keepFirstAnswer (old : Option Results) (new : Results) : Results :=
  match old with
  | some r => new.foldl (fun acc kv => match alookup acc kv.1 with | some _ => acc | none => acc ++ [kv]) r
  | none => new

/-- awaiter 9 (worker 1) awaits target 1 (worker 0) and target 2 (worker 1); nothing has answered yet -/
def c153State : Sys :=
  { Sys.init 2 [[]] 0 with
    env := { router := fun p => if p = 1 then some 0 else if p = 2 ∨ p = 9 then some 1 else none,
             pending := fun a => if a = 9 then some { expected := [0, 1], responses := [] } else none,
             nextPid := 10, results := [] },
    cmdQ := fun _ => [] }

/-- worker 0 reports the placeholder for target 1, then its failure; then worker 1 answers -/
def c153Reports (combine : Option Results → Results → Results) : Sys :=
  handleProcResultsWith combine
    (handleProcResultsWith combine (handleProcResultsWith combine c153State 9 [(1, none)]) 9 [(1, some .err)])
    9 [(2, none)]

end QM.Sys
