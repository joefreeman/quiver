import QuiverModel.Core.Exec.Select
/-
The select machine of M-Exec against its reference `selectSpec`: one chain of post-conditions, `scanMailbox_spec` →
`handleSelectReceive_spec` → `scanSources_spec` (loop invariant `Thread`) → `reenterSelect_spec` → `handleSelect_spec`
(`ReenterPost`), under the cursor invariant `Inv`; a specification outcome read backwards (`selectSpec_yields`,
`selectSpec_fails`); expiry (`nextExpiry`, `listMin`).
-/
namespace QM.Exec
variable {V : Type}

theorem amLookup_insert_self {α} (k : Nat) (v : α) (m : AMap α) : amLookup k (amInsert k v m) = some v := by
  simp [amInsert, amLookup]

theorem amLookup_filter_ne {α} (k k' : Nat) (m : AMap α) (h : k' ≠ k) :
    amLookup k' (m.filter (fun e => e.1 != k)) = amLookup k' m := by
  induction m with
  | nil => rfl
  | cons e rest ih =>
    obtain ⟨a, b⟩ := e
    by_cases hak : a = k
    · subst hak
      have : a ≠ k' := fun h' => h h'.symm
      simp [amLookup, this, ih]
    · have hne : (a != k) = true := by simp [hak]
      by_cases hak' : a = k'
      · subst hak'
        simp [hne, amLookup]
      · simp [hne, amLookup, hak', ih]

theorem amLookup_insert_ne {α} (k k' : Nat) (v : α) (m : AMap α) (h : k' ≠ k) :
    amLookup k' (amInsert k v m) = amLookup k' m := by
  have : k ≠ k' := fun h' => h h'.symm
  simp [amInsert, amLookup, this, amLookup_filter_ne k k' m h]

theorem scanFrom_inl (ty : V → Bool) : ∀ (l : List V) (idx cur i : Nat) (m : V),
    scanFrom ty l idx cur = .inl (i, m) →
    ∃ pre post, l = pre ++ m :: post ∧ i = idx + pre.length ∧ ty m = true ∧ ∀ x ∈ pre, ty x = false := by
  intro l
  induction l with
  | nil => intro idx cur i m h; simp [scanFrom] at h
  | cons x rest ih =>
    intro idx cur i m h
    unfold scanFrom at h
    by_cases hx : ty x = true
    · simp [hx] at h
      obtain ⟨h1, h2⟩ := h
      subst h1 h2
      exact ⟨[], rest, rfl, rfl, hx, by simp⟩
    · simp [hx] at h
      obtain ⟨pre, post, h1, h2, h3, h4⟩ := ih (idx + 1) (idx + 1) i m h
      refine ⟨x :: pre, post, by simp [h1], by simp [h2]; omega, h3, ?_⟩
      intro y hy
      rcases List.mem_cons.mp hy with rfl | hy
      · simpa using hx
      · exact h4 y hy

theorem scanFrom_inr (ty : V → Bool) : ∀ (l : List V) (idx cur c : Nat),
    scanFrom ty l idx cur = .inr c →
    (∀ x ∈ l, ty x = false) ∧ c = (if l = [] then cur else idx + l.length) := by
  intro l
  induction l with
  | nil => intro idx cur c h; simp [scanFrom] at h; simp [h]
  | cons x rest ih =>
    intro idx cur c h
    unfold scanFrom at h
    by_cases hx : ty x = true
    · simp [hx] at h
    · simp [hx] at h
      obtain ⟨h1, h2⟩ := ih (idx + 1) (idx + 1) c h
      refine ⟨?_, ?_⟩
      · intro y hy
        rcases List.mem_cons.mp hy with rfl | hy
        · simpa using hx
        · exact h1 y hy
      · simp
        by_cases hr : rest = []
        · simp [hr] at h2 ⊢; omega
        · simp [hr] at h2; omega

theorem firstIdx_eq_findIdx? (q : V → Bool) : ∀ l : List V, firstIdx q l = l.findIdx? q
  | [] => rfl
  | x :: xs => by rw [firstIdx, firstIdx_eq_findIdx? q xs, List.findIdx?_cons]

theorem firstIdx_none_of_all_false (q : V → Bool) (l : List V) (h : ∀ x ∈ l, q x = false) : firstIdx q l = none := by
  rw [firstIdx_eq_findIdx?]; exact List.findIdx?_eq_none_iff.mpr h

theorem firstIdx_append_of_all_false (q : V → Bool) (pre l : List V) (h : ∀ x ∈ pre, q x = false) :
    firstIdx q (pre ++ l) = (firstIdx q l).map (· + pre.length) := by
  rw [firstIdx_eq_findIdx?, firstIdx_eq_findIdx?, List.findIdx?_append, List.findIdx?_eq_none_iff.mpr h, Option.none_or]

theorem firstIdx_lt (q : V → Bool) : ∀ (l : List V) (i : Nat), firstIdx q l = some i → i < l.length := by
  intro l i h
  obtain ⟨hi, -⟩ := List.findIdx?_eq_some_iff_getElem.mp (firstIdx_eq_findIdx? q l ▸ h)
  exact hi

theorem firstIdx_split (q : V → Bool) (pre post : List V) (m : V) (hpre : ∀ x ∈ pre, q x = false)
    (hm : q m = true) : firstIdx q (pre ++ m :: post) = some pre.length := by
  rw [firstIdx_append_of_all_false q pre _ hpre]
  simp [firstIdx, hm]

theorem getElem?_split (pre post : List V) (m : V) : (pre ++ m :: post)[pre.length]? = some m := by
  simp

/-- Everything before cursor `c` was rejected by the source (by type or by its filter). -/
structure SrcSound (ty : V → Bool) (f : Option (V → FilterRes V)) (mb : List V) (c : Nat) : Prop where
  le : c ≤ mb.length
  rejected : ∀ x ∈ mb.take c, accepts ty f x = false

theorem accepts_false_of_type (ty : V → Bool) (f) (x : V) (h : ty x = false) : accepts ty f x = false := by
  simp [accepts, h]

theorem split_of_scan (ty : V → Bool) (f) (mb : List V) (c i : Nat) (m : V)
    (hs : SrcSound ty f mb c) (h : scanFrom ty (mb.drop c) c c = .inl (i, m)) :
    ∃ pre post, mb = pre ++ m :: post ∧ i = pre.length ∧ ty m = true ∧ (∀ x ∈ pre, accepts ty f x = false) := by
  obtain ⟨pre, post, h1, h2, h3, h4⟩ := scanFrom_inl ty _ _ _ _ _ h
  refine ⟨mb.take c ++ pre, post, ?_, ?_, h3, ?_⟩
  · have := List.take_append_drop c mb
    rw [h1] at this
    rw [List.append_assoc]
    exact this.symm
  · have : (mb.take c).length = c := by simp [hs.le]
    simp [this, h2]
  · intro x hx
    rcases List.mem_append.mp hx with hx | hx
    · exact hs.rejected x hx
    · exact accepts_false_of_type ty f x (h4 x hx)

/-- `c' = c`: nothing was left to scan; `c' = mb.length`: the scan ran to the end -/
theorem all_rejected_of_scan (ty : V → Bool) (f) (mb : List V) (c c' : Nat)
    (hs : SrcSound ty f mb c) (h : scanFrom ty (mb.drop c) c c = .inr c') :
    (∀ x ∈ mb, accepts ty f x = false) ∧ (c' = c ∨ c' = mb.length) := by
  obtain ⟨h1, h2⟩ := scanFrom_inr ty _ _ _ _ h
  constructor
  · intro x hx
    rw [← List.take_append_drop c mb] at hx
    rcases List.mem_append.mp hx with hx | hx
    · exact hs.rejected x hx
    · exact accepts_false_of_type ty f x (h1 x hx)
  · by_cases hd : mb.drop c = []
    · simp [hd] at h2; exact Or.inl h2
    · simp [hd] at h2
      right
      have := hs.le
      omega

theorem set_getD_self (l : List Nat) (r : Nat) (h : r < l.length) : l.set r (l.getD r 0) = l := by
  have : l.getD r 0 = l[r] := by simp [List.getD, h]
  rw [this]; exact List.set_getElem_self h

theorem getD_set_self (l : List Nat) (r c : Nat) (h : r < l.length) : (l.set r c).getD r 0 = c := by
  simp [List.getD, h]

theorem getD_set_ne (l : List Nat) (r k c : Nat) (h : k ≠ r) : (l.set r c).getD k 0 = l.getD k 0 := by
  simp [List.getD, Ne.symm h]

theorem firstIdx_of_sound_at (ty : V → Bool) (f) (mb : List V) (c : Nat) (m : V)
    (hs : SrcSound ty f mb c) (hm : mb[c]? = some m) (ha : accepts ty f m = true) :
    firstIdx (accepts ty f) mb = some c := by
  obtain ⟨hlt, hget⟩ := List.getElem?_eq_some_iff.mp hm
  have hsplit : mb = mb.take c ++ m :: mb.drop (c + 1) := by
    rw [← hget]; simp
  have hlen : (mb.take c).length = c := by simp [Nat.le_of_lt hlt]
  have := firstIdx_split (accepts ty f) (mb.take c) (mb.drop (c + 1)) m hs.rejected ha
  rw [← hsplit, hlen] at this
  exact this

theorem SrcSound.succ_of_rejected (ty : V → Bool) (f) (mb : List V) (c : Nat) (m : V)
    (hs : SrcSound ty f mb c) (hm : mb[c]? = some m) (ha : accepts ty f m = false) :
    SrcSound ty f mb (c + 1) := by
  obtain ⟨hlt, hget⟩ := List.getElem?_eq_some_iff.mp hm
  refine ⟨hlt, ?_⟩
  intro x hx
  rw [List.take_add_one] at hx
  rcases List.mem_append.mp hx with hx | hx
  · exact hs.rejected x hx
  · simp [hm] at hx; subst hx; exact ha


/-- Post-condition of handling receive source `r` (`ty`, `f`) on mailbox `mb` and live state `st`;
    `rcv` is the receiving slot the new state has in the `continue_` case. -/
def RecvPost (mb : List V) (st : SelState V) (r : Nat) (ty : V → Bool) (f : Option (V → FilterRes V))
    (rcv : Option (Nat × V)) (mb' : List V) (st' : SelState V) : RecvRes V → Prop
  | .complete m => ∃ i, firstIdx (accepts ty f) mb = some i ∧ mb[i]? = some m ∧ mb' = mb.eraseIdx i
  | .called =>
      mb' = mb ∧ ∃ i m g, f = some g ∧
        st' = { st with receiving := some (r, m), cursors := st.cursors.set r i } ∧
        SrcSound ty f mb i ∧ ty m = true ∧ mb[i]? = some m
  | .continue_ =>
      mb' = mb ∧ firstIdx (accepts ty f) mb = none ∧
        ∃ c', SrcSound ty f mb c' ∧ st' = { st with cursors := st.cursors.set r c', receiving := rcv }
  | .error _ => False
  | .panic => False

theorem scanMailbox_spec (mb : List V) (st snapshot : SelState V) (r : Nat) (ty : V → Bool)
    (f : Option (V → FilterRes V)) (hlen : r < st.cursors.length)
    (hs : SrcSound ty f mb (st.cursors.getD r 0)) (mb' : List V) (st' : SelState V) (res : RecvRes V)
    (h : scanMailbox mb st snapshot r ty f = (mb', st', res)) :
    RecvPost mb st r ty f st.receiving mb' st' res := by
  unfold scanMailbox at h
  simp only [] at h
  cases hscan : scanFrom ty (mb.drop (st.cursors.getD r 0)) (st.cursors.getD r 0) (st.cursors.getD r 0) with
  | inl im =>
    obtain ⟨i, m⟩ := im
    rw [hscan] at h
    obtain ⟨pre, post, h1, h2, h3, h4⟩ := split_of_scan ty f mb _ i m hs hscan
    cases f with
    | none =>
      simp only [Prod.mk.injEq] at h
      obtain ⟨rfl, rfl, rfl⟩ := h
      refine ⟨i, ?_, ?_, rfl⟩
      · subst h1 h2
        exact firstIdx_split _ pre post m h4 (by simp [accepts, h3])
      · subst h1 h2; simp
    | some g =>
      simp only [hlen, if_true, Prod.mk.injEq] at h
      obtain ⟨rfl, rfl, rfl⟩ := h
      refine ⟨rfl, i, m, g, rfl, rfl, ?_, h3, ?_⟩
      · subst h1 h2; exact ⟨by simp, by simpa using h4⟩
      · subst h1 h2; simp
  | inr c' =>
    rw [hscan] at h
    obtain ⟨h1, h2⟩ := all_rejected_of_scan ty f mb _ c' hs hscan
    have hnone := firstIdx_none_of_all_false (accepts ty f) mb h1
    have hsound : SrcSound ty f mb c' := by
      rcases h2 with h2 | h2
      · rw [h2]; exact hs
      · rw [h2]; exact ⟨Nat.le_refl _, by simpa using h1⟩
    simp only [] at h
    split at h
    · simp only [Prod.mk.injEq] at h
      obtain ⟨rfl, rfl, rfl⟩ := h
      exact ⟨rfl, hnone, c', hsound, rfl⟩
    · simp only [Prod.mk.injEq] at h
      obtain ⟨rfl, rfl, rfl⟩ := h
      refine ⟨rfl, hnone, st.cursors.getD r 0, hs, ?_⟩
      rw [set_getD_self _ _ hlen]


/-- The facts about the snapshot's `receiving` slot when it names receive source `r`: the slot holds
    the message the live cursor `c` points at, the source has a body `g`, and the verdict on the
    stack is what `g` returns on that message (filters are pure). -/
def RecvOK (snapshot : SelState V) (verdict : Option (Yield V)) (mb : List V) (c r : Nat)
    (ty : V → Bool) (f : Option (V → FilterRes V)) : Prop :=
  ∀ m, snapshot.receiving = some (r, m) →
    ∃ g rr, f = some g ∧ g m = .ret rr ∧ verdict = some rr ∧ ty m = true ∧ mb[c]? = some m

/-- the live `receiving` slot after source `r` answered `continue_` -/
def rcvAfter (snapshot st : SelState V) (r : Nat) : Option (Nat × V) :=
  match snapshot.receiving with
  | some (idx, _) => if idx = r then none else st.receiving
  | none => st.receiving

theorem handleSelectReceive_spec (mb : List V) (st snapshot : SelState V) (r : Nat) (ty : V → Bool)
    (f : Option (V → FilterRes V)) (verdict : Option (Yield V)) (hlen : r < st.cursors.length)
    (hs : SrcSound ty f mb (st.cursors.getD r 0))
    (hr : RecvOK snapshot verdict mb (st.cursors.getD r 0) r ty f)
    (mb' : List V) (st' : SelState V) (res : RecvRes V)
    (h : handleSelectReceive mb st snapshot r ty f verdict = (mb', st', res)) :
    RecvPost mb st r ty f (rcvAfter snapshot st r) mb' st' res := by
  unfold handleSelectReceive at h
  cases hsn : snapshot.receiving with
  | none =>
    rw [hsn] at h
    simp only [rcvAfter, hsn]
    exact scanMailbox_spec mb st snapshot r ty f hlen hs mb' st' res h
  | some im =>
    obtain ⟨idx, m⟩ := im
    rw [hsn] at h
    simp only [] at h
    by_cases hidx : idx = r
    · subst hidx
      obtain ⟨g, rr, hf, hg, hv, htm, hget⟩ := hr m hsn
      simp only [if_true] at h
      subst hv
      cases rr with
      | value a =>
        simp only [handleReceiveResult, Prod.mk.injEq] at h
        obtain ⟨rfl, rfl, rfl⟩ := h
        refine ⟨st.cursors.getD idx 0, ?_, hget, rfl⟩
        apply firstIdx_of_sound_at ty f mb _ m hs hget
        simp [accepts, htm, hf, hg]
      | nil =>
        simp only [handleReceiveResult, hlen, if_true] at h
        have hrej : accepts ty f m = false := by simp [accepts, hf, hg]
        have hlen1 : idx < (st.cursors.set idx (st.cursors.getD idx 0 + 1)).length := by simpa using hlen
        have hs1 : SrcSound ty f mb ((st.cursors.set idx (st.cursors.getD idx 0 + 1)).getD idx 0) := by
          rw [getD_set_self _ _ _ hlen]
          exact SrcSound.succ_of_rejected ty f mb _ m hs hget hrej
        have := scanMailbox_spec mb
          { st with cursors := st.cursors.set idx (st.cursors.getD idx 0 + 1), receiving := none }
          snapshot idx ty f hlen1 hs1 mb' st' res h
        have hra : rcvAfter snapshot st idx = none := by simp [rcvAfter, hsn]
        rw [hra]
        cases res with
        | complete m' => exact this
        | called =>
          obtain ⟨h1, i, m', g', h2, h3, h4, h5, h6⟩ := this
          refine ⟨h1, i, m', g', h2, ?_, h4, h5, h6⟩
          rw [h3]; simp [List.set_set]
        | continue_ =>
          obtain ⟨h1, h2, c', h3, h4⟩ := this
          refine ⟨h1, h2, c', h3, ?_⟩
          rw [h4]; simp [List.set_set]
        | error e => exact this
        | panic => exact this
    · simp only [hidx, if_false] at h
      have hra : rcvAfter snapshot st r = st.receiving := by simp [rcvAfter, hsn, hidx]
      rw [hra]
      exact scanMailbox_spec mb st snapshot r ty f hlen hs mb' st' res h


theorem nthRecv_lt : ∀ (l : List (Source V)) (k : Nat) x, nthRecv l k = some x → k < receiveCount l := by
  intro l
  induction l with
  | nil => intro k x h; simp [nthRecv] at h
  | cons s rest ih =>
    intro k x h
    cases s with
    | receive ty f =>
      cases k with
      | zero => simp [receiveCount]
      | succ n => simp only [nthRecv] at h; have := ih n x h; simp [receiveCount]; omega
    | await p => simp only [nthRecv] at h; simpa [receiveCount] using ih k x h
    | timeout ms => simp only [nthRecv] at h; simpa [receiveCount] using ih k x h
    | invalid e => simp only [nthRecv] at h; simpa [receiveCount] using ih k x h

/-- the source of `srcs` that decides the outcome `yields y taken` (which source, not where it stands: the written order is
in `selectSpec` only) -/
def YieldsBy (mb : List V) (results : Nat → Option (Res V)) (start now : Nat) (srcs : List (Source V))
    (y : Yield V) (taken : Option Nat) : Prop :=
  (∃ t v, Source.await t ∈ srcs ∧ results t = some (.ok v) ∧ y = .value v ∧ taken = none) ∨
  (∃ ty f i m, Source.receive ty f ∈ srcs ∧ firstIdx (accepts ty f) mb = some i ∧ mb[i]? = some m ∧
    y = .value m ∧ taken = some i) ∨
  (∃ ms, Source.timeout ms ∈ srcs ∧ effDur ms ≤ now - start ∧ y = .nil ∧ taken = none)

/-- the source of `srcs` that decides the outcome `fails e` -/
def FailsBy (results : Nat → Option (Res V)) (srcs : List (Source V)) (e : ErrClass) : Prop :=
  (∃ t, Source.await t ∈ srcs ∧ results t = some (.err e)) ∨ Source.invalid e ∈ srcs

theorem YieldsBy.cons {mb : List V} {results : Nat → Option (Res V)} {start now : Nat} {rest : List (Source V)}
    {y : Yield V} {taken : Option Nat} (s : Source V) (h : YieldsBy mb results start now rest y taken) :
    YieldsBy mb results start now (s :: rest) y taken := by
  rcases h with ⟨t, v, hm, r⟩ | ⟨ty, f, i, m, hm, r⟩ | ⟨ms, hm, r⟩
  · exact .inl ⟨t, v, List.mem_cons_of_mem s hm, r⟩
  · exact .inr (.inl ⟨ty, f, i, m, List.mem_cons_of_mem s hm, r⟩)
  · exact .inr (.inr ⟨ms, List.mem_cons_of_mem s hm, r⟩)

theorem FailsBy.cons {results : Nat → Option (Res V)} {rest : List (Source V)} {e : ErrClass} (s : Source V)
    (h : FailsBy results rest e) : FailsBy results (s :: rest) e := by
  rcases h with ⟨t, hm, r⟩ | hm
  · exact .inl ⟨t, List.mem_cons_of_mem s hm, r⟩
  · exact .inr (List.mem_cons_of_mem s hm)

theorem selectSpec_yields {mb : List V} {results : Nat → Option (Res V)} {start now : Nat} :
    ∀ {srcs : List (Source V)} {y : Yield V} {taken : Option Nat},
    selectSpec mb results start now srcs = .yields y taken → YieldsBy mb results start now srcs y taken
  | [], _, _, h => nomatch h
  | s :: rest, y, taken, h => by
    cases s with
    | await t =>
      simp only [selectSpec] at h
      split at h
      · rename_i v hr
        cases h
        exact .inl ⟨t, v, List.mem_cons_self, hr, rfl, rfl⟩
      · cases h
      · exact (selectSpec_yields h).cons _
    | receive ty f =>
      simp only [selectSpec] at h
      split at h
      · rename_i i hf
        split at h
        · rename_i m hg
          cases h
          exact .inr (.inl ⟨ty, f, i, m, List.mem_cons_self, hf, hg, rfl, rfl⟩)
        · cases h
      · exact (selectSpec_yields h).cons _
    | timeout ms =>
      simp only [selectSpec] at h
      split at h
      · rename_i hle
        cases h
        exact .inr (.inr ⟨ms, List.mem_cons_self, hle, rfl, rfl⟩)
      · exact (selectSpec_yields h).cons _
    | invalid e => cases h

theorem selectSpec_fails {mb : List V} {results : Nat → Option (Res V)} {start now : Nat} :
    ∀ {srcs : List (Source V)} {e : ErrClass}, selectSpec mb results start now srcs = .fails e → FailsBy results srcs e
  | [], _, h => nomatch h
  | s :: rest, e, h => by
    cases s with
    | await t =>
      simp only [selectSpec] at h
      split at h
      · cases h
      · rename_i e' hr
        cases h
        exact .inl ⟨t, List.mem_cons_self, hr⟩
      · exact (selectSpec_fails h).cons _
    | receive ty f =>
      simp only [selectSpec] at h
      split at h
      · split at h <;> cases h
      · exact (selectSpec_fails h).cons _
    | timeout ms =>
      simp only [selectSpec] at h
      split at h
      · cases h
      · exact (selectSpec_fails h).cons _
    | invalid e' => cases h; exact .inr List.mem_cons_self
/-- what the two maps of a process say about awaited target `t` -/
def resultsOf (aw : AMap (Option V)) (awf : AMap ErrClass) : Nat → Option (Res V) := fun t =>
  match amLookup t awf with
  | some e => some (.err e)
  | none =>
    match amLookup t aw with
    | some (some v) => some (.ok v)
    | _ => none

theorem knownResults_eq (p : Proc V) : p.knownResults = resultsOf p.awaiting p.awaitingFailed := rfl

/-- every cursor is sound -/
def AllSound (all : List (Source V)) (mb : List V) (cs : List Nat) : Prop :=
  ∀ k ty f, nthRecv all k = some (ty, f) → SrcSound ty f mb (cs.getD k 0)

/-- the held message is the one its source's cursor points at -/
def HeldOK (all : List (Source V)) (mb : List V) (cs : List Nat) (rcv : Option (Nat × V)) : Prop :=
  ∀ idx m, rcv = some (idx, m) →
    ∃ ty g, nthRecv all idx = some (ty, some g) ∧ ty m = true ∧ mb[cs.getD idx 0]? = some m

/-- The invariant threaded through the loop of `process_select_sources`, at the point where the
    sources before receive index `r` have been handled. `live`: the live slot is empty or still the snapshot's, and then
    it belongs to a source not yet handled; `pending`: the snapshot's slot matters only for such a source, and the verdict
    on the stack is what that source's body returns on the held message, which sits at its cursor. -/
structure Thread (all : List (Source V)) (snapshot : SelState V) (verdict : Option (Yield V))
    (mb : List V) (r : Nat) (st : SelState V) : Prop where
  len : st.cursors.length = receiveCount all
  sound : AllSound all mb st.cursors
  srcs : st.sources = all
  start : st.startTime = snapshot.startTime
  live : ∀ idx m, st.receiving = some (idx, m) → r ≤ idx ∧ snapshot.receiving = some (idx, m)
  pending : ∀ idx m, snapshot.receiving = some (idx, m) → r ≤ idx →
    ∃ ty g rr, nthRecv all idx = some (ty, some g) ∧ g m = .ret rr ∧ verdict = some rr ∧
      ty m = true ∧ mb[st.cursors.getD idx 0]? = some m

theorem Thread.held {all : List (Source V)} {snapshot verdict mb r st}
    (t : Thread all snapshot verdict mb r st) : HeldOK all mb st.cursors st.receiving := by
  intro idx m h
  obtain ⟨h1, h2⟩ := t.live idx m h
  obtain ⟨ty, g, rr, h3, _, _, h6, h7⟩ := t.pending idx m h2 h1
  exact ⟨ty, g, h3, h6, h7⟩

/-- Post-condition of the loop on the remaining sources `srcs`. -/
def ScanPost (all : List (Source V)) (aw : AMap (Option V)) (awf : AMap ErrClass) (start now : Nat)
    (srcs : List (Source V)) (mb : List V) (st0 : SelState V) (mb' : List V) (st' : SelState V) : StepRes V → Prop
  | .completed y =>
      ∃ taken, selectSpec mb (resultsOf aw awf) start now srcs = .yields y taken ∧
        mb' = (match taken with | none => mb | some i => mb.eraseIdx i)
  | .failed e => selectSpec mb (resultsOf aw awf) start now srcs = .fails e ∧ mb' = mb ∧ st'.startTime = st0.startTime
  | .parked =>
      selectSpec mb (resultsOf aw awf) start now srcs = .notReady ∧ mb' = mb ∧ st'.receiving = none ∧
        st'.sources = all ∧ st'.startTime = st0.startTime ∧ st'.cursors.length = receiveCount all ∧
        AllSound all mb st'.cursors
  | .calledFilter =>
      mb' = mb ∧ st'.sources = all ∧ st'.startTime = st0.startTime ∧ st'.cursors.length = receiveCount all ∧
        AllSound all mb st'.cursors ∧ HeldOK all mb st'.cursors st'.receiving ∧ st'.receiving.isSome
  | .awaitAction _ => False
  | .initialized => False
  | .panic => False

theorem AllSound.set {all : List (Source V)} {mb : List V} {cs : List Nat} {r c : Nat} {ty : V → Bool}
    {f : Option (V → FilterRes V)} (h : AllSound all mb cs) (hhead : nthRecv all r = some (ty, f))
    (hlen : r < cs.length) (hc : SrcSound ty f mb c) : AllSound all mb (cs.set r c) := by
  intro k ty' f' hk
  by_cases hkr : k = r
  · subst hkr
    cases hhead.symm.trans hk
    rw [getD_set_self _ _ _ hlen]; exact hc
  · rw [getD_set_ne _ _ _ _ hkr]; exact h k ty' f' hk

theorem ScanPost.skip {all : List (Source V)} {aw : AMap (Option V)} {awf : AMap ErrClass} {start now : Nat}
    {srcs srcs' : List (Source V)} {mb : List V} {st0 : SelState V} {mb' : List V} {st' : SelState V} {res : StepRes V}
    (h : selectSpec mb (resultsOf aw awf) start now srcs' = selectSpec mb (resultsOf aw awf) start now srcs)
    (hp : ScanPost all aw awf start now srcs mb st0 mb' st' res) : ScanPost all aw awf start now srcs' mb st0 mb' st' res := by
  cases res <;> simp only [ScanPost, h] at hp ⊢ <;> exact hp

theorem scanSources_spec (all : List (Source V)) (aw : AMap (Option V)) (awf : AMap ErrClass)
    (snapshot : SelState V) (verdict : Option (Yield V)) (start now : Nat) :
    ∀ (srcs : List (Source V)) (r : Nat) (mb : List V) (st : SelState V),
      -- `srcs` is what is left of `all` after its first `r` receive sources
      (∀ k, nthRecv srcs k = nthRecv all (r + k)) →
      Thread all snapshot verdict mb r st →
      ∀ mb' st' res, scanSources aw awf snapshot verdict start now srcs r mb st = (mb', st', res) →
        ScanPost all aw awf start now srcs mb snapshot mb' st' res := by
  intro srcs
  induction srcs with
  | nil =>
    intro r mb st hsuf t mb' st' res h
    simp only [scanSources, Prod.mk.injEq] at h
    obtain ⟨rfl, rfl, rfl⟩ := h
    refine ⟨rfl, rfl, ?_, t.srcs, t.start, t.len, t.sound⟩
    -- a held slot would name a receive source with index ≥ r, but no source is left
    cases hrc : st.receiving with
    | none => rfl
    | some im =>
      obtain ⟨idx, m⟩ := im
      obtain ⟨h1, h2⟩ := t.live idx m hrc
      obtain ⟨ty, g, rr, h3, _⟩ := t.pending idx m h2 h1
      have := hsuf (idx - r)
      have e : r + (idx - r) = idx := by omega
      rw [e, h3] at this
      simp [nthRecv] at this
  | cons s rest ih =>
    intro r mb st hsuf t mb' st' res h
    cases s with
    | timeout ms =>
      simp only [scanSources] at h
      have hsuf' : ∀ k, nthRecv rest k = nthRecv all (r + k) := hsuf
      by_cases hexp : expired ms start now = true
      · simp only [hexp, if_true, Prod.mk.injEq] at h
        obtain ⟨rfl, rfl, rfl⟩ := h
        refine ⟨none, ?_, rfl⟩
        have : effDur ms ≤ now - start := by simpa [expired] using hexp
        simp [selectSpec, this]
      · simp only [hexp] at h
        have hne : ¬ effDur ms ≤ now - start := by simpa [expired] using hexp
        exact (ih r mb st hsuf' t mb' st' res h).skip (by simp only [selectSpec, if_neg hne])
    | await tgt =>
      simp only [scanSources] at h
      have hsuf' : ∀ k, nthRecv rest k = nthRecv all (r + k) := hsuf
      cases hf : amLookup tgt awf with
      | some e =>
        simp only [hf, Prod.mk.injEq] at h
        obtain ⟨rfl, rfl, rfl⟩ := h
        refine ⟨?_, rfl, t.start⟩
        simp [selectSpec, resultsOf, hf]
      | none =>
        simp only [hf] at h
        cases ha : amLookup tgt aw with
        | none =>
          simp only [ha] at h
          exact (ih r mb st hsuf' t mb' st' res h).skip (by simp only [selectSpec, resultsOf, hf, ha])
        | some ov =>
          cases ov with
          | none =>
            simp only [ha] at h
            exact (ih r mb st hsuf' t mb' st' res h).skip (by simp only [selectSpec, resultsOf, hf, ha])
          | some v =>
            simp only [ha, Prod.mk.injEq] at h
            obtain ⟨rfl, rfl, rfl⟩ := h
            refine ⟨none, ?_, rfl⟩
            simp [selectSpec, resultsOf, hf, ha]
    | invalid e =>
      simp only [scanSources, Prod.mk.injEq] at h
      obtain ⟨rfl, rfl, rfl⟩ := h
      exact ⟨by simp [selectSpec], rfl, t.start⟩
    | receive ty f =>
      simp only [scanSources] at h
      have hhead : nthRecv all r = some (ty, f) := (hsuf 0).symm
      have hsuf' : ∀ k, nthRecv rest k = nthRecv all (r + 1 + k) := fun k =>
        (hsuf (k + 1)).trans (by rw [Nat.add_assoc, Nat.add_comm 1 k])
      have hlen : r < st.cursors.length := by
        rw [t.len]; exact nthRecv_lt all r _ hhead
      have hs : SrcSound ty f mb (st.cursors.getD r 0) := t.sound r ty f hhead
      have hr : RecvOK snapshot verdict mb (st.cursors.getD r 0) r ty f := by
        intro m hm
        obtain ⟨ty', g, rr, h3, h4, h5, h6, h7⟩ := t.pending r m hm (Nat.le_refl _)
        rw [hhead] at h3
        simp only [Option.some.injEq, Prod.mk.injEq] at h3
        obtain ⟨rfl, rfl⟩ := h3
        exact ⟨g, rr, rfl, h4, h5, h6, h7⟩
      cases hres : handleSelectReceive mb st snapshot r ty f verdict with
      | mk mb1 rest1 =>
        obtain ⟨st1, rres⟩ := rest1
        have hpost := handleSelectReceive_spec mb st snapshot r ty f verdict hlen hs hr mb1 st1 rres hres
        rw [hres] at h
        cases rres with
        | complete m =>
          simp only [Prod.mk.injEq] at h
          obtain ⟨rfl, rfl, rfl⟩ := h
          obtain ⟨i, h1, h2, h3⟩ := hpost
          refine ⟨some i, ?_, h3⟩
          simp [selectSpec, h1, h2]
        | called =>
          simp only [Prod.mk.injEq] at h
          obtain ⟨rfl, rfl, rfl⟩ := h
          obtain ⟨h1, i, m, g, h2, h3, h4, h5, h6⟩ := hpost
          have h1' := h1.symm
          subst h1' h3
          refine ⟨rfl, t.srcs, t.start, (List.length_set ..).trans t.len, t.sound.set hhead hlen h4, ?_, rfl⟩
          intro idx m' hm'
          simp only [Option.some.injEq, Prod.mk.injEq] at hm'
          obtain ⟨rfl, rfl⟩ := hm'
          refine ⟨ty, g, by rw [hhead, h2], h5, ?_⟩
          simp only []
          rw [getD_set_self _ _ _ hlen]; exact h6
        | continue_ =>
          simp only [] at h
          obtain ⟨h1, h2, c', h3, h4⟩ := hpost
          have h1' := h1.symm
          subst h1' h4
          have t' : Thread all snapshot verdict mb (r + 1)
              { st with cursors := st.cursors.set r c', receiving := rcvAfter snapshot st r } := by
            refine ⟨(List.length_set ..).trans t.len, t.sound.set hhead hlen h3, t.srcs, t.start, ?_, ?_⟩
            · intro idx m hm
              simp only [rcvAfter] at hm
              cases hsn : snapshot.receiving with
              | none =>
                rw [hsn] at hm
                obtain ⟨_, h6⟩ := t.live idx m hm
                rw [hsn] at h6; cases h6
              | some im0 =>
                obtain ⟨idx0, m0⟩ := im0
                rw [hsn] at hm
                simp only [] at hm
                by_cases h0 : idx0 = r
                · simp [h0] at hm
                · simp only [h0, if_false] at hm
                  obtain ⟨h5, h6⟩ := t.live idx m hm
                  rw [hsn] at h6
                  simp only [Option.some.injEq, Prod.mk.injEq] at h6
                  obtain ⟨rfl, rfl⟩ := h6
                  refine ⟨by omega, rfl⟩
            · intro idx m hm hle
              obtain ⟨ty', g, rr, h5, h6, h7, h8, h9⟩ := t.pending idx m hm (by omega)
              refine ⟨ty', g, rr, h5, h6, h7, h8, ?_⟩
              simp only []
              rw [getD_set_ne _ _ _ _ (by omega)]; exact h9
          exact (ih (r + 1) mb _ hsuf' t' mb' st' res h).skip (by simp only [selectSpec, h2])
        | error e => exact hpost.elim
        | panic => exact hpost.elim


/-- The select invariant: one cursor per receive source, every
    message before a cursor was rejected by that source, a held message is the one its source's
    cursor points at. -/
structure Inv (mb : List V) (st : SelState V) : Prop where
  len : st.cursors.length = receiveCount st.sources
  sound : AllSound st.sources mb st.cursors
  held : HeldOK st.sources mb st.cursors st.receiving

/-- The value on the stack is what the pending (pure) receive function returns on the held message. -/
def VerdictOf (st : SelState V) (top : Yield V) : Prop :=
  ∀ fr, pendingFilterRes st = some fr → fr = .ret top

/-- what an execution of Select that does not end the select leaves behind: the record apart from the select state,
and a select state that satisfies `Inv` again, with the same sources and the start time fixed -/
structure Waits (p : Proc V) (st : SelState V) (now : Nat) (p' : Proc V) (st' : SelState V) : Prop where
  mailbox : p'.mailbox = p.mailbox
  awaiting : p'.awaiting = p.awaiting
  awaitingFailed : p'.awaitingFailed = p.awaitingFailed
  result : p'.result = p.result
  sel : p'.sel = some st'
  inv : Inv p.mailbox st'
  sources : st'.sources = st.sources
  start : st'.startTime = some (st.startTime.getD now)

/-- Post-condition of `reenterSelect` (phases 3–4 of `handle_select`): its four outcomes. -/
inductive ReenterPost (p : Proc V) (st : SelState V) (now : Nat) (p' : Proc V) : StepRes V → Prop
  | completed {y} (taken : Option Nat)
      (mailbox : p'.mailbox = (match taken with | none => p.mailbox | some i => p.mailbox.eraseIdx i))
      (spec : selectSpec p.mailbox p.knownResults (st.startTime.getD now) now st.sources = .yields y taken)
      (sel : p'.sel = none) (awaiting : p'.awaiting = dropAwaits st.sources p.awaiting)
      (awaitingFailed : p'.awaitingFailed = dropAwaits st.sources p.awaitingFailed) (result : p'.result = p.result) :
      ReenterPost p st now p' (.completed y)
  | failed {e st'} (spec : selectSpec p.mailbox p.knownResults (st.startTime.getD now) now st.sources = .fails e)
      (mailbox : p'.mailbox = p.mailbox) (result : p'.result = p.result) (sel : p'.sel = some st')
      (start : st'.startTime = some (st.startTime.getD now)) : ReenterPost p st now p' (.failed e)
  | parked {st'} (spec : selectSpec p.mailbox p.knownResults (st.startTime.getD now) now st.sources = .notReady)
      (free : st'.receiving = none) (w : Waits p st now p' st') : ReenterPost p st now p' .parked
  | calledFilter {st'} (held : st'.receiving.isSome) (w : Waits p st now p' st') : ReenterPost p st now p' .calledFilter

theorem ReenterPost.start_fixed {p : Proc V} {st : SelState V} {now : Nat} {p' : Proc V} {res : StepRes V}
    (h : ReenterPost p st now p' res) {st' : SelState V} (hsel : p'.sel = some st') :
    st'.startTime = some (st.startTime.getD now) := by
  cases h with
  | completed _ _ _ sel => cases sel.symm.trans hsel
  | failed _ _ _ sel start => cases sel.symm.trans hsel; exact start
  | parked _ _ w | calledFilter _ w => cases w.sel.symm.trans hsel; exact w.start

/-- `hv`: the verdict is what the body of the holding source returns on the held message (`handleSelect_spec` gets it from
`VerdictOf`). -/
theorem reenterSelect_spec (p : Proc V) (st : SelState V) (verdict : Option (Yield V)) (now : Nat)
    (hinv : Inv p.mailbox st)
    (hv : ∀ idx m ty g, st.receiving = some (idx, m) → nthRecv st.sources idx = some (ty, some g) →
      ∃ rr, g m = .ret rr ∧ verdict = some rr)
    (p' : Proc V) (res : StepRes V) (h : reenterSelect p st verdict now = (p', res)) :
    ReenterPost p st now p' res := by
  unfold reenterSelect at h
  simp only [] at h
  have t : Thread st.sources { st with startTime := some (st.startTime.getD now) } verdict p.mailbox 0
      { st with startTime := some (st.startTime.getD now) } := by
    refine ⟨hinv.len, hinv.sound, rfl, rfl, ?_, ?_⟩
    · intro idx m hm; exact ⟨Nat.zero_le _, hm⟩
    · intro idx m hm _
      obtain ⟨ty, g, h1, h2, h3⟩ := hinv.held idx m hm
      obtain ⟨rr, h4, h5⟩ := hv idx m ty g hm h1
      exact ⟨ty, g, rr, h1, h4, h5, h2, h3⟩
  cases hscan : scanSources p.awaiting p.awaitingFailed { st with startTime := some (st.startTime.getD now) }
      verdict (st.startTime.getD now) now st.sources 0 p.mailbox
      { st with startTime := some (st.startTime.getD now) } with
  | mk mb' rest =>
    obtain ⟨st', r⟩ := rest
    have hpost := scanSources_spec st.sources p.awaiting p.awaitingFailed _ verdict _ now st.sources 0
      p.mailbox _ (fun k => by simp) t mb' st' r hscan
    rw [hscan] at h
    cases r with
    | completed y =>
      simp only [Prod.mk.injEq] at h
      obtain ⟨rfl, rfl⟩ := h
      obtain ⟨taken, h1, h2⟩ := hpost
      exact .completed taken h2 h1 rfl rfl rfl rfl
    | failed e =>
      simp only [Prod.mk.injEq] at h
      obtain ⟨rfl, rfl⟩ := h
      exact .failed (st' := st') hpost.1 hpost.2.1 rfl rfl hpost.2.2
    | parked =>
      simp only [Prod.mk.injEq] at h
      obtain ⟨rfl, rfl⟩ := h
      obtain ⟨h1, h2, h3, h4, h5, h6, h7⟩ := hpost
      refine .parked h1 h3 ⟨h2, rfl, rfl, rfl, rfl, ⟨by rw [h4]; exact h6, by rw [h4]; exact h7, ?_⟩, h4, h5⟩
      rw [h3]; intro idx m hm; cases hm
    | calledFilter =>
      simp only [Prod.mk.injEq] at h
      obtain ⟨rfl, rfl⟩ := h
      obtain ⟨h1, h2, h3, h4, h5, h6, h7⟩ := hpost
      exact .calledFilter h7 ⟨h1, rfl, rfl, rfl, rfl, ⟨by rw [h2]; exact h4, by rw [h2]; exact h5, by rw [h2]; exact h6⟩, h2, h3⟩
    | awaitAction ts => exact hpost.elim
    | initialized => exact hpost.elim
    | panic => exact hpost.elim


theorem handleSelect_spec (p : Proc V) (st : SelState V) (now : Nat) (srcs : List (Source V)) (top : Yield V)
    (hsel : p.sel = some st) (hinv : Inv p.mailbox st) (hv : VerdictOf st top)
    (p' : Proc V) (res : StepRes V) (h : handleSelect p now srcs top = (p', res)) :
    ReenterPost p st now p' res := by
  unfold handleSelect at h
  rw [hsel] at h
  simp only [] at h
  apply reenterSelect_spec p st _ now hinv _ p' res h
  intro idx m ty g hm hn
  have hp : pendingFilterRes st = some (g m) := by simp [pendingFilterRes, hm, hn]
  have := hv (g m) hp
  exact ⟨top, this, by simp [hm]⟩

theorem getD_replicate_zero (n k : Nat) : (List.replicate n 0).getD k 0 = 0 := by
  simp [List.getD, List.getElem?_replicate]
  split <;> rfl

theorem initializeSelect_inv (p : Proc V) (srcs : List (Source V)) (now : Nat) (p' : Proc V) (res : StepRes V)
    (h : initializeSelect p srcs now = (p', res)) :
    p'.mailbox = p.mailbox ∧ p'.result = p.result ∧
    ∃ st, p'.sel = some st ∧ Inv p.mailbox st ∧ st.sources = srcs ∧ st.receiving = none ∧
      (∀ k, st.cursors.getD k 0 = 0) ∧
      ((pidTargets srcs = [] ∧ st.startTime = some now ∧ res = .initialized ∧ p'.awaiting = p.awaiting) ∨
       (pidTargets srcs ≠ [] ∧ st.startTime = none ∧ res = .awaitAction (pidTargets srcs) ∧
         p'.awaiting = registerAwaits (pidTargets srcs) p.awaiting)) := by
  unfold initializeSelect at h
  simp only [] at h
  have hI : ∀ (stt : Option Nat), Inv p.mailbox
      { sources := srcs, cursors := List.replicate (receiveCount srcs) 0, startTime := stt, receiving := none } := by
    intro stt
    refine ⟨by simp, ?_, ?_⟩
    · intro k ty f _
      simp only []
      rw [getD_replicate_zero]; exact ⟨Nat.zero_le _, by simp⟩
    · intro idx m hm; cases hm
  by_cases ht : (pidTargets srcs).isEmpty = true
  · simp only [ht, if_true, Prod.mk.injEq] at h
    obtain ⟨rfl, rfl⟩ := h
    refine ⟨rfl, rfl, _, rfl, hI _, rfl, rfl, fun k => getD_replicate_zero _ k, Or.inl ⟨?_, rfl, rfl, rfl⟩⟩
    simpa using ht
  · simp only [ht] at h
    simp only [Bool.false_eq_true, if_false, Prod.mk.injEq] at h
    obtain ⟨rfl, rfl⟩ := h
    refine ⟨rfl, rfl, _, rfl, hI _, rfl, rfl, fun k => getD_replicate_zero _ k, Or.inr ⟨?_, rfl, rfl, rfl⟩⟩
    simpa using ht

theorem SrcSound.append (ty : V → Bool) (f) (mb : List V) (c : Nat) (m : V) (h : SrcSound ty f mb c) :
    SrcSound ty f (mb ++ [m]) c := by
  refine ⟨by have := h.le; simp; omega, ?_⟩
  intro x hx
  rw [List.take_append_of_le_length h.le] at hx
  exact h.rejected x hx

theorem Inv.pushMessage {mb : List V} {st : SelState V} (h : Inv mb st) (m : V) : Inv (mb ++ [m]) st := by
  refine ⟨h.len, ?_, ?_⟩
  · intro k ty f hk; exact (h.sound k ty f hk).append ty f mb _ m
  · intro idx m' hm
    obtain ⟨ty, g, h1, h2, h3⟩ := h.held idx m' hm
    refine ⟨ty, g, h1, h2, ?_⟩
    obtain ⟨hlt, hget⟩ := List.getElem?_eq_some_iff.mp h3
    rw [List.getElem?_append_left hlt]; exact h3

/-- the verdict is inspected for nil-ness only (`handleReceiveResult` drops the value of a non-nil verdict) -/
theorem handleReceiveResult_value_irrel (mb : List V) (st : SelState V) (r : Nat) (m a b : V) :
    handleReceiveResult mb st r m (some (.value a)) = handleReceiveResult mb st r m (some (.value b)) := rfl

theorem handleSelectReceive_value_irrel (mb : List V) (st snap : SelState V) (r : Nat) (ty) (f) (a b : V) :
    handleSelectReceive mb st snap r ty f (some (.value a)) = handleSelectReceive mb st snap r ty f (some (.value b)) := by
  unfold handleSelectReceive
  cases snap.receiving with
  | none => rfl
  | some im => obtain ⟨idx, m⟩ := im; simp only [handleReceiveResult_value_irrel mb st r m a b]

theorem scanSources_value_irrel (aw : AMap (Option V)) (awf) (snap : SelState V) (start now : Nat) (a b : V) :
    ∀ (srcs : List (Source V)) (r : Nat) (mb : List V) (st : SelState V),
      scanSources aw awf snap (some (.value a)) start now srcs r mb st =
      scanSources aw awf snap (some (.value b)) start now srcs r mb st := by
  intro srcs
  induction srcs with
  | nil => intros; rfl
  | cons s rest ih =>
    intro r mb st
    cases s with
    | timeout ms => simp only [scanSources, ih]
    | await t => simp only [scanSources, ih]
    | invalid e => simp only [scanSources]
    | receive ty f =>
      simp only [scanSources, handleSelectReceive_value_irrel mb st snap r ty f a b, ih]


theorem listMin_eq_min? : ∀ l : List Nat, listMin l = l.min?
  | [] => rfl
  | x :: xs => by rw [listMin, listMin_eq_min? xs, List.min?_cons]; cases xs.min? <;> rfl

theorem listMin_none (l : List Nat) : listMin l = none ↔ l = [] := by
  rw [listMin_eq_min?]; exact List.min?_eq_none_iff

theorem listMin_some (l : List Nat) (m : Nat) (h : listMin l = some m) : m ∈ l ∧ ∀ x ∈ l, m ≤ x :=
  List.min?_eq_some_iff.mp (listMin_eq_min? l ▸ h)

theorem timeoutExpired_iff (p : Proc V) (now : Nat) :
    p.timeoutExpired now = true ↔
      ∃ st s ms, p.sel = some st ∧ st.startTime = some s ∧ Source.timeout ms ∈ st.sources ∧
        effDur ms ≤ now - s := by
  unfold Proc.timeoutExpired
  constructor
  · intro h
    split at h
    · rename_i st hsel
      split at h
      · rename_i s hst
        obtain ⟨src, hmem, hsrc⟩ := List.any_eq_true.1 h
        cases src with
        | timeout ms => exact ⟨st, s, ms, hsel, hst, hmem, of_decide_eq_true hsrc⟩
        | await _ => cases hsrc
        | receive _ _ => cases hsrc
        | invalid _ => cases hsrc
      · cases h
    · cases h
  · rintro ⟨st, s, ms, h1, h2, h3, h4⟩
    rw [h1]
    dsimp only
    rw [h2]
    exact List.any_eq_true.2 ⟨_, h3, decide_eq_true h4⟩

theorem mem_timeoutDurs (srcs : List (Source V)) (d : Nat) :
    d ∈ srcs.filterMap Source.timeoutDur ↔ ∃ ms, Source.timeout ms ∈ srcs ∧ effDur ms = d := by
  simp only [List.mem_filterMap]
  constructor
  · rintro ⟨src, hmem, hsrc⟩
    cases src with
    | timeout ms => exact ⟨ms, hmem, by simpa [Source.timeoutDur] using hsrc⟩
    | await _ => simp [Source.timeoutDur] at hsrc
    | receive _ _ => simp [Source.timeoutDur] at hsrc
    | invalid _ => simp [Source.timeoutDur] at hsrc
  · rintro ⟨ms, hmem, rfl⟩
    exact ⟨.timeout ms, hmem, rfl⟩

theorem listMin_le_iff {l : List Nat} {t x : Nat} (h : listMin l = some t) : t ≤ x ↔ ∃ d ∈ l, d ≤ x :=
  ⟨fun hle => ⟨t, (listMin_some l t h).1, hle⟩, fun ⟨d, hd, hle⟩ => Nat.le_trans ((listMin_some l t h).2 d hd) hle⟩

theorem nextExpiry_eq {p : Proc V} {st : SelState V} {s : Nat} (hsel : p.sel = some st) (hst : st.startTime = some s) :
    p.nextExpiry = (listMin (st.sources.filterMap Source.timeoutDur)).map (fun t => min (s + t) u64Max) := by
  unfold Proc.nextExpiry
  rw [hsel]
  dsimp only
  rw [hst]
  dsimp only
  cases listMin (st.sources.filterMap Source.timeoutDur) <;> rfl

theorem nextExpiry_some (p : Proc V) (e : Nat) :
    p.nextExpiry = some e ↔
      ∃ st s t, p.sel = some st ∧ st.startTime = some s ∧ e = min (s + t) u64Max ∧
        (∃ ms, Source.timeout ms ∈ st.sources ∧ effDur ms = t) ∧
        (∀ ms, Source.timeout ms ∈ st.sources → t ≤ effDur ms) := by
  constructor
  · intro h
    cases hsel : p.sel with
    | none => rw [Proc.nextExpiry, hsel] at h; cases h
    | some st =>
      cases hst : st.startTime with
      | none => rw [Proc.nextExpiry, hsel] at h; dsimp only at h; rw [hst] at h; cases h
      | some s =>
        rw [nextExpiry_eq hsel hst] at h
        cases hm : listMin (st.sources.filterMap Source.timeoutDur) with
        | none => rw [hm] at h; cases h
        | some t =>
          rw [hm] at h
          cases h
          obtain ⟨h1, h2⟩ := listMin_some _ t hm
          exact ⟨st, s, t, rfl, hst, rfl, (mem_timeoutDurs _ _).mp h1,
            fun ms hms => h2 _ ((mem_timeoutDurs _ _).mpr ⟨ms, hms, rfl⟩)⟩
  · rintro ⟨st, s, t, h1, h2, rfl, ⟨ms, h3, h4⟩, h5⟩
    rw [nextExpiry_eq h1 h2]
    have hmem : t ∈ st.sources.filterMap Source.timeoutDur := (mem_timeoutDurs _ _).mpr ⟨ms, h3, h4⟩
    cases hm : listMin (st.sources.filterMap Source.timeoutDur) with
    | none => rw [(listMin_none _).mp hm] at hmem; cases hmem
    | some t' =>
      obtain ⟨g1, g2⟩ := listMin_some _ t' hm
      obtain ⟨ms', g3, g4⟩ := (mem_timeoutDurs _ _).mp g1
      have : t' = t := Nat.le_antisymm (g2 t hmem) (g4 ▸ h5 ms' g3)
      rw [this]; rfl

/-- `hmono` is needed because `now - s` saturates at 0, `hnow` because `nextExpiry` saturates at `u64Max` -/
theorem timeoutExpired_iff_nextExpiry_le (p : Proc V) (st : SelState V) (s now : Nat)
    (hsel : p.sel = some st) (hst : st.startTime = some s) (hmono : s ≤ now) (hnow : now < u64Max) :
    p.timeoutExpired now = true ↔ ∃ e, p.nextExpiry = some e ∧ e ≤ now := by
  -- both sides say: some duration `d` of the select has `d ≤ now - s`
  have hexp : p.timeoutExpired now = true ↔ ∃ d ∈ st.sources.filterMap Source.timeoutDur, d ≤ now - s := by
    rw [timeoutExpired_iff]
    constructor
    · rintro ⟨st', s', ms, h1, h2, h3, h4⟩
      cases hsel.symm.trans h1
      cases hst.symm.trans h2
      exact ⟨_, (mem_timeoutDurs _ _).mpr ⟨ms, h3, rfl⟩, h4⟩
    · rintro ⟨d, hd, hle⟩
      obtain ⟨ms, h3, rfl⟩ := (mem_timeoutDurs _ _).mp hd
      exact ⟨st, s, ms, hsel, hst, h3, hle⟩
  rw [hexp, nextExpiry_eq hsel hst]
  cases hm : listMin (st.sources.filterMap Source.timeoutDur) with
  | none =>
    rw [(listMin_none _).mp hm]
    exact ⟨fun ⟨_, hd, _⟩ => (nomatch hd), fun ⟨_, he, _⟩ => (nomatch he)⟩
  | some t =>
    rw [← listMin_le_iff hm]
    constructor
    · intro hle
      exact ⟨_, rfl, Nat.le_trans (Nat.min_le_left _ _) (by omega)⟩
    · rintro ⟨e, he, hle⟩
      cases he
      dsimp only at hle
      by_cases hc : s + t ≤ u64Max
      · rw [Nat.min_eq_left hc] at hle; omega
      · rw [Nat.min_eq_right (by omega)] at hle; omega

theorem verdictOf_of_pending (st : SelState V) (r : Yield V) (h : pendingFilterRes st = some (.ret r)) :
    VerdictOf st r := by
  intro fr hfr; rw [h] at hfr; simp only [Option.some.injEq] at hfr; exact hfr.symm

theorem verdictOf_of_none (st : SelState V) (r : Yield V) (h : pendingFilterRes st = none) :
    VerdictOf st r := by
  intro fr hfr; rw [h] at hfr; cases hfr

/-- `stepSelect` only adds the error arm to `handleSelect`: same mailbox, select state and outcome, and a record that still
has no result did not fail -/
theorem stepSelect_proj (p : Proc V) (now : Nat) (srcs : List (Source V)) (top : Yield V) :
    (stepSelect p now srcs top).1.mailbox = (handleSelect p now srcs top).1.mailbox ∧
    (stepSelect p now srcs top).1.sel = (handleSelect p now srcs top).1.sel ∧
    (stepSelect p now srcs top).2 = (handleSelect p now srcs top).2 ∧
    ((stepSelect p now srcs top).1.result = none → ∀ e, (handleSelect p now srcs top).2 ≠ .failed e) := by
  unfold stepSelect
  cases handleSelect p now srcs top with
  | mk p' res => cases res <;> simp

/-- the bridge from `stepSelectPure` (what histories run) to `handleSelect` (what the specifications speak of): the filter
raised, or the step is `stepSelect` on a verdict that satisfies `VerdictOf` -/
theorem stepSelectPure_cases (p : Proc V) (now : Nat) (srcs : List (Source V)) :
    (∃ e, stepSelectPure p now srcs = ({ p with result := some (.err e) }, .failed e)) ∨
    (∃ top, stepSelectPure p now srcs = stepSelect p now srcs top ∧ ∀ st, p.sel = some st → VerdictOf st top) := by
  unfold stepSelectPure
  cases hsel : p.sel with
  | none => right; exact ⟨.nil, by simp, by intro st h; cases h⟩
  | some st =>
    simp only [Option.bind_some]
    cases hp : pendingFilterRes st with
    | none =>
      right; refine ⟨.nil, rfl, ?_⟩
      intro st' h; simp only [Option.some.injEq] at h; subst h; exact verdictOf_of_none _ _ hp
    | some fr =>
      cases fr with
      | fail e => left; exact ⟨e, rfl⟩
      | ret r =>
        right; refine ⟨r, rfl, ?_⟩
        intro st' h; simp only [Option.some.injEq] at h; subst h; exact verdictOf_of_pending _ _ hp


theorem amLookup_remove_self {α} (k : Nat) (m : AMap α) : amLookup k (amRemove k m) = none := by
  induction m with
  | nil => rfl
  | cons e rest ih =>
    obtain ⟨a, b⟩ := e
    by_cases h : a = k
    · simp [amRemove, h] at ih ⊢; exact ih
    · have hne : (a != k) = true := by simp [h]
      simp only [amRemove, List.filter_cons, hne, if_true, amLookup, h, if_false] at ih ⊢; exact ih

theorem amLookup_remove_none {α} (k k' : Nat) (m : AMap α) (h : amLookup k m = none) :
    amLookup k (amRemove k' m) = none := by
  by_cases hk : k = k'
  · subst hk; exact amLookup_remove_self k m
  · rw [amRemove, amLookup_filter_ne k' k m hk]; exact h

theorem amLookup_dropAwaits_none {α} : ∀ (srcs : List (Source V)) (m : AMap α) (t : Nat),
    amLookup t m = none → amLookup t (dropAwaits srcs m) = none := by
  intro srcs
  induction srcs with
  | nil => intro m t h; exact h
  | cons s rest ih =>
    intro m t h
    cases s with
    | await t' => exact ih _ t (amLookup_remove_none t t' m h)
    | receive _ _ => exact ih m t h
    | timeout _ => exact ih m t h
    | invalid _ => exact ih m t h

theorem amLookup_dropAwaits_mem {α} : ∀ (srcs : List (Source V)) (m : AMap α) (t : Nat),
    Source.await t ∈ srcs → amLookup t (dropAwaits srcs m) = none := by
  intro srcs
  induction srcs with
  | nil => intro m t h; simp at h
  | cons s rest ih =>
    intro m t h
    rcases List.mem_cons.mp h with h' | h'
    · subst h'
      exact amLookup_dropAwaits_none rest _ t (amLookup_remove_self t m)
    · cases s with
      | await t' => exact ih _ t h'
      | receive _ _ => exact ih m t h'
      | timeout _ => exact ih m t h'
      | invalid _ => exact ih m t h'


end QM.Exec
