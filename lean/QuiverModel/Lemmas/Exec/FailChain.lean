import QuiverModel.Lemmas.Sys.Stored
import QuiverModel.Lemmas.Exec.SysBridge
/-
The failure chain of M-Sys: `Chain` (every awaited outcome is known, in flight, or its awaiter registered) is kept
by every micro-step (`Chain.micro`, given the positional facts `AwaitOrder` / `PlaceholderOrder` that
QueueOrder.lean establishes); `FInv` bundles it with `Checked` and `FAux`, and `quiescent_outcome_is_learned` says
what follows at quiescence.  Rests on the invariants `RInv`, `WInv`, `TInv` of Lemmas/Sys.
-/
namespace QM.Sys
variable [Cfg]

/-- an answer carrying an outcome of `t` for awaiter `a` is on its way -/
def InFlight (s : Sys) (a t : Pid) : Prop :=
  (∃ w ts, Evt.await a ts ∈ s.evtQ w ∧ t ∈ ts) ∨
  (∃ w ts, Cmd.queryAwait a ts ∈ s.cmdQ w ∧ t ∈ ts) ∨
  (∃ w rs r, Evt.procResults a rs ∈ s.evtQ w ∧ alookup rs t = some (some r)) ∨
  (∃ w r, pendingHas s a w t r) ∨
  (∃ w rs r, Cmd.updateAwait a rs ∈ s.cmdQ w ∧ (t, some r) ∈ rs)

section
omit [Cfg]
variable {s : Sys} {a t : Pid} {w : Wid}

theorem InFlight.await {ts : List Pid} (hm : Evt.await a ts ∈ s.evtQ w) (ht : t ∈ ts) : InFlight s a t := .inl ⟨w, ts, hm, ht⟩

theorem InFlight.query {ts : List Pid} (hm : Cmd.queryAwait a ts ∈ s.cmdQ w) (ht : t ∈ ts) : InFlight s a t :=
  .inr (.inl ⟨w, ts, hm, ht⟩)

theorem InFlight.report {rs : Results} {r : Res} (hm : Evt.procResults a rs ∈ s.evtQ w) (hr : alookup rs t = some (some r)) :
    InFlight s a t := .inr (.inr (.inl ⟨w, rs, r, hm, hr⟩))

theorem InFlight.pending {r : Res} (h : pendingHas s a w t r) : InFlight s a t := .inr (.inr (.inr (.inl ⟨w, r, h⟩)))

theorem InFlight.update {rs : Results} {r : Res} (hm : Cmd.updateAwait a rs ∈ s.cmdQ w) (hr : (t, some r) ∈ rs) :
    InFlight s a t := .inr (.inr (.inr (.inr ⟨w, rs, r, hm, hr⟩)))

end

/-- `a` is registered as an awaiter of `t` at some worker -/
def Registered (s : Sys) (a t : Pid) : Prop := ∃ w, a ∈ (s.wk w).awaitersFor t

/-- the awaiter's record knows the outcome of `t` -/
def Learned (x : Proc) (t : Pid) : Prop := (∃ v, (t, some v) ∈ x.awaiting) ∨ t ∈ x.awaitFailed

/-- **The chain**: for every process whose current select still awaits `t`, the outcome of `t` is known
to it, or an answer is in flight, or it is registered at `t`'s worker. -/
def Chain (s : Sys) : Prop :=
  ∀ w a x t, (s.wk w).procs a = some x → x.stillAwaiting t = true → Learned x t ∨ InFlight s a t ∨ Registered s a t

/-- after a complete `Worker::step` no worker keeps an awaiter registered for a process that has a
result (`check_completed_processes` has reported it) -/
def Checked (s : Sys) : Prop := ∀ w t, (s.wk w).awaitersFor t ≠ [] → (s.wk w).resultOf t = none

/-- registrations sit at the target's worker; a pending await always still expects somebody -/
structure FAux (s : Sys) : Prop where
  regHome : ∀ w t a, a ∈ (s.wk w).awaitersFor t → s.env.router t = some w
  pendNe : ∀ a pa, s.env.pending a = some pa → pa.expected ≠ []

/-- the chain together with what holds after a complete worker step and the registry facts -/
structure FInv (s : Sys) : Prop where
  chain : Chain s
  checked : Checked s
  aux : FAux s

/-- **What the chain gives at quiescence, for any outcome.** In a quiescent state that satisfies C04's routing and
wake-up invariants and the chain invariant, a live process whose select still awaits a process that HAS a result
(value or error) knows that outcome: nothing is in flight any more, and a registration at the target's worker would
have been reported by `check_completed_processes`. -/
theorem quiescent_outcome_is_learned (s : Sys) (hr : RInv s) (hw : WInv s) (hf : FInv s)
    (hq : s.quiescent) (wa wt a t : Pid) (x y : Proc) (r : Res)
    (hx : (s.wk wa).procs a = some x) (hs : x.stillAwaiting t = true)
    (hy : (s.wk wt).procs t = some y) (hyr : y.result = some r) : Learned x t := by
  have hidle := hq.1
  have hrt : s.env.router t = some wt := hr.placed wt t (by simp [known, hy])
  have hres : (s.wk wt).resultOf t = some r := by simp [WorkerSt.resultOf, hy, hyr]
  rcases hf.chain wa a x t hx hs with hl | hfl | hreg
  · exact hl
  · exfalso
    rcases hfl with ⟨w, ts, hm, hts⟩ | ⟨w, ts, hm, hts⟩ | ⟨w, rs, r, hm, hrs⟩ | ⟨w, r, pa, rs, hp, _, _⟩ | ⟨w, rs, r, hm, _⟩
    · have hok := hr.evts w _ hm
      have : w < s.n := hr.wbound a w hok.1
      rw [(hidle w this).2.1] at hm; cases hm
    · have hok := hr.cmds w _ hm
      have : w < s.n := hr.wbound t w (hok.2 t hts)
      rw [(hidle w this).1] at hm; cases hm
    · have hok := hr.evts w _ hm
      have : w < s.n := hr.wbound t w (hok.2 (t, some r) (alookup_mem hrs))
      rw [(hidle w this).2.1] at hm; cases hm
    · -- a pending await still expects a worker, whose query or answer is in flight
      have hne := hf.aux.pendNe a pa hp
      cases hex : pa.expected with
      | nil => exact hne hex
      | cons w0 rest =>
        have hin := hw.core.pend a pa hp w0 (by rw [hex]; simp)
        rcases hin with ⟨ts, hm⟩ | ⟨rs', hm⟩
        · have hok := hr.cmds w0 _ hm
          have hne' := hw.core.neQ w0 a ts hm
          cases ts with
          | nil => exact hne' rfl
          | cons t0 _ =>
            have : w0 < s.n := hr.wbound t0 w0 (hok.2 t0 (by simp))
            rw [(hidle w0 this).1] at hm; cases hm
        · have hok := hr.evts w0 _ hm
          have hne' := hw.core.neR w0 a rs' hm
          cases rs' with
          | nil => exact hne' rfl
          | cons tr _ =>
            have : w0 < s.n := hr.wbound tr.1 w0 (hok.2 tr (by simp))
            rw [(hidle w0 this).2.1] at hm; cases hm
    · have hok := hr.cmds w _ hm
      have : w < s.n := hr.wbound a w hok
      rw [(hidle w this).1] at hm; cases hm
  · -- still registered: at `t`'s worker, where `t` has a result — excluded by `Checked`
    exfalso
    obtain ⟨w, hreg⟩ := hreg
    have hw' := hf.aux.regHome w t a hreg
    rw [hrt] at hw'
    cases hw'
    have := hf.checked wt t (by intro h; rw [h] at hreg; cases hreg)
    rw [hres] at this; cases this

/-- **The failed case.** A live process whose select still awaits a FAILED process has that failure recorded
(`awaiting_failed`: a ready source of its select): a stored VALUE for a failed process would contradict C04's faithful-answer invariant. -/
theorem quiescent_failed_target_is_recorded (s : Sys) (hr : RInv s) (hw : WInv s) (ht : TInv s) (hf : FInv s)
    (hq : s.quiescent) (wa wt a t : Pid) (x y : Proc)
    (hx : (s.wk wa).procs a = some x) (hs : x.stillAwaiting t = true)
    (hy : (s.wk wt).procs t = some y) (hyr : y.result = some .err) : t ∈ x.awaitFailed := by
  rcases quiescent_outcome_is_learned s hr hw hf hq wa wt a t x y .err hx hs hy hyr with ⟨v, hv⟩ | hl
  · exfalso
    obtain ⟨w', hw'⟩ := ht.core.stored wa a x t v hx hv
    have hk : known s w' t := by
      unfold known
      unfold WorkerSt.resultOf at hw'
      cases hp : (s.wk w').procs t with
      | none => rw [hp] at hw'; cases hw'
      | some z => simp
    have hrt : s.env.router t = some wt := hr.placed wt t (by simp [known, hy])
    have := (hr.placed w' t hk).symm.trans hrt
    cases this
    have hres : (s.wk wt).resultOf t = some .err := by simp [WorkerSt.resultOf, hy, hyr]
    rw [hres] at hw'; cases hw'
  · exact hl

theorem preStart_no_awaiting {s : Sys} (h : PreStart s) (w a : Pid) (x : Proc) (t : Pid)
    (hx : (s.wk w).procs a = some x) : x.stillAwaiting t = false := by
  rw [h.wk] at hx
  by_cases hw : w = 0
  · subst hw
    simp only [upd_same, W0init, WorkerSt.setProc, WorkerSt.empty] at hx
    by_cases ha : a = 0
    · subst ha
      simp only [upd_same, Option.some.injEq] at hx
      subst hx
      simp [Proc.stillAwaiting, Proc.sleeping, Proc.fresh]
    · simp [upd_other _ _ _ _ ha] at hx
  · simp [upd_other _ _ _ _ hw, WorkerSt.empty] at hx

theorem FInv.of_started {s : Sys} (h : Started s) : FInv s := by
  have hwk : ∀ w, (s.wk w).awaitersFor = fun _ => [] := fun w => by
    rw [h.wk_at]; split <;> rfl
  refine ⟨?_, ?_, ⟨?_, ?_⟩⟩
  · intro w a x t hx hs
    rw [h.procs w a] at hx
    split at hx
    · cases hx
      simp [Proc.stillAwaiting, Proc.sleeping, Proc.fresh, alookup] at hs
    · cases hx
  · intro w t hne; rw [hwk w] at hne; exact absurd rfl hne
  · intro w t a ha; rw [hwk w] at ha; cases ha
  · intro a pa hp; rw [h.pending] at hp; cases hp

theorem await_handled_pushes_query (s : Sys) (a : Pid) (ts : List Pid) (hrt : ∀ t ∈ ts, Routed s.env.router t)
    (t : Pid) (ht : t ∈ ts) :
    ∃ w ts', Cmd.queryAwait a ts' ∈ (handleAwait s a ts).cmdQ w ∧ t ∈ ts' := by
  obtain ⟨o, ho, e⟩ := handleEvent_step mergeAnswer (.await a ts) s.env s.n
  rw [show handleAwait s a ts = s.envCommit o from e s rfl rfl]
  cases ho with
  | awaitFault _ _ hany =>
    obtain ⟨t', ht', hn⟩ := List.any_eq_true.1 hany
    have := hrt t' ht'
    unfold Routed at this
    cases h : s.env.router t' <;> simp [h] at this hn
  | await =>
    have hrt' := hrt t ht
    unfold Routed at hrt'
    cases hw : s.env.router t with
    | none => rw [hw] at hrt'; cases hrt'
    | some w =>
      exact ⟨w, _, mem_pushAll.2 (.inr (List.mem_map.2 ⟨w, mem_targetWorkers ht hw, rfl⟩)),
        List.mem_filter.mpr ⟨ht, by simpa using hw⟩⟩

theorem merge_keeps_unmentioned (s : Sys) (a : Pid) (new : Results) (wr : Wid) (t : Pid) (r : Res)
    (hrouted : (s.env.router a).isSome) (hhas : pendingHas s a wr t r)
    (hcase : alookup new t = none ∨ ∀ k v rest, new = (k, v) :: rest → s.env.router k ≠ some wr) :
    pendingHas (handleProcResultsWith mergeAnswer s a new) a wr t r ∨
    ∃ aw rs, Cmd.updateAwait a rs ∈ (handleProcResultsWith mergeAnswer s a new).cmdQ aw ∧ (t, some r) ∈ rs := by
  rcases hcase with hnone | hother
  · exact merge_keeps_collected s a new wr t r hrouted hhas hnone
  · obtain ⟨pa, rs0, hp, hl0, hl1⟩ := hhas
    unfold handleProcResultsWith
    simp only [hp]
    cases hra : s.env.router a with
    | none => rw [hra] at hrouted; cases hrouted
    | some aw =>
      have hkeepS : pendingHas s a wr t r := ⟨pa, rs0, hp, hl0, hl1⟩
      cases hnew' : new with
      | nil => dsimp only; exact Or.inl hkeepS
      | cons kv more =>
        obtain ⟨k, v⟩ := kv
        dsimp only
        cases hsender : s.env.router k with
        | none => dsimp only; exact Or.inl hkeepS
        | some w =>
          dsimp only
          have hw : w ≠ wr := fun e => hother k v more hnew' (by rw [hsender, e])
          have hk1 : alookup (ainsert pa.responses w (mergeAnswer (alookup pa.responses w) ((k, v) :: more))) wr = some rs0 := by
            rw [alookup_ainsert]; simp [hw, hl0]
          split
          · right
            refine ⟨aw, _, mem_pushCmd_self _ _ _, ?_⟩
            rw [List.mem_flatten]
            exact ⟨rs0, List.mem_map.mpr ⟨(wr, rs0), alookup_mem hk1, rfl⟩, alookup_mem hl1⟩
          · left
            exact ⟨{ expected := pa.expected.filter (· ≠ w), responses := ainsert pa.responses w (mergeAnswer (alookup pa.responses w) ((k, v) :: more)) },
              rs0, by simp, hk1, hl1⟩

/-- an awaiter's AwaitAction events are handled in emission order: when one is at the head of its queue,
every target the awaiter's select still awaits is among ITS targets, or a later AwaitAction of the same
awaiter (of a newer select) names it -/
def AwaitOrder (s : Sys) : Prop :=
  ∀ w a ts rest, s.evtQ w = Evt.await a ts :: rest → ∀ wa x t, (s.wk wa).procs a = some x →
    x.stillAwaiting t = true → t ∈ ts ∨ ∃ ts', Evt.await a ts' ∈ rest ∧ t ∈ ts'

/-- a placeholder `(t, None)` at the head of a worker's event queue is backed: the awaiter is still
registered for `t` at that worker, or the report `(t, Some r)` follows in the same queue -/
def PlaceholderOrder (s : Sys) : Prop :=
  ∀ w a new rest, s.evtQ w = Evt.procResults a new :: rest → ∀ t, alookup new t = some none →
    a ∈ (s.wk w).awaitersFor t ∨ ∃ rs' r', Evt.procResults a rs' ∈ rest ∧ alookup rs' t = some (some r')

def EvtKeysNodup (s : Sys) : Prop := ∀ w a rs, Evt.procResults a rs ∈ s.evtQ w → (rs.map (·.1)).Nodup

section
omit [Cfg]
variable {combine : Option Results → Results → Results} {env : Env} {n : Nat} {e : Evt} {o : EnvOut}

theorem EnvStep.router (h : EnvStep combine env n e o) :
    o.env.router = env.router ∨ ∃ w, o.env.router = upd env.router env.nextPid (some w) := by
  cases h with
  | spawn | spawnFault => exact .inr ⟨_, rfl⟩
  | _ => exact .inl rfl

theorem EnvStep.pend (h : EnvStep combine env n e o) (a : Pid) (h1 : ∀ ts, e ≠ .await a ts) (h2 : ∀ rs, e ≠ .procResults a rs) :
    o.env.pending a = env.pending a := by
  cases h with
  | await a' ts => exact upd_other _ _ _ _ fun e => h1 ts (e ▸ rfl)
  | last a' rs | lastFault a' rs | more a' rs => exact upd_other _ _ _ _ fun e => h2 rs (e ▸ rfl)
  | _ => rfl

/-- a pending entry is old, or what a ProcessResults left (somebody is still expected), or the fresh entry of an
AwaitAction all of whose targets are routed -/
theorem EnvStep.pendNew (h : EnvStep combine env n e o) (a : Pid) (pa : PendingAwait) (hp : o.env.pending a = some pa) :
    env.pending a = some pa ∨ pa.expected ≠ [] ∨
      ∃ ts, e = .await a ts ∧ (∀ t ∈ ts, (env.router t).isSome) ∧ pa.expected = targetWorkers env.router ts := by
  have at_upd : ∀ (a' : Pid) (v : Option PendingAwait), upd env.pending a' v a = some pa →
      env.pending a = some pa ∨ (a = a' ∧ v = some pa) := fun a' v h => by
    by_cases ha : a = a'
    · subst ha; exact .inr ⟨rfl, (upd_same env.pending a v).symm.trans h⟩
    · exact .inl (by rwa [upd_other _ _ _ _ ha] at h)
  cases h with
  | await a' ts hany =>
    rcases at_upd _ _ hp with h | ⟨rfl, h⟩
    · exact .inl h
    · cases h
      refine .inr (.inr ⟨ts, rfl, fun t ht => ?_, rfl⟩)
      cases hr : env.router t with
      | none => exact absurd (List.any_eq_true.2 ⟨t, ht, by rw [hr]; rfl⟩) hany
      | some _ => rfl
  | last a' rs | lastFault a' rs => exact (at_upd _ _ hp).elim .inl fun h => nomatch h.2
  | more a' rs pa' w _ _ hne =>
    rcases at_upd _ _ hp with h | ⟨_, h⟩
    · exact .inl h
    · cases h; exact .inr (.inl fun hnil => hne (congrArg List.isEmpty hnil))
  | _ => exact .inl hp

end

/-- what the environment does when it consumes event `e`, the head of worker `w0`'s queue (`rest` = its tail) -/
structure EnvPop (s s' : Sys) (w0 : Wid) (e : Evt) (rest : List Evt) : Prop where
  wk : s'.wk = s.wk
  evtQ : s'.evtQ = upd s.evtQ w0 rest
  prog : s'.prog = s.prog
  cmds : ∀ w c, c ∈ s.cmdQ w → c ∈ s'.cmdQ w
  router : s'.env.router = s.env.router ∨ ∃ w, s'.env.router = upd s.env.router s.env.nextPid (some w)
  pend : ∀ a, (∀ ts, e ≠ .await a ts) → (∀ rs, e ≠ .procResults a rs) → s'.env.pending a = s.env.pending a
  pendNew : ∀ a pa, s'.env.pending a = some pa → s.env.pending a = some pa ∨ pa.expected ≠ [] ∨
    ∃ ts, e = .await a ts ∧ (∀ t ∈ ts, (s.env.router t).isSome) ∧ pa.expected = targetWorkers s.env.router ts

theorem envPop (s : Sys) (w0 : Wid) (e : Evt) (rest : List Evt) :
    EnvPop s (handleEventWith mergeAnswer { s with evtQ := upd s.evtQ w0 rest } e) w0 e rest := by
  obtain ⟨o, ho, eq⟩ := handleEvent_step mergeAnswer e s.env s.n
  rw [eq { s with evtQ := upd s.evtQ w0 rest } rfl rfl]
  exact ⟨rfl, rfl, rfl, fun w c h => mem_pushAll.2 (.inl h), ho.router, ho.pend, ho.pendNew⟩

/-- **The chain survives every environment micro-step** (AwaitAction → queries; ProcessResults → merged
into the pending answer or forwarded; a pending entry replaced by a newer select's), given the routing
invariant and the two positional facts about the consumed event. -/
theorem Chain.envStep1 {s : Sys} (hr : RInv s) (hc : Chain s) (ho : AwaitOrder s) (hpo : PlaceholderOrder s)
    (hn : EvtKeysNodup s) {w0 : Wid} {e : Evt} {rest : List Evt} (hq : s.evtQ w0 = e :: rest) :
    Chain (handleEventWith mergeAnswer { s with evtQ := upd s.evtQ w0 rest } e) := by
  have eff := envPop s w0 e rest
  generalize hs' : handleEventWith mergeAnswer { s with evtQ := upd s.evtQ w0 rest } e = s' at eff
  have hev : ∀ w e', e' ∈ s.evtQ w → (w = w0 ∧ e' = e) ∨ e' ∈ s'.evtQ w := fun w e' he' =>
    eff.evtQ ▸ mem_upd_tail_or hq he'
  have hrest : ∀ e', e' ∈ rest → e' ∈ s'.evtQ w0 := by intro e' h; rw [eff.evtQ]; simpa using h
  have hehead : e ∈ s.evtQ w0 := by rw [hq]; simp
  -- where an outcome handled by `handle_process_results` ends up: in the pending entry, or on its way to the awaiter
  have land : ∀ {a t : Pid} {wr : Wid} {r : Res} {x : Proc},
      (pendingHas s' a wr t r ∨ ∃ aw rs, Cmd.updateAwait a rs ∈ s'.cmdQ aw ∧ (t, some r) ∈ rs) →
      Learned x t ∨ InFlight s' a t ∨ Registered s' a t :=
    fun h => .inr (.inl (h.elim .pending fun ⟨_, _, h1, h2⟩ => .update h1 h2))
  intro w a x t hx hs
  rw [eff.wk] at hx
  rcases hc w a x t hx hs with hl | hfl | ⟨wr, hreg⟩
  · exact Or.inl hl
  · rcases hfl with ⟨w1, ts, hm, hts⟩ | ⟨w1, ts, hm, hts⟩ | ⟨w1, rs, r, hm, hrs⟩ | ⟨wr, r, hph⟩ | ⟨w1, rs, r, hm, hrs⟩
    · rcases hev w1 _ hm with ⟨rfl, rfl⟩ | h
      · -- consumed now: the queries go out
        have hok := hr.evts _ _ hehead
        obtain ⟨wq, ts', hq1, hq2⟩ := await_handled_pushes_query { s with evtQ := upd s.evtQ w1 rest } a ts hok.2 t hts
        simp only [handleEventWith] at hs'
        rw [hs'] at hq1
        exact .inr (.inl (.query hq1 hq2))
      · exact .inr (.inl (.await h hts))
    · exact .inr (.inl (.query (eff.cmds _ _ hm) hts))
    · rcases hev w1 _ hm with ⟨rfl, rfl⟩ | h
      · have hok := hr.evts _ _ hehead
        have hra : (s.env.router a).isSome := hok.1
        simp only [handleEventWith] at hs'
        cases hpend : s.env.pending a with
        | none =>
          cases hraw : s.env.router a with
          | none => rw [hraw] at hra; cases hra
          | some aw =>
            have := (report_without_pending_is_forwarded { s with evtQ := upd s.evtQ w1 rest } a rs aw hpend hraw).1
            rw [hs'] at this
            exact .inr (.inl (.update this (alookup_mem hrs)))
        | some pa =>
          have hsender : ∃ k v rest', rs = (k, v) :: rest' ∧ s.env.router k = some w1 := by
            cases rs with
            | nil => simp [alookup] at hrs
            | cons kv rest' => exact ⟨kv.1, kv.2, rest', rfl, hok.2 kv (by simp)⟩
          have := outcome_overrides_placeholder { s with evtQ := upd s.evtQ w1 rest } a rs w1 t r pa hpend hra hsender
            (hn _ _ _ hehead) hrs
          exact land (hs' ▸ this)
      · exact .inr (.inl (.report h hrs))
    · -- collected in the pending entry of `a`: only an AwaitAction or a ProcessResults of `a` touches it
      have untouched : (∀ ts, e ≠ .await a ts) → (∀ rs, e ≠ .procResults a rs) →
          Learned x t ∨ InFlight s' a t ∨ Registered s' a t := by
        intro h1 h2
        obtain ⟨pa, rs0, g1, g2, g3⟩ := hph
        exact .inr (.inl (.pending ⟨pa, rs0, by rw [eff.pend a h1 h2]; exact g1, g2, g3⟩))
      cases e with
      | spawn c fn regs co => exact untouched nofun nofun
      | deliver t' m => exact untouched nofun nofun
      | resultResp q r' => exact untouched nofun nofun
      | exited q => exact untouched nofun nofun
      | await a' ts =>
        by_cases ha : a' = a
        · subst ha
          -- the pending entry is replaced by this (possibly older) select's: the positional fact
          rcases ho w0 a' ts rest hq w x t hx hs with hts | ⟨ts', hm', hts'⟩
          · have hok := hr.evts _ _ hehead
            obtain ⟨wq, ts', hq1, hq2⟩ := await_handled_pushes_query { s with evtQ := upd s.evtQ w0 rest } a' ts hok.2 t hts
            simp only [handleEventWith] at hs'
            rw [hs'] at hq1
            exact .inr (.inl (.query hq1 hq2))
          · exact .inr (.inl (.await (hrest _ hm') hts'))
        · exact untouched (fun ts' h => ha (Evt.await.inj h).1) nofun
      | procResults a' new =>
        by_cases ha : a' = a
        · subst ha
          have hok := hr.evts _ _ hehead
          have hra : (s.env.router a').isSome := hok.1
          simp only [handleEventWith] at hs'
          have hphS : pendingHas { s with evtQ := upd s.evtQ w0 rest } a' wr t r := hph
          by_cases hsame : wr = w0
          · subst hsame
            cases hlk : alookup new t with
            | none =>
              have := merge_keeps_unmentioned { s with evtQ := upd s.evtQ wr rest } a' new wr t r hra hphS (Or.inl hlk)
              exact land (hs' ▸ this)
            | some o =>
              cases o with
              | some r' =>
                obtain ⟨pa, _, hpend, _, _⟩ := hph
                have hsender : ∃ k v rest', new = (k, v) :: rest' ∧ s.env.router k = some wr := by
                  cases new with
                  | nil => simp [alookup] at hlk
                  | cons kv rest' => exact ⟨kv.1, kv.2, rest', rfl, hok.2 kv (by simp)⟩
                have := outcome_overrides_placeholder { s with evtQ := upd s.evtQ wr rest } a' new wr t r' pa hpend hra hsender
                  (hn _ _ _ hehead) hlk
                exact land (hs' ▸ this)
              | none =>
                -- the collected outcome is overwritten by a placeholder: the positional fact
                rcases hpo wr a' new rest hq t hlk with hreg | ⟨rs', r', hm', hl'⟩
                · exact Or.inr (Or.inr ⟨wr, by rw [eff.wk]; exact hreg⟩)
                · exact .inr (.inl (.report (hrest _ hm') hl'))
          · have hother : ∀ k v rest', new = (k, v) :: rest' → s.env.router k ≠ some wr := by
              intro k v rest' hnew hk
              have := hok.2 (k, v) (by rw [hnew]; simp)
              simp only [] at this
              rw [hk] at this
              simp only [Option.some.injEq] at this
              exact hsame this
            have := merge_keeps_unmentioned { s with evtQ := upd s.evtQ w0 rest } a' new wr t r hra hphS (Or.inr hother)
            exact land (hs' ▸ this)
        · exact untouched nofun (fun rs h => ha (Evt.procResults.inj h).1)
    · exact .inr (.inl (.update (eff.cmds _ _ hm) hrs))

  · exact Or.inr (Or.inr ⟨wr, by rw [eff.wk]; exact hreg⟩)

theorem InFlight.commit {s : Sys} {a t : Pid} (i : Wid) (o : Out) (h : InFlight s a t) : InFlight (s.commit i o) a t := by
  rcases h with ⟨w, ts, hm, ht⟩ | ⟨w, ts, hm, ht⟩ | ⟨w, rs, r, hm, hr⟩ | ⟨w, r, hp⟩ | ⟨w, rs, r, hm, hr⟩
  · exact .await (mem_evtQ_commit i o hm) ht
  · exact .query (w := w) hm ht
  · exact .report (mem_evtQ_commit i o hm) hr
  · exact .pending hp
  · exact .update (w := w) hm hr

omit [Cfg] in
theorem InFlight.pop {s : Sys} {i : Wid} {c : Cmd} {rest : List Cmd} (hq : s.cmdQ i = c :: rest) {a t : Pid}
    (h : InFlight s a t) :
    InFlight { s with cmdQ := upd s.cmdQ i rest } a t ∨ (∃ ts, c = .queryAwait a ts ∧ t ∈ ts) ∨
      ∃ rs r, c = .updateAwait a rs ∧ (t, some r) ∈ rs := by
  rcases h with ⟨w, ts, hm, ht⟩ | ⟨w, ts, hm, ht⟩ | ⟨w, rs, r, hm, hr⟩ | ⟨w, r, hp⟩ | ⟨w, rs, r, hm, hr⟩
  · exact .inl (.await (w := w) hm ht)
  · rcases mem_upd_tail_or hq hm with ⟨_, e⟩ | h
    · exact .inr (.inl ⟨ts, e.symm, ht⟩)
    · exact .inl (.query (w := w) h ht)
  · exact .inl (.report (w := w) hm hr)
  · exact .inl (.pending hp)
  · rcases mem_upd_tail_or hq hm with ⟨_, e⟩ | h
    · exact .inr (.inr ⟨rs, r, e.symm, hr⟩)
    · exact .inl (.update (w := w) h hr)

/-- **The chain and a step of worker `i` with output `o`.** `D a t`: the token of `(a, t)` was the command the worker has
just consumed (nothing, for the executor step and the completion check). The step has to say three things: what a record
still awaits it awaited before, or names in an AwaitAction it emits (`hp`); a registration it clears has become a report
(`hreg`); a consumed token is made good (`hd`). -/
theorem Chain.commit_pop {s : Sys} {i : Wid} {o : Out} {D : Pid → Pid → Prop}
    (hc : ∀ w a x t, (s.wk w).procs a = some x → x.stillAwaiting t = true →
      Learned x t ∨ InFlight s a t ∨ Registered s a t ∨ D a t)
    (hp : ∀ a x' t, o.wk.procs a = some x' → x'.stillAwaiting t = true →
      (∃ ts, Evt.await a ts ∈ o.evs ∧ t ∈ ts) ∨
      ∃ x, (s.wk i).procs a = some x ∧ x.stillAwaiting t = true ∧ (Learned x t → Learned x' t))
    (hreg : ∀ a t, a ∈ (s.wk i).awaitersFor t → a ∈ o.wk.awaitersFor t ∨ ∃ r, Evt.procResults a [(t, some r)] ∈ o.evs)
    (hd : ∀ a t, D a t → ∀ w x x', (s.wk w).procs a = some x → ((s.commit i o).wk w).procs a = some x' →
      x'.stillAwaiting t = true → Learned x' t ∨ InFlight (s.commit i o) a t ∨ Registered (s.commit i o) a t) :
    Chain (s.commit i o) := by
  intro w a x' t hx hs
  have hold : (∃ ts, Evt.await a ts ∈ (s.commit i o).evtQ w ∧ t ∈ ts) ∨
      ∃ x, (s.wk w).procs a = some x ∧ x.stillAwaiting t = true ∧ (Learned x t → Learned x' t) := by
    by_cases hw : w = i
    · subst hw
      rw [commit_evtQ_self]
      exact (hp a x' t (commit_wk_self s w o ▸ hx) hs).imp (fun ⟨ts, h1, h2⟩ => ⟨ts, List.mem_append_right _ h1, h2⟩) id
    · exact .inr ⟨x', commit_wk_other s o hw ▸ hx, hs, id⟩
  rcases hold with ⟨ts, h1, h2⟩ | ⟨x, hxo, hso, hlm⟩
  · exact .inr (.inl (.await h1 h2))
  · rcases hc w a x t hxo hso with hl | hfl | ⟨wr, hrg⟩ | hdis
    · exact .inl (hlm hl)
    · exact .inr (.inl (hfl.commit i o))
    · by_cases hw : wr = i
      · subst hw
        rcases hreg a t hrg with h | ⟨r, h⟩
        · exact .inr (.inr ⟨wr, (commit_wk_self s wr o).symm ▸ h⟩)
        · exact .inr (.inl (.report (r := r) (by rw [commit_evtQ_self]; exact List.mem_append_right _ h) (by simp [alookup])))
      · exact .inr (.inr ⟨wr, (commit_wk_other s o hw).symm ▸ hrg⟩)
    · exact hd a t hdis w x x' hxo hx hs

theorem Chain.commit {s : Sys} {i : Wid} {o : Out} (hc : Chain s)
    (hp : ∀ a x' t, o.wk.procs a = some x' → x'.stillAwaiting t = true →
      (∃ ts, Evt.await a ts ∈ o.evs ∧ t ∈ ts) ∨
      ∃ x, (s.wk i).procs a = some x ∧ x.stillAwaiting t = true ∧ (Learned x t → Learned x' t))
    (hreg : ∀ a t, a ∈ (s.wk i).awaitersFor t → a ∈ o.wk.awaitersFor t ∨ ∃ r, Evt.procResults a [(t, some r)] ∈ o.evs) :
    Chain (s.commit i o) :=
  Chain.commit_pop (D := fun _ _ => False)
    (fun w a x t hx hs => (hc w a x t hx hs).imp_right (.imp_right .inl)) hp hreg (fun _ _ h => h.elim)

/-- **The chain survives `check_completed_processes`**: a cleared registration has become a report in flight. -/
theorem Chain.checkStep {s : Sys} (hc : Chain s) (i : Wid) (ordE : List Pid) : Chain (s.commit i (checkOut (s.wk i) ordE)) := by
  have c := ChkOut.check (s.wk i) ordE
  refine hc.commit (fun a x' t hx hs => .inr ⟨x', c.procs ▸ hx, hs, id⟩) (fun a t ha => ?_)
  rcases c.reg t with e | ⟨_, _, r, _, hall⟩
  · exact .inl (e ▸ ha)
  · exact .inr ⟨r, hall a ha⟩

theorem Chain.tick {s : Sys} (hc : Chain s) (ms : Nat) : Chain { s with now := s.now + ms } := hc

theorem Keeps.learned {x x' : Proc} (h : Keeps x x') {t : Pid} (hl : Learned x t) : Learned x' t := by
  rcases hl with ⟨v, hv⟩ | hl
  · exact Or.inl (h.stored t v hv)
  · exact Or.inr (h.failed t hl)

theorem notifyResult_learns (w : WorkerSt) (a t : Pid) (r : Res) (x : Proc) (hx : w.procs a = some x)
    (hs : x.stillAwaiting t = true) :
    ∃ x', (w.notifyResult a t r).procs a = some x' ∧ Keeps x x' ∧ Learned x' t := by
  cases r with
  | err =>
    obtain ⟨x', h1, h2, _, h3⟩ := notifyResult_keeps w a t .err x hx
    exact ⟨x', h1, h2, Or.inr (h3 rfl hs)⟩
  | ok v =>
    obtain ⟨x', h1, h2, _⟩ := notifyResult_keeps w a t (.ok v) x hx
    refine ⟨x', h1, h2, Or.inl ?_⟩
    simp only [WorkerSt.notifyResult, WorkerSt.notifyResultOk, wakeSelecting_procs, WorkerSt.modProc, hx, hs, if_true,
      upd_same, Option.some.injEq] at h1
    subst h1
    exact ⟨v, mem_ainsert_self _ _ _⟩

theorem applyResults_learns (a : Pid) : ∀ (rs : Results) (w : WorkerSt) (x : Proc), w.procs a = some x →
    ∃ x', (applyResults w a rs).procs a = some x' ∧ Keeps x x' ∧
      ∀ t r, (t, some r) ∈ rs → x.stillAwaiting t = true → Learned x' t
  | [], w, x, hx => ⟨x, hx, Keeps.refl x, by intro t r h; cases h⟩
  | (t0, none) :: rest, w, x, hx => by
    obtain ⟨x1, g1, g2, _⟩ := notifyPending_keeps w a t0 x hx
    obtain ⟨x', h1, h2, h3⟩ := applyResults_learns a rest (w.notifyPending a t0) x1 g1
    refine ⟨x', by simpa [applyResults] using h1, g2.trans h2, ?_⟩
    intro t r ht hs
    rcases List.mem_cons.mp ht with h | h
    · cases h
    · exact h3 t r h (by rw [g2.still]; exact hs)
  | (t0, some r0) :: rest, w, x, hx => by
    obtain ⟨x1, g1, g2, _⟩ := notifyResult_keeps w a t0 r0 x hx
    obtain ⟨x', h1, h2, h3⟩ := applyResults_learns a rest (w.notifyResult a t0 r0) x1 g1
    refine ⟨x', by simpa [applyResults] using h1, g2.trans h2, ?_⟩
    intro t r ht hs
    rcases List.mem_cons.mp ht with h | h
    · simp only [Prod.mk.injEq, Option.some.injEq] at h
      obtain ⟨rfl, rfl⟩ := h
      obtain ⟨x1', e1, _, e3⟩ := notifyResult_learns w a t r x hx hs
      rw [g1] at e1
      simp only [Option.some.injEq] at e1
      subst e1
      exact h2.learned e3
    · exact h3 t r h (by rw [g2.still]; exact hs)

theorem completedStatus_congr (w w' : WorkerSt) (hp : w'.procs = w.procs) (hq : w'.queue = w.queue)
    (hs : w'.spawning = w.spawning) (hse : w'.selecting = w.selecting) (t : Pid) :
    w'.completedStatus t = w.completedStatus t := by
  unfold WorkerSt.completedStatus; rw [hp, hq, hs, hse]

theorem queryTargets_covers (a : Pid) (ts : List Pid) (w : WorkerSt) (t : Pid) (ht : t ∈ ts) :
    (∃ r, alookup (queryTargets w a ts).2 t = some (some r)) ∨ a ∈ (queryTargets w a ts).1.awaitersFor t := by
  have q := queryTargets_spec' a ts w
  rw [q.ans t, if_pos ht, q.reg]
  cases hc : w.completedStatus t with
  | some r => exact .inl ⟨r, rfl⟩
  | none => exact .inr (.inr ⟨rfl, ht, rfl⟩)

/-- `x'` still awaits only what `x` awaited, and knows at least as much -/
def AwSub (x x' : Proc) : Prop :=
  ∀ t, x'.stillAwaiting t = true → x.stillAwaiting t = true ∧ (Learned x t → Learned x' t)

theorem AwSub.refl (x : Proc) : AwSub x x := fun _ h => ⟨h, id⟩
theorem AwSub.trans {x y z : Proc} (h1 : AwSub x y) (h2 : AwSub y z) : AwSub x z := fun t h =>
  ⟨(h1 t (h2 t h).1).1, fun hl => (h2 t h).2 ((h1 t (h2 t h).1).2 hl)⟩

theorem AwSub.of_eq {x x' : Proc} (hr : x'.result = x.result) (ha : x'.awaiting = x.awaiting)
    (hf : x'.awaitFailed = x.awaitFailed) : AwSub x x' := by
  intro t h
  exact ⟨by simpa [Proc.stillAwaiting, hr, ha] using h, fun hl => by simpa [Learned, ha, hf] using hl⟩

theorem AwSub.of_result {x x' : Proc} (hr : x'.result.isSome = true) : AwSub x x' := by
  intro t h
  simp only [Proc.stillAwaiting, Bool.and_eq_true, Option.isNone_iff_eq_none] at h
  rw [h.1] at hr; cases hr

/-- whatever a process of `w'` still awaits, the process awaited already in `w`, knowing no more then than now -/
def AwaitsFrom (w w' : WorkerSt) : Prop :=
  ∀ a x' t, w'.procs a = some x' → x'.stillAwaiting t = true →
    ∃ x, w.procs a = some x ∧ x.stillAwaiting t = true ∧ (Learned x t → Learned x' t)

omit [Cfg] in
theorem AwaitsFrom.of_eq {w w' : WorkerSt} (h : w'.procs = w.procs) : AwaitsFrom w w' :=
  fun _ x' _ hx hs => ⟨x', h ▸ hx, hs, id⟩

theorem AwaitsFrom.put {w w' : WorkerSt} {p : Pid} {x' : Proc} (hp : w'.procs = upd w.procs p (some x'))
    (h : x'.awaiting = [] ∨ ∃ x, w.procs p = some x ∧ AwSub x x') : AwaitsFrom w w' := by
  intro a y' t hy hs
  rw [hp] at hy
  rcases upd_some hy with ⟨rfl, rfl⟩ | ⟨ha, hy⟩
  · rcases h with h | ⟨x, hx, hsub⟩
    · simp [Proc.stillAwaiting, h, alookup] at hs
    · exact ⟨x, hx, hsub t hs⟩
  · exact ⟨y', hy, hs, id⟩

theorem applyResults_some {w : WorkerSt} {a q : Pid} {rs : Results} {x' : Proc} (hx : (applyResults w a rs).procs q = some x') :
    ∃ x, w.procs q = some x :=
  Option.isSome_iff_exists.1 ((SameProcs.applyResults a rs w).dom q ▸ Option.isSome_iff_exists.2 ⟨x', hx⟩)

theorem AwaitsFrom.applyResults (w : WorkerSt) (a0 : Pid) (rs : Results) : AwaitsFrom w (applyResults w a0 rs) := by
  intro a x' t hx hs
  by_cases ha : a = a0
  · subst ha
    obtain ⟨x0, hp0⟩ := applyResults_some hx
    obtain ⟨x1, e1, e2, _⟩ := applyResults_learns a rs w x0 hp0
    cases e1.symm.trans hx
    exact ⟨x0, hp0, by rw [← e2.still]; exact hs, e2.learned⟩
  · rw [applyResults_other a0 rs w a ha] at hx
    exact ⟨x', hx, hs, id⟩

/-- a worker in state `w` consumed the command `c`: what the chain needs to know of the new state and the events -/
structure CmdRel (w : WorkerSt) (c : Cmd) (w' : WorkerSt) (evs : List Evt) : Prop where
  aw : ∀ a t, a ∈ w.awaitersFor t → a ∈ w'.awaitersFor t
  procs : AwaitsFrom w w'
  upd : ∀ a rs, c = .updateAwait a rs → ∀ x' t r, w'.procs a = some x' → x'.stillAwaiting t = true →
    (t, some r) ∈ rs → Learned x' t
  qry : ∀ a ts, c = .queryAwait a ts → ∀ t ∈ ts,
    (∃ rs r, Evt.procResults a rs ∈ evs ∧ alookup rs t = some (some r)) ∨ a ∈ w'.awaitersFor t

theorem cmdRel {w w' : WorkerSt} {c : Cmd} {evs : List Evt} {app : List (Pid × Msg)} (hc : CmdCase w c w' evs app) (hnr : ∀ p fn, c ≠ .resume p fn) :
    CmdRel w c w' evs := by
  refine ⟨?_, ?_, ?_, ?_⟩
  · cases hc with
    | query => exact fun _ _ h => ((queryTargets_spec' _ _ _).reg _ _).2 (.inl h)
    | resume regs | same _ _ _ _ regs | start _ _ regs | spawn _ _ regs | spawned _ _ _ regs | mail _ _ _ regs | update _ _ regs =>
      exact fun _ _ h => regs.awaitersFor ▸ h
  · cases hc with
    | same _ _ procs => exact .of_eq procs
    | start procs | spawn procs => exact .put procs (.inl rfl)
    | resume _ => exact absurd rfl (hnr _ _)
    | spawned hx procs _ _ => exact .put procs (.inr ⟨_, hx, AwSub.of_eq rfl rfl rfl⟩)
    | mail hx procs _ _ => exact .put procs (.inr ⟨_, hx, AwSub.of_eq rfl rfl rfl⟩)
    | query => exact .of_eq (queryTargets_spec' _ _ _).procs
    | update procs _ _ => exact fun a x' t hx hs => AwaitsFrom.applyResults _ _ _ a x' t (procs ▸ hx) hs
  · intro a rs hcmd x' t r hx hs hm
    subst hcmd
    cases hc with
    | same hc => cases hc
    | update procs _ _ =>
      rw [procs] at hx
      obtain ⟨x0, hp0⟩ := applyResults_some hx
      obtain ⟨x1, e1, e2, e3⟩ := applyResults_learns a rs w x0 hp0
      cases e1.symm.trans hx
      exact e3 t r hm (by rw [← e2.still]; exact hs)
  · intro a ts hcmd t ht
    subst hcmd
    cases hc with
    | same hc => cases hc
    | query => exact (queryTargets_covers a ts _ t ht).imp (fun ⟨r, hr⟩ => ⟨_, r, List.mem_cons_self, hr⟩) id

theorem RInv.head_not_resume {s : Sys} (hr : RInv s) {i : Wid} {c : Cmd} {rest : List Cmd} (hq : s.cmdQ i = c :: rest)
    (p : Pid) (fn : Nat) : c ≠ .resume p fn :=
  fun e => (e ▸ hr.cmds i c (by rw [hq]; exact List.mem_cons_self) : CmdOK _ _ _ _ (.resume p fn))

/-- **The chain survives every command a worker consumes** (QueryAndAwait → answer or registration;
UpdateAwaitResults → learned; the others do not touch the await bookkeeping). -/
theorem Chain.cmdStep1 {s : Sys} (hr : RInv s) (hc : Chain s) {i : Wid} {c : Cmd} {rest : List Cmd} {o : Out}
    (hq : s.cmdQ i = c :: rest) (ho : CmdStep Rules.current s.prog (s.wk i) c o) :
    Chain (Sys.commit { s with cmdQ := upd s.cmdQ i rest } i o) := by
  have hok := hr.cmds i c (by rw [hq]; exact List.mem_cons_self)
  -- the chain of the state without the command, up to the token the command carried
  have hc0 : ∀ w a x t, (s.wk w).procs a = some x → x.stillAwaiting t = true →
      Learned x t ∨ InFlight { s with cmdQ := upd s.cmdQ i rest } a t ∨ Registered s a t ∨
        ((∃ ts, c = .queryAwait a ts ∧ t ∈ ts) ∨ ∃ rs r, c = .updateAwait a rs ∧ (t, some r) ∈ rs) :=
    fun w a x t hx hs => (hc w a x t hx hs).imp_right fun h =>
      h.elim (fun hfl => (hfl.pop hq).elim .inl (.inr ∘ .inr)) (.inr ∘ .inl)
  have rel : CmdRel (s.wk i) c o.wk o.evs := cmdRel ho.case (hr.head_not_resume hq)
  refine Chain.commit_pop hc0 (fun a x' t hx hs => .inr (rel.procs a x' t hx hs)) (fun a t h => .inl (rel.aw a t h)) ?_
  rintro a t (⟨ts, rfl, ht⟩ | ⟨rs, r, rfl, hm⟩) w x x' hx hx' hs
  · rcases rel.qry a ts rfl t ht with ⟨rs, r, h1, h2⟩ | h1
    · exact .inr (.inl (.report (by rw [commit_evtQ_self]; exact List.mem_append_right _ h1) h2))
    · exact .inr (.inr ⟨i, (commit_wk_self _ i o).symm ▸ h1⟩)
  · -- the answer is applied now: the awaiter lives on this worker
    have hx0 : (s.wk w).procs a = some x := hx
    cases ((hr.placed w a (by simp [known, hx0])).symm.trans (show s.env.router a = some i from hok))
    exact .inl (rel.upd a rs rfl x' t r (commit_wk_self _ i o ▸ hx') hs hm)

/-- `complete_select`: the entries of the select's targets are dropped, the others keep their knowledge -/
theorem AwSub.complete (p : Proc) (ts : List Pid) (p2 : Proc) (hr : p2.result = p.result)
    (ha : p2.awaiting = p.awaiting.filter (fun kv => kv.1 ∉ ts))
    (hf : p2.awaitFailed = p.awaitFailed.filter (· ∉ ts)) : AwSub p p2 := by
  intro t h
  simp only [Proc.stillAwaiting, Bool.and_eq_true, hr, ha] at h
  have hlk := alookup_filter_keys p.awaiting (fun k => decide (k ∉ ts)) t
  simp only [decide_eq_true_eq] at hlk
  have hfilt : (p.awaiting.filter (fun kv => kv.1 ∉ ts)) = p.awaiting.filter (fun kv => decide (kv.1 ∉ ts)) := rfl
  rw [hfilt, hlk] at h
  by_cases hts : t ∈ ts
  · simp [hts] at h
  · simp only [hts, not_false_eq_true, if_true] at h
    refine ⟨by simp [Proc.stillAwaiting, h.1, h.2], ?_⟩
    rintro (⟨v, hv⟩ | hl)
    · left; exact ⟨v, by rw [ha]; exact List.mem_filter.mpr ⟨hv, by simpa using hts⟩⟩
    · right; rw [hf]; exact List.mem_filter.mpr ⟨hl, by simpa using hts⟩

theorem SliceW.awaits {prog : Prog} {now : Nat} {self : Pid} {p p' : Proc} {out : Outcome} (h : SliceW prog now self p p' out)
    (t : Pid) (ht : p'.stillAwaiting t = true) :
    (∃ ts, out = .awaitInit ts ∧ t ∈ ts) ∨ (p.stillAwaiting t = true ∧ (Learned p t → Learned p' t)) := by
  -- an attempt after which the slice goes on leaves an `AwSub` image of the record
  have go : ∀ {out : Outcome} {p p1 p' : Proc}, AwSub p p1 →
      ((∃ ts, out = .awaitInit ts ∧ t ∈ ts) ∨ (p1.stillAwaiting t = true ∧ (Learned p1 t → Learned p' t))) →
      (∃ ts, out = .awaitInit ts ∧ t ∈ ts) ∨ (p.stillAwaiting t = true ∧ (Learned p t → Learned p' t)) :=
    fun hsub => .imp id fun ⟨h1, h2⟩ => ⟨(hsub t h1).1, fun hl => h2 ((hsub t h1).2 hl)⟩
  induction h with
  | cont | done | selGate => exact .inr ⟨ht, id⟩
  | send | spawn | selNo => exact .inr (AwSub.of_eq (x := _) rfl rfl rfl t ht)
  | respawn | fail | selFail => exact .inr (AwSub.of_result (x := _) rfl t ht)
  | @selAwait p srcs _ _ _ =>
    by_cases htt : t ∈ selTargets p srcs
    · exact .inl ⟨_, rfl, htt⟩
    · obtain ⟨k1, k2⟩ := alookup_foldl_ainsert_none (selTargets p srcs) p.awaiting t htt
      simp only [Proc.stillAwaiting, Bool.and_eq_true] at ht ⊢
      rw [k1] at ht
      exact .inr ⟨ht, Or.imp (fun ⟨v, hv⟩ => ⟨v, k2 v hv⟩) id⟩
  | selStart _ _ _ _ ih =>
    refine go ?_ (ih ht)
    exact AwSub.of_eq rfl rfl rfl
  | @selYes p _ _ srcs _ _ _ _ _ _ _ ih =>
    refine go ?_ (ih ht)
    exact AwSub.complete p (selTargets p srcs) _ rfl rfl rfl

theorem slice_awaits (prog : Prog) (now : Nat) (self : Pid) (fuel : Nat) (p : Proc) (res : Proc × Outcome)
    (hres : slice prog now self fuel p = res) (t : Pid) (ht : res.1.stillAwaiting t = true) :
    (∃ ts, res.2 = .awaitInit ts ∧ t ∈ ts) ∨ (p.stillAwaiting t = true ∧ (Learned p t → Learned res.1 t)) := by
  subst hres
  exact (slice_view prog now self fuel p).awaits t ht

theorem fold_notify_keeps (cur : Pid) (r : Res) : ∀ (l : List Pid) (w : WorkerSt) (b : Pid) (y : Proc),
    w.procs b = some y →
    ∃ y', (l.foldl (fun acc a => acc.notifyResult a cur r) w).procs b = some y' ∧ Keeps y y' ∧ SameCtl y y'
  | [], w, b, y, h => ⟨y, h, Keeps.refl y, SameCtl.refl y⟩
  | a :: l, w, b, y, h => by
    simp only [List.foldl_cons]
    by_cases hba : b = a
    · subst hba
      obtain ⟨y1, g1, g2, gc, _⟩ := notifyResult_keeps w b cur r y h
      obtain ⟨y', h1, h2, hc⟩ := fold_notify_keeps cur r l _ b y1 g1
      exact ⟨y', h1, g2.trans h2, gc.trans hc⟩
    · exact fold_notify_keeps cur r l _ b y (by rw [notifyResult_other _ _ _ _ _ hba]; exact h)

theorem fold_notify_dom (cur : Pid) (r : Res) (l : List Pid) (w : WorkerSt) (b : Pid) :
    ((l.foldl (fun acc a => acc.notifyResult a cur r) w).procs b).isSome = (w.procs b).isSome :=
  (SameProcs.foldl _ (fun w' a => SameProcs.notifyResult w' a cur r) l w).dom b

theorem release_other (w : WorkerSt) (cur b : Pid) (hb : b ≠ cur) : (w.release cur).procs b = w.procs b := by
  unfold WorkerSt.release; split
  · unfold WorkerSt.modProc; split
    · exact upd_other _ _ _ _ hb
    · rfl
  · rfl

theorem release_cur (w : WorkerSt) (cur : Pid) (y' : Proc) (hy : (w.release cur).procs cur = some y') :
    ∃ y, w.procs cur = some y ∧ y'.result = y.result ∧ (y' = y ∨ (y'.selInit = false ∧ y'.awaiting = [])) := by
  unfold WorkerSt.release at hy; split at hy
  · unfold WorkerSt.modProc at hy; split at hy
    · rename_i y hy0
      cases (upd_same w.procs cur _).symm.trans hy
      refine ⟨y, hy0, ?_⟩
      unfold Proc.releaseDead; split
      · exact ⟨rfl, .inl rfl⟩
      · exact ⟨rfl, .inr ⟨rfl, rfl⟩⟩
    · exact ⟨y', hy, rfl, .inl rfl⟩
  · exact ⟨y', hy, rfl, .inl rfl⟩

/-- The records after `finish`: the finished process has its result and is a notified (possibly released) copy of
`x`; every other record is a notified copy of what it was. -/
theorem finish_procs (w : WorkerSt) (cur : Pid) (x : Proc) (ordQ : List Pid) (b : Pid) (y' : Proc)
    (hy : (w.finish cur x ordQ).procs b = some y') :
    (b = cur ∧ y'.result = some x.finalRes ∧
      ((y'.selInit = false ∧ y'.awaiting = []) ∨
        (SameCtl x y' ∧ ∀ k, (alookup y'.awaiting k).isSome = (alookup x.awaiting k).isSome))) ∨
    (b ≠ cur ∧ ∃ y, w.procs b = some y ∧ Keeps y y' ∧ SameCtl y y') := by
  unfold WorkerSt.finish at hy
  dsimp only at hy
  by_cases hb : b = cur
  · subst hb
    obtain ⟨y1, hy1, hres, hrel⟩ := release_cur _ b y' hy
    obtain ⟨y2, h1, h2, hc⟩ := fold_notify_keeps b x.finalRes _
      { w with procs := upd w.procs b (some { x with result := some x.finalRes }) } b
      { x with result := some x.finalRes } (upd_same _ _ _)
    cases hy1.symm.trans h1
    refine .inl ⟨rfl, hres.trans h2.result, hrel.symm.imp_right fun e => ?_⟩
    subst e
    exact ⟨⟨hc.fn, hc.pc, hc.regs, hc.sel⟩, h2.keys⟩
  · rw [release_other _ _ _ hb] at hy
    refine .inr ⟨hb, ?_⟩
    cases hw : w.procs b with
    | none =>
      have := fold_notify_dom cur x.finalRes (orderBy ordQ (WorkerSt.localAwaiters
        { w with procs := upd w.procs cur (some { x with result := some x.finalRes }) } cur))
        { w with procs := upd w.procs cur (some { x with result := some x.finalRes }) } b
      rw [hy] at this
      simp [upd_other _ _ _ _ hb, hw] at this
    | some y =>
      obtain ⟨y1, h1, h2, hc⟩ := fold_notify_keeps cur x.finalRes _
        { w with procs := upd w.procs cur (some { x with result := some x.finalRes }) } b y
        ((upd_other _ _ _ _ hb).trans hw)
      cases h1.symm.trans hy
      exact ⟨y, rfl, h2, hc⟩

theorem finish_records (w : WorkerSt) (cur : Pid) (x : Proc) (ordQ : List Pid) (b : Pid) (y' : Proc) (t : Pid)
    (hy : (w.finish cur x ordQ).procs b = some y') (hs : y'.stillAwaiting t = true) :
    b ≠ cur ∧ ∃ y, w.procs b = some y ∧ y.stillAwaiting t = true ∧ (Learned y t → Learned y' t) := by
  rcases finish_procs w cur x ordQ b y' hy with ⟨_, hres, _⟩ | ⟨hb, y, h1, h2, _⟩
  · simp [Proc.stillAwaiting, hres] at hs
  · exact ⟨hb, y, h1, by rw [← h2.still]; exact hs, h2.learned⟩

/-- **The chain survives every executor step**: a select that starts awaiting is covered by the
AwaitAction it emits; a process that finishes or fails notifies its local awaiters, who only learn. -/
theorem Chain.execStep {s : Sys} (hc : Chain s) {i : Wid} {fuel : Nat} {ordQ : List Pid} {o : Out}
    (ho : ExecStep s.prog s.now fuel ordQ ((s.wk i).checkExpired s.prog s.now ordQ) o) : Chain (s.commit i o) := by
  have hcase := ho.case
  refine hc.commit (fun a y' t hy hs => ?_) (fun a t h => .inl (hcase.regs.awaitersFor ▸ h))
  generalize o.wk = w' at hcase hy
  generalize o.evs = evs at hcase ⊢
  cases hcase with
  | idle procs _ _ => exact .inr ⟨y', procs ▸ hy, hs, id⟩
  | @ran _ cur x x' _ _ hx hsl _ procs _ _ =>
    rw [procs] at hy
    rcases upd_some hy with ⟨rfl, rfl⟩ | ⟨ha, hy⟩
    · -- the running process: what it awaits it awaited before, or names in the AwaitAction it ends with
      rcases slice_awaits s.prog s.now _ fuel x _ hsl t hs with ⟨ts, rfl, hts⟩ | h
      · exact .inl ⟨ts, List.mem_cons_self, hts⟩
      · exact .inr ⟨x, hx, h⟩
    · exact .inr ⟨y', hy, hs, id⟩
  | fin _ _ _ procs _ _ _ =>
    obtain ⟨hne, y, h1, h2, h3⟩ := finish_records _ _ _ ordQ a y' t hy hs
    rw [procs, upd_other _ _ _ _ hne] at h1
    exact .inr ⟨y, h1, h2, h3⟩

/-- the chain survives EVERY step of the composed system; only the environment step needs the positional facts about
the event it consumes -/
theorem Chain.step {s s' : Sys} (hr : RInv s) (hc : Chain s) (hpo : AwaitOrder s ∧ PlaceholderOrder s ∧ EvtKeysNodup s)
    (hs : Step Rules.current s s') : Chain s' := by
  cases hs with
  | env hq => exact Chain.envStep1 hr hc hpo.1 hpo.2.1 hpo.2.2 hq
  | fault hq hf => exact absurd hf (hr.popCmd hq).2.not_fault
  | cmd hq ho => exact Chain.cmdStep1 hr hc hq ho
  | exec ho => exact Chain.execStep hc ho
  | check i ordE => exact Chain.checkStep hc i ordE
  | tick ms => exact hc.tick ms

theorem Chain.micro {s : Sys} (hr : RInv s) (hc : Chain s)
    (hpo : AwaitOrder s ∧ PlaceholderOrder s ∧ EvtKeysNodup s) (m : Micro) : Chain (microStep Rules.current s m) :=
  microStep_cases hc (fun _ => Chain.step hr hc hpo) m

end QM.Sys

