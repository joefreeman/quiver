import QuiverModel.Lemmas.Sys.Commute
import QuiverModel.Lemmas.Exec.FailChain
/-
The positional facts `Chain.envStep1` needs, as inductive invariants of M-Sys: "last mention" facts about a worker's
event queue (`PlaceholderLast`, `AwaitLast`: stable under popping the head, re-established by every push), unique keys
in reported result lists (`EvtKeysNodup`), no leftover await keys in a process record (`PK`, `PKInv` — what makes
`AwaitLast` inductive), the registry facts `FAux` (`RegHome`, `PendNe`), and `Checked`.
Those that speak of one worker, with or without its event queue (`PhLast`, `KeysNodup`, `PKW`, `AwLast`, `RegAw`), are stated
per worker and shown for one `WStep` (`X.wstep`); `Step.local_invariant`, `Step.local_invariant_at`, `Step.wk_invariant` make them
invariants of the system.  `RegHome` and `PendNe` read the environment's tables and are shown per `Step`.
-/
set_option linter.unusedSectionVars false
namespace QM.Sys

/-- the value of `f` at the LAST event of the list where `f` is defined -/
def lastSome {β : Type} (f : Evt → Option β) : List Evt → Option β
  | [] => none
  | e :: rest =>
    match lastSome f rest with
    | some b => some b
    | none => f e

theorem lastSome_append {β : Type} (f : Evt → Option β) (l2 : List Evt) : ∀ (l : List Evt),
    lastSome f (l ++ l2) = (match lastSome f l2 with | some b => some b | none => lastSome f l)
  | [] => by cases h : lastSome f l2 <;> simp [h, lastSome]
  | x :: l => by
    simp only [List.cons_append, lastSome, lastSome_append f l2 l]
    cases lastSome f l2 <;> rfl

theorem lastSome_eq_none_iff {β : Type} (f : Evt → Option β) : ∀ (l : List Evt),
    lastSome f l = none ↔ ∀ e ∈ l, f e = none
  | [] => by simp [lastSome]
  | x :: l => by
    simp only [lastSome, List.mem_cons, forall_eq_or_imp, ← lastSome_eq_none_iff f l]
    cases lastSome f l <;> simp

theorem lastSome_append_single {β : Type} (f : Evt → Option β) (l : List Evt) (e : Evt) :
    lastSome f (l ++ [e]) = (match f e with | some b => some b | none => lastSome f l) :=
  lastSome_append f [e] l

theorem lastSome_append_none {β : Type} (f : Evt → Option β) (l l2 : List Evt) (h : ∀ e ∈ l2, f e = none) :
    lastSome f (l ++ l2) = lastSome f l := by
  rw [lastSome_append, (lastSome_eq_none_iff f l2).2 h]

theorem lastSome_mem {β : Type} (f : Evt → Option β) : ∀ (l : List Evt) (b : β), lastSome f l = some b →
    ∃ e ∈ l, f e = some b
  | [], b, h => by cases h
  | e :: rest, b, h => by
    simp only [lastSome] at h
    cases hr : lastSome f rest with
    | some b' =>
      rw [hr] at h
      simp only [Option.some.injEq] at h; subst h
      obtain ⟨e', h1, h2⟩ := lastSome_mem f rest b' hr
      exact ⟨e', List.mem_cons_of_mem _ h1, h2⟩
    | none =>
      rw [hr] at h
      exact ⟨e, List.mem_cons_self, h⟩

theorem lastSome_cons {β : Type} (f : Evt → Option β) (e : Evt) (rest : List Evt) (b : β)
    (h : lastSome f rest = some b) : lastSome f (e :: rest) = some b := by
  simp [lastSome, h]

variable [Cfg]

/-- what a ProcessResults event says about target `t` to awaiter `a` -/
def mention (a t : Pid) : Evt → Option (Option Res)
  | .procResults a' rs => if a' = a then alookup rs t else none
  | _ => none

/-- if the LAST thing worker `w`'s event queue says to `a` about `t` is the placeholder, `a` is still
registered for `t` at `w` -/
def PlaceholderLast (s : Sys) : Prop :=
  ∀ w a t, lastSome (mention a t) (s.evtQ w) = some none → a ∈ (s.wk w).awaitersFor t

theorem PlaceholderLast.order {s : Sys} (h : PlaceholderLast s) : PlaceholderOrder s := by
  intro w a new rest hq t hnew
  cases hl : lastSome (mention a t) rest with
  | none =>
    left
    apply h w a t
    rw [hq]
    simp [lastSome, hl, mention, hnew]
  | some o =>
    cases o with
    | none => left; apply h w a t; rw [hq]; exact lastSome_cons _ _ _ _ hl
    | some r =>
      right
      obtain ⟨e, he, hm⟩ := lastSome_mem _ _ _ hl
      cases e with
      | procResults a' rs' =>
        simp only [mention] at hm
        split at hm
        · rename_i haa; subst haa; exact ⟨rs', r, he, hm⟩
        · cases hm
      | _ => simp [mention] at hm

theorem queryTargets_none_registered (a : Pid) (ts : List Pid) (w : WorkerSt) (t : Pid)
    (h : alookup (queryTargets w a ts).2 t = some none) : a ∈ (queryTargets w a ts).1.awaitersFor t := by
  have q := queryTargets_spec' a ts w
  rw [q.ans t] at h
  split at h
  · exact (q.reg a t).2 (.inr ⟨rfl, ‹_›, Option.some.inj h⟩)
  · cases h

theorem mention_report (a t a' t' : Pid) (r : Res) :
    mention a t (.procResults a' [(t', some r)]) = if a' = a ∧ t' = t then some (some r) else none := by
  simp only [mention, alookup]
  by_cases ha : a' = a <;> by_cases ht : t' = t <;> simp [ha, ht]

/-- `PlaceholderLast` for one worker with its event queue -/
def PhLast (w : WorkerSt) (q : List Evt) : Prop := ∀ a t, lastSome (mention a t) q = some none → a ∈ w.awaitersFor t

theorem PhLast.wstep {prog : Prog} {now : Nat} {w : WorkerSt} {q : List Evt} {oc : Option Cmd} {o : Out}
    (hw : WStep Rules.current prog now w oc o) (h : PhLast w q) : PhLast o.wk (q ++ o.evs) := by
  have quiet : (∀ a t, a ∈ w.awaitersFor t → a ∈ o.wk.awaitersFor t) → (∀ e ∈ o.evs, ∀ a t, mention a t e = none) →
      PhLast o.wk (q ++ o.evs) := fun haw hno a t hl =>
    haw a t (h a t (by rwa [lastSome_append_none _ _ _ (fun e he => hno e he a t)] at hl))
  cases hw with
  | cmd hc =>
    rcases hc.case.regs_or_query with ⟨regs, hev⟩ | ⟨a, ts, _, e1, e2⟩
    · exact quiet (fun _ _ h => regs.awaitersFor ▸ h) (fun e he _ _ => by obtain ⟨_, _, rfl⟩ := hev e he; rfl)
    · -- the answer of `query_and_await`: a placeholder in it comes with a registration
      rw [e1, e2]
      intro a' t hl
      rw [lastSome_append_single] at hl
      cases hm : mention a' t (Evt.procResults a (queryTargets w a ts).2) with
      | none => rw [hm] at hl; exact ((queryTargets_spec' a ts w).reg a' t).2 (.inl (h a' t hl))
      | some o' =>
        rw [hm] at hl
        cases hl
        simp only [mention] at hm
        split at hm
        · rename_i haa; subst haa; exact queryTargets_none_registered _ ts _ t hm
        · cases hm
  | exec he =>
    refine quiet (fun _ _ h => he.case.regs.awaitersFor ▸ h) (fun e he' a t => ?_)
    cases e with
    | procResults a' rs => exact absurd he' (he.no_results a' rs)
    | _ => rfl
  | check ordE =>
    have c := ChkOut.check w ordE
    intro a t hl
    rw [lastSome_append] at hl
    cases hl2 : lastSome (mention a t) (checkOut w ordE).evs with
    | some b =>
      -- a report is never a placeholder
      rw [hl2] at hl
      cases hl
      obtain ⟨e, he, hm⟩ := lastSome_mem _ _ _ hl2
      rcases c.evs e he with ⟨a', t', r, rfl, _⟩ | ⟨_, _, rfl⟩
      · rw [mention_report] at hm; split at hm <;> cases hm
      · cases hm
    | none =>
      rw [hl2] at hl
      have hreg := h a t hl
      rcases c.reg t with e | ⟨_, _, r, _, hall⟩
      · rw [e]; exact hreg
      · -- the registration was cleared: then the report to `a` is among the events, and mentions `(a, t)`
        have := (lastSome_eq_none_iff _ _).1 hl2 _ (hall a hreg)
        rw [mention_report, if_pos ⟨rfl, rfl⟩] at this
        cases this

theorem PlaceholderLast.micro {s : Sys} (h : PlaceholderLast s) (m : Micro) : PlaceholderLast (microStep Rules.current s m) :=
  Step.micro (G := PlaceholderLast) (fun _ _ h hs =>
    hs.local_invariant (Q := PhLast) (fun _ _ _ h a t hl => h a t (lastSome_cons _ _ _ _ hl)) (fun _ _ _ _ _ _ => PhLast.wstep) h) h m

/-- `EvtKeysNodup` for one event queue -/
def KeysNodup (q : List Evt) : Prop := ∀ a rs, Evt.procResults a rs ∈ q → (rs.map (·.1)).Nodup

theorem KeysNodup.wstep {prog : Prog} {now : Nat} {w : WorkerSt} {q : List Evt} {oc : Option Cmd} {o : Out}
    (hw : WStep Rules.current prog now w oc o) (h : KeysNodup q) : KeysNodup (q ++ o.evs) := by
  intro a rs hm
  refine (List.mem_append.1 hm).elim (h a rs) fun hm => ?_
  cases hw with
  | cmd hc =>
    rcases hc.case.regs_or_query with ⟨_, hev⟩ | ⟨a0, ts, _, _, e2⟩
    · obtain ⟨_, _, h1⟩ := hev _ hm; cases h1
    · rw [e2] at hm
      cases List.mem_singleton.1 hm
      exact (queryTargets_spec' _ _ _).nodup
  | exec he => exact absurd hm (he.no_results a rs)
  | check ordE =>
    rcases (ChkOut.check w ordE).evs _ hm with ⟨_, _, _, e, _⟩ | ⟨_, _, e⟩ <;> cases e
    simp

theorem EvtKeysNodup.micro {s : Sys} (h : EvtKeysNodup s) (m : Micro) : EvtKeysNodup (microStep Rules.current s m) :=
  Step.micro (G := EvtKeysNodup) (fun _ _ h hs =>
    hs.local_invariant (Q := fun _ q => KeysNodup q) (fun _ _ _ h a rs hm => h a rs (List.mem_cons_of_mem _ hm))
      (fun _ _ _ _ _ _ => KeysNodup.wstep) h) h m

/-- the `awaiting` map of `x` is empty outside a select and holds only targets of the select `x` is in -/
structure PK (prog : Prog) (x : Proc) : Prop where
  atSel : x.selInit = true → ∃ srcs, currentSelect prog x = some srcs
  idle : x.selInit = false → x.awaiting = []
  keys : ∀ srcs, x.selInit = true → currentSelect prog x = some srcs → ∀ kv ∈ x.awaiting, kv.1 ∈ selTargets x srcs

theorem selTargets_congr {x x' : Proc} (h3 : x'.regs = x.regs) : ∀ srcs, selTargets x' srcs = selTargets x srcs := by
  intro srcs; induction srcs with
  | nil => rfl
  | cons s rest ih => cases s <;> simp [selTargets, ih, Proc.reg, h3]

theorem PK.congr {prog : Prog} {x x' : Proc} (h : PK prog x) (h1 : x'.fn = x.fn) (h2 : x'.pc = x.pc) (h3 : x'.regs = x.regs)
    (h4 : x'.selInit = x.selInit) (h5 : x'.awaiting = x.awaiting) : PK prog x' := by
  have hc : currentSelect prog x' = currentSelect prog x := by simp [currentSelect, Proc.script, h1, h2]
  exact ⟨(by rw [h4, hc]; exact h.atSel), (by rw [h4, h5]; exact h.idle),
    (by intro srcs; rw [h4, hc, h5, selTargets_congr h3]; exact h.keys srcs)⟩

theorem PK.not_at_select {prog : Prog} {x : Proc} (h : PK prog x) (hn : currentSelect prog x = none) : x.selInit = false := by
  cases hs : x.selInit with
  | false => rfl
  | true => obtain ⟨srcs, h1⟩ := h.atSel hs; rw [hn] at h1; cases h1

theorem PK.of_idle {prog : Prog} {x : Proc} (h1 : x.selInit = false) (h2 : x.awaiting = []) : PK prog x :=
  ⟨(by intro h; rw [h1] at h; cases h), fun _ => h2, (by intro _ h; rw [h1] at h; cases h)⟩

theorem SliceW.pk {prog : Prog} {now : Nat} {self : Pid} {p p' : Proc} {out : Outcome} (h : SliceW prog now self p p' out) :
    PK prog p → PK prog p' ∧ (∀ fn regs, out = .spawn fn regs → p'.selInit = false) ∧
      (∀ ts, out = .awaitInit ts → ∀ kv ∈ p'.awaiting, kv.1 ∈ ts) := by
  -- an instruction other than `Select` is executed outside a select
  have idle : ∀ {p : Proc} (a : Act), PK prog p → (p.script prog)[p.pc]? = some a → (∀ srcs, a ≠ .select srcs) →
      p.selInit = false := fun a hp hi ha =>
    hp.not_at_select (by simp only [currentSelect, hi]; cases a <;> first | rfl | exact absurd rfl (ha _))
  induction h with
  | cont | done | selGate => exact fun hp => ⟨hp, nofun, nofun⟩
  | @send p _ _ _ hi =>
    exact fun hp => ⟨PK.of_idle (idle (p := p) _ hp hi nofun) (hp.idle (idle _ hp hi nofun)), nofun, nofun⟩
  | respawn | fail | selFail | selNo => exact fun hp => ⟨hp.congr rfl rfl rfl rfl rfl, nofun, nofun⟩
  | @spawn p _ _ hi _ => exact fun hp => ⟨hp.congr rfl rfl rfl rfl rfl, fun _ _ _ => idle (p := p) _ hp hi nofun, nofun⟩
  | @selAwait p srcs hi h0 _ =>
    intro hp
    have h0 : p.selInit = false := by simpa using h0
    have hkeys : ∀ kv ∈ (selTargets p srcs).foldl (fun a t => ainsert a t none) p.awaiting, kv.1 ∈ selTargets p srcs := by
      intro kv hkv
      rcases mem_foldl_ainsert_none _ _ kv hkv with h1 | h1
      · rw [hp.idle h0] at h1; cases h1
      · exact h1
    have hcs : currentSelect prog p = some srcs := by simp only [currentSelect, hi]
    refine ⟨⟨fun _ => ⟨srcs, hcs⟩, nofun, fun srcs' _ hc' kv hkv => ?_⟩, nofun, fun ts h kv hkv => ?_⟩
    · cases hcs.symm.trans hc'
      show kv.1 ∈ selTargets (_ : Proc) srcs
      rw [selTargets_congr (x := p) (by rfl) srcs]
      exact hkeys kv hkv
    · cases h
      exact hkeys kv hkv
  | @selStart p _ _ srcs hi h0 _ _ ih =>
    intro hp
    have h0 : p.selInit = false := by simpa using h0
    have hcs : currentSelect prog p = some srcs := by simp only [currentSelect, hi]
    exact ih ⟨fun _ => ⟨srcs, hcs⟩, nofun,
      fun _ _ _ kv hkv => by rw [show _ = p.awaiting from rfl, hp.idle h0] at hkv; cases hkv⟩
  | @selYes p _ _ srcs v mb hi h1 _ _ _ ih =>
    intro hp
    have h1 : p.selInit = true := by simpa using h1
    have hcs : currentSelect prog p = some srcs := by simp only [currentSelect, hi]
    exact ih (PK.of_idle rfl (List.filter_eq_nil_iff.mpr fun kv hkv => by simp [hp.keys srcs h1 hcs kv hkv]))

theorem slice_PK (prog : Prog) (now : Nat) (self : Pid) (fuel : Nat) (p : Proc) (res : Proc × Outcome)
    (hres : slice prog now self fuel p = res) (hp : PK prog p) :
    PK prog res.1 ∧ (∀ fn regs, res.2 = .spawn fn regs → res.1.selInit = false) ∧
      (∀ ts, res.2 = .awaitInit ts → ∀ kv ∈ res.1.awaiting, kv.1 ∈ ts) :=
  hres ▸ (slice_view prog now self fuel p).pk hp

/-- `x'` is `x` with (possibly) values stored under EXISTING await keys and other bookkeeping changed; control
state, registers and select state are the same -/
structure SameSel (x x' : Proc) : Prop where
  fn : x'.fn = x.fn
  pc : x'.pc = x.pc
  regs : x'.regs = x.regs
  sel : x'.selInit = x.selInit
  keys : ∀ kv ∈ x'.awaiting, kv.1 ∈ x.awaiting.map (·.1)
  /-- a result is only ever set, never taken back -/
  res : x'.result = none → x.result = none

theorem SameSel.refl (x : Proc) : SameSel x x := ⟨rfl, rfl, rfl, rfl, fun kv h => List.mem_map.mpr ⟨kv, h, rfl⟩, id⟩

theorem PK.sameSel {prog : Prog} {x x' : Proc} (h : PK prog x) (hs : SameSel x x') : PK prog x' := by
  have hc : currentSelect prog x' = currentSelect prog x := by simp [currentSelect, Proc.script, hs.fn, hs.pc]
  refine ⟨(by rw [hs.sel, hc]; exact h.atSel), ?_, ?_⟩
  · intro h0
    rw [hs.sel] at h0
    have := h.idle h0
    apply List.eq_nil_iff_forall_not_mem.mpr
    intro kv hkv
    have := hs.keys kv hkv
    simp_all
  · intro srcs h1 h2 kv hkv
    rw [hs.sel] at h1; rw [hc] at h2
    obtain ⟨kv1, h3, h4⟩ := List.mem_map.mp (hs.keys kv hkv)
    rw [selTargets_congr hs.regs, ← h4]
    exact h.keys srcs h1 h2 kv1 h3

theorem SameSel.of_keys {x x' : Proc} (hc : SameCtl x x')
    (hk : ∀ k, (alookup x'.awaiting k).isSome = (alookup x.awaiting k).isSome) (hr : x'.result = none → x.result = none) :
    SameSel x x' := by
  refine ⟨hc.fn, hc.pc, hc.regs, hc.sel, fun kv hkv => ?_, hr⟩
  apply alookup_isSome_iff.mp
  rw [← hk]
  exact alookup_isSome_iff.mpr (List.mem_map.mpr ⟨kv, hkv, rfl⟩)

theorem SameSel.of_keeps {x x' : Proc} (hk : Keeps x x') (hc : SameCtl x x') : SameSel x x' :=
  .of_keys hc hk.keys fun h => hk.result ▸ h

theorem applyResults_sameSel (a : Pid) (rs : Results) (w : WorkerSt) (b : Pid) (y : Proc) (hy : w.procs b = some y) :
    ∃ y', (applyResults w a rs).procs b = some y' ∧ SameSel y y' := by
  by_cases hb : b = a
  · subst hb
    obtain ⟨y', h1, h2, hc, _⟩ := applyResults_keeps b rs w y hy
    exact ⟨y', h1, .of_keeps h2 hc⟩
  · exact ⟨y, (applyResults_other a rs w b hb).trans hy, SameSel.refl y⟩

/-- **No leftover await keys, system level**: every process record satisfies `PK`, and a process parked in
`spawning` is not inside a select -/
structure PKInv (s : Sys) : Prop where
  pk : ∀ w p x, (s.wk w).procs p = some x → PK s.prog x
  sp : ∀ w p x, (s.wk w).procs p = some x → p ∈ (s.wk w).spawning → x.selInit = false

/-- what a step of a worker may do to its process records: every record afterwards is a `SameSel` image of the old
one (and not newly in `spawning`), or satisfies `PK` and is outside a select if in `spawning` -/
def PKKept (prog : Prog) (w w' : WorkerSt) : Prop :=
  ∀ p x', w'.procs p = some x' →
    (∃ x, w.procs p = some x ∧ SameSel x x' ∧ (p ∈ w'.spawning → p ∈ w.spawning)) ∨
    (PK prog x' ∧ (p ∈ w'.spawning → x'.selInit = false))

theorem PKKept.of_eq {prog : Prog} {w w' : WorkerSt} (hp : w'.procs = w.procs) (hs : ∀ q ∈ w'.spawning, q ∈ w.spawning) :
    PKKept prog w w' :=
  fun p x' hx => .inl ⟨x', hp ▸ hx, SameSel.refl x', hs p⟩

theorem PKKept.put {prog : Prog} {w w' : WorkerSt} {p : Pid} {x' : Proc} (hp : w'.procs = upd w.procs p (some x'))
    (hs : ∀ q ∈ w'.spawning, q ≠ p → q ∈ w.spawning)
    (h : (∃ x, w.procs p = some x ∧ SameSel x x' ∧ (p ∈ w'.spawning → p ∈ w.spawning)) ∨
      (PK prog x' ∧ (p ∈ w'.spawning → x'.selInit = false))) : PKKept prog w w' := by
  intro q y' hy
  rw [hp] at hy
  rcases upd_some hy with ⟨rfl, rfl⟩ | ⟨hq, hy⟩
  · exact h
  · exact .inl ⟨y', hy, SameSel.refl y', fun hm => hs q hm hq⟩

/-- `PKInv` for one worker -/
def PKW (prog : Prog) (w : WorkerSt) : Prop :=
  ∀ p x, w.procs p = some x → PK prog x ∧ (p ∈ w.spawning → x.selInit = false)

theorem PKW.kept {prog : Prog} {w w' : WorkerSt} (h : PKW prog w) (hp : PKKept prog w w') : PKW prog w' := by
  intro p x' hx
  rcases hp p x' hx with ⟨x, h1, h2, h3⟩ | h1
  · exact ⟨(h p x h1).1.sameSel h2, fun hsp => h2.sel ▸ (h p x h1).2 (h3 hsp)⟩
  · exact h1

theorem finish_sel (w : WorkerSt) (cur : Pid) (x : Proc) (ordQ : List Pid) (b : Pid) (y' : Proc)
    (hy : (w.finish cur x ordQ).procs b = some y') :
    (y'.selInit = false ∧ y'.awaiting = []) ∨ (b = cur ∧ SameSel x y') ∨ (b ≠ cur ∧ ∃ y, w.procs b = some y ∧ SameSel y y') := by
  rcases finish_procs w cur x ordQ b y' hy with ⟨hb, hres, hrel | ⟨hc, hkeys⟩⟩ | ⟨hb, y, h1, h2, hc⟩
  · exact .inl hrel
  · exact .inr (.inl ⟨hb, .of_keys hc hkeys fun h => nomatch hres.symm.trans h⟩)
  · exact .inr (.inr ⟨hb, y, h1, .of_keeps h2 hc⟩)

/-- "Parked in `spawning` ⇒ outside a select" is inductive because a process enters `spawning` only from its own slice, which
then ended at a Spawn instruction (`SliceW.pk`), and leaves it only through NotifySpawn. `hsched` (the pid at the front of the
run queue is not in `spawning`) makes the running process the only one that can enter; `hcmd` (a NotifySpawn at the head finds
its caller in `spawning`: C04's spawn pairing) says the record NotifySpawn advances is outside a select. -/
theorem PKW.wstep {prog : Prog} {now : Nat} {w : WorkerSt} {oc : Option Cmd} {o : Out}
    (hw : WStep Rules.current prog now w oc o) (h : PKW prog w)
    (hsched : ∀ ordQ cur, cur ∈ (w.checkExpired prog now ordQ).queue → cur ∉ w.spawning)
    (hcmd : ∀ c, oc = some c → (∀ p fn, c ≠ .resume p fn) ∧ ∀ caller np, c = .notifySpawn caller np → caller ∈ w.spawning) :
    PKW prog o.wk := by
  refine h.kept ?_
  cases hw with
  | @cmd c _ hc =>
    have hcase := hc.case
    generalize o.wk = w' at hcase ⊢
    generalize o.evs = evs at hcase
    generalize o.appended = app at hcase
    cases hcase with
    | same _ _ procs spawning =>
      refine .of_eq procs fun q hm => ?_
      rcases spawning with e | ⟨_, _, _, _, e⟩ <;> rw [e] at hm
      · exact hm
      · exact (mem_serase.1 hm).1
    | start procs spawning | spawn procs spawning =>
      exact .put procs (fun _ hm _ => spawning ▸ hm) (.inr ⟨PK.of_idle rfl rfl, fun _ => rfl⟩)
    | resume _ => exact absurd rfl ((hcmd _ rfl).1 _ _)
    | spawned hx procs spawning _ =>
      -- the caller is parked in `spawning`, hence outside a select and without await keys
      have hsel := (h _ _ hx).2 ((hcmd _ rfl).2 _ _ rfl)
      exact .put procs (fun q hm _ => (mem_serase.1 (spawning ▸ hm)).1)
        (.inr ⟨PK.of_idle hsel ((h _ _ hx).1.idle hsel), fun _ => hsel⟩)
    | mail hx procs spawning _ =>
      exact .put procs (fun _ hm _ => spawning ▸ hm)
        (.inl ⟨_, hx, ⟨rfl, rfl, rfl, rfl, fun kv hkv => List.mem_map.mpr ⟨kv, hkv, rfl⟩, id⟩, fun hm => spawning ▸ hm⟩)
    | query =>
      exact .of_eq (queryTargets_spec' _ _ _).procs (fun _ hm => (queryTargets_spec' _ _ _).spawning ▸ hm)
    | @update a rs _ procs spawning _ =>
      intro q x' hx
      rw [procs] at hx
      obtain ⟨x0, hp0⟩ := applyResults_some hx
      obtain ⟨y', e1, e2⟩ := applyResults_sameSel a rs w q x0 hp0
      cases e1.symm.trans hx
      exact .inl ⟨x0, hp0, e2, fun hm => spawning ▸ hm⟩
  | @exec fuel ordQ _ he =>
    have hcase := he.case
    generalize o.wk = w' at hcase ⊢
    generalize o.evs = evs at hcase
    cases hcase with
    | idle procs spawning _ => exact .of_eq procs (fun _ hm => spawning ▸ hm)
    | ran front hx hsl _ procs spawning _ =>
      obtain ⟨hpk', hspn, _⟩ := slice_PK prog now _ fuel _ _ hsl (h _ _ hx).1
      refine .put procs (fun q hm hne => (spawning q hm).resolve_right (fun e => hne e.1)) (.inr ⟨hpk', fun hm => ?_⟩)
      rcases spawning _ hm with h1 | ⟨_, fn, regs, e⟩
      · exact absurd h1 (hsched _ _ front)
      · exact hspn fn regs e
    | @fin w1 cur x xf _ front hx hxf procs spawning _ _ =>
      have hpk : PK prog xf := by
        rcases hxf with ⟨_, rfl⟩ | ⟨out, hsl, _⟩
        · exact (h _ _ hx).1
        · exact (slice_PK prog now _ fuel _ _ hsl (h _ _ hx).1).1
      intro p y' hy
      rw [finish_spawning, spawning]
      rcases finish_sel w1 cur xf ordQ p y' hy with ⟨h1, h2⟩ | ⟨rfl, h2⟩ | ⟨hne, y, h2, h3⟩
      · exact .inr ⟨PK.of_idle h1 h2, fun _ => h1⟩
      · exact .inr ⟨hpk.sameSel h2, fun hm => absurd hm (hsched _ _ front)⟩
      · rw [procs, upd_other _ _ _ _ hne] at h2
        exact .inl ⟨y, h2, h3, id⟩
  | check ordE => exact .of_eq (ChkOut.check w ordE).procs (fun _ hm => (ChkOut.check w ordE).spawning ▸ hm)

theorem PKInv.pw {s : Sys} (h : PKInv s) (w : Wid) : PKW s.prog (s.wk w) := fun p x hx => ⟨h.pk w p x hx, h.sp w p x hx⟩

theorem PKInv.micro {s : Sys} (hr : RInv s) (hw : WInv s) (h : PKInv s) (m : Micro) : PKInv (microStep Rules.current s m) := by
  refine microStep_cases h (fun s' hs => ?_) m
  · have key := hs.local_invariant_at (Q := fun w _ => PKW s.prog w) (fun _ _ _ h => h) h.pw fun i oc o hws hhead =>
      PKW.wstep hws (h.pw i) (fun ordQ cur hq => (((hw.si.sched i).checkExpired _ _ _).dqs cur hq).1)
        (fun c e => let ⟨_, hq⟩ := hhead c e
          ⟨hr.head_not_resume hq, fun _ np e => spair_notify_parked hw.pair (p := np) (e ▸ hq ▸ List.mem_cons_self)⟩)
    rw [← hs.prog] at key
    exact ⟨fun w p x hx => (key w p x hx).1, fun w p x hx => (key w p x hx).2⟩

theorem PKInv.of_started {s : Sys} (h : Started s) : PKInv s := by
  have hp : ∀ w p x, (s.wk w).procs p = some x → x.selInit = false ∧ x.awaiting = [] := by
    intro w p x hx
    rw [h.procs w p] at hx
    split at hx
    · cases hx; exact ⟨rfl, rfl⟩
    · cases hx
  exact ⟨fun w p x hx => PK.of_idle (hp w p x hx).1 (hp w p x hx).2, fun w p x hx _ => (hp w p x hx).1⟩

theorem SameSel.still {x x' : Proc} (h : SameSel x x') (t : Pid) (hs : x'.stillAwaiting t = true) : x.stillAwaiting t = true := by
  simp only [Proc.stillAwaiting, Bool.and_eq_true, Option.isNone_iff_eq_none] at hs ⊢
  refine ⟨h.res hs.1, ?_⟩
  obtain ⟨kv, h1, h2⟩ := List.mem_map.mp (alookup_isSome_iff.mp hs.2)
  apply alookup_isSome_iff.mpr
  rw [← h2]; exact h.keys kv h1

/-- the targets named by an AwaitAction of `a` -/
def awaitOf (a : Pid) : Evt → Option (List Pid)
  | .await a' ts => if a' = a then some ts else none
  | _ => none

/-- the LAST AwaitAction of `a` in its worker's event queue names every target `a` still awaits -/
def AwaitLast (s : Sys) : Prop :=
  ∀ w a ts, lastSome (awaitOf a) (s.evtQ w) = some ts →
    ∀ x t, (s.wk w).procs a = some x → x.stillAwaiting t = true → t ∈ ts

theorem AwaitLast.order {s : Sys} (hr : RInv s) (h : AwaitLast s) : AwaitOrder s := by
  intro w a ts rest hq wa x t hx hs
  have hmem : Evt.await a ts ∈ s.evtQ w := by rw [hq]; simp
  have hrt : s.env.router a = some w := (hr.evts w _ hmem).1
  have hpl : s.env.router a = some wa := hr.placed wa a (by simp [known, hx])
  rw [hrt] at hpl; simp only [Option.some.injEq] at hpl; subst hpl
  cases hl : lastSome (awaitOf a) rest with
  | none =>
    left
    apply h w a ts _ x t hx hs
    rw [hq]; simp [lastSome, hl, awaitOf]
  | some ts' =>
    right
    obtain ⟨e, he, hm⟩ := lastSome_mem _ _ _ hl
    have := h w a ts' (by rw [hq]; exact lastSome_cons _ _ _ _ hl) x t hx hs
    cases e with
    | await a' ts'' =>
      simp only [awaitOf] at hm
      split at hm
      · rename_i haa; subst haa
        simp only [Option.some.injEq] at hm; subst hm
        exact ⟨_, he, this⟩
      · cases hm
    | _ => simp [awaitOf] at hm

/-- `AwaitLast` for one worker with its event queue -/
def AwLast (w : WorkerSt) (q : List Evt) : Prop :=
  ∀ a ts, lastSome (awaitOf a) q = some ts → ∀ x t, w.procs a = some x → x.stillAwaiting t = true → t ∈ ts

theorem AwLast.old {w : WorkerSt} {q evs : List Evt} (h : AwLast w q) {a : Pid} (hno : ∀ e ∈ evs, awaitOf a e = none)
    {ts : List Pid} (hl : lastSome (awaitOf a) (q ++ evs) = some ts) {y : Proc} {t : Pid} (h1 : w.procs a = some y)
    (h2 : y.stillAwaiting t = true) : t ∈ ts :=
  h a ts (by rwa [lastSome_append_none _ _ _ hno] at hl) y t h1 h2

theorem AwLast.exec {prog : Prog} {now fuel : Nat} {ordQ : List Pid} {w w' : WorkerSt} {q evs : List Evt}
    (hc : ExecCase prog now fuel ordQ w w' evs) (h : AwLast w q) (hpk : ∀ a x, w.procs a = some x → PK prog x) :
    AwLast w' (q ++ evs) := by
  intro a ts hl y' t hy hs
  cases hc with
  | idle procs _ _ => exact h.old (fun _ he => by cases he) hl (procs ▸ hy) hs
  | @ran _ cur x x' out _ hx hsl _ procs _ _ =>
    rw [procs] at hy
    by_cases hac : a = cur
    · subst hac
      cases (upd_same w.procs a (some x')).symm.trans hy
      by_cases hout : ∃ ts0, out = .awaitInit ts0
      · -- the select has just been initialised: its keys are the targets named in the AwaitAction
        obtain ⟨ts0, rfl⟩ := hout
        rw [show Outcome.evts a (.awaitInit ts0) = [.await a ts0] from rfl, lastSome_append_single] at hl
        simp only [awaitOf, if_true, Option.some.injEq] at hl
        subst hl
        obtain ⟨_, _, hkeys⟩ := slice_PK prog now a fuel x _ hsl (hpk a x hx)
        simp only [Proc.stillAwaiting, Bool.and_eq_true] at hs
        obtain ⟨kv, k1, k2⟩ := List.mem_map.mp (alookup_isSome_iff.mp hs.2)
        exact k2 ▸ hkeys ts0 rfl kv k1
      · rcases slice_awaits prog now a fuel x _ hsl t hs with ⟨ts0, e1, _⟩ | ⟨e1, _⟩
        · exact absurd ⟨ts0, e1⟩ hout
        · refine h.old (fun e he => ?_) hl hx e1
          rcases Outcome.mem_evts he with ⟨_, _, rfl⟩ | ⟨_, _, rfl⟩ | ⟨ts0, e2, _⟩
          · rfl
          · rfl
          · exact absurd ⟨ts0, e2⟩ hout
    · rw [upd_other _ _ _ _ hac] at hy
      refine h.old (fun e he => ?_) hl hy hs
      rcases Outcome.mem_evts he with ⟨_, _, rfl⟩ | ⟨_, _, rfl⟩ | ⟨ts0, _, rfl⟩
      · rfl
      · rfl
      · exact if_neg (Ne.symm hac)
  | @fin w1 cur x xf _ _ hx hxf procs _ _ hevs =>
    have hno : ∀ e ∈ evs, awaitOf a e = none := by
      intro e he
      rcases hevs with rfl | rfl
      · cases he
      · cases List.mem_singleton.1 he; rfl
    rcases finish_sel w1 cur xf ordQ a y' hy with ⟨_, h2⟩ | ⟨rfl, h2⟩ | ⟨hne, y, h2, h3⟩
    · simp [Proc.stillAwaiting, h2, alookup] at hs
    · -- the finishing process itself: what it awaits it awaited before its last slice
      rcases hxf with ⟨_, rfl⟩ | ⟨out, hsl, hout⟩
      · exact h.old hno hl hx (h2.still t hs)
      · rcases slice_awaits prog now a fuel x _ hsl t (h2.still t hs) with ⟨ts0, e1, _⟩ | ⟨e1, _⟩
        · rcases hout with rfl | rfl <;> cases e1
        · exact h.old hno hl hx e1
    · rw [procs, upd_other _ _ _ _ hne] at h2
      exact h.old hno hl h2 (h3.still t hs)

theorem AwLast.wstep {prog : Prog} {now : Nat} {w : WorkerSt} {q : List Evt} {oc : Option Cmd} {o : Out}
    (hw : WStep Rules.current prog now w oc o) (h : AwLast w q) (hpk : ∀ a x, w.procs a = some x → PK prog x)
    (hnr : ∀ c, oc = some c → ∀ p fn, c ≠ .resume p fn) : AwLast o.wk (q ++ o.evs) := by
  cases hw with
  | cmd hc =>
    intro a ts hl y' t hy hs
    obtain ⟨x, h1, h2, _⟩ := (cmdRel hc.case (hnr _ rfl)).procs a y' t hy hs
    refine h.old (fun e he => ?_) hl h1 h2
    rcases hc.case.regs_or_query with ⟨_, hev⟩ | ⟨_, _, _, _, e2⟩
    · obtain ⟨_, _, rfl⟩ := hev e he; rfl
    · rw [e2] at he; cases List.mem_singleton.1 he; rfl
  | exec he => exact AwLast.exec he.case h hpk
  | check ordE =>
    intro a ts hl y' t hy hs
    refine h.old (fun e he => ?_) hl ((ChkOut.check w ordE).procs ▸ hy) hs
    rcases (ChkOut.check w ordE).evs e he with ⟨_, _, _, rfl, _⟩ | ⟨_, _, rfl⟩ <;> rfl

theorem AwaitLast.micro {s : Sys} (hr : RInv s) (hk : PKInv s) (h : AwaitLast s) (m : Micro) :
    AwaitLast (microStep Rules.current s m) := by
  refine microStep_cases h (fun s' hs => ?_) m
  · exact hs.local_invariant_at (Q := AwLast) (fun _ _ _ h a ts hl => h a ts (lastSome_cons _ _ _ _ hl)) h fun i oc o hws hhead =>
      AwLast.wstep hws (h i) (hk.pk i) fun c e => let ⟨_, hq⟩ := hhead c e; hr.head_not_resume hq

/-- an awaiter is registered for `t` only at the worker `t` is routed to -/
def RegHome (s : Sys) : Prop := ∀ w t a, a ∈ (s.wk w).awaitersFor t → s.env.router t = some w

theorem RegHome.micro {s : Sys} (hr : RInv s) (h : RegHome s) (m : Micro) : RegHome (microStep Rules.current s m) := by
  refine microStep_cases h (fun s' hs => ?_) m
  have work : ∀ (s0 : Sys) (i : Wid) (o : Out), s0.wk = s.wk → s0.env = s.env →
      (∀ t a, a ∈ o.wk.awaitersFor t → a ∈ (s.wk i).awaitersFor t ∨ s.env.router t = some i) → RegHome (s0.commit i o) := by
    intro s0 i o h1 h2 hreg w t a ha
    show s0.env.router t = some w
    rw [h2]
    by_cases hw : w = i
    · subst hw; rw [commit_wk_self] at ha; exact (hreg t a ha).elim (h w t a) id
    · rw [commit_wk_other _ _ hw, h1] at ha; exact h w t a ha
  cases hs with
  | @env w0 e rest hq =>
    have eff : EnvPop s (handleEventWith Rules.current.combine _ e) w0 e rest := envPop s w0 e rest
    intro w t a ha
    rw [eff.wk] at ha
    rcases eff.router with hrt | ⟨w1, hrt⟩ <;> rw [hrt]
    · exact h w t a ha
    · exact ext_insert_fresh hr w1 t w (h w t a ha)
  | fault => exact h
  | @cmd i c rest o hq hc =>
    refine work _ i o rfl rfl fun t a ha => ?_
    rcases hc.case.regs_or_query with ⟨regs, _⟩ | ⟨a0, ts, rfl, e1, _⟩
    · exact .inl (regs.awaitersFor ▸ ha)
    · -- a new registration is for a target of the query, which the environment sent to the target's worker
      rw [e1] at ha
      refine (((queryTargets_spec' a0 ts _).reg a t).1 ha).imp id (fun ⟨_, ht, _⟩ => ?_)
      have hok : CmdOK s.env.router s.prog.length (known s i) i (Cmd.queryAwait a0 ts) :=
        hr.cmds i _ (by rw [hq]; exact List.mem_cons_self)
      exact hok.2 t ht
  | exec he => exact work s _ _ rfl rfl fun _ _ ha => .inl (he.case.regs.awaitersFor ▸ ha)
  | check i ordE => exact work s i _ rfl rfl fun _ _ ha => .inl ((ChkOut.check _ ordE).awaitersFor ha)
  | tick => exact h

/-- a pending await still expects an answer from some worker -/
def PendNe (s : Sys) : Prop := ∀ a pa, s.env.pending a = some pa → pa.expected ≠ []

theorem PendNe.micro {s : Sys} (hw : WInv s) (h : PendNe s) (m : Micro) : PendNe (microStep Rules.current s m) := by
  refine microStep_cases h (fun s' hs => ?_) m
  cases hs with
  | @env w0 e rest hq =>
    intro a pa hp
    rcases (envPop s w0 e rest).pendNew a pa (show (handleEventWith mergeAnswer _ e).env.pending a = some pa from hp) with
      hold | hne | ⟨ts, rfl, hrt, hexp⟩
    · exact h a pa hold
    · exact hne
    · -- a fresh entry: the AwaitAction names at least one target, and every target is routed
      rw [hexp]
      exact targetWorkers_ne_nil (hw.core.neA w0 a ts (by rw [hq]; exact List.mem_cons_self)) hrt
  | fault | cmd | exec | check | tick => exact h

/-- a registration is always for an `awaited` target (micro-step invariant) -/
def RegAwaited (s : Sys) : Prop := ∀ w t, (s.wk w).awaitersFor t ≠ [] → t ∈ (s.wk w).awaited

theorem queryTargets_regAwaited (a : Pid) (ts : List Pid) (w : WorkerSt)
    (h : ∀ t, w.awaitersFor t ≠ [] → t ∈ w.awaited) (t : Pid) (ht : (queryTargets w a ts).1.awaitersFor t ≠ []) :
    t ∈ (queryTargets w a ts).1.awaited := by
  have q := queryTargets_spec' a ts w
  obtain ⟨b, hb⟩ := List.exists_mem_of_ne_nil _ ht
  rw [q.awaited]
  exact ((q.reg b t).1 hb).imp (fun h1 => h t (List.ne_nil_of_mem h1)) (·.2)

/-- `RegAwaited` for one worker -/
def RegAw (w : WorkerSt) : Prop := ∀ t, w.awaitersFor t ≠ [] → t ∈ w.awaited

/-- a target that still has awaiters after the completion check was awaited and has no result -/
theorem checkOut_registered {w : WorkerSt} (h : RegAw w) {ordE : List Pid} {t : Pid}
    (ht : (checkOut w ordE).wk.awaitersFor t ≠ []) : t ∈ w.awaited ∧ w.resultOf t = none := by
  rw [checkOut_awaitersFor] at ht
  split at ht
  · exact absurd rfl ht
  · rename_i hn
    refine ⟨h t ht, ?_⟩
    cases hr : w.resultOf t with
    | none => rfl
    | some r => exact absurd ⟨h t ht, by rw [hr]; rfl⟩ hn

theorem RegAw.wstep {prog : Prog} {now : Nat} {w : WorkerSt} {oc : Option Cmd} {o : Out}
    (hw : WStep Rules.current prog now w oc o) (h : RegAw w) : RegAw o.wk := by
  have keep : SameRegs w o.wk → RegAw o.wk := fun regs t ht => regs.awaited ▸ h t (regs.awaitersFor ▸ ht)
  cases hw with
  | cmd hc =>
    rcases hc.case.regs_or_query with ⟨regs, _⟩ | ⟨a0, ts, _, e1, _⟩
    · exact keep regs
    · rw [e1]; exact queryTargets_regAwaited a0 ts _ h
  | exec he => exact keep he.case.regs
  | check ordE => exact fun t ht => (mem_checkOut_awaited w ordE t).2 (checkOut_registered h ht)

theorem RegAwaited.micro {s : Sys} (h : RegAwaited s) (m : Micro) : RegAwaited (microStep Rules.current s m) :=
  Step.micro (G := RegAwaited) (fun _ _ h hs => hs.wk_invariant (P := RegAw) (fun _ _ _ _ _ => RegAw.wstep) h) h m

/-- worker state: no awaiter is registered for a process that has a result -/
def Chk (w : WorkerSt) : Prop := ∀ t, w.awaitersFor t ≠ [] → w.resultOf t = none

/-- **`check_completed_processes` leaves nothing behind**: afterwards no awaiter is registered at this worker for a
process that has a result -/
theorem checkStep_chk (s : Sys) (i : Wid) (ordE : List Pid)
    (h : ∀ t, (s.wk i).awaitersFor t ≠ [] → t ∈ (s.wk i).awaited) : Chk ((checkStep s i ordE).wk i) := by
  rw [checkStep_commit, commit_wk_self]
  intro t ht
  rw [resultOf_of_procs (ChkOut.check _ ordE).procs]
  exact (checkOut_registered h ht).2

theorem init_no_awaiters (n : Nat) (prog : Prog) (req : Nat) (w : Wid) (t : Pid) :
    ((Sys.init n prog req).wk w).awaitersFor t = [] := by
  simp only [Sys.init]
  by_cases hw : w = 0
  · subst hw; simp [WorkerSt.setProc, WorkerSt.empty]
  · simp [upd_other _ _ _ _ hw, WorkerSt.empty]

theorem regAwaited_run (n : Nat) (prog : Prog) (req : Nat) (cs : List Choice) : RegAwaited (run (Sys.init n prog req) cs) := by
  have := run_invariant Rules.current RegAwaited (fun s m h => h.micro m) cs (Sys.init n prog req)
    (by intro w t ht; rw [init_no_awaiters] at ht; exact absurd rfl ht)
  exact this

/-- **`Checked` after every choice** (the worker step ends with `check_completed_processes`; nothing else touches a
worker's registrations or results). `hm`: `RegAwaited` holds between the executor step and the check of a worker step — the check
reports only `awaited` targets, so it clears every registration for a finished process only then. -/
theorem checked_step {s : Sys}
    (hm : ∀ i k fuel ordQ, RegAwaited (execStep (iter (fun a => cmdStep1With Rules.current a i) k s) i fuel ordQ))
    (h : Checked s) (c : Choice) : Checked (sysStep s c) := by
  cases c with
  | env vis =>
    intro w t ht
    simp only [sysStep, sysStepWith, Rules.current] at ht ⊢
    rw [envStepWith_wk] at ht ⊢
    exact h w t ht
  | worker i vis fuel ordQ ordE =>
    simp only [sysStep, sysStepWith]
    split
    · intro w t ht
      by_cases hw : w = i
      · subst hw
        exact checkStep_chk _ w ordE (hm w _ fuel ordQ w) t ht
      · rw [((Local.workerStep Rules.current i vis fuel ordQ ordE).frame s).wk w hw] at ht ⊢
        exact h w t ht
    · exact h
  | tick ms => exact h

theorem checked_run (n : Nat) (prog : Prog) (req : Nat) (cs : List Choice) : Checked (run (Sys.init n prog req) cs) := by
  have key : ∀ (cs : List Choice) (s : Sys), RegAwaited s → (∀ s' m, RegAwaited s' → RegAwaited (microStep Rules.current s' m)) →
      Checked s → Checked (run s cs) := by
    intro cs
    induction cs with
    | nil => intro s _ _ h; exact h
    | cons c rest ih =>
      intro s hr hstep h
      simp only [run, List.foldl_cons]
      apply ih
      · exact sysStep_invariant Rules.current RegAwaited hstep s c hr
      · exact hstep
      · exact checked_step (fun i k fuel ordQ =>
          hstep _ (.exec i fuel ordQ) (micro_iter Rules.current RegAwaited hstep (.cmd i) k s hr)) h c
  apply key cs _ _ (fun s m h => h.micro m)
  · intro w t ht; rw [init_no_awaiters] at ht; exact absurd rfl ht
  · intro w t ht; rw [init_no_awaiters] at ht; exact absurd rfl ht

end QM.Sys
