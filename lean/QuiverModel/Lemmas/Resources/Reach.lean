import QuiverModel.Lemmas.Resources.Invariant
import QuiverModel.Lemmas.Resources.Cleanup
/-!
The system invariant `Inv` and its preservation by `step` for events whose handles exist
(`handlesExist`); `BInv` alone is preserved by every event. What a step does to the backend and to the ownership
map is read off `backendMid`, `ownerMid` and `closedBy` (`step_backend`, `step_owner`).
-/
namespace QM.Resources

/-- the system invariant: unique registrations, `BInv`, and every registered id and every id passed to
`close_resource` is below the allocator -/
structure Inv (s : Sys) : Prop where
  keys : KeysNodup s.env.owner
  binv : BInv s.env.backend
  keys_lt : ∀ r ∈ ownKeys s.env.owner, r < s.env.backend.nextRid
  calls_lt : ∀ r ∈ s.env.backend.closeCalls, r < s.env.backend.nextRid

theorem inv_init (n : Nat) : Inv (init n) := by
  refine ⟨by simp [init, KeysNodup, ownKeys], ⟨?_, ?_, ?_, ?_⟩, ?_, ?_⟩ <;> simp [init, ownKeys]

/-- The ids a step passes to `close_resource`, in order: the cleanup of the processes a
`ProcessResults` reports, of a process whose `ProcessExited` arrives, and of an already terminated
target of a delivery. -/
def closedBy (s : Sys) : Event → List Rid
  | .results _ rs => cleanupList s.env.owner (classify s.env.persistent rs)
  | .exited p => ownedBy s.env.owner p
  | .send _ t v => deliverClosed s.env t v
  | _ => []

/-- the backend after the step's own backend call (`execute`, `process_completions`), before its cleanup -/
def backendMid (s : Sys) : Event → Backend
  | .request p e w =>
    if violatesOwnership s.env.owner p e then s.env.backend else (s.env.backend.execute p e w).1
  | .completions n => (s.env.backend.processCompletions n).1
  | _ => s.env.backend

/-- the ownership map after the step's registrations and transfers, before its cleanup -/
def ownerMid (s : Sys) : Event → Own
  | .request p e w =>
    if violatesOwnership s.env.owner p e then s.env.owner
    else match (s.env.backend.execute p e w).2 with
      | .immediate res => regOf s.env.owner p res
      | _ => s.env.owner
  | .completions n => regAll s.env.owner (s.env.backend.processCompletions n).2
  | .send _ t v => insertAll s.env.owner v.resources t
  | .spawn _ caps arg => insertAll s.env.owner (resourcesList caps ++ arg.resources) s.env.nextPid
  | _ => s.env.owner

/-- Every step is one backend call with the registrations and transfers it causes, and then
`close_resource` and unregistration of `closedBy`. -/
theorem step_backend (s : Sys) (ev : Event) :
    (step s ev).env.backend = closeAll (backendMid s ev) (closedBy s ev) := by
  cases ev with
  | request p e w => exact handleEffectRequest_backend _ _ _ _
  | completions n => exact handleCompletions_backend _ _
  | send a t v => exact handleDeliver_backend _ _ _
  | spawn c caps arg => exact handleSpawn_backend _ _ _ _
  | results a rs => exact handleProcessResults_backend _ _
  | _ => rfl

theorem step_owner (s : Sys) (ev : Event) :
    (step s ev).env.owner = eraseAll (ownerMid s ev) (closedBy s ev) := by
  cases ev with
  | request p e w => exact handleEffectRequest_owner _ _ _ _
  | completions n => exact handleCompletions_owner _ _
  | send a t v => exact handleDeliver_owner _ _ _
  | spawn c caps arg => exact handleSpawn_owner _ _ _ _
  | results a rs => exact handleProcessResults_owner _ _
  | _ => rfl

theorem backendMid_cases (s : Sys) (ev : Event) :
    backendMid s ev = s.env.backend ∨
    (∃ p e w, ev = .request p e w ∧ violatesOwnership s.env.owner p e = false ∧
      backendMid s ev = (s.env.backend.execute p e w).1) ∨
    (∃ n, ev = .completions n ∧ backendMid s ev = (s.env.backend.processCompletions n).1) := by
  cases ev with
  | request p e w =>
    cases hv : violatesOwnership s.env.owner p e with
    | true => exact .inl (if_pos hv)
    | false => exact .inr (.inl ⟨p, e, w, rfl, hv, by rw [backendMid, hv]; rfl⟩)
  | completions n => exact .inr (.inr ⟨n, rfl, rfl⟩)
  | _ => exact .inl rfl

theorem closedBy_closed {s : Sys} {ev : Event} {r : Rid} (h : r ∈ closedBy s ev) :
    r ∈ (step s ev).env.backend.closeCalls ∧ r ∉ (step s ev).env.backend.openSet ∧
      ownGet (step s ev).env.owner r = none := by
  refine ⟨?_, ?_, ?_⟩
  · rw [step_backend, closeAll_closeCalls]; exact List.mem_append_right _ h
  · rw [step_backend, closeAll_openSet, List.mem_filter]
    exact fun hc => absurd h (of_decide_eq_true hc.2)
  · rw [step_owner, ownGet_eraseAll, if_pos h]

theorem step_binv (s : Sys) (ev : Event) (h : BInv s.env.backend) : BInv (step s ev).env.backend := by
  rw [step_backend]
  refine BInv.closeAll ?_ _
  rcases backendMid_cases s ev with e | ⟨p, e, w, _, _, e'⟩ | ⟨n, _, e⟩
  · exact e ▸ h
  · exact e' ▸ h.execute p e w
  · exact e ▸ h.processCompletions n

theorem step_nextRid_mono (s : Sys) (ev : Event) :
    s.env.backend.nextRid ≤ (step s ev).env.backend.nextRid := by
  rw [step_backend, closeAll_nextRid]
  rcases backendMid_cases s ev with e | ⟨p, e, w, _, _, e'⟩ | ⟨n, _, e⟩
  · exact e ▸ Nat.le_refl _
  · exact e' ▸ execute_nextRid_mono _ _ _ _
  · exact e ▸ processCompletions_nextRid_mono _ _

theorem step_closeCalls (s : Sys) (ev : Event) :
    (step s ev).env.backend.closeCalls = s.env.backend.closeCalls ++ closedBy s ev := by
  rw [step_backend, closeAll_closeCalls]
  rcases backendMid_cases s ev with e | ⟨p, e, w, _, _, e'⟩ | ⟨n, _, e⟩
  · rw [e]
  · rw [e', execute_closeCalls]
  · rw [e, processCompletions_closeCalls]

theorem closedBy_sub {s : Sys} (hk : KeysNodup s.env.owner) (ev : Event) {r : Rid} (h : r ∈ closedBy s ev) :
    r ∈ ownKeys s.env.owner ∨ ∃ a t v, ev = .send a t v ∧ r ∈ v.resources := by
  cases ev with
  | results a rs => exact .inl (cleanupList_sub_keys hk h)
  | exited p => exact .inl ((ownedBy_sublist_keys _ _).subset h)
  | send a t v =>
    simp only [closedBy, deliverClosed] at h
    split at h
    · exact (mem_ownKeys_insertAll.1 ((ownedBy_sublist_keys _ _).subset h)).symm.imp_right
        fun h1 => ⟨a, t, v, rfl, h1⟩
    · cases h
  | start => cases h
  | terminate p => cases h
  | spawn c caps arg => cases h
  | request p e w => cases h
  | completions n => cases h

theorem step_keysNodup (s : Sys) (ev : Event) (h : KeysNodup s.env.owner) :
    KeysNodup (step s ev).env.owner := by
  rw [step_owner]
  refine KeysNodup.eraseAll ?_ _
  cases ev with
  | request p e w =>
    simp only [ownerMid]
    split
    · exact h
    · split
      · exact h.regOf _ _
      · exact h
  | completions n => exact h.regAll _
  | send a t v => exact h.insertAll _ _
  | spawn c caps arg => exact h.insertAll _ _
  | _ => exact h

/-- Why `r` is registered to `q` after a step: it was before; the step delivers a message carrying
`r` to `q`; the step spawns `q` with `r` among captures and argument; or the backend has just
allocated `r` for an effect of `q` (requested now, or in flight and collected now). -/
inductive Gains (s : Sys) (ev : Event) (r : Rid) (q : Pid) : Prop
  | kept (h : ownGet s.env.owner r = some q)
  | sent (a : Pid) (v : Val) (hev : ev = .send a q v) (hr : r ∈ v.resources)
  | spawned (c : Pid) (caps : List Val) (arg : Val) (hev : ev = .spawn c caps arg)
      (hq : q = s.env.nextPid) (hr : r ∈ resourcesList caps ++ arg.resources)
  | created (hq : (∃ e w, ev = .request q e w) ∨
        ∃ n pd, ev = .completions n ∧ (q, pd) ∈ s.env.backend.pending)
      (hlo : s.env.backend.nextRid ≤ r) (hhi : r < (step s ev).env.backend.nextRid)

/-- The one description of what a step does to the registration of an id: a registration after
the step is explained by `Gains`, and the step has not passed the id to `close_resource`. -/
theorem step_ownGet_some {s : Sys} {ev : Event} {r : Rid} {q : Pid}
    (h : ownGet (step s ev).env.owner r = some q) : r ∉ closedBy s ev ∧ Gains s ev r q := by
  rw [step_owner, ownGet_eraseAll] at h
  split at h
  · cases h
  refine ⟨‹_›, ?_⟩
  cases ev with
  | send a t v =>
    rw [ownerMid, ownGet_insertAll] at h
    split at h
    · cases h; exact .sent a v rfl ‹_›
    · exact .kept h
  | spawn c caps arg =>
    rw [ownerMid, ownGet_insertAll] at h
    split at h
    · cases h; exact .spawned c caps arg rfl rfl ‹_›
    · exact .kept h
  | request p e w =>
    have hb := step_backend s (.request p e w)
    simp only [ownerMid] at h
    split at h
    · exact .kept h
    · rename_i hv
      split at h
      · rename_i res hres
        rw [ownGet_regOf] at h
        split at h
        · rename_i hr
          cases h; subst hr
          obtain ⟨h1, h2⟩ := execute_reply_okRes hres
          refine .created (.inl ⟨e, w, rfl⟩) (Nat.le_of_eq h1.symm) ?_
          rw [hb, closeAll_nextRid, backendMid, if_neg hv, h2, h1]
          exact Nat.lt_succ_self _
        · exact .kept h
      · exact .kept h
  | completions n =>
    rcases ownGet_regAll_cases h with h1 | h1
    · exact .kept h1
    · obtain ⟨pd, hm⟩ := processCompletions_pids _ _ h1
      obtain ⟨hlo, hhi⟩ := (processCompletions_resIds s.env.backend n).2 r (mem_resIds.2 ⟨q, h1⟩)
      refine .created (.inr ⟨n, pd, rfl, hm⟩) hlo ?_
      rw [step_backend, closeAll_nextRid]
      exact hhi
  | _ => exact .kept h

theorem step_keeps_key {s : Sys} {ev : Event} {r : Rid} (h0 : r ∈ ownKeys s.env.owner)
    (hc : r ∉ closedBy s ev) : r ∈ ownKeys (step s ev).env.owner := by
  rw [step_owner, mem_ownKeys_eraseAll]
  refine ⟨?_, hc⟩
  cases ev with
  | send a t v => exact mem_ownKeys_insertAll.2 (.inr h0)
  | spawn c caps arg => exact mem_ownKeys_insertAll.2 (.inr h0)
  | completions n => exact mem_ownKeys_regAll.2 (.inr h0)
  | request p e w =>
    simp only [ownerMid]
    split
    · exact h0
    · split
      · exact mem_ownKeys_regOf.2 (.inr h0)
      · exact h0
  | _ => exact h0

theorem inv_step {s : Sys} (hs : Inv s) (ev : Event) (hev : handlesExist s ev = true) : Inv (step s ev) := by
  have hmono := step_nextRid_mono s ev
  refine ⟨step_keysNodup s ev hs.keys, step_binv s ev hs.binv, ?_, ?_⟩
  · intro r hr
    obtain ⟨q, hq⟩ := Option.isSome_iff_exists.1 ((ownGet_isSome_iff _ _).2 hr)
    rcases (step_ownGet_some hq).2 with h | ⟨a, v, rfl, hm⟩ | ⟨c, caps, arg, rfl, _, hm⟩ | ⟨_, _, hhi⟩
    · exact Nat.lt_of_lt_of_le (hs.keys_lt r ((ownGet_isSome_iff _ _).1 (h ▸ rfl))) hmono
    · simp only [handlesExist, List.all_eq_true, decide_eq_true_eq] at hev
      exact Nat.lt_of_lt_of_le (hev r hm) hmono
    · simp only [handlesExist, List.all_eq_true, decide_eq_true_eq] at hev
      exact Nat.lt_of_lt_of_le (hev r hm) hmono
    · exact hhi
  · intro r hr
    rw [step_closeCalls, List.mem_append] at hr
    rcases hr with hr | hr
    · exact Nat.lt_of_lt_of_le (hs.calls_lt r hr) hmono
    · rcases closedBy_sub hs.keys ev hr with hk | ⟨a, t, v, rfl, hm⟩
      · exact Nat.lt_of_lt_of_le (hs.keys_lt r hk) hmono
      · simp only [handlesExist, List.all_eq_true, decide_eq_true_eq] at hev
        exact Nat.lt_of_lt_of_le (hev r hm) hmono

/-- Handles exist along the whole history. -/
def handlesFrom (s : Sys) : List Event → Bool
  | [] => true
  | ev :: rest => handlesExist s ev && handlesFrom (step s ev) rest

theorem handlesFrom_of_wfFrom (s : Sys) (h : List Event) (hw : wfFrom s h = true) : handlesFrom s h = true := by
  induction h generalizing s with
  | nil => rfl
  | cons ev rest ih =>
    simp only [wfFrom, eventOk, Bool.and_eq_true] at hw
    simp only [handlesFrom, Bool.and_eq_true]
    exact ⟨hw.1.1, ih _ hw.2⟩

theorem inv_run {s : Sys} (hs : Inv s) (h : List Event) (hw : handlesFrom s h = true) : Inv (run s h) := by
  induction h generalizing s with
  | nil => exact hs
  | cons ev rest ih =>
    simp only [handlesFrom, Bool.and_eq_true] at hw
    exact ih (inv_step hs ev hw.1) hw.2

end QM.Resources
