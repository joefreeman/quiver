import QuiverModel.Lemmas.Resources.Handlers
/-!
The backend invariant of M-Sys/resources along histories, `BInv`: the backend never reuses an id — open ids
and effectively-closed ids are below the allocator, an effectively closed id is not open, and no id is
effectively closed twice.  (The system invariant `Inv`, which adds that every registered id and every id passed
to `close_resource` is below the allocator, is in Reach.lean.)  Then the registrations a batch of completions makes
(`regAll`) against the ids it hands out (`resIds`).
-/
namespace QM.Resources

/-- the backend never reuses an id -/
structure BInv (b : Backend) : Prop where
  open_lt : ∀ r ∈ b.openSet, r < b.nextRid
  eff_lt : ∀ r ∈ b.effClosed, r < b.nextRid
  eff_not_open : ∀ r ∈ b.effClosed, r ∉ b.openSet
  eff_nodup : b.effClosed.Nodup

theorem BInv.of_eq {b b' : Backend} (h : BInv b) (h1 : b'.openSet = b.openSet)
    (h2 : b'.effClosed = b.effClosed) (h3 : b'.nextRid = b.nextRid) : BInv b' :=
  ⟨by rw [h1, h3]; exact h.open_lt, by rw [h2, h3]; exact h.eff_lt,
   by rw [h1, h2]; exact h.eff_not_open, by rw [h2]; exact h.eff_nodup⟩

theorem BInv.alloc {b : Backend} (h : BInv b) : BInv b.alloc.1 := by
  refine ⟨?_, ?_, ?_, ?_⟩
  · intro r hr
    simp only [Backend.alloc, List.mem_cons] at hr ⊢
    rcases hr with rfl | hr
    · exact Nat.lt_succ_self _
    · exact Nat.lt_succ_of_lt (h.open_lt r hr)
  · intro r hr
    simp only [Backend.alloc] at hr ⊢
    exact Nat.lt_succ_of_lt (h.eff_lt r hr)
  · intro r hr
    simp only [Backend.alloc, List.mem_cons, not_or] at hr ⊢
    exact ⟨Nat.ne_of_lt (h.eff_lt r hr), h.eff_not_open r hr⟩
  · exact h.eff_nodup

theorem BInv.removeOpen {b : Backend} (h : BInv b) (r : Rid) (hr : r ∈ b.openSet) :
    BInv { b with openSet := b.openSet.filter (· ≠ r), effClosed := b.effClosed ++ [r] } := by
  refine ⟨?_, ?_, ?_, ?_⟩
  · intro x hx
    simp only [List.mem_filter] at hx
    exact h.open_lt x hx.1
  · intro x hx
    simp only [List.mem_append, List.mem_singleton] at hx
    rcases hx with hx | rfl
    · exact h.eff_lt x hx
    · exact h.open_lt _ hr
  · intro x hx hm
    simp only [List.mem_append, List.mem_singleton] at hx
    simp only [List.mem_filter, ne_eq, decide_not, Bool.not_eq_eq_eq_not, Bool.not_true,
      decide_eq_false_iff_not] at hm
    rcases hx with hx | rfl
    · exact h.eff_not_open x hx hm.1
    · exact hm.2 rfl
  · refine List.nodup_append.2 ⟨h.eff_nodup, by simp, ?_⟩
    intro a ha c hc hac
    simp only [List.mem_singleton] at hc
    subst hc; subst hac
    exact h.eff_not_open _ ha hr

theorem BInv.closeResource {b : Backend} (h : BInv b) (r : Rid) : BInv (b.closeResource r) := by
  by_cases hr : r ∈ b.openSet
  · have := h.removeOpen r hr
    refine this.of_eq ?_ ?_ ?_ <;> simp [Backend.closeResource, hr]
  · refine h.of_eq ?_ ?_ ?_
    · simp only [Backend.closeResource]
      apply List.filter_eq_self.2
      intro a ha
      simp only [ne_eq, decide_not, Bool.not_eq_eq_eq_not, Bool.not_true, decide_eq_false_iff_not]
      intro hx; subst hx; exact hr ha
    · simp [Backend.closeResource, hr]
    · simp [Backend.closeResource]

theorem BInv.closeAll {b : Backend} (h : BInv b) (rs : List Rid) : BInv (closeAll b rs) := by
  induction rs generalizing b with
  | nil => exact h
  | cons r rest ih => exact ih (h.closeResource r)

theorem BInv.execute {b : Backend} (h : BInv b) (p : Pid) (e : Effect) (w : Bool) :
    BInv (b.execute p e w).1 := by
  have h0 : BInv { b with executed := b.executed ++ [(p, e)] } := h.of_eq rfl rfl rfl
  rcases execute_cases b p e w with ⟨⟨_, hb, _⟩, _⟩ | ⟨hb, _⟩ | ⟨_, hm, hb, _⟩ <;> rw [hb]
  · exact h0.of_eq rfl rfl rfl
  · exact h0.alloc
  · exact (h0.removeOpen e.rid hm).of_eq rfl rfl rfl

theorem execute_nextRid_mono (b : Backend) (p : Pid) (e : Effect) (w : Bool) :
    b.nextRid ≤ (b.execute p e w).1.nextRid := by
  rcases execute_cases b p e w with ⟨⟨_, hb, _⟩, _⟩ | ⟨hb, _⟩ | ⟨_, _, hb, _⟩ <;> rw [hb]
  · exact Nat.le_refl _
  · exact Nat.le_succ _
  · exact Nat.le_refl _

theorem execute_reply_okRes {b : Backend} {p : Pid} {e : Effect} {w : Bool} {r : Rid}
    (h : (b.execute p e w).2 = .immediate (.okRes r)) :
    r = b.nextRid ∧ (b.execute p e w).1.nextRid = b.nextRid + 1 := by
  rcases execute_cases b p e w with ⟨_, hno⟩ | ⟨hb, hr⟩ | ⟨_, _, _, hr⟩
  · exact absurd h (hno r)
  · rw [hr] at h; cases h; rw [hb]; exact ⟨rfl, rfl⟩
  · rw [hr] at h; cases h

/-- Collecting one finished operation leaves the backend alone and hands out no id, or (a successful accept /
connect) allocates the next id and hands it out. -/
theorem completeOne_cases (b : Backend) (x : Pid × Pending) :
    ((b.completeOne x).1 = b ∧ ∀ r, (b.completeOne x).2.2 ≠ .okRes r) ∨
    ((b.completeOne x).1 = b.alloc.1 ∧ (b.completeOne x).2.2 = .okRes b.nextRid) := by
  obtain ⟨p, pd⟩ := x
  rcases pd with ok | ok <;> cases ok
  · exact .inl ⟨rfl, fun _ h => nomatch h⟩
  · exact .inl ⟨rfl, fun _ h => nomatch h⟩
  · exact .inl ⟨rfl, fun _ h => nomatch h⟩
  · exact .inr ⟨rfl, rfl⟩

theorem completeAll_cons (b : Backend) (x : Pid × Pending) (xs : List (Pid × Pending)) :
    b.completeAll (x :: xs) =
      (((b.completeOne x).1.completeAll xs).1, (b.completeOne x).2 :: ((b.completeOne x).1.completeAll xs).2) := rfl

theorem BInv.completeOne {b : Backend} (h : BInv b) (x : Pid × Pending) : BInv (b.completeOne x).1 := by
  rcases completeOne_cases b x with ⟨hb, _⟩ | ⟨hb, _⟩ <;> rw [hb]
  · exact h
  · exact h.alloc

theorem BInv.completeAll {b : Backend} (h : BInv b) (xs : List (Pid × Pending)) :
    BInv (b.completeAll xs).1 := by
  induction xs generalizing b with
  | nil => exact h
  | cons x rest ih => exact ih (h.completeOne x)

theorem processCompletions_eq (b : Backend) (n : Nat) :
    b.processCompletions n = ({ b with pending := b.pending.drop n }).completeAll (b.pending.take n) := rfl

theorem BInv.processCompletions {b : Backend} (h : BInv b) (n : Nat) :
    BInv (b.processCompletions n).1 := by
  rw [processCompletions_eq]
  exact BInv.completeAll (b := { b with pending := b.pending.drop n }) (h.of_eq rfl rfl rfl) _

/-- the ids handed out by a batch of completions -/
def resIds (cs : List (Pid × Res)) : List Rid :=
  cs.filterMap (fun c => match c.2 with | .okRes r => some r | _ => none)

theorem resIds_cons (c : Pid × Res) (cs : List (Pid × Res)) :
    resIds (c :: cs) = (match c.2 with | .okRes r => r :: resIds cs | _ => resIds cs) := by
  obtain ⟨p, res⟩ := c
  cases res <;> rfl

theorem completeOne_nextRid_mono (b : Backend) (x : Pid × Pending) :
    b.nextRid ≤ (b.completeOne x).1.nextRid := by
  rcases completeOne_cases b x with ⟨hb, _⟩ | ⟨hb, _⟩ <;> rw [hb]
  · exact Nat.le_refl _
  · exact Nat.le_succ _

theorem completeAll_nextRid_mono (b : Backend) (xs : List (Pid × Pending)) :
    b.nextRid ≤ (b.completeAll xs).1.nextRid := by
  induction xs generalizing b with
  | nil => exact Nat.le_refl _
  | cons x rest ih => exact Nat.le_trans (completeOne_nextRid_mono b x) (ih _)

/-- the ids come from consecutive `alloc`s: each is the allocator at its moment, hence below all later ones -/
theorem completeAll_resIds (b : Backend) (xs : List (Pid × Pending)) :
    (resIds (b.completeAll xs).2).Nodup ∧
    ∀ r ∈ resIds (b.completeAll xs).2, b.nextRid ≤ r ∧ r < (b.completeAll xs).1.nextRid := by
  induction xs generalizing b with
  | nil => exact ⟨List.nodup_nil, fun _ h => nomatch h⟩
  | cons x rest ih =>
    rw [completeAll_cons, resIds_cons]
    rcases completeOne_cases b x with ⟨hb, hno⟩ | ⟨hb, hr⟩
    · rw [hb]
      split
      · exact absurd ‹_› (hno _)
      · exact ih b
    · obtain ⟨hnd, hrange⟩ := ih b.alloc.1
      rw [hb, hr]
      refine ⟨List.nodup_cons.2 ⟨fun hm => Nat.lt_irrefl _ (hrange _ hm).1, hnd⟩, fun r hm => ?_⟩
      rcases List.mem_cons.1 hm with rfl | hm
      · exact ⟨Nat.le_refl _, Nat.lt_of_lt_of_le (Nat.lt_succ_self _) (completeAll_nextRid_mono b.alloc.1 rest)⟩
      · exact ⟨Nat.le_of_succ_le (hrange r hm).1, (hrange r hm).2⟩

theorem processCompletions_nextRid_mono (b : Backend) (n : Nat) :
    b.nextRid ≤ (b.processCompletions n).1.nextRid := by
  rw [processCompletions_eq]
  exact completeAll_nextRid_mono { b with pending := b.pending.drop n } _

theorem processCompletions_resIds (b : Backend) (n : Nat) :
    (resIds (b.processCompletions n).2).Nodup ∧
    ∀ r ∈ resIds (b.processCompletions n).2, b.nextRid ≤ r ∧ r < (b.processCompletions n).1.nextRid := by
  rw [processCompletions_eq]
  exact completeAll_resIds { b with pending := b.pending.drop n } _

theorem completeAll_pids (b : Backend) (xs : List (Pid × Pending)) :
    (b.completeAll xs).2.map (·.1) = xs.map (·.1) := by
  induction xs generalizing b with
  | nil => rfl
  | cons x rest ih =>
    obtain ⟨p, pd⟩ := x
    simp only [Backend.completeAll, List.map_cons, ih]
    cases pd with
    | plain ok => simp [Backend.completeOne]
    | creating ok => cases ok <;> simp [Backend.completeOne, Backend.alloc]

theorem processCompletions_pids (b : Backend) (n : Nat) {p : Pid} {res : Res}
    (h : (p, res) ∈ (b.processCompletions n).2) : ∃ pd, (p, pd) ∈ b.pending := by
  have h1 : p ∈ (b.processCompletions n).2.map (·.1) := List.mem_map.2 ⟨(p, res), h, rfl⟩
  rw [processCompletions_eq, completeAll_pids] at h1
  obtain ⟨⟨q, pd⟩, hm, hq⟩ := List.mem_map.1 h1
  simp only at hq; subst hq
  exact ⟨pd, List.mem_of_mem_take hm⟩

theorem mem_resIds {cs : List (Pid × Res)} {r : Rid} : r ∈ resIds cs ↔ ∃ p, (p, Res.okRes r) ∈ cs := by
  unfold resIds
  simp only [List.mem_filterMap]
  constructor
  · rintro ⟨⟨p, res⟩, hm, hr⟩
    cases res <;> simp at hr
    subst hr; exact ⟨p, hm⟩
  · rintro ⟨p, hm⟩; exact ⟨(p, .okRes r), hm, rfl⟩

theorem ownGet_regOf (m : Own) (p : Pid) (res : Res) (x : Rid) :
    ownGet (regOf m p res) x = if res = .okRes x then some p else ownGet m x := by
  cases res with
  | okRes r =>
    simp only [regOf, ownGet_insert, Res.okRes.injEq]
    by_cases h : x = r
    · simp [h]
    · have : ¬ r = x := fun h' => h h'.symm
      simp [h, this]
  | okOther => simp [regOf]
  | err => simp [regOf]

theorem mem_ownKeys_regOf {m : Own} {p : Pid} {res : Res} {x : Rid} :
    x ∈ ownKeys (regOf m p res) ↔ res = .okRes x ∨ x ∈ ownKeys m := by
  simp only [mem_ownKeys_iff_ownGet, ownGet_regOf]
  by_cases h : res = .okRes x <;> simp [h]

theorem mem_ownKeys_regAll {m : Own} {cs : List (Pid × Res)} {x : Rid} :
    x ∈ ownKeys (regAll m cs) ↔ x ∈ resIds cs ∨ x ∈ ownKeys m := by
  induction cs generalizing m with
  | nil => simp [regAll, resIds]
  | cons c rest ih =>
    rw [regAll, ih, mem_ownKeys_regOf, resIds_cons]
    cases c.2 <;> simp [or_left_comm, or_assoc, eq_comm]

theorem ownGet_regAll_of_not_mem {m : Own} {cs : List (Pid × Res)} {r : Rid} (h : r ∉ resIds cs) :
    ownGet (regAll m cs) r = ownGet m r := by
  induction cs generalizing m with
  | nil => rfl
  | cons d rest ih =>
    obtain ⟨q, res⟩ := d
    rw [resIds_cons] at h
    rw [regAll]
    cases res with
    | okRes r' =>
      rw [ih (fun hc => h (List.mem_cons_of_mem _ hc)), ownGet_regOf,
        if_neg (fun e => h (by cases e; exact List.mem_cons_self))]
    | okOther => exact ih h
    | err => exact ih h

theorem ownGet_regAll_of_mem {m : Own} {cs : List (Pid × Res)} (hn : (resIds cs).Nodup) {p : Pid} {r : Rid}
    (h : (p, Res.okRes r) ∈ cs) : ownGet (regAll m cs) r = some p := by
  induction cs generalizing m with
  | nil => cases h
  | cons c rest ih =>
    obtain ⟨q, res⟩ := c
    rw [resIds_cons] at hn
    rcases List.mem_cons.1 h with h | h
    · cases h
      rw [regAll, ownGet_regAll_of_not_mem (List.nodup_cons.1 hn).1, ownGet_regOf, if_pos rfl]
    · refine ih ?_ h
      cases res with
      | okRes r' => exact (List.nodup_cons.1 hn).2
      | okOther => exact hn
      | err => exact hn

theorem ownGet_regAll_cases {m : Own} {cs : List (Pid × Res)} {r : Rid} {p : Pid}
    (h : ownGet (regAll m cs) r = some p) : ownGet m r = some p ∨ (p, Res.okRes r) ∈ cs := by
  induction cs generalizing m with
  | nil => exact .inl h
  | cons c rest ih =>
    obtain ⟨q, res⟩ := c
    simp only [regAll] at h
    rcases ih h with h1 | h1
    · rw [ownGet_regOf] at h1
      split at h1
      · rename_i hres; cases h1; subst hres; exact .inr List.mem_cons_self
      · exact .inl h1
    · exact .inr (List.mem_cons_of_mem _ h1)

theorem completeOne_openSet_mono (b : Backend) (x : Pid × Pending) {r : Rid} (h : r ∈ b.openSet) :
    r ∈ (b.completeOne x).1.openSet := by
  rcases completeOne_cases b x with ⟨hb, _⟩ | ⟨hb, _⟩ <;> rw [hb]
  · exact h
  · exact List.mem_cons_of_mem _ h

theorem completeAll_openSet_mono (b : Backend) (xs : List (Pid × Pending)) {r : Rid} (h : r ∈ b.openSet) :
    r ∈ (b.completeAll xs).1.openSet := by
  induction xs generalizing b with
  | nil => exact h
  | cons x rest ih => exact ih _ (completeOne_openSet_mono b x h)

theorem processCompletions_openSet_mono (b : Backend) (n : Nat) {r : Rid} (h : r ∈ b.openSet) :
    r ∈ (b.processCompletions n).1.openSet := by
  rw [processCompletions_eq]
  exact completeAll_openSet_mono { b with pending := b.pending.drop n } _ h

theorem execute_openSet (b : Backend) (p : Pid) (e : Effect) (w : Bool) {r : Rid} (h : r ∈ b.openSet) :
    r ∈ (b.execute p e w).1.openSet ∨ (e.kind.shape = .closeSync ∧ e.rid = r) := by
  rcases execute_cases b p e w with ⟨⟨_, hb, _⟩, _⟩ | ⟨hb, _⟩ | ⟨hs, _, hb, _⟩ <;> rw [hb]
  · exact .inl h
  · exact .inl (List.mem_cons_of_mem _ h)
  · by_cases hr : e.rid = r
    · exact .inr ⟨hs, hr⟩
    · exact .inl (List.mem_filter.2 ⟨h, decide_eq_true (fun hc => hr hc.symm)⟩)

end QM.Resources
