import QuiverModel.Lemmas.Resources.Handlers
/-!
`persistent_processes`, `next_process_id` and `exited_processes` along a step: only `start_process`
marks a process persistent, only `start_process` / `handle_spawn` allocate a process id, only
`handle_process_exited` records an exit. The other handlers leave all three alone (`Env.ctl`).
-/
namespace QM.Resources

/-- the fields that only `start_process`, `handle_spawn` and `handle_process_exited` write -/
def Env.ctl (s : Env) : List Pid × Pid × List Pid := (s.persistent, s.nextPid, s.exited)

theorem reportEffectError_ctl (s : Env) (p : Pid) : (reportEffectError s p).ctl = s.ctl := by
  unfold reportEffectError; split <;> rfl

theorem handleEffectCompletion_ctl (s : Env) (p : Pid) (res : Res) :
    (handleEffectCompletion s p res).ctl = s.ctl := by
  rw [handleEffectCompletion_eq]; split <;> rfl

theorem handleEffectRequest_ctl (s : Env) (p : Pid) (e : Effect) (w : Bool) :
    (handleEffectRequest s p e w).ctl = s.ctl := by
  cases h : violatesOwnership s.owner p e with
  | true => rw [handleEffectRequest_rejected _ _ _ _ h, reportEffectError_ctl]
  | false =>
    rw [handleEffectRequest_accepted _ _ _ _ h]
    split
    · exact handleEffectCompletion_ctl _ _ _
    · rfl
    · exact reportEffectError_ctl _ _

theorem handleCompletionsList_ctl (s : Env) (cs : List (Pid × Res)) :
    (handleCompletionsList s cs).ctl = s.ctl := by
  induction cs generalizing s with
  | nil => rfl
  | cons c rest ih => exact (ih _).trans (handleEffectCompletion_ctl s c.1 c.2)

theorem handleCleanups_ctl (s : Env) (rs : List (Pid × Bool)) : (handleCleanups s rs).ctl = s.ctl :=
  handleCleanups_induct (P := fun s' => s'.ctl = s.ctl) (fun _ _ h => h) s rs rfl

theorem handleDeliver_ctl (s : Env) (t : Pid) (v : Val) : (handleDeliver s t v).ctl = s.ctl := by
  rw [handleDeliver_eq]; split <;> rfl

theorem step_ctl (s : Sys) (ev : Event) :
    (step s ev).env.ctl =
      (match ev with | .start => s.env.nextPid :: s.env.persistent | _ => s.env.persistent,
       match ev with | .start | .spawn _ _ _ => s.env.nextPid + 1 | _ => s.env.nextPid,
       match ev with | .exited p => p :: s.env.exited | _ => s.env.exited) := by
  cases ev with
  | request p e w => exact handleEffectRequest_ctl _ _ _ _
  | completions n => exact handleCompletionsList_ctl _ _
  | send a t v => exact handleDeliver_ctl _ _ _
  | spawn c caps arg => simp only [step, handleSpawn]; split <;> rfl
  | results a rs => exact handleCleanups_ctl _ _
  | _ => rfl

theorem step_nextPid (s : Sys) (ev : Event) :
    (step s ev).env.nextPid = match ev with
      | .start | .spawn _ _ _ => s.env.nextPid + 1
      | _ => s.env.nextPid :=
  congrArg (·.2.1) (step_ctl s ev)

theorem step_nextPid_mono (s : Sys) (ev : Event) : s.env.nextPid ≤ (step s ev).env.nextPid := by
  rw [step_nextPid]; split <;> first | exact Nat.le_succ _ | exact Nat.le_refl _

theorem step_exited (s : Sys) (ev : Event) :
    (step s ev).env.exited = match ev with
      | .exited p => p :: s.env.exited
      | _ => s.env.exited :=
  congrArg (·.2.2) (step_ctl s ev)

theorem step_terminated (s : Sys) (ev : Event) :
    (step s ev).terminated = match ev with
      | .terminate p => p :: s.terminated
      | _ => s.terminated := by
  cases ev <;> rfl

/-- Every persistent process id has been allocated. -/
def PersInv (s : Sys) : Prop := ∀ p ∈ s.env.persistent, p < s.env.nextPid

theorem persInv_step {s : Sys} (h : PersInv s) (ev : Event) : PersInv (step s ev) := by
  intro p hp
  have h1 : (step s ev).env.persistent = _ := congrArg (·.1) (step_ctl s ev)
  rw [h1] at hp
  cases ev with
  | start =>
    rcases List.mem_cons.1 hp with rfl | hp
    · exact Nat.lt_succ_self _
    · exact Nat.lt_of_lt_of_le (h p hp) (step_nextPid_mono s _)
  | _ => exact Nat.lt_of_lt_of_le (h p hp) (step_nextPid_mono s _)

theorem persInv_run {s : Sys} (h : PersInv s) (evs : List Event) : PersInv (run s evs) := by
  induction evs generalizing s with
  | nil => exact h
  | cons ev rest ih => exact ih (persInv_step h ev)

end QM.Resources
