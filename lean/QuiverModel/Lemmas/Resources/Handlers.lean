import QuiverModel.Lemmas.Resources.Own
/-!
Frame lemmas for the handlers of M-Sys/resources: which fields each handler leaves alone, and what
it does to the ownership map / the backend log.
-/
namespace QM.Resources

@[simp] theorem reportEffectError_owner (s : Env) (p : Pid) : (reportEffectError s p).owner = s.owner := by
  unfold reportEffectError; split <;> rfl
@[simp] theorem reportEffectError_backend (s : Env) (p : Pid) : (reportEffectError s p).backend = s.backend := by
  unfold reportEffectError; split <;> rfl
@[simp] theorem reportEffectError_router (s : Env) (p : Pid) : (reportEffectError s p).router = s.router := by
  unfold reportEffectError; split <;> rfl

theorem reportEffectError_out (s : Env) (p : Pid) (w : Wid) (h : routeGet s.router p = some w) :
    (reportEffectError s p).out = s.out ++ [.effectCompletion p .err] := by
  unfold reportEffectError; rw [h]

theorem reportEffectError_out_cases (s : Env) (p : Pid) :
    (reportEffectError s p).out = s.out ∨ (reportEffectError s p).out = s.out ++ [.effectCompletion p .err] := by
  unfold reportEffectError; split
  · exact .inl rfl
  · exact .inr rfl

/-- the registration `handle_effect_completion` makes: a created resource goes to the requesting process -/
def regOf (m : Own) (p : Pid) : Res → Own
  | .okRes r => ownInsert m r p
  | _ => m

theorem handleEffectCompletion_eq (s : Env) (p : Pid) (res : Res) :
    handleEffectCompletion s p res =
      match routeGet s.router p with
      | none => { s with owner := regOf s.owner p res, faults := s.faults ++ [.processNotFound p] }
      | some _ => { s with owner := regOf s.owner p res, out := s.out ++ [.effectCompletion p res] } := by
  cases res <;> rfl

@[simp] theorem handleEffectCompletion_owner (s : Env) (p : Pid) (res : Res) :
    (handleEffectCompletion s p res).owner = regOf s.owner p res := by
  rw [handleEffectCompletion_eq]; split <;> rfl
@[simp] theorem handleEffectCompletion_backend (s : Env) (p : Pid) (res : Res) :
    (handleEffectCompletion s p res).backend = s.backend := by
  rw [handleEffectCompletion_eq]; split <;> rfl
@[simp] theorem handleEffectCompletion_router (s : Env) (p : Pid) (res : Res) :
    (handleEffectCompletion s p res).router = s.router := by
  rw [handleEffectCompletion_eq]; split <;> rfl

theorem handleEffectCompletion_out_cases (s : Env) (p : Pid) (res : Res) :
    (handleEffectCompletion s p res).out = s.out ∨
    (handleEffectCompletion s p res).out = s.out ++ [.effectCompletion p res] := by
  rw [handleEffectCompletion_eq]; split
  · exact .inl rfl
  · exact .inr rfl

theorem handleEffectCompletion_out (s : Env) (p : Pid) (res : Res) (w : Wid)
    (h : routeGet s.router p = some w) :
    (handleEffectCompletion s p res).out = s.out ++ [.effectCompletion p res] := by
  rw [handleEffectCompletion_eq, h]

/-- As far as ids are concerned the seven `Shape`s of `execute` are three cases: no id handed out (at most an
operation of `p` queued); the next id allocated and returned; an open id closed. -/
theorem execute_cases (b : Backend) (p : Pid) (e : Effect) (w : Bool) :
    ((∃ pd, (b.execute p e w).1 = { b with executed := b.executed ++ [(p, e)], pending := pd } ∧
          ∀ x ∈ pd, x ∈ b.pending ∨ x.1 = p) ∧
        ∀ r, (b.execute p e w).2 ≠ .immediate (.okRes r)) ∨
    ((b.execute p e w).1 = ({ b with executed := b.executed ++ [(p, e)] } : Backend).alloc.1 ∧
        (b.execute p e w).2 = .immediate (.okRes b.nextRid)) ∨
    (e.kind.shape = .closeSync ∧ e.rid ∈ b.openSet ∧
      (b.execute p e w).1 = { b with executed := b.executed ++ [(p, e)], openSet := b.openSet.filter (· ≠ e.rid),
                                     effClosed := b.effClosed ++ [e.rid] } ∧
      (b.execute p e w).2 = .immediate .okOther) := by
  have same : ∀ rep : Reply, (∀ r, rep ≠ .immediate (.okRes r)) →
      ((∃ pd, ({ b with executed := b.executed ++ [(p, e)] } : Backend) =
            { b with executed := b.executed ++ [(p, e)], pending := pd } ∧ ∀ x ∈ pd, x ∈ b.pending ∨ x.1 = p) ∧
        ∀ r, rep ≠ .immediate (.okRes r)) := fun _ h => ⟨⟨b.pending, rfl, fun _ hx => .inl hx⟩, h⟩
  have queued : ∀ pd : Pending,
      ((∃ q, ({ b with executed := b.executed ++ [(p, e)], pending := b.pending ++ [(p, pd)] } : Backend) =
            { b with executed := b.executed ++ [(p, e)], pending := q } ∧ ∀ x ∈ q, x ∈ b.pending ∨ x.1 = p) ∧
        ∀ r, Reply.submitted ≠ .immediate (.okRes r)) := fun pd =>
    ⟨⟨_, rfl, fun x hx => (List.mem_append.1 hx).imp id (fun h => by rw [List.mem_singleton.1 h])⟩, fun _ h => nomatch h⟩
  generalize hx : b.execute p e w = x
  unfold Backend.execute at hx
  cases hs : e.kind.shape <;> simp only [hs] at hx
  · split at hx
    · subst hx; exact .inr (.inl ⟨rfl, rfl⟩)
    · subst hx; exact .inl (same _ (fun _ h => nomatch h))
  · subst hx; exact .inl (queued _)
  · split at hx <;> subst hx <;> exact .inl (same _ (fun _ h => nomatch h))
  · split at hx
    · split at hx <;> subst hx <;> exact .inl (same _ (fun _ h => nomatch h))
    · subst hx; exact .inl (same _ (fun _ h => nomatch h))
  · split at hx
    · subst hx; exact .inl (queued _)
    · subst hx; exact .inl (same _ (fun _ h => nomatch h))
  · split at hx
    · subst hx; exact .inl (queued _)
    · subst hx; exact .inl (same _ (fun _ h => nomatch h))
  · split at hx
    · subst hx; exact .inr (.inr ⟨rfl, ‹_›, rfl, rfl⟩)
    · subst hx; exact .inl (same _ (fun _ h => nomatch h))

theorem execute_executed (b : Backend) (p : Pid) (e : Effect) (w : Bool) :
    (b.execute p e w).1.executed = b.executed ++ [(p, e)] := by
  rcases execute_cases b p e w with ⟨⟨_, h, _⟩, _⟩ | ⟨h, _⟩ | ⟨_, _, h, _⟩ <;> rw [h] <;> rfl

theorem execute_closeCalls (b : Backend) (p : Pid) (e : Effect) (w : Bool) :
    (b.execute p e w).1.closeCalls = b.closeCalls := by
  rcases execute_cases b p e w with ⟨⟨_, h, _⟩, _⟩ | ⟨h, _⟩ | ⟨_, _, h, _⟩ <;> rw [h] <;> rfl

theorem closeAll_closeCalls (b : Backend) (rs : List Rid) :
    (closeAll b rs).closeCalls = b.closeCalls ++ rs := by
  induction rs generalizing b with
  | nil => simp [closeAll]
  | cons r rest ih => simp [closeAll, ih, Backend.closeResource]

theorem closeAll_executed (b : Backend) (rs : List Rid) : (closeAll b rs).executed = b.executed := by
  induction rs generalizing b with
  | nil => simp [closeAll]
  | cons r rest ih => simp [closeAll, ih, Backend.closeResource]

theorem closeAll_nextRid (b : Backend) (rs : List Rid) : (closeAll b rs).nextRid = b.nextRid := by
  induction rs generalizing b with
  | nil => simp [closeAll]
  | cons r rest ih => simp [closeAll, ih, Backend.closeResource]

theorem closeAll_pending (b : Backend) (rs : List Rid) : (closeAll b rs).pending = b.pending := by
  induction rs generalizing b with
  | nil => simp [closeAll]
  | cons r rest ih => simp [closeAll, ih, Backend.closeResource]

theorem closeAll_openSet (b : Backend) (rs : List Rid) :
    (closeAll b rs).openSet = b.openSet.filter (fun x => x ∉ rs) := by
  induction rs generalizing b with
  | nil =>
    simp only [closeAll, List.not_mem_nil, not_false_eq_true, decide_true]
    induction b.openSet with
    | nil => rfl
    | cons a t ih => simp [← ih]
  | cons r rest ih =>
    simp only [closeAll, ih, Backend.closeResource, List.filter_filter, List.mem_cons, not_or]
    congr 1
    funext x
    by_cases h1 : x = r <;> by_cases h2 : x ∈ rest <;> simp [h1, h2]

/-- The ids a delivery passes to `close_resource`: if the target has already terminated, everything
it would own after the transfer (normally: what the message carries). -/
def deliverClosed (s : Env) (t : Pid) (v : Val) : List Rid :=
  if s.exited.contains t then ownedBy (insertAll s.owner v.resources t) t else []

theorem deliverClosed_alive {s : Env} {t : Pid} (v : Val) (h : s.exited.contains t = false) :
    deliverClosed s t v = [] := by
  unfold deliverClosed; simp only [h, Bool.false_eq_true, ↓reduceIte]

theorem deliverClosed_dead {s : Env} {t : Pid} (v : Val) (h : s.exited.contains t = true) :
    deliverClosed s t v = ownedBy (insertAll s.owner v.resources t) t := by
  unfold deliverClosed; simp only [h, ↓reduceIte]

theorem handleDeliver_eq (s : Env) (t : Pid) (v : Val) :
    handleDeliver s t v =
      match routeGet s.router t with
      | none => { s with owner := eraseAll (insertAll s.owner v.resources t) (deliverClosed s t v),
                         backend := closeAll s.backend (deliverClosed s t v), faults := s.faults ++ [.processNotFound t] }
      | some _ => { s with owner := eraseAll (insertAll s.owner v.resources t) (deliverClosed s t v),
                           backend := closeAll s.backend (deliverClosed s t v), out := s.out ++ [.deliverMessage t] } := by
  unfold handleDeliver deliverClosed
  simp only [transfer_eq]
  cases s.exited.contains t <;> rfl

theorem handleDeliver_owner (s : Env) (t : Pid) (v : Val) :
    (handleDeliver s t v).owner
      = eraseAll (insertAll s.owner v.resources t) (deliverClosed s t v) := by
  rw [handleDeliver_eq]; split <;> rfl

theorem handleDeliver_backend (s : Env) (t : Pid) (v : Val) :
    (handleDeliver s t v).backend = closeAll s.backend (deliverClosed s t v) := by
  rw [handleDeliver_eq]; split <;> rfl

theorem handleDeliver_out_cases (s : Env) (t : Pid) (v : Val) :
    (handleDeliver s t v).out = s.out ∨ (handleDeliver s t v).out = s.out ++ [.deliverMessage t] := by
  rw [handleDeliver_eq]; split
  · exact .inl rfl
  · exact .inr rfl

@[simp] theorem handleProcessExited_owner (s : Env) (p : Pid) :
    (handleProcessExited s p).owner = eraseAll s.owner (ownedBy s.owner p) := rfl
@[simp] theorem handleProcessExited_backend (s : Env) (p : Pid) :
    (handleProcessExited s p).backend = closeAll s.backend (ownedBy s.owner p) := rfl
@[simp] theorem handleProcessExited_out (s : Env) (p : Pid) : (handleProcessExited s p).out = s.out := rfl
@[simp] theorem handleProcessExited_exited (s : Env) (p : Pid) :
    (handleProcessExited s p).exited = p :: s.exited := rfl
@[simp] theorem handleProcessExited_persistent (s : Env) (p : Pid) :
    (handleProcessExited s p).persistent = s.persistent := rfl
@[simp] theorem handleProcessExited_nextPid (s : Env) (p : Pid) :
    (handleProcessExited s p).nextPid = s.nextPid := rfl

@[simp] theorem handleSpawn_owner (s : Env) (c : Pid) (caps : List Val) (arg : Val) :
    (handleSpawn s c caps arg).owner
      = insertAll s.owner (resourcesList caps ++ arg.resources) s.nextPid := by
  unfold handleSpawn
  simp only [transfer_eq, transferList_eq, insertAll_append]
  split <;> rfl
@[simp] theorem handleSpawn_backend (s : Env) (c : Pid) (caps : List Val) (arg : Val) :
    (handleSpawn s c caps arg).backend = s.backend := by
  unfold handleSpawn; simp only; split <;> rfl

@[simp] theorem startProcess_owner (s : Env) : (startProcess s).owner = s.owner := rfl
@[simp] theorem startProcess_backend (s : Env) : (startProcess s).backend = s.backend := rfl

@[simp] theorem cleanup_owner (s : Env) (p : Pid) :
    (cleanupProcessResources s p).owner = eraseAll s.owner (ownedBy s.owner p) := rfl
@[simp] theorem cleanup_backend (s : Env) (p : Pid) :
    (cleanupProcessResources s p).backend = closeAll s.backend (ownedBy s.owner p) := rfl
@[simp] theorem cleanup_out (s : Env) (p : Pid) : (cleanupProcessResources s p).out = s.out := rfl

theorem handleEffectRequest_rejected (s : Env) (p : Pid) (e : Effect) (w : Bool)
    (h : violatesOwnership s.owner p e = true) :
    handleEffectRequest s p e w = reportEffectError s p := by
  unfold handleEffectRequest; simp [h]

theorem handleEffectRequest_accepted (s : Env) (p : Pid) (e : Effect) (w : Bool)
    (h : violatesOwnership s.owner p e = false) :
    handleEffectRequest s p e w =
      match (s.backend.execute p e w).2 with
      | .immediate res => handleEffectCompletion { s with backend := (s.backend.execute p e w).1 } p res
      | .submitted => { s with backend := (s.backend.execute p e w).1 }
      | .failed => reportEffectError { s with backend := (s.backend.execute p e w).1 } p := by
  unfold handleEffectRequest
  simp only [h, Bool.false_eq_true, ↓reduceIte]
  rcases hx : s.backend.execute p e w with ⟨b', reply⟩
  cases reply <;> rfl

theorem handleEffectRequest_owner (s : Env) (p : Pid) (e : Effect) (w : Bool) :
    (handleEffectRequest s p e w).owner =
      if violatesOwnership s.owner p e then s.owner
      else match (s.backend.execute p e w).2 with
        | .immediate res => regOf s.owner p res
        | _ => s.owner := by
  by_cases h : violatesOwnership s.owner p e = true
  · simp [handleEffectRequest_rejected _ _ _ _ h, h]
  · have h' : violatesOwnership s.owner p e = false := by simpa using h
    rw [handleEffectRequest_accepted _ _ _ _ h']
    simp only [h', Bool.false_eq_true, ↓reduceIte]
    cases (s.backend.execute p e w).2 <;> simp

theorem handleEffectRequest_backend (s : Env) (p : Pid) (e : Effect) (w : Bool) :
    (handleEffectRequest s p e w).backend =
      if violatesOwnership s.owner p e then s.backend else (s.backend.execute p e w).1 := by
  by_cases h : violatesOwnership s.owner p e = true
  · simp [handleEffectRequest_rejected _ _ _ _ h, h]
  · have h' : violatesOwnership s.owner p e = false := by simpa using h
    rw [handleEffectRequest_accepted _ _ _ _ h']
    simp only [h', Bool.false_eq_true, ↓reduceIte]
    cases (s.backend.execute p e w).2 <;> simp

/-- the registrations of a batch of completions, in order -/
def regAll (m : Own) : List (Pid × Res) → Own
  | [] => m
  | (p, r) :: rest => regAll (regOf m p r) rest

theorem handleCompletionsList_owner (s : Env) (cs : List (Pid × Res)) :
    (handleCompletionsList s cs).owner = regAll s.owner cs := by
  induction cs generalizing s with
  | nil => rfl
  | cons c rest ih => obtain ⟨p, r⟩ := c; simp [handleCompletionsList, regAll, ih]

theorem handleCompletionsList_backend (s : Env) (cs : List (Pid × Res)) :
    (handleCompletionsList s cs).backend = s.backend := by
  induction cs generalizing s with
  | nil => rfl
  | cons c rest ih => obtain ⟨p, r⟩ := c; simp [handleCompletionsList, ih]

theorem handleCompletions_owner (s : Env) (n : Nat) :
    (handleCompletions s n).owner = regAll s.owner (s.backend.processCompletions n).2 := by
  unfold handleCompletions
  rcases h : s.backend.processCompletions n with ⟨b', cs⟩
  simp [handleCompletionsList_owner]

theorem handleCompletions_backend (s : Env) (n : Nat) :
    (handleCompletions s n).backend = (s.backend.processCompletions n).1 := by
  unfold handleCompletions
  rcases h : s.backend.processCompletions n with ⟨b', cs⟩
  simp [handleCompletionsList_backend]

theorem KeysNodup.regOf {m : Own} (h : KeysNodup m) (p : Pid) (r : Res) : KeysNodup (regOf m p r) := by
  cases r <;> simp [QM.Resources.regOf, h] ; exact h.insert _ _

theorem KeysNodup.regAll {m : Own} (h : KeysNodup m) (cs : List (Pid × Res)) : KeysNodup (regAll m cs) := by
  induction cs generalizing m with
  | nil => exact h
  | cons c rest ih => obtain ⟨p, r⟩ := c; exact ih (h.regOf p r)

theorem handleCleanups_induct {P : Env → Prop} (hc : ∀ s p, P s → P (cleanupProcessResources s p))
    (s : Env) (rs : List (Pid × Bool)) (h : P s) : P (handleCleanups s rs) := by
  induction rs generalizing s with
  | nil => exact h
  | cons x rest ih =>
    obtain ⟨p, b⟩ := x
    cases b
    · exact ih s h
    · exact ih _ (hc s p h)

theorem handleCompletionsList_out (s : Env) (cs : List (Pid × Res)) :
    ∃ l, (handleCompletionsList s cs).out = s.out ++ l ∧
      ∀ c ∈ l, ∃ p r, c = Cmd.effectCompletion p r ∧ (p, r) ∈ cs := by
  induction cs generalizing s with
  | nil => exact ⟨[], by simp [handleCompletionsList], by simp⟩
  | cons c rest ih =>
    obtain ⟨p, r⟩ := c
    obtain ⟨l, hl, hsub⟩ := ih (handleEffectCompletion s p r)
    simp only [handleCompletionsList]
    rcases handleEffectCompletion_out_cases s p r with h | h
    · refine ⟨l, by rw [hl, h], ?_⟩
      intro c hc
      obtain ⟨p', r', h1, h2⟩ := hsub c hc
      exact ⟨p', r', h1, List.mem_cons_of_mem _ h2⟩
    · refine ⟨Cmd.effectCompletion p r :: l, by rw [hl, h]; simp, ?_⟩
      intro c hc
      rcases List.mem_cons.1 hc with hc | hc
      · exact ⟨p, r, hc, List.mem_cons_self⟩
      · obtain ⟨p', r', h1, h2⟩ := hsub c hc
        exact ⟨p', r', h1, List.mem_cons_of_mem _ h2⟩

theorem handleCompletions_out (s : Env) (n : Nat) :
    ∃ l, (handleCompletions s n).out = s.out ++ l ∧
      ∀ c ∈ l, ∃ p r, c = Cmd.effectCompletion p r ∧ (p, r) ∈ (s.backend.processCompletions n).2 := by
  unfold handleCompletions
  rcases h : s.backend.processCompletions n with ⟨b', cs⟩
  exact handleCompletionsList_out _ cs

end QM.Resources
