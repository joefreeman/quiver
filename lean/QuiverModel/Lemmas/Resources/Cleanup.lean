import QuiverModel.Lemmas.Resources.Handlers
/-!
`handle_process_results` as one batch: which ids it closes (`cleanupList`), in which order, and what
is left of the ownership map. Backend frame lemmas for `process_completions`.
-/
namespace QM.Resources

/-- The ids `handle_process_results` passes to `close_resource`, in order. -/
def cleanupList (m : Own) : List (Pid × Bool) → List Rid
  | [] => []
  | (p, true) :: rest => ownedBy m p ++ cleanupList (eraseAll m (ownedBy m p)) rest
  | (_, false) :: rest => cleanupList m rest

theorem closeAll_append (b : Backend) (xs ys : List Rid) :
    closeAll b (xs ++ ys) = closeAll (closeAll b xs) ys := by
  induction xs generalizing b with
  | nil => rfl
  | cons x rest ih => simp [closeAll, ih]

theorem eraseAll_append (m : Own) (xs ys : List Rid) :
    eraseAll m (xs ++ ys) = eraseAll (eraseAll m xs) ys := by
  induction xs generalizing m with
  | nil => rfl
  | cons x rest ih => simp [eraseAll, ih]

theorem handleCleanups_backend (s : Env) (rs : List (Pid × Bool)) :
    (handleCleanups s rs).backend = closeAll s.backend (cleanupList s.owner rs) := by
  induction rs generalizing s with
  | nil => rfl
  | cons x rest ih =>
    obtain ⟨p, b⟩ := x
    cases b
    · simp [handleCleanups, cleanupList, ih]
    · simp [handleCleanups, cleanupList, ih, closeAll_append]

theorem handleCleanups_owner (s : Env) (rs : List (Pid × Bool)) :
    (handleCleanups s rs).owner = eraseAll s.owner (cleanupList s.owner rs) := by
  induction rs generalizing s with
  | nil => rfl
  | cons x rest ih =>
    obtain ⟨p, b⟩ := x
    cases b
    · simp [handleCleanups, cleanupList, ih]
    · simp [handleCleanups, cleanupList, ih, eraseAll_append]

theorem handleCleanups_out (s : Env) (rs : List (Pid × Bool)) :
    (handleCleanups s rs).out = s.out :=
  handleCleanups_induct (P := fun s' => s'.out = s.out) (fun _ _ h => h) s rs rfl

theorem mem_reportedOf {rs : List (Pid × Rep)} {p : Pid} :
    p ∈ reportedOf rs ↔ ∃ rep, (p, rep) ∈ rs ∧ rep ≠ .pending := by
  unfold reportedOf
  simp only [List.mem_map, List.mem_filter]
  constructor
  · rintro ⟨⟨q, b⟩, ⟨hm, hb⟩, hq⟩
    simp at hb hq; subst hq; exact ⟨b, hm, hb⟩
  · rintro ⟨rep, h, hne⟩; exact ⟨(p, rep), ⟨h, by simpa using hne⟩, rfl⟩

/-- The entries of a `ProcessResults`, classified by the cleanup rule. -/
def classify (pers : List Pid) (rs : List (Pid × Rep)) : List (Pid × Bool) :=
  rs.map fun x => (x.1, cleans pers x)

theorem mem_classify {pers : List Pid} {rs : List (Pid × Rep)} {p : Pid} :
    (p, true) ∈ classify pers rs ↔ ∃ rep, (p, rep) ∈ rs ∧ cleans pers (p, rep) = true := by
  unfold classify
  simp only [List.mem_map, Prod.mk.injEq]
  constructor
  · rintro ⟨⟨q, rep⟩, hm, hq, hc⟩
    simp only at hq hc; subst hq; exact ⟨rep, hm, hc⟩
  · rintro ⟨rep, hm, hc⟩; exact ⟨(p, rep), hm, rfl, hc⟩

theorem handleProcessResults_backend (s : Env) (rs : List (Pid × Rep)) :
    (handleProcessResults s rs).backend
      = closeAll s.backend (cleanupList s.owner (classify s.persistent rs)) :=
  handleCleanups_backend s _

theorem handleProcessResults_owner (s : Env) (rs : List (Pid × Rep)) :
    (handleProcessResults s rs).owner
      = eraseAll s.owner (cleanupList s.owner (classify s.persistent rs)) :=
  handleCleanups_owner s _

theorem handleProcessResults_out (s : Env) (rs : List (Pid × Rep)) :
    (handleProcessResults s rs).out = s.out :=
  handleCleanups_out s _

/-- The batch closes an id for the process that owns it when the batch starts: with unique keys nobody else can come
to own it while the batch runs, and `eraseAll` keeps a later entry from closing it again. -/
theorem mem_cleanupList {m : Own} (hn : KeysNodup m) {rs : List (Pid × Bool)} {r : Rid} :
    r ∈ cleanupList m rs ↔ ∃ p, (p, true) ∈ rs ∧ ownGet m r = some p := by
  induction rs generalizing m with
  | nil => simp [cleanupList]
  | cons x rest ih =>
    obtain ⟨q, b⟩ := x
    cases b
    · simp only [cleanupList, ih hn, List.mem_cons, Prod.mk.injEq, Bool.true_eq_false, and_false,
        false_or]
    · simp only [cleanupList, List.mem_append, mem_ownedBy hn, ih (hn.eraseAll _), ownGet_eraseAll,
        List.mem_cons, Prod.mk.injEq, and_true]
      constructor
      · rintro (h | ⟨p, hp, hg⟩)
        · exact ⟨q, .inl rfl, h⟩
        · refine ⟨p, .inr hp, ?_⟩
          split at hg
          · cases hg
          · exact hg
      · rintro ⟨p, hp | hp, hg⟩
        · subst hp; exact .inl hg
        · by_cases hq : ownGet m r = some q
          · exact .inl hq
          · refine .inr ⟨p, hp, ?_⟩
            rw [if_neg hq]; exact hg

theorem cleanupList_nodup {m : Own} (hn : KeysNodup m) (rs : List (Pid × Bool)) :
    (cleanupList m rs).Nodup := by
  induction rs generalizing m with
  | nil => simp [cleanupList]
  | cons x rest ih =>
    obtain ⟨q, b⟩ := x
    cases b
    · exact ih hn
    · simp only [cleanupList]
      refine List.nodup_append.2 ⟨ownedBy_nodup hn q, ih (hn.eraseAll _), ?_⟩
      intro a ha b hb hab
      subst hab
      obtain ⟨p, _, hg⟩ := (mem_cleanupList (hn.eraseAll _)).1 hb
      rw [ownGet_eraseAll, if_pos ha] at hg
      cases hg

theorem cleanupList_sub_keys {m : Own} (hn : KeysNodup m) {rs : List (Pid × Bool)} {r : Rid}
    (h : r ∈ cleanupList m rs) : r ∈ ownKeys m := by
  obtain ⟨p, _, hg⟩ := (mem_cleanupList hn).1 h
  exact (ownGet_isSome_iff m r).1 (by simp [hg])

theorem completeOne_frame (b : Backend) (x : Pid × Pending) :
    (b.completeOne x).1.executed = b.executed ∧ (b.completeOne x).1.closeCalls = b.closeCalls ∧
    (b.completeOne x).1.effClosed = b.effClosed ∧ (b.completeOne x).1.pending = b.pending := by
  obtain ⟨p, pd⟩ := x
  cases pd with
  | plain ok => simp [Backend.completeOne]
  | creating ok => cases ok <;> simp [Backend.completeOne, Backend.alloc]

theorem completeAll_frame (b : Backend) (xs : List (Pid × Pending)) :
    (b.completeAll xs).1.executed = b.executed ∧ (b.completeAll xs).1.closeCalls = b.closeCalls ∧
    (b.completeAll xs).1.effClosed = b.effClosed ∧ (b.completeAll xs).1.pending = b.pending := by
  induction xs generalizing b with
  | nil => simp [Backend.completeAll]
  | cons x rest ih =>
    simp only [Backend.completeAll]
    have h1 := completeOne_frame b x
    have h2 := ih (b.completeOne x).1
    refine ⟨h2.1.trans h1.1, h2.2.1.trans h1.2.1, h2.2.2.1.trans h1.2.2.1, h2.2.2.2.trans h1.2.2.2⟩

theorem processCompletions_executed (b : Backend) (n : Nat) :
    (b.processCompletions n).1.executed = b.executed :=
  (completeAll_frame _ _).1
theorem processCompletions_closeCalls (b : Backend) (n : Nat) :
    (b.processCompletions n).1.closeCalls = b.closeCalls :=
  (completeAll_frame _ _).2.1
theorem processCompletions_effClosed (b : Backend) (n : Nat) :
    (b.processCompletions n).1.effClosed = b.effClosed :=
  (completeAll_frame _ _).2.2.1

theorem processCompletions_idle (b : Backend) (n : Nat) (h : b.pending = []) :
    b.processCompletions n = (b, []) := by
  unfold Backend.processCompletions
  simp only [h, List.take_nil, List.drop_nil, Backend.completeAll]
  cases b; simp_all

theorem handleCompletions_idle (s : Env) (n : Nat) (h : s.backend.pending = []) :
    handleCompletions s n = s := by
  unfold handleCompletions
  rw [processCompletions_idle _ _ h]
  rfl

end QM.Resources
