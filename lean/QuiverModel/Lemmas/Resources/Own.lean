import QuiverModel.Core.Resources.Basic
import QuiverModel.Lemmas.Util.List
/-!
The ownership map of M-Sys/resources (`Core/Resources/Basic.lean`) as a finite function: one lookup equation
(`ownGet_*`) per operation — `ownInsert`, `ownErase`, `eraseAll`, `transfer` (= `insertAll`) — from which the facts
about the key set follow through `mem_ownKeys_iff_ownGet`; key-uniqueness (`KeysNodup`); `ownedBy`.
-/
namespace QM.Resources

theorem ownGet_eq_lookup : ∀ (m : Own) (r : Rid), ownGet m r = m.lookup r
  | [], _ => rfl
  | (k, p) :: t, r => by
    rw [ownGet, ownGet_eq_lookup t r, List.lookup_cons]
    by_cases h : k = r
    · simp [h]
    · simp [h, beq_false_of_ne (Ne.symm h)]

theorem ownGet_erase (m : Own) (r r' : Rid) :
    ownGet (ownErase m r) r' = if r' = r then none else ownGet m r' := by
  induction m with
  | nil => simp [ownErase, ownGet]
  | cons e t ih =>
    obtain ⟨k, p⟩ := e
    unfold ownErase at ih ⊢
    by_cases hk : k = r
    · subst hk
      simp only [List.filter_cons, ne_eq, not_true_eq_false, decide_false, Bool.false_eq_true,
        ↓reduceIte, ih, ownGet]
      by_cases h : r' = k
      · simp [h]
      · have : ¬ k = r' := fun h' => h h'.symm
        simp [h, this]
    · simp only [List.filter_cons, ne_eq, hk, not_false_eq_true, decide_true, ↓reduceIte, ownGet, ih]
      by_cases h : k = r'
      · subst h; simp [hk]
      · simp [h]

theorem ownGet_insert (m : Own) (r : Rid) (p : Pid) (r' : Rid) :
    ownGet (ownInsert m r p) r' = if r' = r then some p else ownGet m r' := by
  unfold ownInsert
  simp only [ownGet, ownGet_erase]
  by_cases h : r' = r
  · subst h; simp
  · have : ¬ r = r' := fun h' => h h'.symm
    simp [h, this]

theorem ownGet_isSome_iff (m : Own) (r : Rid) : (ownGet m r).isSome ↔ r ∈ ownKeys m := by
  rw [ownGet_eq_lookup, List.lookup_isSome_iff]
  simp only [ownKeys, List.mem_map, beq_iff_eq]
  exact ⟨fun ⟨p, hp, e⟩ => ⟨p, hp, e.symm⟩, fun ⟨p, hp, e⟩ => ⟨p, hp, e.symm⟩⟩

theorem ownGet_eq_none_iff (m : Own) (r : Rid) : ownGet m r = none ↔ r ∉ ownKeys m := by
  rw [← ownGet_isSome_iff]; cases ownGet m r <;> simp

theorem mem_ownKeys_iff_ownGet {m : Own} {r : Rid} : r ∈ ownKeys m ↔ ∃ p, ownGet m r = some p := by
  rw [← ownGet_isSome_iff, Option.isSome_iff_exists]

/-- No resource id is registered twice. -/
def KeysNodup (m : Own) : Prop := (ownKeys m).Nodup

theorem ownKeys_erase (m : Own) (r : Rid) : ownKeys (ownErase m r) = (ownKeys m).filter (· ≠ r) := by
  unfold ownErase ownKeys
  rw [List.filter_map]
  rfl

theorem KeysNodup.erase {m : Own} (h : KeysNodup m) (r : Rid) : KeysNodup (ownErase m r) := by
  unfold KeysNodup at *
  rw [ownKeys_erase]
  exact h.sublist List.filter_sublist

theorem mem_ownKeys_erase {m : Own} {r x : Rid} : x ∈ ownKeys (ownErase m r) ↔ x ∈ ownKeys m ∧ x ≠ r := by
  rw [ownKeys_erase]; simp

theorem KeysNodup.insert {m : Own} (h : KeysNodup m) (r : Rid) (p : Pid) :
    KeysNodup (ownInsert m r p) := by
  unfold KeysNodup ownInsert ownKeys
  simp only [List.map_cons, List.nodup_cons]
  refine ⟨?_, h.erase r⟩
  intro hm
  have := (mem_ownKeys_erase (m := m) (r := r) (x := r)).1 hm
  exact this.2 rfl

theorem mem_ownKeys_insert {m : Own} {r x : Rid} {p : Pid} :
    x ∈ ownKeys (ownInsert m r p) ↔ x = r ∨ x ∈ ownKeys m := by
  simp only [mem_ownKeys_iff_ownGet, ownGet_insert]
  by_cases h : x = r <;> simp [h]

theorem mem_of_ownGet {m : Own} {r : Rid} {p : Pid} (h : ownGet m r = some p) : (r, p) ∈ m :=
  mem_of_lookup (ownGet_eq_lookup m r ▸ h)

theorem ownGet_of_mem {m : Own} (hn : KeysNodup m) {r : Rid} {p : Pid} (h : (r, p) ∈ m) :
    ownGet m r = some p :=
  (ownGet_eq_lookup m r).trans ((lookup_eq_some_iff_of_nodup hn r p).mpr h)

theorem mem_ownedBy {m : Own} (hn : KeysNodup m) {r : Rid} {p : Pid} :
    r ∈ ownedBy m p ↔ ownGet m r = some p := by
  unfold ownedBy
  simp only [List.mem_map, List.mem_filter, decide_eq_true_eq]
  constructor
  · rintro ⟨⟨k, q⟩, ⟨hm, hq⟩, hk⟩
    simp at hq hk; subst hq; subst hk
    exact ownGet_of_mem hn hm
  · intro h
    exact ⟨(r, p), ⟨mem_of_ownGet h, rfl⟩, rfl⟩

theorem ownedBy_sublist_keys (m : Own) (p : Pid) : (ownedBy m p).Sublist (ownKeys m) := by
  unfold ownedBy ownKeys
  exact List.Sublist.map _ List.filter_sublist

theorem ownedBy_nodup {m : Own} (hn : KeysNodup m) (p : Pid) : (ownedBy m p).Nodup :=
  hn.sublist (ownedBy_sublist_keys m p)

theorem ownGet_eraseAll (m : Own) (rs : List Rid) (r : Rid) :
    ownGet (eraseAll m rs) r = if r ∈ rs then none else ownGet m r := by
  induction rs generalizing m with
  | nil => simp [eraseAll]
  | cons x xs ih =>
    simp only [eraseAll, ih, ownGet_erase, List.mem_cons]
    by_cases h1 : r ∈ xs
    · simp [h1]
    · by_cases h2 : r = x
      · simp [h2]
      · simp [h1, h2]

theorem KeysNodup.eraseAll {m : Own} (h : KeysNodup m) (rs : List Rid) : KeysNodup (eraseAll m rs) := by
  induction rs generalizing m with
  | nil => exact h
  | cons x xs ih => exact ih (h.erase x)

theorem mem_ownKeys_eraseAll {m : Own} {rs : List Rid} {x : Rid} :
    x ∈ ownKeys (eraseAll m rs) ↔ x ∈ ownKeys m ∧ x ∉ rs := by
  simp only [mem_ownKeys_iff_ownGet, ownGet_eraseAll]
  by_cases h : x ∈ rs <;> simp [h]

/-- what `transfer` does (`transfer_eq`): insert every resource of the value, in traversal order -/
def insertAll (m : Own) (rs : List Rid) (q : Pid) : Own := rs.foldl (fun m r => ownInsert m r q) m

theorem insertAll_append (m : Own) (a b : List Rid) (q : Pid) :
    insertAll m (a ++ b) q = insertAll (insertAll m a q) b q := by
  simp [insertAll, List.foldl_append]

mutual
theorem transfer_eq (m : Own) (v : Val) (q : Pid) : transfer m v q = insertAll m v.resources q := by
  cases v with
  | res r => simp [transfer, Val.resources, insertAll]
  | tuple fs => simp only [transfer, Val.resources]; exact transferList_eq m fs q
  | func cs => simp only [transfer, Val.resources]; exact transferList_eq m cs q
  | other => simp [transfer, Val.resources, insertAll]
theorem transferList_eq (m : Own) (vs : List Val) (q : Pid) :
    transferList m vs q = insertAll m (resourcesList vs) q := by
  cases vs with
  | nil => simp [transferList, resourcesList, insertAll]
  | cons v rest =>
    simp only [transferList, resourcesList, insertAll_append]
    rw [transfer_eq m v q, transferList_eq _ rest q]
end

theorem ownGet_insertAll (m : Own) (rs : List Rid) (q : Pid) (r : Rid) :
    ownGet (insertAll m rs q) r = if r ∈ rs then some q else ownGet m r := by
  induction rs generalizing m with
  | nil => simp [insertAll]
  | cons x xs ih =>
    have : insertAll m (x :: xs) q = insertAll (ownInsert m x q) xs q := rfl
    rw [this, ih, ownGet_insert]
    by_cases h1 : r ∈ xs
    · simp [h1]
    · by_cases h2 : r = x
      · simp [h2]
      · simp [h1, h2]

theorem KeysNodup.insertAll {m : Own} (h : KeysNodup m) (rs : List Rid) (q : Pid) :
    KeysNodup (insertAll m rs q) := by
  induction rs generalizing m with
  | nil => exact h
  | cons x xs ih => exact ih (h.insert x q)

theorem mem_ownKeys_insertAll {m : Own} {rs : List Rid} {q : Pid} {x : Rid} :
    x ∈ ownKeys (insertAll m rs q) ↔ x ∈ rs ∨ x ∈ ownKeys m := by
  simp only [mem_ownKeys_iff_ownGet, ownGet_insertAll]
  by_cases h : x ∈ rs <;> simp [h]

end QM.Resources
