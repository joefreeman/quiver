import QuiverModel.Core.Dict
import QuiverModel.Lemmas.Util.List
/-
The source's tail-recursive list helpers are the standard list operations; association-list facts
about `zip slots children`; collision-bucket operations as plain list functions. Core Lean only.
-/
namespace QM.Dict

variable {α β : Type}

theorem revcat_eq (a b : List α) : revcat a b = a.reverse ++ b := by
  induction a generalizing b with
  | nil => simp [revcat]
  | cons h t ih => simp [revcat, ih]

theorem length_eq (l : List α) (n : Nat) : length l n = l.length + n := by
  induction l generalizing n with
  | nil => simp [length]
  | cons h t ih => simp [length, ih]; omega

theorem map_eq (l : List α) (f : α → β) (acc : List β) : map l f acc = acc.reverse ++ l.map f := by
  induction l generalizing acc with
  | nil => simp [map, revcat_eq]
  | cons h t ih => simp [map, ih]

theorem childAt_eq {K V : Type} (cs : List (Dict K V)) (i : Nat) : childAt cs i = cs[i]?.getD .empty := by
  induction cs generalizing i with
  | nil => simp [childAt]
  | cons h t ih =>
    unfold childAt
    cases i with
    | zero => simp
    | succ i => simp [ih]

theorem insertAt_eq (l : List α) (i : Nat) (x : α) (acc : List α) (h : i ≤ l.length) :
    insertAt l i x acc = acc.reverse ++ l.insertIdx i x := by
  induction l generalizing i acc with
  | nil =>
    have : i = 0 := by simpa using h
    subst this; simp [insertAt, revcat_eq]
  | cons a t ih =>
    unfold insertAt
    cases i with
    | zero => simp [revcat_eq]
    | succ i =>
      simp only [Nat.add_one_ne_zero, if_false, Nat.add_sub_cancel]
      rw [ih i (a :: acc) (by simpa using h)]
      simp [List.insertIdx_succ_cons]

theorem updateAt_eq (l : List α) (i : Nat) (x : α) (acc : List α) :
    updateAt l i x acc = acc.reverse ++ l.set i x := by
  induction l generalizing i acc with
  | nil => simp [updateAt, revcat_eq]
  | cons a t ih =>
    unfold updateAt
    cases i with
    | zero => simp [revcat_eq]
    | succ i => simp [ih]

theorem removeAt_eq (l : List α) (i : Nat) (acc : List α) :
    removeAt l i acc = acc.reverse ++ l.eraseIdx i := by
  induction l generalizing i acc with
  | nil => simp [removeAt, revcat_eq]
  | cons a t ih =>
    unfold removeAt
    cases i with
    | zero => simp [revcat_eq]
    | succ i => simp [ih]

theorem insertAt_nil (l : List α) (i : Nat) (x : α) (h : i ≤ l.length) :
    insertAt l i x [] = l.insertIdx i x := insertAt_eq l i x [] h

theorem updateAt_nil (l : List α) (i : Nat) (x : α) : updateAt l i x [] = l.set i x :=
  updateAt_eq l i x []

theorem removeAt_nil (l : List α) (i : Nat) : removeAt l i [] = l.eraseIdx i := removeAt_eq l i []

theorem zip_mem_of_getElem? {l : List α} {cs : List β} {i : Nat} {f : α} {c : β}
    (h1 : l[i]? = some f) (h2 : cs[i]? = some c) : (f, c) ∈ l.zip cs :=
  mem_zip_iff.mpr ⟨i, h1, h2⟩

theorem zip_functional {l : List α} {cs : List β} {f : α} {c c' : β} (hn : l.Nodup)
    (h1 : (f, c) ∈ l.zip cs) (h2 : (f, c') ∈ l.zip cs) : c = c' := by
  obtain ⟨i, h1a, h1b⟩ := mem_zip_iff.mp h1
  obtain ⟨j, h2a, h2b⟩ := mem_zip_iff.mp h2
  rw [getElem?_inj_of_nodup hn h1a h2a] at h1b
  exact Option.some.inj (h1b.symm.trans h2b)

theorem exists_zip_of_mem_left {l : List α} {cs : List β} (hl : l.length = cs.length) {f : α}
    (hf : f ∈ l) : ∃ c, (f, c) ∈ l.zip cs := by
  obtain ⟨i, hi, rfl⟩ := List.mem_iff_getElem.mp hf
  exact ⟨cs[i]'(by omega), zip_mem_of_getElem? (List.getElem?_eq_getElem hi) (List.getElem?_eq_getElem (by omega))⟩

theorem zip_insertIdx {l : List α} {cs : List β} (hl : l.length = cs.length) {i : Nat}
    (f : α) (x : β) :
    (l.insertIdx i f).zip (cs.insertIdx i x) = (l.zip cs).insertIdx i (f, x) := by
  induction l generalizing cs i with
  | nil =>
    cases cs with
    | nil => cases i <;> simp
    | cons b cs => simp at hl
  | cons a t ih =>
    cases cs with
    | nil => simp at hl
    | cons b cs =>
      cases i with
      | zero => simp
      | succ i =>
        simp only [List.insertIdx_succ_cons, List.zip_cons_cons]
        rw [ih (by simpa using hl)]

theorem mem_zip_insertIdx {l : List α} {cs : List β} (hl : l.length = cs.length) {i : Nat}
    (hi : i ≤ l.length) (f g : α) (x c : β) :
    (g, c) ∈ (l.insertIdx i f).zip (cs.insertIdx i x) ↔ (g = f ∧ c = x) ∨ (g, c) ∈ l.zip cs := by
  rw [zip_insertIdx hl, List.mem_insertIdx (by simp [List.length_zip, ← hl]; exact hi)]
  simp

theorem mem_zip_set {l : List α} {cs : List β} (hn : l.Nodup) (hl : l.length = cs.length) {i : Nat}
    {f : α} (hf : l[i]? = some f) (g : α) (x c : β) :
    (g, c) ∈ l.zip (cs.set i x) ↔ (g = f ∧ c = x) ∨ (g ≠ f ∧ (g, c) ∈ l.zip cs) := by
  have hi : i < cs.length := hl ▸ (List.getElem?_eq_some_iff.mp hf).1
  simp only [mem_zip_iff, List.getElem?_set]
  constructor
  · rintro ⟨j, hj, hc⟩
    by_cases hij : i = j
    · subst hij
      rw [if_pos rfl, if_pos hi] at hc
      exact Or.inl ⟨Option.some.inj (hj.symm.trans hf), (Option.some.inj hc).symm⟩
    · rw [if_neg hij] at hc
      exact Or.inr ⟨fun hgf => hij (getElem?_inj_of_nodup hn hf (hgf ▸ hj)), j, hj, hc⟩
  · rintro (⟨rfl, rfl⟩ | ⟨hgf, j, hj, hc⟩)
    · exact ⟨i, hf, by rw [if_pos rfl, if_pos hi]⟩
    · refine ⟨j, hj, ?_⟩
      rwa [if_neg fun hij => hgf (Option.some.inj ((hij ▸ hj).symm.trans hf))]

theorem mem_zip_eraseIdx {l : List α} {cs : List β} (hn : l.Nodup) (hl : l.length = cs.length)
    {i : Nat} {f : α} (hf : l[i]? = some f) (g : α) (c : β) :
    (g, c) ∈ (l.eraseIdx i).zip (cs.eraseIdx i) ↔ g ≠ f ∧ (g, c) ∈ l.zip cs := by
  simp only [mem_zip_iff, List.getElem?_eraseIdx]
  -- the entry at index `j` of the erased lists is the entry at `j` or `j + 1` of the originals
  constructor
  · rintro ⟨j, hj, hc⟩
    by_cases hji : j < i
    · rw [if_pos hji] at hj hc
      exact ⟨fun hgf => Nat.ne_of_gt hji (getElem?_inj_of_nodup hn hf (hgf ▸ hj)), j, hj, hc⟩
    · rw [if_neg hji] at hj hc
      exact ⟨fun hgf => hji (getElem?_inj_of_nodup hn hf (hgf ▸ hj) ▸ Nat.lt_succ_self j), j + 1, hj, hc⟩
  · rintro ⟨hgf, j, hj, hc⟩
    have hne : j ≠ i := fun h => hgf (Option.some.inj ((h ▸ hj).symm.trans hf))
    by_cases hji : j < i
    · exact ⟨j, by rwa [if_pos hji], by rwa [if_pos hji]⟩
    · cases j with
      | zero => exact absurd (Nat.le_zero.mp (Nat.le_of_not_lt hji)).symm hne
      | succ j =>
        have hji' : ¬ j < i := fun h => hne (Nat.le_antisymm h (Nat.le_of_not_lt hji))
        exact ⟨j, by rwa [if_neg hji'], by rwa [if_neg hji']⟩

variable {K V : Type} [DecidableEq K]

/-- `bucket_put` without the accumulator -/
def bput : List (K × V) → K → V → List (K × V)
  | [], k, v => [(k, v)]
  | (k', v') :: t, k, v => if k' = k then (k, v) :: t else (k', v') :: bput t k v

/-- `bucket_remove` without the accumulator -/
def brem : List (K × V) → K → List (K × V)
  | [], _ => []
  | (k', v') :: t, k => if k' = k then t else (k', v') :: brem t k

theorem bucketPut_eq (es : List (K × V)) (k : K) (v : V) (acc : List (K × V)) :
    bucketPut es k v acc = acc.reverse ++ bput es k v := by
  induction es generalizing acc with
  | nil => simp [bucketPut, bput, revcat_eq]
  | cons e t ih =>
    obtain ⟨k', v'⟩ := e
    unfold bucketPut bput
    split
    · simp [revcat_eq]
    · simp [ih]

theorem bucketRemove_eq (es : List (K × V)) (k : K) (acc : List (K × V)) :
    bucketRemove es k acc = acc.reverse ++ brem es k := by
  induction es generalizing acc with
  | nil => simp [bucketRemove, brem, revcat_eq]
  | cons e t ih =>
    obtain ⟨k', v'⟩ := e
    unfold bucketRemove brem
    split
    · simp [revcat_eq]
    · simp [ih]

theorem bucketPut_nil (es : List (K × V)) (k : K) (v : V) : bucketPut es k v [] = bput es k v :=
  bucketPut_eq es k v []

theorem bucketRemove_nil (es : List (K × V)) (k : K) : bucketRemove es k [] = brem es k :=
  bucketRemove_eq es k []

/-! with distinct keys, `bucket_remove` filters the key out and `bucket_put` puts the new binding
in front of what is left, up to order -/

theorem brem_eq_filter {es : List (K × V)} (hn : (es.map (·.1)).Nodup) (k : K) :
    brem es k = es.filter (·.1 ≠ k) := by
  induction es with
  | nil => rfl
  | cons e t ih =>
    obtain ⟨k', v'⟩ := e
    rw [List.map_cons, List.nodup_cons] at hn
    rw [brem]
    split
    · rename_i hk
      rw [List.filter_cons_of_neg (by simpa using hk)]
      refine (List.filter_eq_self.mpr fun a ha => decide_eq_true fun (hak : a.1 = k) => hn.1 ?_).symm
      rw [hk, ← hak]
      exact List.mem_map_of_mem (f := (·.1)) ha
    · rename_i hk
      rw [List.filter_cons_of_pos (by simpa using hk), ih hn.2]

theorem bput_perm {es : List (K × V)} (hn : (es.map (·.1)).Nodup) (k : K) (v : V) :
    (bput es k v).Perm ((k, v) :: es.filter (·.1 ≠ k)) := by
  induction es with
  | nil => exact .refl _
  | cons e t ih =>
    obtain ⟨k', v'⟩ := e
    rw [bput]
    split
    · rename_i hk
      rw [← brem_eq_filter hn, brem, if_pos hk]
    · rename_i hk
      rw [List.filter_cons_of_pos (by simpa using hk)]
      exact ((ih (List.nodup_cons.mp hn).2).cons _).trans (.swap _ _ _)

theorem mem_bput {es : List (K × V)} (hn : (es.map (·.1)).Nodup) (k : K) (v : V) (e : K × V) :
    e ∈ bput es k v ↔ e = (k, v) ∨ (e.1 ≠ k ∧ e ∈ es) := by
  rw [(bput_perm hn k v).mem_iff, List.mem_cons, List.mem_filter, decide_eq_true_iff, and_comm]

theorem mem_brem {es : List (K × V)} (hn : (es.map (·.1)).Nodup) (k : K) (e : K × V) :
    e ∈ brem es k ↔ e.1 ≠ k ∧ e ∈ es := by
  rw [brem_eq_filter hn, List.mem_filter, decide_eq_true_iff, and_comm]

theorem nodup_brem {es : List (K × V)} (hn : (es.map (·.1)).Nodup) (k : K) :
    ((brem es k).map (·.1)).Nodup := by
  rw [brem_eq_filter hn]
  exact hn.sublist (List.filter_sublist.map _)

theorem nodup_bput {es : List (K × V)} (hn : (es.map (·.1)).Nodup) (k : K) (v : V) :
    ((bput es k v).map (·.1)).Nodup := by
  rw [((bput_perm hn k v).map _).nodup_iff, List.map_cons, List.nodup_cons, ← brem_eq_filter hn]
  refine ⟨fun h => ?_, nodup_brem hn k⟩
  obtain ⟨e, he, hek⟩ := List.mem_map.mp h
  exact ((mem_brem hn k e).mp he).1 hek

theorem length_bput (es : List (K × V)) (k : K) (v : V) : es.length ≤ (bput es k v).length := by
  induction es with
  | nil => exact Nat.zero_le _
  | cons e t ih =>
    obtain ⟨k', v'⟩ := e
    rw [bput]
    split
    · exact Nat.le_refl _
    · exact Nat.succ_le_succ ih

theorem bucketGet_eq_lookup (es : List (K × V)) (k : K) : bucketGet es k = es.lookup k := by
  induction es with
  | nil => rfl
  | cons e t ih =>
    obtain ⟨a, b⟩ := e
    rw [bucketGet, List.lookup_cons, ih]
    by_cases h : a = k
    · simp [h]
    · simp [h, beq_false_of_ne (Ne.symm h)]

theorem bucketGet_eq_some {es : List (K × V)} (hn : (es.map (·.1)).Nodup) (k : K) (v : V) :
    bucketGet es k = some v ↔ (k, v) ∈ es := by
  rw [bucketGet_eq_lookup, lookup_eq_some_iff_of_nodup hn]

end QM.Dict
