import QuiverModel.Core.Dict
import QuiverModel.Core.Builtins.Integer
import QuiverModel.Core.Builtins.Binary
/-
Tie between the `Nat` arithmetic of M-Dict and the i64 builtin model of C12 (`QM.Builtins.integer*`,
itself tied to builtins/integer.rs by C12's differential): on the ranges the dict module uses, the
builtins return exactly what `Core/Dict.lean` computes.
-/
namespace QM.Dict
open QM.Builtins QM

theorem toI64_nat {a : Nat} (ha : a < 2 ^ 63) : toI64 (a : Int) = .ok (BitVec.ofNat 64 a) := by
  rw [toI64, if_pos ⟨by omega, by omega⟩, BitVec.ofInt_natCast]

theorem two64_nat {a b : Nat} (ha : a < 2 ^ 63) (hb : b < 2 ^ 63) :
    two64 a b = .ok (BitVec.ofNat 64 a, BitVec.ofNat 64 b) := by
  rw [two64, toI64_nat ha, toI64_nat hb]

theorem toI64_toInt (x : BitVec 64) : toI64 x.toInt = .ok x := by
  have := BitVec.toInt_lt (x := x)
  have := BitVec.le_toInt (x := x)
  rw [toI64, if_pos ⟨by omega, by omega⟩, BitVec.ofInt_toInt]

theorem toInt_of_toNat {x : BitVec 64} {n : Nat} (h : x.toNat = n) (hn : n < 2 ^ 63) :
    x.toInt = (n : Int) := by
  rw [BitVec.toInt_eq_toNat_of_lt (by omega), h]

theorem toNat_ofNat_small {a : Nat} (ha : a < 2 ^ 63) : (BitVec.ofNat 64 a).toNat = a :=
  Nat.mod_eq_of_lt (Nat.lt_trans ha (by decide))

theorem integerAnd_tie {a b : Nat} (ha : a < 2 ^ 63) (hb : b < 2 ^ 63) :
    integerAnd a b = .ok ((a &&& b : Nat) : Int) := by
  rw [integerAnd, two64_nat ha hb]
  exact congrArg Outcome.ok (toInt_of_toNat
    (by rw [BitVec.toNat_and, toNat_ofNat_small ha, toNat_ofNat_small hb])
    (Nat.lt_of_le_of_lt Nat.and_le_left ha))

theorem integerOr_tie {a b : Nat} (ha : a < 2 ^ 63) (hb : b < 2 ^ 63) :
    integerOr a b = .ok ((a ||| b : Nat) : Int) := by
  rw [integerOr, two64_nat ha hb]
  exact congrArg Outcome.ok (toInt_of_toNat
    (by rw [BitVec.toNat_or, toNat_ofNat_small ha, toNat_ofNat_small hb])
    (Nat.or_lt_two_pow ha hb))

theorem popcountNat_tie (n a : Nat) : QM.Builtins.popcountNat n a = QM.Dict.popcountNat n a := by
  induction n generalizing a with
  | zero => rfl
  | succ n ih => rw [QM.Builtins.popcountNat, QM.Dict.popcountNat, ih]

theorem integerPopcount_tie {a : Nat} (ha : a < 2 ^ 63) :
    integerPopcount a = .ok ((popcount a : Nat) : Int) := by
  rw [integerPopcount, toI64_nat ha]
  exact congrArg (fun n : Nat => Outcome.ok (n : Int))
    (by rw [popcount64, toNat_ofNat_small ha, popcountNat_tie]; rfl)

/-- `[1, f] %int.shift` for a slot number -/
theorem integerShift_left_tie {f : Nat} (hf : f < 63) :
    integerShift 1 (f : Int) = .ok ((1 <<< f : Nat) : Int) := by
  have h3 : 1 <<< f < 2 ^ 63 := by
    rw [Nat.one_shiftLeft]; exact Nat.pow_lt_pow_right (by decide) hf
  have h1 : two64 1 (f : Int) = .ok (BitVec.ofNat 64 1, BitVec.ofNat 64 f) :=
    two64_nat (a := 1) (by decide) (by omega)
  rw [integerShift, h1]
  by_cases h0 : f = 0
  · subst h0; rfl
  · have hne : ¬ ((f : Int) = 0) := by omega
    have hpos : (f : Int) > 0 := by omega
    have hlt : ¬ (f ≥ 64) := by omega
    simp only [hne, if_false, hlt, hpos, if_true, Int.natAbs_natCast]
    exact congrArg Outcome.ok (toInt_of_toNat
      (by rw [BitVec.toNat_shiftLeft, toNat_ofNat_small (a := 1) (by decide),
        Nat.mod_eq_of_lt (Nat.lt_trans h3 (by decide))]) h3)

/-- `[0, shift] %num.sub ~> [hash, ~] %int.shift`: right shift of a non-negative value -/
theorem integerShift_right_tie {h s : Nat} (hh : h < 2 ^ 63) (hs : s < 2 ^ 63) :
    integerShift h (0 - (s : Int)) = .ok ((h >>> s : Nat) : Int) := by
  have h2 : toI64 (0 - (s : Int)) = .ok (BitVec.ofInt 64 (0 - (s : Int))) := by
    rw [toI64, if_pos ⟨by omega, by omega⟩]
  rw [integerShift, two64, toI64_nat hh, h2]
  have h0' := toInt_of_toNat (toNat_ofNat_small hh) hh
  by_cases h0 : s = 0
  · subst h0; exact congrArg Outcome.ok h0'
  · have hne : ¬ (0 - (s : Int) = 0) := by omega
    have hneg : ¬ (0 - (s : Int) > 0) := by omega
    have habs : (0 - (s : Int)).natAbs = s := by rw [Int.zero_sub, Int.natAbs_neg, Int.natAbs_natCast]
    simp only [hne, if_false, habs, hneg]
    by_cases h64 : s ≥ 64
    · have : h >>> s = 0 := by
        rw [Nat.shiftRight_eq_div_pow]
        exact Nat.div_eq_of_lt (Nat.lt_of_lt_of_le hh (Nat.pow_le_pow_right (by decide) (by omega)))
      simp [h64, h0', this]
    · have hmsb : (BitVec.ofNat 64 h).msb = false := by
        rw [BitVec.msb_eq_false_iff_two_mul_lt, toNat_ofNat_small hh]; omega
      rw [if_neg h64, BitVec.sshiftRight_eq_of_msb_false hmsb]
      exact congrArg Outcome.ok (toInt_of_toNat
        (by rw [BitVec.toNat_ushiftRight, toNat_ofNat_small hh])
        (Nat.lt_of_le_of_lt (Nat.shiftRight_le _ _) hh))

/-- `[bitmap, bit %int.not] %int.and`: clearing a bit through the 64-bit complement -/
theorem integerNot_and_tie {a b : Nat} (ha : a < 2 ^ 63) (hb : b < 2 ^ 63) :
    (integerNot b).bind (fun nb => integerAnd a nb) = .ok ((andNot a b : Nat) : Int) := by
  rw [integerNot, toI64_nat hb]
  show integerAnd a (~~~ BitVec.ofNat 64 b).toInt = _
  rw [integerAnd, two64, toI64_nat ha, toI64_toInt]
  exact congrArg Outcome.ok (toInt_of_toNat
    (by rw [BitVec.toNat_and, BitVec.toNat_not, toNat_ofNat_small ha, toNat_ofNat_small hb]; rfl)
    (Nat.lt_of_le_of_lt Nat.and_le_left ha))

/-- `fragment`, as the source computes it with the builtins:
`[0, shift] %num.sub ~> [hash, ~] %int.shift ~> [~, 31] %int.and` -/
theorem fragment_tie {h s : Nat} (hh : h < 2 ^ 63) (hs : s < 2 ^ 63) :
    ((integerSubtract 0 (s : Int)).bind fun ns => (integerShift h ns).bind fun x => integerAnd x 31) =
      .ok ((fragment h s : Nat) : Int) := by
  simp only [integerSubtract, Outcome.bind]
  rw [integerShift_right_tie hh hs]
  simp only [Outcome.bind]
  have h3 : h >>> s < 2 ^ 63 := Nat.lt_of_le_of_lt (Nat.shiftRight_le _ _) hh
  exact integerAnd_tie (b := 31) h3 (by decide)

/-- `slot_index`, as the source computes it: `[bit, 1] %num.sub ~> [bitmap, ~] %int.and ~> %int.popcount` -/
theorem slotIndex_tie {bitmap bit : Nat} (hb : bitmap < 2 ^ 63) (hbit : bit < 2 ^ 63) (h1 : 1 ≤ bit) :
    ((integerSubtract (bit : Int) 1).bind fun m => (integerAnd bitmap m).bind integerPopcount) =
      .ok ((slotIndex bitmap bit : Nat) : Int) := by
  simp only [integerSubtract, Outcome.bind]
  have : (bit : Int) - 1 = ((bit - 1 : Nat) : Int) := (Int.ofNat_sub h1).symm
  rw [this, integerAnd_tie hb (Nat.lt_of_le_of_lt (Nat.sub_le _ _) hbit)]
  simp only
  exact integerPopcount_tie (Nat.lt_of_le_of_lt Nat.and_le_left hb)

/-- `__binary_hash32__`: the hash of M-Dict's production instance is C12's model of the builtin -/
theorem fnv1a32_tie (v : List UInt8) :
    QM.Builtins.fnv1a32 QM.Builtins.fnv32Offset QM.Builtins.fnv32Prime v = QM.Dict.fnv1a32 v := rfl

theorem fnv1a32_lt (v : List UInt8) : QM.Dict.fnv1a32 v < 2 ^ 32 := by
  have : ∀ (l : List UInt8) (init : Nat), init < 2 ^ 32 →
      l.foldl (fun h b => ((h ^^^ b.toNat) * 16777619) % 4294967296) init < 2 ^ 32 := by
    intro l
    induction l with
    | nil => exact fun _ h => h
    | cons b t ih => exact fun _ _ => ih _ (Nat.mod_lt _ (by decide))
  exact this v _ (by decide)

/-- the production hash satisfies the hypothesis of the `C19.*` theorems -/
theorem keyHash_lt (k : Key) : keyHash k < 2 ^ 32 := fnv1a32_lt _

end QM.Dict
