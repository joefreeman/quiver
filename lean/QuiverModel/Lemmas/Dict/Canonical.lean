import QuiverModel.Lemmas.Dict.Spec
/-
Canonical shape: a well-formed trie is determined by its contents (up to the order of entries
inside collision buckets) — the claim in the comment above `collapse_node` in std/dict.qv.
-/
namespace QM.Dict

variable {K V : Type}

/-- equal up to the order of entries inside collision buckets -/
inductive Similar : Dict K V → Dict K V → Prop
  | empty : Similar .empty .empty
  | leaf {h k v} : Similar (.leaf h k v) (.leaf h k v)
  | collision {h es es'} : es.Perm es' → Similar (.collision h es) (.collision h es')
  | node {b cs cs'} : cs.length = cs'.length →
      (∀ i (h1 : i < cs.length) (h2 : i < cs'.length), Similar cs[i] cs'[i]) →
      Similar (.node b cs) (.node b cs')

theorem nodup_of_nodup_map {α β : Type} {f : α → β} {l : List α} (h : (l.map f).Nodup) : l.Nodup :=
  List.Pairwise.of_map f (fun _ _ hab heq => hab (congrArg f heq)) h

theorem length_le_one_of_forall_eq {α : Type} {l : List α} {x : α} (hn : l.Nodup)
    (h : ∀ a ∈ l, a = x) : l.length ≤ 1 :=
  match l, hn, h with
  | [], _, _ | [_], _, _ => by simp
  | a :: b :: _, hn, h =>
    absurd ((h a (by simp)).trans (h b (by simp)).symm) (by simp at hn; exact hn.1.1)

variable {hash : K → Nat}

theorem WF.toList_ne_nil {d : Dict K V} {s p : Nat} (h : WF hash d s p) : toList d ≠ [] := by
  induction h with
  | leaf => exact List.cons_ne_nil _ _
  | @collision _ _ _ es _ _ h3 _ =>
    exact List.ne_nil_of_length_pos (Nat.lt_of_lt_of_le (by decide) h3)
  | node _ _ _ hl _ _ hne ih =>
    obtain ⟨c, hc⟩ := List.exists_mem_of_ne_nil _ hne
    obtain ⟨f, hf⟩ := exists_zip_of_mem_right hl.symm hc
    obtain ⟨e, he⟩ := List.exists_mem_of_ne_nil _ (ih f c hf)
    exact List.ne_nil_of_mem (mem_toList_node.mpr ⟨c, hc, he⟩)

theorem mem_slots_iff_routed {b : Nat} {cs : List (Dict K V)} {s p : Nat}
    (h : WF hash (.node b cs) s p) (i : Nat) :
    i ∈ slots b ↔ ∃ e ∈ toList (Dict.node b cs), fragment (hash e.1) s = i := by
  have hS := h.slotted
  constructor
  · intro hi
    obtain ⟨c, hz⟩ := exists_zip_of_mem_left hS.len.symm hi
    obtain ⟨e, he⟩ := List.exists_mem_of_ne_nil _ (hS.child i c hz).toList_ne_nil
    exact ⟨e, ((hS.mem_child hz e).mp he).symm⟩
  · rintro ⟨e, he, rfl⟩
    exact mem_slots.mpr ⟨fragment_lt _ _, hS.testBit_of_mem he⟩

/-- a leaf or bucket holds keys of one hash … -/
theorem WF.one_hash {d : Dict K V} {s p : Nat} (h : WF hash d s p) (hn : ¬ isNode d) :
    ∃ x, ∀ e ∈ toList d, hash e.1 = x := by
  cases h with
  | @leaf _ _ x => exact ⟨x, fun e he => by rw [List.mem_singleton.mp he]; exact (‹x = _›).symm⟩
  | @collision _ _ x _ h1 => exact ⟨x, h1⟩
  | node => exact absurd trivial hn

/-- … and a node never does: with one hash only one slot is occupied, the lone child is a node and
holds the same keys -/
theorem WF.not_isNode_of_one_hash {d : Dict K V} {s p x : Nat} (h : WF hash d s p)
    (hx : ∀ e ∈ toList d, hash e.1 = x) : ¬ isNode d := by
  induction h with
  | leaf => exact id
  | collision => exact id
  | @node s p b cs hb hs hp hl hc hsingle hne ih =>
    intro _
    have hslot : ∀ i ∈ slots b, i = fragment x s := by
      intro i hi
      obtain ⟨e, he, hf⟩ := (mem_slots_iff_routed (WF.node hb hs hp hl hc hsingle hne) i).mp hi
      rw [← hf, hx e he]
    have h1 := length_le_one_of_forall_eq (slots_nodup b) hslot
    obtain ⟨c, rfl⟩ := List.length_eq_one_iff.mp
      (Nat.le_antisymm (hl ▸ h1) (List.length_pos_iff.mpr hne))
    obtain ⟨f, hf⟩ := exists_zip_of_mem_right hl.symm (List.mem_singleton_self c)
    exact ih f c hf (fun e he => hx e (mem_toList_node.mpr ⟨c, List.mem_singleton_self c, he⟩))
      (isNode_iff.mpr (hsingle c rfl))

theorem WF.isNode_of_same_contents {d d' : Dict K V} {s p : Nat} (h : WF hash d s p)
    (h' : WF hash d' s p) (hc : ∀ e, e ∈ toList d ↔ e ∈ toList d') (hn : isNode d) : isNode d' :=
  Classical.byContradiction fun hn' =>
    have ⟨_, hx⟩ := h'.one_hash hn'
    h.not_isNode_of_one_hash (fun e he => hx e ((hc e).mp he)) hn

theorem leaf_vs_collision {h k v h' es s p} (h2 : WF hash (Dict.collision h' es : Dict K V) s p)
    (hc : ∀ e, e ∈ toList (Dict.leaf h k v : Dict K V) ↔ e ∈ toList (Dict.collision h' es)) : False := by
  cases h2 with
  | collision _ _ h3 h4 =>
    have := length_le_one_of_forall_eq (nodup_of_nodup_map h4)
      (fun e he => List.mem_singleton.mp ((hc e).mpr he))
    omega

/-- **canonical shape**: two well-formed tries (at the same level and prefix) with the same contents
are the same tree, up to the order of entries inside collision buckets. -/
theorem canonical {d₁ : Dict K V} {s p : Nat} (h₁ : WF hash d₁ s p) :
    ∀ {d₂ : Dict K V}, WF hash d₂ s p → (∀ e, e ∈ toList d₁ ↔ e ∈ toList d₂) → Similar d₁ d₂ := by
  induction h₁ with
  | @leaf s p h k v a1 a2 =>
    intro d₂ h₂ hc
    cases h₂ with
    | leaf b1 b2 =>
      obtain ⟨rfl, rfl⟩ := Prod.mk.inj (List.mem_singleton.mp ((hc (k, v)).mp (List.mem_singleton_self _)))
      subst a1 b1
      exact Similar.leaf
    | collision b1 b2 b3 b4 => exact (leaf_vs_collision (WF.collision b1 b2 b3 b4) hc).elim
    | node b1 b2 b3 b4 b5 b6 b7 =>
      exact ((WF.node b1 b2 b3 b4 b5 b6 b7).isNode_of_same_contents (WF.leaf a1 a2)
        (fun e => (hc e).symm) trivial).elim
  | @collision s p h es a1 a2 a3 a4 =>
    intro d₂ h₂ hc
    cases h₂ with
    | leaf b1 b2 =>
      exact (leaf_vs_collision (WF.collision a1 a2 a3 a4) (fun e => (hc e).symm)).elim
    | @collision _ _ h' es' b1 b2 b3 b4 =>
      simp only [toList_collision] at hc
      obtain ⟨e, he⟩ := List.exists_mem_of_length_pos (show 0 < es.length by omega)
      obtain rfl : h = h' := (a1 e he).symm.trans (b1 e ((hc e).mp he))
      exact Similar.collision ((List.perm_ext_iff_of_nodup (nodup_of_nodup_map a4)
        (nodup_of_nodup_map b4)).mpr hc)
    | node b1 b2 b3 b4 b5 b6 b7 =>
      exact ((WF.node b1 b2 b3 b4 b5 b6 b7).isNode_of_same_contents (WF.collision a1 a2 a3 a4)
        (fun e => (hc e).symm) trivial).elim
  | @node s p b cs a1 a2 a3 a4 a5 a6 a7 ih =>
    intro d₂ h₂ hc
    have hw1 : WF hash (Dict.node b cs) s p := WF.node a1 a2 a3 a4 a5 a6 a7
    cases h₂ with
    | leaf b1 b2 => exact (hw1.isNode_of_same_contents (WF.leaf b1 b2) hc trivial).elim
    | collision b1 b2 b3 b4 =>
      exact (hw1.isNode_of_same_contents (WF.collision b1 b2 b3 b4) hc trivial).elim
    | @node _ _ b' cs' b1 b2 b3 b4 b5 b6 b7 =>
      have hw2 : WF hash (Dict.node b' cs') s p := WF.node b1 b2 b3 b4 b5 b6 b7
      -- the same keys are routed to the same slots
      obtain rfl : b = b' := eq_of_slots_iff a1 b1 fun i => by
        rw [mem_slots_iff_routed hw1, mem_slots_iff_routed hw2]
        exact exists_congr fun e => and_congr_left fun _ => hc e
      refine Similar.node (a4.trans b4.symm) fun i hi1 hi2 => ?_
      have hs : i < (slots b).length := a4 ▸ hi1
      have hz1 : ((slots b)[i], cs[i]) ∈ (slots b).zip cs :=
        zip_mem_of_getElem? (List.getElem?_eq_getElem hs) (List.getElem?_eq_getElem hi1)
      have hz2 : ((slots b)[i], cs'[i]) ∈ (slots b).zip cs' :=
        zip_mem_of_getElem? (List.getElem?_eq_getElem hs) (List.getElem?_eq_getElem hi2)
      refine ih _ _ hz1 (b5 _ _ hz2) fun e => ?_
      rw [hw1.slotted.mem_child hz1, hw2.slotted.mem_child hz2, hc]

end QM.Dict
