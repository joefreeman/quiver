import QuiverModel.Lemmas.Dict.Bits
import QuiverModel.Lemmas.Dict.Lists
/-
Specification side of M-Dict: the contents of a trie (`toList`, independent of any hash function),
the abstraction `toMap`, the invariant `WF`, and the refinement lemmas for `get`, `put`, `remove`
at an arbitrary level `(shift, prefix)` of the trie — for every key type and every hash function.
-/
namespace QM.Dict

variable {K V : Type}

mutual
/-- every `[key, value]` stored in the trie, left to right (no hash function involved) -/
def toList : Dict K V → List (K × V)
  | .empty => []
  | .leaf _ k v => [(k, v)]
  | .collision _ es => es
  | .node _ cs => toListL cs
def toListL : List (Dict K V) → List (K × V)
  | [] => []
  | c :: cs => toList c ++ toListL cs
end

theorem toListL_eq (cs : List (Dict K V)) : toListL cs = cs.flatMap toList := by
  induction cs with
  | nil => simp [toListL]
  | cons c cs ih => simp [toListL, ih]

@[simp] theorem toList_empty : toList (Dict.empty : Dict K V) = [] := by simp [toList]
@[simp] theorem toList_leaf (h : Nat) (k : K) (v : V) : toList (Dict.leaf h k v) = [(k, v)] := by
  simp [toList]
@[simp] theorem toList_collision (h : Nat) (es : List (K × V)) : toList (Dict.collision h es) = es := by
  simp [toList]
theorem toList_node (b : Nat) (cs : List (Dict K V)) : toList (Dict.node b cs) = cs.flatMap toList := by
  simp [toList, toListL_eq]

theorem mem_toList_node {b : Nat} {cs : List (Dict K V)} {e : K × V} :
    e ∈ toList (Dict.node b cs) ↔ ∃ c ∈ cs, e ∈ toList c := by
  simp [toList_node, List.mem_flatMap]

/-- the finite map a trie denotes: first binding of `k` among its contents -/
def toMap [DecidableEq K] (d : Dict K V) (k : K) : Option V := (toList d).lookup k

/-- `WF hash d s p`: `d` is a non-empty, canonical subtree at shift `s` all of whose keys have
`hash k % 2^s = p`.
* leaf: stores its key's hash; * collision bucket: ≥ 2 entries, one hash, distinct keys;
* node: 32-bit bitmap, `s < 32`, one child per set bit **in slot order** (`zip (slots b) cs`), each
  child well-formed one level down under the prefix extended by its slot, never `Empty`
  (there is no `WF` rule for `empty`), and a lone child is itself a node (canonical shape). -/
inductive WF (hash : K → Nat) : Dict K V → Nat → Nat → Prop
  | leaf {s p h k v} : h = hash k → h % 2 ^ s = p → WF hash (.leaf h k v) s p
  | collision {s p h es} : (∀ e ∈ es, hash e.1 = h) → h % 2 ^ s = p → 2 ≤ es.length →
      (es.map (·.1)).Nodup → WF hash (.collision h es) s p
  | node {s p b cs} : b < 2 ^ 32 → s < 32 → p < 2 ^ s → cs.length = (slots b).length →
      (∀ f c, (f, c) ∈ (slots b).zip cs → WF hash c (s + 5) (p + f * 2 ^ s)) →
      (∀ c, cs = [c] → ∃ b' cs', c = .node b' cs') → cs ≠ [] →
      WF hash (.node b cs) s p

/-- `Empty`, or a well-formed tree at shift `s` under prefix `p` (a whole dict: `s = p = 0`) -/
def WF0 (hash : K → Nat) (d : Dict K V) (s p : Nat) : Prop := d = .empty ∨ WF hash d s p

variable {hash : K → Nat}

theorem WF.ne_empty {d : Dict K V} {s p : Nat} (h : WF hash d s p) : d ≠ .empty := by
  cases h <;> simp

/-! ### children by slot: `(f, c) ∈ (slots b).zip cs` says `c` is the child in slot `f` -/

section slots
variable {β : Type} {b f : Nat} {cs : List β}

theorem getElem?_rank_of_mem_zip {c : β} (hz : (f, c) ∈ (slots b).zip cs) : cs[rank b f]? = some c := by
  obtain ⟨j, hj⟩ := List.mem_iff_getElem?.mp hz
  obtain ⟨h1, h2⟩ := List.getElem?_zip_eq_some.mp hj
  have hm := mem_slots.mp (List.mem_of_getElem? h1)
  rwa [← (List.getElem?_inj (List.getElem?_eq_some_iff.mp h1).1 (slots_nodup b)).mp
    (h1.trans (slots_getElem?_rank hm.2 hm.1).symm)]

theorem zip_slots_insert (hl : cs.length = (slots b).length) (hbit : b.testBit f = false)
    (hf : f < 32) (x : β) :
    (cs.insertIdx (rank b f) x).length = (slots (b ||| 1 <<< f)).length ∧
    ∀ g c, (g, c) ∈ (slots (b ||| 1 <<< f)).zip (cs.insertIdx (rank b f) x) ↔
      (g = f ∧ c = x) ∨ (g, c) ∈ (slots b).zip cs := by
  have hr : rank b f ≤ (slots b).length := rank_le_length (Nat.le_of_lt hf)
  rw [slots_or hbit hf]
  exact ⟨by rw [List.length_insertIdx_of_le_length (hl ▸ hr), List.length_insertIdx_of_le_length hr, hl],
    fun g c => mem_zip_insertIdx hl.symm hr _ g _ c⟩

theorem zip_slots_erase (hl : cs.length = (slots b).length) (hbit : b.testBit f = true)
    (hf : f < 32) :
    (cs.eraseIdx (rank b f)).length = (slots (andNot b (1 <<< f))).length ∧
    ∀ g c, (g, c) ∈ (slots (andNot b (1 <<< f))).zip (cs.eraseIdx (rank b f)) ↔
      g ≠ f ∧ (g, c) ∈ (slots b).zip cs := by
  rw [slots_andNot hbit hf]
  exact ⟨by rw [List.length_eraseIdx, List.length_eraseIdx, hl],
    mem_zip_eraseIdx (slots_nodup b) hl.symm (slots_getElem?_rank hbit hf)⟩

end slots

theorem childAt_rank {b f : Nat} {cs : List (Dict K V)} {c : Dict K V}
    (hz : (f, c) ∈ (slots b).zip cs) : childAt cs (rank b f) = c := by
  rw [childAt_eq, getElem?_rank_of_mem_zip hz]
  rfl

theorem mem_node_zip {b : Nat} {cs : List (Dict K V)} {l : List Nat} (hl : cs.length = l.length)
    {e : K × V} : e ∈ toList (Dict.node b cs) ↔ ∃ g c, (g, c) ∈ l.zip cs ∧ e ∈ toList c := by
  rw [mem_toList_node]
  constructor
  · rintro ⟨c, hc1, hc2⟩
    obtain ⟨g, hg⟩ := exists_zip_of_mem_right hl.symm hc1
    exact ⟨g, c, hg, hc2⟩
  · rintro ⟨g, c, hg, hc2⟩
    exact ⟨c, (List.of_mem_zip hg).2, hc2⟩

theorem WF.prefix_of_mem {d : Dict K V} {s p : Nat} (h : WF hash d s p) :
    ∀ e ∈ toList d, hash e.1 % 2 ^ s = p := by
  induction h with
  | leaf h1 h2 => intro e he; rw [List.mem_singleton.mp he, ← h1]; exact h2
  | collision h1 h2 _ _ => intro e he; rw [h1 e he]; exact h2
  | node hb hs hp hl hc _ _ ih =>
    intro e he
    obtain ⟨g, c, hg, hec⟩ := (mem_node_zip hl).mp he
    exact prefix_of_child (ih g c hg e hec) hp

/-- what `WF.node` asks of bitmap and children, without the lone-child rule and non-emptiness:
the state of a node between a slot update and `collapse_node` -/
structure Slotted (hash : K → Nat) (b : Nat) (cs : List (Dict K V)) (s p : Nat) : Prop where
  bitmap : b < 2 ^ 32
  shift : s < 32
  pre : p < 2 ^ s
  len : cs.length = (slots b).length
  child : ∀ f c, (f, c) ∈ (slots b).zip cs → WF hash c (s + 5) (p + f * 2 ^ s)

/-- `d` is a `Node` -/
def isNode : Dict K V → Prop
  | .node _ _ => True
  | _ => False

theorem isNode_iff {d : Dict K V} : isNode d ↔ ∃ b cs, d = .node b cs := by
  cases d <;> simp [isNode]

theorem WF.slotted {b : Nat} {cs : List (Dict K V)} {s p : Nat} (h : WF hash (.node b cs) s p) :
    Slotted hash b cs s p := by
  cases h with
  | node h1 h2 h3 h4 h5 => exact ⟨h1, h2, h3, h4, h5⟩

theorem WF.lone {b : Nat} {cs : List (Dict K V)} {s p : Nat} (h : WF hash (.node b cs) s p)
    (hlen : cs.length = 1) : ∀ c ∈ cs, isNode c := by
  cases h with
  | node _ _ _ _ _ h6 =>
    obtain ⟨c', rfl⟩ := List.length_eq_one_iff.mp hlen
    intro c hc
    exact isNode_iff.mpr (h6 c (by rw [List.mem_singleton.mp hc]))

namespace Slotted
variable {b : Nat} {cs : List (Dict K V)} {s p : Nat}

theorem wf (h : Slotted hash b cs s p) (hlone : cs.length = 1 → ∀ c ∈ cs, isNode c)
    (hne : cs ≠ []) : WF hash (.node b cs) s p :=
  WF.node h.bitmap h.shift h.pre h.len h.child
    (fun c hc => isNode_iff.mp (hlone (by rw [hc]; rfl) c (by rw [hc]; exact List.mem_singleton_self c))) hne

theorem route (h : Slotted hash b cs s p) {g : Nat} {c : Dict K V} (hg : (g, c) ∈ (slots b).zip cs)
    {e : K × V} (he : e ∈ toList c) : fragment (hash e.1) s = g :=
  have hpre := (h.child g c hg).prefix_of_mem e he
  fragment_of_prefix (prefix_of_child hpre h.pre) hpre

/-- the contents of the child in slot `g` are the contents of the node routed to `g` -/
theorem mem_child (h : Slotted hash b cs s p) {g : Nat} {c : Dict K V}
    (hg : (g, c) ∈ (slots b).zip cs) (e : K × V) :
    e ∈ toList c ↔ fragment (hash e.1) s = g ∧ e ∈ toList (Dict.node b cs) := by
  refine ⟨fun he => ⟨h.route hg he, (mem_node_zip h.len).mpr ⟨g, c, hg, he⟩⟩, ?_⟩
  rintro ⟨rfl, hm⟩
  obtain ⟨g', c', hg', he'⟩ := (mem_node_zip h.len).mp hm
  rwa [zip_functional (slots_nodup b) hg (h.route hg' he' ▸ hg')]

theorem testBit_of_mem (h : Slotted hash b cs s p) {e : K × V} (he : e ∈ toList (Dict.node b cs)) :
    b.testBit (fragment (hash e.1) s) = true := by
  obtain ⟨g, c, hg, hec⟩ := (mem_node_zip h.len).mp he
  exact h.route hg hec ▸ (mem_slots.mp (List.of_mem_zip hg).1).2

theorem mem_others (h : Slotted hash b cs s p) (f : Nat) (e : K × V) :
    (∃ g c, (g ≠ f ∧ (g, c) ∈ (slots b).zip cs) ∧ e ∈ toList c) ↔
      fragment (hash e.1) s ≠ f ∧ e ∈ toList (Dict.node b cs) := by
  constructor
  · rintro ⟨g, c, ⟨hgf, hg⟩, he⟩
    exact ⟨h.route hg he ▸ hgf, (mem_node_zip h.len).mpr ⟨g, c, hg, he⟩⟩
  · rintro ⟨hf, he⟩
    obtain ⟨g, c, hg, hec⟩ := (mem_node_zip h.len).mp he
    exact ⟨g, c, ⟨h.route hg hec ▸ hf, hg⟩, hec⟩

/-- the bindings of keys other than `k`: those in `k`'s slot, and everything in the other slots -/
theorem mem_ne_key (h : Slotted hash b cs s p) {k : K} {c : Dict K V}
    (hz : (fragment (hash k) s, c) ∈ (slots b).zip cs) (e : K × V) :
    e.1 ≠ k ∧ e ∈ toList (Dict.node b cs) ↔
      (e.1 ≠ k ∧ e ∈ toList c) ∨
        (fragment (hash e.1) s ≠ fragment (hash k) s ∧ e ∈ toList (Dict.node b cs)) := by
  rw [h.mem_child hz]
  by_cases hf : fragment (hash e.1) s = fragment (hash k) s
  · simp [hf]
  · have : e.1 ≠ k := fun hek => hf (hek ▸ rfl)
    simp [hf, this]

theorem ne_key_of_unset (h : Slotted hash b cs s p) {k : K}
    (hbit : b.testBit (fragment (hash k) s) = false) {e : K × V}
    (he : e ∈ toList (Dict.node b cs)) : e.1 ≠ k := by
  intro hek
  rw [← hek, h.testBit_of_mem he] at hbit
  cases hbit

variable {f : Nat} {x : Dict K V}

omit hash in
private theorem exists_slot_or {P : Nat → Dict K V → Prop} {Q : Dict K V → Prop} :
    (∃ g c, ((g = f ∧ c = x) ∨ P g c) ∧ Q c) ↔ Q x ∨ ∃ g c, P g c ∧ Q c := by
  constructor
  · rintro ⟨g, c, (⟨rfl, rfl⟩ | hg), he⟩
    · exact Or.inl he
    · exact Or.inr ⟨g, c, hg, he⟩
  · rintro (he | ⟨g, c, hg, he⟩)
    · exact ⟨f, x, Or.inl ⟨rfl, rfl⟩, he⟩
    · exact ⟨g, c, Or.inr hg, he⟩

theorem insert (h : Slotted hash b cs s p) (hbit : b.testBit f = false) (hf : f < 32)
    (hx : WF hash x (s + 5) (p + f * 2 ^ s)) :
    Slotted hash (b ||| 1 <<< f) (cs.insertIdx (rank b f) x) s p ∧
      ∀ e, e ∈ toList (Dict.node (b ||| 1 <<< f) (cs.insertIdx (rank b f) x)) ↔
        e ∈ toList x ∨ e ∈ toList (Dict.node b cs) := by
  obtain ⟨hl', hmem⟩ := zip_slots_insert h.len hbit hf x
  refine ⟨⟨or_bit_lt h.bitmap hf, h.shift, h.pre, hl', fun g c hg => ?_⟩, fun e => ?_⟩
  · rcases (hmem g c).mp hg with ⟨rfl, rfl⟩ | hg
    · exact hx
    · exact h.child g c hg
  · simp only [mem_node_zip hl', mem_node_zip h.len, hmem]
    exact exists_slot_or

theorem set (h : Slotted hash b cs s p) (hbit : b.testBit f = true) (hf : f < 32)
    (hx : WF hash x (s + 5) (p + f * 2 ^ s)) :
    Slotted hash b (cs.set (rank b f) x) s p ∧
      ∀ e, e ∈ toList (Dict.node b (cs.set (rank b f) x)) ↔
        e ∈ toList x ∨ (fragment (hash e.1) s ≠ f ∧ e ∈ toList (Dict.node b cs)) := by
  have hl' : (cs.set (rank b f) x).length = (slots b).length := by rw [List.length_set, h.len]
  have hmem := fun g c => mem_zip_set (slots_nodup b) h.len.symm (slots_getElem?_rank hbit hf) g x c
  refine ⟨⟨h.bitmap, h.shift, h.pre, hl', fun g c hg => ?_⟩, fun e => ?_⟩
  · rcases (hmem g c).mp hg with ⟨rfl, rfl⟩ | ⟨_, hg⟩
    · exact hx
    · exact h.child g c hg
  · simp only [← h.mem_others, mem_node_zip hl', hmem]
    exact exists_slot_or

theorem erase (h : Slotted hash b cs s p) (hbit : b.testBit f = true) (hf : f < 32) :
    Slotted hash (andNot b (1 <<< f)) (cs.eraseIdx (rank b f)) s p ∧
      ∀ e, e ∈ toList (Dict.node (andNot b (1 <<< f)) (cs.eraseIdx (rank b f))) ↔
        fragment (hash e.1) s ≠ f ∧ e ∈ toList (Dict.node b cs) := by
  obtain ⟨hl', hmem⟩ := zip_slots_erase h.len hbit hf
  refine ⟨⟨andNot_lt h.bitmap, h.shift, h.pre, hl', fun g c hg => h.child g c ((hmem g c).mp hg).2⟩,
    fun e => ?_⟩
  simp only [← h.mem_others, mem_node_zip hl', hmem]

end Slotted

theorem mem_node_single {b : Nat} {c : Dict K V} {e : K × V} :
    e ∈ toList (.node b [c]) ↔ e ∈ toList c := by
  rw [toList_node, List.flatMap_cons, List.flatMap_nil, List.append_nil]

theorem mem_node_pair {b : Nat} {c₁ c₂ : Dict K V} {e : K × V} :
    e ∈ toList (.node b [c₁, c₂]) ↔ e ∈ toList c₁ ∨ e ∈ toList c₂ := by
  rw [toList_node, List.flatMap_cons, List.mem_append, ← toList_node b, mem_node_single]

theorem WF.single {c : Dict K V} {f s p : Nat} (hf : f < 32) (hs : s < 32) (hp : p < 2 ^ s)
    (hc : WF hash c (s + 5) (p + f * 2 ^ s)) (hn : isNode c) :
    WF hash (.node (1 <<< f) [c]) s p := by
  refine WF.node (bit_lt hf) hs hp (by rw [slots_bit hf]; rfl) (fun g c' hg => ?_)
    (fun c' hc' => ?_) (List.cons_ne_nil _ _)
  · rw [slots_bit hf] at hg
    obtain ⟨rfl, rfl⟩ := Prod.mk.inj (List.mem_singleton.mp hg)
    exact hc
  · obtain rfl := List.singleton_inj.mp hc'
    exact isNode_iff.mp hn

theorem WF.pair {c₁ c₂ : Dict K V} {f₁ f₂ s p : Nat} (h12 : f₁ < f₂) (hf : f₂ < 32) (hs : s < 32)
    (hp : p < 2 ^ s) (h1 : WF hash c₁ (s + 5) (p + f₁ * 2 ^ s))
    (h2 : WF hash c₂ (s + 5) (p + f₂ * 2 ^ s)) :
    WF hash (.node (1 <<< f₁ ||| 1 <<< f₂) [c₁, c₂]) s p := by
  refine WF.node (Nat.or_lt_two_pow (bit_lt (by omega)) (bit_lt hf)) hs hp
    (by rw [slots_two_bits h12 hf]; rfl) (fun g c' hg => ?_) nofun (List.cons_ne_nil _ _)
  rw [slots_two_bits h12 hf] at hg
  rcases List.mem_cons.mp hg with h | h
  · obtain ⟨rfl, rfl⟩ := Prod.mk.inj h
    exact h1
  · obtain ⟨rfl, rfl⟩ := Prod.mk.inj (List.mem_singleton.mp h)
    exact h2

theorem splitNode_succ (fuel : Nat) (c : Dict K V) (ch h : Nat) (k : K) (v : V) (s : Nat) :
    splitNode (fuel + 1) c ch h k v s =
      if fragment ch s = fragment h s then
        (splitNode fuel c ch h k v (s + 5)).map fun c' => .node (1 <<< fragment ch s) [c']
      else if fragment ch s < fragment h s then
        some (.node (1 <<< fragment ch s ||| 1 <<< fragment h s) [c, .leaf h k v])
      else some (.node (1 <<< fragment ch s ||| 1 <<< fragment h s) [.leaf h k v, c]) := by
  rw [splitNode]
  cases splitNode fuel c ch h k v (s + 5) <;> rfl

/-- the hash of a bucket is the hash of a key -/
theorem hash_lt_of_bucket (hb : ∀ k, hash k < 2 ^ 32) {h : Nat} {es : List (K × V)}
    (h1 : ∀ e ∈ es, hash e.1 = h) (h3 : 2 ≤ es.length) : h < 2 ^ 32 := by
  obtain ⟨e, he⟩ := List.exists_mem_of_length_pos (Nat.lt_of_lt_of_le (by decide) h3)
  exact h1 e he ▸ hb e.1

/-! ### `split_node`: 7 levels of 5-bit fragments cover 32 bits -/

/-- `split_node` at level `(s, p)`: a well-formed node holding the old subtree and the new entry.
`c` is a leaf or bucket of hash `ch`, well-formed at whatever level it is hung. -/
theorem splitNode_spec (hb : ∀ k, hash k < 2 ^ 32) {c : Dict K V} {chash : Nat} {k : K} {v : V}
    (hcb : chash < 2 ^ 32) (hne : chash ≠ hash k)
    (hc : ∀ s' p', chash % 2 ^ s' = p' → WF hash c s' p') :
    ∀ (fuel s p : Nat) (d : Dict K V), chash % 2 ^ s = p → hash k % 2 ^ s = p →
      splitNode fuel c chash (hash k) k v s = some d →
      WF hash d s p ∧ (∀ e, e ∈ toList d ↔ e = (k, v) ∨ e ∈ toList c) ∧ isNode d := by
  intro fuel
  induction fuel with
  | zero => intro s p d _ _ h; cases h
  | succ fuel ih =>
    intro s p d hp1 hp2 h
    have hps : p < 2 ^ s := hp1 ▸ Nat.mod_lt _ (Nat.two_pow_pos s)
    have hs : s < 32 := shift_lt_of_ne hne hcb (hb k) (hp1.trans hp2.symm)
    have f1lt := fragment_lt chash s
    have f2lt := fragment_lt (hash k) s
    have hl1 : WF hash c (s + 5) (p + fragment chash s * 2 ^ s) := hc _ _ (prefix_step hp1)
    have hl2 : WF hash (Dict.leaf (hash k) k v) (s + 5) (p + fragment (hash k) s * 2 ^ s) :=
      WF.leaf rfl (prefix_step hp2)
    rw [splitNode_succ] at h
    by_cases hf : fragment chash s = fragment (hash k) s
    · rw [if_pos hf] at h
      obtain ⟨c', hrec, rfl⟩ := Option.map_eq_some_iff.mp h
      obtain ⟨w1, w2, w3⟩ := ih (s + 5) _ c' (hf ▸ prefix_step hp1) (prefix_step hp2) hrec
      exact ⟨WF.single f1lt hs hps (hf ▸ w1) w3, fun e => mem_node_single.trans (w2 e), trivial⟩
    · rw [if_neg hf] at h
      by_cases hlt : fragment chash s < fragment (hash k) s
      · rw [if_pos hlt] at h
        obtain rfl := Option.some.inj h
        exact ⟨WF.pair hlt f2lt hs hps hl1 hl2, fun e => by rw [mem_node_pair, toList_leaf, List.mem_singleton, or_comm], trivial⟩
      · rw [if_neg hlt, Nat.or_comm] at h
        obtain rfl := Option.some.inj h
        exact ⟨WF.pair (Nat.lt_of_le_of_ne (Nat.le_of_not_lt hlt) (Ne.symm hf)) f1lt hs hps hl2 hl1,
          fun e => by rw [mem_node_pair, toList_leaf, List.mem_singleton], trivial⟩

theorem splitNode_isSome {c : Dict K V} {chash h : Nat} {k : K} {v : V}
    (hcb : chash < 2 ^ 32) (hhb : h < 2 ^ 32) (hne : chash ≠ h) :
    ∀ (fuel s : Nat), chash % 2 ^ s = h % 2 ^ s → 37 ≤ s + 5 * fuel →
      (splitNode fuel c chash h k v s).isSome = true := by
  intro fuel
  induction fuel with
  | zero =>
    intro s hag h2
    exact absurd (Nat.lt_of_le_of_lt h2 (shift_lt_of_ne hne hcb hhb hag)) (by decide)
  | succ fuel ih =>
    intro s hag h2
    rw [splitNode_succ]
    split
    · rename_i hf
      rw [Option.isSome_map]
      exact ih (s + 5) (by rw [mod_succ_level, mod_succ_level, hag, hf])
        (by rwa [Nat.mul_succ, ← Nat.add_assoc, Nat.add_right_comm] at h2)
    · split <;> rfl

/-- a leaf or bucket one level down is also well-formed one level up (node collapse hoists it) -/
theorem WF.lift {d : Dict K V} {s p f : Nat} (h : WF hash d (s + 5) (p + f * 2 ^ s))
    (hn : ¬ isNode d) (hp : p < 2 ^ s) : WF hash d s p := by
  cases h with
  | leaf h1 h2 => exact WF.leaf h1 (prefix_of_child h2 hp)
  | collision h1 h2 h3 h4 => exact WF.collision h1 (prefix_of_child h2 hp) h3 h4
  | node => exact absurd trivial hn

theorem collapse_spec {b : Nat} {cs : List (Dict K V)} {s p : Nat} (h : Slotted hash b cs s p) :
    WF0 hash (collapseNode b cs) s p ∧ toList (collapseNode b cs) = toList (Dict.node b cs) := by
  match cs, h with
  | [], _ => exact ⟨Or.inl rfl, by rw [toList_node]; rfl⟩
  | [only], h =>
    obtain ⟨f, hf⟩ := exists_zip_of_mem_right (l := slots b) h.len.symm (List.mem_singleton_self only)
    have hw := h.child f only hf
    cases only with
    | node b' cs' => exact ⟨Or.inr (h.wf (fun _ c hc => List.mem_singleton.mp hc ▸ trivial) nofun), rfl⟩
    | empty => exact absurd rfl hw.ne_empty
    | leaf h k v => exact ⟨Or.inr (hw.lift id h.pre), by simp [collapseNode, toList_node]⟩
    | collision h es => exact ⟨Or.inr (hw.lift id h.pre), by simp [collapseNode, toList_node]⟩
  | c1 :: c2 :: rest, h => exact ⟨Or.inr (h.wf (fun hlen => by cases hlen) nofun), rfl⟩

variable [DecidableEq K]

/-! ### the `Node` branch of `get`, `put`, `remove`, with the compact index resolved -/

section node
variable {b : Nat} {cs : List (Dict K V)} {k : K} {v : V} {h s fuel : Nat} {c : Dict K V}

theorem and_bitOf_of_mem_zip (hz : (fragment h s, c) ∈ (slots b).zip cs) : b &&& bitOf h s ≠ 0 :=
  and_bitOf_ne_zero (mem_slots.mp (List.of_mem_zip hz).1).2

theorem get_node_unset (hbit : b.testBit (fragment h s) = false) : get (.node b cs) k h s = none := by
  rw [get, if_pos (and_bitOf_eq_zero hbit)]

theorem get_node_set (hz : (fragment h s, c) ∈ (slots b).zip cs) :
    get (.node b cs) k h s = get c k h (s + 5) := by
  rw [get, if_neg (and_bitOf_of_mem_zip hz), slotIndex_bitOf,
    childAt_rank hz]

theorem put_leaf (fuel lh : Nat) (lk : K) (lv : V) (k : K) (v : V) (h s : Nat) :
    put fuel (.leaf lh lk lv) k v h s =
      if lk = k then some (.leaf h k v) else splitPair fuel lh lk lv h k v s := by
  rw [put]

theorem put_collision (fuel ch : Nat) (es : List (K × V)) (k : K) (v : V) (h s : Nat) :
    put fuel (.collision ch es) k v h s =
      if ch = h then some (.collision ch (bput es k v))
      else splitNode fuel (.collision ch es) ch h k v s := by
  rw [put, bucketPut_nil]

theorem put_node_unset (hbit : b.testBit (fragment h s) = false) (hl : cs.length = (slots b).length) :
    put fuel (.node b cs) k v h s =
      some (.node (b ||| 1 <<< fragment h s) (cs.insertIdx (rank b (fragment h s)) (.leaf h k v))) := by
  rw [put, if_pos (and_bitOf_eq_zero hbit), slotIndex_bitOf,
    insertAt_nil _ _ _ (hl ▸ rank_le_length (Nat.le_of_lt (fragment_lt h s)))]
  rfl

theorem put_node_set (hz : (fragment h s, c) ∈ (slots b).zip cs) :
    put fuel (.node b cs) k v h s =
      (put fuel c k v h (s + 5)).map fun c' => .node b (cs.set (rank b (fragment h s)) c') := by
  rw [put, if_neg (and_bitOf_of_mem_zip hz), slotIndex_bitOf,
    childAt_rank hz]
  cases put fuel c k v h (s + 5) with
  | none => rfl
  | some c' => simp only [updateAt_nil, Option.map_some]

theorem remove_node_unset (hbit : b.testBit (fragment h s) = false) :
    remove (.node b cs) k h s = .node b cs := by
  rw [remove, if_pos (and_bitOf_eq_zero hbit)]

theorem remove_node_set_empty (hz : (fragment h s, c) ∈ (slots b).zip cs)
    (hrec : remove c k h (s + 5) = .empty) :
    remove (.node b cs) k h s =
      collapseNode (andNot b (1 <<< fragment h s)) (cs.eraseIdx (rank b (fragment h s))) := by
  rw [remove, if_neg (and_bitOf_of_mem_zip hz), slotIndex_bitOf,
    childAt_rank hz, hrec, removeSlot, removeAt_nil]
  rfl

theorem remove_node_set_ne (hz : (fragment h s, c) ∈ (slots b).zip cs)
    (hrec : remove c k h (s + 5) ≠ .empty) :
    remove (.node b cs) k h s =
      collapseNode b (cs.set (rank b (fragment h s)) (remove c k h (s + 5))) := by
  rw [remove, if_neg (and_bitOf_of_mem_zip hz), slotIndex_bitOf,
    childAt_rank hz]
  cases hr : remove c k h (s + 5) with
  | empty => exact absurd hr hrec
  | _ => simp only [updateAt_nil]

end node

/-- `get` at level `(s, p)` finds exactly the bindings stored below -/
theorem get_iff {d : Dict K V} {s p : Nat} (h : WF hash d s p) (k : K) (v : V)
    (hk : hash k % 2 ^ s = p) : get d k (hash k) s = some v ↔ (k, v) ∈ toList d := by
  induction h with
  | @leaf s p h k' v' h1 h2 =>
    unfold get
    by_cases hkk : k' = k
    · subst hkk; simp; exact eq_comm
    · simp [hkk]; intro h; exact absurd h.symm hkk
  | collision h1 h2 h3 h4 =>
    unfold get
    simpa using bucketGet_eq_some h4 k v
  | @node s p b cs hb hs hp hl hc _ _ ih =>
    have hS : Slotted hash b cs s p := ⟨hb, hs, hp, hl, hc⟩
    cases hbit : b.testBit (fragment (hash k) s) with
    | true =>
      obtain ⟨c, hz⟩ := exists_zip_of_mem_left hl.symm (mem_slots.mpr ⟨fragment_lt _ _, hbit⟩)
      rw [get_node_set hz, ih _ _ hz (prefix_step hk), hS.mem_child hz]
      exact and_iff_right rfl
    | false =>
      rw [get_node_unset hbit]
      exact ⟨nofun, fun hm => absurd rfl (hS.ne_key_of_unset hbit hm)⟩

/-- separating two single entries with different hashes is `split_node` on a leaf -/
theorem splitPair_of_ne {h₁ h₂ : Nat} (hne : h₁ ≠ h₂) (k₁ k₂ : K) (v₁ v₂ : V) (fuel s : Nat) :
    splitPair fuel h₁ k₁ v₁ h₂ k₂ v₂ s = splitNode fuel (.leaf h₁ k₁ v₁) h₁ h₂ k₂ v₂ s := by
  induction fuel generalizing s with
  | zero => rfl
  | succ fuel ih => rw [splitPair, splitNode, if_neg hne, ih]

theorem splitPair_of_eq {h : Nat} {k₁ k₂ : K} (hne : k₁ ≠ k₂) (v₁ v₂ : V) (fuel s : Nat) :
    splitPair (fuel + 1) h k₁ v₁ h k₂ v₂ s = some (.collision h [(k₁, v₁), (k₂, v₂)]) := by
  simp [splitPair, bucketPut, revcat, hne]

/-- `put` at level `(s, p)`: preserves the invariant, adds exactly `(k, v)` (replacing any binding
of `k`), keeps nodes nodes. For every fuel that returns a result. -/
theorem put_spec (hb : ∀ k, hash k < 2 ^ 32) {d : Dict K V} {s p : Nat} (h : WF hash d s p)
    (fuel : Nat) (k : K) (v : V) (hk : hash k % 2 ^ s = p) (d' : Dict K V)
    (hput : put fuel d k v (hash k) s = some d') :
    WF hash d' s p ∧ (∀ e, e ∈ toList d' ↔ e = (k, v) ∨ (e.1 ≠ k ∧ e ∈ toList d)) ∧
      (isNode d → isNode d') := by
  induction h generalizing d' with
  | @leaf s p h k' v' h1 h2 =>
    subst h1
    rw [put_leaf] at hput
    split at hput
    · rename_i hkk
      obtain rfl := Option.some.inj hput
      subst hkk
      refine ⟨WF.leaf rfl hk, fun e => ?_, id⟩
      simp only [toList_leaf, List.mem_singleton]
      exact ⟨Or.inl, fun h => h.elim id fun h => absurd (h.2 ▸ rfl) h.1⟩
    · rename_i hkk
      have hmem : ∀ e : K × V, e = (k, v) ∨ e ∈ toList (Dict.leaf (hash k') k' v') ↔
          e = (k, v) ∨ e.1 ≠ k ∧ e ∈ toList (Dict.leaf (hash k') k' v') := by
        refine fun e => or_congr_right ⟨fun h => ⟨?_, h⟩, And.right⟩
        rw [toList_leaf, List.mem_singleton] at h
        exact h ▸ hkk
      by_cases hh : hash k' = hash k
      · cases fuel with
        | zero => cases hput
        | succ fuel =>
          rw [hh, splitPair_of_eq hkk] at hput
          obtain rfl := Option.some.inj hput
          refine ⟨WF.collision ?_ hk (Nat.le_refl 2) (by simp [hkk]), fun e => ?_, nofun⟩
          · intro e he
            rcases List.mem_cons.mp he with rfl | he
            · exact hh
            · rw [List.mem_singleton.mp he]
          · rw [← hmem, toList_collision, toList_leaf]; simp [or_comm]
      · rw [splitPair_of_ne hh] at hput
        obtain ⟨w1, w2, w3⟩ := splitNode_spec hb (hb k') hh (fun _ _ hp' => WF.leaf rfl hp')
          fuel s p d' h2 hk hput
        exact ⟨w1, fun e => (w2 e).trans (hmem e), fun _ => w3⟩
  | @collision s p chash es h1 h2 h3 h4 =>
    rw [put_collision] at hput
    split at hput
    · rename_i hh
      obtain rfl := Option.some.inj hput
      refine ⟨WF.collision ?_ h2 ?_ (nodup_bput h4 k v), fun e => mem_bput h4 k v e, nofun⟩
      · intro e he
        rcases (mem_bput h4 k v e).mp he with rfl | ⟨_, h⟩
        · exact hh.symm
        · exact h1 _ h
      · exact Nat.le_trans h3 (length_bput es k v)
    · rename_i hh
      obtain ⟨w1, w2, w3⟩ := splitNode_spec hb (hash_lt_of_bucket hb h1 h3) hh
        (fun s' p' hp' => WF.collision h1 hp' h3 h4) fuel s p d' h2 hk hput
      refine ⟨w1, fun e => (w2 e).trans (or_congr_right ⟨fun h => ⟨fun hek => ?_, h⟩, And.right⟩),
        fun _ => w3⟩
      exact hh (hek ▸ (h1 e h).symm)
  | @node s p b cs hb32 hs hp hl hc hsingle hne ih =>
    have hwf : WF hash (Dict.node b cs) s p := WF.node hb32 hs hp hl hc hsingle hne
    have hS := hwf.slotted
    have h32 := fragment_lt (hash k) s
    cases hbit : b.testBit (fragment (hash k) s) with
    | true =>
      obtain ⟨c, hz⟩ := exists_zip_of_mem_left hl.symm (mem_slots.mpr ⟨h32, hbit⟩)
      rw [put_node_set hz] at hput
      obtain ⟨c', hrec, rfl⟩ := Option.map_eq_some_iff.mp hput
      obtain ⟨w1, w2, w3⟩ := ih _ _ hz (prefix_step hk) c' hrec
      obtain ⟨hS', hmem⟩ := hS.set hbit h32 w1
      refine ⟨hS'.wf (fun hlen c'' hc'' => ?_) (fun h => hne ((List.set_eq_nil_iff _ _).mp h)),
        fun e => ?_, fun _ => trivial⟩
      · -- a lone child was a node, and `put` keeps nodes nodes
        rw [List.length_set] at hlen
        rcases List.mem_or_eq_of_mem_set hc'' with hc'' | rfl
        · exact hwf.lone hlen _ hc''
        · exact w3 (hwf.lone hlen c (List.of_mem_zip hz).2)
      · rw [hmem, w2, hS.mem_ne_key hz, or_assoc]
    | false =>
      rw [put_node_unset hbit hl] at hput
      obtain rfl := Option.some.inj hput
      obtain ⟨hS', hmem⟩ := hS.insert hbit h32 (WF.leaf rfl (prefix_step hk))
      have hlen := List.length_insertIdx_of_le_length (hl ▸ rank_le_length (Nat.le_of_lt h32))
        (Dict.leaf (hash k) k v)
      refine ⟨hS'.wf (fun h1 => ?_) (fun h => ?_), fun e => ?_, fun _ => trivial⟩
      · exact absurd (List.eq_nil_of_length_eq_zero (Nat.succ.inj (hlen.symm.trans h1))) hne
      · rw [h] at hlen; cases hlen
      · rw [hmem, toList_leaf, List.mem_singleton]
        exact or_congr_right ⟨fun he => ⟨hS.ne_key_of_unset hbit he, he⟩, And.right⟩

/-- Under the invariant `put` never runs out of fuel once `37 ≤ s + 5 * fuel` (at the root: 8). Two different hashes
below `2^32` are separated at a level `s < 32` (`shift_lt_of_ne`), so `split_node` needs `32 ≤ s + 5 * fuel`; `37`
makes `1 ≤ fuel` at every level `s ≤ 36` as well, which the same-hash branch of `split_pair` needs because the model
tests the fuel before `h1 = h2`. -/
theorem put_isSome (hb : ∀ k, hash k < 2 ^ 32) {d : Dict K V} {s p : Nat} (h : WF hash d s p)
    (fuel : Nat) (k : K) (v : V) (hk : hash k % 2 ^ s = p) (hs36 : s ≤ 36)
    (hfuel : 37 ≤ s + 5 * fuel) : (put fuel d k v (hash k) s).isSome = true := by
  induction h with
  | @leaf s p h k' v' h1 h2 =>
    subst h1
    rw [put_leaf]
    split
    · rfl
    · rename_i hkk
      by_cases hh : hash k' = hash k
      · cases fuel with
        | zero => exact absurd (Nat.le_trans hfuel hs36) (by decide)
        | succ fuel => rw [hh, splitPair_of_eq hkk]; rfl
      · rw [splitPair_of_ne hh]
        exact splitNode_isSome (hb k') (hb k) hh fuel s (h2.trans hk.symm) hfuel
  | @collision s p chash es h1 h2 h3 h4 =>
    rw [put_collision]
    split
    · rfl
    · rename_i hh
      exact splitNode_isSome (hash_lt_of_bucket hb h1 h3) (hb k) hh fuel s (h2.trans hk.symm) hfuel
  | @node s p b cs hb32 hs hp hl hc hsingle hne ih =>
    cases hbit : b.testBit (fragment (hash k) s) with
    | true =>
      obtain ⟨c, hz⟩ := exists_zip_of_mem_left hl.symm (mem_slots.mpr ⟨fragment_lt _ _, hbit⟩)
      rw [put_node_set hz, Option.isSome_map]
      exact ih _ _ hz (prefix_step hk) (Nat.add_le_add_right (Nat.le_of_lt_succ hs) 5)
        (Nat.le_trans hfuel (Nat.add_le_add_right (Nat.le_add_right s 5) _))
    | false => rw [put_node_unset hbit hl]; rfl

/-- `remove` at level `(s, p)`: the result is `Empty` or well-formed, and holds exactly the
bindings of the other keys. -/
theorem remove_spec {d : Dict K V} {s p : Nat} (h : WF hash d s p) (k : K)
    (hk : hash k % 2 ^ s = p) :
    WF0 hash (remove d k (hash k) s) s p ∧
      (∀ e, e ∈ toList (remove d k (hash k) s) ↔ (e.1 ≠ k ∧ e ∈ toList d)) := by
  induction h with
  | @leaf s p h k' v' h1 h2 =>
    unfold remove
    split
    · rename_i hkk
      exact ⟨Or.inl rfl, fun e => ⟨nofun, fun h => absurd ((List.mem_singleton.mp h.2 ▸ hkk : e.1 = k)) h.1⟩⟩
    · rename_i hkk
      exact ⟨Or.inr (WF.leaf h1 h2), fun e => ⟨fun h => ⟨List.mem_singleton.mp h ▸ hkk, h⟩, And.right⟩⟩
  | @collision s p chash es h1 h2 h3 h4 =>
    have hmem := mem_brem h4 k
    rw [remove, bucketRemove_nil]
    simp only [toList_collision]
    match hkept : brem es k with
    | [] => exact ⟨Or.inl rfl, fun e => by rw [← hmem, hkept]; rfl⟩
    | [(k1, v1)] =>
      have hk1 := (hmem (k1, v1)).mp (hkept ▸ List.mem_singleton_self _)
      exact ⟨Or.inr (WF.leaf (h1 _ hk1.2).symm h2), fun e => by rw [← hmem, hkept]; rfl⟩
    | e1 :: e2 :: rest =>
      refine ⟨Or.inr (WF.collision (fun e he => ?_) h2 (Nat.le_add_left 2 _) (hkept ▸ nodup_brem h4 k)),
        fun e => by rw [← hmem, hkept]; rfl⟩
      exact h1 _ ((hmem e).mp (hkept ▸ he)).2
  | @node s p b cs hb32 hs hp hl hc hsingle hne ih =>
    have hwf : WF hash (Dict.node b cs) s p := WF.node hb32 hs hp hl hc hsingle hne
    have hS := hwf.slotted
    have h32 := fragment_lt (hash k) s
    cases hbit : b.testBit (fragment (hash k) s) with
    | false =>
      rw [remove_node_unset hbit]
      exact ⟨Or.inr hwf, fun e => ⟨fun he => ⟨hS.ne_key_of_unset hbit he, he⟩, And.right⟩⟩
    | true =>
      obtain ⟨c, hz⟩ := exists_zip_of_mem_left hl.symm (mem_slots.mpr ⟨h32, hbit⟩)
      obtain ⟨w1, w2⟩ := ih _ _ hz (prefix_step hk)
      rcases w1 with hrec | w1
      · obtain ⟨hS', hmem⟩ := hS.erase hbit h32
        obtain ⟨c1, c2⟩ := collapse_spec hS'
        rw [remove_node_set_empty hz hrec]
        refine ⟨c1, fun e => ?_⟩
        rw [c2, hmem, hS.mem_ne_key hz, ← w2, hrec]
        simp
      · obtain ⟨hS', hmem⟩ := hS.set hbit h32 w1
        obtain ⟨c1, c2⟩ := collapse_spec hS'
        rw [remove_node_set_ne hz w1.ne_empty]
        refine ⟨c1, fun e => ?_⟩
        rw [c2, hmem, hS.mem_ne_key hz, w2]

end QM.Dict
