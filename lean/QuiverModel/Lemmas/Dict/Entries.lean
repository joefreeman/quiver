import QuiverModel.Lemmas.Dict.Spec
/-
`entries` (the worklist traversal) enumerates the contents; contents of a well-formed trie have
distinct keys.
-/
namespace QM.Dict

variable {K V : Type}

theorem flatMap_reverse_perm {α β : Type} (l : List α) (f : α → List β) :
    (l.reverse.flatMap f).Perm (l.flatMap f) :=
  List.Perm.flatMap_right f (List.reverse_perm l)

theorem entries_perm (wl : List (Dict K V)) (acc : List (K × V)) :
    (entries wl acc).Perm (wl.flatMap toList ++ acc) := by
  fun_induction entries wl acc with
  | case1 acc => simp
  | case2 acc rest ih => simpa using ih
  | case3 acc rest h k v ih =>
    refine ih.trans ?_
    simp only [List.flatMap_cons, toList_leaf, List.cons_append]
    exact List.perm_middle
  | case4 acc rest h ents ih =>
    refine ih.trans ?_
    rw [revcat_eq]
    simp only [List.flatMap_cons, toList_collision, List.append_assoc]
    refine (List.perm_append_comm_assoc _ _ _).trans ?_
    exact List.Perm.append_right _ (List.reverse_perm ents)
  | case5 acc rest b cs ih =>
    refine ih.trans ?_
    rw [revcat_eq]
    simp only [List.flatMap_append, List.flatMap_cons, toList_node]
    exact List.Perm.append_right _ (List.Perm.append_right _ (flatMap_reverse_perm cs toList))

variable {hash : K → Nat}

/-- the keys stored in a well-formed trie are pairwise different: children in different slots
hold keys of different fragments -/
theorem WF.keys_nodup {d : Dict K V} {s p : Nat} (h : WF hash d s p) :
    ((toList d).map (·.1)).Nodup := by
  induction h with
  | leaf => simp
  | collision _ _ _ h4 => simpa using h4
  | @node s p b cs hb hs hp hl hc _ _ ih =>
    have hS : Slotted hash b cs s p := ⟨hb, hs, hp, hl, hc⟩
    have hz : ((slots b).zip cs).Pairwise fun a a' => ∀ x ∈ toList a.2, ∀ y ∈ toList a'.2, x.1 ≠ y.1 := by
      have : ((slots b).zip cs).Pairwise fun a a' => a.1 ≠ a'.1 := by
        rw [← List.pairwise_map (f := Prod.fst), List.map_fst_zip (Nat.le_of_eq hl.symm)]
        exact slots_nodup b
      refine this.imp_of_mem fun {a a'} ha ha' hne x hx y hy hxy => hne ?_
      rw [← hS.route ha hx, ← hS.route ha' hy, hxy]
    rw [toList_node, List.Nodup, List.pairwise_map, List.pairwise_flatMap]
    refine ⟨fun c hc' => ?_, ?_⟩
    · obtain ⟨f, hf⟩ := exists_zip_of_mem_right hl.symm hc'
      exact List.pairwise_map.mp (ih f c hf)
    · rwa [← List.map_snd_zip (l₁ := slots b) (Nat.le_of_eq hl), List.pairwise_map]

end QM.Dict
