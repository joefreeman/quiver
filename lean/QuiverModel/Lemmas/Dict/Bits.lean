import QuiverModel.Core.Dict
/-
Bit-level facts behind M-Dict: the bitmap of a `Node` seen as the sorted list `slots b` of its set
positions below 32, `rank b f` = number of set positions below `f` (= the compact child index the
source computes as `popcount(bitmap & (bit - 1))`), and what `|||`, `andNot` do to them.
Core Lean only (no Mathlib).
-/
namespace QM.Dict

/-- set positions below `n`, ascending -/
def slotsUpTo (b n : Nat) : List Nat := (List.range n).filter (fun i => b.testBit i)

/-- the occupied slots of a 32-way node, ascending -/
def slots (b : Nat) : List Nat := slotsUpTo b 32

/-- number of occupied slots below `f` -/
def rank (b f : Nat) : Nat := (slotsUpTo b f).length

theorem mem_slotsUpTo {b n g : Nat} : g ∈ slotsUpTo b n ↔ g < n ∧ b.testBit g = true := by
  simp [slotsUpTo]

theorem mem_slots {b g : Nat} : g ∈ slots b ↔ g < 32 ∧ b.testBit g = true := mem_slotsUpTo

theorem slotsUpTo_nodup (b n : Nat) : (slotsUpTo b n).Nodup :=
  List.Nodup.sublist List.filter_sublist List.nodup_range

theorem slots_nodup (b : Nat) : (slots b).Nodup := slotsUpTo_nodup b 32

theorem slotsUpTo_length_le (b n : Nat) : (slotsUpTo b n).length ≤ n := by
  have := List.length_filter_le (fun i => b.testBit i) (List.range n)
  simpa [slotsUpTo] using this

theorem slotsUpTo_zero (n : Nat) : slotsUpTo 0 n = [] :=
  List.filter_eq_nil_iff.mpr (by simp)

theorem rank_mono {b f g : Nat} (h : f ≤ g) : rank b f ≤ rank b g :=
  ((List.range_sublist.mpr h).filter _).length_le

theorem slotsUpTo_split (b f m : Nat) :
    slotsUpTo b (f + 1 + m) = slotsUpTo b f ++ (if b.testBit f then [f] else []) ++
      ((List.range m).map (f + 1 + ·)).filter (fun i => b.testBit i) := by
  simp only [slotsUpTo, List.range_add, List.range_succ, List.filter_append, List.filter_cons,
    List.filter_nil]

theorem slotsUpTo_getElem?_rank {b f n : Nat} (hf : b.testBit f = true) (hn : f < n) :
    (slotsUpTo b n)[rank b f]? = some f := by
  obtain ⟨m, rfl⟩ : ∃ m, n = f + 1 + m := ⟨n - (f + 1), (Nat.add_sub_cancel' hn).symm⟩
  rw [slotsUpTo_split, hf, if_pos rfl, List.append_assoc, rank,
    List.getElem?_append_right (Nat.le_refl _), Nat.sub_self]
  rfl

theorem slots_getElem?_rank {b f : Nat} (hf : b.testBit f = true) (h32 : f < 32) :
    (slots b)[rank b f]? = some f := slotsUpTo_getElem?_rank hf h32

theorem rank_le_length {b f : Nat} (h32 : f ≤ 32) : rank b f ≤ (slots b).length :=
  rank_mono h32

theorem insertIdx_length_append {α : Type} (l m : List α) (x : α) :
    (l ++ m).insertIdx l.length x = l ++ x :: m := by
  induction l with
  | nil => rfl
  | cons h t ih => simp [List.insertIdx_succ_cons, ih]

theorem eraseIdx_length_append {α : Type} (l m : List α) (x : α) :
    (l ++ x :: m).eraseIdx l.length = l ++ m := by
  induction l with
  | nil => rfl
  | cons h t ih => simp [ih]

/-- two bitmaps that differ exactly in bit `f`: the slot lists differ by `f` at its rank -/
theorem slotsUpTo_differ {b b' f n : Nat} (hn : f < n) (hf : b.testBit f = false)
    (hf' : b'.testBit f = true) (h : ∀ g < n, g ≠ f → b'.testBit g = b.testBit g) :
    slotsUpTo b' n = (slotsUpTo b n).insertIdx (rank b f) f ∧
      slotsUpTo b n = (slotsUpTo b' n).eraseIdx (rank b' f) := by
  obtain ⟨m, rfl⟩ : ∃ m, n = f + 1 + m := ⟨n - (f + 1), (Nat.add_sub_cancel' hn).symm⟩
  have lo : slotsUpTo b' f = slotsUpTo b f :=
    List.filter_congr fun g hg =>
      have hg := List.mem_range.mp hg
      h g (Nat.lt_trans hg (Nat.lt_of_lt_of_le (Nat.lt_succ_self f) (Nat.le_add_right _ m)))
        (Nat.ne_of_lt hg)
  have hi : ((List.range m).map (f + 1 + ·)).filter (fun i => b'.testBit i) =
      ((List.range m).map (f + 1 + ·)).filter (fun i => b.testBit i) :=
    List.filter_congr fun g hg => by
      obtain ⟨i, hi, rfl⟩ := List.mem_map.mp hg
      exact h _ (Nat.add_lt_add_left (List.mem_range.mp hi) _)
        (Nat.ne_of_gt (Nat.lt_of_lt_of_le (Nat.lt_succ_self f) (Nat.le_add_right _ i)))
  rw [slotsUpTo_split b', slotsUpTo_split b, rank, rank, lo, hi, hf, hf', if_pos rfl, if_neg nofun,
    List.append_nil, insertIdx_length_append, List.append_assoc, List.singleton_append,
    eraseIdx_length_append]
  exact ⟨rfl, rfl⟩

theorem testBit_or_bit (b f g : Nat) :
    (b ||| 1 <<< f).testBit g = (b.testBit g || decide (f = g)) := by
  rw [Nat.testBit_or, Nat.one_shiftLeft, Nat.testBit_two_pow]

theorem testBit_andNot_bit {b f g : Nat} (hf : f < 64) (hg : g < 64) :
    (andNot b (1 <<< f)).testBit g = (b.testBit g && !decide (f = g)) := by
  rw [andNot, Nat.testBit_and, Nat.one_shiftLeft,
    show (18446744073709551615 : Nat) = 2 ^ 64 - 1 from rfl, Nat.sub_sub, Nat.add_comm 1,
    Nat.testBit_two_pow_sub_succ (Nat.pow_lt_pow_right (by decide) hf), Nat.testBit_two_pow,
    decide_eq_true hg, Bool.true_and]

theorem slotsUpTo_or {b f n : Nat} (hf : b.testBit f = false) (hn : f < n) :
    slotsUpTo (b ||| 1 <<< f) n = (slotsUpTo b n).insertIdx (rank b f) f :=
  (slotsUpTo_differ hn hf (by rw [testBit_or_bit, decide_eq_true rfl, Bool.or_true])
    fun g _ hg => by rw [testBit_or_bit, decide_eq_false (Ne.symm hg), Bool.or_false]).1

theorem slots_or {b f : Nat} (hf : b.testBit f = false) (h32 : f < 32) :
    slots (b ||| 1 <<< f) = (slots b).insertIdx (rank b f) f := slotsUpTo_or hf h32

theorem slots_andNot {b f : Nat} (hf : b.testBit f = true) (h32 : f < 32) :
    slots (andNot b (1 <<< f)) = (slots b).eraseIdx (rank b f) :=
  have h64 : f < 64 := Nat.lt_trans h32 (by decide)
  (slotsUpTo_differ h32
    (by rw [testBit_andNot_bit h64 h64, decide_eq_true rfl, Bool.not_true, Bool.and_false]) hf
    fun g hg hgf => by
      rw [testBit_andNot_bit h64 (Nat.lt_trans hg (by decide)), decide_eq_false (Ne.symm hgf),
        Bool.not_false, Bool.and_true]).2

theorem popcountNat_eq (n x : Nat) : popcountNat n x = (slotsUpTo x n).length := by
  induction n generalizing x with
  | zero => simp [popcountNat, slotsUpTo]
  | succ n ih =>
    unfold popcountNat
    by_cases hx : x = 0
    · rw [hx, if_pos rfl, slotsUpTo_zero]; rfl
    · simp only [hx, if_false]
      rw [ih (x / 2)]
      unfold slotsUpTo
      rw [List.range_succ_eq_map, List.filter_cons, List.filter_map, Nat.testBit_zero]
      have hcomp : ((fun i => x.testBit i) ∘ Nat.succ) = (fun i => (x / 2).testBit i) := by
        funext i; simp [Nat.testBit_succ]
      rw [hcomp]
      rcases Nat.mod_two_eq_zero_or_one x with h | h <;> simp [h] <;> omega

theorem slotsUpTo_mask {b f n : Nat} (hn : f ≤ n) :
    slotsUpTo (b &&& (1 <<< f - 1)) n = slotsUpTo b f := by
  obtain ⟨m, rfl⟩ : ∃ m, n = f + m := ⟨n - f, (Nat.add_sub_cancel' hn).symm⟩
  have hbit : ∀ g, (b &&& (1 <<< f - 1)).testBit g = (b.testBit g && decide (g < f)) := fun g => by
    rw [Nat.testBit_and, Nat.one_shiftLeft, Nat.testBit_two_pow_sub_one]
  simp only [slotsUpTo, List.range_add, List.filter_append, hbit]
  have lo : (List.range f).filter (fun i => b.testBit i && decide (i < f)) =
      (List.range f).filter (fun i => b.testBit i) :=
    List.filter_congr fun g hg => by rw [decide_eq_true (List.mem_range.mp hg), Bool.and_true]
  have hi : ((List.range m).map (f + ·)).filter (fun i => b.testBit i && decide (i < f)) = [] :=
    List.filter_eq_nil_iff.mpr fun g hg => by
      obtain ⟨i, _, rfl⟩ := List.mem_map.mp hg
      rw [decide_eq_false (Nat.not_lt.mpr (Nat.le_add_right f i)), Bool.and_false]
      nofun
  rw [lo, hi, List.append_nil]

theorem slotIndex_eq_rank {b f : Nat} (hf : f ≤ 64) : slotIndex b (1 <<< f) = rank b f := by
  unfold slotIndex popcount rank
  rw [popcountNat_eq, slotsUpTo_mask hf]

theorem slotsUpTo_of_lt_two_pow {b m n : Nat} (hb : b < 2 ^ m) (hn : m ≤ n) :
    slotsUpTo b n = slotsUpTo b m := by
  rw [← slotsUpTo_mask (b := b) hn, Nat.one_shiftLeft, Nat.and_two_pow_sub_one_of_lt_two_pow hb]

theorem popcount_eq_slots_length {b : Nat} (hb : b < 2 ^ 32) : popcount b = (slots b).length := by
  unfold popcount slots
  rw [popcountNat_eq, slotsUpTo_of_lt_two_pow hb (by omega)]

/-- the test `[bitmap, bit] %int.and =0` -/
theorem and_bit_eq_zero_iff (b f : Nat) : b &&& 1 <<< f = 0 ↔ b.testBit f = false := by
  rw [Nat.one_shiftLeft]
  constructor
  · intro h
    have := congrArg (fun x => x.testBit f) h
    simpa [Nat.testBit_and, Nat.testBit_two_pow] using this
  · intro h
    apply Nat.eq_of_testBit_eq
    intro i
    rw [Nat.testBit_and, Nat.testBit_two_pow, Nat.zero_testBit]
    by_cases hfi : f = i
    · subst hfi; simp [h]
    · simp [hfi]

theorem lt_two_pow_of_testBit {b n : Nat} (h : ∀ i, n ≤ i → b.testBit i = false) : b < 2 ^ n :=
  Nat.lt_pow_two_of_testBit b h

theorem eq_of_slots_iff {b b' : Nat} (hb : b < 2 ^ 32) (hb' : b' < 2 ^ 32)
    (h : ∀ i, i ∈ slots b ↔ i ∈ slots b') : b = b' := by
  apply Nat.eq_of_testBit_eq
  intro i
  by_cases hi : i < 32
  · have := h i
    simp only [mem_slots, hi, true_and] at this
    exact Bool.eq_iff_iff.mpr this
  · have hp : (2:Nat) ^ 32 ≤ 2 ^ i := Nat.pow_le_pow_right (by decide) (Nat.le_of_not_lt hi)
    rw [Nat.testBit_lt_two_pow (Nat.lt_of_lt_of_le hb hp),
      Nat.testBit_lt_two_pow (Nat.lt_of_lt_of_le hb' hp)]

theorem or_bit_lt {b f : Nat} (hb : b < 2 ^ 32) (hf : f < 32) : b ||| 1 <<< f < 2 ^ 32 := by
  rw [Nat.one_shiftLeft]
  exact Nat.or_lt_two_pow hb (Nat.pow_lt_pow_right (by decide) hf)

theorem andNot_lt {b x : Nat} (hb : b < 2 ^ 32) : andNot b x < 2 ^ 32 := by
  unfold andNot
  exact Nat.lt_of_le_of_lt Nat.and_le_left hb

theorem bit_lt {f : Nat} (hf : f < 32) : 1 <<< f < 2 ^ 32 := by
  rw [Nat.one_shiftLeft]; exact Nat.pow_lt_pow_right (by decide) hf

theorem fragment_eq (h s : Nat) : fragment h s = h / 2 ^ s % 32 := by
  unfold fragment
  rw [Nat.shiftRight_eq_div_pow]
  exact Nat.and_two_pow_sub_one_eq_mod _ 5

theorem fragment_lt (h s : Nat) : fragment h s < 32 := by
  rw [fragment_eq]; exact Nat.mod_lt _ (by decide)

/-! the bitmap test and the compact index, as `get`/`put`/`remove` write them -/

theorem and_bitOf_eq_zero {b h s : Nat} (hbit : b.testBit (fragment h s) = false) :
    b &&& bitOf h s = 0 := (and_bit_eq_zero_iff _ _).mpr hbit

theorem and_bitOf_ne_zero {b h s : Nat} (hbit : b.testBit (fragment h s) = true) :
    b &&& bitOf h s ≠ 0 := fun h0 => by
  rw [(and_bit_eq_zero_iff _ _).mp h0] at hbit; cases hbit

theorem slotIndex_bitOf (b h s : Nat) : slotIndex b (bitOf h s) = rank b (fragment h s) :=
  slotIndex_eq_rank (Nat.le_of_lt (Nat.lt_trans (fragment_lt h s) (by decide)))

theorem mod_succ_level (h s : Nat) : h % 2 ^ (s + 5) = h % 2 ^ s + fragment h s * 2 ^ s := by
  rw [fragment_eq, Nat.pow_add, Nat.mod_mul, Nat.mul_comm]

theorem prefix_step {h p s : Nat} (hp : h % 2 ^ s = p) :
    h % 2 ^ (s + 5) = p + fragment h s * 2 ^ s := by
  rw [mod_succ_level, hp]

/-- a key stored under slot `g` of a node at `s` has fragment `g` -/
theorem fragment_of_prefix {h p s g : Nat} (hp : h % 2 ^ s = p)
    (hg : h % 2 ^ (s + 5) = p + g * 2 ^ s) : fragment h s = g :=
  Nat.eq_of_mul_eq_mul_right (Nat.two_pow_pos s) (Nat.add_left_cancel ((prefix_step hp).symm.trans hg))

theorem prefix_of_child {h p s g : Nat} (hg : h % 2 ^ (s + 5) = p + g * 2 ^ s) (hp : p < 2 ^ s) :
    h % 2 ^ s = p := by
  rw [← Nat.mod_mod_of_dvd h (Nat.pow_dvd_pow 2 (Nat.le_add_right s 5)), hg,
    Nat.add_mul_mod_self_right, Nat.mod_eq_of_lt hp]

theorem shift_lt_of_ne {h1 h2 s : Nat} (hne : h1 ≠ h2) (b1 : h1 < 2 ^ 32) (b2 : h2 < 2 ^ 32)
    (hag : h1 % 2 ^ s = h2 % 2 ^ s) : s < 32 := by
  apply Nat.lt_of_not_le
  intro hs
  have hp : (2:Nat) ^ 32 ≤ 2 ^ s := Nat.pow_le_pow_right (by decide) hs
  rw [Nat.mod_eq_of_lt (Nat.lt_of_lt_of_le b1 hp), Nat.mod_eq_of_lt (Nat.lt_of_lt_of_le b2 hp)] at hag
  exact hne hag

theorem slotsUpTo_bit {f n : Nat} (hf : f < n) : slotsUpTo (1 <<< f) n = [f] := by
  have := slotsUpTo_or (b := 0) (Nat.zero_testBit f) hf
  rwa [Nat.zero_or, slotsUpTo_zero, rank, slotsUpTo_zero] at this

theorem slots_bit {f : Nat} (hf : f < 32) : slots (1 <<< f) = [f] := slotsUpTo_bit hf

/-- the lower slot `f` is the one position occupied below `g` -/
theorem slots_two_bits {f g : Nat} (hfg : f < g) (hg : g < 32) :
    slots (1 <<< f ||| 1 <<< g) = [f, g] := by
  have hbit : (1 <<< f).testBit g = false := by
    rw [Nat.one_shiftLeft, Nat.testBit_two_pow]; exact decide_eq_false (Nat.ne_of_lt hfg)
  rw [slots_or hbit hg, slots_bit (Nat.lt_trans hfg hg), rank, slotsUpTo_bit hfg]
  rfl

end QM.Dict
