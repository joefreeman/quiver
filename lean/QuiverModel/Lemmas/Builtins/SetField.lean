import QuiverModel.Lemmas.Builtins.Window
/-
Refinement of `binary_set` to the flat algorithm `Spec.setBytes`, and its numeric meaning.
Serves C12.
-/
namespace QM.Builtins
open QM.Bytes QM.Bytes.Rope QM.Builtins.Spec

/-- the four ways `binary_set` reassembles the result rope all denote
    `take a v ++ newBytes ++ drop (a + cnt) v` and stay within the size limit -/
theorem setAssemble_refines {r : Rope} (hr : r.Stored) (a cnt : Nat) (newBytes : List UInt8)
    (hin : a + cnt ≤ r.len) (hnb : newBytes.length = cnt) :
    RefinesBin
      ((if a = 0 ∧ a + cnt = r.len then Outcome.ok (Rope.owned newBytes)
        else if a = 0 then
          (usub r.len (a + cnt)).bind fun rest =>
          match Rope.mkSlice r (a + cnt) rest with
          | some right => Rope.mkConcat (.owned newBytes) right
          | none => .panic
        else if a + cnt = r.len then
          match Rope.mkSlice r 0 a with
          | some left => Rope.mkConcat left (.owned newBytes)
          | none => .panic
        else
          (usub r.len (a + cnt)).bind fun rest =>
          match Rope.mkSlice r 0 a, Rope.mkSlice r (a + cnt) rest with
          | some left, some right =>
            (Rope.mkConcat left (.owned newBytes)).bind fun withMiddle =>
              Rope.mkConcat withMiddle right
          | _, _ => .panic).bind allocData)
      (.ok (r.bytes.take a ++ newBytes ++ r.bytes.drop (a + cnt))) := by
  have hl := hr.2; have he := hr.1.len_eq
  have hwn : (Rope.owned newBytes).WF := Nat.lt_of_le_of_lt (by omega : newBytes.length ≤ 16777216) (by decide)
  obtain ⟨left, hsl, hwl, hbl, hll⟩ := mkSlice_some hr.1 (off := 0) (l := a) (by omega)
  obtain ⟨right, hsr, hwr, hbr, hlr⟩ := mkSlice_some hr.1 (off := a + cnt) (l := r.len - (a + cnt)) (by omega)
  rw [List.drop_zero] at hbl
  rw [List.take_of_length_le (by rw [List.length_drop]; omega)] at hbr
  rw [usub_ok hin]
  simp only [ok_bind, hsl, hsr]
  split
  · rename_i h
    rw [ok_bind, h.1, List.take_zero, List.nil_append, List.drop_eq_nil_of_le (by omega), List.append_nil]
    exact allocData_refines hwn (by show newBytes.length ≤ _; omega)
  · split
    · rename_i h
      subst h
      rw [List.take_zero, List.nil_append, ← hbr]
      exact mkConcat_alloc_refines hwn hwr (by show newBytes.length + _ ≤ _; omega)
    · split
      · rw [List.drop_eq_nil_of_le (by omega), List.append_nil, ← hbl]
        exact mkConcat_alloc_refines hwl hwn (by show _ + newBytes.length ≤ _; omega)
      · obtain ⟨m, hm, hwm, hbm, hlm⟩ := mkConcat_ok hwl hwn (by show _ + newBytes.length < _; omega)
        rw [hm, ok_bind, ← hbl, ← hbr, ← show m.bytes = left.bytes ++ newBytes from hbm]
        exact mkConcat_alloc_refines hwm hwr (by rw [hlm]; show _ + newBytes.length + _ ≤ _; omega)

/-- `Spec.setBytes` in terms of the window geometry: `cnt` bytes from byte `a` are replaced, the
    field ends `ba` bits above their low end -/
theorem setBytes_eq (v : List UInt8) {a b c cnt ba : Nat} (value : Nat)
    (hL : (8 * a + b + c + 7) / 8 = a + cnt) (hbits : ba + b + c = 8 * cnt) :
    setBytes v a b value c = v.take a ++ beBytes cnt
      ((beNat ((v.drop a).take cnt) &&& (340282366920938463463374607431768211456 - 1 -
          ((2 ^ c - 1) * 2 ^ ba) % 340282366920938463463374607431768211456)) |||
        ((value * 2 ^ ba) % 340282366920938463463374607431768211456)) ++ v.drop (a + cnt) := by
  unfold setBytes
  simp only []
  rw [hL, Nat.add_sub_cancel_left, show cnt * 8 - b - c = ba by omega]

theorem length_setBytes (v : List UInt8) {a b c : Nat} (value : Nat) (hb : b ≤ 7) (hc : c ≤ 64)
    (hwin : 8 * a + b + c ≤ 8 * v.length) : (setBytes v a b value c).length = v.length := by
  obtain ⟨cnt, ba, hL, -, hin, hbits, -⟩ := window_geometry hb hc hwin
  rw [setBytes_eq v value hL hbits, List.length_append, List.length_append, List.length_take,
    length_beBytes, List.length_drop]
  omega

theorem binarySet_refines {r : Rope} (hr : r.Stored) (bo bi value nb : Int) :
    RefinesBin (binarySet r bo bi value nb) (Spec.binarySet r.bytes bo bi value nb) := by
  unfold binarySet Spec.binarySet
  by_cases hw : InWindow r.bytes.length bo bi nb
  · obtain ⟨a, b, c, cnt, ba, rfl, rfl, rfl, hc1, hc, hcnt, hin, hbits, hL, hargs, hlast, -⟩ :=
      inWindow_geometry hr.length_le hw
    have he := hr.1.len_eq
    have hp := Nat.two_pow_pos c
    rw [hargs]
    simp only [ok_bind, Int.toNat_natCast]
    rw [hlast, if_neg (by omega)]
    simp only [toI64Int_bind, err_ite, ite_ite_guard]
    refine RefinesBin.of_guard (fun hd => ?_) (fun _ _ => ?_) (fun hc' hd => absurd ?_ hd)
    · obtain ⟨-, h0, h1, h2⟩ := hd
      rw [Int.toNat_natCast] at h1
      exact ⟨⟨by omega, h2⟩, by omega⟩
    · rw [window_read hr.1 (by omega) hin hbits, setBytes_eq _ _ hL hbits]
      exact setAssemble_refines hr a cnt _ (by omega) (length_beBytes _ _)
    · exact ⟨hw, by omega, by rw [Int.toNat_natCast]; omega, hc'.1.2⟩
  · rw [if_neg (fun hd => hw hd.1)]
    rcases window_err hr.length_le hw with he | ⟨a, b, c, hok, hgt⟩
    · rw [he]; rfl
    · rw [hok]; simp only [ok_bind]; rw [if_pos (by rw [hr.1.len_eq]; exact hgt)]; rfl

/-- **`binary_set` writes the field**: the result denotes the old number with the `nb`-bit field
    at bit `8*bo + bi` replaced by `value`. -/
theorem beNat_setBytes (v : List UInt8) (bo bi value nb : Nat)
    (hwin : 8 * bo + bi + nb ≤ 8 * v.length) (hbi : bi ≤ 7) (h64 : nb ≤ 64)
    (hV : value < 2 ^ nb) :
    beNat (setBytes v bo bi value nb)
      = beNat v - ((beNat v / 2 ^ (8 * v.length - (8 * bo + bi + nb))) % 2 ^ nb) *
            2 ^ (8 * v.length - (8 * bo + bi + nb))
          + value * 2 ^ (8 * v.length - (8 * bo + bi + nb)) := by
  obtain ⟨cnt, ba, hL, hcnt, hin, hbits, hsh⟩ := window_geometry hbi h64 hwin
  have hM : ((v.drop bo).take cnt).length = cnt := by rw [List.length_take, List.length_drop]; omega
  have h := beNat_write_field (v.take bo) ((v.drop bo).take cnt) (v.drop (bo + cnt)) (ba := ba)
    (by omega) (by omega) hV
  rw [take_drop_split, hM, List.length_drop] at h
  rw [setBytes_eq v value hL hbits, hsh]
  -- `h` is additive; the old field, scaled, is at most the number, so the subtraction is exact
  have hle := Nat.le_trans (Nat.mul_le_mul_right (2 ^ (8 * (v.length - (bo + cnt)) + ba))
    (Nat.mod_le (beNat v / 2 ^ (8 * (v.length - (bo + cnt)) + ba)) (2 ^ nb))) (Nat.div_mul_le_self _ _)
  omega

end QM.Builtins
