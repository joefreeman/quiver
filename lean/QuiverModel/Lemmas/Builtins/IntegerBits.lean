import Mathlib.Algebra.Order.Ring.Int
import Mathlib.Tactic.NormNum.Basic
import QuiverModel.Core.Builtins.Integer
/-
64-bit word lemmas for the integer bitwise family: the shift is multiplication / floor division,
popcount counts the one bits. Serves C12.
-/
namespace QM.Builtins

theorem toI64_ok {z : Int} (h : FitsI64 z) : toI64 z = .ok (BitVec.ofInt 64 z) := if_pos h
theorem toI64_err {z : Int} (h : ¬ FitsI64 z) : toI64 z = .err .invalidArgument := if_neg h

theorem toInt_fits (x : BitVec 64) : FitsI64 x.toInt := by
  have h1 := BitVec.le_toInt x
  have h2 := BitVec.toInt_lt (x := x)
  constructor <;> omega

theorem ofInt_toInt_fits {z : Int} (h : FitsI64 z) : (BitVec.ofInt 64 z).toInt = z := by
  rw [BitVec.toInt_ofInt]; obtain ⟨h1, h2⟩ := h
  apply Int.bmod_eq_of_le_mul_two <;> omega

/-- the plain meaning of a 64-bit shift: left = multiply and wrap to i64, right = floor division -/
def shiftRef (v a : Int) : Int :=
  if a ≥ 0 then Int.bmod (v * 2 ^ a.toNat) (2 ^ 64) else v / 2 ^ (-a).toNat

theorem shl_toInt (v : Int) (n : Nat) :
    ((BitVec.ofInt 64 v) <<< n).toInt = Int.bmod (v * 2 ^ n) (2 ^ 64) := by
  rw [BitVec.toInt_shiftLeft, BitVec.toNat_ofInt, Nat.shiftLeft_eq]
  generalize hM : (2:Nat) ^ 64 = M
  have hMpos : (0:Int) < (M : Int) := by rw [← hM]; norm_num
  rw [Int.natCast_mul, Int.toNat_of_nonneg (Int.emod_nonneg _ (by omega)), Int.natCast_pow]
  rw [← Int.bmod_mul_bmod, Int.emod_bmod, Int.bmod_mul_bmod]; rfl

theorem ediv_of_abs_lt {v d : Int} (hlo : -d ≤ v) (hhi : v < d) : v / d = if v ≥ 0 then 0 else -1 := by
  by_cases hv : v ≥ 0
  · rw [if_pos hv]; exact Int.ediv_eq_zero_of_lt hv hhi
  · rw [if_neg hv]
    exact ((Int.ediv_emod_unique (r := v + d) (by omega)).2 ⟨by omega, by omega, by omega⟩).1

theorem integerShift_eq (v a : Int) (hv : FitsI64 v) (ha : FitsI64 a) :
    integerShift v a = .ok (shiftRef v a) := by
  have hx := ofInt_toInt_fits hv
  unfold integerShift two64 shiftRef
  rw [toI64_ok hv, toI64_ok ha]; simp only
  by_cases h0 : a = 0
  · rw [if_pos h0, hx, h0]; simp
    obtain ⟨h1, h2⟩ := hv
    symm; apply Int.bmod_eq_of_le_mul_two <;> omega
  · rw [if_neg h0]
    by_cases hbig : a.natAbs ≥ 64
    · rw [if_pos hbig]
      by_cases hpos : a > 0
      · rw [if_pos hpos, if_pos (show a ≥ 0 by omega)]
        have : (2:Int) ^ a.toNat = 2 ^ (a.toNat - 64) * ((2 ^ 64 : Nat) : Int) := by
          rw [show ((2 ^ 64 : Nat) : Int) = 2 ^ 64 by norm_num, ← pow_add]; congr 1; omega
        rw [this, ← mul_assoc, Int.mul_bmod_left]
      · rw [if_neg hpos, if_neg (show ¬ a ≥ 0 by omega), hx]
        have hp : (2:Int) ^ 64 ≤ 2 ^ (-a).toNat := pow_le_pow_right₀ (by norm_num) (by omega)
        exact congrArg _ (ediv_of_abs_lt (by have := hv.1; omega) (by have := hv.2; omega)).symm
    · rw [if_neg hbig]
      by_cases hpos : a > 0
      · rw [if_pos hpos, if_pos (show a ≥ 0 by omega), shl_toInt, show a.toNat = a.natAbs by omega]
      · rw [if_neg hpos, if_neg (show ¬ a ≥ 0 by omega), BitVec.toInt_sshiftRight, hx, Int.shiftRight_eq_div_pow,
          show (-a).toNat = a.natAbs by omega]
        push_cast; rfl

theorem popcountNat_eq (fuel n : Nat) :
    popcountNat fuel n = ((List.range fuel).map (fun i => (n.testBit i).toNat)).sum := by
  induction fuel generalizing n with
  | zero => simp [popcountNat]
  | succ fuel ih =>
    simp only [popcountNat]
    rw [List.range_succ_eq_map, List.map_cons, List.sum_cons, List.map_map]
    by_cases h0 : n = 0
    · rw [if_pos h0, h0]
      have : ∀ (l : List Nat), (List.map ((fun _ => (0:Nat)) ∘ Nat.succ) l).sum = 0 := by
        intro l; induction l with
        | nil => rfl
        | cons x xs ih' => rw [List.map_cons, List.sum_cons, ih']; rfl
      simp [this]
    · rw [if_neg h0, ih (n / 2)]
      congr 1
      · rw [Nat.testBit_zero]
        rcases Nat.mod_two_eq_zero_or_one n with h | h <;> simp [h]
      · congr 1
        apply List.map_congr_left
        intro i _
        simp [Nat.testBit_succ]

theorem integerPopcount_eq (a : Int) (h : FitsI64 a) :
    integerPopcount a = .ok (Int.ofNat
      (((List.range 64).map fun i => ((BitVec.ofInt 64 a).getLsbD i).toNat).sum)) := by
  unfold integerPopcount toI64
  rw [if_pos h]; simp only [Outcome.map, Outcome.bind, popcount64, popcountNat_eq]
  rfl

end QM.Builtins
