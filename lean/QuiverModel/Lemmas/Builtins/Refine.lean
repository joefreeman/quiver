import QuiverModel.Core.Builtins.Spec
import QuiverModel.Lemmas.Bytes.Cons
import QuiverModel.Lemmas.Bytes.Find
/-
Refinement relations between the branch-by-branch builtin models (ropes, machine arithmetic,
`panic` possible) and the plain reference specifications (flat bytes, no `panic`), and the
refinement lemmas of the "simple" binary builtins. Serves C12.
-/
namespace QM.Builtins
open QM.Bytes QM.Bytes.Rope

/-- the model outcome `o` refines the flat specification outcome `s`: same error class, or a
    stored (well-formed, within the size limit) rope with exactly the specified content.
    `panic` refines nothing. -/
def RefinesBin (o : Outcome Rope) (s : Outcome (List UInt8)) : Prop :=
  match o, s with
  | .ok r, .ok v => r.Stored ∧ r.bytes = v
  | .err e, .err e' => e = e'
  | _, _ => False

def RefinesOptBin (o : Outcome (Option Rope)) (s : Outcome (Option (List UInt8))) : Prop :=
  match o, s with
  | .ok (some r), .ok (some v) => r.Stored ∧ r.bytes = v
  | .ok none, .ok none => True
  | .err e, .err e' => e = e'
  | _, _ => False

theorem RefinesBin.not_panic {o s} (h : RefinesBin o s) : o ≠ .panic := by
  intro hp; subst hp; cases s <;> exact h

theorem RefinesOptBin.not_panic {o s} (h : RefinesOptBin o s) : o ≠ .panic := by
  intro hp; subst hp; cases s <;> exact h

theorem RefinesBin.eq_err {o : Outcome Rope} {e : ErrClass} (h : RefinesBin o (.err e)) : o = .err e := by
  cases o <;> first | exact h.elim | exact congrArg _ h

theorem RefinesBin.map_bytes {o s} (h : RefinesBin o s) : o.map Rope.bytes = s := by
  cases o <;> cases s <;> first | exact h.elim | exact congrArg _ h.2 | exact congrArg _ h

theorem RefinesOptBin.map_bytes {o s} (h : RefinesOptBin o s) : o.map (Option.map Rope.bytes) = s := by
  cases o with
  | ok x =>
    cases s with
    | ok y => cases x <;> cases y <;> first | exact h.elim | exact congrArg (fun v => Outcome.ok (some v)) h.2 | exact rfl
    | err e => cases x <;> exact h.elim
    | panic => cases x <;> exact h.elim
  | err e => cases s <;> first | exact h.elim | exact congrArg _ h
  | panic => cases s <;> exact h.elim

theorem RefinesBin.same {o₁ o₂ s} (h₁ : RefinesBin o₁ s) (h₂ : RefinesBin o₂ s) :
    o₁.map Rope.bytes = o₂.map Rope.bytes := h₁.map_bytes.trans h₂.map_bytes.symm

theorem RefinesOptBin.same {o₁ o₂ s} (h₁ : RefinesOptBin o₁ s) (h₂ : RefinesOptBin o₂ s) :
    o₁.map (Option.map Rope.bytes) = o₂.map (Option.map Rope.bytes) :=
  h₁.map_bytes.trans h₂.map_bytes.symm

theorem _root_.QM.Bytes.Rope.Stored.wf {r : Rope} (h : r.Stored) : r.WF := h.1
theorem _root_.QM.Bytes.Rope.Stored.length_le {r : Rope} (h : r.Stored) : r.bytes.length ≤ 16777216 := by
  rw [← h.1.len_eq]; exact h.2

theorem allocData_ok {r : Rope} (h : r.len ≤ 16777216) : allocData r = .ok r := by
  unfold allocData; rw [if_neg (by omega)]
theorem allocData_err {r : Rope} (h : ¬ r.len ≤ 16777216) : allocData r = .err .invalidArgument := by
  unfold allocData; rw [if_pos (by omega)]

theorem alloc_refines {bs : List UInt8} (h : bs.length ≤ 16777216) : RefinesBin (alloc bs) (.ok bs) := by
  unfold alloc; rw [allocData_ok (by simpa [len] using h)]
  exact ⟨⟨by simp only [WF]; omega, by simpa [len] using h⟩, rfl⟩

theorem allocData_refines {r : Rope} (hw : r.WF) (h : r.len ≤ 16777216) : RefinesBin (allocData r) (.ok r.bytes) := by
  rw [allocData_ok h]; exact ⟨⟨hw, h⟩, rfl⟩

theorem mkConcat_alloc_refines {x y : Rope} (hx : x.WF) (hy : y.WF) (h : x.len + y.len ≤ 16777216) :
    RefinesBin ((mkConcat x y).bind allocData) (.ok (x.bytes ++ y.bytes)) := by
  obtain ⟨c, hc, hw, hb, hl⟩ := mkConcat_ok hx hy (Nat.lt_of_le_of_lt h (by decide))
  rw [hc, ok_bind, ← hb]
  exact allocData_refines hw (hl ▸ h)

theorem mapMO_ok {α β : Type} (g : α → β) (xs : List α) : mapMO (fun x => Outcome.ok (g x)) xs = .ok (xs.map g) := by
  induction xs with
  | nil => rfl
  | cons x xs ih => simp [mapMO, ih, Outcome.bind]

theorem mapMO_congr {α β : Type} {f g : α → Outcome β} {xs : List α} (h : ∀ x ∈ xs, f x = g x) :
    mapMO f xs = mapMO g xs := by
  induction xs with
  | nil => rfl
  | cons x xs ih =>
    simp only [mapMO]
    rw [h x (by simp), ih (fun y hy => h y (by simp [hy]))]

/-! ### check chains

A kernel narrows and tests its arguments one after the other, every failure with the same error; its
specification tests one domain. The lemmas below turn such a chain into a single guard
`if C then x else .err e` by rewriting, so that `C` is compared with the domain once. -/

section guard
variable {β : Type} {c d : Prop} [Decidable c] [Decidable d] {x : Outcome β} {e : ErrClass}

theorem toI64Int_bind (z : Int) (k : Int → Outcome β) :
    (toI64Int z).bind k = if FitsI64 z then k z else .err .invalidArgument := by
  unfold toI64Int; split <;> rfl

theorem toUsize_bind (z : Int) (k : Nat → Outcome β) :
    (toUsize z).bind k = if 0 ≤ z ∧ z < 18446744073709551616 then k z.toNat else .err .invalidArgument := by
  unfold toUsize; split <;> rfl

theorem toU8_bind (z : Int) (k : UInt8 → Outcome β) :
    (toU8 z).bind k = if 0 ≤ z ∧ z ≤ 255 then k (UInt8.ofNat z.toNat) else .err .invalidArgument := by
  unfold toU8; split <;> rfl

theorem err_ite : (if c then .err e else x) = if ¬ c then x else .err e := by
  by_cases c <;> simp [*]

theorem ite_ite_guard : (if c then (if d then x else .err e) else .err e) = if c ∧ d then x else .err e := by
  by_cases c <;> by_cases d <;> simp [*]

end guard

/-- refinement of a guarded computation against a specification given by its domain `D`: the guard
    `C` is the part of the domain tested up front, the rest is decided inside `x` -/
theorem RefinesBin.of_guard {C D : Prop} [Decidable C] [Decidable D] {x : Outcome Rope} {v : List UInt8}
    (h : D → C) (hx : C → D → RefinesBin x (.ok v)) (hn : C → ¬ D → x = .err .invalidArgument) :
    RefinesBin (if C then x else .err .invalidArgument) (if D then .ok v else .err .invalidArgument) := by
  by_cases hD : D
  · rw [if_pos hD, if_pos (h hD)]; exact hx (h hD) hD
  · rw [if_neg hD]
    by_cases hC : C
    · rw [if_pos hC, hn hC hD]; rfl
    · rw [if_neg hC]; rfl

theorem binaryNew_refines (size : Int) : RefinesBin (binaryNew size) (Spec.binaryNew size) := by
  unfold binaryNew Spec.binaryNew
  simp only [toUsize_bind, err_ite, ite_ite_guard]
  refine RefinesBin.of_guard (fun hd => by omega) (fun hc hd => ?_) (fun hc hd => absurd (by omega) hd)
  exact allocData_refines (show (Rope.zeroed _).WF by simp only [WF]; omega) (by simp only [len]; omega)

theorem binaryLength_eq {r : Rope} (h : r.WF) : binaryLength r = .ok (Int.ofNat r.bytes.length) := by
  unfold binaryLength; rw [h.len_eq]

theorem binaryConcat_refines {a b : Rope} (ha : a.Stored) (hb : b.Stored) :
    RefinesBin (binaryConcat a b) (Spec.binaryConcat a.bytes b.bytes) := by
  have hla := ha.2; have hlb := hb.2
  have hea := ha.1.len_eq; have heb := hb.1.len_eq
  unfold binaryConcat Spec.binaryConcat
  rw [uadd_ok (by omega), ok_bind, err_ite]
  exact RefinesBin.of_guard (fun hd => by omega) (fun hc _ => mkConcat_alloc_refines ha.1 hb.1 (by omega))
    (fun hc hd => absurd (by omega) hd)

theorem binaryRepeat_refines {r : Rope} (hr : r.Stored) (count : Int) :
    RefinesBin (binaryRepeat r count) (Spec.binaryRepeat r.bytes count) := by
  have hl := hr.2; have he := hr.1.len_eq
  unfold binaryRepeat Spec.binaryRepeat
  simp only [toUsize_bind, err_ite, ite_ite_guard, ← he]
  have hlen := mkTiled_len hr.1 count.toNat
  refine RefinesBin.of_guard (fun hd => by omega) (fun hc hd => ?_) (fun hc hd => ?_)
  · obtain ⟨hwf, hbytes⟩ := mkTiled_spec hr.1 (c := count.toNat) (by omega)
    rw [satMul_of_lt (by omega)] at hlen
    rw [← hbytes]; exact allocData_refines hwf (by omega)
  · exact allocData_err (by rw [hlen, satMul_le_iff (by omega)]; omega)

theorem binaryAnd_refines {a b : Rope} (ha : a.Stored) (hb : b.Stored) :
    RefinesBin (binaryAnd a b) (.ok (Spec.binaryAnd a.bytes b.bytes)) := by
  unfold binaryAnd Spec.binaryAnd
  rw [ha.1.iter_eq, hb.1.iter_eq]; simp only [Outcome.bind]
  apply alloc_refines
  have := ha.length_le; simp only [List.length_zipWith]; omega

theorem byteOrZero_eq {r : Rope} (h : r.WF) (i : Nat) : byteOrZero r i = .ok (r.bytes.getD i 0) := by
  unfold byteOrZero
  rw [h.byteAt_eq, h.len_eq]
  by_cases hi : i < r.bytes.length
  · rw [if_pos hi, List.getElem?_eq_getElem hi]; simp [List.getD, List.getElem?_eq_getElem hi]
  · rw [if_neg hi]; simp [List.getD, List.getElem?_eq_none (Nat.le_of_not_lt hi)]

theorem padZip_refines (f : UInt8 → UInt8 → UInt8) {a b : Rope} (ha : a.Stored) (hb : b.Stored) :
    RefinesBin (padZip f a b) (.ok (Spec.padZip f a.bytes b.bytes)) := by
  unfold padZip Spec.padZip
  have hf : (fun i => (byteOrZero a i).bind fun x => (byteOrZero b i).bind fun y => Outcome.ok (f x y))
      = fun i => Outcome.ok (f (a.bytes.getD i 0) (b.bytes.getD i 0)) := by
    funext i; rw [byteOrZero_eq ha.1, byteOrZero_eq hb.1]; rfl
  rw [hf, mapMO_ok, ha.1.len_eq, hb.1.len_eq]; simp only [Outcome.bind]
  apply alloc_refines
  have := ha.length_le; have := hb.length_le
  simp only [List.length_map, List.length_range]; omega

theorem binaryNot_refines {r : Rope} (hr : r.Stored) :
    RefinesBin (binaryNot r) (.ok (r.bytes.map (~~~ ·))) := by
  unfold binaryNot; rw [hr.1.iter_eq]; simp only [Outcome.bind]
  apply alloc_refines; simpa using hr.length_le

theorem binaryIndex_eq {r : Rope} (hr : r.WF) (byte off : Int) :
    binaryIndex r byte off = Spec.binaryIndex r.bytes byte off := by
  unfold binaryIndex Spec.binaryIndex
  simp only [toU8_bind, toUsize_bind, err_ite, ite_ite_guard, hr.findByte_eq]
  exact ite_congr (propext (by omega)) (fun _ => rfl) (fun _ => rfl)

theorem binarySlice_refines {r : Rope} (hr : r.Stored) (start stop : Int) :
    RefinesBin (binarySlice r start stop) (Spec.binarySlice r.bytes start stop) := by
  have hl := hr.2; have he := hr.1.len_eq
  unfold binarySlice Spec.binarySlice
  simp only [toUsize_bind, err_ite, ite_ite_guard]
  refine RefinesBin.of_guard (fun hd => by omega) (fun hc hd => ?_) (fun hc hd => absurd (by omega) hd)
  obtain ⟨s, hs, hwf, hbytes, hlen⟩ :=
    mkSlice_some hr.1 (off := start.toNat) (l := stop.toNat - start.toNat) (by omega)
  rw [hs, ← hbytes]
  exact allocData_refines hwf (by omega)

theorem popcountNat_le (fuel n : Nat) : popcountNat fuel n ≤ fuel := by
  induction fuel generalizing n with
  | zero => simp [popcountNat]
  | succ fuel ih =>
    simp only [popcountNat]; split
    · omega
    · have := ih (n / 2); have := Nat.mod_lt n (show 0 < 2 by omega); omega

theorem popcount_le (v : List UInt8) : Spec.popcount v ≤ 8 * v.length := by
  unfold Spec.popcount
  induction v with
  | nil => simp
  | cons b bs ih =>
    have := popcountNat_le 8 b.toNat
    simp only [List.map_cons, List.sum_cons, List.length_cons]; omega

theorem binaryPopcount_eq {r : Rope} (hr : r.Stored) :
    binaryPopcount r = .ok (Int.ofNat (Spec.popcount r.bytes)) := by
  unfold binaryPopcount; rw [hr.1.iter_eq]; simp only [Outcome.bind]
  -- the `u64` sum cannot overflow: at most 8 bits for each of at most 2^24 bytes
  have h1 := popcount_le r.bytes; have h2 := hr.length_le
  simp only [Spec.popcount] at h1 ⊢
  rw [if_pos (by omega)]

theorem binaryHash32_eq {r : Rope} (hr : r.WF) :
    binaryHash32 r = .ok (Int.ofNat (fnv1a32 fnv32Offset fnv32Prime r.bytes)) := by
  unfold binaryHash32; rw [hr.iter_eq]; rfl

theorem binaryHash64_eq {r : Rope} (hr : r.WF) :
    binaryHash64 r = .ok (let h := fnv1a64 fnv64Offset fnv64Prime r.bytes
      if h ≥ 9223372036854775808 then (h : Int) - 18446744073709551616 else (h : Int)) := by
  unfold binaryHash64; rw [hr.iter_eq]; rfl

end QM.Builtins
