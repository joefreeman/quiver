import Mathlib.Tactic.Ring
import QuiverModel.Lemmas.Builtins.Refine
/-
Number-level lemmas for the bit-window builtins (`binary_get`, `binary_set`, `binary_append`,
`binary_shift`): big-endian values of byte strings and their fields, the byte reader.
Serves C12. (Of Mathlib only the tactic `ring`.)
-/
namespace QM.Builtins
open QM.Bytes QM.Bytes.Rope QM.Builtins.Spec

theorem pow256 (m : Nat) : 256 ^ m = 2 ^ (8 * m) := by rw [Nat.pow_mul]

theorem toNat_ofNat_lt {x : Nat} (h : x < 256) : (UInt8.ofNat x).toNat = x := by
  simp; omega

theorem beNat_lt (v : List UInt8) : beNat v < 256 ^ v.length := by
  induction v with
  | nil => simp [beNat]
  | cons b bs ih =>
    have hb := b.toNat_lt
    simp only [beNat, List.length_cons, Nat.pow_succ]
    have : b.toNat * 256 ^ bs.length ≤ 255 * 256 ^ bs.length := Nat.mul_le_mul_right _ (by omega)
    omega

theorem beNat_append (a b : List UInt8) : beNat (a ++ b) = beNat a * 256 ^ b.length + beNat b := by
  induction a with
  | nil => simp [beNat]
  | cons x xs ih =>
    simp only [List.cons_append, beNat, ih, List.length_append, Nat.pow_add]; ring

theorem beNat_replicate_zero (n : Nat) : beNat (List.replicate n 0) = 0 := by
  induction n with
  | zero => rfl
  | succ n ih => simp [List.replicate_succ, beNat, ih]

theorem beNat_split (v : List UInt8) (k : Nat) :
    beNat v = beNat (v.take k) * 256 ^ (v.length - k) + beNat (v.drop k) := by
  conv => lhs; rw [← List.take_append_drop k v]
  rw [beNat_append, List.length_drop]

/-- the field of `nb` bits that lies `ba` bits above the low end of the middle part `m`
    (of `ba + nb + t` bits) is not affected by what stands to the left (`x`) and to the right
    (`s`, of `w` bits) -/
theorem field_of_middle (x m s ba nb t w : Nat) (hs : s < 2 ^ w) :
    ((x * 2 ^ (ba + nb + t) + m) * 2 ^ w + s) / 2 ^ (w + ba) % 2 ^ nb = m / 2 ^ ba % 2 ^ nb := by
  rw [Nat.pow_add 2 w, ← Nat.div_div_eq_div_mul, Nat.add_comm _ s,
    Nat.add_mul_div_right _ _ (Nat.two_pow_pos w), Nat.div_eq_of_lt hs, Nat.zero_add,
    Nat.add_assoc ba, Nat.pow_add 2 ba, ← Nat.mul_assoc, Nat.mul_comm _ (2 ^ ba), Nat.mul_assoc,
    Nat.mul_add_div (Nat.two_pow_pos ba), Nat.pow_add 2 nb, ← Nat.mul_assoc,
    Nat.mul_comm _ (2 ^ nb), Nat.mul_assoc, Nat.mul_add_mod]

theorem beNat_field (P M S : List UInt8) {ba nb : Nat} (h : ba + nb ≤ 8 * M.length) :
    beNat (P ++ M ++ S) / 2 ^ (8 * S.length + ba) % 2 ^ nb = beNat M / 2 ^ ba % 2 ^ nb := by
  rw [beNat_append, beNat_append, pow256, pow256,
    show 8 * M.length = ba + nb + (8 * M.length - ba - nb) by omega]
  exact field_of_middle _ _ _ _ _ _ _ (by rw [← pow256]; exact beNat_lt S)

theorem beNat_replace (P M M' S : List UInt8) (h : M'.length = M.length) :
    beNat (P ++ M' ++ S) + beNat M * 256 ^ S.length
      = beNat (P ++ M ++ S) + beNat M' * 256 ^ S.length := by
  simp only [beNat_append, h]; ring

theorem take_drop_split {α} (v : List α) (a cnt : Nat) :
    v.take a ++ (v.drop a).take cnt ++ v.drop (a + cnt) = v := by
  rw [List.append_assoc, ← List.drop_drop, List.take_append_drop, List.take_append_drop]

theorem beNat_window (v : List UInt8) {a cnt ba nb : Nat} (hin : a + cnt ≤ v.length)
    (h : ba + nb ≤ 8 * cnt) :
    beNat v / 2 ^ (8 * (v.length - (a + cnt)) + ba) % 2 ^ nb
      = beNat ((v.drop a).take cnt) / 2 ^ ba % 2 ^ nb := by
  have := beNat_field (v.take a) ((v.drop a).take cnt) (v.drop (a + cnt)) (ba := ba) (nb := nb)
    (by rw [List.length_take, List.length_drop]; omega)
  rwa [take_drop_split, List.length_drop] at this

/-- `beNat_window` through the `as u64` truncation of `binary_get` (fields have at most 64 bits) -/
theorem window_arith (v : List UInt8) (bo cnt ba nb : Nat)
    (h1 : bo + cnt ≤ v.length) (h2 : ba + nb ≤ 8 * cnt) (hnb : nb ≤ 64) :
    (beNat v / 2 ^ (8 * (v.length - bo - cnt) + ba)) % 2 ^ nb
      = ((beNat ((v.drop bo).take cnt) / 2 ^ ba) % 18446744073709551616) % 2 ^ nb := by
  rw [Nat.sub_sub, beNat_window v h1 h2, show (18446744073709551616 : Nat) = 2 ^ 64 by rfl,
    Nat.mod_mod_of_dvd _ (Nat.pow_dvd_pow 2 hnb)]

@[simp] theorem length_beBytes (n x : Nat) : (beBytes n x).length = n := by
  induction n with
  | zero => rfl
  | succ n ih => simp [beBytes, ih]

theorem beNat_beBytes (n x : Nat) : beNat (beBytes n x) = x % 256 ^ n := by
  induction n with
  | zero => simp [beBytes, beNat, Nat.mod_one]
  | succ n ih =>
    simp only [beBytes, beNat, length_beBytes, ih]
    rw [toNat_ofNat_lt (Nat.mod_lt _ (by omega)), Nat.mul_comm n 8, ← pow256, Nat.mod_pow_succ]; ring

theorem beNat_beBytes_of_lt {n x : Nat} (h : x < 256 ^ n) : beNat (beBytes n x) = x := by
  rw [beNat_beBytes, Nat.mod_eq_of_lt h]

/-- clearing the `nb`-bit field at bit `ba` of a `w`-bit number and or-ing in `V` leaves what is
    above and below the field and puts `V` in it -/
theorem replace_field {cur V ba nb w : Nat} (hcur : cur < 2 ^ w) (hw : ba + nb ≤ w) (hV : V < 2 ^ nb) :
    (cur &&& (2 ^ w - 1 - (2 ^ nb - 1) * 2 ^ ba)) ||| (V * 2 ^ ba)
      = 2 ^ ba * (2 ^ nb * (cur / 2 ^ (ba + nb)) + V) + cur % 2 ^ ba := by
  have hfield : (2 ^ nb - 1) * 2 ^ ba < 2 ^ w :=
    calc (2 ^ nb - 1) * 2 ^ ba < 2 ^ nb * 2 ^ ba :=
          Nat.mul_lt_mul_of_pos_right (Nat.sub_one_lt (Nat.two_pow_pos nb).ne') (Nat.two_pow_pos ba)
      _ = 2 ^ (ba + nb) := by rw [Nat.add_comm, Nat.pow_add]
      _ ≤ 2 ^ w := Nat.pow_le_pow_right (by decide) hw
  apply Nat.eq_of_testBit_eq
  intro i
  rw [Nat.testBit_or, Nat.testBit_and, Nat.sub_sub, Nat.add_comm 1,
    Nat.testBit_two_pow_sub_succ hfield, Nat.testBit_mul_two_pow, Nat.testBit_two_pow_sub_one,
    Nat.testBit_mul_two_pow, Nat.testBit_two_pow_mul_add _ (Nat.mod_lt _ (Nat.two_pow_pos ba)),
    Nat.testBit_mod_two_pow, Nat.testBit_two_pow_mul_add _ hV,
    Nat.testBit_div_two_pow]
  have hhi : w ≤ i → cur.testBit i = false := fun h =>
    Nat.testBit_lt_two_pow (Nat.lt_of_lt_of_le hcur (Nat.pow_le_pow_right (by decide) h))
  -- bit by bit: below the field, inside it, above it (and above the word)
  by_cases h1 : i < ba
  · simp [h1, Nat.not_le.2 h1, show i < w by omega]
  · have h2 : ba ≤ i := Nat.le_of_not_lt h1
    by_cases h3 : i - ba < nb
    · simp [h1, h2, h3]
    · have hVf : V.testBit (i - ba) = false :=
        Nat.testBit_lt_two_pow (Nat.lt_of_lt_of_le hV (Nat.pow_le_pow_right (by decide) (Nat.le_of_not_lt h3)))
      rw [show i - ba - nb + (ba + nb) = i by omega]
      by_cases h4 : i < w
      · simp [h1, h2, h3, h4, hVf]
      · simp [h1, h3, hVf, hhi (Nat.le_of_not_lt h4)]

theorem replace_field_add {cur V ba nb w : Nat} (hcur : cur < 2 ^ w) (hw : ba + nb ≤ w) (hV : V < 2 ^ nb) :
    ((cur &&& (2 ^ w - 1 - (2 ^ nb - 1) * 2 ^ ba)) ||| (V * 2 ^ ba)) + cur / 2 ^ ba % 2 ^ nb * 2 ^ ba
      = cur + V * 2 ^ ba := by
  rw [replace_field hcur hw hV, Nat.pow_add, ← Nat.div_div_eq_div_mul]
  have h1 := Nat.div_add_mod cur (2 ^ ba)
  have h2 := Nat.div_add_mod (cur / 2 ^ ba) (2 ^ nb)
  -- name the quotients and remainders: what is left is an identity of polynomials
  generalize cur % 2 ^ ba = lo at *
  generalize cur / 2 ^ ba = d at *
  subst h1
  generalize d % 2 ^ nb = old at *
  generalize d / 2 ^ nb = hi at *
  subst h2
  ring

theorem beNat_splice (P M S : List UInt8) {N : Nat} (hN : N < 256 ^ M.length) :
    beNat (P ++ beBytes M.length N ++ S) + beNat M * 256 ^ S.length
      = beNat (P ++ M ++ S) + N * 256 ^ S.length := by
  rw [beNat_replace P M _ S (length_beBytes _ _), beNat_beBytes_of_lt hN]

/-- clear-and-or on the word read from the middle part `M` (at most 16 bytes) writes the `nb`-bit
    field `ba` bits above the low end of `M` in the whole number, in additive form -/
theorem beNat_write_field (P M S : List UInt8) {ba nb V : Nat} (hw : ba + nb ≤ 8 * M.length)
    (h128 : 8 * M.length ≤ 128) (hV : V < 2 ^ nb) :
    beNat (P ++ beBytes M.length ((beNat M &&& (340282366920938463463374607431768211456 - 1 -
          ((2 ^ nb - 1) * 2 ^ ba) % 340282366920938463463374607431768211456)) |||
        ((V * 2 ^ ba) % 340282366920938463463374607431768211456)) ++ S)
        + beNat (P ++ M ++ S) / 2 ^ (8 * S.length + ba) % 2 ^ nb * 2 ^ (8 * S.length + ba)
      = beNat (P ++ M ++ S) + V * 2 ^ (8 * S.length + ba) := by
  have hcur := beNat_lt M
  rw [pow256] at hcur
  have h8 : (2 : Nat) ^ (8 * M.length) ≤ 2 ^ 128 := Nat.pow_le_pow_right (by decide) h128
  have hshift : ∀ x, x < 2 ^ nb → x * 2 ^ ba < 2 ^ (8 * M.length) := fun x hx =>
    calc x * 2 ^ ba < 2 ^ nb * 2 ^ ba := Nat.mul_lt_mul_of_pos_right hx (Nat.two_pow_pos ba)
      _ = 2 ^ (nb + ba) := (Nat.pow_add 2 nb ba).symm
      _ ≤ 2 ^ (8 * M.length) := Nat.pow_le_pow_right (by decide) (by omega)
  have hVs := hshift V hV
  rw [show (340282366920938463463374607431768211456 : Nat) = 2 ^ 128 by rfl,
    Nat.mod_eq_of_lt (Nat.lt_of_lt_of_le (hshift _ (Nat.sub_one_lt (Nat.two_pow_pos nb).ne')) h8),
    Nat.mod_eq_of_lt (Nat.lt_of_lt_of_le hVs h8)]
  have hadd := replace_field_add (Nat.lt_of_lt_of_le hcur h8) (Nat.le_trans hw h128) hV
  have hsp := beNat_splice P M S (N := (beNat M &&& (2 ^ 128 - 1 - (2 ^ nb - 1) * 2 ^ ba)) ||| V * 2 ^ ba)
    (by rw [pow256]; exact Nat.or_lt_two_pow (Nat.lt_of_le_of_lt Nat.and_le_left hcur) hVs)
  rw [beNat_field P M S hw, Nat.pow_add, ← pow256]
  have := congrArg (· * 256 ^ S.length) hadd
  simp only [Nat.add_mul] at this
  -- name the numbers and the two powers: the goal is linear in `this` and `hsp`
  generalize (beNat M &&& _) ||| _ = N at *
  generalize beNat (P ++ beBytes M.length N ++ S) = X at *
  generalize beNat (P ++ M ++ S) = Nv at *
  generalize beNat M / 2 ^ ba % 2 ^ nb = old at *
  generalize (256 : Nat) ^ S.length = B at *
  generalize (2 : Nat) ^ ba = E at *
  rw [Nat.mul_comm B E, ← Nat.mul_assoc, ← Nat.mul_assoc]
  omega

/-- the byte reader of `binary_get/set` accumulates the big-endian value of the bytes it reads
    (no `u128` truncation for up to 16 bytes, no `unwrap` failure inside the content); `w` is the
    value of the `k` bytes read before -/
theorem readWide_eq {r : Rope} (h : r.WF) (bo fuel i w k : Nat)
    (hw : w < 256 ^ k) (hk : k + fuel ≤ 16) (hin : bo + i + fuel ≤ r.bytes.length) :
    readWide r bo fuel i w = .ok (w * 256 ^ fuel + beNat ((r.bytes.drop (bo + i)).take fuel)) := by
  induction fuel generalizing i w k with
  | zero => simp [readWide, beNat]
  | succ fuel ih =>
    have hlen := h.len_lt; have he := h.len_eq
    have hlt : bo + i < r.bytes.length := by omega
    have hb := (r.bytes[bo + i]).toNat_lt
    have hwn : w * 256 + (r.bytes[bo + i]).toNat < 256 ^ (k + 1) := by rw [Nat.pow_succ]; omega
    have hw' : w * 256 < 340282366920938463463374607431768211456 :=
      calc w * 256 < 256 ^ (k + 1) := Nat.lt_of_le_of_lt (Nat.le_add_right _ _) hwn
        _ ≤ 256 ^ 16 := Nat.pow_le_pow_right (by decide) (by omega)
    rw [readWide, uadd_ok (by omega), Outcome.bind, h.byteAt_eq, List.getElem?_eq_getElem hlt]
    simp only
    rw [Nat.mod_eq_of_lt hw', ih (i + 1) _ (k + 1) hwn (by omega) (by omega),
      List.drop_eq_getElem_cons hlt, List.take_succ_cons, beNat, List.length_take, List.length_drop,
      Nat.min_eq_left (by omega), Nat.pow_succ, ← Nat.add_assoc bo]
    congr 1; ring

end QM.Builtins
