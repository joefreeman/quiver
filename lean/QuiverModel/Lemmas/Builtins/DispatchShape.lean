import QuiverModel.Lemmas.Builtins.SetField
import QuiverModel.Lemmas.Builtins.Shift
import QuiverModel.Lemmas.Builtins.DispatchTotal
import QuiverModel.Lemmas.Builtins.SigKinds
/-
Shape independence at the level of the by-name dispatcher: two arguments of the same structure whose
binaries have equal content (whatever their rope shapes) give the same outcome for every builtin —
same integer / nil / error class, result binaries of equal content; and never `panic`, which is the
same statement for an argument and itself. Serves C12.
-/
namespace QM.Builtins
open QM.Bytes QM.Bytes.Rope QM.Builtins.Spec

/-- same integer, or binaries of equal content -/
def BArg.binSame : BArg → BArg → Prop
  | .int x, .int y => x = y
  | .bin r, .bin s => r.bytes = s.bytes
  | _, _ => False

def sameList : List BArg → List BArg → Prop
  | [], [] => True
  | a :: as, b :: bs => a.binSame b ∧ sameList as bs
  | _, _ => False

/-- the two arguments differ at most in the rope shapes of their binaries -/
def BArg.same : BArg → BArg → Prop
  | .tup fs, .tup gs => sameList fs gs
  | a, b => a.binSame b

/-- results: same integer, binaries of equal content, or both nil -/
def BArg.resSame : BArg → BArg → Prop
  | .int x, .int y => x = y
  | .bin r, .bin s => r.bytes = s.bytes
  | .tup [], .tup [] => True
  | _, _ => False

/-- the two outcomes are observably the same (and neither is a panic) -/
def outSame : Outcome BArg → Outcome BArg → Prop
  | .ok v, .ok w => v.resSame w
  | .err e, .err f => e = f
  | _, _ => False

/-- lifting a relation on values to outcomes (`panic` related to nothing) -/
def rel {α : Type} (R : α → α → Prop) : Outcome α → Outcome α → Prop
  | .ok x, .ok y => R x y
  | .err e, .err f => e = f
  | _, _ => False

theorem binSame_symm {a b : BArg} (h : a.binSame b) : b.binSame a := by
  cases a <;> cases b <;> simp_all [BArg.binSame]

theorem sameList_symm : ∀ {as bs : List BArg}, sameList as bs → sameList bs as
  | [], [], _ => trivial
  | _ :: _, _ :: _, h => ⟨binSame_symm h.1, sameList_symm h.2⟩
  | [], _ :: _, h => h.elim
  | _ :: _, [], h => h.elim

theorem same_symm {a b : BArg} (h : a.same b) : b.same a := by
  cases a <;> cases b <;> simp_all [BArg.same, BArg.binSame]
  exact sameList_symm h

theorem binSame_bin_left {r : Rope} {g : BArg} (h : (BArg.bin r).binSame g) :
    ∃ s, g = .bin s ∧ r.bytes = s.bytes := by
  cases g <;> simp_all [BArg.binSame]

theorem binSame_int_left {x : Int} {g : BArg} (h : (BArg.int x).binSame g) : g = .int x := by
  cases g <;> simp_all [BArg.binSame]

theorem sameList_cons_left {a : BArg} {as gs : List BArg} (h : sameList (a :: as) gs) :
    ∃ g gs', gs = g :: gs' ∧ a.binSame g ∧ sameList as gs' := by
  cases gs with
  | nil => exact h.elim
  | cons g gs' => exact ⟨g, gs', rfl, h.1, h.2⟩

theorem sameList_nil_left {gs : List BArg} (h : sameList [] gs) : gs = [] := by
  cases gs with
  | nil => rfl
  | cons _ _ => exact h.elim

theorem same_tup_left {fs : List BArg} {b : BArg} (h : (BArg.tup fs).same b) :
    ∃ gs, b = .tup gs ∧ sameList fs gs := by
  cases b <;> simp_all [BArg.same, BArg.binSame]

theorem same_bin_left {r : Rope} {b : BArg} (h : (BArg.bin r).same b) :
    ∃ s, b = .bin s ∧ r.bytes = s.bytes := by
  cases b <;> simp_all [BArg.same, BArg.binSame]

theorem same_int_left {x : Int} {b : BArg} (h : (BArg.int x).same b) : b = .int x := by
  cases b <;> simp_all [BArg.same, BArg.binSame]

theorem sameList_length : ∀ {as bs : List BArg}, sameList as bs → as.length = bs.length
  | [], [], _ => rfl
  | _ :: _, _ :: _, h => by simp [sameList_length h.2]
  | [], _ :: _, h => h.elim
  | _ :: _, [], h => h.elim

/-! ### what "same" means on extracted arguments; a successful extraction on one side succeeds on
the other with the same content -/

def RB (x y : Rope) : Prop := x.bytes = y.bytes
def RBB (x y : Rope × Rope) : Prop := x.1.bytes = y.1.bytes ∧ x.2.bytes = y.2.bytes
def RBI (x y : Rope × Int) : Prop := x.1.bytes = y.1.bytes ∧ x.2 = y.2
def RBII (x y : Rope × Int × Int) : Prop := x.1.bytes = y.1.bytes ∧ x.2 = y.2
def RBIII (x y : Rope × Int × Int × Int) : Prop := x.1.bytes = y.1.bytes ∧ x.2 = y.2
def RBIIII (x y : Rope × Int × Int × Int × Int) : Prop := x.1.bytes = y.1.bytes ∧ x.2 = y.2
def RBBI (x y : Rope × Rope × Int) : Prop :=
  x.1.bytes = y.1.bytes ∧ x.2.1.bytes = y.2.1.bytes ∧ x.2.2 = y.2.2
def RBIB (x y : Rope × Int × Rope) : Prop :=
  x.1.bytes = y.1.bytes ∧ x.2.1 = y.2.1 ∧ x.2.2.bytes = y.2.2.bytes

theorem argB_fwd {a₁ a₂ : BArg} (hs : a₁.same a₂) {x : Rope} (h : argB a₁ = .ok x) :
    ∃ y, argB a₂ = .ok y ∧ RB x y := by
  unfold argB at h; split at h
  · cases h
    obtain ⟨s, rfl, hb⟩ := same_bin_left hs
    exact ⟨s, rfl, hb⟩
  · cases h

theorem argBB_fwd {a₁ a₂ : BArg} (hs : a₁.same a₂) {x : Rope × Rope} (h : argBB a₁ = .ok x) :
    ∃ y, argBB a₂ = .ok y ∧ RBB x y := by
  unfold argBB at h; split at h
  · cases h
    obtain ⟨gs, rfl, hl0⟩ := same_tup_left hs
    obtain ⟨g1, gs1, rfl, hb1, hl1⟩ := sameList_cons_left hl0
    obtain ⟨r₂, rfl, hr⟩ := binSame_bin_left hb1
    obtain ⟨g2, gs2, rfl, hb2, hl2⟩ := sameList_cons_left hl1
    obtain ⟨s₂, rfl, hs'⟩ := binSame_bin_left hb2
    cases sameList_nil_left hl2
    exact ⟨(r₂, s₂), rfl, hr, hs'⟩
  · cases h

theorem argBI_fwd {a₁ a₂ : BArg} (hs : a₁.same a₂) {x : Rope × Int} (h : argBI a₁ = .ok x) :
    ∃ y, argBI a₂ = .ok y ∧ RBI x y := by
  unfold argBI at h; split at h
  · cases h
    obtain ⟨gs, rfl, hl0⟩ := same_tup_left hs
    obtain ⟨g1, gs1, rfl, hb1, hl1⟩ := sameList_cons_left hl0
    obtain ⟨r₂, rfl, hr⟩ := binSame_bin_left hb1
    obtain ⟨g2, gs2, rfl, hb2, hl2⟩ := sameList_cons_left hl1
    cases binSame_int_left hb2
    cases sameList_nil_left hl2
    exact ⟨(r₂, _), rfl, hr, rfl⟩
  · cases h

theorem argBII_fwd {a₁ a₂ : BArg} (hs : a₁.same a₂) {x : Rope × Int × Int} (h : argBII a₁ = .ok x) :
    ∃ y, argBII a₂ = .ok y ∧ RBII x y := by
  unfold argBII at h; split at h
  · cases h
    obtain ⟨gs, rfl, hl0⟩ := same_tup_left hs
    obtain ⟨g1, gs1, rfl, hb1, hl1⟩ := sameList_cons_left hl0
    obtain ⟨r₂, rfl, hr⟩ := binSame_bin_left hb1
    obtain ⟨g2, gs2, rfl, hb2, hl2⟩ := sameList_cons_left hl1
    cases binSame_int_left hb2
    obtain ⟨g3, gs3, rfl, hb3, hl3⟩ := sameList_cons_left hl2
    cases binSame_int_left hb3
    cases sameList_nil_left hl3
    exact ⟨(r₂, _), rfl, hr, rfl⟩
  · cases h

theorem argBIII_fwd {a₁ a₂ : BArg} (hs : a₁.same a₂) {x : Rope × Int × Int × Int}
    (h : argBIII a₁ = .ok x) : ∃ y, argBIII a₂ = .ok y ∧ RBIII x y := by
  unfold argBIII at h; split at h
  · cases h
    obtain ⟨gs, rfl, hl0⟩ := same_tup_left hs
    obtain ⟨g1, gs1, rfl, hb1, hl1⟩ := sameList_cons_left hl0
    obtain ⟨r₂, rfl, hr⟩ := binSame_bin_left hb1
    obtain ⟨g2, gs2, rfl, hb2, hl2⟩ := sameList_cons_left hl1
    cases binSame_int_left hb2
    obtain ⟨g3, gs3, rfl, hb3, hl3⟩ := sameList_cons_left hl2
    cases binSame_int_left hb3
    obtain ⟨g4, gs4, rfl, hb4, hl4⟩ := sameList_cons_left hl3
    cases binSame_int_left hb4
    cases sameList_nil_left hl4
    exact ⟨(r₂, _), rfl, hr, rfl⟩
  · cases h

theorem argBIIII_fwd {a₁ a₂ : BArg} (hs : a₁.same a₂) {x : Rope × Int × Int × Int × Int}
    (h : argBIIII a₁ = .ok x) : ∃ y, argBIIII a₂ = .ok y ∧ RBIIII x y := by
  unfold argBIIII at h; split at h
  · cases h
    obtain ⟨gs, rfl, hl0⟩ := same_tup_left hs
    obtain ⟨g1, gs1, rfl, hb1, hl1⟩ := sameList_cons_left hl0
    obtain ⟨r₂, rfl, hr⟩ := binSame_bin_left hb1
    obtain ⟨g2, gs2, rfl, hb2, hl2⟩ := sameList_cons_left hl1
    cases binSame_int_left hb2
    obtain ⟨g3, gs3, rfl, hb3, hl3⟩ := sameList_cons_left hl2
    cases binSame_int_left hb3
    obtain ⟨g4, gs4, rfl, hb4, hl4⟩ := sameList_cons_left hl3
    cases binSame_int_left hb4
    obtain ⟨g5, gs5, rfl, hb5, hl5⟩ := sameList_cons_left hl4
    cases binSame_int_left hb5
    cases sameList_nil_left hl5
    exact ⟨(r₂, _), rfl, hr, rfl⟩
  · cases h

theorem argBBI_fwd {a₁ a₂ : BArg} (hs : a₁.same a₂) {x : Rope × Rope × Int} (h : argBBI a₁ = .ok x) :
    ∃ y, argBBI a₂ = .ok y ∧ RBBI x y := by
  unfold argBBI at h; split at h
  · cases h
    obtain ⟨gs, rfl, hl0⟩ := same_tup_left hs
    obtain ⟨g1, gs1, rfl, hb1, hl1⟩ := sameList_cons_left hl0
    obtain ⟨r₂, rfl, hr⟩ := binSame_bin_left hb1
    obtain ⟨g2, gs2, rfl, hb2, hl2⟩ := sameList_cons_left hl1
    obtain ⟨s₂, rfl, hs'⟩ := binSame_bin_left hb2
    obtain ⟨g3, gs3, rfl, hb3, hl3⟩ := sameList_cons_left hl2
    cases binSame_int_left hb3
    cases sameList_nil_left hl3
    exact ⟨(r₂, s₂, _), rfl, hr, hs', rfl⟩
  · cases h

theorem argBIB_fwd {a₁ a₂ : BArg} (hs : a₁.same a₂) {x : Rope × Int × Rope} (h : argBIB a₁ = .ok x) :
    ∃ y, argBIB a₂ = .ok y ∧ RBIB x y := by
  unfold argBIB at h; split at h
  · cases h
    obtain ⟨gs, rfl, hl0⟩ := same_tup_left hs
    obtain ⟨g1, gs1, rfl, hb1, hl1⟩ := sameList_cons_left hl0
    obtain ⟨r₂, rfl, hr⟩ := binSame_bin_left hb1
    obtain ⟨g2, gs2, rfl, hb2, hl2⟩ := sameList_cons_left hl1
    cases binSame_int_left hb2
    obtain ⟨g3, gs3, rfl, hb3, hl3⟩ := sameList_cons_left hl2
    obtain ⟨s₂, rfl, hs'⟩ := binSame_bin_left hb3
    cases sameList_nil_left hl3
    exact ⟨(r₂, _, s₂), rfl, hr, rfl, hs'⟩
  · cases h

theorem rel_of_fwd {α : Type} {R : α → α → Prop} {ex : BArg → Outcome α}
    (hc : ∀ a, (∃ x, ex a = .ok x) ∨ ex a = .err .typeMismatch)
    (fwd : ∀ {a b : BArg}, a.same b → ∀ {x : α}, ex a = .ok x → ∃ y, ex b = .ok y ∧ R x y)
    {a₁ a₂ : BArg} (hs : a₁.same a₂) : rel R (ex a₁) (ex a₂) := by
  rcases hc a₁ with ⟨x, h1⟩ | h1
  · obtain ⟨y, hy, hr⟩ := fwd hs h1
    rw [h1, hy]; exact hr
  · rcases hc a₂ with ⟨y, h2⟩ | h2
    · obtain ⟨x, hx, _⟩ := fwd (same_symm hs) h2
      rw [hx] at h1; cases h1
    · rw [h1, h2]; rfl

theorem argB_cases (a : BArg) : (∃ x, argB a = .ok x) ∨ argB a = .err .typeMismatch := by
  unfold argB; split <;> [exact .inl ⟨_, rfl⟩; exact .inr rfl]
theorem argBB_cases (a : BArg) : (∃ x, argBB a = .ok x) ∨ argBB a = .err .typeMismatch := by
  unfold argBB; split <;> [exact .inl ⟨_, rfl⟩; exact .inr rfl]
theorem argBI_cases (a : BArg) : (∃ x, argBI a = .ok x) ∨ argBI a = .err .typeMismatch := by
  unfold argBI; split <;> [exact .inl ⟨_, rfl⟩; exact .inr rfl]
theorem argBII_cases (a : BArg) : (∃ x, argBII a = .ok x) ∨ argBII a = .err .typeMismatch := by
  unfold argBII; split <;> [exact .inl ⟨_, rfl⟩; exact .inr rfl]
theorem argBIII_cases (a : BArg) : (∃ x, argBIII a = .ok x) ∨ argBIII a = .err .typeMismatch := by
  unfold argBIII; split <;> [exact .inl ⟨_, rfl⟩; exact .inr rfl]
theorem argBIIII_cases (a : BArg) : (∃ x, argBIIII a = .ok x) ∨ argBIIII a = .err .typeMismatch := by
  unfold argBIIII; split <;> [exact .inl ⟨_, rfl⟩; exact .inr rfl]
theorem argBBI_cases (a : BArg) : (∃ x, argBBI a = .ok x) ∨ argBBI a = .err .typeMismatch := by
  unfold argBBI; split <;> [exact .inl ⟨_, rfl⟩; exact .inr rfl]
theorem argBIB_cases (a : BArg) : (∃ x, argBIB a = .ok x) ∨ argBIB a = .err .typeMismatch := by
  unfold argBIB; split <;> [exact .inl ⟨_, rfl⟩; exact .inr rfl]

theorem retBin_same {o₁ o₂ : Outcome Rope} {s : Outcome (List UInt8)}
    (h₁ : RefinesBin o₁ s) (h₂ : RefinesBin o₂ s) : outSame (retBin o₁) (retBin o₂) := by
  have h := h₁.same h₂
  have hp := h₁.not_panic
  cases o₁ with
  | ok r₁ => cases o₂ with
    | ok r₂ => exact Outcome.ok.inj h
    | err _ => cases h
    | panic => cases h
  | err e => cases o₂ with
    | ok _ => cases h
    | err _ => exact Outcome.err.inj h
    | panic => cases h
  | panic => exact absurd rfl hp

theorem retOptBin_same {o₁ o₂ : Outcome (Option Rope)} {s : Outcome (Option (List UInt8))}
    (h₁ : RefinesOptBin o₁ s) (h₂ : RefinesOptBin o₂ s) : outSame (retOptBin o₁) (retOptBin o₂) := by
  have h := h₁.same h₂
  have hp := h₁.not_panic
  cases o₁ with
  | ok x => cases o₂ with
    | ok y =>
      cases x <;> cases y
      · trivial
      · cases h
      · cases h
      · exact Option.some.inj (Outcome.ok.inj h)
    | err _ => cases h
    | panic => cases h
  | err _ => cases o₂ with
    | ok _ => cases h
    | err _ => exact Outcome.err.inj h
    | panic => cases h
  | panic => exact absurd rfl hp

/-- an outcome that is no `panic`, shown as a value that is the same as itself -/
theorem outSame_map_self {α : Type} {g : α → BArg} (hg : ∀ x, (g x).resSame (g x)) {o : Outcome α}
    (hnp : o ≠ .panic) : outSame (o.map g) (o.map g) := by
  cases o with
  | ok x => exact hg x
  | err e => rfl
  | panic => exact absurd rfl hnp

theorem retInt_same {o₁ o₂ : Outcome Int} (h : o₁ = o₂) (hnp : o₁ ≠ .panic) :
    outSame (retInt o₁) (retInt o₂) := h ▸ outSame_map_self (g := BArg.int) (fun _ => rfl) hnp

/-- `liftInt` and `retInt` are the same function (`Outcome.map BArg.int`) under two names. -/
theorem liftInt_same {o₁ o₂ : Outcome Int} (h : o₁ = o₂) (hnp : o₁ ≠ .panic) :
    outSame (liftInt o₁) (liftInt o₂) := retInt_same h hnp

theorem retOptInt_same {o₁ o₂ : Outcome (Option Int)} (h : o₁ = o₂) (hnp : o₁ ≠ .panic) :
    outSame (retOptInt o₁) (retOptInt o₂) :=
  h ▸ outSame_map_self (fun x => by cases x <;> trivial) hnp

theorem retOptNat_same {o₁ o₂ : Outcome (Option Nat)} (h : o₁ = o₂) (hnp : o₁ ≠ .panic) :
    outSame (retOptNat o₁) (retOptNat o₂) :=
  h ▸ outSame_map_self (fun x => by cases x <;> trivial) hnp

/-- both sides extract related stored arguments, and the builtin respects the relation on them -/
theorem outSame_bind {α β : Type} {R : α → α → Prop} {St : α → Prop} {o₁ o₂ : Outcome α}
    {f : α → Outcome β} {g : Outcome β → Outcome BArg} (hg : ∀ e, g (.err e) = .err e)
    (hr : rel R o₁ o₂) (h₁ : ∀ x, o₁ = .ok x → St x) (h₂ : ∀ y, o₂ = .ok y → St y)
    (hf : ∀ x y, St x → St y → R x y → outSame (g (f x)) (g (f y))) :
    outSame (g (o₁.bind f)) (g (o₂.bind f)) := by
  cases o₁ with
  | ok x => cases o₂ with
    | ok y => exact hf x y (h₁ x rfl) (h₂ y rfl) hr
    | err _ => exact hr.elim
    | panic => exact hr.elim
  | err e => cases o₂ with
    | ok _ => exact hr.elim
    | err f' => cases (hr : e = f'); rw [Outcome.bind, hg]; rfl
    | panic => exact hr.elim
  | panic => cases o₂ <;> exact hr.elim

theorem retBin_err (e) : retBin (.err e) = .err e := rfl
theorem retInt_err (e) : retInt (.err e) = .err e := rfl
theorem liftInt_err (e) : liftInt (.err e) = .err e := rfl
theorem retOptBin_err (e) : retOptBin (.err e) = .err e := rfl
theorem retOptInt_err (e) : retOptInt (.err e) = .err e := rfl
theorem retOptNat_err (e) : retOptNat (.err e) = .err e := rfl

theorem oneInt_same {a₁ a₂ : BArg} (hs : a₁.same a₂) : oneInt a₁ = oneInt a₂ := by
  cases a₁ with
  | int x => rw [same_int_left hs]
  | bin r => obtain ⟨s, rfl, _⟩ := same_bin_left hs; rfl
  | tup fs => obtain ⟨gs, rfl, _⟩ := same_tup_left hs; rfl

/-- the integer a field holds, if it is one -/
def asInt : BArg → Option Int
  | .int z => some z
  | _ => none

theorem asInt_same {f g : BArg} (h : f.binSame g) : asInt f = asInt g := by
  cases f <;> cases g <;> first | exact h.elim | exact congrArg some h | rfl

theorem twoInts_pair (f g : BArg) : twoInts (.tup [f, g]) =
    match asInt f, asInt g with
    | some a, some b => .ok (a, b)
    | _, _ => .err .typeMismatch := by
  cases f <;> cases g <;> rfl

theorem twoIntsNarrowed_pair (f g : BArg) : twoIntsNarrowed (.tup [f, g]) =
    match asInt f with
    | some a => (toI64 a).bind fun _ =>
      match asInt g with
      | some b => .ok (a, b)
      | none => .err .typeMismatch
    | none => .err .typeMismatch := by
  cases f <;> cases g <;> rfl

theorem pair_of_length {α : Type} : ∀ {l : List α}, l.length = 2 → ∃ a b, l = [a, b]
  | [a, b], _ => ⟨a, b, rfl⟩

/-- a function of the argument that is constant on binaries and on tuples that are not pairs, and
    looks at a pair only through the integers in it, does not see the shapes of binaries -/
theorem same_of_pair {α : Type} {t : BArg → α} {c d : α}
    (hp : ∀ f g f' g', asInt f = asInt f' → asInt g = asInt g' → t (.tup [f, g]) = t (.tup [f', g']))
    (hn : ∀ fs : List BArg, fs.length ≠ 2 → t (.tup fs) = c) (hb : ∀ r, t (.bin r) = d)
    {a₁ a₂ : BArg} (hs : a₁.same a₂) : t a₁ = t a₂ := by
  cases a₁ with
  | int x => rw [same_int_left hs]
  | bin r => obtain ⟨s, rfl, _⟩ := same_bin_left hs; rw [hb, hb]
  | tup fs =>
    obtain ⟨gs, rfl, hl⟩ := same_tup_left hs
    by_cases h2 : fs.length = 2
    · obtain ⟨f1, f2, rfl⟩ := pair_of_length h2
      obtain ⟨g1, g2, rfl⟩ := pair_of_length (sameList_length hl ▸ h2)
      exact hp _ _ _ _ (asInt_same hl.1) (asInt_same hl.2.1)
    · rw [hn fs h2, hn gs (sameList_length hl ▸ h2)]

theorem twoInts_same {a₁ a₂ : BArg} (hs : a₁.same a₂) : twoInts a₁ = twoInts a₂ :=
  same_of_pair (fun _ _ _ _ h1 h2 => by rw [twoInts_pair, twoInts_pair, h1, h2])
    (fun _ h => if_pos h) (fun _ => rfl) hs

theorem twoIntsNarrowed_same {a₁ a₂ : BArg} (hs : a₁.same a₂) :
    twoIntsNarrowed a₁ = twoIntsNarrowed a₂ :=
  same_of_pair (fun _ _ _ _ h1 h2 => by rw [twoIntsNarrowed_pair, twoIntsNarrowed_pair, h1, h2])
    (fun _ h => if_pos h) (fun _ => rfl) hs

/-- the extractors answer alike on the two arguments, up to the shapes of the ropes. It holds of
    arguments that are the `same`, and of any argument and itself (`same` is not reflexive: it
    relates no two nested tuples), so that totality is shape independence on the diagonal. -/
structure Alike (a₁ a₂ : BArg) : Prop where
  int : oneInt a₁ = oneInt a₂
  b : rel RB (argB a₁) (argB a₂)
  bb : rel RBB (argBB a₁) (argBB a₂)
  bi : rel RBI (argBI a₁) (argBI a₂)
  bii : rel RBII (argBII a₁) (argBII a₂)
  biii : rel RBIII (argBIII a₁) (argBIII a₂)
  biiii : rel RBIIII (argBIIII a₁) (argBIIII a₂)
  bbi : rel RBBI (argBBI a₁) (argBBI a₂)
  bib : rel RBIB (argBIB a₁) (argBIB a₂)

theorem Alike.of_same {a₁ a₂ : BArg} (hs : a₁.same a₂) : Alike a₁ a₂ :=
  ⟨oneInt_same hs, rel_of_fwd argB_cases argB_fwd hs, rel_of_fwd argBB_cases argBB_fwd hs,
    rel_of_fwd argBI_cases argBI_fwd hs, rel_of_fwd argBII_cases argBII_fwd hs,
    rel_of_fwd argBIII_cases argBIII_fwd hs, rel_of_fwd argBIIII_cases argBIIII_fwd hs,
    rel_of_fwd argBBI_cases argBBI_fwd hs, rel_of_fwd argBIB_cases argBIB_fwd hs⟩

theorem rel_self {α : Type} {R : α → α → Prop} (hR : ∀ x, R x x) {o : Outcome α}
    (h : (∃ x, o = .ok x) ∨ o = .err .typeMismatch) : rel R o o := by
  rcases h with ⟨x, rfl⟩ | rfl
  · exact hR x
  · rfl

theorem Alike.refl (a : BArg) : Alike a a :=
  ⟨rfl, rel_self (R := RB) (fun _ => rfl) (argB_cases a), rel_self (fun _ => ⟨rfl, rfl⟩) (argBB_cases a),
    rel_self (fun _ => ⟨rfl, rfl⟩) (argBI_cases a), rel_self (fun _ => ⟨rfl, rfl⟩) (argBII_cases a),
    rel_self (fun _ => ⟨rfl, rfl⟩) (argBIII_cases a), rel_self (fun _ => ⟨rfl, rfl⟩) (argBIIII_cases a),
    rel_self (fun _ => ⟨rfl, rfl, rfl⟩) (argBBI_cases a), rel_self (fun _ => ⟨rfl, rfl, rfl⟩) (argBIB_cases a)⟩

theorem outSame.ne_panic {o₁ o₂ : Outcome BArg} (h : outSame o₁ o₂) : o₁ ≠ .panic := by
  rintro rfl; cases o₂ <;> exact h

theorem callInteger_ok_int {name : String} {a v : BArg} (h : callInteger name a = some (.ok v)) :
    ∃ z, v = .int z := by
  unfold callInteger at h
  split at h <;> first | exact map_ok (Option.some.inj h) | cases h

/-- the two answers of a family: both absent, or both present and observably the same -/
def optSame : Option (Outcome BArg) → Option (Outcome BArg) → Prop
  | some o₁, some o₂ => outSame o₁ o₂
  | none, none => True
  | _, _ => False

theorem optSame.exists {x y : Option (Outcome BArg)} (h : optSame x y) {o₁ : Outcome BArg}
    (hx : x = some o₁) : ∃ o₂, y = some o₂ ∧ outSame o₁ o₂ := by
  subst hx
  cases y with
  | some o₂ => exact ⟨o₂, rfl, h⟩
  | none => exact h.elim

theorem callInteger_same (name : String) {a₁ a₂ : BArg} (hs : a₁.same a₂) :
    optSame (callInteger name a₁) (callInteger name a₂) := by
  have he : callInteger name a₁ = callInteger name a₂ := by
    unfold callInteger
    simp only [oneInt_same hs, twoInts_same hs, twoIntsNarrowed_same hs]
  rw [he]
  cases h : callInteger name a₂ with
  | none => trivial
  | some o =>
    cases o with
    | ok v => obtain ⟨z, rfl⟩ := callInteger_ok_int h; exact rfl
    | err e => exact rfl
    | panic => exact absurd rfl (callInteger_total name a₂ _ h)

section fam
variable {a₁ a₂ : BArg} (h₁ : a₁.Stored) (h₂ : a₂.Stored) (hs : Alike a₁ a₂)
include h₁ h₂ hs

theorem callBinary_alike (name : String) : optSame (callBinary name a₁) (callBinary name a₂) := by
  have sB₁ := (argB_spec h₁).2; have sB₂ := (argB_spec h₂).2
  have sBB₁ := (argBB_stored h₁).2; have sBB₂ := (argBB_stored h₂).2
  have sBI₁ := (argBI_stored h₁).2; have sBI₂ := (argBI_stored h₂).2
  have sBII₁ := (argBII_stored h₁).2; have sBII₂ := (argBII_stored h₂).2
  unfold callBinary
  -- one bullet per arm of `callBinary`, in its order
  split
  · rw [hs.int]
    show outSame _ _
    cases hx : oneInt a₂ with
    | ok x => exact retBin_same (binaryNew_refines x) (binaryNew_refines x)
    | err e => rfl
    | panic => exact absurd hx (oneInt_ne_panic _)
  · exact outSame_bind retInt_err hs.b sB₁ sB₂ fun x y hx hy hr =>
      retInt_same ((binaryLength_eq hx.1).trans (hr ▸ (binaryLength_eq hy.1).symm)) (binaryLength_total x)
  · exact outSame_bind retBin_err hs.bb sBB₁ sBB₂ fun x y hx hy hr =>
      retBin_same (binaryConcat_refines hx.1 hx.2) (hr.1 ▸ hr.2 ▸ binaryConcat_refines hy.1 hy.2)
  · exact outSame_bind retBin_err hs.bi sBI₁ sBI₂ fun x y hx hy hr =>
      retBin_same (binaryRepeat_refines hx x.2) (hr.1 ▸ hr.2 ▸ binaryRepeat_refines hy y.2)
  · exact outSame_bind retBin_err hs.bb sBB₁ sBB₂ fun x y hx hy hr =>
      retBin_same (binaryAnd_refines hx.1 hx.2) (hr.1 ▸ hr.2 ▸ binaryAnd_refines hy.1 hy.2)
  · exact outSame_bind retBin_err hs.bb sBB₁ sBB₂ fun x y hx hy hr =>
      retBin_same (padZip_refines _ hx.1 hx.2) (hr.1 ▸ hr.2 ▸ padZip_refines _ hy.1 hy.2)
  · exact outSame_bind retBin_err hs.bb sBB₁ sBB₂ fun x y hx hy hr =>
      retBin_same (padZip_refines _ hx.1 hx.2) (hr.1 ▸ hr.2 ▸ padZip_refines _ hy.1 hy.2)
  · exact outSame_bind retBin_err hs.b sB₁ sB₂ fun x y hx hy hr =>
      retBin_same (binaryNot_refines hx) (hr ▸ binaryNot_refines hy)
  · exact outSame_bind retBin_err hs.bi sBI₁ sBI₂ fun x y hx hy hr =>
      retBin_same (binaryShift_refines hx x.2) (hr.1 ▸ hr.2 ▸ binaryShift_refines hy y.2)
  · exact outSame_bind retInt_err hs.b sB₁ sB₂ fun x y hx hy hr =>
      retInt_same ((binaryPopcount_eq hx).trans (hr ▸ (binaryPopcount_eq hy).symm)) (binaryPopcount_total hx)
  · exact outSame_bind retInt_err hs.biii (argBIII_stored h₁).2 (argBIII_stored h₂).2
      fun x y hx hy hr => retInt_same
        ((binaryGet_eq hx x.2.1 x.2.2.1 x.2.2.2).trans (hr.1 ▸ hr.2 ▸ (binaryGet_eq hy y.2.1 y.2.2.1 y.2.2.2).symm))
          (binaryGet_total hx _ _ _)
  · exact outSame_bind retBin_err hs.biiii (argBIIII_stored h₁).2 (argBIIII_stored h₂).2
      fun x y hx hy hr => retBin_same (binarySet_refines hx x.2.1 x.2.2.1 x.2.2.2.1 x.2.2.2.2)
        (hr.1 ▸ hr.2 ▸ binarySet_refines hy y.2.1 y.2.2.1 y.2.2.2.1 y.2.2.2.2)
  · exact outSame_bind retBin_err hs.bii sBII₁ sBII₂ fun x y hx hy hr =>
      retBin_same (binarySlice_refines hx x.2.1 x.2.2) (hr.1 ▸ hr.2 ▸ binarySlice_refines hy y.2.1 y.2.2)
  · exact outSame_bind retOptNat_err hs.bii sBII₁ sBII₂ fun x y hx hy hr =>
      retOptNat_same ((binaryIndex_eq hx.1 x.2.1 x.2.2).trans (hr.1 ▸ hr.2 ▸ (binaryIndex_eq hy.1 y.2.1 y.2.2).symm))
        (binaryIndex_total hx _ _)
  · exact outSame_bind retInt_err hs.b sB₁ sB₂ fun x y hx hy hr =>
      retInt_same ((binaryHash32_eq hx.1).trans (hr ▸ (binaryHash32_eq hy.1).symm)) (binaryHash32_total hx)
  · exact outSame_bind retInt_err hs.b sB₁ sB₂ fun x y hx hy hr =>
      retInt_same ((binaryHash64_eq hx.1).trans (hr ▸ (binaryHash64_eq hy.1).symm)) (binaryHash64_total hx)
  · exact outSame_bind retBin_err hs.bii sBII₁ sBII₂ fun x y hx hy hr =>
      retBin_same (binaryAppend_refines hx x.2.1 x.2.2) (hr.1 ▸ hr.2 ▸ binaryAppend_refines hy y.2.1 y.2.2)
  · trivial

theorem callVector_alike (name : String) : optSame (callVector name a₁) (callVector name a₂) := by
  have sBII₁ := (argBII_stored h₁).2; have sBII₂ := (argBII_stored h₂).2
  have sBBI₁ := (argBBI_stored h₁).2; have sBBI₂ := (argBBI_stored h₂).2
  have el : ∀ f : Int → Int → Int,
      outSame (retOptBin ((argBBI a₁).bind fun (a, b, w) => elementwise (checked f) a b w))
        (retOptBin ((argBBI a₂).bind fun (a, b, w) => elementwise (checked f) a b w)) := fun f =>
    outSame_bind retOptBin_err hs.bbi sBBI₁ sBBI₂ fun x y hx hy hr =>
      retOptBin_same (elementwise_refines f hx.1 hx.2 _)
        (hr.1 ▸ hr.2.1 ▸ hr.2.2 ▸ elementwise_refines f hy.1 hy.2 _)
  have cm : ∀ p : Int → Int → Bool,
      outSame (retOptBin ((argBBI a₁).bind fun (a, b, w) => compare p a b w))
        (retOptBin ((argBBI a₂).bind fun (a, b, w) => compare p a b w)) := fun p =>
    outSame_bind retOptBin_err hs.bbi sBBI₁ sBBI₂ fun x y hx hy hr =>
      retOptBin_same (compare_refines p hx.1 hx.2 _) (hr.1 ▸ hr.2.1 ▸ hr.2.2 ▸ compare_refines p hy.1 hy.2 _)
  unfold callVector
  -- one bullet per arm of `callVector`, in its order
  split
  · exact el _
  · exact el _
  · exact el _
  · exact cm _
  · exact cm _
  · exact cm _
  · exact outSame_bind retOptInt_err hs.bbi sBBI₁ sBBI₂ fun x y hx hy hr =>
      retOptInt_same ((vectorDot_eq hx.1 hx.2 _).trans
        (hr.1 ▸ hr.2.1 ▸ hr.2.2 ▸ (vectorDot_eq hy.1 hy.2 _).symm)) (vectorDot_total hx.1 hx.2 _)
  · exact outSame_bind retOptBin_err hs.bib (argBIB_stored h₁).2 (argBIB_stored h₂).2
      fun x y hx hy hr => retOptBin_same (vectorTake_refines hx.1 hx.2 _)
        (hr.1 ▸ hr.2.1 ▸ hr.2.2 ▸ vectorTake_refines hy.1 hy.2 _)
  · exact outSame_bind retOptInt_err hs.bii sBII₁ sBII₂ fun x y hx hy hr =>
      retOptInt_same ((vectorGet_eq hx x.2.1 x.2.2).trans (hr.1 ▸ hr.2 ▸ (vectorGet_eq hy y.2.1 y.2.2).symm))
        (vectorGet_total hx _ _)
  · exact outSame_bind retOptBin_err hs.bii sBII₁ sBII₂ fun x y hx hy hr =>
      retOptBin_same (vectorPush_refines hx x.2.1 x.2.2) (hr.1 ▸ hr.2 ▸ vectorPush_refines hy y.2.1 y.2.2)
  · exact outSame_bind retOptInt_err hs.bi (argBI_stored h₁).2 (argBI_stored h₂).2
      fun x y hx hy hr => retOptInt_same ((vectorSum_eq hx _).trans (hr.1 ▸ hr.2 ▸ (vectorSum_eq hy _).symm))
        (vectorSum_total hx _)
  · trivial

end fam

theorem callBinary_total (name : String) (arg : BArg) (h : arg.Stored) :
    ∀ o, callBinary name arg = some o → o ≠ .panic := fun _ ho =>
  let ⟨_, _, hsame⟩ := (callBinary_alike h h (.refl arg) name).exists ho
  hsame.ne_panic

theorem callVector_total (name : String) (arg : BArg) (h : arg.Stored) :
    ∀ o, callVector name arg = some o → o ≠ .panic := fun _ ho =>
  let ⟨_, _, hsame⟩ := (callVector_alike h h (.refl arg) name).exists ho
  hsame.ne_panic

end QM.Builtins
