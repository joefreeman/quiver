import QuiverModel.Lemmas.Builtins.Bits
/-
`binary_shift`: refinement of the flat algorithm and its numeric meaning (the whole string read as
one big-endian number is multiplied / divided by `2^|amount|`). Serves C12.
-/
namespace QM.Builtins
open QM.Bytes QM.Bytes.Rope QM.Builtins.Spec

@[simp] theorem length_shlBits (k : Nat) (xs : List UInt8) : (shlBits k xs).1.length = xs.length := by
  induction xs with
  | nil => rfl
  | cons x xs ih => simp [shlBits, ih]

@[simp] theorem length_shrBits (k : Nat) (xs : List UInt8) (c : UInt8) :
    (shrBits k xs c).length = xs.length := by
  induction xs generalizing c with
  | nil => rfl
  | cons x xs ih => simp [shrBits, ih]

theorem length_shiftBytes (v : List UInt8) (amt : Int) : (shiftBytes v amt).length = v.length := by
  unfold shiftBytes
  simp only
  split
  · rfl
  · split
    · exact List.length_replicate
    · have hbs : amt.natAbs / 8 ≤ v.length := by omega
      split
      · rw [List.length_append, apply_ite List.length, length_shlBits, ite_self, List.length_drop,
          List.length_replicate, Nat.sub_add_cancel hbs]
      · rw [List.length_append, apply_ite List.length, length_shrBits, ite_self, List.length_take,
          List.length_replicate, Nat.min_eq_left (Nat.sub_le _ _), Nat.add_sub_cancel' hbs]

theorem shiftBytes_zero (v : List UInt8) : shiftBytes v 0 = v := by simp [shiftBytes]

theorem shiftBytes_big {v : List UInt8} {amt : Int} (h0 : amt ≠ 0) (hb : amt.natAbs ≥ 8 * v.length) :
    shiftBytes v amt = List.replicate v.length 0 := by
  unfold shiftBytes; simp only; rw [if_neg h0, if_pos hb]

theorem shiftBytes_left {v : List UInt8} {amt : Int} (hp : amt > 0) (hb : ¬ amt.natAbs ≥ 8 * v.length) :
    shiftBytes v amt = (if amt.natAbs % 8 = 0 then v.drop (amt.natAbs / 8)
      else (shlBits (amt.natAbs % 8) (v.drop (amt.natAbs / 8))).1) ++ List.replicate (amt.natAbs / 8) 0 := by
  unfold shiftBytes; simp only; rw [if_neg (by omega), if_neg hb, if_pos hp]

theorem shiftBytes_right {v : List UInt8} {amt : Int} (hp : amt < 0) (hb : ¬ amt.natAbs ≥ 8 * v.length) :
    shiftBytes v amt = List.replicate (amt.natAbs / 8) 0 ++
      (if amt.natAbs % 8 = 0 then v.take (v.length - amt.natAbs / 8)
        else shrBits (amt.natAbs % 8) (v.take (v.length - amt.natAbs / 8)) 0) := by
  unfold shiftBytes; simp only; rw [if_neg (by omega), if_neg hb, if_neg (by omega)]

theorem binaryShift_refines {r : Rope} (hr : r.Stored) (amt : Int) :
    RefinesBin (binaryShift r amt) (Spec.binaryShift r.bytes amt) := by
  have hn := hr.length_le
  unfold binaryShift Spec.binaryShift
  rw [toI64Int_bind]
  refine RefinesBin.of_guard id (fun _ _ => ?_) (fun h h' => absurd h h')
  by_cases h0 : amt = 0
  · rw [if_pos h0, h0, shiftBytes_zero]; exact ⟨hr, rfl⟩
  · rw [if_neg h0, hr.1.toVec_eq]; simp only [ok_bind]
    rw [umul_ok (by omega)]; simp only [ok_bind]
    have hlen := length_shiftBytes r.bytes amt
    by_cases hb : amt.natAbs ≥ r.bytes.length * 8
    · rw [if_pos hb, shiftBytes_big h0 (by omega)]
      exact alloc_refines (by simpa using hn)
    · rw [if_neg hb]
      have hb' : ¬ amt.natAbs ≥ 8 * r.bytes.length := by omega
      have hbs : amt.natAbs / 8 < r.bytes.length := by omega
      by_cases hpos : amt > 0
      · rw [if_pos hpos, Nat.min_eq_left (by omega)]
        by_cases hk : amt.natAbs % 8 = 0
        · rw [if_pos hk]
          rw [shiftBytes_left hpos hb', if_pos hk] at hlen ⊢
          exact alloc_refines (by omega)
        · rw [if_neg hk]
          rw [shiftBytes_left hpos hb', if_neg hk] at hlen ⊢
          exact alloc_refines (by omega)
      · rw [if_neg hpos]
        have hneg : amt < 0 := by omega
        by_cases hk : amt.natAbs % 8 = 0
        · rw [if_pos hk, usub_ok (by omega)]; simp only [ok_bind]
          rw [shiftBytes_right hneg hb', if_pos hk] at hlen ⊢
          exact alloc_refines (by omega)
        · rw [if_neg hk, Nat.min_eq_left (by omega)]
          rw [shiftBytes_right hneg hb', if_neg hk] at hlen ⊢
          exact alloc_refines (by omega)

theorem toUInt8_toNat {k : Nat} (h : k < 256) : k.toUInt8.toNat = k := by
  simp [Nat.toUInt8]; omega

theorem toNat_shl (x : UInt8) {k : Nat} (hk : k < 8) : (x <<< k.toUInt8).toNat = (x.toNat * 2 ^ k) % 256 := by
  rw [UInt8.toNat_shiftLeft, toUInt8_toNat (by omega), Nat.mod_eq_of_lt hk, Nat.shiftLeft_eq]

theorem toNat_shr (x : UInt8) {k : Nat} (hk : k < 8) : (x >>> k.toUInt8).toNat = x.toNat / 2 ^ k := by
  rw [UInt8.toNat_shiftRight, toUInt8_toNat (by omega), Nat.mod_eq_of_lt hk, Nat.shiftRight_eq_div_pow]

theorem toNat_or_disjoint (a c : UInt8) (k q : Nat) (ha : a.toNat = q * 2 ^ k) (hc : c.toNat < 2 ^ k) :
    (a ||| c).toNat = a.toNat + c.toNat := by
  rw [UInt8.toNat_or, ha, ← Nat.shiftLeft_eq, Nat.shiftLeft_add_eq_or_of_lt hc]

theorem pow8_split {k : Nat} (hk : k ≤ 8) : 256 = 2 ^ (8 - k) * 2 ^ k := by
  rw [← Nat.pow_add, Nat.sub_add_cancel hk]

/-- a byte shifted left by `k`, split into what stays and what is carried out -/
theorem byte_shl_split (x k : Nat) (hk1 : 1 ≤ k) (hk7 : k ≤ 7) :
    (x * 2 ^ k) % 256 = (x % 2 ^ (8 - k)) * 2 ^ k ∧ x * 2 ^ k = (x / 2 ^ (8 - k)) * 256 + (x * 2 ^ k) % 256 := by
  have h256 := pow8_split (show k ≤ 8 by omega)
  constructor
  · rw [h256, Nat.mul_mod_mul_right]
  · have := Nat.div_add_mod (x * 2 ^ k) 256
    have hd : x * 2 ^ k / 256 = x / 2 ^ (8 - k) := by
      rw [h256, Nat.mul_div_mul_right _ _ (Nat.pow_pos (by omega))]
    rw [hd] at this; omega

theorem shlBits_spec (k : Nat) (hk1 : 1 ≤ k) (hk7 : k ≤ 7) (xs : List UInt8) :
    (shlBits k xs).2.toNat * 256 ^ xs.length + beNat (shlBits k xs).1 = beNat xs * 2 ^ k ∧
      (shlBits k xs).2.toNat < 2 ^ k := by
  induction xs with
  | nil => simp [shlBits, beNat]
  | cons x xs ih =>
    obtain ⟨ih1, ih2⟩ := ih
    simp only [shlBits, beNat, List.length_cons, length_shlBits]
    obtain ⟨hs1, hs2⟩ := byte_shl_split x.toNat k hk1 hk7
    have hx := x.toNat_lt
    have hshl := toNat_shl x (show k < 8 by omega)
    have hshr := toNat_shr x (show 8 - k < 8 by omega)
    have hor := toNat_or_disjoint (x <<< k.toUInt8) (shlBits k xs).2 k (x.toNat % 2 ^ (8 - k))
      (by rw [hshl, hs1]) ih2
    rw [hor, hshl, hshr]
    constructor
    · rw [Nat.pow_succ]
      -- name the carries, values and powers: an identity of polynomials is left
      generalize (shlBits k xs).2.toNat = c at *
      generalize beNat (shlBits k xs).1 = Y at *
      generalize 256 ^ xs.length = B at *
      generalize beNat xs = X at *
      generalize x.toNat / 2 ^ (8 - k) = hi at *
      generalize x.toNat * 2 ^ k % 256 = lo at *
      have : (x.toNat * B + X) * 2 ^ k = x.toNat * 2 ^ k * B + X * 2 ^ k := by ring
      rw [this, hs2, ← ih1]; ring
    · apply Nat.div_lt_of_lt_mul; rw [← pow8_split (by omega)]; exact hx

theorem shrBits_spec (k : Nat) (hk1 : 1 ≤ k) (hk7 : k ≤ 7) (xs : List UInt8) (c : UInt8) (cin : Nat)
    (hc : c.toNat = cin * 2 ^ (8 - k)) (hcin : cin < 2 ^ k) :
    beNat (shrBits k xs c) = (cin * 256 ^ xs.length + beNat xs) / 2 ^ k := by
  induction xs generalizing c cin with
  | nil => simp [shrBits, beNat, Nat.div_eq_of_lt hcin]
  | cons x xs ih =>
    simp only [shrBits, beNat, List.length_cons, length_shrBits]
    have hx := x.toNat_lt
    have hshr := toNat_shr x (show k < 8 by omega)
    have hshl := toNat_shl x (show 8 - k < 8 by omega)
    obtain ⟨hs1, _⟩ := byte_shl_split x.toNat (8 - k) (by omega) (by omega)
    rw [show 8 - (8 - k) = k by omega] at hs1
    have hsmall : (x >>> k.toUInt8).toNat < 2 ^ (8 - k) := by
      rw [hshr]; apply Nat.div_lt_of_lt_mul; rw [Nat.mul_comm, ← pow8_split (by omega)]; exact hx
    have hor : (x >>> k.toUInt8 ||| c).toNat = (x >>> k.toUInt8).toNat + c.toNat := by
      rw [UInt8.or_comm, toNat_or_disjoint c (x >>> k.toUInt8) (8 - k) cin hc hsmall, Nat.add_comm]
    rw [hor, hshr, hc]
    rw [ih (x <<< (8 - k).toUInt8) (x.toNat % 2 ^ k) (by rw [hshl, hs1])
      (Nat.mod_lt _ (Nat.pow_pos (by omega)))]
    have hdm := Nat.div_add_mod x.toNat (2 ^ k)
    have h256 := pow8_split (show k ≤ 8 by omega)
    rw [Nat.pow_succ]
    generalize 256 ^ xs.length = B at *
    generalize beNat xs = X at *
    generalize hq : x.toNat / 2 ^ k = q at *
    generalize hr : x.toNat % 2 ^ k = r at *
    have : cin * (B * 256) + (x.toNat * B + X)
        = 2 ^ k * (B * (cin * 2 ^ (8 - k) + q)) + (r * B + X) := by
      rw [h256, ← hdm]; ring
    rw [this, Nat.mul_add_div (Nat.pow_pos (by omega))]; ring

theorem beNat_shl {k : Nat} (hk : k ≤ 7) (D : List UInt8) :
    beNat (if k = 0 then D else (shlBits k D).1) = beNat D * 2 ^ k % 256 ^ D.length := by
  split
  · rename_i h; rw [h, Nat.pow_zero, Nat.mul_one, Nat.mod_eq_of_lt (beNat_lt D)]
  · obtain ⟨h1, _⟩ := shlBits_spec k (by omega) hk D
    have := beNat_lt (shlBits k D).1
    rw [length_shlBits] at this
    rw [← h1, Nat.add_comm, Nat.add_mul_mod_self_right, Nat.mod_eq_of_lt this]

theorem beNat_shr {k : Nat} (hk : k ≤ 7) (T : List UInt8) :
    beNat (if k = 0 then T else shrBits k T 0) = beNat T / 2 ^ k := by
  split
  · rename_i h; rw [h, Nat.pow_zero, Nat.div_one]
  · rw [shrBits_spec k (by omega) hk T 0 0 (by simp) (Nat.two_pow_pos k), Nat.zero_mul, Nat.zero_add]

/-- whole bytes and then bits to the left, inside `n` bytes -/
theorem shl_arith (P d n bs k : Nat) (hbs : bs ≤ n) :
    (P * 256 ^ (n - bs) + d) * 2 ^ (8 * bs + k) % 2 ^ (8 * n)
      = d * 2 ^ k % 256 ^ (n - bs) * 256 ^ bs := by
  rw [Nat.pow_add, ← pow256, ← pow256, show n = n - bs + bs by omega, Nat.pow_add, Nat.add_sub_cancel,
    ← Nat.mul_mod_mul_right,
    show (P * 256 ^ (n - bs) + d) * (256 ^ bs * 2 ^ k)
      = P * 2 ^ k * (256 ^ (n - bs) * 256 ^ bs) + d * 2 ^ k * 256 ^ bs by ring,
    Nat.mul_add_mod_self_right]

/-- **`binary_shift` computes the logical shift of the big-endian number** (for every amount,
    including |amount| ≥ 2^32, which an `as u32` narrowing of the amount gets wrong: defect F1 in
    DESIGN.md §6, /repo commit 90ea795). -/
theorem beNat_shiftBytes (v : List UInt8) (amt : Int) : beNat (shiftBytes v amt) = shiftValue v amt := by
  have hlt := beNat_lt v
  rw [pow256] at hlt
  unfold shiftValue
  by_cases h0 : amt = 0
  · subst h0
    rw [shiftBytes_zero, if_pos (Int.le_refl 0), Int.toNat_zero, Nat.pow_zero, Nat.mul_one, Nat.mod_eq_of_lt hlt]
  · by_cases hb : amt.natAbs ≥ 8 * v.length
    · rw [shiftBytes_big h0 hb, beNat_replicate_zero]
      split
      · rw [show amt.toNat = 8 * v.length + (amt.natAbs - 8 * v.length) by omega, Nat.pow_add,
          ← Nat.mul_assoc, Nat.mul_comm _ (2 ^ (8 * v.length)), Nat.mul_assoc, Nat.mul_mod_right]
      · rw [show (-amt).toNat = amt.natAbs by omega]
        exact (Nat.div_eq_of_lt (Nat.lt_of_lt_of_le hlt (Nat.pow_le_pow_right (by decide) hb))).symm
    · have hdm := Nat.div_add_mod amt.natAbs 8
      have hk : amt.natAbs % 8 ≤ 7 := by omega
      have hbs : amt.natAbs / 8 ≤ v.length := by omega
      by_cases hpos : amt > 0
      · rw [shiftBytes_left hpos hb, beNat_append, beNat_replicate_zero, Nat.add_zero, beNat_shl hk,
          List.length_drop, List.length_replicate, if_pos (by omega), show amt.toNat = amt.natAbs by omega,
          ← shl_arith _ _ _ _ _ hbs, ← beNat_split, hdm]
      · have hR := beNat_lt (v.drop (v.length - amt.natAbs / 8))
        rw [List.length_drop, Nat.sub_sub_self hbs] at hR
        rw [shiftBytes_right (by omega) hb, beNat_append, beNat_replicate_zero, Nat.zero_mul, Nat.zero_add,
          beNat_shr hk, if_neg (by omega), show (-amt).toNat = amt.natAbs by omega]
        conv => rhs; rw [← hdm, Nat.pow_add, ← Nat.div_div_eq_div_mul, ← pow256,
          beNat_split v (v.length - amt.natAbs / 8), Nat.sub_sub_self hbs, Nat.add_comm,
          Nat.add_mul_div_right _ _ (Nat.pow_pos (by decide)), Nat.div_eq_of_lt hR, Nat.zero_add]
end QM.Builtins
