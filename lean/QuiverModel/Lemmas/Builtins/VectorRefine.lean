import QuiverModel.Lemmas.Builtins.Bits
/-
Refinement of the packed-vector kernels to the lane-level reference specifications. Serves C12.
-/
namespace QM.Builtins
open QM.Bytes QM.Bytes.Rope QM.Builtins.Spec

theorem materialize_eq {r : Rope} (h : r.WF) : materialize r = .ok (r.bytes, .owned r.bytes) := by
  cases r <;> (simp [materialize, h.toVec_eq, Outcome.bind]; try rfl)

theorem flat_eq {r : Rope} (h : r.WF) : flat r = .ok r.bytes := by
  unfold flat; rw [materialize_eq h]; rfl

theorem checkedWidth_eq (w : Int) :
    checkedWidth w = if WidthOK w then .ok w.toNat else .err .invalidArgument := by
  unfold checkedWidth
  simp only [toI64Int_bind, ite_ite_guard]
  refine ite_congr (propext ⟨fun h => h.2, fun h => ⟨?_, h⟩⟩) (fun _ => rfl) (fun _ => rfl)
  unfold WidthOK at h; unfold FitsI64; omega

/-- Every kernel validates the width before anything else, and so does its specification (`R` is
    `RefinesOptBin`, or `Eq` for the kernels with an integer result). -/
theorem width_bind {α β : Type} {R : Outcome α → Outcome β → Prop} {k : Nat → Outcome α} {s : Outcome β}
    {width : Int} (herr : R (.err .invalidArgument) (.err .invalidArgument))
    (hok : width.toNat = 4 ∨ width.toNat = 8 → R (k width.toNat) s) :
    R ((checkedWidth width).bind k) (if WidthOK width then s else .err .invalidArgument) := by
  rw [checkedWidth_eq]
  by_cases hw : WidthOK width
  · rw [if_pos hw, if_pos hw]; exact hok (by unfold WidthOK at hw; omega)
  · rw [if_neg hw, if_neg hw]; exact herr

/-- the two-operand kernels' test for two buffers of the same whole number of lanes -/
theorem aligned_ite {α β : Type} {R : Outcome (Option α) → Outcome (Option β) → Prop} {w : Nat}
    {a b : List UInt8} {x : Outcome (Option α)} {y : Outcome (Option β)} (hnone : R (.ok none) (.ok none))
    (h : a.length = b.length → a.length % w = 0 → R x y) :
    R (if a.length ≠ b.length ∨ a.length % w ≠ 0 then .ok none else x)
      (if Aligned w a b then y else .ok none) := by
  by_cases hal : Aligned w a b
  · rw [if_neg (by have := hal.1; have := hal.2; omega), if_pos hal]; exact h hal.1 hal.2
  · rw [if_pos (by unfold Aligned at hal; omega), if_neg hal]; exact hnone

theorem alloc_some_refines {bs : List UInt8} (h : bs.length ≤ 16777216) :
    RefinesOptBin ((alloc bs).map some) (.ok (some bs)) := by
  have hr := alloc_refines h
  unfold alloc at hr ⊢
  rw [allocData_ok (r := .owned bs) h] at hr ⊢
  exact hr

theorem lane_eq {bytes : List UInt8} {w i : Nat} (hw : w = 4 ∨ w = 8)
    (hmax : bytes.length ≤ 16777216) (h : i < bytes.length / w) :
    lane bytes w i = .ok (laneAt w bytes i) := by
  have h1 : i * w + w ≤ bytes.length := Nat.succ_mul i w ▸ (Nat.le_div_iff_mul_le (by omega)).1 h
  have h2 : i * w + w < USIZE_LIMIT := Nat.lt_of_le_of_lt (h1.trans hmax) (by decide)
  unfold lane laneAt
  rw [umul_ok (Nat.lt_of_le_of_lt (Nat.le_add_right ..) h2)]; simp only [Outcome.bind]
  rw [if_neg (fun h => hw.elim h.1 h.2), uadd_ok h2]; simp only
  rw [if_pos h1]

/-- the first `n` lanes of `v` can be read -/
def Readable (w : Nat) (v : List UInt8) (n : Nat) : Prop := ∀ j < n, lane v w j = .ok (laneAt w v j)

theorem readable {w : Nat} (hw : w = 4 ∨ w = 8) {r : Rope} (hr : r.Stored) :
    Readable w r.bytes (r.bytes.length / w) := fun _ => lane_eq hw hr.length_le

/-- lanes `i, …, i + n - 1` -/
def lanesFrom (w : Nat) (v : List UInt8) (i n : Nat) : List Int := (List.range' i n).map (laneAt w v)

theorem lanesFrom_succ (w : Nat) (v : List UInt8) (i n : Nat) :
    lanesFrom w v i (n + 1) = laneAt w v i :: lanesFrom w v (i + 1) n := rfl

@[simp] theorem length_lanesFrom (w : Nat) (v : List UInt8) (i n : Nat) : (lanesFrom w v i n).length = n := by
  simp only [lanesFrom, List.length_map, List.length_range']

theorem lanes_eq (w : Nat) (v : List UInt8) : lanes w v = lanesFrom w v 0 (v.length / w) := by
  unfold lanes lanesFrom; rw [List.range_eq_range']

@[simp] theorem length_leBytes (n x : Nat) : (leBytes n x).length = n := by
  induction n generalizing x with
  | zero => rfl
  | succ n ih => simp only [leBytes, List.length_cons, ih]

@[simp] theorem length_pushLane (w : Nat) (v : Int) : (pushLane w v).length = w := length_leBytes ..

theorem length_encode (w : Nat) (xs : List Int) : (encode w xs).length = xs.length * w := by
  induction xs with
  | nil => simp only [encode, List.flatMap_nil, List.length_nil, Nat.zero_mul]
  | cons x xs ih =>
    simp only [encode, List.flatMap_cons, List.length_append, length_pushLane, List.length_cons] at ih ⊢
    rw [ih, Nat.succ_mul, Nat.add_comm]

theorem laneOK_fits {w : Nat} (hw : w = 4 ∨ w = 8) (v : Int) :
    (FitsI64 v ∧ fits w v = true) ↔ LaneOK w v := by
  unfold fits LaneOK FitsI64
  rcases hw with hw | hw <;> subst hw <;> simp <;> omega

theorem checked_filter {w : Nat} (hw : w = 4 ∨ w = 8) (f : Int → Int → Int) (x y : Int) :
    ((checked f x y).filter (fits w)) = if LaneOK w (f x y) then some (f x y) else none := by
  unfold checked
  by_cases h1 : FitsI64 (f x y)
  · rw [if_pos h1, Option.filter_some]
    exact if_congr ((and_iff_right h1).symm.trans (laneOK_fits hw _)) rfl rfl
  · rw [if_neg h1, if_neg (fun h => h1 ((laneOK_fits hw _).2 h).1)]; rfl

/-- the encoded lanes when each fits its lane, else nil -/
def encodeAll (w : Nat) (zs : List Int) : Option (List UInt8) :=
  if ∀ z ∈ zs, LaneOK w z then some (encode w zs) else none

theorem encodeAll_cons (w : Nat) (z : Int) (zs : List Int) :
    encodeAll w (z :: zs) = if LaneOK w z then (encodeAll w zs).map (pushLane w z ++ ·) else none := by
  unfold encodeAll
  by_cases h1 : LaneOK w z
  · rw [if_pos h1]
    by_cases h2 : ∀ z ∈ zs, LaneOK w z
    · rw [if_pos h2, if_pos (List.forall_mem_cons.2 ⟨h1, h2⟩)]; rfl
    · rw [if_neg h2, if_neg (fun h => h2 (List.forall_mem_cons.1 h).2)]; rfl
  · rw [if_neg h1, if_neg (fun h => h1 (List.forall_mem_cons.1 h).1)]

theorem elementwiseLoop_eq (f : Int → Int → Int) {a b : List UInt8} {w n : Nat} (hw : w = 4 ∨ w = 8)
    (ha : Readable w a n) (hb : Readable w b n) (fuel i : Nat) (h : i + fuel ≤ n) :
    elementwiseLoop (checked f) a b w fuel i =
      .ok (encodeAll w (List.zipWith f (lanesFrom w a i fuel) (lanesFrom w b i fuel))) := by
  induction fuel generalizing i with
  | zero => rfl
  | succ fuel ih =>
    simp only [elementwiseLoop]
    rw [ha i (by omega), hb i (by omega)]; simp only [Outcome.bind]
    rw [checked_filter hw, lanesFrom_succ, lanesFrom_succ, List.zipWith_cons_cons, encodeAll_cons]
    by_cases hok : LaneOK w (f (laneAt w a i) (laneAt w b i))
    · rw [if_pos hok, if_pos hok]; simp only
      rw [ih (i + 1) (by omega)]; rfl
    · rw [if_neg hok, if_neg hok]

theorem elementwise_refines (f : Int → Int → Int) {a b : Rope} (ha : a.Stored) (hb : b.Stored) (width : Int) :
    RefinesOptBin (elementwise (checked f) a b width) (Spec.elementwise f a.bytes b.bytes width) := by
  unfold elementwise Spec.elementwise
  refine width_bind rfl fun hw => ?_
  simp only [flat_eq ha.1, flat_eq hb.1, Outcome.bind]
  refine aligned_ite trivial fun h1 _ => ?_
  rw [elementwiseLoop_eq f hw (readable hw ha) (h1 ▸ readable hw hb) _ 0 (Nat.zero_add _).le,
    lanes_eq, lanes_eq, ← h1]
  generalize hzs : List.zipWith f _ _ = zs
  have hlen : (encode width.toNat zs).length ≤ 16777216 := by
    rw [length_encode, ← hzs, List.length_zipWith, length_lanesFrom, length_lanesFrom, Nat.min_self]
    exact (Nat.div_mul_le_self ..).trans ha.length_le
  unfold encodeAll
  by_cases hall : ∀ z ∈ zs, LaneOK width.toNat z
  · rw [if_pos hall, if_pos hall]; exact alloc_some_refines hlen
  · rw [if_neg hall, if_neg hall]; trivial

theorem compareLoop_eq (pred : Int → Int → Bool) {a b : List UInt8} {w n : Nat}
    (ha : Readable w a n) (hb : Readable w b n) (fuel i : Nat) (h : i + fuel ≤ n) :
    compareLoop pred a b w fuel i = .ok (List.zipWith (fun x y => if pred x y then (1 : UInt8) else 0)
      (lanesFrom w a i fuel) (lanesFrom w b i fuel)) := by
  induction fuel generalizing i with
  | zero => rfl
  | succ fuel ih =>
    simp only [compareLoop]
    rw [ha i (by omega), hb i (by omega)]; simp only [Outcome.bind]
    rw [ih (i + 1) (by omega)]; rfl

theorem compare_refines (pred : Int → Int → Bool) {a b : Rope} (ha : a.Stored) (hb : b.Stored) (width : Int) :
    RefinesOptBin (compare pred a b width) (Spec.compare pred a.bytes b.bytes width) := by
  unfold compare Spec.compare
  refine width_bind rfl fun hw => ?_
  simp only [flat_eq ha.1, flat_eq hb.1, Outcome.bind]
  refine aligned_ite trivial fun h1 _ => ?_
  rw [compareLoop_eq pred (readable hw ha) (h1 ▸ readable hw hb) _ 0 (Nat.zero_add _).le,
    lanes_eq, lanes_eq, ← h1]
  refine alloc_some_refines ?_
  rw [List.length_zipWith, length_lanesFrom, length_lanesFrom, Nat.min_self]
  exact (Nat.div_le_self ..).trans ha.length_le

theorem length_takeChunks_le (w : Nat) (mask data : List UInt8) :
    (takeChunks w mask data).length ≤ data.length := by
  induction mask generalizing data with
  | nil => exact Nat.zero_le _
  | cons m ms ih =>
    have := ih (data.drop w)
    rw [List.length_drop] at this
    simp only [takeChunks, List.length_append]
    split
    · rw [List.length_take]; omega
    · rw [List.length_nil]; omega

theorem takeLoop_eq {data : List UInt8} {w : Nat} (hw : 0 < w) (hmax : data.length ≤ 16777216)
    (mask : List UInt8) (i : Nat) (h : i + mask.length ≤ data.length / w) :
    takeLoop data w mask i = .ok (takeChunks w mask (data.drop (i * w))) := by
  induction mask generalizing i with
  | nil => rfl
  | cons sel rest ih =>
    rw [List.length_cons] at h
    have he : (i + 1) * w ≤ data.length := (Nat.le_div_iff_mul_le hw).1 (by omega)
    have hsucc : (i + 1) * w = i * w + w := Nat.succ_mul _ _
    simp only [takeLoop, takeChunks]
    rw [ih (i + 1) (by omega), List.drop_drop, ← hsucc]
    by_cases hs : sel ≠ 0
    · rw [if_pos hs, if_pos hs, umul_ok (by omega)]; simp only [Outcome.bind]
      rw [umul_ok (by omega)]; simp only
      rw [if_pos ⟨by omega, he⟩, show (i + 1) * w - i * w = w by omega]; rfl
    · rw [if_neg hs, if_neg hs]; rfl

theorem vectorTake_refines {d m : Rope} (hd : d.Stored) (hm : m.Stored) (width : Int) :
    RefinesOptBin (vectorTake d width m) (Spec.vectorTake d.bytes width m.bytes) := by
  unfold vectorTake Spec.vectorTake
  refine width_bind rfl fun hw => ?_
  simp only [flat_eq hd.1, flat_eq hm.1, Outcome.bind]
  by_cases hal : d.bytes.length % width.toNat = 0 ∧ m.bytes.length = d.bytes.length / width.toNat
  · rw [if_neg (by omega), if_pos hal, takeLoop_eq (by omega) hd.length_le _ 0 (by omega), Nat.zero_mul, List.drop_zero]
    exact alloc_some_refines ((length_takeChunks_le ..).trans hd.length_le)
  · rw [if_pos (by omega), if_neg hal]; trivial

/-- `i.saturating_add(1).saturating_mul(width) <= len` is `i < len / width` on a stored buffer -/
theorem satIndex_le {i w n : Nat} (hw : 0 < w) (hn : n ≤ 16777216) :
    satMul (satAdd i 1) w ≤ n ↔ i < n / w := by
  rw [satMul_le_iff (by omega), Nat.lt_iff_add_one_le, Nat.le_div_iff_mul_le hw]
  unfold satAdd
  split
  · rfl
  · have h1 := Nat.le_mul_of_pos_right 18446744073709551615 hw
    have h2 := Nat.le_mul_of_pos_right (i + 1) hw
    omega

theorem vectorGet_eq {r : Rope} (hr : r.Stored) (width index : Int) :
    vectorGet r width index = Spec.vectorGet r.bytes width index := by
  have hl := hr.length_le
  unfold vectorGet Spec.vectorGet
  refine width_bind rfl fun hw => ?_
  simp only [flat_eq hr.1, Outcome.bind]
  have hsat := @satIndex_le index.toNat width.toNat r.bytes.length (by omega) hl
  have hq := Nat.div_le_self r.bytes.length width.toNat
  by_cases hin : 0 ≤ index ∧ r.bytes.length % width.toNat = 0 ∧ index < (r.bytes.length / width.toNat : Nat)
  · have hlt : index.toNat < r.bytes.length / width.toNat := by omega
    rw [if_pos hin, if_pos ⟨hin.1, by omega⟩, if_pos ⟨hin.2.1, hsat.2 hlt⟩, readable hw hr _ hlt]; rfl
  · rw [if_neg hin]
    split
    · rw [if_neg (fun h => hin ⟨by omega, h.1, by have := hsat.1 h.2; omega⟩)]
    · rfl

theorem vectorPush_refines {r : Rope} (hr : r.Stored) (width value : Int) :
    RefinesOptBin (vectorPush r width value) (Spec.vectorPush r.bytes width value) := by
  have hl := hr.length_le; have he := hr.1.len_eq
  unfold vectorPush Spec.vectorPush
  refine width_bind rfl fun hw => ?_
  simp only [laneOK_fits hw]
  -- from here on only the size of the width matters
  replace hw : 0 < width.toNat ∧ width.toNat ≤ 8 := by omega
  by_cases hok : LaneOK width.toNat value ∧ r.bytes.length % width.toNat = 0
  · rw [if_pos hok, if_pos hok.1, if_neg (by rw [he]; exact not_not_intro hok.2)]
    have hwn : (Rope.owned (pushLane width.toNat value)).WF := by simp only [WF, length_pushLane]; omega
    -- the first lane of an empty vector is stored as it is, later ones are concatenated
    have happ : ∃ c, (if r.len = 0 then .ok (Rope.owned (pushLane width.toNat value))
          else mkConcat r (.owned (pushLane width.toNat value))) = Outcome.ok c ∧ c.WF ∧
        c.bytes = r.bytes ++ pushLane width.toNat value ∧ c.len = r.len + width.toNat := by
      by_cases hempty : r.len = 0
      · have hnil : r.bytes = [] := List.eq_nil_of_length_eq_zero (he ▸ hempty)
        rw [if_pos hempty, hnil, hempty]
        exact ⟨_, rfl, hwn, rfl, by simp only [len, length_pushLane, Nat.zero_add]⟩
      · rw [if_neg hempty]
        have := mkConcat_ok hr.1 hwn (by simp only [len, length_pushLane]; omega)
        simpa only [len, bytes, length_pushLane] using this
    obtain ⟨c, hc, hwc, hbc, hlc⟩ := happ
    rw [hc]; simp only [Outcome.bind]
    by_cases hsz : r.bytes.length + width.toNat ≤ 16777216
    · rw [allocData_ok (by omega), if_pos hsz]; exact ⟨⟨hwc, by omega⟩, hbc⟩
    · rw [allocData_err (by omega), if_neg hsz]; rfl
  · rw [if_neg hok]
    split
    · rw [if_pos (by rw [he]; exact fun h => hok ⟨‹_›, h⟩)]; trivial
    · trivial

theorem sumLoop_eq {bytes : List UInt8} {w n : Nat} (hb : Readable w bytes n)
    (fuel i : Nat) (acc : Int) (h : i + fuel ≤ n) :
    sumLoop bytes w fuel i acc = .ok (acc + (lanesFrom w bytes i fuel).sum) := by
  induction fuel generalizing i acc with
  | zero => exact congrArg _ (Int.add_zero _).symm
  | succ fuel ih =>
    simp only [sumLoop]
    rw [hb i (by omega)]; simp only [Outcome.bind]
    rw [ih (i + 1) _ (by omega), lanesFrom_succ, List.sum_cons, Int.add_assoc]

theorem vectorSum_eq {r : Rope} (hr : r.Stored) (width : Int) :
    vectorSum r width = Spec.vectorSum r.bytes width := by
  unfold vectorSum Spec.vectorSum
  refine width_bind rfl fun hw => ?_
  simp only [flat_eq hr.1, Outcome.bind]
  by_cases hal : r.bytes.length % width.toNat = 0
  · rw [if_neg (not_not_intro hal), if_pos hal, sumLoop_eq (readable hw hr) _ 0 0 (Nat.zero_add _).le, Int.zero_add,
      lanes_eq]; rfl
  · rw [if_pos hal, if_neg hal]

theorem dotLoop_eq {a b : List UInt8} {w n : Nat} (ha : Readable w a n) (hb : Readable w b n)
    (fuel i : Nat) (acc : Int) (h : i + fuel ≤ n) :
    dotLoop a b w fuel i acc =
      .ok (acc + (List.zipWith (· * ·) (lanesFrom w a i fuel) (lanesFrom w b i fuel)).sum) := by
  induction fuel generalizing i acc with
  | zero => exact congrArg _ (Int.add_zero _).symm
  | succ fuel ih =>
    simp only [dotLoop]
    rw [ha i (by omega), hb i (by omega)]; simp only [Outcome.bind]
    rw [ih (i + 1) _ (by omega), lanesFrom_succ, lanesFrom_succ, List.zipWith_cons_cons, List.sum_cons,
      Int.add_assoc]

theorem vectorDot_eq {a b : Rope} (ha : a.Stored) (hb : b.Stored) (width : Int) :
    vectorDot a b width = Spec.vectorDot a.bytes b.bytes width := by
  unfold vectorDot Spec.vectorDot
  refine width_bind rfl fun hw => ?_
  simp only [flat_eq ha.1, flat_eq hb.1, Outcome.bind]
  refine aligned_ite rfl fun h1 _ => ?_
  rw [dotLoop_eq (readable hw ha) (h1 ▸ readable hw hb) _ 0 0 (Nat.zero_add _).le, Int.zero_add,
    lanes_eq, lanes_eq, ← h1]; rfl

theorem leNat_leBytes (n x : Nat) : leNat (leBytes n x) = x % 256 ^ n := by
  induction n generalizing x with
  | zero => simp [leBytes, leNat, Nat.mod_one]
  | succ n ih =>
    simp only [leBytes, leNat, ih]
    rw [toNat_ofNat_lt (Nat.mod_lt _ (by omega)), Nat.pow_succ, Nat.mul_comm (256 ^ n) 256, Nat.mod_mul]

theorem signedOf_pushLane {w : Nat} (hw : 0 < w) {x : Int} (h : LaneOK w x) :
    signedOf (8 * w) (leNat (pushLane w x)) = x := by
  obtain ⟨h1, h2⟩ := h
  have hM : (2 : Nat) ^ (8 * w) = 2 * 2 ^ (8 * w - 1) := by
    rw [← Nat.pow_succ', Nat.succ_eq_add_one, Nat.sub_add_cancel (by omega)]
  rw [← Nat.cast_ofNat (R := Int), ← Nat.cast_pow] at h1 h2
  unfold pushLane signedOf
  rw [leNat_leBytes, pow256, hM]
  generalize (2 : Nat) ^ (8 * w - 1) = H at *
  by_cases hx : 0 ≤ x
  · rw [Int.emod_eq_of_lt hx (by omega), Nat.mod_eq_of_lt (by omega), if_neg (by omega)]
    omega
  · rw [← Int.add_emod_right, Int.emod_eq_of_lt (by omega) (by omega), Nat.mod_eq_of_lt (by omega),
      if_pos (by omega)]
    omega
theorem lanes_append {w : Nat} (hw : 0 < w) (a rest : List UInt8) (ha : a.length = w) :
    lanes w (a ++ rest) = signedOf (8 * w) (leNat a) :: lanes w rest := by
  unfold lanes
  rw [List.length_append, ha, Nat.add_div_left _ hw, List.range_succ_eq_map,
    List.map_cons, List.map_map]
  congr 1
  · unfold laneAt; simp [ha]
  · apply List.map_congr_left
    intro i _
    simp only [Function.comp, laneAt]
    have hi : i.succ * w = w + i * w := by rw [Nat.succ_mul, Nat.add_comm]
    rw [hi, ← List.drop_drop, List.drop_left' ha]

theorem lanes_encode {w : Nat} (hpos : 0 < w) (zs : List Int) (h : ∀ z ∈ zs, LaneOK w z) :
    lanes w (encode w zs) = zs := by
  induction zs with
  | nil => simp [encode, lanes]
  | cons z zs ih =>
    simp only [encode, List.flatMap_cons]
    rw [lanes_append hpos _ _ (length_pushLane w z), signedOf_pushLane hpos (h z (by simp))]
    congr 1
    exact ih (fun y hy => h y (List.mem_cons_of_mem _ hy))
end QM.Builtins
