import QuiverModel.Core.Builtins.Dispatch
import QuiverModel.Lemmas.Builtins.Window
import QuiverModel.Lemmas.Builtins.VectorRefine
/-
What totality of the by-name dispatcher rests on: the arguments a builtin sees are stored ropes, no
argument extractor and no kernel with an integer or nil result answers `panic`, and the integer
family is total. (The binary and vector families are total by `DispatchShape.lean`.) Serves C12.
-/
namespace QM.Builtins
open QM.Bytes QM.Bytes.Rope QM.Builtins.Spec

/-- a binary inside an argument is a rope as the executor heap stores them -/
def BArg.binStored : BArg → Prop
  | .bin r => r.Stored
  | _ => True

/-- every binary (top level or tuple field) of the argument is a stored rope -/
def BArg.Stored : BArg → Prop
  | .tup fs => ∀ f ∈ fs, f.binStored
  | a => a.binStored

theorem ok_or_err_ne_panic {α} {o : Outcome α} {c : Prop} [Decidable c] {v : α} {e : ErrClass}
    (h : o = if c then .ok v else .err e) : o ≠ .panic := by
  rw [h]; split <;> simp

section perBuiltin
variable {r a b : Rope}

theorem binaryLength_total (r : Rope) : binaryLength r ≠ .panic := by simp [binaryLength]
theorem binaryPopcount_total (hr : r.Stored) : binaryPopcount r ≠ .panic := by
  rw [binaryPopcount_eq hr]; simp
theorem binaryGet_total (hr : r.Stored) (x y z : Int) : binaryGet r x y z ≠ .panic :=
  ok_or_err_ne_panic (binaryGet_eq hr x y z)
theorem binaryIndex_total (hr : r.Stored) (x o : Int) : binaryIndex r x o ≠ .panic :=
  ok_or_err_ne_panic (binaryIndex_eq hr.1 x o)
theorem binaryHash32_total (hr : r.Stored) : binaryHash32 r ≠ .panic := by
  rw [binaryHash32_eq hr.1]; simp
theorem binaryHash64_total (hr : r.Stored) : binaryHash64 r ≠ .panic := by
  rw [binaryHash64_eq hr.1]; simp

/-- the shape of the vector specifications with an integer result: width test, then value or nil -/
theorem width_ok_ne_panic {α} {o : Outcome (Option α)} {c d : Prop} [Decidable c] [Decidable d]
    {v : α} {e : ErrClass} (h : o = if c then (if d then .ok (some v) else .ok none) else .err e) :
    o ≠ .panic := by
  rw [h]; split <;> [split; skip] <;> simp

theorem vectorGet_total (hr : r.Stored) (w i : Int) : vectorGet r w i ≠ .panic :=
  width_ok_ne_panic (vectorGet_eq hr w i)
theorem vectorSum_total (hr : r.Stored) (w : Int) : vectorSum r w ≠ .panic :=
  width_ok_ne_panic (vectorSum_eq hr w)
theorem vectorDot_total (ha : a.Stored) (hb : b.Stored) (w : Int) : vectorDot a b w ≠ .panic :=
  width_ok_ne_panic (vectorDot_eq ha hb w)
end perBuiltin

theorem map_ne_panic {α β} {o : Outcome α} (g : α → β) (h : o ≠ .panic) : o.map g ≠ .panic := by
  cases o <;> simp_all [Outcome.map, Outcome.bind]

theorem bind_ne_panic {α β} {o : Outcome α} {f : α → Outcome β} (ho : o ≠ .panic)
    (hf : ∀ x, o = .ok x → f x ≠ .panic) : o.bind f ≠ .panic := by
  cases o with
  | ok x => simpa [Outcome.bind] using hf x rfl
  | err e => simp [Outcome.bind]
  | panic => exact absurd rfl ho

theorem stored_mem {fs : List BArg} (h : (BArg.tup fs).Stored) {r : Rope} (hm : BArg.bin r ∈ fs) :
    r.Stored := h _ hm

theorem argB_spec {arg : BArg} (h : arg.Stored) :
    argB arg ≠ .panic ∧ ∀ r, argB arg = .ok r → r.Stored := by
  unfold argB; split
  · exact ⟨by simp, fun r hr => by cases hr; exact h⟩
  · exact ⟨by simp, fun r hr => by cases hr⟩

theorem argBB_stored {arg : BArg} (h : arg.Stored) :
    argBB arg ≠ .panic ∧ ∀ x, argBB arg = .ok x → x.1.Stored ∧ x.2.Stored := by
  unfold argBB; split
  · exact ⟨by simp, fun x hr => by cases hr; exact ⟨stored_mem h (by simp), stored_mem h (by simp)⟩⟩
  · exact ⟨by simp, fun x hr => by cases hr⟩

theorem argBB_spec {arg : BArg} (h : arg.Stored) :
    argBB arg ≠ .panic ∧ ∀ a b, argBB arg = .ok (a, b) → a.Stored ∧ b.Stored :=
  ⟨(argBB_stored h).1, fun _ _ hr => (argBB_stored h).2 _ hr⟩

theorem argBI_stored {arg : BArg} (h : arg.Stored) :
    argBI arg ≠ .panic ∧ ∀ x, argBI arg = .ok x → x.1.Stored := by
  unfold argBI; split
  · exact ⟨by simp, fun x hr => by cases hr; exact stored_mem h (by simp)⟩
  · exact ⟨by simp, fun x hr => by cases hr⟩

theorem argBI_spec {arg : BArg} (h : arg.Stored) :
    argBI arg ≠ .panic ∧ ∀ a x, argBI arg = .ok (a, x) → a.Stored :=
  ⟨(argBI_stored h).1, fun _ _ hr => (argBI_stored h).2 _ hr⟩

theorem argBII_stored {arg : BArg} (h : arg.Stored) :
    argBII arg ≠ .panic ∧ ∀ x, argBII arg = .ok x → x.1.Stored := by
  unfold argBII; split
  · exact ⟨by simp, fun x hr => by cases hr; exact stored_mem h (by simp)⟩
  · exact ⟨by simp, fun x hr => by cases hr⟩

theorem argBII_spec {arg : BArg} (h : arg.Stored) :
    argBII arg ≠ .panic ∧ ∀ a x y, argBII arg = .ok (a, x, y) → a.Stored :=
  ⟨(argBII_stored h).1, fun _ _ _ hr => (argBII_stored h).2 _ hr⟩

theorem argBIII_stored {arg : BArg} (h : arg.Stored) :
    argBIII arg ≠ .panic ∧ ∀ x, argBIII arg = .ok x → x.1.Stored := by
  unfold argBIII; split
  · exact ⟨by simp, fun x hr => by cases hr; exact stored_mem h (by simp)⟩
  · exact ⟨by simp, fun x hr => by cases hr⟩

theorem argBIII_spec {arg : BArg} (h : arg.Stored) :
    argBIII arg ≠ .panic ∧ ∀ a x y z, argBIII arg = .ok (a, x, y, z) → a.Stored :=
  ⟨(argBIII_stored h).1, fun _ _ _ _ hr => (argBIII_stored h).2 _ hr⟩

theorem argBIIII_stored {arg : BArg} (h : arg.Stored) :
    argBIIII arg ≠ .panic ∧ ∀ x, argBIIII arg = .ok x → x.1.Stored := by
  unfold argBIIII; split
  · exact ⟨by simp, fun x hr => by cases hr; exact stored_mem h (by simp)⟩
  · exact ⟨by simp, fun x hr => by cases hr⟩

theorem argBIIII_spec {arg : BArg} (h : arg.Stored) :
    argBIIII arg ≠ .panic ∧ ∀ a x y z u, argBIIII arg = .ok (a, x, y, z, u) → a.Stored :=
  ⟨(argBIIII_stored h).1, fun _ _ _ _ _ hr => (argBIIII_stored h).2 _ hr⟩

theorem argBBI_stored {arg : BArg} (h : arg.Stored) :
    argBBI arg ≠ .panic ∧ ∀ x, argBBI arg = .ok x → x.1.Stored ∧ x.2.1.Stored := by
  unfold argBBI; split
  · exact ⟨by simp, fun x hr => by cases hr; exact ⟨stored_mem h (by simp), stored_mem h (by simp)⟩⟩
  · exact ⟨by simp, fun x hr => by cases hr⟩

theorem argBBI_spec {arg : BArg} (h : arg.Stored) :
    argBBI arg ≠ .panic ∧ ∀ a b x, argBBI arg = .ok (a, b, x) → a.Stored ∧ b.Stored :=
  ⟨(argBBI_stored h).1, fun _ _ _ hr => (argBBI_stored h).2 _ hr⟩

theorem argBIB_stored {arg : BArg} (h : arg.Stored) :
    argBIB arg ≠ .panic ∧ ∀ x, argBIB arg = .ok x → x.1.Stored ∧ x.2.2.Stored := by
  unfold argBIB; split
  · exact ⟨by simp, fun x hr => by cases hr; exact ⟨stored_mem h (by simp), stored_mem h (by simp)⟩⟩
  · exact ⟨by simp, fun x hr => by cases hr⟩

theorem argBIB_spec {arg : BArg} (h : arg.Stored) :
    argBIB arg ≠ .panic ∧ ∀ a x b, argBIB arg = .ok (a, x, b) → a.Stored ∧ b.Stored :=
  ⟨(argBIB_stored h).1, fun _ _ _ hr => (argBIB_stored h).2 _ hr⟩

theorem oneInt_ne_panic (arg : BArg) : oneInt arg ≠ .panic := by unfold oneInt; split <;> simp
theorem twoInts_ne_panic (arg : BArg) : twoInts arg ≠ .panic := by
  unfold twoInts; split
  · split
    · simp
    · split <;> simp
  · simp

theorem toI64_ne_panic (z : Int) : toI64 z ≠ .panic := by unfold toI64; split <;> simp

theorem twoIntsNarrowed_ne_panic (arg : BArg) : twoIntsNarrowed arg ≠ .panic := by
  unfold twoIntsNarrowed; split
  · split
    · simp
    · split
      · apply bind_ne_panic (toI64_ne_panic _)
        intro _ _; split <;> simp
      · simp
  · simp

theorem two64_ne_panic (a b : Int) : two64 a b ≠ .panic := by
  unfold two64 toI64
  by_cases ha : FitsI64 a <;> by_cases hb : FitsI64 b <;> simp [ha, hb]

theorem integerShift_ne_panic (a b : Int) : integerShift a b ≠ .panic := by
  unfold integerShift
  cases h : two64 a b with
  | panic => exact absurd h (two64_ne_panic a b)
  | err e => simp
  | ok p =>
    simp only
    by_cases h0 : b = 0
    · simp [h0]
    · by_cases h1 : b.natAbs ≥ 64 <;> by_cases h2 : b > 0 <;> simp [h0, h1, h2]

theorem callInteger_total (name : String) (arg : BArg) :
    ∀ o, callInteger name arg = some o → o ≠ .panic := by
  intro o ho
  have un : ∀ f : Int → Outcome Int, (∀ z, f z ≠ .panic) → liftInt ((oneInt arg).bind f) ≠ .panic :=
    fun f hf => map_ne_panic _ (bind_ne_panic (oneInt_ne_panic _) (fun x _ => hf x))
  have bi : ∀ f : Int → Int → Outcome Int, (∀ x y, f x y ≠ .panic) →
      liftInt ((twoInts arg).bind (fun (a, b) => f a b)) ≠ .panic :=
    fun f hf => map_ne_panic _ (bind_ne_panic (twoInts_ne_panic _) (fun x _ => hf x.1 x.2))
  have bw : ∀ f : Int → Int → Outcome Int, (∀ x y, f x y ≠ .panic) →
      liftInt ((twoIntsNarrowed arg).bind (fun (a, b) => f a b)) ≠ .panic :=
    fun f hf => map_ne_panic _ (bind_ne_panic (twoIntsNarrowed_ne_panic _) (fun x _ => hf x.1 x.2))
  have hmap2 : ∀ (g : BitVec 64 × BitVec 64 → Int) (a b : Int), (two64 a b).map g ≠ .panic :=
    fun g a b => map_ne_panic _ (two64_ne_panic a b)
  unfold callInteger at ho
  -- one bullet per arm of `callInteger`, in its order
  split at ho <;> (try cases ho)
  · exact un _ (fun z => by simp [integerAbs])
  · exact un _ (fun z => by unfold integerSqrt; split <;> simp)
  · exact bi _ (fun x y => by simp [integerAdd])
  · exact bi _ (fun x y => by simp [integerSubtract])
  · exact bi _ (fun x y => by simp [integerMultiply])
  · exact bi _ (fun x y => by unfold integerDivide; split <;> simp)
  · exact bi _ (fun x y => by unfold integerModulo; split <;> simp)
  · exact bi _ (fun x y => by simp [integerGcd])
  · exact bi _ (fun x y => by simp [integerCompare])
  · exact bw _ (fun x y => hmap2 _ x y)
  · exact bw _ (fun x y => hmap2 _ x y)
  · exact bw _ (fun x y => hmap2 _ x y)
  · exact un _ (fun z => map_ne_panic _ (toI64_ne_panic z))
  · exact bw _ integerShift_ne_panic
  · exact un _ (fun z => map_ne_panic _ (toI64_ne_panic z))

end QM.Builtins
