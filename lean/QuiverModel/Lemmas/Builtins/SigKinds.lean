import QuiverModel.Core.Builtins.Sig
import QuiverModel.Core.Builtins.Dispatch
/-
The model's own signature table `modelSig` is what `callBuiltin` implements: a successful result has
the stated kind. (This module does not import the regenerated registry table `Generated/BuiltinSigs.lean`.)
Serves C12.
-/
namespace QM.Builtins

def RKind.holds : RKind → BArg → Prop
  | .int, .int _ => True
  | .bin, .bin _ => True
  | .intOrNil, .int _ => True
  | .intOrNil, .tup [] => True
  | .binOrNil, .bin _ => True
  | .binOrNil, .tup [] => True
  | _, _ => False

/-- inhabitation of a (flat) `TypeSpec` by a builtin result value -/
def inhAtom : TSpec → BArg → Bool
  | .integer, .int _ => true
  | .binary, .bin _ => true
  | .tuple none [], .tup [] => true
  | _, _ => false

def inh : TSpec → BArg → Bool
  | .union vs, v => vs.any (inhAtom · v)
  | t, v => inhAtom t v

/-- the declared result spec `t` is (syntactically) the spec of kind `k` -/
def kindFits : RKind → TSpec → Bool
  | .int, .integer => true
  | .bin, .binary => true
  | .intOrNil, .union [.integer, .tuple none []] => true
  | .binOrNil, .union [.binary, .tuple none []] => true
  | _, _ => false

theorem kindFits_sound {k : RKind} {t : TSpec} {v : BArg} (hf : kindFits k t = true) (hv : k.holds v) :
    inh t v = true := by
  unfold kindFits at hf
  split at hf <;> try cases hf
  · cases v <;> first | rfl | exact hv.elim
  · cases v <;> first | rfl | exact hv.elim
  · cases v with
    | int z => rfl
    | bin r => exact hv.elim
    | tup fs => cases fs with
      | nil => rfl
      | cons _ _ => exact hv.elim
  · cases v with
    | int z => exact hv.elim
    | bin r => rfl
    | tup fs => cases fs with
      | nil => rfl
      | cons _ _ => exact hv.elim

theorem map_ok {α β : Type} {g : α → β} {o : Outcome α} {v : β} (h : o.map g = .ok v) : ∃ x, v = g x := by
  cases o with
  | ok x => exact ⟨x, (Outcome.ok.inj h).symm⟩
  | err e => cases h
  | panic => cases h

theorem retInt_holds {o : Outcome Int} {v : BArg} (h : retInt o = .ok v) : RKind.holds .int v := by
  obtain ⟨_, rfl⟩ := map_ok h; trivial
theorem retBin_holds {o : Outcome QM.Bytes.Rope} {v : BArg} (h : retBin o = .ok v) : RKind.holds .bin v := by
  obtain ⟨_, rfl⟩ := map_ok h; trivial
theorem retOptBin_holds {o : Outcome (Option QM.Bytes.Rope)} {v : BArg} (h : retOptBin o = .ok v) :
    RKind.holds .binOrNil v := by
  obtain ⟨x, rfl⟩ := map_ok h; cases x <;> trivial
theorem retOptInt_holds {o : Outcome (Option Int)} {v : BArg} (h : retOptInt o = .ok v) :
    RKind.holds .intOrNil v := by
  obtain ⟨x, rfl⟩ := map_ok h; cases x <;> trivial
theorem retOptNat_holds {o : Outcome (Option Nat)} {v : BArg} (h : retOptNat o = .ok v) :
    RKind.holds .intOrNil v := by
  obtain ⟨x, rfl⟩ := map_ok h; cases x <;> trivial

/-! `modelSig` on the names each family dispatches on. Both tables are keyed by string literals, so
their agreement is a finite fact. With the signature table evaluated here, the dispatchers can be
split on a variable name, and no string comparison is left to evaluate there. -/

theorem modelSig_integer :
    modelSig "integer_abs" = some (.i, .int) ∧ modelSig "integer_sqrt" = some (.i, .int) ∧
    modelSig "integer_add" = some (.ii, .int) ∧ modelSig "integer_subtract" = some (.ii, .int) ∧
    modelSig "integer_multiply" = some (.ii, .int) ∧ modelSig "integer_divide" = some (.ii, .int) ∧
    modelSig "integer_modulo" = some (.ii, .int) ∧ modelSig "integer_gcd" = some (.ii, .int) ∧
    modelSig "integer_compare" = some (.ii, .int) ∧ modelSig "integer_and" = some (.ii, .int) ∧
    modelSig "integer_or" = some (.ii, .int) ∧ modelSig "integer_xor" = some (.ii, .int) ∧
    modelSig "integer_not" = some (.i, .int) ∧ modelSig "integer_shift" = some (.ii, .int) ∧
    modelSig "integer_popcount" = some (.i, .int) := by decide +kernel

theorem modelSig_binary :
    modelSig "binary_new" = some (.i, .bin) ∧ modelSig "binary_length" = some (.b, .int) ∧
    modelSig "binary_concat" = some (.bb, .bin) ∧ modelSig "binary_repeat" = some (.bi, .bin) ∧
    modelSig "binary_and" = some (.bb, .bin) ∧ modelSig "binary_or" = some (.bb, .bin) ∧
    modelSig "binary_xor" = some (.bb, .bin) ∧ modelSig "binary_not" = some (.b, .bin) ∧
    modelSig "binary_shift" = some (.bi, .bin) ∧ modelSig "binary_popcount" = some (.b, .int) ∧
    modelSig "binary_get" = some (.biii, .int) ∧ modelSig "binary_set" = some (.biiii, .bin) ∧
    modelSig "binary_slice" = some (.bii, .bin) ∧ modelSig "binary_index" = some (.bii, .intOrNil) ∧
    modelSig "binary_hash32" = some (.b, .int) ∧ modelSig "binary_hash64" = some (.b, .int) ∧
    modelSig "binary_append" = some (.bii, .bin) := by decide +kernel

theorem modelSig_vector :
    modelSig "vector_add" = some (.bbi, .binOrNil) ∧ modelSig "vector_subtract" = some (.bbi, .binOrNil) ∧
    modelSig "vector_multiply" = some (.bbi, .binOrNil) ∧
    modelSig "vector_less_than" = some (.bbi, .binOrNil) ∧ modelSig "vector_equal" = some (.bbi, .binOrNil) ∧
    modelSig "vector_greater_than" = some (.bbi, .binOrNil) ∧ modelSig "vector_dot" = some (.bbi, .intOrNil) ∧
    modelSig "vector_take" = some (.bib, .binOrNil) ∧ modelSig "vector_get" = some (.bii, .intOrNil) ∧
    modelSig "vector_push" = some (.bii, .binOrNil) ∧ modelSig "vector_sum" = some (.bi, .intOrNil) := by
  decide +kernel

section
variable {name : String} {arg v : BArg} {p : PKind} {k : RKind} (hs : modelSig name = some (p, k))
include hs

theorem callInteger_kind (h : callInteger name arg = some (.ok v)) : k.holds v := by
  unfold callInteger at h
  split at h <;> first
    | (simp only [modelSig_integer] at hs; cases hs; exact retInt_holds (Option.some.inj h))
    | cases h

theorem callBinary_kind (h : callBinary name arg = some (.ok v)) : k.holds v := by
  unfold callBinary at h
  split at h <;> first
    | (simp only [modelSig_binary] at hs; cases hs
       first
        | exact retBin_holds (Option.some.inj h)
        | exact retInt_holds (Option.some.inj h)
        | exact retOptNat_holds (Option.some.inj h))
    | cases h

theorem callVector_kind (h : callVector name arg = some (.ok v)) : k.holds v := by
  unfold callVector at h
  split at h <;> first
    | (simp only [modelSig_vector] at hs; cases hs
       first
        | exact retOptBin_holds (Option.some.inj h)
        | exact retOptInt_holds (Option.some.inj h))
    | cases h

end

/-- a successful result of a modelled builtin has the kind the model's signature table states -/
theorem callBuiltin_result_kind (name : String) (arg v : BArg) (p : PKind) (k : RKind)
    (hs : modelSig name = some (p, k)) (h : callBuiltin name arg = some (.ok v)) : k.holds v := by
  unfold callBuiltin at h
  split at h
  · exact callInteger_kind hs (‹_ = some _›.trans h)
  · split at h
    · exact callBinary_kind hs (‹_ = some _›.trans h)
    · exact callVector_kind hs h

end QM.Builtins
