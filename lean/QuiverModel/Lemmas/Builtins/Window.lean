import QuiverModel.Lemmas.Builtins.Bits
/-
Refinement of `binary_get` and `binary_append` (and the argument checks shared with
`binary_set`). Serves C12.
-/
namespace QM.Builtins
open QM.Bytes QM.Bytes.Rope QM.Builtins.Spec

/-- the argument checks of `binary_get/set` as one condition -/
def WindowArgsOK (bo bi nb : Int) : Prop :=
  FitsI64 bo ∧ FitsI64 bi ∧ FitsI64 nb ∧ 0 ≤ bo ∧ 0 ≤ bi ∧ bi ≤ 7 ∧ 1 ≤ nb ∧ nb ≤ 64

instance (bo bi nb : Int) : Decidable (WindowArgsOK bo bi nb) := by unfold WindowArgsOK; exact inferInstance

theorem windowArgs_eq (bo bi nb : Int) : windowArgs bo bi nb =
    if WindowArgsOK bo bi nb then .ok (bo.toNat, bi.toNat, nb.toNat) else .err .invalidArgument := by
  unfold windowArgs WindowArgsOK
  simp only [toI64Int_bind, err_ite, ite_ite_guard]
  exact ite_congr (propext (by unfold FitsI64; omega)) (fun _ => rfl) (fun _ => rfl)

/-- `last_byte_needed > len` is exactly "the window sticks out" (also when `byte_offset * 8`
    does not fit a `usize`: the second half of defect F4 in DESIGN.md §6, /repo commit 258da96) -/
theorem lastByteNeeded_gt_iff {n bo bi nb : Nat} (hn : n ≤ 16777216) (hbi : bi ≤ 7) (hnb : nb ≤ 64) :
    lastByteNeeded bo bi nb > n ↔ 8 * bo + bi + nb > 8 * n := by
  unfold lastByteNeeded
  split
  · split
    · omega
    · omega
  · omega

theorem lastByteNeeded_eq {n bo bi nb : Nat} (hn : n ≤ 16777216) (hbi : bi ≤ 7) (hnb : nb ≤ 64)
    (h : 8 * bo + bi + nb ≤ 8 * n) : lastByteNeeded bo bi nb = (8 * bo + bi + nb + 7) / 8 := by
  unfold lastByteNeeded
  rw [if_pos (by omega), if_pos (by omega)]; congr 1; omega

theorem window_geometry {n a b c : Nat} (hb : b ≤ 7) (hc : c ≤ 64) (hwin : 8 * a + b + c ≤ 8 * n) :
    ∃ cnt ba, (8 * a + b + c + 7) / 8 = a + cnt ∧ cnt ≤ 9 ∧ a + cnt ≤ n ∧ ba + b + c = 8 * cnt ∧
      8 * n - (8 * a + b + c) = 8 * (n - (a + cnt)) + ba := by
  rw [Nat.add_assoc (8 * a) b c, Nat.add_assoc (8 * a) (b + c) 7, Nat.mul_add_div (by decide)]
  have hq : b + c ≤ 8 * ((b + c + 7) / 8) ∧ 8 * ((b + c + 7) / 8) < b + c + 8 := by omega
  generalize (b + c + 7) / 8 = q at hq
  exact ⟨q, 8 * q - (b + c), rfl, by omega⟩

theorem inWindow_natCast {n : Nat} {bo bi nb : Int} (h : InWindow n bo bi nb) :
    ∃ a b c : Nat, bo = a ∧ bi = b ∧ nb = c ∧ b ≤ 7 ∧ 1 ≤ c ∧ c ≤ 64 ∧ 8 * a + b + c ≤ 8 * n := by
  obtain ⟨h0, h1, h2, h3, h4, h5⟩ := h
  obtain ⟨a, rfl⟩ := Int.eq_ofNat_of_zero_le h0
  obtain ⟨b, rfl⟩ := Int.eq_ofNat_of_zero_le h1
  obtain ⟨c, rfl⟩ := Int.eq_ofNat_of_zero_le (Int.le_trans (by decide) h3)
  exact ⟨a, b, c, rfl, rfl, rfl, Int.ofNat_le.1 h2, Int.ofNat_le.1 h3, Int.ofNat_le.1 h4, by omega⟩

/-- what `binary_get/set` compute from a window inside `n ≤ MAX_BINARY` bytes: the checked
    arguments `a b c`, the number `cnt` of bytes under the window (ending at `last_byte_needed`) and
    the number `ba` of bits between the field and the end of those bytes -/
theorem inWindow_geometry {n : Nat} (hn : n ≤ 16777216) {bo bi nb : Int} (h : InWindow n bo bi nb) :
    ∃ a b c cnt ba : Nat, bo = a ∧ bi = b ∧ nb = c ∧ 1 ≤ c ∧ c ≤ 64 ∧ cnt ≤ 9 ∧ a + cnt ≤ n ∧
      ba + b + c = 8 * cnt ∧ (8 * a + b + c + 7) / 8 = a + cnt ∧
      windowArgs bo bi nb = .ok (a, b, c) ∧ lastByteNeeded a b c = a + cnt ∧
      bitsRight n bo bi nb = 8 * (n - (a + cnt)) + ba := by
  have hargs := windowArgs_eq bo bi nb
  rw [if_pos (by unfold InWindow at h; unfold WindowArgsOK FitsI64; omega)] at hargs
  obtain ⟨a, b, c, rfl, rfl, rfl, hb, hc1, hc, hwin⟩ := inWindow_natCast h
  obtain ⟨cnt, ba, hL, hcnt, hin, hbits, hright⟩ := window_geometry hb hc hwin
  refine ⟨a, b, c, cnt, ba, rfl, rfl, rfl, hc1, hc, hcnt, hin, hbits, hL, hargs,
    (lastByteNeeded_eq hn hb hc hwin).trans hL, ?_⟩
  unfold bitsRight
  rw [← hright]; omega

/-- the common part of `binary_get` and `binary_set`: the `cnt < 16` bytes under the window are
    read as one number and the bit count to the right of the field is computed, without overflow -/
theorem window_read {α : Type} {r : Rope} (hr : r.WF) {a b c cnt ba : Nat} (hcnt : cnt < 16)
    (hin : a + cnt ≤ r.bytes.length) (hbits : ba + b + c = 8 * cnt)
    (k : Nat → Nat → Nat → Outcome α) :
    ((usub (a + cnt) a).bind fun n => (readWide r a n 0 0).bind fun wide =>
      (umul n 8).bind fun bitsRead => (usub bitsRead b).bind fun t => (usub t c).bind fun bitsAfter =>
        if bitsAfter ≥ 128 then .panic else k n wide bitsAfter)
      = k cnt (beNat ((r.bytes.drop a).take cnt)) ba := by
  have := hr.len_lt; have := hr.len_eq
  rw [usub_ok (Nat.le_add_right a cnt), ok_bind, Nat.add_sub_cancel_left,
    readWide_eq hr a cnt 0 0 0 (by decide) (by omega) (by omega), ok_bind,
    umul_ok (by omega), ok_bind, usub_ok (by omega), ok_bind, usub_ok (by omega), ok_bind,
    if_neg (by omega), Nat.zero_mul, Nat.zero_add, Nat.add_zero,
    show cnt * 8 - b - c = ba by omega]

theorem window_err {n : Nat} (hn : n ≤ 16777216) {bo bi nb : Int} (h : ¬ InWindow n bo bi nb) :
    windowArgs bo bi nb = .err .invalidArgument ∨
      ∃ a b c, windowArgs bo bi nb = .ok (a, b, c) ∧ lastByteNeeded a b c > n := by
  rw [windowArgs_eq]
  by_cases hC : WindowArgsOK bo bi nb
  · rw [if_pos hC]
    refine Or.inr ⟨_, _, _, rfl, ?_⟩
    obtain ⟨-, -, -, h0, h1, h2, h3, h4⟩ := hC
    exact (lastByteNeeded_gt_iff hn (by omega) (by omega)).2 (by unfold InWindow at h; omega)
  · exact Or.inl (if_neg hC)

theorem binaryGet_eq {r : Rope} (hr : r.Stored) (bo bi nb : Int) :
    binaryGet r bo bi nb = Spec.binaryGet r.bytes bo bi nb := by
  unfold binaryGet Spec.binaryGet
  by_cases hw : InWindow r.bytes.length bo bi nb
  · obtain ⟨a, b, c, cnt, ba, rfl, rfl, rfl, hc1, hc, hcnt, hin, hbits, -, hargs, hlast, hright⟩ :=
      inWindow_geometry hr.length_le hw
    rw [if_pos hw, hargs, hright]
    simp only [ok_bind]
    rw [hlast, if_neg (by rw [hr.1.len_eq]; omega), window_read hr.1 (by omega) hin hbits,
      Int.toNat_natCast, ← Nat.sub_sub, window_arith r.bytes a cnt ba c hin (by omega) hc]
  · rw [if_neg hw]
    rcases window_err hr.length_le hw with he | ⟨a, b, c, hok, hgt⟩
    · rw [he]; rfl
    · rw [hok]; simp only [ok_bind]; rw [if_pos (by rw [hr.1.len_eq]; exact hgt)]

/-- the largest value of `nb` bytes; the source writes the 8-byte case apart to avoid `1 << 64` -/
theorem maxValue_eq (n : Nat) : (if n = 8 then 18446744073709551615 else 2 ^ (n * 8) - 1) = 2 ^ (8 * n) - 1 := by
  rw [Nat.mul_comm]; split
  · subst n; rfl
  · rfl

theorem binaryAppend_refines {r : Rope} (hr : r.Stored) (value nb : Int) :
    RefinesBin (binaryAppend r value nb) (Spec.binaryAppend r.bytes value nb) := by
  have he := hr.1.len_eq; have hl := hr.2
  unfold binaryAppend Spec.binaryAppend
  simp only [toI64Int_bind, maxValue_eq, err_ite, ite_ite_guard]
  have hp := Nat.two_pow_pos (8 * nb.toNat)
  refine RefinesBin.of_guard (fun hd => ?_) (fun hc hd => ?_) (fun hc hd => ?_)
  · unfold AppendDomain at hd; unfold FitsI64; omega
  · have h6 : r.len + nb.toNat ≤ 16777216 := by unfold AppendDomain at hd; omega
    exact mkConcat_alloc_refines hr.1 (show (Rope.owned _).WF by simp only [WF, length_beBytes]; omega)
      (by simp only [len, length_beBytes]; omega)
  · -- only the size limit can fail here, and it is `allocData` that tests it
    have h6 : ¬ r.len + nb.toNat ≤ 16777216 := by unfold AppendDomain FitsI64 at *; omega
    unfold mkConcat; simp only [len, length_beBytes]
    rw [uadd_ok (by unfold FitsI64 at hc; omega), ok_bind, allocData_err (by simp only [len]; omega)]

end QM.Builtins
