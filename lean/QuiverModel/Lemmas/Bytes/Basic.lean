import QuiverModel.Core.Bytes
/-
Rope lemmas (M-Bytes): on well-formed ropes no operation panics and every operation is the
corresponding operation on the flat content `Rope.bytes`.
Serves C12. Import-free apart from the model (core tactics only).

`QM.Equal.Rope` (Core/Equal/Basic.lean, lemmas in Lemmas/Equal/Values.lean) is a second model of the
same `BinaryData`: it carries only what `values_equal` reads (`len`, `to_vec`, invariant `LenOK`), this
one the constructors and readers with their `usize` arithmetic (invariant `WF`, content `bytes`). No
theorem relates the two.
-/
namespace QM.Bytes
open Rope

theorem ok_bind {α β : Type} (x : α) (f : α → Outcome β) : (Outcome.ok x).bind f = f x := rfl

theorem uadd_ok {a b : Nat} (h : a + b < USIZE_LIMIT) : uadd a b = .ok (a + b) := if_pos h
theorem umul_ok {a b : Nat} (h : a * b < USIZE_LIMIT) : umul a b = .ok (a * b) := if_pos h
theorem usub_ok {a b : Nat} (h : b ≤ a) : usub a b = .ok (a - b) := if_pos h
theorem satMul_of_lt {a b : Nat} (h : a * b < USIZE_LIMIT) : satMul a b = a * b := if_pos h
theorem satMul_le_iff {a b n : Nat} (hn : n < 18446744073709551615) :
    satMul a b ≤ n ↔ a * b ≤ n := by
  unfold satMul; split <;> omega
theorem satMul_lt_limit (a b : Nat) : satMul a b < USIZE_LIMIT := by
  unfold satMul; split <;> omega

@[simp] theorem length_tile (ub : List UInt8) (c : Nat) : (tile ub c).length = ub.length * c := by
  induction c with
  | zero => simp [tile]
  | succ c ih => simp [tile, ih, Nat.mul_succ, Nat.add_comm]

theorem tile_nil (c : Nat) : tile [] c = [] := by
  induction c with
  | zero => rfl
  | succ c ih => simp [tile, ih]

theorem tile_one (ub : List UInt8) : tile ub 1 = ub := by simp [tile]

theorem getElem?_tile (ub : List UInt8) (c i : Nat) (h : i < ub.length * c) :
    (tile ub c)[i]? = ub[i % ub.length]? := by
  induction c generalizing i with
  | zero => simp at h
  | succ c ih =>
    simp only [tile]
    by_cases hi : i < ub.length
    · rw [List.getElem?_append_left hi, Nat.mod_eq_of_lt hi]
    · have hge : ub.length ≤ i := Nat.le_of_not_lt hi
      rw [List.getElem?_append_right hge, ih _ (by rw [Nat.mul_succ] at h; omega),
        Nat.mod_eq_sub_mod hge]

theorem getElem?_tile_none (ub : List UInt8) (c i : Nat) (h : ¬ i < ub.length * c) :
    (tile ub c)[i]? = none := by
  apply List.getElem?_eq_none; simp; omega

namespace Rope

theorem WF.len_lt {r : Rope} (h : r.WF) : r.len < USIZE_LIMIT := by
  induction r with
  | owned bs => exact h
  | zeroed n => exact h
  | slice p off l ih => have := ih h.1; have := h.2; simp only [len] at *; omega
  | concat l r t _ _ => exact h.2.2.2
  | tiled u c _ => exact satMul_lt_limit _ _

theorem WF.len_eq {r : Rope} (h : r.WF) : r.len = r.bytes.length := by
  induction r with
  | owned bs => rfl
  | zeroed n => simp [len, bytes]
  | slice p off l ih =>
    have := ih h.1; have := h.2
    simp only [len, bytes, List.length_take, List.length_drop] at *; omega
  | concat l r t ihl ihr =>
    have := ihl h.1; have := ihr h.2.1; have := h.2.2.1
    simp only [len, bytes, List.length_append] at *; omega
  | tiled u c ih =>
    have := ih h.1
    simp only [len, bytes, length_tile, satMul_of_lt h.2]; rw [this]

theorem WF.toVec_eq {r : Rope} (h : r.WF) : r.toVec = .ok r.bytes := by
  induction r with
  | owned bs => rfl
  | zeroed n => rfl
  | slice p off l ih =>
    have hp := h.1; have hb := h.2
    have hl := hp.len_lt; have he := hp.len_eq
    simp only [toVec, ih hp, bytes]
    rw [uadd_ok (by omega)]
    simp only; rw [if_pos (by omega)]
  | concat l r t ihl ihr => simp only [toVec, ihl h.1, ihr h.2.1, bytes]
  | tiled u c ih =>
    have he := h.1.len_eq
    simp only [toVec, ih h.1, bytes]
    rw [umul_ok (by rw [← he]; exact h.2)]

theorem WF.byteAt_eq {r : Rope} (h : r.WF) (i : Nat) : r.byteAt i = .ok r.bytes[i]? := by
  induction r generalizing i with
  | owned bs =>
    simp only [byteAt, bytes]; split
    · rw [List.getElem?_eq_none (by omega)]
    · rfl
  | zeroed n =>
    simp only [byteAt, bytes]; split
    · rw [List.getElem?_eq_none (by simp; omega)]
    · rw [List.getElem?_replicate]; simp; omega
  | slice p off l ih =>
    have hp := h.1; have hb := h.2
    have hl := hp.len_lt; have he := hp.len_eq
    simp only [byteAt, bytes]; split
    · rw [List.getElem?_eq_none (by simp; omega)]
    · rw [uadd_ok (by omega)]; simp only
      rw [ih hp, List.getElem?_take_of_lt (by omega), List.getElem?_drop]
  | concat l r t ihl ihr =>
    have hl := h.1; have hr := h.2.1; have ht := h.2.2.1
    have hel := hl.len_eq; have her := hr.len_eq
    simp only [byteAt, bytes]; split
    · rw [List.getElem?_eq_none (by simp; omega)]
    · split
      · rw [ihl hl, List.getElem?_append_left (by omega)]
      · rw [ihr hr, List.getElem?_append_right (by omega), hel]
  | tiled u c ih =>
    have hu := h.1; have hm := h.2
    have he := hu.len_eq
    simp only [byteAt, bytes, satMul_of_lt hm]; split
    · rw [getElem?_tile_none _ _ _ (by rw [← he]; omega)]
    · split
      · rename_i h1 h2; rw [h2] at h1; simp at h1
      · rw [ih hu, getElem?_tile _ _ _ (by rw [← he]; omega), he]

theorem WF.iterFrom_eq {r : Rope} (h : r.WF) (fuel i : Nat) :
    r.iterFrom fuel i = .ok ((r.bytes.drop i).take fuel) := by
  induction fuel generalizing i with
  | zero => simp [iterFrom]
  | succ fuel ih =>
    simp only [iterFrom, h.byteAt_eq]
    cases hb : r.bytes[i]? with
    | none =>
      simp only
      rw [List.drop_eq_nil_of_le (by
        rcases List.getElem?_eq_none_iff.mp hb with h'; omega)]
      simp
    | some b =>
      simp only [ih]
      have hi : i < r.bytes.length := by
        rcases List.getElem?_eq_some_iff.mp hb with ⟨h', _⟩; exact h'
      have hb' : r.bytes[i] = b := by
        rcases List.getElem?_eq_some_iff.mp hb with ⟨_, h'⟩; exact h'
      rw [List.drop_eq_getElem_cons hi, List.take_succ_cons, hb']

theorem WF.iter_eq {r : Rope} (h : r.WF) : r.iter = .ok r.bytes := by
  unfold iter; rw [h.iterFrom_eq, h.len_eq]; simp

end Rope
end QM.Bytes
