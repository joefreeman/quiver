import QuiverModel.Lemmas.Bytes.Basic
/-
Smart constructors of the rope preserve well-formedness and denote the expected flat operation.
Serves C12.
-/
namespace QM.Bytes
namespace Rope

theorem mkSlice_some {p : Rope} (hp : p.WF) {off l : Nat} (h : off + l ≤ p.len) :
    ∃ r, mkSlice p off l = some r ∧ r.WF ∧ r.bytes = (p.bytes.drop off).take l ∧ r.len = l := by
  have hl := hp.len_lt
  have he := hp.len_eq
  unfold mkSlice
  rw [if_neg (by omega), if_neg (by omega), if_neg (by omega)]
  by_cases h0 : l = 0
  · rw [if_pos h0]; subst h0
    exact ⟨_, rfl, by simp [WF], by simp [bytes], rfl⟩
  · rw [if_neg h0]
    by_cases hf : off = 0 ∧ l = p.len
    · rw [if_pos hf]
      refine ⟨_, rfl, hp, ?_, hf.2.symm⟩
      rw [hf.1, hf.2, he]; simp
    · rw [if_neg hf]
      exact ⟨_, rfl, ⟨hp, h⟩, rfl, rfl⟩

theorem mkSlice_none {p : Rope} {off l : Nat} (h : ¬ off + l ≤ p.len) : mkSlice p off l = none := by
  unfold mkSlice
  by_cases h1 : off > p.len
  · rw [if_pos h1]
  · rw [if_neg h1]
    by_cases h2 : off + l < USIZE_LIMIT
    · rw [if_neg (by omega), if_pos (by omega)]
    · rw [if_pos h2]

theorem mkConcat_ok {l r : Rope} (hl : l.WF) (hr : r.WF) (h : l.len + r.len < USIZE_LIMIT) :
    ∃ c, mkConcat l r = .ok c ∧ c.WF ∧ c.bytes = l.bytes ++ r.bytes ∧ c.len = l.len + r.len := by
  unfold mkConcat; rw [uadd_ok h]
  exact ⟨_, rfl, ⟨hl, hr, rfl, h⟩, rfl, rfl⟩

theorem mkConcat_panic {l r : Rope} (h : ¬ l.len + r.len < USIZE_LIMIT) : mkConcat l r = .panic := by
  unfold mkConcat uadd; rw [if_neg h]

theorem mkTiled_len {u : Rope} (hu : u.WF) (c : Nat) : (mkTiled u c).len = satMul u.len c := by
  have hl := hu.len_lt
  unfold mkTiled
  by_cases h0 : c = 0 ∨ u.len = 0
  · rw [if_pos h0]
    rcases h0 with h0 | h0 <;> simp [h0, len, satMul]
  · rw [if_neg h0]
    by_cases h1 : c = 1
    · rw [if_pos h1, h1]; simp [satMul, hl]
    · rw [if_neg h1]; rfl

theorem mkTiled_spec {u : Rope} (hu : u.WF) {c : Nat} (h : u.len * c < USIZE_LIMIT) :
    (mkTiled u c).WF ∧ (mkTiled u c).bytes = tile u.bytes c := by
  have he := hu.len_eq
  unfold mkTiled
  by_cases h0 : c = 0 ∨ u.len = 0
  · rw [if_pos h0]
    refine ⟨by simp [WF], ?_⟩
    rcases h0 with h0 | h0
    · simp [h0, bytes, tile]
    · have : u.bytes = [] := List.eq_nil_of_length_eq_zero (by omega)
      simp [this, bytes, tile_nil]
  · rw [if_neg h0]
    by_cases h1 : c = 1
    · rw [if_pos h1, h1, tile_one]; exact ⟨hu, rfl⟩
    · rw [if_neg h1]; exact ⟨⟨hu, h⟩, rfl⟩

end Rope
end QM.Bytes
