import QuiverModel.Lemmas.Bytes.Basic
/-
`find_byte` on a well-formed rope is the reference search on the flat content (`WF.findByte_eq`;
`C12.findByte_spec` adds what the reference search finds, `findFrom_isFirst`).
Serves C12.
-/
namespace QM.Bytes
open Rope

/-- `res` is the index of the first `b` at or after `off` in `v` (or there is none). -/
def IsFirst (v : List UInt8) (b : UInt8) (off : Nat) : Option Nat → Prop
  | some i => off ≤ i ∧ v[i]? = some b ∧ ∀ j, off ≤ j → j < i → v[j]? ≠ some b
  | none => ∀ j, off ≤ j → v[j]? ≠ some b

theorem IsFirst.unique {v : List UInt8} {b : UInt8} {off : Nat} {x y : Option Nat}
    (hx : IsFirst v b off x) (hy : IsFirst v b off y) : x = y := by
  cases x with
  | none =>
    cases y with
    | none => rfl
    | some j => exact absurd hy.2.1 (hx j hy.1)
  | some i =>
    cases y with
    | none => exact absurd hx.2.1 (hy i hx.1)
    | some j =>
      obtain ⟨hi1, hi2, hi3⟩ := hx
      obtain ⟨hj1, hj2, hj3⟩ := hy
      by_cases h1 : i < j
      · exact absurd hi2 (hj3 i hi1 h1)
      · by_cases h2 : j < i
        · exact absurd hj2 (hi3 j hj1 h2)
        · congr; omega

theorem firstIdx_isFirst (b : UInt8) (xs : List UInt8) : IsFirst xs b 0 (firstIdx b xs) := by
  induction xs with
  | nil => intro j _; simp
  | cons x xs ih =>
    simp only [firstIdx]
    by_cases hx : x = b
    · rw [if_pos hx]
      exact ⟨Nat.le_refl _, by simp [hx], fun j _ hj => absurd hj (Nat.not_lt_zero _)⟩
    · rw [if_neg hx]
      cases hf : firstIdx b xs with
      | none =>
        rw [hf] at ih
        intro j _
        cases j with
        | zero => simpa using hx
        | succ j => simpa using ih j (Nat.zero_le _)
      | some i =>
        rw [hf] at ih
        obtain ⟨_, h2, h3⟩ := ih
        refine ⟨Nat.zero_le _, by simpa using h2, ?_⟩
        intro j _ hj
        cases j with
        | zero => simpa using hx
        | succ j => simpa using h3 j (Nat.zero_le _) (by simp at hj; omega)

theorem findFrom_isFirst (v : List UInt8) (b : UInt8) (off : Nat) :
    IsFirst v b off (findFrom v b off) := by
  unfold findFrom
  by_cases h : off ≥ v.length
  · rw [if_pos h]; intro j hj; rw [List.getElem?_eq_none (by omega)]; simp
  · rw [if_neg h]
    have hf := firstIdx_isFirst b (v.drop off)
    cases hx : firstIdx b (v.drop off) with
    | none =>
      rw [hx] at hf
      intro j hj
      have := hf (j - off) (Nat.zero_le _)
      rw [List.getElem?_drop] at this
      rwa [show off + (j - off) = j by omega] at this
    | some i =>
      rw [hx] at hf
      obtain ⟨_, h2, h3⟩ := hf
      rw [List.getElem?_drop] at h2
      refine ⟨by simp, by simpa [Nat.add_comm] using h2, ?_⟩
      intro j hj hlt
      have := h3 (j - off) (Nat.zero_le _) (by simp at hlt; omega)
      rw [List.getElem?_drop] at this
      rwa [show off + (j - off) = j by omega] at this

theorem findFrom_some {v : List UInt8} {b : UInt8} {off i : Nat} (h : findFrom v b off = some i) :
    off ≤ i ∧ i < v.length := by
  have := findFrom_isFirst v b off
  rw [h] at this
  exact ⟨this.1, (List.getElem?_eq_some_iff.mp this.2.1).1⟩

/-! ### the search over a zero-filled, sliced, concatenated, tiled content

`firstIdx` commutes with the list operations the rope nodes denote; the `findFrom_*` equations have the
right-hand sides `find_byte` computes on the node. -/

theorem firstIdx_append (b : UInt8) (L R : List UInt8) :
    firstIdx b (L ++ R) = match firstIdx b L with
      | some i => some i
      | none => (firstIdx b R).map (· + L.length) := by
  induction L with
  | nil => rw [List.nil_append]; cases firstIdx b R <;> rfl
  | cons x L ih =>
    simp only [List.cons_append, firstIdx, List.length_cons]
    split
    · rfl
    · rw [ih]
      cases firstIdx b L with
      | some i => rfl
      | none => cases firstIdx b R <;> simp only [Option.map_some, Option.map_none, Nat.add_assoc]

theorem firstIdx_take (b : UInt8) (n : Nat) (xs : List UInt8) :
    firstIdx b (xs.take n) = (firstIdx b xs).bind fun i => if i < n then some i else none := by
  induction xs generalizing n with
  | nil => rw [List.take_nil]; rfl
  | cons x xs ih =>
    cases n with
    | zero => cases firstIdx b (x :: xs) <;> rfl
    | succ n =>
      simp only [List.take_succ_cons, firstIdx]
      split
      · simp
      · rw [ih]; cases firstIdx b xs <;> simp

theorem firstIdx_replicate (b x : UInt8) (n : Nat) :
    firstIdx b (List.replicate n x) = if x = b ∧ 0 < n then some 0 else none := by
  induction n with
  | zero => simp [firstIdx]
  | succ n ih =>
    simp only [List.replicate_succ, firstIdx]
    split
    · simp [*]
    · rw [ih]; simp [*]

theorem findFrom_eq_drop (v : List UInt8) (b : UInt8) (off : Nat) :
    findFrom v b off = (firstIdx b (v.drop off)).map (· + off) := by
  unfold findFrom; split
  · rw [List.drop_eq_nil_of_le ‹_›]; rfl
  · rfl

theorem firstIdx_tile (b : UInt8) (U : List UInt8) (k : Nat) :
    firstIdx b (tile U k) = if k = 0 then none else firstIdx b U := by
  induction k with
  | zero => rfl
  | succ k ih =>
    rw [tile, firstIdx_append, ih, if_neg (Nat.succ_ne_zero k)]
    cases firstIdx b U with
    | some i => rfl
    | none => show Option.map _ (if k = 0 then none else none) = none; rw [ite_self]; rfl

/-- the tiled content from position `m` of unit `s`: the rest of that unit, then the later units -/
theorem drop_tile (U : List UInt8) {c s m : Nat} (hs : s < c) (hm : m ≤ U.length) :
    (tile U c).drop (U.length * s + m) = U.drop m ++ tile U (c - s - 1) := by
  induction s generalizing c with
  | zero =>
    obtain ⟨c, rfl⟩ := Nat.exists_eq_succ_of_ne_zero (Nat.ne_of_gt hs)
    rw [Nat.mul_zero, Nat.zero_add, tile, List.drop_append_of_le_length hm]; rfl
  | succ s ih =>
    obtain ⟨c, rfl⟩ := Nat.exists_eq_succ_of_ne_zero (Nat.ne_of_gt (Nat.lt_of_le_of_lt (Nat.zero_le _) hs))
    rw [tile, Nat.mul_succ, Nat.add_right_comm, Nat.add_comm _ U.length, ← List.drop_drop,
      List.drop_left, ih (Nat.lt_of_succ_lt_succ hs), Nat.succ_sub_succ]

theorem findFrom_tile {U : List UInt8} {b : UInt8} {c s m : Nat} (hm : m < U.length) (hs : s < c) :
    findFrom (tile U c) b (U.length * s + m) =
      match findFrom U b m with
      | some pos => some (U.length * s + pos)
      | none => if s + 1 < c then (findFrom U b 0).map (fun pos => U.length * (s + 1) + pos) else none := by
  rw [findFrom_eq_drop, findFrom_eq_drop, findFrom_eq_drop, drop_tile U hs (Nat.le_of_lt hm), firstIdx_append,
    firstIdx_tile, List.drop_zero, List.length_drop]
  cases firstIdx b (U.drop m) with
  | some i => simp only [Option.map_some]; congr 1; omega
  | none =>
    by_cases hn : s + 1 < c
    · rw [if_neg (by omega), if_pos hn]
      cases firstIdx b U with
      | none => rfl
      | some p => simp only [Option.map_some, Nat.mul_succ]; congr 1; omega
    · rw [if_pos (by omega), if_neg hn]; rfl

theorem findFrom_append_left {L R : List UInt8} {b : UInt8} {off : Nat} (h : off ≤ L.length) :
    findFrom (L ++ R) b off = match findFrom L b off with
      | some i => some i
      | none => (findFrom R b 0).map (· + L.length) := by
  rw [findFrom_eq_drop, findFrom_eq_drop, findFrom_eq_drop, List.drop_append_of_le_length h, firstIdx_append,
    List.drop_zero, List.length_drop]
  cases firstIdx b (L.drop off) with
  | some i => rfl
  | none =>
    cases firstIdx b R with
    | none => rfl
    | some j => simp only [Option.map_some]; congr 1; omega

theorem findFrom_append_right (L : List UInt8) {R : List UInt8} {b : UInt8} {o : Nat} :
    findFrom (L ++ R) b (L.length + o) = (findFrom R b o).map (· + L.length) := by
  rw [findFrom_eq_drop, findFrom_eq_drop, ← List.drop_drop, List.drop_left]
  cases firstIdx b (R.drop o) with
  | none => rfl
  | some j => simp only [Option.map_some]; congr 1; omega

theorem findFrom_slice {P : List UInt8} {b : UInt8} {so l off : Nat} (h : off < l) :
    findFrom ((P.drop so).take l) b off =
      (findFrom P b (so + off)).bind fun abs => if abs - so < l then some (abs - so) else none := by
  rw [findFrom_eq_drop, findFrom_eq_drop, List.drop_take, List.drop_drop, firstIdx_take]
  cases firstIdx b (P.drop (so + off)) with
  | none => rfl
  | some i =>
    simp only [Option.bind_some, Option.map_some, show i + (so + off) - so = i + off by omega]
    by_cases hi : i < l - off
    · rw [if_pos hi, if_pos (by omega)]; rfl
    · rw [if_neg hi, if_neg (by omega)]; rfl

theorem findFrom_zeroed (n : Nat) (b : UInt8) (off : Nat) :
    findFrom (List.replicate n 0) b off = if b = 0 ∧ off < n then some off else none := by
  rw [findFrom_eq_drop, List.drop_replicate, firstIdx_replicate]
  by_cases h : b = 0 ∧ off < n
  · rw [if_pos h, if_pos ⟨h.1.symm, by omega⟩]; simp
  · rw [if_neg h, if_neg (fun h' => h ⟨h'.1.symm, by omega⟩)]; rfl

namespace Rope

theorem addIdx_ok {k : Nat} {x : Option Nat} {n : Nat} (h : ∀ i, x = some i → i < n)
    (hk : n + k < USIZE_LIMIT) : addIdx k (.ok x) = .ok (x.map (· + k)) := by
  cases x with
  | none => rfl
  | some i => have := h i rfl; simp only [addIdx, uadd_ok (show i + k < USIZE_LIMIT by omega)]; rfl

theorem WF.findByte_eq {r : Rope} (h : r.WF) (b : UInt8) (off : Nat) :
    r.findByte b off = .ok (findFrom r.bytes b off) := by
  induction r generalizing off with
  | owned bs => exact (apply_ite Outcome.ok _ _ _).symm
  | zeroed n => exact congrArg Outcome.ok (findFrom_zeroed n b off).symm
  | slice p so l ih =>
    have hl := h.1.len_lt; have he := h.1.len_eq; have hb := h.2
    simp only [findByte, bytes]
    by_cases hoff : off ≥ l
    · rw [if_pos hoff, findFrom, if_pos (by rw [List.length_take]; omega)]
    · rw [if_neg hoff, uadd_ok (by omega), findFrom_slice (Nat.lt_of_not_ge hoff)]
      simp only [ih h.1]
      cases hr : findFrom p.bytes b (so + off) with
      | none => rfl
      | some abs =>
        simp only [usub_ok (Nat.le_trans (Nat.le_add_right so off) (findFrom_some hr).1)]; rfl
  | concat l r t ihl ihr =>
    obtain ⟨hl, hr, ht, htl⟩ := h
    have hel := hl.len_eq; have her := hr.len_eq
    have hadd : ∀ o, addIdx l.len (r.findByte b o) = .ok ((findFrom r.bytes b o).map (· + l.len)) :=
      fun o => by
        rw [ihr hr, addIdx_ok (n := r.len) (fun i hi => her ▸ (findFrom_some hi).2) (by omega)]
    simp only [findByte, bytes]
    by_cases hoff : off < l.len
    · rw [if_pos hoff, ihl hl, findFrom_append_left (by omega)]
      cases findFrom l.bytes b off with
      | some i => rfl
      | none => simp only []; rw [← hel]; exact hadd 0
    · rw [if_neg hoff, hadd, hel]
      have := findFrom_append_right l.bytes (R := r.bytes) (b := b) (o := off - l.bytes.length)
      rw [Nat.add_sub_cancel' (by omega)] at this
      rw [this]
  | tiled u c ih =>
    have hu := h.1; have hm := h.2; have he := hu.len_eq
    simp only [findByte, bytes]
    by_cases h0 : u.len = 0
    · rw [if_pos h0, findFrom, if_pos (by rw [length_tile, ← he, h0, Nat.zero_mul]; exact Nat.zero_le _)]
    · rw [if_neg h0, umul_ok hm]
      simp only
      by_cases hoff : off ≥ u.len * c
      · rw [if_pos hoff, findFrom, if_pos (by rw [length_tile, ← he]; exact hoff)]
      · rw [if_neg hoff, ih hu, ih hu]
        -- `off` is position `off % u.len` of unit `off / u.len`: `findFrom_tile` there
        have hn : 0 < u.len := Nat.pos_of_ne_zero h0
        have hmlt : off % u.len < u.len := Nat.mod_lt _ hn
        have hstart : off / u.len < c := Nat.div_lt_of_lt_mul (Nat.lt_of_not_ge hoff)
        have hdm := Nat.div_add_mod off u.len
        have hft := findFrom_tile (b := b) (c := c) (s := off / u.len) (he ▸ hmlt) hstart
        rw [← he, hdm] at hft
        rw [hft]
        have hle : ∀ q, q < c → u.len * q + u.len ≤ u.len * c := fun q hq =>
          Nat.mul_succ u.len q ▸ Nat.mul_le_mul_left _ hq
        cases hx : findFrom u.bytes b (off % u.len) with
        | some pos =>
          have hpos := (findFrom_some hx).2
          have := hle _ hstart
          rw [Nat.mul_comm] at this
          simp only [umul_ok (show off / u.len * u.len < USIZE_LIMIT by omega),
            uadd_ok (show off / u.len * u.len + pos < USIZE_LIMIT by omega), Outcome.bind, Outcome.map,
            Nat.mul_comm u.len]
        | none =>
          simp only
          split
          · rename_i hnext
            cases hy : findFrom u.bytes b 0 with
            | some pos =>
              have hpos := (findFrom_some hy).2
              have := hle _ hnext
              rw [Nat.mul_comm] at this
              simp only [umul_ok (show (off / u.len + 1) * u.len < USIZE_LIMIT by omega),
                uadd_ok (show (off / u.len + 1) * u.len + pos < USIZE_LIMIT by omega), Outcome.bind,
                Outcome.map, Option.map, Nat.mul_comm u.len]
            | none => rfl
          · rfl
end Rope
end QM.Bytes
