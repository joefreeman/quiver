import QuiverModel.Core.Packaging.TreeShake
/-!
Totality of the mark phase of `tree_shake`: `markAll_total` — `markAll` returns marks for every program and entry.
The collectors by a potential (`Phi`: cost of the unmarked ids, `Phi_le_fuel`), the BFS by `markFns_total`.
-/
namespace QM.Packaging

/-- potential: the total cost of the ids below `n` that are not marked yet -/
def pot (c : Nat → Nat) : Nat → List Nat → Nat
  | 0, _ => 0
  | k + 1, l => pot c k l + (if k ∈ l then 0 else c k)

theorem pot_cons_ge (c : Nat → Nat) : ∀ (n t : Nat) (l : List Nat), n ≤ t → pot c n (t :: l) = pot c n l
  | 0, _, _, _ => rfl
  | k + 1, t, l, h => by
    have hne : k ≠ t := by omega
    simp only [pot, List.mem_cons, hne, false_or]
    rw [pot_cons_ge c k t l (by omega)]

theorem pot_cons_lt (c : Nat → Nat) : ∀ (n t : Nat) (l : List Nat), t < n → t ∉ l →
    pot c n (t :: l) + c t = pot c n l
  | 0, _, _, h, _ => by omega
  | k + 1, t, l, h, hn => by
    by_cases hk : k = t
    · subst hk
      simp only [pot, List.mem_cons, true_or, if_true, hn, if_false]
      rw [pot_cons_ge c k k l (Nat.le_refl _)]
      omega
    · have ih := pot_cons_lt c k t l (by omega) hn
      simp only [pot, List.mem_cons, hk, false_or]
      omega

theorem pot_cons_le (c : Nat → Nat) (n t : Nat) (l : List Nat) : pot c n (t :: l) ≤ pot c n l := by
  induction n with
  | zero => exact Nat.le_refl _
  | succ k ih =>
    simp only [pot, List.mem_cons]
    by_cases h1 : k = t
    · simp only [h1, true_or, if_true]
      subst h1
      omega
    · simp only [h1, false_or]
      omega

def cT (P : Prog) (t : Nat) : Nat :=
  match P.types[t]? with
  | some τ => 2 + (tyChildren τ).length
  | none => 2

def cU (P : Prog) (u : Nat) : Nat :=
  match P.tuples[u]? with
  | some T => 2 + T.fields.length
  | none => 2

/-- the potential of a mark state -/
def Phi (P : Prog) (m : Marks) : Nat := pot (cT P) P.types.size m.types + pot (cU P) P.tuples.size m.tuples

theorem Phi_addType_in {P : Prog} {m : Marks} {t : Nat} {τ : Ty} (ht : ¬ m.types.contains t = true)
    (hτ : P.types[t]? = some τ) :
    Phi P { m with types := t :: m.types } + 2 + (tyChildren τ).length = Phi P m := by
  have hlt : t < P.types.size := (Array.getElem?_eq_some_iff.mp hτ).1
  have hnot : t ∉ m.types := fun hm => ht (List.contains_iff_mem.mpr hm)
  have := pot_cons_lt (cT P) P.types.size t m.types hlt hnot
  simp only [cT, hτ] at this
  simp only [Phi]
  omega

theorem Phi_addType_le {P : Prog} {m : Marks} {t : Nat} : Phi P { m with types := t :: m.types } ≤ Phi P m := by
  have := pot_cons_le (cT P) P.types.size t m.types
  simp only [Phi]; omega

theorem Phi_addTuple_in {P : Prog} {m : Marks} {u : Nat} {T : TupleInfo} (hu : ¬ m.tuples.contains u = true)
    (hT : P.tuples[u]? = some T) :
    Phi P { m with tuples := u :: m.tuples } + 2 + T.fields.length = Phi P m := by
  have hlt : u < P.tuples.size := (Array.getElem?_eq_some_iff.mp hT).1
  have hnot : u ∉ m.tuples := fun hm => hu (List.contains_iff_mem.mpr hm)
  have := pot_cons_lt (cU P) P.tuples.size u m.tuples hlt hnot
  simp only [cU, hT] at this
  simp only [Phi]
  omega

theorem Phi_addTuple_le {P : Prog} {m : Marks} {u : Nat} : Phi P { m with tuples := u :: m.tuples } ≤ Phi P m := by
  have := pot_cons_le (cU P) P.tuples.size u m.tuples
  simp only [Phi]; omega

/-- Every nested call either hits the guard or marks a new id, and the cost of an id pays for the calls on its
    children. Fuel bounds the call DEPTH (siblings are called with the same fuel, a list walk costs one level per
    element), hence `Phi P m + ts.length + 1 ≤ fuel` for a list and `Phi P m' ≤ Phi P m` to go on after a sibling.
    (`m'.fns = m.fns` is carried along for the queue bound of the BFS.) -/
theorem collect_total (P : Prog) : ∀ (fuel : Nat),
    (∀ (t : Nat) (m : Marks), Phi P m + 1 ≤ fuel →
      ∃ m', collectType P fuel t m = some m' ∧ Phi P m' ≤ Phi P m ∧ m'.fns = m.fns) ∧
    (∀ (ts : List Nat) (m : Marks), Phi P m + ts.length + 1 ≤ fuel →
      ∃ m', collectTypes P fuel ts m = some m' ∧ Phi P m' ≤ Phi P m ∧ m'.fns = m.fns) ∧
    (∀ (id : Nat) (m : Marks), Phi P m + 1 ≤ fuel →
      ∃ m', collectTuple P fuel id m = some m' ∧ Phi P m' ≤ Phi P m ∧ m'.fns = m.fns) := by
  intro fuel
  induction fuel with
  | zero => exact ⟨fun _ _ h => by omega, fun _ _ h => by omega, fun _ _ h => by omega⟩
  | succ fuel ih =>
    obtain ⟨ihT, ihTs, ihU⟩ := ih
    refine ⟨fun t m h => ?_, fun ts m h => ?_, fun id m h => ?_⟩
    · simp only [collectType]
      split
      · exact ⟨m, rfl, Nat.le_refl _, rfl⟩
      · rename_i hc
        split
        · exact ⟨_, rfl, Phi_addType_le, rfl⟩
        · rename_i id hτ
          have hdec := Phi_addType_in hc hτ
          obtain ⟨m', h1, h2, h3⟩ := ihU id { m with types := t :: m.types } (by omega)
          exact ⟨m', h1, by omega, h3⟩
        · exact ⟨_, rfl, Phi_addType_le (m := m), rfl⟩
        · rename_i τ _ _ hτ
          have hdec := Phi_addType_in hc hτ
          obtain ⟨m', h1, h2, h3⟩ := ihTs (tyChildren τ) { m with types := t :: m.types } (by omega)
          exact ⟨m', h1, by omega, h3⟩
    · cases ts with
      | nil => exact ⟨m, rfl, Nat.le_refl _, rfl⟩
      | cons t ts =>
        rw [List.length_cons] at h
        obtain ⟨m1, h1, h2, h3⟩ := ihT t m (by omega)
        obtain ⟨m2, h4, h5, h6⟩ := ihTs ts m1 (by omega)
        exact ⟨m2, by simp only [collectTypes, h1, h4], by omega, h6.trans h3⟩
    · simp only [collectTuple]
      split
      · exact ⟨m, rfl, Nat.le_refl _, rfl⟩
      · rename_i hc
        split
        · exact ⟨_, rfl, Phi_addTuple_le, rfl⟩
        · rename_i T hT
          have hdec := Phi_addTuple_in hc hT
          obtain ⟨m', h1, h2, h3⟩ := ihTs (T.fields.map (·.2)) { m with tuples := id :: m.tuples }
            (by rw [List.length_map]; omega)
          exact ⟨m', h1, by omega, h3⟩

theorem collectType_total (P : Prog) (fuel t : Nat) (m : Marks) (h : Phi P m + 1 ≤ fuel) :
    ∃ m', collectType P fuel t m = some m' ∧ Phi P m' ≤ Phi P m ∧ m'.fns = m.fns :=
  (collect_total P fuel).1 t m h

theorem collectTypes_total (P : Prog) (fuel : Nat) (ts : List Nat) (m : Marks) (h : Phi P m + ts.length + 1 ≤ fuel) :
    ∃ m', collectTypes P fuel ts m = some m' ∧ Phi P m' ≤ Phi P m ∧ m'.fns = m.fns :=
  (collect_total P fuel).2.1 ts m h

theorem collectTuple_total (P : Prog) (fuel id : Nat) (m : Marks) (h : Phi P m + 1 ≤ fuel) :
    ∃ m', collectTuple P fuel id m = some m' ∧ Phi P m' ≤ Phi P m ∧ m'.fns = m.fns :=
  (collect_total P fuel).2.2 id m h

theorem pot_le_nil (c : Nat → Nat) (n : Nat) : ∀ (l : List Nat), pot c n l ≤ pot c n []
  | [] => Nat.le_refl _
  | t :: l => Nat.le_trans (pot_cons_le c n t l) (pot_le_nil c n l)

theorem pot_nil_eq_sum (c : Nat → Nat) : ∀ (n : Nat), pot c n [] = ((List.range n).map c).sum
  | 0 => rfl
  | k + 1 => by
    simp only [pot, List.not_mem_nil, if_false, List.range_succ, List.map_append, List.sum_append, List.map_cons,
      List.map_nil, List.sum_cons, List.sum_nil, Nat.add_zero]
    rw [pot_nil_eq_sum c k]

theorem foldl_add_sum {α : Type} (g : α → Nat) : ∀ (l : List α) (a : Nat),
    l.foldl (fun n x => n + g x) a = a + (l.map g).sum
  | [], a => by simp
  | x :: xs, a => by
    simp only [List.foldl_cons, List.map_cons, List.sum_cons]
    rw [foldl_add_sum g xs]; omega

theorem sum_range_cost {α : Type} (a : Nat) (g : α → Nat) : ∀ (l : List α) (c : Nat → Nat),
    (∀ k x, l[k]? = some x → c k = a + g x) → ((List.range l.length).map c).sum = a * l.length + (l.map g).sum
  | [], _, _ => by simp
  | x :: xs, c, hc => by
    have ih := sum_range_cost a g xs (c ∘ Nat.succ) (fun k y hk => hc (k + 1) y (by simpa using hk))
    have h0 : c 0 = a + g x := hc 0 x (by simp)
    simp only [List.length_cons, List.range_succ_eq_map, List.map_cons, List.map_map, List.sum_cons]
    rw [ih, h0, Nat.mul_succ]
    omega

/-- the initial potential, when every id costs `a` plus a per-entry amount -/
theorem pot_nil_cost {α : Type} (a : Nat) (g : α → Nat) (A : Array α) (c : Nat → Nat)
    (hc : ∀ k x, A[k]? = some x → c k = a + g x) :
    pot c A.size [] = a * A.size + A.foldl (fun n x => n + g x) 0 := by
  rw [← Array.foldl_toList, foldl_add_sum, Nat.zero_add, pot_nil_eq_sum, ← Array.length_toList,
    sum_range_cost a g A.toList c (fun k x hk => hc k x (by rw [← hk, Array.getElem?_toList]))]

theorem Phi_nil (P : Prog) : Phi P {} + 4 = collectFuel P := by
  have h1 := pot_nil_cost 2 (fun τ => (tyChildren τ).length) P.types (cT P) (fun k x hk => by simp only [cT, hk])
  have h2 := pot_nil_cost 2 (fun (T : TupleInfo) => T.fields.length) P.tuples (cU P)
    (fun k x hk => by simp only [cU, hk])
  show pot (cT P) P.types.size [] + pot (cU P) P.tuples.size [] + 4 = collectFuel P
  unfold collectFuel
  omega

theorem Phi_le_fuel (P : Prog) (m : Marks) : Phi P m + 1 ≤ collectFuel P := by
  have h1 := pot_le_nil (cT P) P.types.size m.types
  have h2 := pot_le_nil (cU P) P.tuples.size m.tuples
  have h3 := Phi_nil P
  have : Phi P m ≤ Phi P {} := by
    show pot (cT P) P.types.size m.types + pot (cU P) P.tuples.size m.tuples ≤
      pot (cT P) P.types.size [] + pot (cU P) P.tuples.size []
    omega
  omega

theorem collectType_fuel (P : Prog) (t : Nat) (m : Marks) :
    ∃ m', collectType P (collectFuel P) t m = some m' ∧ m'.fns = m.fns := by
  obtain ⟨m', h, _, hf⟩ := collectType_total P (collectFuel P) t m (Phi_le_fuel P m)
  exact ⟨m', h, hf⟩

theorem collectTuple_fuel (P : Prog) (u : Nat) (m : Marks) :
    ∃ m', collectTuple P (collectFuel P) u m = some m' ∧ m'.fns = m.fns := by
  obtain ⟨m', h, _, hf⟩ := collectTuple_total P (collectFuel P) u m (Phi_le_fuel P m)
  exact ⟨m', h, hf⟩

theorem markInstrs_total (P : Prog) : ∀ (is : List Instr) (m : Marks) (q : List Nat),
    ∃ m' q', markInstrs P is m q = some (m', q') ∧ q'.length ≤ q.length + is.length ∧ m'.fns = m.fns
  | [], m, q => ⟨m, q, rfl, Nat.le_refl _, rfl⟩
  | i :: is, m, q => by
    -- the tail, run from marks `m1` with the functions of `m` and a queue at most one longer
    have tail : ∀ (m1 : Marks) (q1 : List Nat), m1.fns = m.fns → q1.length ≤ q.length + 1 →
        ∃ m' q', markInstrs P is m1 q1 = some (m', q') ∧ q'.length ≤ q.length + (i :: is).length ∧ m'.fns = m.fns :=
      fun m1 q1 hf hq =>
        let ⟨m', q', h1, h2, h3⟩ := markInstrs_total P is m1 q1
        ⟨m', q', h1, by rw [List.length_cons]; omega, h3.trans hf⟩
    unfold markInstrs
    split
    · exact tail m _ rfl (by simp)
    · exact tail m _ rfl (by simp)
    · exact tail _ q rfl (Nat.le_succ _)
    · exact tail _ q rfl (Nat.le_succ _)
    · rename_i id
      obtain ⟨m1, hm1, hf1⟩ := collectType_fuel P id m
      simp only [hm1]
      exact tail m1 q hf1 (Nat.le_succ _)
    · rename_i id
      obtain ⟨m1, hm1, hf1⟩ := collectTuple_fuel P id m
      simp only [hm1]
      split
      · exact tail m1 q hf1 (Nat.le_succ _)
      · rename_i t _
        obtain ⟨m2, hm2, hf2⟩ := collectType_fuel P t m1
        simp only [hm2]
        exact tail m2 q (hf2.trans hf1) (Nat.le_succ _)
    · exact tail m q rfl (Nat.le_succ _)

def cF (P : Prog) (f : Nat) : Nat :=
  match P.fns[f]? with
  | some F => 1 + F.instrs.length
  | none => 1

/-- every queue entry is paid for by the instruction that pushed it: the cost of a function not yet marked covers
    its instructions and its own visit -/
theorem markFns_total (P : Prog) : ∀ (fuel : Nat) (q : List Nat) (m : Marks),
    q.length + pot (cF P) P.fns.size m.fns ≤ fuel → ∃ m', markFns P fuel q m = some m'
  | 0, [], m, _ => ⟨m, rfl⟩
  | 0, _ :: _, _, h => by simp at h
  | fuel + 1, [], m, _ => ⟨m, rfl⟩
  | fuel + 1, f :: q, m, h => by
    rw [List.length_cons] at h
    simp only [markFns]
    split
    · exact markFns_total P fuel q m (by omega)
    · rename_i hc
      split
      · have := pot_cons_le (cF P) P.fns.size f m.fns
        exact markFns_total P fuel q { m with fns := f :: m.fns } (by
          show q.length + pot (cF P) P.fns.size (f :: m.fns) ≤ fuel; omega)
      · rename_i F hFn
        have hlt : f < P.fns.size := (Array.getElem?_eq_some_iff.mp hFn).1
        have hdec := pot_cons_lt (cF P) P.fns.size f m.fns hlt (fun hm => hc (List.contains_iff_mem.mpr hm))
        simp only [cF, hFn] at hdec
        obtain ⟨m1, hm1, hf1⟩ := collectType_fuel P F.typeId { m with fns := f :: m.fns }
        obtain ⟨m2, q2, hm2, hq2, hf2⟩ := markInstrs_total P F.instrs m1 q
        rw [hm1]
        simp only [hm2]
        exact markFns_total P fuel q2 m2 (by rw [hf2, hf1]; show q2.length + pot (cF P) P.fns.size (f :: m.fns) ≤ fuel; omega)

theorem markBuiltins_total (P : Prog) : ∀ (bs : List Nat) (m : Marks), ∃ m', markBuiltins P bs m = some m'
  | [], m => ⟨m, rfl⟩
  | b :: bs, m => by
    simp only [markBuiltins]
    split
    · exact markBuiltins_total P bs m
    · rename_i B _
      obtain ⟨m1, hm1, _⟩ := collectType_fuel P B.paramType m
      obtain ⟨m2, hm2, _⟩ := collectType_fuel P B.resultType m1
      rw [hm1]
      simp only [hm2]
      exact markBuiltins_total P bs m2

/-- **The mark phase never runs out of fuel**: `markAll` is total — for every program, entry and variant. (So
    `treeShake P e = none` can only come from the sweep, i.e. from an index that is outside its table — where the
    Rust panics.) -/
theorem markAll_total (P : Prog) (e : Nat) (legacy : Bool) : ∃ m, markAll P e legacy = some m := by
  unfold markAll
  obtain ⟨m0, h0, hf0⟩ := collectTuple_fuel P 0 {}
  obtain ⟨m1, h1, hf1⟩ := collectTuple_fuel P 1 m0
  have hfuel : [e].length + pot (cF P) P.fns.size m1.fns ≤ bfsFuel P := by
    rw [hf1, hf0]
    have := pot_nil_cost 1 (fun (F : Fn) => F.instrs.length) P.fns (cF P) (fun k x hk => by simp only [cF, hk])
    show 1 + pot (cF P) P.fns.size [] ≤ bfsFuel P
    unfold bfsFuel
    omega
  obtain ⟨m2, h2⟩ := markFns_total P (bfsFuel P) [e] m1 hfuel
  obtain ⟨m3, h3⟩ := markBuiltins_total P m2.builtins m2
  rw [h0]
  simp only [h1, h2, h3]
  split
  · exact ⟨m3, rfl⟩
  · obtain ⟨m4, h4, _⟩ := collectTypes_total P (collectFuel P + (indexOnly P m3).length + 1) (indexOnly P m3) m3
      (by have := Phi_le_fuel P m3; omega)
    exact ⟨m4, h4⟩

end QM.Packaging
