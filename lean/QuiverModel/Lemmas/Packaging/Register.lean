import QuiverModel.Core.Packaging.Merge
import QuiverModel.Lemmas.Util.List
/-
The five `Program::register_*` (constant, function, type, tuple, builtin): each returns the index of an entry its
search finds, else pushes the entry. What they return holds the entry (`register*_get`, `register*_spec`), and every
table only grows at the end (`ArrLe`, `ProgLe5`).
-/
namespace QM.Packaging

/-- `a` is a prefix of `b` -/
def ArrLe {α : Type} (a b : Array α) : Prop := ∀ (i : Nat) (x : α), a[i]? = some x → b[i]? = some x

theorem ArrLe.refl {α : Type} (a : Array α) : ArrLe a a := fun _ _ h => h
theorem ArrLe.of_eq {α : Type} {a b : Array α} (h : b = a) : ArrLe a b := h ▸ ArrLe.refl a
theorem ArrLe.trans {α : Type} {a b c : Array α} (h1 : ArrLe a b) (h2 : ArrLe b c) : ArrLe a c :=
  fun i x h => h2 i x (h1 i x h)

theorem ArrLe.push {α : Type} (a : Array α) (x : α) : ArrLe a (a.push x) := by
  intro i y h
  obtain ⟨hlt, _⟩ := Array.getElem?_eq_some_iff.mp h
  rw [Array.getElem?_push, if_neg (Nat.ne_of_lt hlt)]
  exact h

theorem tyIndexOf?_spec {τ : Ty} {l : List Ty} {i : Nat} (h : tyIndexOf? τ l = some i) : l[i]? = some τ := by
  obtain ⟨x, hx, hp⟩ := indexOf?_spec (p := (· == τ)) rfl (fun _ _ => rfl) h
  rw [hx, eq_of_beq hp]

theorem tupIndexOf?_spec {T : TupleInfo} {l : List TupleInfo} {i : Nat} (h : tupIndexOf? T l = some i) :
    l[i]? = some T := by
  obtain ⟨x, hx, hp⟩ := indexOf?_spec (p := (· == T)) rfl (fun _ _ => rfl) h
  rw [hx, eq_of_beq hp]

theorem registerType_spec (P : Prog) (τ : Ty) :
    (P.registerType τ).1.types[(P.registerType τ).2]? = some τ ∧ ArrLe P.types (P.registerType τ).1.types ∧
      (P.registerType τ).1.tuples = P.tuples := by
  unfold Prog.registerType
  split
  · rename_i i hi
    exact ⟨(Array.getElem?_toList ..).symm.trans (tyIndexOf?_spec hi), ArrLe.refl _, rfl⟩
  · exact ⟨Array.getElem?_push_size, ArrLe.push _ _, rfl⟩

theorem registerTuple_spec (P : Prog) (T : TupleInfo) :
    (P.registerTuple T).1.tuples[(P.registerTuple T).2]? = some T ∧ ArrLe P.tuples (P.registerTuple T).1.tuples ∧
      (P.registerTuple T).1.types = P.types := by
  unfold Prog.registerTuple
  split
  · rename_i i hi
    exact ⟨(Array.getElem?_toList ..).symm.trans (tupIndexOf?_spec hi), ArrLe.refl _, rfl⟩
  · exact ⟨Array.getElem?_push_size, ArrLe.push _ _, rfl⟩

theorem builtinIndexOf?_spec {name : String} {l : List BuiltinInfo} {i : Nat}
    (h : builtinIndexOf? name l = some i) : ∃ B, l[i]? = some B ∧ B.name = name := by
  obtain ⟨B, hB, hp⟩ := indexOf?_spec (p := (·.name == name)) rfl (fun _ _ => rfl) h
  exact ⟨B, hB, eq_of_beq hp⟩

theorem registerBuiltin_get (P : Prog) (B : BuiltinInfo) :
    ∃ B', (P.registerBuiltin B).1.builtins[(P.registerBuiltin B).2]? = some B' ∧ B'.name = B.name := by
  unfold Prog.registerBuiltin
  split
  · rename_i i hi
    obtain ⟨B', h1, h2⟩ := builtinIndexOf?_spec hi
    exact ⟨B', (Array.getElem?_toList ..).symm.trans h1, h2⟩
  · exact ⟨B, Array.getElem?_push_size, rfl⟩

theorem indexOf?_get {k : Const} {l : List Const} {i : Nat} (h : indexOf? k l = some i) : l[i]? = some k := by
  obtain ⟨x, hx, hp⟩ := indexOf?_spec (p := (· == k)) rfl (fun _ _ => rfl) h
  rw [hx, eq_of_beq hp]

theorem fnIndexOf?_get {F : Fn} {l : List Fn} {i : Nat} (h : fnIndexOf? F l = some i) : l[i]? = some F := by
  obtain ⟨x, hx, hp⟩ := indexOf?_spec (p := (· == F)) rfl (fun _ _ => rfl) h
  rw [hx, eq_of_beq hp]

theorem registerConst_get (P : Prog) (k : Const) :
    (P.registerConst k).1.consts[(P.registerConst k).2]? = some k := by
  unfold Prog.registerConst
  split
  · rename_i i hi
    rw [← Array.getElem?_toList]
    exact indexOf?_get hi
  · exact Array.getElem?_push_size

theorem registerFn_get (P : Prog) (F : Fn) : (P.registerFn F).1.fns[(P.registerFn F).2]? = some F := by
  unfold Prog.registerFn
  split
  · rename_i i hi
    rw [← Array.getElem?_toList]
    exact fnIndexOf?_get hi
  · exact Array.getElem?_push_size

/-- all five tables of `P` are prefixes of those of `Q`: every index that meant something in `P` means the
    same in `Q` -/
structure ProgLe5 (P Q : Prog) : Prop where
  consts : ArrLe P.consts Q.consts
  fns : ArrLe P.fns Q.fns
  tuples : ArrLe P.tuples Q.tuples
  types : ArrLe P.types Q.types
  builtins : ArrLe P.builtins Q.builtins

theorem ProgLe5.refl (P : Prog) : ProgLe5 P P := ⟨ArrLe.refl _, ArrLe.refl _, ArrLe.refl _, ArrLe.refl _, ArrLe.refl _⟩
theorem ProgLe5.trans {P Q R : Prog} (h1 : ProgLe5 P Q) (h2 : ProgLe5 Q R) : ProgLe5 P R :=
  ⟨h1.consts.trans h2.consts, h1.fns.trans h2.fns, h1.tuples.trans h2.tuples, h1.types.trans h2.types,
   h1.builtins.trans h2.builtins⟩

theorem registerConst_le5 (P : Prog) (k : Const) : ProgLe5 P (P.registerConst k).1 := by
  unfold Prog.registerConst
  split
  · exact ProgLe5.refl _
  · exact ⟨ArrLe.push _ _, ArrLe.refl _, ArrLe.refl _, ArrLe.refl _, ArrLe.refl _⟩

theorem registerBuiltin_le5 (P : Prog) (B : BuiltinInfo) : ProgLe5 P (P.registerBuiltin B).1 := by
  unfold Prog.registerBuiltin
  split
  · exact ProgLe5.refl _
  · exact ⟨ArrLe.refl _, ArrLe.refl _, ArrLe.refl _, ArrLe.refl _, ArrLe.push _ _⟩

theorem registerFn_le5 (P : Prog) (F : Fn) : ProgLe5 P (P.registerFn F).1 := by
  unfold Prog.registerFn
  split
  · exact ProgLe5.refl _
  · exact ⟨ArrLe.refl _, ArrLe.push _ _, ArrLe.refl _, ArrLe.refl _, ArrLe.refl _⟩

theorem registerType_le5 (P : Prog) (τ : Ty) : ProgLe5 P (P.registerType τ).1 := by
  unfold Prog.registerType
  split
  · exact ProgLe5.refl _
  · exact ⟨ArrLe.refl _, ArrLe.refl _, ArrLe.refl _, ArrLe.push _ _, ArrLe.refl _⟩

theorem registerTuple_le5 (P : Prog) (T : TupleInfo) : ProgLe5 P (P.registerTuple T).1 := by
  unfold Prog.registerTuple
  split
  · exact ProgLe5.refl _
  · exact ⟨ArrLe.refl _, ArrLe.refl _, ArrLe.push _ _, ArrLe.refl _, ArrLe.refl _⟩

end QM.Packaging
