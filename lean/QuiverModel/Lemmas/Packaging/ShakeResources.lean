import QuiverModel.Lemmas.Packaging.SweepId
/-!
The resource-name list of `tree_shake`: `ResInv` (the name of every marked resource type is marked, no name
twice; `markAll_res`), `reach_res_inv`, and `second_shake_resources` — a second shake returns the same list.
-/
namespace QM.Packaging

structure ResInv (P : Prog) (m : Marks) : Prop where
  closed : ∀ t ∈ m.types, ∀ n, P.types[t]? = some (.resource n) → n ∈ m.resources
  nodup : m.resources.Nodup

theorem markAll_res {P : Prog} {e : Nat} {legacy : Bool} {m : Marks} (h : markAll P e legacy = some m) :
    ResInv P m :=
  ⟨fun t ht n hτ => (((markAll_refs h).1 (.ty t) ht).2 _ hτ).2 n rfl, (markAll_refs h).2.resources⟩

theorem insertStrAsc_perm (a : String) : ∀ (l : List String), (insertStrAsc a l).Perm (a :: l)
  | [] => List.Perm.refl _
  | b :: bs => by
    simp only [insertStrAsc]
    split
    · exact List.Perm.refl _
    · exact ((List.perm_cons b).mpr (insertStrAsc_perm a bs)).trans (List.Perm.swap a b bs)

theorem sortStrAsc_perm : ∀ (l : List String), (sortStrAsc l).Perm l
  | [] => List.Perm.refl _
  | a :: as => (insertStrAsc_perm a (sortStrAsc as)).trans ((List.perm_cons a).mpr (sortStrAsc_perm as))

theorem insertStrAsc_sorted (a : String) : ∀ (l : List String), l.Pairwise (· ≤ ·) → (insertStrAsc a l).Pairwise (· ≤ ·)
  | [], _ => by simp [insertStrAsc]
  | b :: bs, h => by
    simp only [insertStrAsc]
    obtain ⟨hb, hbs⟩ := List.pairwise_cons.mp h
    split
    · rename_i hab
      exact List.Pairwise.cons (fun x hx => by
        rcases List.mem_cons.mp hx with h | h
        · subst h; exact hab
        · exact String.le_trans hab (hb x h)) h
    · rename_i hab
      refine List.Pairwise.cons (fun x hx => ?_) (insertStrAsc_sorted a bs hbs)
      have hx' : x ∈ a :: bs := (insertStrAsc_perm a bs).subset hx
      rcases List.mem_cons.mp hx' with h | h
      · subst h
        rcases String.le_total b x with h1 | h1
        · exact h1
        · exact (hab h1).elim
      · exact hb x h

theorem sortStrAsc_sorted : ∀ (l : List String), (sortStrAsc l).Pairwise (· ≤ ·)
  | [] => by simp [sortStrAsc]
  | a :: as => insertStrAsc_sorted a _ (sortStrAsc_sorted as)

theorem str_sorted_ext {l1 l2 : List String} (h1 : l1.Pairwise (· ≤ ·)) (h2 : l2.Pairwise (· ≤ ·)) (n1 : l1.Nodup)
    (n2 : l2.Nodup) (h : ∀ a, a ∈ l1 ↔ a ∈ l2) : l1 = l2 :=
  List.Perm.eq_of_pairwise (fun _ _ _ _ => String.le_antisymm) h1 h2 ((List.perm_ext_iff_of_nodup n1 n2).mpr h)

theorem sortStrAsc_ext {l1 l2 : List String} (n1 : l1.Nodup) (n2 : l2.Nodup) (h : ∀ a, a ∈ l1 ↔ a ∈ l2) :
    sortStrAsc l1 = sortStrAsc l2 :=
  str_sorted_ext (sortStrAsc_sorted l1) (sortStrAsc_sorted l2) ((sortStrAsc_perm l1).nodup_iff.mpr n1)
    ((sortStrAsc_perm l2).nodup_iff.mpr n2)
    (fun a => by rw [(sortStrAsc_perm l1).mem_iff, (sortStrAsc_perm l2).mem_iff]; exact h a)

theorem reach_res_inv {P : Prog} {e : Nat} {n : String} (h : Reach P e (.res n)) :
    ∃ t, Reach P e (.ty t) ∧ P.types[t]? = some (.resource n) := by
  cases h with
  | resOf hr hτ => exact ⟨_, hr, hτ⟩

theorem second_shake_resources {P : Prog} {e : Nat} {m m2 : Marks} {out out2 : ShakeOut}
    (hm : markAll P e false = some m) (h : sweep P e m = some out)
    (hm2 : markAll out.prog out.entry false = some m2) (h2 : sweep out.prog out.entry m2 = some out2) :
    out2.prog.resources = out.prog.resources := by
  obtain ⟨_, _, _, _, _, _, _, _, hr1⟩ := sweep_fns_builtins h
  obtain ⟨_, _, _, _, _, _, _, _, hr2⟩ := sweep_fns_builtins h2
  rw [hr1, hr2]
  congr 1
  have R1 := markAll_res hm
  have R2 := markAll_res hm2
  have hc := markAll_closed hm
  obtain ⟨hren, hs⟩ := sweep_structRenaming h hc
  refine sortStrAsc_ext R2.nodup R1.nodup (fun n => ⟨fun hn => ?_, fun hn => ?_⟩)
  · -- a name kept by the second shake comes from a type of the shaken program, i.e. from a kept type of `P`
    obtain ⟨t', _, ht'⟩ := reach_res_inv ((markAll_just hm2).resources n hn)
    have hlt : t' < out.prog.types.size := (Array.getElem?_eq_some_iff.mp ht').1
    obtain ⟨t, htm, hg⟩ := rank_onto (sortAsc_nodup hc.nodupTypes) (by rw [← (sweep_sizes h).2.2.2.1]; exact hlt)
    have hg' : out.ren.type.get t = some t' := by rw [hren]; exact hg
    obtain ⟨τ, τ', hτ, hτ', hrt⟩ := hs.types t t' hg'
    rw [ht'] at hτ'; cases hτ'
    have : τ = .resource n := renameTy_some hrt
    subst this
    exact R1.closed t (mem_sortAsc.mp htm) n hτ
  · -- a name kept by the first shake is reachable, hence reachable in the shaken program, hence kept again
    have r1 := (markAll_just hm).resources n hn
    have r2 := sweep_transfer hm h _ r1 (.res n) rfl
    obtain ⟨t', hrt', ht'⟩ := reach_res_inv r2
    exact R2.closed t' (reach_marked hm2 h2 _ hrt') n ht'

end QM.Packaging
