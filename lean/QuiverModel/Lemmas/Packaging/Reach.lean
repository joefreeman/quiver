import QuiverModel.Lemmas.Packaging.Mark
/-
Exactness of `tree_shake`'s mark phase (T3), read off `markAll_grow` (Mark.lean): `markAll_just` — the marks are a SUBSET
of the reachable items (`Reach`, Reachable.lean; `C10.treeShake_keeps_only_reachable`) — and `markAll_reach` — everything
reachable is marked; together `markAll_exact`.
-/
namespace QM.Packaging

theorem markAll_just {P : Prog} {e : Nat} {legacy : Bool} {m : Marks} (h : markAll P e legacy = some m) :
    Just P e m :=
  have r : ∀ x, m.has x → Reach P e x := fun x hx => ((markAll_refs h).1 x hx).1
  ⟨fun f => r (.fn f), fun c => r (.const c), fun u => r (.tuple u), fun t => r (.ty t), fun b => r (.builtin b),
    fun n => r (.res n)⟩

theorem markAll_nodup {P : Prog} {e : Nat} {legacy : Bool} {m : Marks} (h : markAll P e legacy = some m) :
    m.fns.Nodup ∧ m.consts.Nodup ∧ m.builtins.Nodup :=
  ⟨(markAll_refs h).2.fns, (markAll_refs h).2.consts, (markAll_refs h).2.builtins⟩

theorem markAll_extra {P : Prog} {e : Nat} {legacy : Bool} {m : Marks} (h : markAll P e legacy = some m) :
    TT P m ∧ (legacy = false → ∀ (t : Nat) (τ : Ty), P.types[t]? = some τ → isIndexOnly P m τ = true → t ∈ m.types) :=
  (markAll_spec h).2

theorem isIndexOnly_mono (P : Prog) {m0 m : Marks} (hf : ∀ f ∈ m0.fns, f ∈ m.fns)
    (hb : ∀ b ∈ m0.builtins, b ∈ m.builtins) {τ : Ty} (h : isIndexOnly P m0 τ = true) :
    isIndexOnly P m τ = true := by
  cases τ with
  | process s r =>
    cases s with
    | none => cases h
    | some s =>
      cases r with
      | none => cases h
      | some r =>
        simp only [isIndexOnly, List.any_eq_true] at h ⊢
        obtain ⟨f, hfm, hp⟩ := h
        exact ⟨f, hf f hfm, hp⟩
  | callable p r v =>
    simp only [isIndexOnly, Bool.and_eq_true, List.any_eq_true] at h ⊢
    obtain ⟨hv, b, hbm, hp⟩ := h
    exact ⟨hv, b, hb b hbm, hp⟩
  | _ => cases h

theorem rank_mem {l : List Nat} {a i : Nat} (h : (rankMap (sortAsc l)).get a = some i) : a ∈ l :=
  mem_sortAsc.mp (List.mem_of_getElem? (rankMap_get h))

/-- is the item among the marks? A resource NAME always counts: `Closed` does not track names (`Marks.has` does). -/
def InMarks (m : Marks) : ShakeItem → Prop
  | .fn f => f ∈ m.fns
  | .const c => c ∈ m.consts
  | .tuple u => u ∈ m.tuples
  | .ty t => t ∈ m.types
  | .builtin b => b ∈ m.builtins
  | .res _ => True

/-- **Everything reachable is marked**, resource names included: the marks are closed under every rule of `Reach`
    (`Refs`; an operand of a kept function was marked or queued when its instruction was visited). -/
theorem markAll_reach {P : Prog} {e : Nat} {m : Marks} (hm : markAll P e false = some m) :
    ∀ x, Reach P e x → m.has x := by
  obtain ⟨_, he, h0, h1, hb, hio⟩ := markAll_grow hm
  have refs : ∀ x, m.has x → Refs P m x := fun x hx => ((markAll_refs hm).1 x hx).2
  intro x hr
  induction hr with
  | entry => exact he
  | nil => exact h0
  | ok => exact h1
  | fnType _ hF ih => exact (refs _ ih _ hF).1
  | callee _ hF hi ih | procFn _ hF hi ih | const _ hF hi ih | builtin _ hF hi ih | isType _ hF hi ih
  | mkTuple _ hF hi ih => exact ((refs _ ih _ hF).2 _ hi).1
  | mkTupleType _ hF hi ht ih => exact ((refs _ ih _ hF).2 _ hi).2 _ rfl _ ht
  | @child t τ x _ hτ hx ih =>
    have hmk := (refs _ ih τ hτ).1
    cases τ with
    | tuple id => cases hx
    | _ => exact hmk x hx
  | tupleOf _ hτ ih => exact (refs _ ih _ hτ).1
  | resOf _ hτ ih => exact (refs _ ih _ hτ).2 _ rfl
  | field _ hT hp ih => exact refs _ ih _ hT _ hp
  | bParam _ hB ih => exact (hb _ ih _ hB).1
  | bResult _ hB ih => exact (hb _ ih _ hB).2
  | indexOnly hτ hio' _ _ ihf ihb => exact hio rfl _ _ hτ (isIndexOnly_mono P ihf ihb hio')

/-- **The mark phase computes exactly the reachable items**, each once. -/
theorem markAll_exact {P : Prog} {e : Nat} {m : Marks} (hm : markAll P e false = some m) :
    (∀ x, m.has x ↔ Reach P e x) ∧ m.Nodup :=
  ⟨fun x => ⟨fun hx => ((markAll_refs hm).1 x hx).1, markAll_reach hm x⟩, (markAll_refs hm).2⟩

theorem reach_marked {P : Prog} {e : Nat} {m : Marks} {out : ShakeOut} (hm : markAll P e false = some m)
    (hs : sweep P e m = some out) : ∀ x, Reach P e x → InMarks m x := by
  intro x hr
  have := markAll_reach hm x hr
  cases x with
  | res _ => trivial
  | _ => exact this

end QM.Packaging
