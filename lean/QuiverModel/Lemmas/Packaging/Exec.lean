import QuiverModel.Lemmas.Packaging.Rel
import QuiverModel.Lemmas.Packaging.ValueInstrs
/-
One instruction commutes with a renaming (`exec_commutes`); `fetch_rel` relates the fetches of two related
frames. `C10.step_commutes` (Theorems/C10.lean) adds the frame auto-pop and completion.
-/
namespace QM.Packaging

variable {ρ : Ren} {P P' : Prog} {e e' : Nat}

theorem beq_of_inj {m : AMap} (hinj : m.Inj) {a a' b b' : Nat} (ha : m.get a = some a')
    (hb : m.get b = some b') : (a == b) = (a' == b') := by
  by_cases h : a = b
  · have h' : a' = b' := by subst h; rw [ha] at hb; cases hb; rfl
    rw [h, h']; simp
  · have h' : a' ≠ b' := by
      intro h'; subst h'
      exact h (hinj _ _ _ ha hb)
    rw [beq_eq_false_iff_ne.mpr h, beq_eq_false_iff_ne.mpr h']

theorem veqList_rel_of (as : List Val)
    (ih : ∀ a ∈ as, ∀ (a' b b' : Val), RelVal ρ a a' → RelVal ρ b b' → veq P a b = veq P' a' b') :
    ∀ (as' bs bs' : List Val), RelVals ρ as as' → RelVals ρ bs bs' → veqList P as bs = veqList P' as' bs' := by
  induction as with
  | nil => intro _ _ _ h1 h2; cases h1; cases h2 <;> rfl
  | cons a as ihas =>
    intro _ _ _ h1 h2
    obtain ⟨iha, ih⟩ := List.forall_mem_cons.1 ih
    cases h1 with
    | cons hx hxs =>
      cases h2 with
      | nil => rfl
      | cons hy hys =>
        show (_ && _) = (_ && _)
        rw [iha _ _ _ hx hy, ihas ih _ _ _ hxs hys]

/-- `values_equal` commutes with ρ (function / tuple ids through injectivity and `canon`). Two values with different
    constructors are unequal on both sides by evaluation. -/
theorem veq_rel (hρ : IsRenaming ρ P P' e e') :
    ∀ (a a' b b' : Val), RelVal ρ a a' → RelVal ρ b b' → veq P a b = veq P' a' b' := by
  intro a
  induction a using Val.induction with
  | int _ | bin _ | ref _ | res _ _ => intro _ _ _ h1 h2; cases h1; cases h2 <;> rfl
  | builtin _ =>
    intro _ _ _ h1 h2
    cases h1 with
    | builtin hb1 =>
      cases h2 with
      | builtin hb2 => exact beq_of_inj hρ.inj_builtin hb1 hb2
      | _ => rfl
  | proc _ _ =>
    intro _ _ _ h1 h2
    cases h1 with
    | proc pid hf1 =>
      cases h2 with
      | proc pid2 hf2 => exact congrArg (_ && ·) (beq_of_inj hρ.inj_fn hf1 hf2)
      | _ => rfl
  | tuple t fs ih =>
    intro _ _ _ h1 h2
    cases h1 with
    | tuple ht hfs =>
      cases h2 with
      | tuple ht2 hfs2 =>
        have hc : (P.canonOf _ == P.canonOf _) = (P'.canonOf _ == P'.canonOf _) :=
          Bool.eq_iff_iff.mpr (by simpa using hρ.canon _ _ _ _ ht ht2)
        show (_ && _) = (_ && _)
        rw [hc, veqList_rel_of fs ih _ _ _ hfs hfs2]
      | _ => rfl
  | fn f cs ih =>
    intro _ _ _ h1 h2
    cases h1 with
    | fn hf hcs =>
      cases h2 with
      | fn hf2 hcs2 =>
        show (_ && _) = (_ && _)
        rw [beq_of_inj hρ.inj_fn hf hf2, veqList_rel_of cs ih _ _ _ hcs hcs2]
      | _ => rfl

theorem veqList_rel (hρ : IsRenaming ρ P P' e e') :
    ∀ (a a' b b' : List Val), RelVals ρ a a' → RelVals ρ b b' → veqList P a b = veqList P' a' b' :=
  fun a => veqList_rel_of a (fun x _ => veq_rel hρ x)

theorem RelFrame.advance {fr fr' : Frame} (h : RelFrame ρ fr fr') : RelFrame ρ (advance fr) (advance fr') :=
  ⟨h.fn, h.base, h.caps, by simp [QM.Packaging.advance, h.pc]⟩

theorem relNext {st st' lo lo' : List Val} {frs frs' : List Frame} {p : Bool}
    (hst : RelVals ρ st st') (hlo : RelVals ρ lo lo') (hfr : All2 (RelFrame ρ) frs frs') :
    RelRes ρ (.next { stack := st, locals := lo, frames := frs, persistent := p })
             (.next { stack := st', locals := lo', frames := frs', persistent := p }) :=
  .next ⟨hst, hlo, hfr, rfl⟩

theorem relCont {stk stk' lo lo' : List Val} {frs frs' : List Frame} {p : Bool} {fr fr' : Frame}
    {rest rest' : List Frame} {st st' : List Val}
    (hst : RelVals ρ st st') (hlo : RelVals ρ lo lo') (hfr : RelFrame ρ fr fr')
    (hrest : All2 (RelFrame ρ) rest rest') :
    RelRes ρ (cont { stack := stk, locals := lo, frames := frs, persistent := p } fr rest st)
             (cont { stack := stk', locals := lo', frames := frs', persistent := p } fr' rest' st') :=
  .next ⟨hst, hlo, .cons hfr.advance hrest, rfl⟩

theorem exec_commutes (hρ : IsRenaming ρ P P' e e') {B B' : BuiltinSem} (hB : BuiltinsCommute ρ B B')
    {s s' : St} {fr fr' : Frame} {rest rest' : List Frame}
    (hs : RelSt ρ s s') (hfr : RelFrame ρ fr fr') (hrest : All2 (RelFrame ρ) rest rest')
    {i i' : Instr} (hi : renameInstr ρ i = some i')
    (hist : ∀ t t' v v' st, i = .isType t → ρ.type.get t = some t' → s.stack = v :: st → RelVal ρ v v' →
      P.isCompat t v.tag = P'.isCompat t' v'.tag) :
    RelRes ρ (exec P B s fr rest i) (exec P' B' s' fr' rest' i') := by
  obtain ⟨hstack, hlocals, hframes, hpers⟩ := hs
  rcases s with ⟨stk, lo, frs, pe⟩
  rcases s' with ⟨stk', lo', frs', pe'⟩
  simp only at hstack hlocals hframes hpers hist
  subst hpers
  have hnil := RelVal.nil hρ.nil_fixed
  have hok := RelVal.ok hρ.ok_fixed
  cases i with
  | const c =>
    simp only [renameInstr, Option.map_eq_some_iff] at hi
    obtain ⟨c', hc, rfl⟩ := hi
    obtain ⟨k, hk, hk'⟩ := hρ.consts c c' hc
    simp only [exec, hk, hk']
    cases k with
    | int z => exact relCont (.cons (.int z) hstack) hlocals hfr hrest
    | bin bs => exact relCont (.cons (.bin bs) hstack) hlocals hfr hrest
  | pop =>
    cases hi
    cases hstack with
    | nil => exact .err _
    | cons _ hst => exact relCont hst hlocals hfr hrest
  | dup =>
    cases hi
    cases hstack with
    | nil => exact .err _
    | cons hv hst => exact relCont (.cons hv (.cons hv hst)) hlocals hfr hrest
  | pick n =>
    cases hi
    simp only [exec]
    rcases hstack.get? n with ⟨h1, h2⟩ | ⟨a, b, h1, h2, hab⟩
    · rw [h1, h2]; exact .err _
    · rw [h1, h2]; exact relCont (.cons hab hstack) hlocals hfr hrest
  | rotate n =>
    cases hi
    simp only [exec, hstack.length_eq]
    split
    · exact .err _
    · cases n with
      | zero => exact .panic
      | succ k =>
        simp only
        rcases hstack.get? k with ⟨h1, h2⟩ | ⟨a, b, h1, h2, hab⟩
        · rw [h1, h2]; exact .err _
        · rw [h1, h2]; exact relCont (.cons hab (hstack.eraseIdx k)) hlocals hfr hrest
  | reset n =>
    cases hi
    simp only [exec, hlocals.length_eq, hfr.base]
    split
    · exact .err _
    · exact relNext hstack (hlocals.take _) (.cons hfr.advance hrest)
  | load n =>
    cases hi
    simp only [exec, hfr.base]
    rcases hlocals.get? (fr.base + n) with ⟨h1, h2⟩ | ⟨a, b, h1, h2, hab⟩
    · rw [h1, h2]; exact .err _
    · rw [h1, h2]; exact relCont (.cons hab hstack) hlocals hfr hrest
  | store =>
    cases hi
    cases hstack with
    | nil => exact .err _
    | cons hv hst => exact relNext hst (hlocals.append (.cons hv .nil)) (.cons hfr.advance hrest)
  | tuple t =>
    simp only [renameInstr, Option.map_eq_some_iff] at hi
    obtain ⟨t', ht, rfl⟩ := hi
    obtain ⟨T, T', hT, hT', _, hlabels, _⟩ := hρ.tuples t t' ht
    have hlen : T'.fields.length = T.fields.length := by
      have := congrArg List.length hlabels
      simpa using this
    simp only [exec, hT, hT', hlen, hstack.length_eq]
    split
    · exact .err _
    · exact relCont (.cons (.tuple ht (hstack.take _).reverse) (hstack.drop _)) hlocals hfr hrest
  | get n =>
    cases hi
    cases hstack with
    | nil => exact .err _
    | cons hv hst =>
      cases hv with
      | tuple ht hfs =>
        simp only [exec]
        rcases hfs.get? n with ⟨h1, h2⟩ | ⟨a, b, h1, h2, hab⟩
        · rw [h1, h2]; exact .err _
        · rw [h1, h2]; exact relCont (.cons hab hst) hlocals hfr hrest
      | _ => exact .err _
  | isType t =>
    simp only [renameInstr, Option.map_eq_some_iff] at hi
    obtain ⟨t', ht, rfl⟩ := hi
    cases hstack with
    | nil => exact .err _
    | cons hv hst =>
      rename_i v v' st st'
      simp only [exec]
      rw [← hist t t' v v' st rfl ht rfl hv]
      split
      · exact relCont (.cons hok hst) hlocals hfr hrest
      · exact relCont (.cons hnil hst) hlocals hfr hrest
  | jump off =>
    cases hi
    simp only [exec, hfr.pc]
    exact relNext hstack hlocals (.cons ⟨hfr.fn, hfr.base, hfr.caps, rfl⟩ hrest)
  | jumpIf off =>
    cases hi
    cases hstack with
    | nil => exact .err _
    | cons hv hst =>
      simp only [exec, hv.isNil hρ.nil_fixed hρ.inj_tuple, hfr.pc]
      split
      · exact relCont hst hlocals hfr hrest
      · exact relNext hst hlocals (.cons ⟨hfr.fn, hfr.base, hfr.caps, rfl⟩ hrest)
  | call =>
    cases hi
    cases hstack with
    | nil => exact .err _
    | cons hv hst =>
      cases hv with
      | fn hf hcs =>
        rename_i f f' cs cs'
        obtain ⟨F, F', hF, hF', _⟩ := hρ.fns f f' hf
        simp only [exec, hF, hF']
        cases hst with
        | nil => exact .err _
        | cons harg hst' =>
          refine relNext (.cons harg hst') (hlocals.append hcs) (.cons ?_ (.cons hfr hrest))
          exact ⟨hf, by simp [hlocals.length_eq], by simp [hcs.length_eq], rfl⟩
      | builtin hb =>
        rename_i b b'
        simp only [exec]
        cases hst with
        | nil => exact .err _
        | cons harg hst' =>
          obtain ⟨I, I', hI, hI', hname, _⟩ := hρ.builtins b b' hb
          simp only [hI, hI', hname]
          have hb := hB I.name _ _ harg
          generalize B I.name _ = r1 at hb ⊢
          generalize B' I.name _ = r2 at hb ⊢
          cases hb with
          | value hv => exact relCont (.cons hv hst') hlocals hfr hrest
          | err e => exact .err _
          | action => exact .yield ⟨.cons (.builtin hb) (.cons harg hst'), hlocals, hframes, rfl⟩ rfl
          | panic => exact .panic
      | int _ => exact .err _
      | bin _ => exact .err _
      | ref _ => exact .err _
      | tuple _ _ => exact .err _
      | proc _ _ => exact .err _
      | res _ _ => exact .err _
  | tailCall r =>
    cases hi
    cases r with
    | true =>
      cases hstack with
      | nil => exact .err _
      | cons harg hst =>
        simp only [exec, hfr.base, hfr.caps]
        exact relNext (.cons harg hst) (hlocals.take _) (.cons ⟨hfr.fn, rfl, rfl, rfl⟩ hrest)
    | false =>
      cases hstack with
      | nil => exact .err _
      | cons hv hst =>
        cases hst with
        | nil => exact .err _
        | cons harg hst' =>
          cases hv with
          | fn hf hcs =>
            rename_i f f' cs cs'
            obtain ⟨F, F', hF, hF', _⟩ := hρ.fns f f' hf
            simp only [exec, hF, hF', hfr.base]
            refine relNext (.cons harg hst') ((hlocals.take _).append hcs) (.cons ?_ hrest)
            exact ⟨hf, rfl, by simp [hcs.length_eq], rfl⟩
          | int _ => exact .err _
          | bin _ => exact .err _
          | ref _ => exact .err _
          | tuple _ _ => exact .err _
          | builtin _ => exact .err _
          | proc _ _ => exact .err _
          | res _ _ => exact .err _
  | function f =>
    simp only [renameInstr, Option.map_eq_some_iff] at hi
    obtain ⟨f', hf, rfl⟩ := hi
    obtain ⟨F, F', hF, hF', hcap, _⟩ := hρ.fns f f' hf
    simp only [exec, hF, hF', hcap, hstack.length_eq]
    split
    · exact .err _
    · exact relCont (.cons (.fn hf (hstack.take _).reverse) (hstack.drop _)) hlocals hfr hrest
  | builtin b =>
    simp only [renameInstr, Option.map_eq_some_iff] at hi
    obtain ⟨b', hb, rfl⟩ := hi
    obtain ⟨I, I', hI, hI', _⟩ := hρ.builtins b b' hb
    have h1 : b < P.builtins.size := (Array.getElem?_eq_some_iff.mp hI).1
    have h2 : b' < P'.builtins.size := (Array.getElem?_eq_some_iff.mp hI').1
    simp only [exec, h1, h2, if_true]
    exact relCont (.cons (.builtin hb) hstack) hlocals hfr hrest
  | equal n =>
    cases hi
    simp only [exec, hstack.length_eq]
    split
    · exact .err _
    · have hrev := (hstack.take n).reverse
      generalize (List.take n stk).reverse = l1 at hrev ⊢
      generalize (List.take n stk').reverse = l2 at hrev ⊢
      cases hrev with
      | nil => exact .panic
      | cons hfirst hothers =>
        simp only
        rw [hothers.all_eq (fun a b hab => veq_rel hρ _ _ _ _ hfirst hab)]
        split
        · exact relCont (.cons hfirst (hstack.drop _)) hlocals hfr hrest
        · exact relCont (.cons hnil (hstack.drop _)) hlocals hfr hrest
  | not =>
    cases hi
    cases hstack with
    | nil => exact .err _
    | cons hv hst =>
      simp only [exec, hv.isNil hρ.nil_fixed hρ.inj_tuple]
      split
      · exact relCont (.cons hok hst) hlocals hfr hrest
      · exact relCont (.cons hnil hst) hlocals hfr hrest
  | spawn => cases hi; exact .yield ⟨hstack, hlocals, hframes, rfl⟩ rfl
  | send => cases hi; exact .yield ⟨hstack, hlocals, hframes, rfl⟩ rfl
  | self => cases hi; exact .yield ⟨hstack, hlocals, hframes, rfl⟩ rfl
  | select => cases hi; exact .yield ⟨hstack, hlocals, hframes, rfl⟩ rfl
  | process pid f =>
    simp only [renameInstr, Option.map_eq_some_iff] at hi
    obtain ⟨f', hf, rfl⟩ := hi
    exact .yield ⟨hstack, hlocals, hframes, rfl⟩ (by simp [renameInstr, hf])

theorem fetch_rel (hρ : IsRenaming ρ P P' e e') {fr fr' : Frame} (hfr : RelFrame ρ fr fr') :
    (fetch P fr = none ∧ fetch P' fr' = none) ∨
    ∃ i i' F, P.fns[fr.fn]? = some F ∧ F.instrs[fr.pc]? = some i ∧ fetch P fr = some i ∧
      fetch P' fr' = some i' ∧ renameInstr ρ i = some i' := by
  obtain ⟨F, F', hF, hF', _, hinstrs, _⟩ := hρ.fns _ _ hfr.fn
  unfold fetch
  rw [hF, hF', hfr.pc]
  rcases mapOpt_get? hinstrs fr.pc with ⟨h1, h2⟩ | ⟨a, b, h1, h2, hab⟩
  · left; exact ⟨h1, h2⟩
  · right; exact ⟨a, b, F, rfl, h1, h1, h2, hab⟩

end QM.Packaging

