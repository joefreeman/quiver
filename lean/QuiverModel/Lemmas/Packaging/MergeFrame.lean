import QuiverModel.Lemmas.Packaging.MergeImport
/-!
`merge_bytecode` only appends: `merge_extends_env` — all five tables of the environment's program are prefixes of
the merged ones (`ProgLe5`), without hypothesis. On the way: `import_rel` (a relation kept by the two `register_*`
steps is kept by the deep import), its instances `Fr` and `Pre`, and `RegLoop`, the common shape of the constant,
builtin and function loops.
-/
namespace QM.Packaging

section
variable (src : Prog) {R : MergeSt → MergeSt → Prop} (refl : ∀ st, R st st) (trans : ∀ {a b c}, R a b → R b c → R a c)
  (regType : ∀ st τ old, R st { st with prog := (st.prog.registerType τ).1,
                                        tyMap := (old, (st.prog.registerType τ).2) :: st.tyMap })
  (regTuple : ∀ st T old, R st { st with prog := (st.prog.registerTuple T).1,
                                         tuMap := (old, (st.prog.registerTuple T).2) :: st.tuMap })
include refl trans regType regTuple

theorem import_rel (fuel : Nat) (st st' : MergeSt) :
    (∀ old n, importType false src fuel old st = some (st', n) → R st st') ∧
    (∀ τ τ', importTyValue false src fuel τ st = some (st', τ') → R st st') ∧
    (∀ ts ts', importTypes false src fuel ts st = some (st', ts') → R st st') ∧
    (∀ old n, importTuple false src fuel old st = some (st', n) → R st st') :=
  -- the cases in the order of `import_induct`: only `ty_new` and `tu_new` register, `cons` and `process` compose
  import_induct src (PTy := fun _ st st' _ => R st st') (PTu := fun _ st st' _ => R st st')
    (PVal := fun _ st st' _ => R st st') (PTys := fun _ st st' _ => R st st') (POpt := fun _ st st' _ => R st st')
    (fun _ => refl _) (fun _ h => trans h (regType ..)) (fun _ => refl _) (fun _ h => trans h (regTuple ..))
    (refl _) trans (refl _) id id id id id trans (fun _ => refl _) fuel st st'

theorem importAll_rel :
    (∀ ts st st', importAllTypes false src ts st = some st' → R st st') ∧
    (∀ ts st st', importAllTuples false src ts st = some st' → R st st') := by
  have step := import_rel src refl trans regType regTuple
  refine ⟨fun ts => ?_, fun ts => ?_⟩
  · induction ts with
    | nil => intro st _ h; cases h; exact refl st
    | cons t ts ih =>
      intro st st' h
      simp only [importAllTypes] at h
      split at h
      · cases h
      · exact trans ((step _ _ _).1 _ _ ‹_›) (ih _ _ h)
  · induction ts with
    | nil => intro st _ h; cases h; exact refl st
    | cons t ts ih =>
      intro st st' h
      simp only [importAllTuples] at h
      split at h
      · cases h
      · exact trans ((step _ _ _).2.2.2 _ _ ‹_›) (ih _ _ h)

end

/-- `Fr` = frame: the constant, function and builtin tables of the two states are equal -/
def Fr (st st' : MergeSt) : Prop :=
  st'.prog.consts = st.prog.consts ∧ st'.prog.fns = st.prog.fns ∧ st'.prog.builtins = st.prog.builtins

theorem Fr.refl (st : MergeSt) : Fr st st := ⟨rfl, rfl, rfl⟩
theorem Fr.trans {a b c : MergeSt} (h1 : Fr a b) (h2 : Fr b c) : Fr a c :=
  ⟨h2.1.trans h1.1, h2.2.1.trans h1.2.1, h2.2.2.trans h1.2.2⟩

theorem Fr.of_registerType (st : MergeSt) (τ : Ty) (old : Nat) :
    Fr st { st with prog := (st.prog.registerType τ).1, tyMap := (old, (st.prog.registerType τ).2) :: st.tyMap } := by
  unfold Fr Prog.registerType
  split <;> exact ⟨rfl, rfl, rfl⟩

theorem Fr.of_registerTuple (st : MergeSt) (T : TupleInfo) (old : Nat) :
    Fr st { st with prog := (st.prog.registerTuple T).1, tuMap := (old, (st.prog.registerTuple T).2) :: st.tuMap } := by
  unfold Fr Prog.registerTuple
  split <;> exact ⟨rfl, rfl, rfl⟩

theorem importTypes_fr (src : Prog) : ∀ (fuel : Nat) (ts : List Nat) (st st' : MergeSt) (ts' : List Nat),
    importTypes false src fuel ts st = some (st', ts') → Fr st st'
  | fuel, ts, st, st', ts', h =>
    (import_rel src Fr.refl Fr.trans Fr.of_registerType Fr.of_registerTuple fuel st st').2.2.1 ts ts' h

/-- `Pre` = prefix: the type and tuple tables of `st` are prefixes (`ArrLe`) of those of `st'` -/
def Pre (st st' : MergeSt) : Prop := ArrLe st.prog.types st'.prog.types ∧ ArrLe st.prog.tuples st'.prog.tuples

theorem Pre.refl (st : MergeSt) : Pre st st := ⟨ArrLe.refl _, ArrLe.refl _⟩
theorem Pre.trans {a b c : MergeSt} (h1 : Pre a b) (h2 : Pre b c) : Pre a c := ⟨h1.1.trans h2.1, h1.2.trans h2.2⟩

theorem Pre.of_registerType (st : MergeSt) (τ : Ty) (old : Nat) :
    Pre st { st with prog := (st.prog.registerType τ).1, tyMap := (old, (st.prog.registerType τ).2) :: st.tyMap } := by
  obtain ⟨_, a, b⟩ := registerType_spec st.prog τ
  exact ⟨a, ArrLe.of_eq b⟩

theorem Pre.of_registerTuple (st : MergeSt) (T : TupleInfo) (old : Nat) :
    Pre st { st with prog := (st.prog.registerTuple T).1, tuMap := (old, (st.prog.registerTuple T).2) :: st.tuMap } := by
  obtain ⟨_, a, b⟩ := registerTuple_spec st.prog T
  exact ⟨ArrLe.of_eq b, a⟩

theorem importTyValue_pre (src : Prog) : ∀ (fuel : Nat) (τ : Ty) (st st' : MergeSt) (τ' : Ty),
    importTyValue false src fuel τ st = some (st', τ') → Pre st st'
  | fuel, τ, st, st', τ', h => 
    (import_rel src Pre.refl Pre.trans Pre.of_registerType Pre.of_registerTuple fuel st st').2.1 τ τ' h

theorem importTypes_pre (src : Prog) : ∀ (fuel : Nat) (ts : List Nat) (st st' : MergeSt) (ts' : List Nat),
    importTypes false src fuel ts st = some (st', ts') → Pre st st'
  | fuel, ts, st, st', ts', h => 
    (import_rel src Pre.refl Pre.trans Pre.of_registerType Pre.of_registerTuple fuel st st').2.2.1 ts ts' h

/-- `f` is an indexed register loop: it registers `reg P m x` for each entry `x` in turn and binds the entry's index
    to the index it got — the shape of `mergeConsts`, `mergeBuiltins` and `mergeFns`. -/
structure RegLoop {α : Type} (f : List α → Nat → Prog → AMap → Prog × AMap) (reg : Prog → AMap → α → Prog × Nat) :
    Prop where
  nil : ∀ i P m, f [] i P m = (P, m)
  cons : ∀ x xs i P m, f (x :: xs) i P m = f xs (i + 1) (reg P m x).1 ((i, (reg P m x).2) :: m)

theorem mergeConsts_regLoop : RegLoop mergeConsts (fun P _ k => P.registerConst k) :=
  ⟨fun _ _ _ => rfl, fun _ _ _ _ _ => rfl⟩

theorem mergeBuiltins_regLoop (ym : AMap) : RegLoop (mergeBuiltins ym) (fun P _ B => P.registerBuiltin
    { name := B.name, paramType := getOr ym B.paramType, resultType := getOr ym B.resultType }) :=
  ⟨fun _ _ _ => rfl, fun _ _ _ _ _ => rfl⟩

theorem mergeFns_regLoop (cm tm ym bm : AMap) : RegLoop (mergeFns cm tm ym bm) (fun P fm F => P.registerFn
    { instrs := F.instrs.map (mergeInstr cm fm tm ym bm), captures := F.captures, typeId := getOr ym F.typeId }) :=
  ⟨fun _ _ _ => rfl, fun _ _ _ _ _ => rfl⟩

theorem RegLoop.le5 {α : Type} {f : List α → Nat → Prog → AMap → Prog × AMap} {reg : Prog → AMap → α → Prog × Nat}
    (hf : RegLoop f reg) (hreg : ∀ P m x, ProgLe5 P (reg P m x).1) {xs : List α} {i : Nat} {P : Prog} {m : AMap}
    {r : Prog × AMap} (h : f xs i P m = r) : ProgLe5 P r.1 := by
  subst h
  induction xs generalizing i P m with
  | nil => rw [hf.nil]; exact ProgLe5.refl P
  | cons x xs ih => rw [hf.cons]; exact (hreg P m x).trans ih

theorem mergeConsts_le5 {ks : List Const} {i : Nat} {P : Prog} {m : AMap} {r : Prog × AMap}
    (h : mergeConsts ks i P m = r) : ProgLe5 P r.1 :=
  mergeConsts_regLoop.le5 (fun P _ k => registerConst_le5 P k) h

theorem mergeBuiltins_le5 {ym : AMap} {bs : List BuiltinInfo} {i : Nat} {P : Prog} {m : AMap} {r : Prog × AMap}
    (h : mergeBuiltins ym bs i P m = r) : ProgLe5 P r.1 :=
  (mergeBuiltins_regLoop ym).le5 (fun P _ _ => registerBuiltin_le5 P _) h

theorem mergeFns_le5 {cm tm ym bm : AMap} {fs : List Fn} {i : Nat} {P : Prog} {fm : AMap} {r : Prog × AMap}
    (h : mergeFns cm tm ym bm fs i P fm = r) : ProgLe5 P r.1 :=
  (mergeFns_regLoop cm tm ym bm).le5 (fun P _ _ => registerFn_le5 P _) h

theorem importAll_le5 (src : Prog) :
    (∀ ts st st', importAllTypes false src ts st = some st' → ProgLe5 st.prog st'.prog) ∧
    (∀ ts st st', importAllTuples false src ts st = some st' → ProgLe5 st.prog st'.prog) :=
  importAll_rel src (R := fun st st' => ProgLe5 st.prog st'.prog) (fun _ => ProgLe5.refl _) ProgLe5.trans
    (fun st τ _ => registerType_le5 st.prog τ) (fun st T _ => registerTuple_le5 st.prog T)

/-- **Merging never disturbs what is already loaded**: every constant, function, tuple, type and builtin
    index of the environment's program denotes the same entry after `merge_bytecode` — for every environment,
    every incoming program and entry (no hypothesis). -/
theorem merge_extends_env {env src : Prog} {e : Nat} {out : MergeOut}
    (h : mergeBytecodeWith false env src e = some out) : ProgLe5 env out.prog := by
  obtain ⟨p1, cm, st1, st2, p3, bm, p4, fm, e', hc, h1, h2, hb, hf, _, rfl⟩ := mergeBytecodeWith_some h
  have all : ProgLe5 env p4 := (mergeConsts_le5 hc).trans <| ((importAll_le5 src).1 _ _ st1 h1).trans <|
    ((importAll_le5 src).2 _ st1 st2 h2).trans <| (mergeBuiltins_le5 hb).trans (mergeFns_le5 hf)
  exact ⟨all.consts, all.fns, all.tuples, all.types, all.builtins⟩

end QM.Packaging
