import QuiverModel.Core.Packaging.Renaming
/-
`compute_canonical_tuples` (compatibility.rs) as a function of the tuple table, and the fact that makes
the `canon` clause of `IsRenaming` a consequence of name/label preservation.
-/
namespace QM.Packaging

abbrev Shape := Option String × List (Option String)

/-- value shape of a tuple type: name + field labels (field *types* ignored) -/
def shapeOf (T : TupleInfo) : Shape := (T.name, T.fields.map (·.1))

/-- index of the first entry equal to `sh` (the list length if there is none) -/
def firstIdxOf (sh : Shape) : List Shape → Nat
  | [] => 0
  | s :: ss => if s = sh then 0 else firstIdxOf sh ss + 1

/-- `compute_canonical_tuples`: each tuple id is mapped to the lowest id with the same shape
    (`by_shape.entry(shape).or_insert(id)` while iterating in id order). -/
def canonTable (ts : List TupleInfo) : List Nat :=
  (ts.map shapeOf).map (fun sh => firstIdxOf sh (ts.map shapeOf))

theorem firstIdxOf_get {sh : Shape} {l : List Shape} (h : sh ∈ l) : l[firstIdxOf sh l]? = some sh := by
  induction l with
  | nil => cases h
  | cons s ss ih =>
    simp only [firstIdxOf]
    split
    · rename_i heq; simp [heq]
    · rename_i hne
      rcases List.mem_cons.mp h with h | h
      · exact (hne h.symm).elim
      · simpa using ih h

theorem firstIdxOf_inj {a b : Shape} {l : List Shape} (ha : a ∈ l) (hb : b ∈ l)
    (h : firstIdxOf a l = firstIdxOf b l) : a = b := by
  have h1 := firstIdxOf_get ha
  have h2 := firstIdxOf_get hb
  rw [h] at h1
  rw [h1] at h2
  cases h2; rfl

theorem canonTable_get {ts : List TupleInfo} {i : Nat} {T : TupleInfo} (h : ts[i]? = some T) :
    (canonTable ts)[i]? = some (firstIdxOf (shapeOf T) (ts.map shapeOf)) := by
  simp [canonTable, h]

/-- A program whose `canon` table is the one `compute_canonical_tuples` computes from its tuples. -/
def Prog.CanonComputed (P : Prog) : Prop := P.canon.toList = canonTable P.tuples.toList

def Prog.canonComputedB (P : Prog) : Bool := P.canon.toList == canonTable P.tuples.toList

theorem canonOf_computed {P : Prog} (hc : P.CanonComputed) {a : Nat} {T : TupleInfo}
    (h : P.tuples[a]? = some T) :
    P.canonOf a = firstIdxOf (shapeOf T) (P.tuples.toList.map shapeOf) := by
  unfold Prog.canonOf
  have h1 : P.canon[a]? = P.canon.toList[a]? := by simp
  rw [h1, hc, canonTable_get (by simpa using h)]
  rfl

theorem canonOf_eq_iff_shape {P : Prog} (hc : P.CanonComputed) {a b : Nat} {Ta Tb : TupleInfo}
    (ha : P.tuples[a]? = some Ta) (hb : P.tuples[b]? = some Tb) :
    P.canonOf a = P.canonOf b ↔ shapeOf Ta = shapeOf Tb := by
  rw [canonOf_computed hc ha, canonOf_computed hc hb]
  have hma : shapeOf Ta ∈ P.tuples.toList.map shapeOf :=
    List.mem_map.mpr ⟨Ta, List.mem_of_getElem? (by simpa using ha), rfl⟩
  have hmb : shapeOf Tb ∈ P.tuples.toList.map shapeOf :=
    List.mem_map.mpr ⟨Tb, List.mem_of_getElem? (by simpa using hb), rfl⟩
  exact ⟨firstIdxOf_inj hma hmb, fun h => by rw [h]⟩

end QM.Packaging
