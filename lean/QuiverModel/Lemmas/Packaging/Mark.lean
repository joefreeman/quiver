import QuiverModel.Lemmas.Packaging.Shake
import QuiverModel.Lemmas.Packaging.Reachable
/-
`tree_shake`, mark phase, for every program and entry (whenever the fuelled port returns): the marks it computes
are reachable, closed under reference and duplicate-free (`markAll_grow`; `markAll_spec`, `markAll_closed`). One pass
over the collectors and loops, with the relation `Grow`.
-/
namespace QM.Packaging

theorem TyMarked.mono {m m' : Marks} (ht : ∀ x ∈ m.types, x ∈ m'.types) (hu : ∀ x ∈ m.tuples, x ∈ m'.tuples)
    {τ : Ty} (h : TyMarked m τ) : TyMarked m' τ := by
  cases τ with
  | tuple id => exact hu _ h
  | _ => exact fun t ht' => ht t (h t ht')

theorem TyMarked.of_children {m : Marks} {τ : Ty} (hτ : ∀ id, τ ≠ .tuple id)
    (h : ∀ x ∈ tyChildren τ, x ∈ m.types) : TyMarked m τ := by
  cases τ with
  | tuple id => exact (hτ id rfl).elim
  | _ => exact h

/-- what a collector may change: type and tuple marks grow, function / constant / builtin marks are untouched
    (resource names may be added: not constrained here) -/
structure Ext (m m' : Marks) : Prop where
  types : ∀ x ∈ m.types, x ∈ m'.types
  tuples : ∀ x ∈ m.tuples, x ∈ m'.tuples
  fns : m'.fns = m.fns
  consts : m'.consts = m.consts
  builtins : m'.builtins = m.builtins

theorem Ext.refl (m : Marks) : Ext m m := ⟨fun _ h => h, fun _ h => h, rfl, rfl, rfl⟩
theorem Ext.trans {a b c : Marks} (h1 : Ext a b) (h2 : Ext b c) : Ext a c :=
  ⟨fun x h => h2.types x (h1.types x h), fun x h => h2.tuples x (h1.tuples x h),
   h2.fns.trans h1.fns, h2.consts.trans h1.consts, h2.builtins.trans h1.builtins⟩

theorem Ext.addType (m : Marks) (t : Nat) : Ext m { m with types := t :: m.types } :=
  ⟨fun _ => List.mem_cons_of_mem _, fun _ hx => hx, rfl, rfl, rfl⟩

theorem Ext.addTuple (m : Marks) (u : Nat) : Ext m { m with tuples := u :: m.tuples } :=
  ⟨fun _ hx => hx, fun _ => List.mem_cons_of_mem _, rfl, rfl, rfl⟩

theorem sortAsc_nodup {l : List Nat} (h : l.Nodup) : (sortAsc l).Nodup :=
  (sortAsc_perm l).nodup_iff.mpr h

theorem insertAsc_sorted (a : Nat) : ∀ (l : List Nat), l.Pairwise (· ≤ ·) → (insertAsc a l).Pairwise (· ≤ ·)
  | [], _ => by simp [insertAsc]
  | b :: bs, h => by
    simp only [insertAsc]
    obtain ⟨hb, hbs⟩ := List.pairwise_cons.mp h
    split
    · rename_i hab
      exact List.Pairwise.cons (fun x hx => by
        rcases List.mem_cons.mp hx with h | h
        · subst h; exact hab
        · exact Nat.le_trans hab (hb x h)) h
    · rename_i hab
      refine List.Pairwise.cons (fun x hx => ?_) (insertAsc_sorted a bs hbs)
      rcases List.mem_cons.mp ((insertAsc_perm a bs).subset hx) with h | h
      · subst h; omega
      · exact hb x h

theorem sortAsc_sorted : ∀ (l : List Nat), (sortAsc l).Pairwise (· ≤ ·)
  | [] => by simp [sortAsc]
  | a :: as => insertAsc_sorted a _ (sortAsc_sorted as)

/-- a sorted duplicate-free list containing 0 and 1 starts 0, 1 -/
theorem rank01 {l : List Nat} (h0 : 0 ∈ l) (h1 : 1 ∈ l) (hn : l.Nodup) :
    (rankMap (sortAsc l)).get 0 = some 0 ∧ (rankMap (sortAsc l)).get 1 = some 1 := by
  have hs := sortAsc_sorted l
  have hnd := sortAsc_nodup hn
  have m0 : 0 ∈ sortAsc l := mem_sortAsc.mpr h0
  have m1 : 1 ∈ sortAsc l := mem_sortAsc.mpr h1
  generalize sortAsc l = s at hs hnd m0 m1
  cases s with
  | nil => cases m0
  | cons a t =>
    obtain ⟨ha, ht⟩ := List.pairwise_cons.mp hs
    obtain ⟨hna, hnt⟩ := List.nodup_cons.mp hnd
    have a0 : a = 0 := by
      rcases List.mem_cons.mp m0 with h | h
      · exact h.symm
      · have := ha 0 h; omega
    subst a0
    have m1t : 1 ∈ t := by
      rcases List.mem_cons.mp m1 with h | h
      · cases h
      · exact h
    cases t with
    | nil => cases m1t
    | cons b t2 =>
      obtain ⟨hb, _⟩ := List.pairwise_cons.mp ht
      have b1 : b = 1 := by
        have hb0 : b ≠ 0 := fun h => hna (by rw [h]; exact List.mem_cons_self ..)
        rcases List.mem_cons.mp m1t with h | h
        · exact h.symm
        · have := hb 1 h; omega
      subst b1
      exact ⟨rfl, rfl⟩

/-- `TT` = Tuple Types: every kept function's `Tuple(u)` instructions have the first `Type::Tuple(u)` entry marked -/
def TT (P : Prog) (m : Marks) : Prop :=
  ∀ f ∈ m.fns, ∀ F, P.fns[f]? = some F → ∀ u, Instr.tuple u ∈ F.instrs → ∀ t, firstTupleType P u = some t →
    t ∈ m.types

theorem isIndexOnly_congr (P : Prog) {m m' : Marks} (h1 : m'.fns = m.fns) (h2 : m'.builtins = m.builtins) (τ : Ty) :
    isIndexOnly P m' τ = isIndexOnly P m τ := by
  cases τ <;> simp only [isIndexOnly, h1, h2]

theorem mem_insertNat {a x : Nat} {l : List Nat} : x ∈ insertNat a l ↔ x = a ∨ x ∈ l := by
  unfold insertNat
  split
  · rename_i hc
    exact ⟨Or.inr, fun h => h.elim (fun e => e ▸ List.contains_iff_mem.mp hc) id⟩
  · exact List.mem_cons

theorem insertNat_nodup {a : Nat} {l : List Nat} (h : l.Nodup) : (insertNat a l).Nodup := by
  unfold insertNat
  split
  · exact h
  · rename_i hc
    exact List.nodup_cons.mpr ⟨fun hm => hc (List.contains_iff_mem.mpr hm), h⟩

theorem mem_insertStr {a x : String} {l : List String} : x ∈ insertStr a l ↔ x = a ∨ x ∈ l := by
  unfold insertStr
  split
  · rename_i hc
    exact ⟨Or.inr, fun h => h.elim (fun e => e ▸ List.elem_iff.mp hc) id⟩
  · exact List.mem_cons

theorem insertStr_nodup {a : String} {l : List String} (h : l.Nodup) : (insertStr a l).Nodup := by
  unfold insertStr
  split
  · exact h
  · rename_i hc
    exact List.nodup_cons.mpr ⟨fun hm => hc (List.elem_iff.mpr hm), h⟩

/-- is the item among the marks (resource names included) -/
def Marks.has (m : Marks) : ShakeItem → Prop
  | .fn f => f ∈ m.fns
  | .const c => c ∈ m.consts
  | .tuple u => u ∈ m.tuples
  | .ty t => t ∈ m.types
  | .builtin b => b ∈ m.builtins
  | .res n => n ∈ m.resources

structure Marks.Nodup (m : Marks) : Prop where
  fns : m.fns.Nodup
  consts : m.consts.Nodup
  tuples : m.tuples.Nodup
  types : m.types.Nodup
  builtins : m.builtins.Nodup
  resources : m.resources.Nodup

/-- the six ways the mark phase adds a mark -/
def Marks.add (m : Marks) : ShakeItem → Marks
  | .fn f => { m with fns := f :: m.fns }
  | .const c => { m with consts := insertNat c m.consts }
  | .tuple u => { m with tuples := u :: m.tuples }
  | .ty t => { m with types := t :: m.types }
  | .builtin b => { m with builtins := insertNat b m.builtins }
  | .res n => { m with resources := insertStr n m.resources }

theorem Marks.has_add (m : Marks) (x y : ShakeItem) : (m.add x).has y ↔ y = x ∨ m.has y := by
  cases x <;> cases y <;> simp [Marks.add, Marks.has, mem_insertNat, mem_insertStr]

/-- the instruction has been visited: its operand is marked (a function operand: marked or queued, `q`), and with a
    tuple the first `Type::Tuple` entry -/
def Visited (P : Prog) (m : Marks) (q : List Nat) (i : Instr) : Prop :=
  InstrMarked { m with fns := q } i ∧ ∀ u, i = .tuple u → ∀ t, firstTupleType P u = some t → t ∈ m.types

theorem Visited.mono {P : Prog} {m m' : Marks} {q q' : List Nat} (h : ∀ x, m.has x → m'.has x)
    (hq : ∀ x ∈ q, x ∈ q') {i : Instr} (hi : Visited P m q i) : Visited P m' q' i := by
  refine ⟨?_, fun u hu t ht => h (.ty t) (hi.2 u hu t ht)⟩
  have h1 := hi.1
  cases i with
  | const c => exact h (.const c) h1
  | tuple u => exact h (.tuple u) h1
  | isType t => exact h (.ty t) h1
  | builtin b => exact h (.builtin b) h1
  | function g => exact hq g h1
  | process pid g => exact hq g h1
  | _ => trivial

/-- everything the item refers to directly is marked. Nothing is asked of a builtin: its parameter / result types
    are collected by a later loop (`markBuiltins`), and that fact travels as the fifth conjunct of `markAll_grow`. -/
def Refs (P : Prog) (m : Marks) : ShakeItem → Prop
  | .ty t => ∀ τ, P.types[t]? = some τ → TyMarked m τ ∧ ∀ n, τ = .resource n → n ∈ m.resources
  | .tuple u => ∀ T, P.tuples[u]? = some T → ∀ p ∈ T.fields, p.2 ∈ m.types
  | .fn f => ∀ F, P.fns[f]? = some F → F.typeId ∈ m.types ∧ ∀ i ∈ F.instrs, Visited P m m.fns i
  | _ => True

theorem Refs.mono {P : Prog} {m m' : Marks} (h : ∀ x, m.has x → m'.has x) {x : ShakeItem} (hx : Refs P m x) :
    Refs P m' x := by
  cases x with
  | ty t =>
    exact fun τ hτ => ⟨(hx τ hτ).1.mono (fun y => h (.ty y)) (fun y => h (.tuple y)),
      fun n hn => h (.res n) ((hx τ hτ).2 n hn)⟩
  | tuple u => exact fun T hT p hp => h (.ty p.2) (hx T hT p hp)
  | fn f => exact fun F hF => ⟨h (.ty _) (hx F hF).1, fun i hi => ((hx F hF).2 i hi).mono h (fun y => h (.fn y))⟩
  | _ => trivial

/-- From `m` to `m'` marks were only added; every mark added is reachable and has everything marked that it
    refers to — in the FINAL marks `m'`, not at the moment it is added, so a node may be marked before its children
    (depth-first marking needs no set of pending nodes); no list gained a duplicate. Transitive, so collectors and
    loops compose. -/
structure Grow (P : Prog) (e : Nat) (m m' : Marks) : Prop where
  sub : ∀ x, m.has x → m'.has x
  fresh : ∀ x, m'.has x → ¬ m.has x → Reach P e x ∧ Refs P m' x
  nodup : m.Nodup → m'.Nodup

theorem Marks.not_has_empty (x : ShakeItem) : ¬ Marks.has {} x := by
  cases x <;> exact List.not_mem_nil

theorem Grow.refl {P : Prog} {e : Nat} (m : Marks) : Grow P e m m := ⟨fun _ h => h, fun _ h hn => (hn h).elim, id⟩

theorem Grow.trans {P : Prog} {e : Nat} {a b c : Marks} (h1 : Grow P e a b) (h2 : Grow P e b c) : Grow P e a c :=
  ⟨fun x h => h2.sub x (h1.sub x h),
   fun x hc ha => by
     by_cases hb : b.has x
     · exact ⟨(h1.fresh x hb ha).1, (h1.fresh x hb ha).2.mono h2.sub⟩
     · exact h2.fresh x hc hb,
   fun h => h2.nodup (h1.nodup h)⟩

/-- the mark `x` is added first; the marks added from there on are justified, and so is `x` at the end -/
theorem Grow.step {P : Prog} {e : Nat} {m m' : Marks} (x : ShakeItem) (hn : m.Nodup → (m.add x).Nodup) (h : Grow P e (m.add x) m')
    (hr : Reach P e x) (hx : Refs P m' x) : Grow P e m m' :=
  ⟨fun y hy => h.sub y ((m.has_add x y).mpr (Or.inr hy)),
   fun y hy hny => by
     by_cases hxy : y = x
     · exact hxy ▸ ⟨hr, hx⟩
     · exact h.fresh y hy (fun h1 => ((m.has_add x y).mp h1).elim hxy hny),
   fun hnd => h.nodup (hn hnd)⟩

theorem collect_grow (P : Prog) (e : Nat) : ∀ (fuel : Nat),
    (∀ (t : Nat) (m m' : Marks), collectType P fuel t m = some m' → Reach P e (.ty t) →
      Grow P e m m' ∧ t ∈ m'.types ∧ Ext m m') ∧
    (∀ (ts : List Nat) (m m' : Marks), collectTypes P fuel ts m = some m' → (∀ t ∈ ts, Reach P e (.ty t)) →
      Grow P e m m' ∧ (∀ t ∈ ts, t ∈ m'.types) ∧ Ext m m') ∧
    (∀ (id : Nat) (m m' : Marks), collectTuple P fuel id m = some m' → Reach P e (.tuple id) →
      Grow P e m m' ∧ id ∈ m'.tuples ∧ Ext m m') := by
  intro fuel
  induction fuel with
  | zero => exact ⟨fun _ _ _ h => (nomatch h), fun _ _ _ h => (nomatch h), fun _ _ _ h => (nomatch h)⟩
  | succ fuel ih =>
    obtain ⟨ihT, ihTs, ihU⟩ := ih
    refine ⟨fun t m m' h hr => ?_, fun ts m m' h hr => ?_, fun id m m' h hr => ?_⟩
    · simp only [collectType] at h
      split at h
      · rename_i hc
        cases h
        exact ⟨.refl _, List.contains_iff_mem.mp hc, Ext.refl _⟩
      · rename_i hc
        -- `t` is marked first; it is discharged (`Refs`) when its children have been collected
        have add : ∀ {m' : Marks}, Grow P e { m with types := t :: m.types } m' → Refs P m' (.ty t) → Grow P e m m' :=
          fun h hx => h.step (.ty t)
            (fun hn => { hn with types := List.nodup_cons.mpr ⟨fun hm => hc (List.contains_iff_mem.mpr hm), hn.types⟩ }) hr hx
        have hE1 := Ext.addType m t
        split at h
        · rename_i hτ
          cases h
          exact ⟨add (.refl _) (fun τ hτ' => by rw [hτ] at hτ'; cases hτ'), List.mem_cons_self .., hE1⟩
        · rename_i id hτ
          obtain ⟨hG, hid, hE2⟩ := ihU id _ m' h (Reach.tupleOf hr hτ)
          exact ⟨add hG (fun τ hτ' => by rw [hτ] at hτ'; cases hτ'; exact ⟨hid, nofun⟩),
            hE2.types _ (List.mem_cons_self ..), hE1.trans hE2⟩
        · rename_i n hτ
          cases h
          refine ⟨add (Grow.step (.res n) (fun hn => { hn with resources := insertStr_nodup hn.resources })
            (.refl _) (Reach.resOf hr hτ) trivial) (fun τ hτ' => ?_), List.mem_cons_self ..,
            ⟨hE1.types, hE1.tuples, rfl, rfl, rfl⟩⟩
          rw [hτ] at hτ'; cases hτ'
          exact ⟨nofun, fun n' hn' => by cases hn'; exact mem_insertStr.mpr (Or.inl rfl)⟩
        · rename_i τ htup hres hτ
          obtain ⟨hG, hch, hE2⟩ := ihTs (tyChildren τ) _ m' h (fun x hx => Reach.child hr hτ hx)
          exact ⟨add hG (fun τ' hτ' => by
              rw [hτ] at hτ'; cases hτ'
              exact ⟨TyMarked.of_children (fun id e => htup id e) hch, fun n hn => (hres n hn).elim⟩),
            hE2.types _ (List.mem_cons_self ..), hE1.trans hE2⟩
    · cases ts with
      | nil => cases h; exact ⟨.refl _, nofun, Ext.refl _⟩
      | cons t ts =>
        simp only [collectTypes] at h
        split at h
        · cases h
        · rename_i m1 h1
          obtain ⟨hG1, ht, hE1⟩ := ihT t m m1 h1 (hr t (List.mem_cons_self ..))
          obtain ⟨hG2, hts, hE2⟩ := ihTs ts m1 m' h (fun x hx => hr x (List.mem_cons_of_mem _ hx))
          exact ⟨hG1.trans hG2, fun x hx => (List.mem_cons.mp hx).elim (fun e => e ▸ hE2.types _ ht) (hts x),
            hE1.trans hE2⟩
    · simp only [collectTuple] at h
      split at h
      · rename_i hc
        cases h
        exact ⟨.refl _, List.contains_iff_mem.mp hc, Ext.refl _⟩
      · rename_i hc
        have add : ∀ {m' : Marks}, Grow P e { m with tuples := id :: m.tuples } m' → Refs P m' (.tuple id) →
            Grow P e m m' :=
          fun h hx => h.step (.tuple id)
            (fun hn => { hn with tuples := List.nodup_cons.mpr ⟨fun hm => hc (List.contains_iff_mem.mpr hm), hn.tuples⟩ }) hr hx
        have hE1 := Ext.addTuple m id
        split at h
        · rename_i hT
          cases h
          exact ⟨add (.refl _) (fun T hT' => by rw [hT] at hT'; cases hT'), List.mem_cons_self .., hE1⟩
        · rename_i T hT
          obtain ⟨hG, hch, hE2⟩ := ihTs (T.fields.map (·.2)) _ m' h (fun x hx => by
            obtain ⟨p, hp, rfl⟩ := List.mem_map.mp hx
            exact Reach.field hr hT hp)
          exact ⟨add hG (fun T' hT' p hp => by
              rw [hT] at hT'; cases hT'; exact hch p.2 (List.mem_map.mpr ⟨p, hp, rfl⟩)),
            hE2.tuples _ (List.mem_cons_self ..), hE1.trans hE2⟩

theorem markInstrs_grow (P : Prog) (e : Nat) {f : Nat} {F : Fn} (hf : Reach P e (.fn f)) (hF : P.fns[f]? = some F)
    (is : List Instr) (m : Marks) (q : List Nat) {m' : Marks} {q' : List Nat}
    (h : markInstrs P is m q = some (m', q')) (hsub : ∀ i ∈ is, i ∈ F.instrs)
    (hq : ∀ g ∈ q, Reach P e (.fn g)) :
    Grow P e m m' ∧ m'.fns = m.fns ∧ (∀ g ∈ q', Reach P e (.fn g)) ∧ (∀ x ∈ q, x ∈ q') ∧
      ∀ i ∈ is, Visited P m' q' i := by
  -- the tail of the list, run from `m1`, `q1` reached from `m`, `q` by visiting the head instruction
  have keep : ∀ {is : List Instr} {m m1 : Marks} {q q1 : List Nat} {i : Instr},
      (Grow P e m1 m' ∧ m'.fns = m1.fns ∧ (∀ g ∈ q', Reach P e (.fn g)) ∧ (∀ x ∈ q1, x ∈ q') ∧
        ∀ j ∈ is, Visited P m' q' j) →
      Grow P e m m1 → m1.fns = m.fns → (∀ x ∈ q, x ∈ q1) → Visited P m1 q1 i →
      Grow P e m m' ∧ m'.fns = m.fns ∧ (∀ g ∈ q', Reach P e (.fn g)) ∧ (∀ x ∈ q, x ∈ q') ∧
        ∀ j ∈ i :: is, Visited P m' q' j := by
    intro is m m1 q q1 i ⟨a, b, c, d, t5⟩ hG hfn hqq hhead
    exact ⟨hG.trans a, b.trans hfn, c, fun x hx => d x (hqq x hx), fun j hj =>
      (List.mem_cons.mp hj).elim (fun e => e ▸ hhead.mono a.sub d) (t5 j)⟩
  have push : ∀ {q : List Nat} {g : Nat}, (∀ x ∈ q, Reach P e (.fn x)) → Reach P e (.fn g) →
      ∀ x ∈ q ++ [g], Reach P e (.fn x) := fun hq hg x hx =>
    (List.mem_append.mp hx).elim (hq x) (fun hx => List.mem_singleton.mp hx ▸ hg)
  -- cases: 1 `[]`; 2 `Function`; 3 `Process`; 4 `Constant`; 5 `Builtin`; 6/7 `IsType` (collector fails / returns);
  -- 8 `Tuple`, `collectTuple` fails; 9 `Tuple` without `Type::Tuple` entry; 10/11 `Tuple` with first entry `t0`
  -- (`collectType` fails / returns); 12 every other instruction
  fun_induction markInstrs P is m q
  case case1 => cases h; exact ⟨.refl _, rfl, hq, fun _ h => h, nofun⟩
  all_goals
    have hi := hsub _ (List.mem_cons_self ..)
    have htl : ∀ j ∈ _, j ∈ F.instrs := fun j hj => hsub j (List.mem_cons_of_mem _ hj)
  case case2 ih =>
    exact keep (ih h htl (push hq (Reach.callee hf hF hi))) (.refl _) rfl (fun _ => List.mem_append_left _)
      ⟨List.mem_append_right _ (List.mem_singleton_self _), nofun⟩
  case case3 ih =>
    exact keep (ih h htl (push hq (Reach.procFn hf hF hi))) (.refl _) rfl (fun _ => List.mem_append_left _)
      ⟨List.mem_append_right _ (List.mem_singleton_self _), nofun⟩
  case case4 ih =>
    exact keep (ih h htl hq) (Grow.step (.const _)
      (fun hn => { hn with consts := insertNat_nodup hn.consts }) (.refl _) (Reach.const hf hF hi) trivial)
      rfl (fun _ h => h) ⟨mem_insertNat.mpr (.inl rfl), nofun⟩
  case case5 ih =>
    exact keep (ih h htl hq) (Grow.step (.builtin _)
      (fun hn => { hn with builtins := insertNat_nodup hn.builtins }) (.refl _) (Reach.builtin hf hF hi) trivial)
      rfl (fun _ h => h) ⟨mem_insertNat.mpr (.inl rfl), nofun⟩
  case case6 => cases h
  case case7 h1 ih =>
    obtain ⟨hG, hmem, hE⟩ := (collect_grow P e _).1 _ _ _ h1 (Reach.isType hf hF hi)
    exact keep (ih h htl hq) hG hE.fns (fun _ h => h) ⟨hmem, nofun⟩
  case case8 => cases h
  case case9 h1 hnone ih =>
    obtain ⟨hG, hmem, hE⟩ := (collect_grow P e _).2.2 _ _ _ h1 (Reach.mkTuple hf hF hi)
    exact keep (ih h htl hq) hG hE.fns (fun _ h => h)
      ⟨hmem, fun u e t ht => by cases e; rw [hnone] at ht; cases ht⟩
  case case10 => cases h
  case case11 h1 t0 ht0 m2 h2 ih =>
    obtain ⟨hG1, hmem1, hE1⟩ := (collect_grow P e _).2.2 _ _ _ h1 (Reach.mkTuple hf hF hi)
    obtain ⟨hG2, hmem, hE2⟩ := (collect_grow P e _).1 t0 _ m2 h2 (Reach.mkTupleType hf hF hi ht0)
    exact keep (ih h htl hq) (hG1.trans hG2) (hE1.trans hE2).fns (fun _ h => h)
      ⟨hE2.tuples _ hmem1, fun u e t ht => by cases e; rw [ht0] at ht; cases ht; exact hmem⟩
  case case12 i _ _ _ hfun hproc hconst hbi hist htup ih =>
    refine keep (ih h htl hq) (.refl _) rfl (fun _ h => h) ⟨?_, fun u e => (htup u e).elim⟩
    cases i with
    | const c => exact (hconst c rfl).elim
    | tuple u => exact (htup u rfl).elim
    | isType t => exact (hist t rfl).elim
    | builtin b => exact (hbi b rfl).elim
    | function g => exact (hfun g rfl).elim
    | process pid g => exact (hproc pid g rfl).elim
    | _ => trivial

theorem markFns_grow (P : Prog) (e : Nat) (fuel : Nat) (q : List Nat) (m : Marks) {m' : Marks}
    (h : markFns P fuel q m = some m') (hq : ∀ g ∈ q, Reach P e (.fn g)) :
    Grow P e m m' ∧ ∀ x ∈ q, x ∈ m'.fns := by
  -- cases: 1/2 no fuel (queue empty / not); 3 queue empty; 4 `f` marked already; 5 `f` outside the function table;
  -- 6 `collectType F.typeId` fails; 7 `markInstrs` fails; 8 both return
  fun_induction markFns P fuel q m
  case case1 => cases h; exact ⟨.refl _, nofun⟩
  case case2 => cases h
  case case3 => cases h; exact ⟨.refl _, nofun⟩
  all_goals
    have hf := hq _ (List.mem_cons_self ..)
    have hq' : ∀ g ∈ _, Reach P e (.fn g) := fun g hg => hq g (List.mem_cons_of_mem _ hg)
  case case4 hc ih =>
    obtain ⟨a, b⟩ := ih h hq'
    exact ⟨a, fun x hx => (List.mem_cons.mp hx).elim (fun e' => e' ▸ a.sub (.fn _) (List.contains_iff_mem.mp hc)) (b x)⟩
  case case5 f q m hc _ hFn ih =>
    obtain ⟨a, b⟩ := ih h hq'
    have hG := a.step (.fn f)
      (fun hn => { hn with fns := List.nodup_cons.mpr ⟨fun hm => hc (List.contains_iff_mem.mpr hm), hn.fns⟩ }) hf
      (fun F' hF' => by rw [hFn] at hF'; cases hF')
    exact ⟨hG, fun x hx => (List.mem_cons.mp hx).elim
      (fun e' => e' ▸ a.sub (.fn f) (List.mem_cons_self ..)) (b x)⟩
  case case6 => cases h
  case case7 => cases h
  case case8 f q m hc _ F hFn m1 h1 m2 q2 h2 ih =>
    obtain ⟨hG1, hty, hE1⟩ := (collect_grow P e _).1 _ _ m1 h1 (Reach.fnType hf hFn)
    obtain ⟨hG2, hf2, hq2, hqq, hvis⟩ := markInstrs_grow P e hf hFn F.instrs m1 q h2 (fun _ hi => hi) hq'
    obtain ⟨a, b⟩ := ih h hq2
    have hG := ((hG1.trans hG2).trans a).step (.fn f)
      (fun hn => { hn with fns := List.nodup_cons.mpr ⟨fun hm => hc (List.contains_iff_mem.mpr hm), hn.fns⟩ }) hf
      (fun F' hF' => by
        rw [hFn] at hF'; cases hF'
        exact ⟨a.sub (.ty _) (hG2.sub (.ty _) hty), fun i hi => (hvis i hi).mono a.sub b⟩)
    have hm2 : f ∈ m2.fns := by rw [hf2, hE1.fns]; exact List.mem_cons_self ..
    exact ⟨hG, fun x hx => (List.mem_cons.mp hx).elim (fun e' => e' ▸ a.sub (.fn f) hm2) (fun hx => b x (hqq x hx))⟩

theorem markBuiltins_grow (P : Prog) (e : Nat) (bs : List Nat) (m : Marks) {m' : Marks}
    (h : markBuiltins P bs m = some m') (hb : ∀ b ∈ bs, Reach P e (.builtin b)) :
    Grow P e m m' ∧ Ext m m' ∧
      ∀ b ∈ bs, ∀ B, P.builtins[b]? = some B → B.paramType ∈ m'.types ∧ B.resultType ∈ m'.types := by
  -- cases: 1 `[]`; 2 `b` outside the builtin table; 3/4 `collectType` fails on the parameter / result type; 5 both return
  fun_induction markBuiltins P bs m
  case case1 => cases h; exact ⟨.refl _, Ext.refl _, nofun⟩
  all_goals
    have hb0 := hb _ (List.mem_cons_self ..)
    have hb' : ∀ x ∈ _, Reach P e (.builtin x) := fun x hx => hb x (List.mem_cons_of_mem _ hx)
  case case2 hB ih =>
    obtain ⟨a, e', c⟩ := ih h hb'
    exact ⟨a, e', fun b' hb' B' hB' =>
      (List.mem_cons.mp hb').elim (fun e' => by rw [e', hB] at hB'; cases hB') (fun hb' => c b' hb' B' hB')⟩
  case case3 => cases h
  case case4 => cases h
  case case5 B hB m1 h1 m2 h2 ih =>
    obtain ⟨hG1, hp, hE1⟩ := (collect_grow P e _).1 _ _ m1 h1 (Reach.bParam hb0 hB)
    obtain ⟨hG2, hr, hE2⟩ := (collect_grow P e _).1 _ m1 m2 h2 (Reach.bResult hb0 hB)
    obtain ⟨a, e', c⟩ := ih h hb'
    exact ⟨(hG1.trans hG2).trans a, (hE1.trans hE2).trans e', fun b' hb' B' hB' =>
      (List.mem_cons.mp hb').elim
        (fun e'' => by rw [e'', hB] at hB'; cases hB'; exact ⟨e'.types _ (hE2.types _ hp), e'.types _ hr⟩)
        (fun hb' => c b' hb' B' hB')⟩

theorem markAll_grow {P : Prog} {e : Nat} {legacy : Bool} {m : Marks} (h : markAll P e legacy = some m) :
    Grow P e {} m ∧ e ∈ m.fns ∧ 0 ∈ m.tuples ∧ 1 ∈ m.tuples ∧
      (∀ b ∈ m.builtins, ∀ B, P.builtins[b]? = some B → B.paramType ∈ m.types ∧ B.resultType ∈ m.types) ∧
      (legacy = false → ∀ (t : Nat) (τ : Ty), P.types[t]? = some τ → isIndexOnly P m τ = true → t ∈ m.types) := by
  unfold markAll at h
  split at h
  · cases h
  · rename_i m0 h0
    obtain ⟨hG0, h00, _⟩ := (collect_grow P e _).2.2 0 _ m0 h0 Reach.nil
    split at h
    · cases h
    · rename_i m1 h1
      obtain ⟨hG1, h11, _⟩ := (collect_grow P e _).2.2 1 m0 m1 h1 Reach.ok
      split at h
      · cases h
      · rename_i m2 h2
        obtain ⟨hG2, hq2⟩ := markFns_grow P e _ [e] m1 h2 (fun g hg => List.mem_singleton.mp hg ▸ Reach.entry)
        have hG02 := (hG0.trans hG1).trans hG2
        split at h
        · cases h
        · rename_i m3 h3
          obtain ⟨hG3, hE3, hB3⟩ := markBuiltins_grow P e m2.builtins m2 h3
            (fun b hb => (hG02.fresh (.builtin b) hb nofun).1)
          have hG03 := hG02.trans hG3
          -- what holds for `m3` holds for the final marks: only types / tuples grow afterwards
          have final : ∀ (m4 : Marks), Grow P e m3 m4 → Ext m3 m4 →
              Grow P e {} m4 ∧ e ∈ m4.fns ∧ 0 ∈ m4.tuples ∧ 1 ∈ m4.tuples ∧
              (∀ b ∈ m4.builtins, ∀ B, P.builtins[b]? = some B → B.paramType ∈ m4.types ∧ B.resultType ∈ m4.types) :=
            fun m4 hG4 hE4 =>
              ⟨hG03.trans hG4, hG4.sub (.fn e) (hG3.sub (.fn e) (hq2 e (List.mem_cons_self ..))),
                hG4.sub (.tuple 0) (hG3.sub (.tuple 0) (hG2.sub (.tuple 0) (hG1.sub (.tuple 0) h00))),
                hG4.sub (.tuple 1) (hG3.sub (.tuple 1) (hG2.sub (.tuple 1) h11)),
                fun b hb B hB =>
                  have := hB3 b (hE3.builtins ▸ hE4.builtins ▸ hb) B hB
                  ⟨hE4.types _ this.1, hE4.types _ this.2⟩⟩
          split at h
          · rename_i hleg
            rw [← Option.some.inj h]
            obtain ⟨a, b, c, d, f⟩ := final m3 (.refl _) (Ext.refl _)
            exact ⟨a, b, c, d, f, fun hl => by rw [hl] at hleg; cases hleg⟩
          · obtain ⟨hG4, hall, hE4⟩ := (collect_grow P e _).2.1 _ m3 m h (fun t ht => by
              obtain ⟨_, ht⟩ := List.mem_filter.mp ht
              split at ht
              · rename_i τ hτ
                exact Reach.indexOnly hτ ht (fun f hf => (hG03.fresh (.fn f) hf nofun).1)
                  (fun b hb => (hG03.fresh (.builtin b) hb nofun).1)
              · cases ht)
            obtain ⟨a, b, c, d, f⟩ := final m hG4 hE4
            refine ⟨a, b, c, d, f, fun _ t τ hτ hio => hall t ?_⟩
            rw [isIndexOnly_congr P hE4.fns hE4.builtins] at hio
            exact List.mem_filter.mpr
              ⟨List.mem_range.mpr (Array.getElem?_eq_some_iff.mp hτ).1, by rw [hτ]; exact hio⟩

theorem markAll_refs {P : Prog} {e : Nat} {legacy : Bool} {m : Marks} (h : markAll P e legacy = some m) :
    (∀ x, m.has x → Reach P e x ∧ Refs P m x) ∧ m.Nodup :=
  have hG := (markAll_grow h).1
  ⟨fun x hx => hG.fresh x hx (Marks.not_has_empty x), hG.nodup ⟨.nil, .nil, .nil, .nil, .nil, .nil⟩⟩

theorem markAll_spec {P : Prog} {e : Nat} {legacy : Bool} {m : Marks} (h : markAll P e legacy = some m) :
    Closed P e m ∧ TT P m ∧
      (legacy = false → ∀ (t : Nat) (τ : Ty), P.types[t]? = some τ → isIndexOnly P m τ = true → t ∈ m.types) := by
  obtain ⟨_, he, h0, h1, hb, hio⟩ := markAll_grow h
  obtain ⟨hr, hn⟩ := markAll_refs h
  obtain ⟨r0, r1⟩ := rank01 h0 h1 hn.tuples
  exact ⟨{ entry := he, rank0 := r0, rank1 := r1
           fns := fun f hf F hF => ((hr (.fn f) hf).2 F hF).1
           types := fun t ht τ hτ => ((hr (.ty t) ht).2 τ hτ).1
           tuples := fun u hu => (hr (.tuple u) hu).2
           builtins := hb, nodupTypes := hn.types, nodupTuples := hn.tuples },
    fun f hf F hF u hu => (((hr (.fn f) hf).2 F hF).2 _ hu).2 u rfl, hio⟩

theorem markAll_closed {P : Prog} {e : Nat} {legacy : Bool} {m : Marks} (h : markAll P e legacy = some m) :
    Closed P e m :=
  (markAll_spec h).1

end QM.Packaging
