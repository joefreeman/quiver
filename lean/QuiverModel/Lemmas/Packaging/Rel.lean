import QuiverModel.Core.Packaging.Sem
import QuiverModel.Lemmas.Packaging.Basic
/-
Relations "equal up to the renaming ρ" on values, frames, states and step results.
-/
namespace QM.Packaging

/-- Values equal up to ρ: same shape, same integers / bytes / refs / process ids; tuple, function,
    builtin and resource-type ids mapped by ρ. -/
inductive RelVal (ρ : Ren) : Val → Val → Prop where
  | int (z : Int) : RelVal ρ (.int z) (.int z)
  | bin (bs : List UInt8) : RelVal ρ (.bin bs) (.bin bs)
  | ref (r : Nat) : RelVal ρ (.ref r) (.ref r)
  | tuple {t t' : Nat} {fs fs' : List Val} : ρ.tuple.get t = some t' → All2 (RelVal ρ) fs fs' →
      RelVal ρ (.tuple t fs) (.tuple t' fs')
  | fn {f f' : Nat} {cs cs' : List Val} : ρ.fn.get f = some f' → All2 (RelVal ρ) cs cs' →
      RelVal ρ (.fn f cs) (.fn f' cs')
  | builtin {b b' : Nat} : ρ.builtin.get b = some b' → RelVal ρ (.builtin b) (.builtin b')
  | proc (pid : Nat) {f f' : Nat} : ρ.fn.get f = some f' → RelVal ρ (.proc pid f) (.proc pid f')
  | res (rid : Nat) {r r' : Nat} : ρ.resource.get r = some r' → RelVal ρ (.res rid r) (.res rid r')

abbrev RelVals (ρ : Ren) := All2 (RelVal ρ)

structure RelFrame (ρ : Ren) (fr fr' : Frame) : Prop where
  fn : ρ.fn.get fr.fn = some fr'.fn
  base : fr'.base = fr.base
  caps : fr'.caps = fr.caps
  pc : fr'.pc = fr.pc

structure RelSt (ρ : Ren) (s s' : St) : Prop where
  stack : RelVals ρ s.stack s'.stack
  locals : RelVals ρ s.locals s'.locals
  frames : All2 (RelFrame ρ) s.frames s'.frames
  persistent : s'.persistent = s.persistent

inductive RelBRes (ρ : Ren) : BRes → BRes → Prop where
  | value {v v'} : RelVal ρ v v' → RelBRes ρ (.value v) (.value v')
  | err (e) : RelBRes ρ (.err e) (.err e)
  | action : RelBRes ρ .action .action
  | panic : RelBRes ρ .panic .panic

/-- The two builtin semantics agree up to ρ (builtins are resolved by *name*; `IsRenaming.builtins`
    makes the names equal). -/
def BuiltinsCommute (ρ : Ren) (B B' : BuiltinSem) : Prop :=
  ∀ name v v', RelVal ρ v v' → RelBRes ρ (B name v) (B' name v')

inductive RelRes (ρ : Ren) : Res → Res → Prop where
  | next {s s'} : RelSt ρ s s' → RelRes ρ (.next s) (.next s')
  | err (e) : RelRes ρ (.err e) (.err e)
  | panic : RelRes ρ .panic .panic
  | yield {s s' i i'} : RelSt ρ s s' → renameInstr ρ i = some i' → RelRes ρ (.yield s i) (.yield s' i')
  | done {v v'} : RelVal ρ v v' → RelRes ρ (.done v) (.done v')

theorem RelVal.nil {ρ : Ren} (h : ρ.tuple.get 0 = some 0) : RelVal ρ Val.nil Val.nil := .tuple h .nil
theorem RelVal.ok {ρ : Ren} (h : ρ.tuple.get 1 = some 1) : RelVal ρ Val.ok Val.ok := .tuple h .nil

theorem RelVal.tag {ρ : Ren} {v v' : Val} (h : RelVal ρ v v') : renameTag ρ v.tag = some v'.tag := by
  cases h <;> simp_all [Val.tag, renameTag]

/-- `is_nil` is preserved: ρ fixes 0 and is injective on tuples. -/
theorem RelVal.isNil {ρ : Ren} (hnil : ρ.tuple.get 0 = some 0) (hinj : ρ.tuple.Inj) {v v' : Val}
    (h : RelVal ρ v v') : v'.isNil = v.isNil := by
  cases h with
  | tuple ht hfs =>
    rename_i t t' fs fs'
    cases hfs with
    | nil =>
      by_cases h0 : t = 0
      · subst h0
        have : t' = 0 := by rw [hnil] at ht; cases ht; rfl
        subst this; rfl
      · have h0' : t' ≠ 0 := by
          intro h0'; subst h0'
          exact h0 (hinj _ _ _ ht hnil)
        cases t with
        | zero => exact (h0 rfl).elim
        | succ n =>
          cases t' with
          | zero => exact (h0' rfl).elim
          | succ m => rfl
    | cons _ _ =>
      cases t <;> cases t' <;> rfl
  | _ => rfl

end QM.Packaging
