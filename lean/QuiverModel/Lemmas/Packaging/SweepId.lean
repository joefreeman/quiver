import QuiverModel.Lemmas.Packaging.ReachTransfer
/-!
`sweep_full_identity`: a sweep whose five sorted mark lists are `range` of the table sizes returns the same five
tables, the same entry and identity remap tables (`IdMap`).
-/
namespace QM.Packaging

theorem sorted_eq_range {s : List Nat} {n : Nat} (hs : s.Pairwise (· ≤ ·)) (hn : s.Nodup)
    (hmem : ∀ x, x ∈ s ↔ x < n) : s = List.range n :=
  List.Perm.eq_of_pairwise (fun _ _ _ _ => Nat.le_antisymm) hs List.pairwise_le_range
    ((List.perm_ext_iff_of_nodup hn List.nodup_range).mpr fun a => (hmem a).trans List.mem_range.symm)

theorem rankMap_range_get {n i j : Nat} (h : (rankMap (List.range n)).get i = some j) : j = i := by
  obtain ⟨hl, hx⟩ := List.getElem?_eq_some_iff.mp (rankMap_get h)
  exact List.getElem_range hl ▸ hx

theorem rankMap_range_get_lt {n i : Nat} (h : i < n) : (rankMap (List.range n)).get i = some i := by
  obtain ⟨j, hj⟩ := rankMap_get_of_mem (List.mem_range.mpr h)
  rw [rankMap_range_get hj] at hj; exact hj

theorem getAll_range {α : Type} (a : Array α) : getAll a (List.range a.size) = some a.toList := by
  rw [getAll_eq_mapOpt]
  refine mapOpt_of_map (List.ext_getElem? fun i => ?_)
  rw [List.getElem?_map, List.getElem?_map]
  rcases Nat.lt_or_ge i a.size with h | h
  · rw [List.getElem?_range h, List.getElem?_eq_getElem (show i < a.toList.length from h)]
    exact congrArg some (Array.getElem?_eq_getElem h)
  · rw [List.getElem?_eq_none (by rwa [List.length_range]), List.getElem?_eq_none (show a.toList.length ≤ i from h)]
    rfl

def IdMap (m : AMap) : Prop := ∀ i j, m.get i = some j → j = i

theorem orSelf_id {m : AMap} (h : IdMap m) (i : Nat) : orSelf m i = i := by
  unfold orSelf
  cases hg : m.get i with
  | none => rfl
  | some j => exact h i j hg

theorem mapOpt_id {α : Type} {f : α → Option α} (h : ∀ a a', f a = some a' → a' = a) :
    ∀ {l l' : List α}, mapOpt f l = some l' → l' = l
  | [], _, hl => by cases hl; rfl
  | a :: as, _, hl => by
    obtain ⟨b, bs, hb, hbs, rfl⟩ := mapOpt_cons_eq_some.mp hl
    rw [h a b hb, mapOpt_id h hbs]

theorem renameInstr_id {ρ : Ren} (hc : IdMap ρ.const) (hf : IdMap ρ.fn) (ht : IdMap ρ.tuple) (hy : IdMap ρ.type)
    (hb : IdMap ρ.builtin) {a a' : Instr} (h : renameInstr ρ a = some a') : a' = a := by
  have img : ∀ {m : AMap} {g : Nat → Instr} {i : Nat}, IdMap m → (m.get i).map g = some a' → a' = g i := by
    intro m g i hm hg
    obtain ⟨j, hj, rfl⟩ := Option.map_eq_some_iff.mp hg
    rw [hm i j hj]
  unfold renameInstr at h
  split at h
  · exact img hc h
  · exact img ht h
  · exact img hy h
  · exact img hf h
  · exact img hb h
  · exact img hf h
  · exact (Option.some.inj h).symm

theorem shakeTy_id {ρ : Ren} (ht : IdMap ρ.tuple) (hy : IdMap ρ.type) (τ : Ty) : shakeTy ρ τ = τ := by
  have hid : orSelf ρ.type = id := funext (orSelf_id hy)
  cases τ <;> simp only [shakeTy, hid, orSelf_id ht, id_eq, List.map_id, List.map_id', Option.map_id]

theorem shakeTuple_id {ρ : Ren} (hy : IdMap ρ.type) (T : TupleInfo) : shakeTuple ρ T = T := by
  simp only [shakeTuple, orSelf_id hy, List.map_id']

theorem shakeBuiltin_id {ρ : Ren} (hy : IdMap ρ.type) (B : BuiltinInfo) : shakeBuiltin ρ B = B := by
  simp only [shakeBuiltin, orSelf_id hy]

theorem shakeFn_id {ρ : Ren} (hc : IdMap ρ.const) (hf : IdMap ρ.fn) (ht : IdMap ρ.tuple) (hy : IdMap ρ.type)
    (hb : IdMap ρ.builtin) {F F' : Fn} (h : shakeFn ρ F = some F') : F' = F := by
  obtain ⟨is, his, rfl⟩ := Option.map_eq_some_iff.mp h
  rw [mapOpt_id (fun a a' h => renameInstr_id hc hf ht hy hb h) his, orSelf_id hy]

theorem sweep_full_identity {P : Prog} {e : Nat} {m : Marks} {out : ShakeOut} (h : sweep P e m = some out)
    (hf : sortAsc m.fns = List.range P.fns.size) (hc : sortAsc m.consts = List.range P.consts.size)
    (ht : sortAsc m.tuples = List.range P.tuples.size) (hy : sortAsc m.types = List.range P.types.size)
    (hb : sortAsc m.builtins = List.range P.builtins.size) :
    out.prog.fns = P.fns ∧ out.prog.consts = P.consts ∧ out.prog.tuples = P.tuples ∧ out.prog.types = P.types ∧
    out.prog.builtins = P.builtins ∧ out.entry = e ∧
    IdMap out.ren.fn ∧ IdMap out.ren.const ∧ IdMap out.ren.tuple ∧ IdMap out.ren.type ∧ IdMap out.ren.builtin := by
  obtain ⟨fs, cs, ts, bs, ys, fs', e', hfs, hcs, hts, hbs, hys, hfs', he', rfl⟩ := sweep_some h
  have idm : ∀ {l : List Nat} {n : Nat}, sortAsc l = List.range n → IdMap (rankMap (sortAsc l)) :=
    fun hl i j hg => rankMap_range_get (hl ▸ hg)
  have i1 : IdMap (shakeRen P m).fn := idm hf
  have i2 : IdMap (shakeRen P m).const := idm hc
  have i3 : IdMap (shakeRen P m).tuple := idm ht
  have i4 : IdMap (shakeRen P m).type := idm hy
  have i5 : IdMap (shakeRen P m).builtin := idm hb
  rw [hf, getAll_range] at hfs
  rw [hc, getAll_range] at hcs
  rw [ht, getAll_range] at hts
  rw [hy, getAll_range] at hys
  rw [hb, getAll_range] at hbs
  cases hfs; cases hcs; cases hts; cases hys; cases hbs
  cases mapOpt_id (fun a a' h => shakeFn_id i2 i1 i3 i4 i5 h) hfs'
  exact ⟨rfl, rfl, congrArg List.toArray (List.map_id'' (shakeTuple_id i4) _),
    congrArg List.toArray (List.map_id'' (shakeTy_id i3 i4) _),
    congrArg List.toArray (List.map_id'' (shakeBuiltin_id i4) _), i1 _ _ he', i1, i2, i3, i4, i5⟩

end QM.Packaging
