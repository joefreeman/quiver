import QuiverModel.Lemmas.Packaging.ValueInstrs
/-
Capture injection is behaviour-preserving: a simulation between a run whose bottom frame executes the
closure's function `f` (captures in the frame's first locals, `pc`) and a run whose bottom frame
executes the injected function `g = prelude ++ body of f` (no captures, `pc + prelude.length`).
Everything else — stack, locals, the frames above — is *identical* in the two runs; the only
instruction that sees the difference is `TailCall(true)`, after which the `g` run re-executes the
prelude (a stutter of `prelude.length` steps).
-/
namespace QM.Packaging

/-- `lo'` still has the first `bound` entries of `lo`. -/
def KeepsPrefix (bound : Nat) (lo lo' : List Val) : Prop := lo'.take bound = lo.take bound ∧ bound ≤ lo'.length

theorem KeepsPrefix.refl {bound : Nat} {lo : List Val} (h : bound ≤ lo.length) : KeepsPrefix bound lo lo := ⟨rfl, h⟩

theorem KeepsPrefix.append {bound : Nat} {lo : List Val} (h : bound ≤ lo.length) (xs : List Val) :
    KeepsPrefix bound lo (lo ++ xs) :=
  ⟨List.take_append_of_le_length h, by rw [List.length_append]; exact Nat.le_trans h (Nat.le_add_right _ _)⟩

theorem KeepsPrefix.take {bound m : Nat} {lo : List Val} (h : bound ≤ lo.length) (hm : bound ≤ m) :
    KeepsPrefix bound lo (lo.take m) :=
  ⟨by rw [List.take_take, Nat.min_eq_left hm], by rw [List.length_take]; exact Nat.le_min.2 ⟨hm, h⟩⟩

theorem KeepsPrefix.trans {bound : Nat} {a b c : List Val} (h1 : KeepsPrefix bound a b)
    (h2 : KeepsPrefix bound b c) : KeepsPrefix bound a c := ⟨h2.1.trans h1.1, h2.2⟩

theorem KeepsPrefix.take_append {bound m : Nat} {lo : List Val} (h : bound ≤ lo.length) (hm : bound ≤ m)
    (xs : List Val) : KeepsPrefix bound lo (lo.take m ++ xs) :=
  (KeepsPrefix.take h hm).trans (.append (KeepsPrefix.take h hm).2 xs)

/-- Results of one instruction executed in frame `fr` above `r` and in frame `fr'` above `r'`, from the
    same stack, locals `lo` and flag: the frame advances, jumps, is called from, restarts (`TailCall(true)`)
    or is replaced (`TailCall(false)`). `bound` is a number of leading locals the instruction keeps. -/
inductive ExecSim (bound : Nat) (lo : List Val) (i : Instr) (s s' : St) (fr fr' : Frame) (r r' : List Frame) :
    Res → Res → Prop where
  | adv {stk lo' : List Val} {pe : Bool} : KeepsPrefix bound lo lo' →
      ExecSim bound lo i s s' fr fr' r r'
        (.next ⟨stk, lo', advance fr :: r, pe⟩) (.next ⟨stk, lo', advance fr' :: r', pe⟩)
  | jump {stk : List Val} {pe : Bool} (off : Int) : i = .jump off ∨ i = .jumpIf off →
      ExecSim bound lo i s s' fr fr' r r'
        (.next ⟨stk, lo, { fr with pc := jumpTarget fr.pc off } :: r, pe⟩)
        (.next ⟨stk, lo, { fr' with pc := jumpTarget fr'.pc off } :: r', pe⟩)
  | call {stk lo' : List Val} {a : Frame} {pe : Bool} : bound ≤ a.base → KeepsPrefix bound lo lo' →
      ExecSim bound lo i s s' fr fr' r r'
        (.next ⟨stk, lo', a :: fr :: r, pe⟩) (.next ⟨stk, lo', a :: fr' :: r', pe⟩)
  | recur (stk : List Val) (pe : Bool) :
      ExecSim bound lo i s s' fr fr' r r'
        (.next ⟨stk, lo.take (fr.base + fr.caps), { fr with pc := 0 } :: r, pe⟩)
        (.next ⟨stk, lo.take (fr'.base + fr'.caps), { fr' with pc := 0 } :: r', pe⟩)
  | tail (stk : List Val) (pe : Bool) (f : Nat) (caps : List Val) :
      ExecSim bound lo i s s' fr fr' r r'
        (.next ⟨stk, lo.take fr.base ++ caps, ⟨f, fr.base, caps.length, 0⟩ :: r, pe⟩)
        (.next ⟨stk, lo.take fr'.base ++ caps, ⟨f, fr'.base, caps.length, 0⟩ :: r', pe⟩)
  | err (e : ErrClass) : ExecSim bound lo i s s' fr fr' r r' (.err e) (.err e)
  | panic : ExecSim bound lo i s s' fr fr' r r' .panic .panic
  | yield (j : Instr) : ExecSim bound lo i s s' fr fr' r r' (.yield s j) (.yield s' j)

/-- `exec` looks at the current frame's `base` (which the two frames share), at its `caps` only for
    `TailCall(true)`, and at the frames below not at all. -/
theorem exec_sim (Q : Prog) (B : BuiltinSem) (stk lo : List Val) (pe : Bool) (fr fr' : Frame)
    (r r' : List Frame) (i : Instr) (bound : Nat) (hbase : fr'.base = fr.base) (hlo : bound ≤ lo.length)
    (hreset : ∀ m, i = .reset m → bound ≤ fr.base + m) :
    ExecSim bound lo i ⟨stk, lo, fr :: r, pe⟩ ⟨stk, lo, fr' :: r', pe⟩ fr fr' r r'
      (exec Q B ⟨stk, lo, fr :: r, pe⟩ fr r i) (exec Q B ⟨stk, lo, fr' :: r', pe⟩ fr' r' i) := by
  have hk := KeepsPrefix.refl hlo
  cases i with
  | const n =>
    dsimp only [exec]
    cases Q.consts[n]? with
    | none => exact .err _
    | some k => cases k <;> exact .adv hk
  | pop | dup | isType | not =>
    cases stk with
    | nil => exact .err _
    | cons v st => exact .adv hk
  | pick n =>
    dsimp only [exec]
    cases stk[n]? with
    | none => exact .err _
    | some v => exact .adv hk
  | rotate n =>
    dsimp only [exec]
    split
    · exact .err _
    · cases n with
      | zero => exact .panic
      | succ m =>
        dsimp only
        cases stk[m]? with
        | none => exact .err _
        | some v => exact .adv hk
  | reset n =>
    dsimp only [exec]
    rw [hbase]
    split
    · exact .err _
    · exact .adv (KeepsPrefix.take hlo (hreset n rfl))
  | load n =>
    dsimp only [exec]
    rw [hbase]
    cases lo[fr.base + n]? with
    | none => exact .err _
    | some v => exact .adv hk
  | store =>
    cases stk with
    | nil => exact .err _
    | cons v st => exact .adv (KeepsPrefix.append hlo _)
  | tuple t =>
    dsimp only [exec]
    cases Q.tuples[t]? with
    | none => exact .err _
    | some T =>
      dsimp only
      split
      · exact .err _
      · exact .adv hk
  | get n =>
    cases stk with
    | nil => exact .err _
    | cons v st =>
      cases v with
      | tuple t fs =>
        dsimp only [exec]
        cases fs[n]? with
        | none => exact .err _
        | some w => exact .adv hk
      | _ => exact .err _
  | jump off => exact .jump off (.inl rfl)
  | jumpIf off =>
    cases stk with
    | nil => exact .err _
    | cons v st =>
      dsimp only [exec]
      split
      · exact .adv hk
      · exact .jump off (.inr rfl)
  | call =>
    cases stk with
    | nil => exact .err _
    | cons v st =>
      cases v with
      | fn g caps =>
        dsimp only [exec]
        cases Q.fns[g]? with
        | none => exact .err _
        | some G =>
          cases st with
          | nil => exact .err _
          | cons arg st' => exact .call hlo (KeepsPrefix.append hlo _)
      | builtin n =>
        cases st with
        | nil => exact .err _
        | cons arg st' =>
          dsimp only [exec]
          cases Q.builtins[n]? with
          | none => exact .err _
          | some info =>
            dsimp only
            cases B info.name arg with
            | value v => exact .adv hk
            | err e => exact .err _
            | action => exact .yield _
            | panic => exact .panic
      | _ => exact .err _
  | tailCall rc =>
    cases rc with
    | true =>
      cases stk with
      | nil => exact .err _
      | cons arg st => exact .recur _ _
    | false =>
      cases stk with
      | nil => exact .err _
      | cons fv st =>
        cases st with
        | nil => exact .err _
        | cons arg st' =>
          cases fv with
          | fn g caps =>
            dsimp only [exec]
            cases Q.fns[g]? with
            | none => exact .err _
            | some G => exact .tail _ _ _ _
          | _ => exact .err _
  | function g =>
    dsimp only [exec]
    cases Q.fns[g]? with
    | none => exact .err _
    | some G =>
      dsimp only
      split
      · exact .err _
      · exact .adv hk
  | builtin n =>
    dsimp only [exec]
    split
    · exact .adv hk
    · exact .err _
  | equal n =>
    dsimp only [exec]
    split
    · exact .err _
    · cases (stk.take n).reverse with
      | nil => exact .panic
      | cons first others => exact .adv hk
  | spawn | send | self | select | process => exact .yield _

/-- Results of the same instruction executed above two different lists `r`, `r'` of lower frames. -/
inductive ExecRel (bound : Nat) (lo : List Val) (s s' : St) (r r' : List Frame) : Res → Res → Prop where
  | next1 {stk lo' : List Val} {a : Frame} {pe : Bool} : bound ≤ a.base → KeepsPrefix bound lo lo' →
      ExecRel bound lo s s' r r' (.next ⟨stk, lo', a :: r, pe⟩) (.next ⟨stk, lo', a :: r', pe⟩)
  | next2 {stk lo' : List Val} {a b : Frame} {pe : Bool} : bound ≤ a.base → bound ≤ b.base →
      KeepsPrefix bound lo lo' →
      ExecRel bound lo s s' r r' (.next ⟨stk, lo', a :: b :: r, pe⟩) (.next ⟨stk, lo', a :: b :: r', pe⟩)
  | err (e : ErrClass) : ExecRel bound lo s s' r r' (.err e) (.err e)
  | panic : ExecRel bound lo s s' r r' .panic .panic
  | yield (i : Instr) : ExecRel bound lo s s' r r' (.yield s i) (.yield s' i)

theorem ExecSim.toExecRel {bound : Nat} {lo : List Val} {i : Instr} {s s' : St} {u : Frame} {r r' : List Frame}
    (hub : bound ≤ u.base) (hlo : bound ≤ lo.length) {x y : Res}
    (h : ExecSim bound lo i s s' u u r r' x y) : ExecRel bound lo s s' r r' x y := by
  cases h with
  | adv hk => exact .next1 hub hk
  | jump => exact .next1 hub (.refl hlo)
  | call ha hk => exact .next2 ha hub hk
  | recur => exact .next1 hub (.take hlo (Nat.le_trans hub (Nat.le_add_right _ _)))
  | tail => exact .next1 hub (.take_append hlo hub _)
  | err e => exact .err e
  | panic => exact .panic
  | yield j => exact .yield j

theorem exec_rest (Q : Prog) (B : BuiltinSem) (stk lo : List Val) (pe : Bool) (u : Frame)
    (r r' : List Frame) (i : Instr) (bound : Nat) (hub : bound ≤ u.base) (hlo : bound ≤ lo.length) :
    ExecRel bound lo ⟨stk, lo, u :: r, pe⟩ ⟨stk, lo, u :: r', pe⟩ r r'
      (exec Q B ⟨stk, lo, u :: r, pe⟩ u r i) (exec Q B ⟨stk, lo, u :: r', pe⟩ u r' i) :=
  (exec_sim Q B stk lo pe u u r r' i bound rfl hlo
    fun _ _ => Nat.le_trans hub (Nat.le_add_right _ _)).toExecRel hub hlo

/-- Shifting the code by `k` shifts every in-range jump target by `k`, as long as nothing wraps round `2 ^ 64`: the
    origin of the hypothesis `hsize` of `C10.injectCaptures_equiv`. -/
theorem jumpTarget_shift {pc k : Nat} {off : Int} (h0 : 0 ≤ (pc : Int) + off + 1)
    (h1 : (pc : Int) + off + 1 + k < 2 ^ 64) : jumpTarget (pc + k) off = jumpTarget pc off + k := by
  -- the unshifted target is a natural number `t` with `t + k < 2 ^ 64`: no wrap-around on either side
  obtain ⟨t, ht⟩ := Int.eq_ofNat_of_zero_le h0
  rw [ht, ← Int.natCast_add] at h1
  have e : ∀ m : Nat, (m : Int) < 2 ^ 64 → ((m : Int) % 2 ^ 64).toNat = m := fun m hm => by
    rw [Int.emod_eq_of_lt (Int.natCast_nonneg m) hm, Int.toNat_natCast]
  unfold jumpTarget
  rw [Int.natCast_add, Int.add_right_comm (pc : Int) k off, Int.add_right_comm ((pc : Int) + off) k 1, ht,
    ← Int.natCast_add, e _ h1, e _ (Int.lt_of_le_of_lt (Int.ofNat_le.2 (Nat.le_add_right t k)) h1)]

/-- Results of one instruction in the bottom frame of the two runs. -/
inductive BotRel (f g k n b0 pc : Nat) (lo : List Val) (s s' : St) : Res → Res → Prop where
  | adv {stk lo' : List Val} {pe : Bool} {pcf pcg : Nat} : pcg = pcf + k → KeepsPrefix (b0 + n) lo lo' →
      BotRel f g k n b0 pc lo s s' (.next ⟨stk, lo', [⟨f, b0, n, pcf⟩], pe⟩) (.next ⟨stk, lo', [⟨g, b0, 0, pcg⟩], pe⟩)
  | call {stk lo' : List Val} {a : Frame} {pe : Bool} : b0 + n ≤ a.base → KeepsPrefix (b0 + n) lo lo' →
      BotRel f g k n b0 pc lo s s' (.next ⟨stk, lo', [a, ⟨f, b0, n, pc⟩], pe⟩)
        (.next ⟨stk, lo', [a, ⟨g, b0, 0, pc + k⟩], pe⟩)
  | same (t : St) : BotRel f g k n b0 pc lo s s' (.next t) (.next t)
  | recur (stk : List Val) (pe : Bool) :
      BotRel f g k n b0 pc lo s s' (.next ⟨stk, lo.take (b0 + n), [⟨f, b0, n, 0⟩], pe⟩)
        (.next ⟨stk, lo.take b0, [⟨g, b0, 0, 0⟩], pe⟩)
  | err (e : ErrClass) : BotRel f g k n b0 pc lo s s' (.err e) (.err e)
  | panic : BotRel f g k n b0 pc lo s s' .panic .panic
  | yield (i : Instr) : BotRel f g k n b0 pc lo s s' (.yield s i) (.yield s' i)

theorem ExecSim.toBotRel {f g k n b0 pc : Nat} {lo : List Val} {i : Instr} {s s' : St}
    (hjump : ∀ off, (i = .jump off ∨ i = .jumpIf off) → jumpTarget (pc + k) off = jumpTarget pc off + k)
    (hlo : b0 + n ≤ lo.length) {x y : Res}
    (h : ExecSim (b0 + n) lo i s s' ⟨f, b0, n, pc⟩ ⟨g, b0, 0, pc + k⟩ [] [] x y) :
    BotRel f g k n b0 pc lo s s' x y := by
  cases h with
  | adv hk => exact .adv (Nat.add_right_comm pc k 1) hk
  | jump off ho => exact .adv (hjump off ho) (.refl hlo)
  | call ha hk => exact .call ha hk
  | recur => exact .recur _ _
  | tail => exact .same _
  | err e => exact .err e
  | panic => exact .panic
  | yield j => exact .yield j

theorem exec_bottom (Q : Prog) (B : BuiltinSem) (f g k n b0 pc : Nat) (stk lo : List Val) (pe : Bool)
    (i : Instr)
    (hjump : ∀ off, (i = .jump off ∨ i = .jumpIf off) →
      0 ≤ (pc : Int) + off + 1 ∧ (pc : Int) + off + 1 + k < 2 ^ 64)
    (hreset : ∀ m, i = .reset m → n ≤ m) (hlo : b0 + n ≤ lo.length) :
    BotRel f g k n b0 pc lo ⟨stk, lo, [⟨f, b0, n, pc⟩], pe⟩ ⟨stk, lo, [⟨g, b0, 0, pc + k⟩], pe⟩
      (exec Q B ⟨stk, lo, [⟨f, b0, n, pc⟩], pe⟩ ⟨f, b0, n, pc⟩ [] i)
      (exec Q B ⟨stk, lo, [⟨g, b0, 0, pc + k⟩], pe⟩ ⟨g, b0, 0, pc + k⟩ [] i) :=
  (exec_sim Q B stk lo pe ⟨f, b0, n, pc⟩ ⟨g, b0, 0, pc + k⟩ [] [] i (b0 + n) rfl hlo
    fun m hm => Nat.add_le_add_left (hreset m hm) b0).toBotRel
    (fun off ho => jumpTarget_shift (hjump off ho).1 (hjump off ho).2) hlo

/-- What the simulation needs to know about `f`, `g` and the program. -/
structure InjSetup (Q : Prog) (B : BuiltinSem) (f g k n : Nat) (capsV : List Val) (F : Fn) (pre : List Instr) :
    Prop where
  hF : Q.fns[f]? = some F
  hG : Q.fns[g]? = some { instrs := pre ++ F.instrs, captures := 0, typeId := F.typeId }
  hk : pre.length = k
  hn : capsV.length = n
  /-- the prelude stores the captures (supplied by `C10.injectCaptures_prelude_partial`) -/
  prelude : ∀ (S L : List Val) (base : Nat) (rest : List Frame) (pers : Bool),
    Steps Q B ⟨S, L, ⟨g, base, 0, 0⟩ :: rest, pers⟩ ⟨S, L ++ capsV, ⟨g, base, 0, k⟩ :: rest, pers⟩
  /-- every jump of `f` stays inside the function (what C07's checker certifies for compiled code) -/
  jumps : ∀ (pc : Nat) (off : Int), (F.instrs[pc]? = some (.jump off) ∨ F.instrs[pc]? = some (.jumpIf off)) →
    0 ≤ (pc : Int) + off + 1 ∧ (pc : Int) + off + 1 + k < 2 ^ 64
  /-- `f` never resets its locals below its captures -/
  resets : ∀ (pc m : Nat), F.instrs[pc]? = some (.reset m) → n ≤ m

/-- The two runs: equal stacks, locals, flags; frames equal (once the bottom frame has returned or has been replaced
    by `TailCall(false)` the runs coincide), or equal above a bottom frame that is `f@pc` in one and `g@pc+k` in the
    other, with the captures in place. -/
structure InjRel (f g k n b0 : Nat) (capsV : List Val) (s s' : St) : Prop where
  stack : s'.stack = s.stack
  locals : s'.locals = s.locals
  pers : s'.persistent = s.persistent
  frames : s'.frames = s.frames ∨
    ∃ (upper : List Frame) (pc : Nat), s.frames = upper ++ [⟨f, b0, n, pc⟩] ∧
      s'.frames = upper ++ [⟨g, b0, 0, pc + k⟩] ∧ (∀ fr ∈ upper, b0 + n ≤ fr.base) ∧
      b0 + n ≤ s.locals.length ∧ (s.locals.drop b0).take n = capsV

theorem InjRel.rfl' {f g k n b0 : Nat} {capsV : List Val} (s : St) : InjRel f g k n b0 capsV s s :=
  ⟨rfl, rfl, rfl, Or.inl rfl⟩

theorem caps_kept {b0 n : Nat} {lo lo' : List Val} (h : KeepsPrefix (b0 + n) lo lo') :
    (lo'.drop b0).take n = (lo.drop b0).take n := by
  have := congrArg (List.drop b0) h.1
  rwa [List.drop_take, List.drop_take, Nat.add_sub_cancel_left] at this

theorem InjRel.bottom {f g k n b0 pcg : Nat} {capsV stk lo lo' : List Val} {pe : Bool} (upper : List Frame)
    (pc : Nat) (hpc : pcg = pc + k) (hup : ∀ fr ∈ upper, b0 + n ≤ fr.base) (hkp : KeepsPrefix (b0 + n) lo lo')
    (hcaps : (lo.drop b0).take n = capsV) :
    InjRel f g k n b0 capsV ⟨stk, lo', upper ++ [⟨f, b0, n, pc⟩], pe⟩
      ⟨stk, lo', upper ++ [⟨g, b0, 0, pcg⟩], pe⟩ := by
  subst hpc
  exact ⟨rfl, rfl, rfl, .inr ⟨upper, pc, rfl, rfl, hup, hkp.2, (caps_kept hkp).trans hcaps⟩⟩

/-- Simulation outcome: `SimOut Q B Rr s' r` says the run from `s'` matches the one-step result `r` of the other
    run — `.next t` by some `Steps` to an `Rr`-related state (the stutter), every other result by one `step` of
    `s'` with the same outcome (`Rr`-related state for a yield). -/
inductive SimOut (Q : Prog) (B : BuiltinSem) (Rr : St → St → Prop) (s' : St) : Res → Prop where
  | next {t t' : St} : Steps Q B s' t' → Rr t t' → SimOut Q B Rr s' (.next t)
  | err (e : ErrClass) : step Q B s' = .err e → SimOut Q B Rr s' (.err e)
  | panic : step Q B s' = .panic → SimOut Q B Rr s' .panic
  | yield {t t' : St} (i : Instr) : step Q B s' = .yield t' i → Rr t t' → SimOut Q B Rr s' (.yield t i)
  | done (v : Val) : step Q B s' = .done v → SimOut Q B Rr s' (.done v)

theorem simOut_refl (Q : Prog) (B : BuiltinSem) {f g k n b0 : Nat} {capsV : List Val} (s : St) :
    SimOut Q B (InjRel f g k n b0 capsV) s (step Q B s) := by
  cases h : step Q B s with
  | next t => exact .next (Steps.single h) (InjRel.rfl' t)
  | err e => exact .err e h
  | panic => exact .panic h
  | yield t i => exact .yield i h (InjRel.rfl' t)
  | done v => exact .done v h

theorem fetch_g {Q : Prog} {B : BuiltinSem} {f g k n : Nat} {capsV : List Val} {F : Fn} {pre : List Instr}
    (hs : InjSetup Q B f g k n capsV F pre) (b0 c pc : Nat) :
    fetch Q ⟨g, b0, c, pc + k⟩ = fetch Q ⟨f, b0, n, pc⟩ := by
  rw [fetch_eq hs.hG, fetch_eq hs.hF, ← hs.hk]
  exact (List.getElem?_append_right (Nat.le_add_left _ _)).trans (by rw [Nat.add_sub_cancel])

theorem step_exit {Q : Prog} {B : BuiltinSem} {S L : List Val} {fr c : Frame} {cs : List Frame} {pers : Bool}
    (h : fetch Q fr = none) :
    step Q B ⟨S, L, fr :: c :: cs, pers⟩ = .next ⟨S, L.take fr.base, advance c :: cs, pers⟩ := by
  simp only [step, h, List.isEmpty_cons, Bool.not_false, Bool.or_true, if_true]

/-- **One step of the `f` run is matched by one step (or `1 + k` steps after `TailCall(true)`) of
    the `g` run.** -/
theorem inj_sim_step {Q : Prog} {B : BuiltinSem} {f g k n b0 : Nat} {capsV : List Val} {F : Fn}
    {pre : List Instr} (hs : InjSetup Q B f g k n capsV F pre) {s s' : St}
    (hR : InjRel f g k n b0 capsV s s') : SimOut Q B (InjRel f g k n b0 capsV) s' (step Q B s) := by
  obtain ⟨hst, hlo, hpe, hfr⟩ := hR
  rcases s with ⟨stk0, lo0, frs, pe0⟩
  rcases s' with ⟨stk, lo, frs', pe⟩
  simp only at hst hlo hpe hfr
  subst hst hlo hpe
  rcases hfr with hfr | ⟨upper, pc, hf1, hf2, hup, hlen, hcaps⟩
  · subst hfr
    exact simOut_refl Q B _
  subst hf1 hf2
  have hk := KeepsPrefix.refl hlen
  cases upper with
  | nil =>
    -- the bottom frame is current
    have hfetch := fetch_g (B := B) hs b0 0 pc
    rw [List.nil_append, List.nil_append]
    cases hi : fetch Q ⟨f, b0, n, pc⟩ with
    | none =>
      -- both runs pop their last frame, which has the same base
      have : step Q B ⟨stk, lo, [⟨f, b0, n, pc⟩], pe⟩ = step Q B ⟨stk, lo, [⟨g, b0, 0, pc + k⟩], pe⟩ := by
        simp only [step, hi, hfetch.trans hi]
      rw [this]
      exact simOut_refl Q B _
    | some i =>
      have hFi : F.instrs[pc]? = some i := (fetch_eq hs.hF).symm.trans hi
      have hb := exec_bottom Q B f g k n b0 pc stk lo pe i
        (fun off ho => hs.jumps pc off (ho.elim (fun h => .inl (h ▸ hFi)) fun h => .inr (h ▸ hFi)))
        (fun m hm => hs.resets pc m (hm ▸ hFi)) hlen
      have hstep' := step_of_fetch (B := B) (S := stk) (L := lo) (rest := []) (pers := pe) (hfetch.trans hi)
      rw [step_of_fetch hi]
      generalize exec Q B ⟨stk, lo, [⟨f, b0, n, pc⟩], pe⟩ ⟨f, b0, n, pc⟩ [] i = r1 at hb
      generalize exec Q B ⟨stk, lo, [⟨g, b0, 0, pc + k⟩], pe⟩ ⟨g, b0, 0, pc + k⟩ [] i = r2 at hb hstep'
      cases hb with
      | adv hpc hkp => exact .next (.single hstep') (.bottom [] _ hpc (fun _ h => nomatch h) hkp hcaps)
      | call hab hkp =>
        exact .next (.single hstep') (.bottom [_] pc rfl (List.forall_mem_singleton.2 hab) hkp hcaps)
      | same t => exact .next (.single hstep') (.rfl' t)
      | recur stk2 pe2 =>
        -- `TailCall(true)`: the `g` run re-executes the prelude
        have hpre := hs.prelude stk2 (lo.take b0) b0 [] pe2
        rw [← hcaps, ← List.take_add] at hpre
        exact .next ((Steps.single hstep').trans hpre)
          (.bottom [] 0 (Nat.zero_add k).symm (fun _ h => nomatch h) (.take hlen (Nat.le_refl _)) hcaps)
      | err e => exact .err e hstep'
      | panic => exact .panic hstep'
      | yield j => exact .yield j hstep' (.bottom [] pc rfl (fun _ h => nomatch h) hk hcaps)
  | cons u us =>
    -- an upper frame is current: identical instruction, different frames below
    obtain ⟨hub, hus⟩ := List.forall_mem_cons.1 hup
    rw [List.cons_append, List.cons_append]
    cases hi : fetch Q u with
    | none =>
      -- frame exit: the frame below is advanced
      have hkp : KeepsPrefix (b0 + n) lo (lo.take u.base) := .take hlen hub
      cases us with
      | nil =>
        rw [List.nil_append, List.nil_append, step_exit hi]
        exact .next (.single (step_exit hi)) (.bottom [] (pc + 1) (Nat.add_right_comm pc k 1) hus hkp hcaps)
      | cons u2 us2 =>
        obtain ⟨hu2, hus2⟩ := List.forall_mem_cons.1 hus
        rw [List.cons_append, List.cons_append, step_exit hi]
        exact .next (.single (step_exit hi))
          (.bottom (advance u2 :: us2) pc rfl (List.forall_mem_cons.2 ⟨hu2, hus2⟩) hkp hcaps)
    | some i =>
      have he :=
        exec_rest Q B stk lo pe u (us ++ [⟨f, b0, n, pc⟩]) (us ++ [⟨g, b0, 0, pc + k⟩]) i (b0 + n) hub hlen
      have hstep' :=
        step_of_fetch (B := B) (S := stk) (L := lo) (rest := us ++ [⟨g, b0, 0, pc + k⟩]) (pers := pe) hi
      rw [step_of_fetch hi]
      generalize exec Q B ⟨stk, lo, u :: (us ++ [⟨f, b0, n, pc⟩]), pe⟩ u (us ++ [⟨f, b0, n, pc⟩]) i = r1 at he
      generalize exec Q B ⟨stk, lo, u :: (us ++ [⟨g, b0, 0, pc + k⟩]), pe⟩ u (us ++ [⟨g, b0, 0, pc + k⟩]) i = r2
        at he hstep'
      cases he with
      | next1 ha hkp =>
        exact .next (.single hstep') (.bottom (_ :: us) pc rfl (List.forall_mem_cons.2 ⟨ha, hus⟩) hkp hcaps)
      | next2 ha hb hkp =>
        exact .next (.single hstep')
          (.bottom (_ :: _ :: us) pc rfl (List.forall_mem_cons.2 ⟨ha, List.forall_mem_cons.2 ⟨hb, hus⟩⟩) hkp hcaps)
      | err e => exact .err e hstep'
      | panic => exact .panic hstep'
      | yield j => exact .yield j hstep' (.bottom (u :: us) pc rfl hup hk hcaps)

theorem run_mono_steps {Q : Prog} {B : BuiltinSem} {s t : St} (h : Steps Q B s t) :
    ∀ {fuel : Nat} {r : Res}, run Q B fuel t = some r → ∃ fuel', run Q B fuel' s = some r := by
  induction h with
  | refl s => intro fuel r hr; exact ⟨fuel, hr⟩
  | cons hstep _ ih =>
    intro fuel r hr
    obtain ⟨fuel', hf⟩ := ih hr
    exact ⟨fuel' + 1, by unfold run; rw [hstep]; exact hf⟩

/-- What two fuelled runs end with: the same constructor and payload, the state of a yield related by `Rr`. -/
inductive InjResRel (Rr : St → St → Prop) : Res → Res → Prop where
  | err (e) : InjResRel Rr (.err e) (.err e)
  | panic : InjResRel Rr .panic .panic
  | yield {t t'} (i) : Rr t t' → InjResRel Rr (.yield t i) (.yield t' i)
  | done (v) : InjResRel Rr (.done v) (.done v)

/-- **Whatever the `f` run ends with, the `g` run ends with the same** (value, error class, panic; a
    yield with an `InjRel`-related state), possibly needing more fuel. -/
theorem inj_sim_run {Q : Prog} {B : BuiltinSem} {f g k n b0 : Nat} {capsV : List Val} {F : Fn}
    {pre : List Instr} (hs : InjSetup Q B f g k n capsV F pre) :
    ∀ (fuel : Nat) {s s' : St} {r : Res}, InjRel f g k n b0 capsV s s' → run Q B fuel s = some r →
      ∃ fuel' r', run Q B fuel' s' = some r' ∧ InjResRel (InjRel f g k n b0 capsV) r r' := by
  intro fuel
  induction fuel with
  | zero => exact fun _ h => nomatch h
  | succ fuel ih =>
    intro s s' r hR h
    have hsim := inj_sim_step hs hR
    unfold run at h
    generalize step Q B s = x at h hsim
    cases hsim with
    | next hsteps hRt =>
      obtain ⟨fuel', r', hrun, hrel⟩ := ih hRt h
      obtain ⟨fuel'', hrun'⟩ := run_mono_steps hsteps hrun
      exact ⟨fuel'', r', hrun', hrel⟩
    | err e h' => cases h; exact ⟨1, _, by unfold run; rw [h'], .err e⟩
    | panic h' => cases h; exact ⟨1, _, by unfold run; rw [h'], .panic⟩
    | yield i h' hRt => cases h; exact ⟨1, _, by unfold run; rw [h'], .yield i hRt⟩
    | done v h' => cases h; exact ⟨1, _, by unfold run; rw [h'], .done v⟩

end QM.Packaging
