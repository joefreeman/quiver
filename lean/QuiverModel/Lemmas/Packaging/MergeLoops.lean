import QuiverModel.Lemmas.Packaging.MergeFrame
import QuiverModel.Lemmas.Packaging.Shake
/-!
The constant, builtin and function loops of `merge_bytecode` (`RegLoop.spec` and its three instances), `SrcWf`, and
the image clauses of `IsStructRenaming` for a whole merge: `merge_types_tuples`, `merge_image_clauses`,
`merge_builtin_total`.
-/
namespace QM.Packaging

theorem getOr_of_get {m : AMap} {i n : Nat} (h : m.get i = some n) : getOr m i = n := by
  rw [getOr, h]; rfl

/-- The three register loops of `merge_bytecode` (constants, builtins, functions), over a variable loop `f` that
    registers `reg P m x` for the `i`-th source entry `x` and binds `i` to the index it got. `Inv m P c c'` says that
    `c'` is the image of source entry `c`; it may mention the map and the program, and has to survive a step. `lo`:
    a new entry may rely on every index from `lo` up to its own being bound (functions: `lo = 0`, they refer to
    earlier functions; constants and builtins: `lo = i`, nothing to rely on). -/
theorem RegLoop.spec {α : Type} {f : List α → Nat → Prog → AMap → Prog × AMap} {reg : Prog → AMap → α → Prog × Nat}
    (hf : RegLoop f reg) {srcAt : Nat → Option α} {Inv : AMap → Prog → Nat → Nat → Prop} {lo : Nat}
    (keep : ∀ {m P c c'} i x, i ∉ m.map (·.1) → Inv m P c c' → Inv ((i, (reg P m x).2) :: m) (reg P m x).1 c c')
    (new : ∀ {m P} i x, srcAt i = some x → i ∉ m.map (·.1) → (∀ c, lo ≤ c → c < i → ∃ c', m.get c = some c') →
      Inv ((i, (reg P m x).2) :: m) (reg P m x).1 i (reg P m x).2)
    (xs : List α) (i : Nat) (P : Prog) (m : AMap) (hxs : ∀ j x, xs[j]? = some x → srcAt (i + j) = some x)
    (hkeys : ∀ c ∈ m.map (·.1), c < i) (htot : ∀ c, lo ≤ c → c < i → ∃ c', m.get c = some c')
    (hinv : ∀ c c', m.get c = some c' → Inv m P c c') :
    (∀ c c', (f xs i P m).2.get c = some c' → Inv (f xs i P m).2 (f xs i P m).1 c c') ∧
    (∀ c c', m.get c = some c' → (f xs i P m).2.get c = some c') ∧
    (∀ c, lo ≤ c → c < i + xs.length → ∃ c', (f xs i P m).2.get c = some c') := by
  induction xs generalizing i P m with
  | nil =>
    rw [hf.nil]
    exact ⟨hinv, fun _ _ h => h, htot⟩
  | cons x xs ih =>
    rw [hf.cons]
    have hi : i ∉ m.map (·.1) := fun h => Nat.lt_irrefl _ (hkeys i h)
    have htot1 : ∀ c, lo ≤ c → c < i + 1 → ∃ c', AMap.get ((i, (reg P m x).2) :: m) c = some c' := by
      intro c h1 h2
      rcases Nat.lt_succ_iff_lt_or_eq.mp h2 with h | rfl
      · obtain ⟨c', hc'⟩ := htot c h1 h
        exact ⟨c', get_cons_of_get _ hi hc'⟩
      · exact ⟨_, get_cons_self _ _ _⟩
    have hinv1 : ∀ c c', AMap.get ((i, (reg P m x).2) :: m) c = some c' →
        Inv ((i, (reg P m x).2) :: m) (reg P m x).1 c c' := by
      intro c c' hg
      rcases get_cons_cases hg with ⟨rfl, rfl⟩ | h
      · exact new c x (hxs 0 x rfl) hi htot
      · exact keep i x hi (hinv c c' h)
    obtain ⟨a, b, c⟩ := ih (i + 1) _ _
      (fun j y hj => by rw [Nat.add_assoc, Nat.add_comm 1 j]; exact hxs (j + 1) y hj) 
      (fun c hc => (List.mem_cons.mp hc).elim (fun e => e ▸ Nat.lt_succ_self _) (fun hc => Nat.lt_succ_of_lt (hkeys c hc)))
      htot1 hinv1
    refine ⟨a, fun c c' hg => b c c' (get_cons_of_get _ hi hg), fun c0 h1 h2 => c c0 h1 ?_⟩
    rw [List.length_cons, ← Nat.add_assoc, Nat.add_right_comm] at h2
    exact h2

theorem mergeConsts_spec (src : Prog) : ∀ (ks : List Const) (i : Nat) (P : Prog) (m : AMap),
    (∀ j k, ks[j]? = some k → src.consts[i + j]? = some k) → (∀ c ∈ m.map (·.1), c < i) →
    (∀ c c', m.get c = some c' → ∃ k, src.consts[c]? = some k ∧ P.consts[c']? = some k) →
    (∀ c c', (mergeConsts ks i P m).2.get c = some c' →
      ∃ k, src.consts[c]? = some k ∧ (mergeConsts ks i P m).1.consts[c']? = some k) ∧
    (∀ c c', m.get c = some c' → (mergeConsts ks i P m).2.get c = some c') ∧
    (∀ c, i ≤ c → c < i + ks.length → ∃ c', (mergeConsts ks i P m).2.get c = some c') :=
  fun ks i P m hks hkeys hinv =>
    mergeConsts_regLoop.spec (srcAt := fun c => src.consts[c]?)
      (Inv := fun _ P c c' => ∃ k, src.consts[c]? = some k ∧ P.consts[c']? = some k)
      (fun _ k _ h => by
        obtain ⟨k0, a, b⟩ := h
        exact ⟨k0, a, (registerConst_le5 _ k).consts _ _ b⟩)
      (fun _ k hk _ _ => ⟨k, hk, registerConst_get _ k⟩)
      ks i P m hks hkeys (fun _ h1 h2 => absurd h2 (Nat.not_lt.mpr h1)) hinv

theorem mergeBuiltins_spec (src : Prog) (ym : AMap) : ∀ (bs : List BuiltinInfo) (i : Nat) (P : Prog) (m : AMap),
    (∀ j B, bs[j]? = some B → src.builtins[i + j]? = some B) → (∀ c ∈ m.map (·.1), c < i) →
    (∀ b b', m.get b = some b' → ∃ B B', src.builtins[b]? = some B ∧ P.builtins[b']? = some B' ∧ B'.name = B.name) →
    (∀ b b', (mergeBuiltins ym bs i P m).2.get b = some b' →
      ∃ B B', src.builtins[b]? = some B ∧ (mergeBuiltins ym bs i P m).1.builtins[b']? = some B' ∧ B'.name = B.name) ∧
    (∀ b b', m.get b = some b' → (mergeBuiltins ym bs i P m).2.get b = some b') ∧
    (∀ b, i ≤ b → b < i + bs.length → ∃ b', (mergeBuiltins ym bs i P m).2.get b = some b') :=
  fun bs i P m hbs hkeys hinv =>
    (mergeBuiltins_regLoop ym).spec (srcAt := fun b => src.builtins[b]?)
      (Inv := fun _ P b b' => ∃ B B', src.builtins[b]? = some B ∧ P.builtins[b']? = some B' ∧ B'.name = B.name)
      (fun _ _ _ h => by
        obtain ⟨B0, B', a, b, c⟩ := h
        exact ⟨B0, B', a, (registerBuiltin_le5 _ _).builtins _ _ b, c⟩)
      (fun _ B hB _ _ => by
        obtain ⟨B', h1, h2⟩ := registerBuiltin_get _ _
        exact ⟨B, B', hB, h1, h2⟩)
      bs i P m hbs hkeys (fun _ h1 h2 => absurd h2 (Nat.not_lt.mpr h1)) hinv

/-- what `remap_function` silently relies on: every operand of the incoming program is inside its own tables,
    functions refer only to EARLIER functions (a later one is not merged yet and `.unwrap_or(idx)` would keep the
    source index), no `Process` literal (never remapped) -/
structure SrcWf (src : Prog) : Prop where
  const : ∀ (i : Nat) (F : Fn), src.fns[i]? = some F → ∀ c, Instr.const c ∈ F.instrs → c < src.consts.size
  tuple : ∀ (i : Nat) (F : Fn), src.fns[i]? = some F → ∀ u, Instr.tuple u ∈ F.instrs → u < src.tuples.size
  isType : ∀ (i : Nat) (F : Fn), src.fns[i]? = some F → ∀ t, Instr.isType t ∈ F.instrs → t < src.types.size
  builtin : ∀ (i : Nat) (F : Fn), src.fns[i]? = some F → ∀ b, Instr.builtin b ∈ F.instrs → b < src.builtins.size
  typeId : ∀ (i : Nat) (F : Fn), src.fns[i]? = some F → F.typeId < src.types.size
  backward : ∀ (i : Nat) (F : Fn), src.fns[i]? = some F → ∀ g, Instr.function g ∈ F.instrs → g < i
  noProcessLiteral : ∀ (i : Nat) (F : Fn), src.fns[i]? = some F → ∀ pid g, Instr.process pid g ∉ F.instrs

def mkRen (cm fm tm ym bm : AMap) : Ren := { const := cm, fn := fm, tuple := tm, type := ym, builtin := bm }

theorem renameInstr_mono_fn {cm tm ym bm fm fm' : AMap} (hm : ∀ g g', fm.get g = some g' → fm'.get g = some g')
    {a a' : Instr} (h : renameInstr (mkRen cm fm tm ym bm) a = some a') :
    renameInstr (mkRen cm fm' tm ym bm) a = some a' := by
  cases a with
  | function g | process pid g =>
    obtain ⟨x, hx, rfl⟩ := Option.map_eq_some_iff.mp h
    exact Option.map_eq_some_iff.mpr ⟨x, hm _ _ hx, rfl⟩
  | _ => exact h

theorem renameInstr_mergeInstr {cm fm tm ym bm : AMap} {a : Instr}
    (hc : ∀ c, a = .const c → ∃ x, cm.get c = some x) (ht : ∀ u, a = .tuple u → ∃ x, tm.get u = some x)
    (hy : ∀ t, a = .isType t → ∃ x, ym.get t = some x) (hb : ∀ b, a = .builtin b → ∃ x, bm.get b = some x)
    (hf : ∀ g, a = .function g → ∃ x, fm.get g = some x) (hp : ∀ pid g, a ≠ .process pid g) :
    renameInstr (mkRen cm fm tm ym bm) a = some (mergeInstr cm fm tm ym bm a) := by
  -- an operand that is mapped is replaced by its image on both sides
  have img : ∀ {m : AMap} {i : Nat} (k : Nat → Instr), (∃ x, m.get i = some x) →
      (m.get i).map k = some (k (getOr m i)) := fun k ⟨x, hx⟩ => by rw [getOr_of_get hx, hx]; rfl
  cases a with
  | const c => exact img _ (hc c rfl)
  | tuple u => exact img _ (ht u rfl)
  | isType t => exact img _ (hy t rfl)
  | builtin b => exact img _ (hb b rfl)
  | function g => exact img _ (hf g rfl)
  | process pid g => exact (hp pid g rfl).elim
  | _ => rfl

theorem mergeFns_spec (src : Prog) (hw : SrcWf src) (cm tm ym bm : AMap)
    (hcm : ∀ c, c < src.consts.size → ∃ x, cm.get c = some x) (htm : ∀ u, u < src.tuples.size → ∃ x, tm.get u = some x)
    (hym : ∀ t, t < src.types.size → ∃ x, ym.get t = some x) (hbm : ∀ b, b < src.builtins.size → ∃ x, bm.get b = some x) :
    ∀ (fs : List Fn) (i : Nat) (P : Prog) (fm : AMap),
    (∀ j F, fs[j]? = some F → src.fns[i + j]? = some F) → (∀ c ∈ fm.map (·.1), c < i) →
    (∀ g, g < i → ∃ g', fm.get g = some g') →
    (∀ f f', fm.get f = some f' → ∃ F F', src.fns[f]? = some F ∧ P.fns[f']? = some F' ∧ F'.captures = F.captures ∧
      renameInstrs (mkRen cm fm tm ym bm) F.instrs = some F'.instrs ∧ ym.get F.typeId = some F'.typeId) →
    (∀ f f', (mergeFns cm tm ym bm fs i P fm).2.get f = some f' →
      ∃ F F', src.fns[f]? = some F ∧ (mergeFns cm tm ym bm fs i P fm).1.fns[f']? = some F' ∧ F'.captures = F.captures ∧
        renameInstrs (mkRen cm (mergeFns cm tm ym bm fs i P fm).2 tm ym bm) F.instrs = some F'.instrs ∧
        ym.get F.typeId = some F'.typeId) ∧
    (∀ g, g < i + fs.length → ∃ g', (mergeFns cm tm ym bm fs i P fm).2.get g = some g') := by
    intro fs i P fm hfs hkeys htot hinv
    have key := (mergeFns_regLoop cm tm ym bm).spec (srcAt := fun f => src.fns[f]?) (lo := 0)
      (Inv := fun fm P f f' => ∃ F F', src.fns[f]? = some F ∧ P.fns[f']? = some F' ∧ F'.captures = F.captures ∧
        renameInstrs (mkRen cm fm tm ym bm) F.instrs = some F'.instrs ∧ ym.get F.typeId = some F'.typeId)
      (fun _ _ hi h => by
        obtain ⟨F0, F1, a, b, c, d, e⟩ := h
        exact ⟨F0, F1, a, (registerFn_le5 _ _).fns _ _ b, c,
          mapOpt_mono (fun _ _ h => renameInstr_mono_fn (fun _ _ hg => get_cons_of_get _ hi hg) h) d, e⟩)
      (fun {fm P} f F hF hi htot => by
        refine ⟨F, _, hF, registerFn_get _ _, rfl, ?_, ?_⟩
        · -- every instruction's image under the tables is what `remap_function` wrote
          have : renameInstrs (mkRen cm fm tm ym bm) F.instrs = some (F.instrs.map (mergeInstr cm fm tm ym bm)) := by
            refine mapOpt_congr_some _ (fun a ha => ?_)
            refine renameInstr_mergeInstr (fun c hc => ?_) (fun u hu => ?_) (fun t ht => ?_) (fun b hb => ?_)
              (fun g hg => ?_) (fun pid g hpg => ?_)
            · exact hcm c (hw.const f F hF c (hc ▸ ha))
            · exact htm u (hw.tuple f F hF u (hu ▸ ha))
            · exact hym t (hw.isType f F hF t (ht ▸ ha))
            · exact hbm b (hw.builtin f F hF b (hb ▸ ha))
            · exact htot g (Nat.zero_le _) (hw.backward f F hF g (hg ▸ ha))
            · exact hw.noProcessLiteral f F hF pid g (hpg ▸ ha)
          exact mapOpt_mono (fun _ _ h => renameInstr_mono_fn (fun _ _ hg => get_cons_of_get _ hi hg) h) this
        · obtain ⟨x, hx⟩ := hym F.typeId (hw.typeId f F hF)
          exact hx.trans (congrArg some (getOr_of_get hx).symm))
      fs i P fm hfs hkeys (fun g _ hg => htot g hg) hinv
    exact ⟨key.1, fun g hg => key.2.2 g (Nat.zero_le _) hg⟩

/-- the loops run over `a.toList` from index 0: the two side conditions of the `*_spec` lemmas at `i = 0` -/
theorem loop_start {α : Type} {a : Array α} (j : Nat) (x : α) (h : a.toList[j]? = some x) : a[0 + j]? = some x := by
  rw [Nat.zero_add, ← Array.getElem?_toList]; exact h

theorem loop_stop {α : Type} {a : Array α} {c : Nat} (h : c < a.size) : c < 0 + a.toList.length := by
  rw [Nat.zero_add, Array.length_toList]; exact h

/-- **Memo-consistency of the deep import under the FINAL remap tables** — the `types` and `tuples`
    clauses of `IsRenaming` for `merge_bytecode`, for every environment and every incoming program: each
    source type / tuple id is mapped, and its image in the merged program is the entry renamed through the
    final tables. Hypothesis `hk` (`KN` of the final state; proved nowhere, decided per instance by the driver): no
    id is bound twice in the final `type_remap` / `tuple_remap` — a re-binding means an id was imported again
    while its own children were being imported. -/
theorem merge_types_tuples {env src : Prog} {e : Nat} {out : MergeOut}
    (h : mergeBytecodeWith false env src e = some out)
    (hk : (out.ren.type.map (·.1)).Nodup ∧ (out.ren.tuple.map (·.1)).Nodup) :
    (∀ t t', out.ren.type.get t = some t' → ∃ τ τ', src.types[t]? = some τ ∧ out.prog.types[t']? = some τ' ∧
      renameTy out.ren τ = some τ') ∧
    (∀ u u', out.ren.tuple.get u = some u' → ∃ T T', src.tuples[u]? = some T ∧ out.prog.tuples[u']? = some T' ∧
      T'.name = T.name ∧ T'.fields.map (·.1) = T.fields.map (·.1) ∧
      mapOpt (fun (p : Option String × Nat) => out.ren.type.get p.2) T.fields = some (T'.fields.map (·.2))) ∧
    (∀ t, t < src.types.size → ∃ t', out.ren.type.get t = some t') ∧
    (∀ u, u < src.tuples.size → ∃ u', out.ren.tuple.get u = some u') := by
  obtain ⟨p1, cm, st1, st2, p3, bm, p4, fm, e', _, h1, h2, hb, hf, _, rfl⟩ := mergeBytecodeWith_some h
  have ok1 := importAllTypes_ok src _ _ st1 h1
  have ok2 := importAllTuples_ok src _ st1 st2 h2
  have hK2 : KN st2 := hk
  obtain ⟨hI1, _, hall1⟩ := ok1.2 ⟨fun _ _ hg => (nomatch hg), fun _ _ hg => (nomatch hg)⟩ (KN.of_suf ok2.1 hK2)
  obtain ⟨hI2, hle2, hall2⟩ := ok2.2 hI1 hK2
  -- the builtin and function loops leave what the import registered where it is
  have le : ProgLe5 st2.prog p4 := (mergeBuiltins_le5 hb).trans (mergeFns_le5 hf)
  refine ⟨fun t t' hg => ?_, fun u u' hg => ?_, fun t ht => ?_, fun u hu => hall2 u (List.mem_range.mpr hu)⟩
  · obtain ⟨τ, τ', a, b, c⟩ := hI2.ty t t' hg
    -- `renameTy` reads only the `type` / `tuple` maps, which `st2.ren` and the merge's `ren` share
    exact ⟨τ, τ', a, le.types _ _ b, renameTy_mono (ρ := st2.ren) (fun _ _ h => h) (fun _ _ h => h) c⟩
  · obtain ⟨T, T', a, b, c, d, f⟩ := hI2.tu u u' hg
    exact ⟨T, T', a, le.tuples _ _ b, c, d, f⟩
  · obtain ⟨n, hn⟩ := hall1 t (List.mem_range.mpr ht)
    exact ⟨n, hle2.ty _ _ hn⟩

/-- The clauses `entry`, `fns`, `consts` and the name part of `builtins` of `IsStructRenaming` for `merge_bytecode`,
    and totality of the function map, for a well-formed incoming program (`SrcWf`) under `hk`: the image of a mapped
    function / constant is the source entry renamed through the FINAL tables (functions instruction by instruction),
    the image of a mapped builtin has the same name (`register_builtin_info` lets an already loaded builtin of that
    name win, so its parameter / result types are the loaded ones). `types` and `tuples` are `merge_types_tuples`,
    totality of the builtin map is `merge_builtin_total`; injectivity and NIL / OK are in MergeInj.lean. -/
theorem merge_image_clauses {env src : Prog} {e : Nat} {out : MergeOut}
    (h : mergeBytecodeWith false env src e = some out) (hw : SrcWf src)
    (hk : (out.ren.type.map (·.1)).Nodup ∧ (out.ren.tuple.map (·.1)).Nodup) :
    out.ren.fn.get e = some out.entry ∧
    (∀ f f', out.ren.fn.get f = some f' → ∃ F F', src.fns[f]? = some F ∧ out.prog.fns[f']? = some F' ∧
      F'.captures = F.captures ∧ renameInstrs out.ren F.instrs = some F'.instrs ∧
      out.ren.type.get F.typeId = some F'.typeId) ∧
    (∀ c c', out.ren.const.get c = some c' → ∃ k, src.consts[c]? = some k ∧ out.prog.consts[c']? = some k) ∧
    (∀ b b', out.ren.builtin.get b = some b' → ∃ B B', src.builtins[b]? = some B ∧ out.prog.builtins[b']? = some B' ∧
      B'.name = B.name) ∧
    (∀ f, f < src.fns.size → ∃ f', out.ren.fn.get f = some f') := by
  obtain ⟨_, _, hym, htm⟩ := merge_types_tuples h hk
  obtain ⟨p1, cm, st1, st2, p3, bm, p4, fm, e', hc, h1, h2, hb, hf, he', rfl⟩ := mergeBytecodeWith_some h
  have hc' := mergeConsts_spec src src.consts.toList 0 env [] loop_start (fun _ h => nomatch h) (fun _ _ hg => nomatch hg)
  have hb' := mergeBuiltins_spec src st2.tyMap src.builtins.toList 0 st2.prog [] loop_start (fun _ h => nomatch h)
    (fun _ _ hg => nomatch hg)
  rw [hc] at hc'
  rw [hb] at hb'
  obtain ⟨hc1, _, hc3⟩ := hc'
  obtain ⟨hb1, _, hb3⟩ := hb'
  have hf' := mergeFns_spec src hw cm st2.tuMap st2.tyMap bm (fun c hc => hc3 c (Nat.zero_le _) (loop_stop hc)) htm hym
    (fun b hb => hb3 b (Nat.zero_le _) (loop_stop hb)) src.fns.toList 0 p3 [] loop_start (fun _ h => nomatch h)
    (fun g hg => nomatch hg) (fun _ _ hg => nomatch hg)
  rw [hf] at hf'
  have le_f := mergeFns_le5 hf
  have le_1 : ProgLe5 p1 p3 := ((importAll_le5 src).1 _ _ st1 h1).trans <|
    ((importAll_le5 src).2 _ st1 st2 h2).trans (mergeBuiltins_le5 hb)
  refine ⟨he', hf'.1, fun c c' hg => ?_, fun b b' hg => ?_, fun f hf => hf'.2 f (loop_stop hf)⟩
  · obtain ⟨k, a, b⟩ := hc1 c c' hg
    exact ⟨k, a, le_f.consts _ _ (le_1.consts _ _ b)⟩
  · obtain ⟨B, B', a, b0, c⟩ := hb1 b b' hg
    exact ⟨B, B', a, le_f.builtins _ _ b0, c⟩

theorem merge_builtin_total {env src : Prog} {e : Nat} {out : MergeOut}
    (h : mergeBytecodeWith false env src e = some out) :
    ∀ b, b < src.builtins.size → ∃ b', out.ren.builtin.get b = some b' := by
  obtain ⟨p1, cm, st1, st2, p3, bm, p4, fm, e', _, _, _, hb, _, _, rfl⟩ := mergeBytecodeWith_some h
  have hb' := mergeBuiltins_spec src st2.tyMap src.builtins.toList 0 st2.prog [] loop_start (fun _ h => nomatch h)
    (fun _ _ hg => nomatch hg)
  rw [hb] at hb'
  exact fun b hlt => hb'.2.2 b (Nat.zero_le _) (loop_stop hlt)

end QM.Packaging
