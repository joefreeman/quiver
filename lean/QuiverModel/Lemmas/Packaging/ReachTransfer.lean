import QuiverModel.Lemmas.Packaging.Bridge
import QuiverModel.Lemmas.Packaging.Reach
/-!
Reachability transfers along a structural renaming (`reach_transfer`), hence along the sweep (`sweep_transfer`), and
the rank tables are onto the shaken tables (`rank_onto`): `shaken_all_reachable` — every entry of the shaken program
is reachable in it.
-/
namespace QM.Packaging

theorem rank_onto {s : List Nat} (hn : s.Nodup) {j : Nat} (hj : j < s.length) :
    ∃ n, n ∈ s ∧ (rankMap s).get n = some j := by
  have hs : s[j]? = some s[j] := List.getElem?_eq_getElem hj
  have hmem : s[j] ∈ s := List.mem_of_getElem? hs
  obtain ⟨i, hi⟩ := rankMap_get_of_mem hmem
  have := getElem?_inj_of_nodup hn (rankMap_get hi) hs
  subst this
  exact ⟨_, hmem, hi⟩

theorem rank_mono {s : List Nat} (hs : s.Pairwise (· ≤ ·)) {a b i j : Nat} (ha : (rankMap s).get a = some i)
    (hb : (rankMap s).get b = some j) (hab : a < b) : i < j := by
  obtain ⟨hil, hix⟩ := List.getElem?_eq_some_iff.mp (rankMap_get ha)
  obtain ⟨hjl, hjx⟩ := List.getElem?_eq_some_iff.mp (rankMap_get hb)
  refine Nat.lt_of_not_le fun hji => Nat.not_le.mpr hab ?_
  -- `j ≤ i`, so `s[j] ≤ s[i]`
  rcases Nat.lt_or_eq_of_le hji with h | rfl
  · exact hix ▸ hjx ▸ List.pairwise_iff_getElem.mp hs j i hjl hil h
  · exact Nat.le_of_eq (hjx.symm.trans hix)

theorem sweep_sizes {P : Prog} {e : Nat} {m : Marks} {out : ShakeOut} (h : sweep P e m = some out) :
    out.prog.fns.size = (sortAsc m.fns).length ∧ out.prog.consts.size = (sortAsc m.consts).length ∧
    out.prog.tuples.size = (sortAsc m.tuples).length ∧ out.prog.types.size = (sortAsc m.types).length ∧
    out.prog.builtins.size = (sortAsc m.builtins).length := by
  obtain ⟨fs, cs, ts, bs, ys, fs', e', hfs, hcs, hts, hbs, hys, hfs', he', rfl⟩ := sweep_some h
  exact ⟨(mapOpt_length hfs').trans (getAll_spec hfs).1, (getAll_spec hcs).1,
    (List.length_map _).trans (getAll_spec hts).1, (List.length_map _).trans (getAll_spec hys).1,
    (List.length_map _).trans (getAll_spec hbs).1⟩

def imgItem (ρ : Ren) : ShakeItem → Option ShakeItem
  | .fn f => (ρ.fn.get f).map .fn
  | .const c => (ρ.const.get c).map .const
  | .tuple u => (ρ.tuple.get u).map .tuple
  | .ty t => (ρ.type.get t).map .ty
  | .builtin b => (ρ.builtin.get b).map .builtin
  | .res n => some (.res n)

theorem tyChildren_rename {ρ : Ren} {τ τ' : Ty} (h : renameTy ρ τ = some τ') {x x' : Nat}
    (hx : x ∈ tyChildren τ) (hg : ρ.type.get x = some x') : x' ∈ tyChildren τ' := by
  have opt : ∀ {o o' : Option Nat}, renameOptTy ρ o = some o' → x ∈ o.toList → x' ∈ o'.toList := by
    intro o o' ho hxo
    cases Option.mem_toList.mp hxo
    cases (congrArg (Option.map some) hg).symm.trans ho
    exact Option.mem_toList.mpr rfl
  cases τ with
  | part n fs =>
    obtain ⟨l', hl, rfl⟩ := Option.map_eq_some_iff.mp h
    obtain ⟨p, hp, rfl⟩ := List.mem_map.mp hx
    obtain ⟨b, hb, hf⟩ := mapOpt_mem hl hp
    cases (congrArg (Option.map _) hg).symm.trans hf
    exact List.mem_map_of_mem (f := (·.2)) hb
  | union ids =>
    obtain ⟨l', hl, rfl⟩ := Option.map_eq_some_iff.mp h
    obtain ⟨b, hb, hf⟩ := mapOpt_mem hl hx
    cases hg.symm.trans hf
    exact hb
  | callable p r v =>
    obtain ⟨p', r', v', hp, hr, hv, rfl⟩ := renameTy_callable h
    rcases hx with _ | ⟨_, _ | ⟨_, _ | ⟨_, ⟨⟩⟩⟩⟩
    · cases hg.symm.trans hp; exact List.mem_cons_self ..
    · cases hg.symm.trans hr; exact List.mem_cons_of_mem _ (List.mem_cons_self ..)
    · cases hg.symm.trans hv; exact List.mem_cons_of_mem _ (List.mem_cons_of_mem _ (List.mem_cons_self ..))
  | process s r =>
    obtain ⟨s', r', hs, hr, rfl⟩ := renameTy_process h
    exact List.mem_append.mpr ((List.mem_append.mp hx).imp (opt hs) (opt hr))
  | tuple _ | int | bin | ref | cycle _ | resource _ | var _ => cases hx

theorem isNeverTy_rename {ρ : Ren} {P P' : Prog} {e e' : Nat} (hs : IsStructRenaming ρ P P' e e') {v v' : Nat}
    (hv : ρ.type.get v = some v') (hn : P.isNeverTy v = true) : P'.isNeverTy v' = true := by
  obtain ⟨υ, υ', hυ, hυ', hru⟩ := hs.types v v' hv
  unfold Prog.isNeverTy at hn ⊢
  rw [hυ'] 
  split at hn
  · rename_i hu
    cases hυ.symm.trans hu
    cases hru
    rfl
  · cases hn

/-- the marks in the conclusion are the image of `m`: the kept functions / builtins under ρ -/
theorem isIndexOnly_rename {ρ : Ren} {P P' : Prog} {e e' : Nat} (hs : IsStructRenaming ρ P P' e e') {m : Marks}
    {τ τ' : Ty} (hio : isIndexOnly P m τ = true) (hrt : renameTy ρ τ = some τ')
    (hf : ∀ f ∈ m.fns, ∃ f', ρ.fn.get f = some f') (hb : ∀ b ∈ m.builtins, ∃ b', ρ.builtin.get b = some b') :
    isIndexOnly P' { fns := m.fns.filterMap ρ.fn.get, builtins := m.builtins.filterMap ρ.builtin.get } τ' = true := by
  unfold isIndexOnly at hio
  split at hio
  · rename_i send recv
    obtain ⟨f, hfm, hp⟩ := List.any_eq_true.mp hio
    obtain ⟨f', hf'⟩ := hf f hfm
    obtain ⟨F, F', hF, hF', _, _, htid⟩ := hs.fns f f' hf'
    obtain ⟨σ, σ', hσ, hσ', hrs⟩ := hs.types F.typeId F'.typeId htid
    simp only [hF, hσ] at hp
    split at hp
    · rename_i p0 result fnRecv heq
      cases heq
      obtain ⟨rfl, rfl⟩ : fnRecv = send ∧ result = recv := by
        simpa only [Bool.and_eq_true, beq_iff_eq] using hp
      obtain ⟨p2, r2, v2, _, hr2, hv2, rfl⟩ := renameTy_callable hrs
      obtain ⟨s', r', hs', hr', rfl⟩ := renameTy_process hrt
      cases (congrArg (Option.map some) hv2).symm.trans hs'
      cases (congrArg (Option.map some) hr2).symm.trans hr'
      exact List.any_eq_true.mpr ⟨f', List.mem_filterMap.mpr ⟨f, hfm, hf'⟩, by simp only [hF', hσ', beq_self_eq_true, Bool.and_self]⟩
    · cases hp
  · rename_i p r v
    obtain ⟨hv, hany⟩ := Bool.and_eq_true_iff.mp hio
    obtain ⟨b, hbm, hp⟩ := List.any_eq_true.mp hany
    obtain ⟨b', hb'⟩ := hb b hbm
    obtain ⟨B, B', hB, hB', _, hpt, hrs⟩ := hs.builtins b b' hb'
    rw [hB] at hp
    obtain ⟨rfl, rfl⟩ : B.paramType = p ∧ B.resultType = r := by
      simpa only [Bool.and_eq_true, beq_iff_eq] using hp
    obtain ⟨p2, r2, v2, hp2, hr2, hv2, rfl⟩ := renameTy_callable hrt
    cases hpt.symm.trans hp2
    cases hrs.symm.trans hr2
    exact Bool.and_eq_true_iff.mpr ⟨isNeverTy_rename hs hv2 hv,
      List.any_eq_true.mpr ⟨b', List.mem_filterMap.mpr ⟨b, hbm, hb'⟩, by simp only [hB', beq_self_eq_true, Bool.and_self]⟩⟩
  · cases hio

theorem reach_transfer {P P' : Prog} {e e' : Nat} {ρ : Ren} (hs : IsStructRenaming ρ P P' e e')
    (hkept : ∀ x, Reach P e x → ∃ y, imgItem ρ x = some y)
    (hfirst : ∀ u t u' t', firstTupleType P u = some t → ρ.tuple.get u = some u' → ρ.type.get t = some t' →
      firstTupleType P' u' = some t') :
    ∀ x, Reach P e x → ∀ y, imgItem ρ x = some y → Reach P' e' y := by
  -- a reached function / type / builtin whose image is reached (`ih`), with the image's table entry
  have fnImg : ∀ {f F}, Reach P e (.fn f) → (∀ y, imgItem ρ (.fn f) = some y → Reach P' e' y) → P.fns[f]? = some F →
      ∃ f' F', Reach P' e' (.fn f') ∧ P'.fns[f']? = some F' ∧ renameInstrs ρ F.instrs = some F'.instrs ∧
        ρ.type.get F.typeId = some F'.typeId := by
    intro f F hr ih hF
    obtain ⟨y, hy⟩ := hkept _ hr
    obtain ⟨f', hf', rfl⟩ := Option.map_eq_some_iff.mp hy
    obtain ⟨F0, F', hF0, hF', _, hins, htid⟩ := hs.fns f f' hf'
    cases hF.symm.trans hF0
    exact ⟨f', F', ih _ hy, hF', hins, htid⟩
  have tyImg : ∀ {t τ}, Reach P e (.ty t) → (∀ y, imgItem ρ (.ty t) = some y → Reach P' e' y) → P.types[t]? = some τ →
      ∃ t' τ', Reach P' e' (.ty t') ∧ P'.types[t']? = some τ' ∧ renameTy ρ τ = some τ' := by
    intro t τ hr ih hτ
    obtain ⟨y, hy⟩ := hkept _ hr
    obtain ⟨t', ht', rfl⟩ := Option.map_eq_some_iff.mp hy
    obtain ⟨τ0, τ', hτ0, hτ', hrt⟩ := hs.types t t' ht'
    cases hτ.symm.trans hτ0
    exact ⟨t', τ', ih _ hy, hτ', hrt⟩
  have biImg : ∀ {b B}, Reach P e (.builtin b) → (∀ y, imgItem ρ (.builtin b) = some y → Reach P' e' y) →
      P.builtins[b]? = some B → ∃ b' B', Reach P' e' (.builtin b') ∧ P'.builtins[b']? = some B' ∧
        ρ.type.get B.paramType = some B'.paramType ∧ ρ.type.get B.resultType = some B'.resultType := by
    intro b B hr ih hB
    obtain ⟨y, hy⟩ := hkept _ hr
    obtain ⟨b', hb', rfl⟩ := Option.map_eq_some_iff.mp hy
    obtain ⟨B0, B', hB0, hB', _, hp, hr⟩ := hs.builtins b b' hb'
    cases hB.symm.trans hB0
    exact ⟨b', B', ih _ hy, hB', hp, hr⟩
  -- the instruction of the image's body that an instruction with an image turns into
  have instr : ∀ {f F i}, Reach P e (.fn f) → (∀ y, imgItem ρ (.fn f) = some y → Reach P' e' y) → P.fns[f]? = some F →
      i ∈ F.instrs → ∀ {i'}, renameInstr ρ i = some i' →
      ∃ f' F', Reach P' e' (.fn f') ∧ P'.fns[f']? = some F' ∧ i' ∈ F'.instrs := by
    intro f F i hr ih hF hi i' hi'
    obtain ⟨f', F', hr', hF', hins, _⟩ := fnImg hr ih hF
    obtain ⟨b, hb, hf⟩ := mapOpt_mem hins hi
    cases hi'.symm.trans hf
    exact ⟨f', F', hr', hF', hb⟩
  -- the six rules "an instruction of a reached function names the item": `mk` is the instruction, `g` the item kind,
  -- `o` the image of the operand, `rule` the same rule in `P'`
  have operand : ∀ {f F i} {o : Option Nat} (g : Nat → ShakeItem) (mk : Nat → Instr),
      Reach P e (.fn f) → (∀ y, imgItem ρ (.fn f) = some y → Reach P' e' y) → P.fns[f]? = some F → i ∈ F.instrs →
      renameInstr ρ i = o.map mk →
      (∀ {f' F' n}, Reach P' e' (.fn f') → P'.fns[f']? = some F' → mk n ∈ F'.instrs → Reach P' e' (g n)) →
      ∀ y, o.map g = some y → Reach P' e' y := by
    intro f F i o g mk hr ih hF hi hren rule y hy
    obtain ⟨n, hn, rfl⟩ := Option.map_eq_some_iff.mp hy
    obtain ⟨f', F', hr', hF', hi'⟩ := instr hr ih hF hi (hren.trans (congrArg (Option.map mk) hn))
    exact rule hr' hF' hi'
  intro x hr
  induction hr with
  | entry => intro y hy; cases (congrArg (Option.map ShakeItem.fn) hs.entry).symm.trans hy; exact Reach.entry
  | nil => intro y hy; cases (congrArg (Option.map ShakeItem.tuple) hs.nil_fixed).symm.trans hy; exact Reach.nil
  | ok => intro y hy; cases (congrArg (Option.map ShakeItem.tuple) hs.ok_fixed).symm.trans hy; exact Reach.ok
  | fnType hr hF ih =>
    intro y hy
    obtain ⟨t', ht', rfl⟩ := Option.map_eq_some_iff.mp hy
    obtain ⟨f', F', hr', hF', _, htid⟩ := fnImg hr ih hF
    cases ht'.symm.trans htid
    exact Reach.fnType hr' hF'
  | callee hr hF hi ih => exact operand .fn .function hr ih hF hi rfl Reach.callee
  | procFn hr hF hi ih => exact operand .fn (.process _) hr ih hF hi rfl Reach.procFn
  | const hr hF hi ih => exact operand .const .const hr ih hF hi rfl Reach.const
  | builtin hr hF hi ih => exact operand .builtin .builtin hr ih hF hi rfl Reach.builtin
  | isType hr hF hi ih => exact operand .ty .isType hr ih hF hi rfl Reach.isType
  | mkTuple hr hF hi ih => exact operand .tuple .tuple hr ih hF hi rfl Reach.mkTuple
  | @mkTupleType f F u t hr hF hi ht ih =>
    intro y hy
    obtain ⟨t', ht', rfl⟩ := Option.map_eq_some_iff.mp hy
    obtain ⟨yu, hyu⟩ := hkept _ (Reach.mkTuple hr hF hi)
    obtain ⟨u', hu', rfl⟩ := Option.map_eq_some_iff.mp hyu
    obtain ⟨f', F', hr', hF', hi'⟩ := instr hr ih hF hi (congrArg (Option.map Instr.tuple) hu')
    exact Reach.mkTupleType hr' hF' hi' (hfirst u t u' t' ht hu' ht')
  | child hr hτ hx ih =>
    intro y hy
    obtain ⟨x', hx', rfl⟩ := Option.map_eq_some_iff.mp hy
    obtain ⟨t', τ', hr', hτ', hrt⟩ := tyImg hr ih hτ
    exact Reach.child hr' hτ' (tyChildren_rename hrt hx hx')
  | tupleOf hr hτ ih =>
    intro y hy
    obtain ⟨id', hid', rfl⟩ := Option.map_eq_some_iff.mp hy
    obtain ⟨t', τ', hr', hτ', hrt⟩ := tyImg hr ih hτ
    cases (congrArg (Option.map Ty.tuple) hid').symm.trans hrt
    exact Reach.tupleOf hr' hτ'
  | resOf hr hτ ih =>
    intro y hy
    cases hy
    obtain ⟨t', τ', hr', hτ', hrt⟩ := tyImg hr ih hτ
    cases hrt
    exact Reach.resOf hr' hτ'
  | @field u T p hr hT hp ih =>
    intro y hy
    obtain ⟨x', hx', rfl⟩ := Option.map_eq_some_iff.mp hy
    obtain ⟨yu, hyu⟩ := hkept _ hr
    obtain ⟨u', hu', rfl⟩ := Option.map_eq_some_iff.mp hyu
    obtain ⟨T0, T', hT0, hT', _, _, hmap⟩ := hs.tuples u u' hu'
    cases hT.symm.trans hT0
    obtain ⟨b, hb, hf⟩ := mapOpt_mem hmap hp
    cases hx'.symm.trans hf
    obtain ⟨p', hp', rfl⟩ := List.mem_map.mp hb
    exact Reach.field (ih _ hyu) hT' hp'
  | bParam hr hB ih =>
    intro y hy
    obtain ⟨t', ht', rfl⟩ := Option.map_eq_some_iff.mp hy
    obtain ⟨b', B', hr', hB', hp, _⟩ := biImg hr ih hB
    cases ht'.symm.trans hp
    exact Reach.bParam hr' hB'
  | bResult hr hB ih =>
    intro y hy
    obtain ⟨t', ht', rfl⟩ := Option.map_eq_some_iff.mp hy
    obtain ⟨b', B', hr', hB', _, hp⟩ := biImg hr ih hB
    cases ht'.symm.trans hp
    exact Reach.bResult hr' hB'
  | @indexOnly t τ m0 hτ hio hfs hbs ihf ihb =>
    intro y hy
    obtain ⟨t', ht', rfl⟩ := Option.map_eq_some_iff.mp hy
    obtain ⟨τ0, τ', hτ0, hτ', hrt⟩ := hs.types t t' ht'
    cases hτ.symm.trans hτ0
    have img : ∀ {x}, Reach P e x → ∀ {g : Nat → ShakeItem} {o}, imgItem ρ x = o.map g → ∃ n, o = some n := by
      intro x hx g o ho
      obtain ⟨y, hy⟩ := hkept x hx
      cases o with
      | none => cases hy.symm.trans ho
      | some n => exact ⟨n, rfl⟩
    refine Reach.indexOnly hτ'
      (isIndexOnly_rename hs hio hrt (fun f hf => img (hfs f hf) rfl) (fun b hb => img (hbs b hb) rfl)) ?_ ?_
    · intro f' hf'
      obtain ⟨f, hf, hg⟩ := List.mem_filterMap.mp hf'
      exact ihf f hf _ (congrArg (Option.map ShakeItem.fn) hg)
    · intro b' hb'
      obtain ⟨b, hb, hg⟩ := List.mem_filterMap.mp hb'
      exact ihb b hb _ (congrArg (Option.map ShakeItem.builtin) hg)

theorem firstTupleType_eq_some {P : Prog} {u t : Nat} :
    firstTupleType P u = some t ↔ P.types[t]? = some (.tuple u) ∧ ∀ j, j < t → P.types[j]? ≠ some (.tuple u) := by
  unfold firstTupleType
  rw [List.findIdx?_eq_some_iff_getElem]
  constructor
  · rintro ⟨ht, hp, hmin⟩
    refine ⟨?_, fun j hj hpj => ?_⟩
    · rw [← Array.getElem?_toList, List.getElem?_eq_getElem ht, beq_iff_eq.mp hp]
    · obtain ⟨hjl, hjx⟩ := List.getElem?_eq_some_iff.mp (Array.getElem?_toList ▸ hpj)
      exact hmin j hj (beq_iff_eq.mpr hjx)
  · rintro ⟨hp, hmin⟩
    obtain ⟨ht, hx⟩ := List.getElem?_eq_some_iff.mp (Array.getElem?_toList ▸ hp)
    refine ⟨ht, beq_iff_eq.mpr hx, fun j hj hpj => hmin j hj ?_⟩
    rw [← Array.getElem?_toList, List.getElem?_eq_getElem (Nat.lt_trans hj ht), beq_iff_eq.mp hpj]

/-- the sweep is order preserving, so the FIRST `Type::Tuple(u)` entry stays the first -/
theorem shake_first_tuple {P : Prog} {e : Nat} {m : Marks} {out : ShakeOut} (h : sweep P e m = some out)
    (hc : Closed P e m) :
    ∀ u t u' t', firstTupleType P u = some t → (shakeRen P m).tuple.get u = some u' →
      (shakeRen P m).type.get t = some t' → firstTupleType out.prog u' = some t' := by
  obtain ⟨hren, hs⟩ := sweep_structRenaming h hc
  rw [hren] at hs
  intro u t u' t' hfirst hu ht
  obtain ⟨hPt, hmin⟩ := firstTupleType_eq_some.mp hfirst
  obtain ⟨τ0, τ', hτ0, hτ', hrt⟩ := hs.types t t' ht
  cases hPt.symm.trans hτ0
  cases (congrArg (Option.map Ty.tuple) hu).symm.trans hrt
  refine firstTupleType_eq_some.mpr ⟨hτ', fun j hj hpj => ?_⟩
  -- `j` is the rank of some `n`, which holds `Tuple(u)` in `P`
  have hjs : j < (sortAsc m.types).length :=
    (sweep_sizes h).2.2.2.1 ▸ (Array.getElem?_eq_some_iff.mp hpj).1
  obtain ⟨n, _, hn⟩ := rank_onto (sortAsc_nodup hc.nodupTypes) hjs
  obtain ⟨τn, τj, hτn, hτj, hrn⟩ := hs.types n j hn
  cases hpj.symm.trans hτj
  obtain ⟨u2, rfl, hu2⟩ := renameTy_some hrn
  cases hs.inj_tuple u2 u u' hu2 hu
  -- so `n` is not before `t`, and ranks are monotone
  rcases Nat.lt_trichotomy n t with hlt | rfl | hgt
  · exact hmin n hlt hτn
  · cases hn.symm.trans ht; exact Nat.lt_irrefl _ hj
  · exact Nat.lt_asymm hj (rank_mono (sortAsc_sorted m.types) ht hn hgt)

theorem imgItem_of_inMarks {P : Prog} {m : Marks} {x : ShakeItem} (h : InMarks m x) :
    ∃ y, imgItem (shakeRen P m) x = some y := by
  cases x with
  | res n => exact ⟨.res n, rfl⟩
  | fn a | const a | tuple a | ty a | builtin a => exact ⟨_, congrArg (Option.map _) (rank_of_marked h)⟩

theorem sweep_transfer {P : Prog} {e : Nat} {m : Marks} {out : ShakeOut} (hm : markAll P e false = some m)
    (h : sweep P e m = some out) :
    ∀ x, Reach P e x → ∀ y, imgItem (shakeRen P m) x = some y → Reach out.prog out.entry y := by
  have hc := markAll_closed hm
  obtain ⟨hren, hs⟩ := sweep_structRenaming h hc
  exact reach_transfer (hren ▸ hs) (fun x hx => imgItem_of_inMarks (reach_marked hm h x hx)) (shake_first_tuple h hc)

/-- **The shaken program has no dead entry**: every function, constant, tuple, type and builtin of
    `tree_shake(P, e)` is reachable from the new entry IN the shaken program (the semantic half of idempotence:
    a second shake has nothing to drop). -/
theorem shaken_all_reachable {P : Prog} {e : Nat} {m : Marks} {out : ShakeOut} (hm : markAll P e false = some m)
    (h : sweep P e m = some out) :
    (∀ f, f < out.prog.fns.size → Reach out.prog out.entry (.fn f)) ∧
    (∀ c, c < out.prog.consts.size → Reach out.prog out.entry (.const c)) ∧
    (∀ u, u < out.prog.tuples.size → Reach out.prog out.entry (.tuple u)) ∧
    (∀ t, t < out.prog.types.size → Reach out.prog out.entry (.ty t)) ∧
    (∀ b, b < out.prog.builtins.size → Reach out.prog out.entry (.builtin b)) := by
  have hc := markAll_closed hm
  have hj := markAll_just hm
  obtain ⟨n1, n2, n3⟩ := markAll_nodup hm
  obtain ⟨s1, s2, s3, s4, s5⟩ := sweep_sizes h
  -- every index of a shaken table is the rank of a mark, and marks are reachable
  have tr : ∀ {l : List Nat} {j : Nat} (g : Nat → ShakeItem), l.Nodup → j < (sortAsc l).length →
      (∀ n ∈ l, Reach P e (g n)) → (∀ n, imgItem (shakeRen P m) (g n) = ((rankMap (sortAsc l)).get n).map g) →
      Reach out.prog out.entry (g j) := by
    intro l j g hn hjl hr himg
    obtain ⟨n, hnl, hg⟩ := rank_onto (sortAsc_nodup hn) hjl
    exact sweep_transfer hm h _ (hr n (mem_sortAsc.mp hnl)) _ ((himg n).trans (congrArg (Option.map g) hg))
  exact ⟨fun f hf => tr .fn n1 (s1 ▸ hf) hj.fns (fun _ => rfl), fun c hcc => tr .const n2 (s2 ▸ hcc) hj.consts (fun _ => rfl),
    fun u hu => tr .tuple hc.nodupTuples (s3 ▸ hu) hj.tuples (fun _ => rfl),
    fun t ht => tr .ty hc.nodupTypes (s4 ▸ ht) hj.types (fun _ => rfl),
    fun b hb => tr .builtin n3 (s5 ▸ hb) hj.builtins (fun _ => rfl)⟩

end QM.Packaging
