import QuiverModel.Lemmas.Packaging.Bridge
import QuiverModel.Lemmas.Packaging.MergeInj
/-!
The merge counterpart of Bridge.lean: `embeds_of_clauses` — from the `types` / `tuples` image clauses, totality and
injectivity of the two remap tables, the incoming program's converted tables embed (`QM.Types.Embeds`) into the
merged ones by `fwdMap`.
-/
namespace QM.Packaging
open QM.Types (Table Embeds)

/-- a partial remap table made total: ids without an image go beyond the target table (injective when the table
    is, `fwdMap_inj`) -/
def fwdMap (m : AMap) (newSize : Nat) (old : Nat) : Nat :=
  match m.get old with
  | some n => n
  | none => newSize + old

theorem fwdMap_of_get {m : AMap} {s k n : Nat} (h : m.get k = some n) : fwdMap m s k = n := by
  rw [fwdMap, h]

theorem fwdMap_of_none {m : AMap} {s k : Nat} (h : m.get k = none) : fwdMap m s k = s + k := by
  rw [fwdMap, h]

theorem fwdMap_inj {m : AMap} {s : Nat} (hinj : m.Inj) (hr : ∀ k n, m.get k = some n → n < s) :
    ∀ a b, fwdMap m s a = fwdMap m s b → a = b :=
  beyond_inj fwdMap_of_get fwdMap_of_none hinj hr

theorem mapOpt_eq_map {α β : Type} {f : α → Option β} {g : α → β} (h : ∀ a b, f a = some b → b = g a)
    {l : List α} {l' : List β} (hl : mapOpt f l = some l') : l' = l.map g := by
  induction l generalizing l' with
  | nil => cases hl; rfl
  | cons a as ih =>
    obtain ⟨b, bs, ha, has, rfl⟩ := mapOpt_cons_eq_some.mp hl
    rw [List.map_cons, ← h a b ha, ← ih has]

theorem tyTo_rename_fwd (ι : String → Nat) {ρ : Ren} {fT fU : Nat → Nat}
    (hT : ∀ k n, ρ.type.get k = some n → fT k = n) (hU : ∀ k n, ρ.tuple.get k = some n → fU k = n)
    {τ τ' : Ty} (h : renameTy ρ τ = some τ') : (tyTo ι τ).rename fT fU = tyTo ι τ' := by
  have opt : ∀ {o o' : Option Nat}, renameOptTy ρ o = some o' → o.map fT = o' := by
    intro o o' ho
    cases o with
    | none => cases ho; rfl
    | some t =>
      obtain ⟨a, ha, rfl⟩ := Option.map_eq_some_iff.mp ho
      exact congrArg some (hT _ _ ha)
  have hs := renameTy_some h
  cases τ' with
  | tuple n =>
    obtain ⟨u, rfl, hu⟩ := hs
    exact congrArg QM.Types.Ty.tuple (hU u n hu)
  | part nm fs' =>
    obtain ⟨fs, rfl, hl⟩ := hs
    rw [mapOpt_eq_map (g := fun p => (p.1, fT p.2)) (fun p b hb => by
      obtain ⟨t, ht, rfl⟩ := Option.map_eq_some_iff.mp hb
      rw [hT _ _ ht]) hl]
    simp only [tyTo, QM.Types.Ty.rename, List.map_map]
    rfl
  | union ids' =>
    obtain ⟨ids, rfl, hl⟩ := hs
    rw [mapOpt_eq_map (fun k n hk => (hT k n hk).symm) hl]
    rfl
  | callable p' r' v' =>
    obtain ⟨p, r, v, rfl, hp, hr, hv⟩ := hs
    simp only [tyTo, QM.Types.Ty.rename, hT _ _ hp, hT _ _ hr, hT _ _ hv]
  | process s' r' =>
    obtain ⟨s, r, rfl, hs, hr⟩ := hs
    simp only [tyTo, QM.Types.Ty.rename, opt hs, opt hr]
  | int | bin | ref | cycle _ | resource _ | var _ => cases hs; rfl

/-- an id without an image: beyond the source table (the map is total on it) and sent beyond the target table -/
theorem fwdMap_unmapped {α β : Type} {src : Array α} {out : Array β} {m : AMap} {k : Nat} (hg : m.get k = none)
    (htot : ∀ t, t < src.size → ∃ t', m.get t = some t') : out[fwdMap m out.size k]? = none ∧ src[k]? = none := by
  refine ⟨Array.getElem?_eq_none ?_, Array.getElem?_eq_none (Nat.le_of_not_lt fun h => ?_)⟩
  · rw [fwdMap_of_none hg]; exact Nat.le_add_right ..
  · obtain ⟨t', ht'⟩ := htot k h
    rw [hg] at ht'; cases ht'

theorem embeds_of_clauses (ι : String → Nat) {src out : Prog} {ρ : Ren} (iy : ρ.type.Inj) (it : ρ.tuple.Inj)
    (TC : ∀ t t', ρ.type.get t = some t' → ∃ τ τ', src.types[t]? = some τ ∧ out.types[t']? = some τ' ∧
      renameTy ρ τ = some τ')
    (UC : ∀ u u', ρ.tuple.get u = some u' → ∃ T T', src.tuples[u]? = some T ∧ out.tuples[u']? = some T' ∧
      T'.name = T.name ∧ T'.fields.map (·.1) = T.fields.map (·.1) ∧
      mapOpt (fun (p : Option String × Nat) => ρ.type.get p.2) T.fields = some (T'.fields.map (·.2)))
    (ttot : ∀ t, t < src.types.size → ∃ t', ρ.type.get t = some t')
    (utot : ∀ u, u < src.tuples.size → ∃ u', ρ.tuple.get u = some u') :
    Embeds (fwdMap ρ.type out.types.size) (fwdMap ρ.tuple out.tuples.size) (toTable ι src) (toTable ι out) := by
  have rT : ∀ k n, ρ.type.get k = some n → n < out.types.size := by
    intro k n hk
    obtain ⟨_, _, _, h2, _⟩ := TC k n hk
    exact (Array.getElem?_eq_some_iff.mp h2).1
  have rU : ∀ k n, ρ.tuple.get k = some n → n < out.tuples.size := by
    intro k n hk
    obtain ⟨_, _, _, h2, _⟩ := UC k n hk
    exact (Array.getElem?_eq_some_iff.mp h2).1
  refine ⟨fwdMap_inj iy rT, fwdMap_inj it rU, fun t => ?_, fun u => ?_⟩
  · rw [toTable_types, toTable_types]
    cases hg : ρ.type.get t with
    | some n =>
      obtain ⟨τ, τ', h1, h2, h3⟩ := TC t n hg
      rw [fwdMap_of_get hg, h1, h2]
      exact congrArg some (tyTo_rename_fwd ι (fun _ _ hk => fwdMap_of_get hk) (fun _ _ hk => fwdMap_of_get hk) h3).symm
    | none =>
      obtain ⟨h1, h2⟩ := fwdMap_unmapped (out := out.types) hg ttot
      rw [h1, h2]; rfl
  · rw [toTable_tuples, toTable_tuples]
    cases hg : ρ.tuple.get u with
    | some n =>
      obtain ⟨T, T', h1, h2, h3, h4, h5⟩ := UC u n hg
      rw [fwdMap_of_get hg, h1, h2]
      have hfields : T'.fields = T.fields.map (fun p => (p.1, fwdMap ρ.type out.types.size p.2)) := by
        refine list_prod_ext ?_ ?_
        · rw [h4, List.map_map]; rfl
        · rw [mapOpt_eq_map (fun p b hb => (fwdMap_of_get hb).symm) h5, List.map_map]; rfl
      cases T'
      cases h3; cases hfields
      simp only [Option.map_some, tupTo, QM.Types.TupleInfo.rename, List.map_map]
      rfl
    | none =>
      obtain ⟨h1, h2⟩ := fwdMap_unmapped (out := out.tuples) hg utot
      rw [h1, h2]; rfl

end QM.Packaging
