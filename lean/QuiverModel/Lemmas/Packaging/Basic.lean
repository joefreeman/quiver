import QuiverModel.Core.Packaging.Renaming
import QuiverModel.Lemmas.Util.List
/-
Helper lemmas for C10: association-list lookups, the Boolean checks of `validateB` unfolded into
the clauses of `IsRenaming`, the pointwise list relation `All2` and what a successful `mapOpt` says.
-/
namespace QM.Packaging

theorem AMap.mem_of_get {m : AMap} {k v : Nat} (h : m.get k = some v) : (k, v) ∈ m :=
  mem_of_lookup h

theorem AMap.all_of_get {m : AMap} {p : Nat × Nat → Bool} {k v : Nat}
    (h : m.all p = true) (hg : m.get k = some v) : p (k, v) = true :=
  List.all_eq_true.mp h _ (AMap.mem_of_get hg)

theorem distinctB_spec {m : AMap} (h : distinctB (m.map (·.2)) = true) {a b c : Nat}
    (ha : (a, c) ∈ m) (hb : (b, c) ∈ m) : a = b := by
  induction m with
  | nil => simp at ha
  | cons p m ih =>
    obtain ⟨x, y⟩ := p
    simp only [List.map_cons, distinctB, Bool.and_eq_true, Bool.not_eq_eq_eq_not, Bool.not_true] at h
    obtain ⟨hnot, hrest⟩ := h
    have hy : ∀ z, (z, y) ∈ m → False := by
      intro z hz
      have : y ∈ m.map (·.2) := List.mem_map.mpr ⟨(z, y), hz, rfl⟩
      have : (m.map (·.2)).contains y = true := by simpa using this
      rw [this] at hnot; cases hnot
    rcases List.mem_cons.mp ha with ha1 | ha1
    · rcases List.mem_cons.mp hb with hb1 | hb1
      · cases ha1; cases hb1; rfl
      · cases ha1; exact (hy _ hb1).elim
    · rcases List.mem_cons.mp hb with hb1 | hb1
      · cases hb1; exact (hy _ ha1).elim
      · exact ih hrest ha1 hb1

theorem AMap.inj_of_injB {m : AMap} (h : m.injB = true) : m.Inj := by
  intro a b c ha hb
  exact distinctB_spec h (AMap.mem_of_get ha) (AMap.mem_of_get hb)

theorem mapOpt_cons_eq_some {α β : Type} {f : α → Option β} {a : α} {as : List α} {l' : List β} :
    mapOpt f (a :: as) = some l' ↔ ∃ b bs, f a = some b ∧ mapOpt f as = some bs ∧ l' = b :: bs := by
  simp only [mapOpt]
  split
  · rename_i b bs hb hbs
    simp only [Option.some.injEq, hb, hbs]
    exact ⟨fun h => ⟨b, bs, rfl, rfl, h.symm⟩, fun ⟨_, _, h1, h2, h3⟩ => by cases h1; cases h2; exact h3.symm⟩
  · rename_i hn
    exact ⟨fun h => (nomatch h), fun ⟨b, bs, hb, hbs, _⟩ => (hn b bs hb hbs).elim⟩

theorem mapOpt_inj {α β : Type} {f : α → Option β} {l1 l2 : List α} {l' : List β}
    (hinj : ∀ a ∈ l1, ∀ b c, f a = some c → f b = some c → a = b)
    (h1 : mapOpt f l1 = some l') (h2 : mapOpt f l2 = some l') : l1 = l2 := by
  induction l1 generalizing l2 l' with
  | nil =>
    cases h1
    cases l2 with
    | nil => rfl
    | cons b bs => obtain ⟨_, _, _, _, h⟩ := mapOpt_cons_eq_some.mp h2; cases h
  | cons a as ih =>
    obtain ⟨c, cs, ha, has, rfl⟩ := mapOpt_cons_eq_some.mp h1
    cases l2 with
    | nil => cases h2
    | cons b bs =>
      obtain ⟨c', cs', hb, hbs, h⟩ := mapOpt_cons_eq_some.mp h2
      cases h
      rw [hinj a (List.mem_cons_self ..) b c ha hb,
        ih (fun x hx => hinj x (List.mem_cons_of_mem _ hx)) has hbs]
/-- What an instruction with a given image looks like: same constructor and plain operands; an index
    operand is a preimage under the map of its kind. -/
theorem renameInstr_some {ρ : Ren} {a c : Instr} (h : renameInstr ρ a = some c) :
    match c with
    | .const n => ∃ i, a = .const i ∧ ρ.const.get i = some n
    | .tuple n => ∃ i, a = .tuple i ∧ ρ.tuple.get i = some n
    | .isType n => ∃ i, a = .isType i ∧ ρ.type.get i = some n
    | .function n => ∃ i, a = .function i ∧ ρ.fn.get i = some n
    | .builtin n => ∃ i, a = .builtin i ∧ ρ.builtin.get i = some n
    | .process pid n => ∃ i, a = .process pid i ∧ ρ.fn.get i = some n
    | c => a = c := by
  cases a with
  | const i | tuple i | isType i | function i | builtin i | process pid i =>
    obtain ⟨n, hn, rfl⟩ := Option.map_eq_some_iff.mp h
    exact ⟨i, rfl, hn⟩
  | _ => cases h; rfl

theorem renameTy_some {ρ : Ren} {τ τ' : Ty} (h : renameTy ρ τ = some τ') :
    match τ' with
    | .tuple n => ∃ u, τ = .tuple u ∧ ρ.tuple.get u = some n
    | .part nm fs' => ∃ fs, τ = .part nm fs ∧
        mapOpt (fun (p : String × Nat) => (ρ.type.get p.2).map (fun t => (p.1, t))) fs = some fs'
    | .callable p' r' v' => ∃ p r v, τ = .callable p r v ∧ ρ.type.get p = some p' ∧ ρ.type.get r = some r' ∧
        ρ.type.get v = some v'
    | .union ids' => ∃ ids, τ = .union ids ∧ mapOpt ρ.type.get ids = some ids'
    | .process s' r' => ∃ s r, τ = .process s r ∧ renameOptTy ρ s = some s' ∧ renameOptTy ρ r = some r'
    | τ' => τ = τ' := by
  cases τ with
  | tuple u => obtain ⟨n, hn, rfl⟩ := Option.map_eq_some_iff.mp h; exact ⟨u, rfl, hn⟩
  | part nm fs => obtain ⟨l, hl, rfl⟩ := Option.map_eq_some_iff.mp h; exact ⟨fs, rfl, hl⟩
  | union ids => obtain ⟨l, hl, rfl⟩ := Option.map_eq_some_iff.mp h; exact ⟨ids, rfl, hl⟩
  | callable p r v =>
    simp only [renameTy] at h
    split at h
    · rename_i hp hr hv; cases h; exact ⟨p, r, v, rfl, hp, hr, hv⟩
    · cases h
  | process s r =>
    simp only [renameTy] at h
    split at h
    · rename_i hs hr; cases h; exact ⟨s, r, rfl, hs, hr⟩
    · cases h
  | _ => cases h; rfl

theorem fnOK_spec {ρ : Ren} {P P' : Prog} {f f' : Nat} (h : fnOK ρ P P' (f, f') = true) :
    ∃ F F', P.fns[f]? = some F ∧ P'.fns[f']? = some F' ∧ F'.captures = F.captures ∧
      renameInstrs ρ F.instrs = some F'.instrs ∧ ρ.type.get F.typeId = some F'.typeId := by
  unfold fnOK at h
  split at h
  · rename_i F F' hF hF'
    simp only [Bool.and_eq_true, beq_iff_eq] at h
    exact ⟨F, F', hF, hF', h.1.1, h.1.2, h.2⟩
  · cases h

theorem constOK_spec {P P' : Prog} {c c' : Nat} (h : constOK P P' (c, c') = true) :
    ∃ k, P.consts[c]? = some k ∧ P'.consts[c']? = some k := by
  unfold constOK at h
  split at h
  · rename_i k k' hk hk'
    have : k = k' := by simpa using h
    subst this
    exact ⟨k, hk, hk'⟩
  · cases h

theorem tupleOK_spec {ρ : Ren} {P P' : Prog} {t t' : Nat} (h : tupleOK ρ P P' (t, t') = true) :
    ∃ T T', P.tuples[t]? = some T ∧ P'.tuples[t']? = some T' ∧ T'.name = T.name ∧
      T'.fields.map (·.1) = T.fields.map (·.1) ∧
      mapOpt (fun (p : Option String × Nat) => ρ.type.get p.2) T.fields = some (T'.fields.map (·.2)) := by
  unfold tupleOK at h
  split at h
  · rename_i T T' hT hT'
    simp only [Bool.and_eq_true, beq_iff_eq] at h
    exact ⟨T, T', hT, hT', h.1.1, h.1.2, h.2⟩
  · cases h

theorem builtinOK_spec {ρ : Ren} {P P' : Prog} {b b' : Nat} (h : builtinOK ρ P P' (b, b') = true) :
    ∃ B B', P.builtins[b]? = some B ∧ P'.builtins[b']? = some B' ∧ B'.name = B.name ∧
      ρ.type.get B.paramType = some B'.paramType ∧ ρ.type.get B.resultType = some B'.resultType := by
  unfold builtinOK at h
  split at h
  · rename_i B B' hB hB'
    simp only [Bool.and_eq_true, beq_iff_eq] at h
    exact ⟨B, B', hB, hB', h.1.1, h.1.2, h.2⟩
  · cases h

theorem typeOK_spec {ρ : Ren} {P P' : Prog} {t t' : Nat} (h : typeOK ρ P P' (t, t') = true) :
    ∃ τ τ', P.types[t]? = some τ ∧ P'.types[t']? = some τ' ∧ renameTy ρ τ = some τ' := by
  unfold typeOK at h
  split at h
  · rename_i τ τ' hτ hτ'
    exact ⟨τ, τ', hτ, hτ', by simpa using h⟩
  · cases h

theorem resourceOK_spec {P P' : Prog} {r r' : Nat} (h : resourceOK P P' (r, r') = true) :
    ∃ n, P.resources[r]? = some n ∧ P'.resources[r']? = some n := by
  unfold resourceOK at h
  split at h
  · rename_i n n' hn hn'
    have : n = n' := by simpa using h
    subst this
    exact ⟨n, hn, hn'⟩
  · cases h

theorem compatFnOK_spec {ρ : Ren} {P P' : Prog} {tags : List (Tag × Tag)} {f f' : Nat} {F : Fn}
    (h : compatFnOK ρ P P' tags (f, f') = true) (hF : P.fns[f]? = some F) {t : Nat}
    (ht : t ∈ isTypeOps F.instrs) {t' : Nat} (ht' : ρ.type.get t = some t') {c c' : Tag}
    (hc : (c, c') ∈ tags) : P.isCompat t c = P'.isCompat t' c' := by
  unfold compatFnOK at h
  simp only [hF] at h
  have h1 := List.all_eq_true.mp h t ht
  simp only [ht'] at h1
  unfold compatRowOK at h1
  have h2 := List.all_eq_true.mp h1 (c, c') hc
  simpa using h2

theorem mem_tagPairs {ρ : Ren} {c c' : Tag} (h : renameTag ρ c = some c') : (c, c') ∈ tagPairs ρ := by
  -- the pair `(k, v)` of a map, under the two constructors of its kind, is in that kind's segment
  have seg : ∀ {m : AMap} {k v : Nat} (mk : Nat → Tag), m.get k = some v →
      (mk k, mk v) ∈ m.map (fun p => (mk p.1, mk p.2)) :=
    fun mk hg => List.mem_map.mpr ⟨_, AMap.mem_of_get hg, rfl⟩
  unfold tagPairs
  simp only [List.mem_append]
  cases c with
  | int | bin | ref => cases h; simp
  | tuple t =>
    obtain ⟨t', ht, rfl⟩ := Option.map_eq_some_iff.mp h
    exact .inl (.inl (.inl (.inl (.inr (seg Tag.tuple ht)))))
  | fn f =>
    obtain ⟨f', hf, rfl⟩ := Option.map_eq_some_iff.mp h
    exact .inl (.inl (.inl (.inr (seg Tag.fn hf))))
  | builtin b =>
    obtain ⟨b', hb, rfl⟩ := Option.map_eq_some_iff.mp h
    exact .inl (.inl (.inr (seg Tag.builtin hb)))
  | proc f =>
    obtain ⟨f', hf, rfl⟩ := Option.map_eq_some_iff.mp h
    exact .inl (.inr (seg Tag.proc hf))
  | res r =>
    obtain ⟨r', hr, rfl⟩ := Option.map_eq_some_iff.mp h
    exact .inr (seg Tag.res hr)

theorem fparamOK_spec {P P' : Prog} {tags : List (Tag × Tag)} {f f' : Nat}
    (h : fparamOK P P' tags (f, f') = true) {c c' : Tag} (hc : (c, c') ∈ tags) :
    P.msgCompatFn f c = P'.msgCompatFn f' c' := by
  unfold fparamOK at h
  simpa using List.all_eq_true.mp h (c, c') hc

theorem bparamOK_spec {P P' : Prog} {tags : List (Tag × Tag)} {b b' : Nat}
    (h : bparamOK P P' tags (b, b') = true) {c c' : Tag} (hc : (c, c') ∈ tags) :
    P.msgCompatBuiltin b c = P'.msgCompatBuiltin b' c' := by
  unfold bparamOK at h
  simpa using List.all_eq_true.mp h (c, c') hc

theorem mem_presentPairs {ρ : Ren} {P : Prog} {c c' : Tag} (h : renameTag ρ c = some c')
    (hp : P.tagPresent c = true) : (c, c') ∈ presentPairs ρ P := by
  unfold presentPairs
  exact List.mem_filter.mpr ⟨mem_tagPairs h, by simpa using hp⟩

theorem canonOK_spec {ρ : Ren} {P P' : Prog} (h : canonOK ρ P P' = true) {a a' b b' : Nat}
    (ha : ρ.tuple.get a = some a') (hb : ρ.tuple.get b = some b') :
    (P.canonOf a = P.canonOf b ↔ P'.canonOf a' = P'.canonOf b') := by
  unfold canonOK at h
  have h1 := List.all_eq_true.mp h (a, a') (AMap.mem_of_get ha)
  have h2 := List.all_eq_true.mp h1 (b, b') (AMap.mem_of_get hb)
  simp only [beq_iff_eq] at h2
  constructor
  · intro hx
    have : (P.canonOf a == P.canonOf b) = true := by simpa using hx
    rw [h2] at this; simpa using this
  · intro hx
    have : (P'.canonOf a' == P'.canonOf b') = true := by simpa using hx
    rw [← h2] at this; simpa using this

/-- Pointwise relation on two lists (`List.Forall₂` is Mathlib; this file stays on core Lean). -/
inductive All2 {α β : Type} (R : α → β → Prop) : List α → List β → Prop where
  | nil : All2 R [] []
  | cons {a b as bs} : R a b → All2 R as bs → All2 R (a :: as) (b :: bs)

namespace All2
variable {α β : Type} {R : α → β → Prop}

theorem length_eq {l : List α} {l' : List β} (h : All2 R l l') : l.length = l'.length := by
  induction h with
  | nil => rfl
  | cons _ _ ih => simp [ih]

theorem get? {l : List α} {l' : List β} (h : All2 R l l') (i : Nat) :
    (l[i]? = none ∧ l'[i]? = none) ∨ ∃ a b, l[i]? = some a ∧ l'[i]? = some b ∧ R a b := by
  induction h generalizing i with
  | nil => exact .inl ⟨rfl, rfl⟩
  | cons hab _ ih =>
    cases i with
    | zero => exact .inr ⟨_, _, rfl, rfl, hab⟩
    | succ i => simpa only [List.getElem?_cons_succ] using ih i
theorem append {l₁ l₂ : List α} {l₁' l₂' : List β} (h₁ : All2 R l₁ l₁') (h₂ : All2 R l₂ l₂') :
    All2 R (l₁ ++ l₂) (l₁' ++ l₂') := by
  induction h₁ with
  | nil => simpa using h₂
  | cons hab _ ih => exact .cons hab ih

theorem take {l : List α} {l' : List β} (h : All2 R l l') (n : Nat) : All2 R (l.take n) (l'.take n) := by
  induction h generalizing n with
  | nil => simp; exact .nil
  | cons hab _ ih =>
    cases n with
    | zero => simp; exact .nil
    | succ n => simp; exact .cons hab (ih n)

theorem drop {l : List α} {l' : List β} (h : All2 R l l') (n : Nat) : All2 R (l.drop n) (l'.drop n) := by
  induction h generalizing n with
  | nil => simp; exact .nil
  | cons hab hrest ih =>
    cases n with
    | zero => simp; exact .cons hab hrest
    | succ n => simp; exact ih n

theorem reverse {l : List α} {l' : List β} (h : All2 R l l') : All2 R l.reverse l'.reverse := by
  induction h with
  | nil => exact .nil
  | cons hab _ ih => simp; exact ih.append (.cons hab .nil)

theorem eraseIdx {l : List α} {l' : List β} (h : All2 R l l') (n : Nat) :
    All2 R (l.eraseIdx n) (l'.eraseIdx n) := by
  induction h generalizing n with
  | nil => simp; exact .nil
  | cons hab hrest ih =>
    cases n with
    | zero => simp; exact hrest
    | succ n => simp; exact .cons hab (ih n)

theorem all_eq {l : List α} {l' : List β} (h : All2 R l l') {p : α → Bool} {q : β → Bool}
    (hpq : ∀ a b, R a b → p a = q b) : l.all p = l'.all q := by
  induction h with
  | nil => rfl
  | cons hab _ ih => simp [hpq _ _ hab, ih]

end All2

theorem mapOpt_all2 {α β : Type} {f : α → Option β} {l : List α} {l' : List β}
    (h : mapOpt f l = some l') : All2 (fun a b => f a = some b) l l' := by
  induction l generalizing l' with
  | nil => cases h; exact .nil
  | cons a as ih =>
    obtain ⟨b, bs, hb, hbs, rfl⟩ := mapOpt_cons_eq_some.mp h
    exact .cons hb (ih hbs)

theorem mapOpt_get? {α β : Type} {f : α → Option β} {l : List α} {l' : List β}
    (h : mapOpt f l = some l') (i : Nat) :
    (l[i]? = none ∧ l'[i]? = none) ∨ ∃ a b, l[i]? = some a ∧ l'[i]? = some b ∧ f a = some b :=
  (mapOpt_all2 h).get? i

theorem mapOpt_mem {α β : Type} {f : α → Option β} {l : List α} {l' : List β}
    (h : mapOpt f l = some l') {a : α} (ha : a ∈ l) : ∃ b, b ∈ l' ∧ f a = some b := by
  obtain ⟨i, hi⟩ := List.mem_iff_getElem?.mp ha
  rcases mapOpt_get? h i with ⟨hn, _⟩ | ⟨a2, b, h1, h2, h3⟩
  · rw [hi] at hn; cases hn
  · rw [hi] at h1; cases h1
    exact ⟨b, List.mem_of_getElem? h2, h3⟩

theorem mapOpt_length {α β : Type} {f : α → Option β} {l : List α} {l' : List β}
    (h : mapOpt f l = some l') : l'.length = l.length :=
  (mapOpt_all2 h).length_eq.symm

theorem mem_isTypeOps_iff {t : Nat} {is : List Instr} : t ∈ isTypeOps is ↔ Instr.isType t ∈ is := by
  fun_induction isTypeOps is with
  | case1 => simp only [List.not_mem_nil]
  | case2 t' is ih => simp only [List.mem_cons, ih, Instr.isType.injEq]
  | case3 i is hne ih =>
    rw [ih, List.mem_cons]
    exact ⟨Or.inr, fun h => h.resolve_left (fun h' => hne t h'.symm)⟩

theorem mem_isTypeOps {is : List Instr} {pc t : Nat} (h : is[pc]? = some (.isType t)) : t ∈ isTypeOps is :=
  mem_isTypeOps_iff.mpr (List.mem_of_getElem? h)

end QM.Packaging
