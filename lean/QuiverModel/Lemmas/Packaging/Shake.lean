import QuiverModel.Core.Packaging.TreeShake
import QuiverModel.Lemmas.Packaging.Basic
/-
`tree_shake`, sweep phase: if the marks are closed under reference, the swept program is a structural
renaming of the original by the rank tables.
-/
namespace QM.Packaging

theorem rankMap_get {s : List Nat} {a i : Nat} (h : (rankMap s).get a = some i) : s[i]? = some a :=
  List.mem_zipIdx_iff_getElem?.mp (AMap.mem_of_get h)

theorem rankMap_get_of_mem {s : List Nat} {a : Nat} (h : a ∈ s) : ∃ i, (rankMap s).get a = some i := by
  obtain ⟨i, hi⟩ := List.getElem?_of_mem h
  cases hl : (rankMap s).get a with
  | some j => exact ⟨j, rfl⟩
  | none =>
    have := List.lookup_eq_none_iff.mp hl (a, i) (List.mem_zipIdx_iff_getElem?.mpr hi)
    exact absurd rfl (bne_iff_ne.mp this)

theorem rankMap_inj (s : List Nat) : (rankMap s).Inj := by
  intro a b c ha hb
  have h1 := rankMap_get ha
  have h2 := rankMap_get hb
  rw [h1] at h2; cases h2; rfl

theorem insertAsc_perm (a : Nat) : ∀ (l : List Nat), (insertAsc a l).Perm (a :: l)
  | [] => List.Perm.refl _
  | b :: bs => by
    simp only [insertAsc]
    split
    · exact List.Perm.refl _
    · exact ((List.perm_cons b).mpr (insertAsc_perm a bs)).trans (List.Perm.swap a b bs)

theorem sortAsc_perm : ∀ (l : List Nat), (sortAsc l).Perm l
  | [] => List.Perm.refl _
  | a :: as => (insertAsc_perm a (sortAsc as)).trans ((List.perm_cons a).mpr (sortAsc_perm as))

theorem mem_sortAsc {b : Nat} {l : List Nat} : b ∈ sortAsc l ↔ b ∈ l := (sortAsc_perm l).mem_iff

theorem getAll_eq_mapOpt {α : Type} (a : Array α) : ∀ s, getAll a s = mapOpt (fun i => a[i]?) s
  | [] => rfl
  | i :: s => by
    rw [getAll, mapOpt, getAll_eq_mapOpt a s]
    cases a[i]? <;> cases mapOpt (fun i => a[i]?) s <;> rfl

theorem getAll_get {α : Type} {a : Array α} {s : List Nat} {xs : List α} (h : getAll a s = some xs) (j : Nat) :
    (s[j]? = none ∧ xs[j]? = none) ∨ ∃ i v, s[j]? = some i ∧ xs[j]? = some v ∧ a[i]? = some v :=
  mapOpt_get? (getAll_eq_mapOpt a s ▸ h) j

theorem getAll_spec {α : Type} {a : Array α} : ∀ {s : List Nat} {xs : List α}, getAll a s = some xs →
    xs.length = s.length ∧ ∀ (j i : Nat), s[j]? = some i → xs[j]? = a[i]? := by
  intro s xs h
  refine ⟨mapOpt_length (getAll_eq_mapOpt a s ▸ h), fun j i hj => ?_⟩
  obtain ⟨hn, _⟩ | ⟨i', x, hi', hx, hax⟩ := getAll_get h j
  · rw [hj] at hn; cases hn
  · rw [hj] at hi'; cases hi'; rw [hx, hax]

/-- the table rebuilt from the sorted marks holds, at the rank of a marked id, the original entry -/
theorem rank_getAll {α : Type} {a : Array α} {l : List Nat} {xs : List α} (h : getAll a (sortAsc l) = some xs)
    {x x' : Nat} (hx : (rankMap (sortAsc l)).get x = some x') :
    x ∈ l ∧ ∃ v, a[x]? = some v ∧ xs[x']? = some v := by
  have hs := rankMap_get hx
  refine ⟨mem_sortAsc.mp (List.mem_of_getElem? hs), ?_⟩
  obtain ⟨hn, _⟩ | ⟨i, v, hi, hv, hav⟩ := getAll_get h x'
  · rw [hs] at hn; cases hn
  · rw [hs] at hi; cases hi; exact ⟨v, hav, hv⟩

/-- what an instruction refers to is marked -/
def InstrMarked (m : Marks) : Instr → Prop
  | .const c => c ∈ m.consts
  | .tuple t => t ∈ m.tuples
  | .isType t => t ∈ m.types
  | .function f => f ∈ m.fns
  | .builtin b => b ∈ m.builtins
  | .process _ f => f ∈ m.fns
  | _ => True

/-- what a type entry refers to is marked -/
def TyMarked (m : Marks) : Ty → Prop
  | .tuple id => id ∈ m.tuples
  | τ => ∀ t ∈ tyChildren τ, t ∈ m.types

/-- The marks are closed under reference (what the mark phase establishes), the entry and the two
    fixed tuples are marked and keep rank 0 / 1; the type and tuple marks are duplicate-free (so that the rank
    tables can be read backwards: Bridge, ReachTransfer). -/
structure Closed (P : Prog) (e : Nat) (m : Marks) : Prop where
  entry : e ∈ m.fns
  rank0 : (rankMap (sortAsc m.tuples)).get 0 = some 0
  rank1 : (rankMap (sortAsc m.tuples)).get 1 = some 1
  fns : ∀ f ∈ m.fns, ∀ F, P.fns[f]? = some F → F.typeId ∈ m.types
  types : ∀ t ∈ m.types, ∀ τ, P.types[t]? = some τ → TyMarked m τ
  tuples : ∀ u ∈ m.tuples, ∀ T, P.tuples[u]? = some T → ∀ p ∈ T.fields, p.2 ∈ m.types
  builtins : ∀ b ∈ m.builtins, ∀ B, P.builtins[b]? = some B → B.paramType ∈ m.types ∧ B.resultType ∈ m.types
  nodupTypes : m.types.Nodup
  nodupTuples : m.tuples.Nodup

/-- `TCE` = Type / tuple marks Closed, Except for the ids in `pt`, `pu` (a depth-first marking in progress): every other
    marked type / tuple has its children marked; both mark lists duplicate-free. `TCE P m [] []` is the type / tuple part
    of `Closed`. -/
structure TCE (P : Prog) (m : Marks) (pt pu : List Nat) : Prop where
  types : ∀ t ∈ m.types, t ∉ pt → ∀ τ, P.types[t]? = some τ → TyMarked m τ
  tuples : ∀ u ∈ m.tuples, u ∉ pu → ∀ T, P.tuples[u]? = some T → ∀ p ∈ T.fields, p.2 ∈ m.types
  nodup : m.tuples.Nodup
  nodupT : m.types.Nodup

theorem TCE.mono_pending {P : Prog} {m : Marks} {pt pu : List Nat} (h : TCE P m pt pu) (t : Nat) :
    TCE P m (t :: pt) pu :=
  ⟨fun t' ht' hn => h.types t' ht' (fun hp => hn (List.mem_cons_of_mem _ hp)), h.tuples, h.nodup, h.nodupT⟩

/-- `IsRenaming` without its five clauses `resources`, `compat`, `fparam`, `bparam`, `canon`: the resource list
    and the run-time lookup tables, which are recomputed from the shaken tables when the bytecode is loaded. -/
structure IsStructRenaming (ρ : Ren) (P P' : Prog) (e e' : Nat) : Prop where
  entry : ρ.fn.get e = some e'
  inj_const : ρ.const.Inj
  inj_fn : ρ.fn.Inj
  inj_tuple : ρ.tuple.Inj
  inj_type : ρ.type.Inj
  inj_builtin : ρ.builtin.Inj
  nil_fixed : ρ.tuple.get 0 = some 0
  ok_fixed : ρ.tuple.get 1 = some 1
  fns : ∀ f f', ρ.fn.get f = some f' →
    ∃ F F', P.fns[f]? = some F ∧ P'.fns[f']? = some F' ∧ F'.captures = F.captures ∧
      renameInstrs ρ F.instrs = some F'.instrs ∧ ρ.type.get F.typeId = some F'.typeId
  consts : ∀ c c', ρ.const.get c = some c' → ∃ k, P.consts[c]? = some k ∧ P'.consts[c']? = some k
  tuples : ∀ t t', ρ.tuple.get t = some t' →
    ∃ T T', P.tuples[t]? = some T ∧ P'.tuples[t']? = some T' ∧ T'.name = T.name ∧
      T'.fields.map (·.1) = T.fields.map (·.1) ∧
      mapOpt (fun (p : Option String × Nat) => ρ.type.get p.2) T.fields = some (T'.fields.map (·.2))
  builtins : ∀ b b', ρ.builtin.get b = some b' →
    ∃ B B', P.builtins[b]? = some B ∧ P'.builtins[b']? = some B' ∧ B'.name = B.name ∧
      ρ.type.get B.paramType = some B'.paramType ∧ ρ.type.get B.resultType = some B'.resultType
  types : ∀ t t', ρ.type.get t = some t' →
    ∃ τ τ', P.types[t]? = some τ ∧ P'.types[t']? = some τ' ∧ renameTy ρ τ = some τ'

theorem orSelf_of_get {m : AMap} {i j : Nat} (h : m.get i = some j) : orSelf m i = j := by simp [orSelf, h]

theorem rank_of_marked {l : List Nat} {a : Nat} (h : a ∈ l) :
    (rankMap (sortAsc l)).get a = some (orSelf (rankMap (sortAsc l)) a) := by
  obtain ⟨j, hj⟩ := rankMap_get_of_mem (mem_sortAsc.mpr h)
  exact hj.trans (congrArg some (orSelf_of_get hj).symm)

theorem mapOpt_of_map {α β : Type} {f : α → Option β} : ∀ {l : List α} {l' : List β},
    l.map f = l'.map some → mapOpt f l = some l'
  | [], [], _ => rfl
  | a :: as, b :: bs, h => by
    obtain ⟨hb, hbs⟩ := List.cons.inj h
    rw [mapOpt, hb, mapOpt_of_map hbs]

theorem mapOpt_congr_some {α β : Type} {f : α → Option β} {g : α → β} :
    ∀ (l : List α), (∀ a ∈ l, f a = some (g a)) → mapOpt f l = some (l.map g) :=
  fun _ h => mapOpt_of_map ((List.map_congr_left h).trans (List.map_map ..).symm)

theorem renameInstr_isSome_of_marked {P : Prog} {m : Marks} {i : Instr} (h : InstrMarked m i) :
    ∃ i', renameInstr (shakeRen P m) i = some i' := by
  have img : ∀ {l : List Nat} {a : Nat} (f : Nat → Instr), a ∈ l →
      ∃ i', ((rankMap (sortAsc l)).get a).map f = some i' :=
    fun f ha => ⟨_, congrArg (Option.map f) (rank_of_marked ha)⟩
  unfold renameInstr
  split
  · exact img .const h
  · exact img .tuple h
  · exact img .isType h
  · exact img .function h
  · exact img .builtin h
  · exact img (.process _) h
  · exact ⟨_, rfl⟩

theorem renameTy_callable {ρ : Ren} {p r v : Nat} {τ' : Ty} (h : renameTy ρ (.callable p r v) = some τ') :
    ∃ p' r' v', ρ.type.get p = some p' ∧ ρ.type.get r = some r' ∧ ρ.type.get v = some v' ∧
      τ' = .callable p' r' v' := by
  simp only [renameTy] at h
  split at h
  · rename_i p' r' v' hp hr hv
    exact ⟨p', r', v', hp, hr, hv, (Option.some.inj h).symm⟩
  · cases h

theorem renameTy_process {ρ : Ren} {s r : Option Nat} {τ' : Ty} (h : renameTy ρ (.process s r) = some τ') :
    ∃ s' r', renameOptTy ρ s = some s' ∧ renameOptTy ρ r = some r' ∧ τ' = .process s' r' := by
  simp only [renameTy] at h
  split at h
  · rename_i s' r' hs hr
    exact ⟨s', r', hs, hr, (Option.some.inj h).symm⟩
  · cases h

theorem renameTy_shake {P : Prog} {m : Marks} {τ : Ty} (h : TyMarked m τ) :
    renameTy (shakeRen P m) τ = some (shakeTy (shakeRen P m) τ) := by
  have hget : ∀ {t}, t ∈ m.types → (shakeRen P m).type.get t = some (orSelf (shakeRen P m).type t) :=
    rank_of_marked
  cases τ with
  | int | bin | ref | cycle _ | resource _ | var _ => rfl
  | tuple id => exact congrArg (Option.map Ty.tuple) (rank_of_marked (show id ∈ m.tuples from h))
  | part n fs =>
    have hc : ∀ t ∈ fs.map (·.2), t ∈ m.types := h
    exact congrArg (Option.map (Ty.part n)) (mapOpt_congr_some fs
      (fun p hp => congrArg (Option.map _) (hget (hc _ (List.mem_map_of_mem hp)))))
  | callable p r v =>
    have hc : ∀ t ∈ [p, r, v], t ∈ m.types := h
    simp only [renameTy, shakeTy, hget (hc p (by simp)), hget (hc r (by simp)), hget (hc v (by simp))]
  | union ids => exact congrArg (Option.map Ty.union) (mapOpt_congr_some ids (fun t ht => hget (h t ht)))
  | process s r =>
    have hc : ∀ t ∈ s.toList ++ r.toList, t ∈ m.types := h
    have opt : ∀ o : Option Nat, (∀ t ∈ o.toList, t ∈ m.types) →
        renameOptTy (shakeRen P m) o = some (o.map (orSelf (shakeRen P m).type))
      | none, _ => rfl
      | some a, ha => congrArg (Option.map some) (hget (ha a (by simp)))
    simp only [renameTy, shakeTy, opt s (fun t ht => hc t (List.mem_append_left _ ht)),
      opt r (fun t ht => hc t (List.mem_append_right _ ht))]

theorem sweep_some {P : Prog} {e : Nat} {m : Marks} {out : ShakeOut} (h : sweep P e m = some out) :
    ∃ fs cs ts bs ys fs' e', getAll P.fns (sortAsc m.fns) = some fs ∧
      getAll P.consts (sortAsc m.consts) = some cs ∧ getAll P.tuples (sortAsc m.tuples) = some ts ∧
      getAll P.builtins (sortAsc m.builtins) = some bs ∧ getAll P.types (sortAsc m.types) = some ys ∧
      mapOpt (shakeFn (shakeRen P m)) fs = some fs' ∧ (shakeRen P m).fn.get e = some e' ∧
      out = { prog := { consts := cs.toArray, fns := fs'.toArray,
                        builtins := (bs.map (shakeBuiltin (shakeRen P m))).toArray,
                        tuples := (ts.map (shakeTuple (shakeRen P m))).toArray,
                        types := (ys.map (shakeTy (shakeRen P m))).toArray,
                        resources := (sortStrAsc m.resources).toArray, compat := [], canon := #[] },
              entry := e', ren := shakeRen P m, marks := m } := by
  unfold sweep at h
  dsimp only at h
  split at h
  · rename_i fs cs ts bs ys e' hfs hcs hts hbs hys he'
    split at h
    · cases h
    · rename_i fs' hfs'
      exact ⟨fs, cs, ts, bs, ys, fs', e', hfs, hcs, hts, hbs, hys, hfs', he', (Option.some.inj h).symm⟩
  · cases h

/-- **The sweep phase is correct for every program**: whenever it returns (no dangling index), and the
    marks are closed under reference, the swept program is a structural renaming of the original by the
    rank tables — every kept function is the instruction-by-instruction image, every kept constant /
    tuple / builtin / type entry the image of the original entry, the tables injective, NIL / OK and the
    entry mapped as required. -/
theorem sweep_structRenaming {P : Prog} {e : Nat} {m : Marks} {out : ShakeOut}
    (h : sweep P e m = some out) (hc : Closed P e m) :
    out.ren = shakeRen P m ∧ IsStructRenaming out.ren P out.prog e out.entry := by
  obtain ⟨fs, cs, ts, bs, ys, fs', e', hfs, hcs, hts, hbs, hys, hfs', he', rfl⟩ := sweep_some h
  refine ⟨rfl, ?_⟩
  have tyImg : ∀ {t}, t ∈ m.types → (shakeRen P m).type.get t = some (orSelf (shakeRen P m).type t) :=
    rank_of_marked
  have mapAt : ∀ {α β : Type} {xs : List α} {i : Nat} {v : α} (g : α → β), xs[i]? = some v →
      (xs.map g).toArray[i]? = some (g v) := by
    intro α β xs i v g hv
    rw [List.getElem?_toArray, List.getElem?_map, hv]; rfl
  refine
    { entry := he'
      inj_const := rankMap_inj _
      inj_fn := rankMap_inj _
      inj_tuple := rankMap_inj _
      inj_type := rankMap_inj _
      inj_builtin := rankMap_inj _
      nil_fixed := hc.rank0
      ok_fixed := hc.rank1
      fns := ?_, consts := ?_, tuples := ?_, builtins := ?_, types := ?_ }
  · intro f f' hf
    obtain ⟨hfm, F, hF, hFs⟩ := rank_getAll hfs hf
    obtain ⟨hn, _⟩ | ⟨F0, F', hF0, hF', hsh⟩ := mapOpt_get? hfs' f'
    · rw [hFs] at hn; cases hn
    · rw [hFs] at hF0; cases hF0
      obtain ⟨is, his, rfl⟩ := Option.map_eq_some_iff.mp hsh
      exact ⟨F, _, hF, (List.getElem?_toArray ..).trans hF', rfl, his, tyImg (hc.fns f hfm F hF)⟩
  · intro c c' hcg
    obtain ⟨_, k, hk, hks⟩ := rank_getAll hcs hcg
    exact ⟨k, hk, (List.getElem?_toArray ..).trans hks⟩
  · intro t t' ht
    obtain ⟨htm, T, hT, hTs⟩ := rank_getAll hts ht
    refine ⟨T, shakeTuple (shakeRen P m) T, hT, mapAt _ hTs, rfl, ?_, ?_⟩
    · simp only [shakeTuple, List.map_map, Function.comp_def]
    · simp only [shakeTuple, List.map_map, Function.comp_def]
      exact mapOpt_congr_some _ (fun p hp => tyImg (hc.tuples t htm T hT p hp))
  · intro b b' hb
    obtain ⟨hbm, B, hB, hBs⟩ := rank_getAll hbs hb
    obtain ⟨hp, hr⟩ := hc.builtins b hbm B hB
    exact ⟨B, shakeBuiltin (shakeRen P m) B, hB, mapAt _ hBs, rfl, tyImg hp, tyImg hr⟩
  · intro t t' ht
    obtain ⟨htm, τ, hτ, hτs⟩ := rank_getAll hys ht
    exact ⟨τ, shakeTy (shakeRen P m) τ, hτ, mapAt _ hτs, renameTy_shake (hc.types t htm τ hτ)⟩

theorem treeShakeWith_some {legacy : Bool} {P : Prog} {e : Nat} {out : ShakeOut}
    (h : treeShakeWith legacy P e = some out) :
    markAll P e legacy = some out.marks ∧ sweep P e out.marks = some out := by
  unfold treeShakeWith at h
  split at h
  · cases h
  · rename_i m hm
    -- spelling `out` out makes `out.marks` reduce to `m`
    obtain ⟨fs, cs, ts, bs, ys, fs', e', hfs, hcs, hts, hbs, hys, hfs', he', rfl⟩ := sweep_some h
    exact ⟨hm, h⟩

end QM.Packaging
