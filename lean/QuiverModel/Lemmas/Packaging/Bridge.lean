import QuiverModel.Core.Types.Rename
import QuiverModel.Lemmas.Util.List
import QuiverModel.Lemmas.Packaging.Mark
/-
Bridge from the packaging model (`QM.Packaging.Prog`, string names) to the type-relation model of
C08 / C09 (`QM.Types.Table`, interned names; Theorems/C08.lean): the conversion `toTable`, and
`shake_embeds` — the shaken tables embed into the original ones. Theorems/C10Tables.lean instantiates
`C08.compat_rename` / `C08.rename_invariant` with it.

Orientation. `QM.Types.Embeds ρ τ T T'` says that `T'` contains a renamed copy of ALL of `T` (total
`ρ`, `τ`). A shaken table is a sub-table of the original, so the embedding goes from the SHAKEN
table into the ORIGINAL one: `backMap` sends a new id to the old id it came from (the rank table
read backwards), and ids beyond the shaken table to ids beyond the original one.
-/
namespace QM.Packaging
open QM.Types (Embeds Table)

/-- conversion of a type entry; `ι` interns names. The theorems hold for every `ι` (both tables are converted with
    the same one); the converted relation is the program's own when `ι` is injective on its names. -/
def tyTo (ι : String → Nat) : Ty → QM.Types.Ty
  | .int => .integer
  | .bin => .binary
  | .ref => .reference
  | .tuple id => .tuple id
  | .part n fs => .part (n.map ι) (fs.map (fun p => (ι p.1, p.2)))
  | .callable p r v => .callable p r v
  | .cycle d => .cycle d
  | .union ids => .union ids
  | .process s r => .process s r
  | .resource n => .resource (ι n)
  | .var n => .variable (ι n)

def tupTo (ι : String → Nat) (T : TupleInfo) : QM.Types.TupleInfo :=
  ⟨T.name.map ι, T.fields.map (fun p => (p.1.map ι, p.2))⟩

/-- the two registries of a program as C09's `Table` -/
def toTable (ι : String → Nat) (P : Prog) : Table :=
  ⟨P.types.toList.map (tyTo ι), P.tuples.toList.map (tupTo ι)⟩

/-- new id ↦ old id (ids beyond the shaken table ↦ ids beyond the original table) -/
def backMap (sorted : List Nat) (oldSize : Nat) (new : Nat) : Nat :=
  match sorted[new]? with
  | some old => old
  | none => oldSize + new

theorem sweep_fns_builtins {P : Prog} {e : Nat} {m : Marks} {out : ShakeOut} (h : sweep P e m = some out) :
    ∃ fs fs' bs, getAll P.fns (sortAsc m.fns) = some fs ∧ mapOpt (shakeFn (shakeRen P m)) fs = some fs' ∧
      out.prog.fns = fs'.toArray ∧ getAll P.builtins (sortAsc m.builtins) = some bs ∧
      out.prog.builtins = (bs.map (shakeBuiltin (shakeRen P m))).toArray ∧
      out.prog.resources = (sortStrAsc m.resources).toArray := by
  obtain ⟨fs, cs, ts, bs, ys, fs', e', hfs, hcs, hts, hbs, hys, hfs', he', rfl⟩ := sweep_some h
  exact ⟨fs, fs', bs, hfs, hfs', rfl, hbs, rfl, rfl⟩

theorem getAll_inRange {α : Type} {a : Array α} : ∀ {s : List Nat} {xs : List α}, getAll a s = some xs →
    ∀ i ∈ s, i < a.size := by
  intro s xs h i hi
  obtain ⟨x, _, hx⟩ := mapOpt_mem (getAll_eq_mapOpt a s ▸ h) hi
  exact (Array.getElem?_eq_some_iff.mp hx).1

theorem sweep_inRange {P : Prog} {e : Nat} {m : Marks} {out : ShakeOut} (h : sweep P e m = some out) :
    (∀ i ∈ sortAsc m.fns, i < P.fns.size) ∧ (∀ i ∈ sortAsc m.consts, i < P.consts.size) ∧
    (∀ i ∈ sortAsc m.tuples, i < P.tuples.size) ∧ (∀ i ∈ sortAsc m.types, i < P.types.size) ∧
    (∀ i ∈ sortAsc m.builtins, i < P.builtins.size) := by
  obtain ⟨fs, cs, ts, bs, ys, fs', e', hfs, hcs, hts, hbs, hys, _⟩ := sweep_some h
  exact ⟨getAll_inRange hfs, getAll_inRange hcs, getAll_inRange hts, getAll_inRange hys, getAll_inRange hbs⟩

theorem backMap_of_get {s : List Nat} {n j i : Nat} (h : s[j]? = some i) : backMap s n j = i := by
  simp only [backMap, h]

theorem backMap_getAll {α : Type} {a : Array α} {s : List Nat} {xs : List α} (h : getAll a s = some xs) {j : Nat}
    {v : α} (hv : xs[j]? = some v) (n : Nat) : backMap s n j ∈ s ∧ a[backMap s n j]? = some v := by
  obtain ⟨_, hn⟩ | ⟨i, v', hs, hx, ha⟩ := getAll_get h j
  · cases hv.symm.trans hn
  · cases hv.symm.trans hx
    rw [backMap_of_get hs]
    exact ⟨List.mem_of_getElem? hs, ha⟩

theorem backMap_of_rank {s : List Nat} {n a i : Nat} (h : (rankMap s).get a = some i) : backMap s n i = a :=
  backMap_of_get (rankMap_get h)

/-- A partial index map `g` with images below `size`, made total (`f`) by sending an unmapped `k` to `size + k`, is
    injective when `g` is — the shape of `backMap` and `fwdMap`. -/
theorem beyond_inj {g : Nat → Option Nat} {f : Nat → Nat} {size : Nat} (hs : ∀ {k x}, g k = some x → f k = x)
    (hn : ∀ {k}, g k = none → f k = size + k) (hinj : ∀ a b x, g a = some x → g b = some x → a = b)
    (hr : ∀ k x, g k = some x → x < size) : ∀ a b, f a = f b → a = b := by
  intro a b h
  have nlt : ∀ {k}, g k = none → ¬ f k < size := fun hk => hn hk ▸ Nat.not_lt.mpr (Nat.le_add_right ..)
  cases ha : g a with
  | some x =>
    cases hb : g b with
    | some y => exact hinj a b x ha (by rw [hb, ← hs hb, ← h, hs ha])
    | none => exact absurd (h ▸ hs ha ▸ hr a x ha) (nlt hb)
  | none =>
    cases hb : g b with
    | some y => exact absurd (h ▸ hs hb ▸ hr b y hb) (nlt ha)
    | none => exact Nat.add_left_cancel ((hn ha).symm.trans (h.trans (hn hb)))

theorem backMap_inj {sorted : List Nat} {oldSize : Nat} (hn : sorted.Nodup) (hr : ∀ i ∈ sorted, i < oldSize) :
    ∀ a b, backMap sorted oldSize a = backMap sorted oldSize b → a = b :=
  beyond_inj (g := fun j => sorted[j]?) backMap_of_get (fun hj => by simp only [backMap, hj])
    (fun _ _ _ ha hb => getElem?_inj_of_nodup hn ha hb) (fun _ x hk => hr x (List.mem_of_getElem? hk))

theorem back_of_marked {s : List Nat} {oldSize c : Nat} (hc : c ∈ s) :
    backMap (sortAsc s) oldSize (orSelf (rankMap (sortAsc s)) c) = c :=
  backMap_of_rank (rank_of_marked hc)

theorem back_type (P : Prog) {m : Marks} {c : Nat} (hc : c ∈ m.types) :
    backMap (sortAsc m.types) P.types.size (orSelf (shakeRen P m).type c) = c :=
  back_of_marked hc

theorem tyTo_back (ι : String → Nat) (P : Prog) (m : Marks) {τ0 : Ty} (hm : TyMarked m τ0) :
    (tyTo ι (shakeTy (shakeRen P m) τ0)).rename (backMap (sortAsc m.types) P.types.size)
        (backMap (sortAsc m.tuples) P.tuples.size) = tyTo ι τ0 := by
  have opt : ∀ o : Option Nat, (∀ t ∈ o.toList, t ∈ m.types) →
      (o.map (orSelf (shakeRen P m).type)).map (backMap (sortAsc m.types) P.types.size) = o
    | none, _ => rfl
    | some a, ha => congrArg some (back_type P (ha a (by simp)))
  cases τ0 with
  | int | bin | ref | cycle _ | resource _ | var _ => rfl
  | tuple id => exact congrArg QM.Types.Ty.tuple (back_of_marked (show id ∈ m.tuples from hm))
  | part n fs =>
    have hc : ∀ t ∈ fs.map (·.2), t ∈ m.types := hm
    simp only [shakeTy, tyTo, QM.Types.Ty.rename, List.map_map]
    congr 1
    exact List.map_congr_left fun p hp => by
      simp only [Function.comp, back_type P (hc _ (List.mem_map_of_mem hp))]
  | callable p r v =>
    have hc : ∀ t ∈ [p, r, v], t ∈ m.types := hm
    simp only [shakeTy, tyTo, QM.Types.Ty.rename, back_type P (hc p (by simp)), back_type P (hc r (by simp)),
      back_type P (hc v (by simp))]
  | union ids =>
    have hc : ∀ t ∈ ids, t ∈ m.types := hm
    simp only [shakeTy, tyTo, QM.Types.Ty.rename, List.map_map]
    congr 1
    exact (List.map_congr_left fun t ht => back_type P (hc t ht)).trans (List.map_id' ids)
  | process s r =>
    have hc : ∀ t ∈ s.toList ++ r.toList, t ∈ m.types := hm
    simp only [shakeTy, tyTo, QM.Types.Ty.rename, opt s (fun t ht => hc t (List.mem_append_left _ ht)),
      opt r (fun t ht => hc t (List.mem_append_right _ ht))]

theorem tupTo_back (ι : String → Nat) (P : Prog) (m : Marks) {T : TupleInfo} (hm : ∀ p ∈ T.fields, p.2 ∈ m.types) :
    (tupTo ι (shakeTuple (shakeRen P m) T)).rename (backMap (sortAsc m.types) P.types.size) = tupTo ι T := by
  simp only [tupTo, shakeTuple, QM.Types.TupleInfo.rename, List.map_map]
  congr 1
  exact List.map_congr_left fun p hp => by
    simp only [Function.comp, back_type P (hm p hp)]

/-- A table rebuilt by the sweep from the sorted marks `s`, read backwards: the entry at a new id is the shaken
    entry of its old id, so renaming it back gives the original entry; a new id beyond the table goes beyond
    the original. -/
theorem getAll_embeds {α γ : Type} {a : Array α} {s : List Nat} {xs : List α} (h : getAll a s = some xs)
    {to : α → γ} {sh : α → α} {rn : γ → γ} (hback : ∀ i ∈ s, ∀ v, a[i]? = some v → rn (to (sh v)) = to v) (j : Nat) :
    (a.toList.map to)[backMap s a.size j]? = (((xs.map sh).toArray.toList.map to)[j]?).map rn := by
  obtain ⟨hs, hx⟩ | ⟨i, v, hs, hx, hv⟩ := getAll_get h j
  · have : a.toList[a.size + j]? = none := List.getElem?_eq_none (by simp)
    simp only [backMap, hs, List.getElem?_map, this, hx, Option.map_none]
  · simp only [backMap_of_get hs, List.getElem?_map, Array.getElem?_toList, hv, hx, Option.map_some,
      hback i (List.mem_of_getElem? hs) v hv]

/-- **The shaken type / tuple tables embed into the original ones** (C09's `Embeds`), by the rank tables
    read backwards — for every program and entry. -/
theorem shake_embeds (ι : String → Nat) {P : Prog} {e : Nat} {out : ShakeOut} (h : treeShake P e = some out) :
    Embeds (backMap (sortAsc out.marks.types) P.types.size) (backMap (sortAsc out.marks.tuples) P.tuples.size)
      (toTable ι out.prog) (toTable ι P) := by
  obtain ⟨hm, hsw⟩ := treeShakeWith_some h
  generalize out.marks = m at hm hsw ⊢
  have hc := markAll_closed hm
  obtain ⟨fs, cs, ts, bs, ys, fs', e', hfs, hcs, hts, hbs, hys, hfs', he', rfl⟩ := sweep_some hsw
  refine ⟨backMap_inj (sortAsc_nodup hc.nodupTypes) (getAll_inRange hys),
    backMap_inj (sortAsc_nodup hc.nodupTuples) (getAll_inRange hts), fun t' => ?_, fun i' => ?_⟩
  · simp only [toTable]
    exact getAll_embeds hys (fun i hi τ hτ => tyTo_back ι P _ (hc.types i (mem_sortAsc.mp hi) τ hτ)) t'
  · simp only [toTable]
    exact getAll_embeds hts (fun i hi T hT => tupTo_back ι P _ (hc.tuples i (mem_sortAsc.mp hi) T hT)) i'

/-- first index of a name (the list length if absent: `nameIdx_eq_idxOf`) -/
def nameIdx (n : String) : List String → Nat
  | [] => 0
  | a :: as => if a = n then 0 else nameIdx n as + 1

theorem nameIdx_eq_idxOf (n : String) : ∀ l : List String, nameIdx n l = l.idxOf n
  | [] => rfl
  | a :: as => by
    rw [nameIdx, List.idxOf_cons, nameIdx_eq_idxOf n as]
    by_cases h : a = n
    · rw [if_pos h, beq_iff_eq.mpr h]; rfl
    · rw [if_neg h, beq_eq_false_iff_ne.mpr h]; rfl

theorem nameIdx_get {n : String} : ∀ {l : List String}, n ∈ l → l[nameIdx n l]? = some n := by
  intro l h
  rw [nameIdx_eq_idxOf]
  exact List.getElem?_eq_some_iff.mpr ⟨List.idxOf_lt_length_iff.mpr h, List.getElem_idxOf _⟩

theorem nameIdx_of_get {n : String} {l : List String} {r : Nat} (hn : l.Nodup) (h : l[r]? = some n) :
    nameIdx n l = r := by
  obtain ⟨hr, rfl⟩ := List.getElem?_eq_some_iff.mp h
  rw [nameIdx_eq_idxOf]
  exact hn.idxOf_getElem r hr

theorem isTypeOps_rename {ρ : Ren} {is is' : List Instr} (h : renameInstrs ρ is = some is') {t t' : Nat}
    (ht : t ∈ isTypeOps is) (ht' : ρ.type.get t = some t') : t' ∈ isTypeOps is' := by
  obtain ⟨b, hb, hf⟩ := mapOpt_mem h (mem_isTypeOps_iff.mp ht)
  cases (congrArg (Option.map Instr.isType) ht').symm.trans hf
  exact mem_isTypeOps_iff.mpr hb

theorem any_eq_get {P : Prog} {p : Ty → Bool} (h : P.types.toList.any p = true) :
    ∃ (n : Nat) (τ : Ty), P.types[n]? = some τ ∧ p τ = true := by
  obtain ⟨τ, hm, hp⟩ := List.any_eq_true.mp h
  obtain ⟨n, hn⟩ := List.getElem?_of_mem hm
  exact ⟨n, τ, Array.getElem?_toList ▸ hn, hp⟩

theorem any_beq_get {P : Prog} {τ : Ty} (h : P.types.toList.any (· == τ) = true) :
    ∃ n : Nat, P.types[n]? = some τ := by
  obtain ⟨n, σ, hn, hp⟩ := any_eq_get h
  cases beq_iff_eq.mp hp
  exact ⟨n, hn⟩

theorem any_of_get {P : Prog} {p : Ty → Bool} {n : Nat} {τ : Ty} (h : P.types[n]? = some τ) (hp : p τ = true) :
    P.types.toList.any p = true :=
  List.any_eq_true.mpr ⟨τ, List.mem_of_getElem? (Array.getElem?_toList ▸ h), hp⟩

theorem toTable_types (ι : String → Nat) (P : Prog) (n : Nat) :
    (toTable ι P).types[n]? = (P.types[n]?).map (tyTo ι) := by
  rw [toTable, List.getElem?_map, Array.getElem?_toList]

theorem toTable_tuples (ι : String → Nat) (P : Prog) (n : Nat) :
    (toTable ι P).tuples[n]? = (P.tuples[n]?).map (tupTo ι) := by
  rw [toTable, List.getElem?_map, Array.getElem?_toList]

theorem toTable_get (ι : String → Nat) {P : Prog} {n : Nat} {τ : Ty} (h : P.types[n]? = some τ) :
    (toTable ι P).types[n]? = some (tyTo ι τ) := by
  rw [toTable_types, h]; rfl

end QM.Packaging
