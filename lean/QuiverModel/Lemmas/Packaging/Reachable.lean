import QuiverModel.Core.Packaging.TreeShake
/-
What `tree_shake(P, e)` is entitled to keep (port: Core/Packaging/TreeShake.lean, optimisation.rs as of 5a04882):
`Reach P e x` is the least set closed under exactly the references the mark phase follows; `Just` says that every
mark is in it.
-/
namespace QM.Packaging

inductive ShakeItem where
  | fn (n : Nat)
  | const (n : Nat)
  | tuple (n : Nat)
  | ty (n : Nat)
  | builtin (n : Nat)
  | res (s : String)
  deriving DecidableEq, Repr

/-- the least set closed under the references the mark phase follows -/
inductive Reach (P : Prog) (e : Nat) : ShakeItem → Prop where
  | entry : Reach P e (.fn e)
  | nil : Reach P e (.tuple 0)
  | ok : Reach P e (.tuple 1)
  | fnType {f : Nat} {F : Fn} : Reach P e (.fn f) → P.fns[f]? = some F → Reach P e (.ty F.typeId)
  | callee {f : Nat} {F : Fn} {g : Nat} : Reach P e (.fn f) → P.fns[f]? = some F →
      Instr.function g ∈ F.instrs → Reach P e (.fn g)
  | procFn {f : Nat} {F : Fn} {pid g : Nat} : Reach P e (.fn f) → P.fns[f]? = some F →
      Instr.process pid g ∈ F.instrs → Reach P e (.fn g)
  | const {f : Nat} {F : Fn} {c : Nat} : Reach P e (.fn f) → P.fns[f]? = some F →
      Instr.const c ∈ F.instrs → Reach P e (.const c)
  | builtin {f : Nat} {F : Fn} {b : Nat} : Reach P e (.fn f) → P.fns[f]? = some F →
      Instr.builtin b ∈ F.instrs → Reach P e (.builtin b)
  | isType {f : Nat} {F : Fn} {t : Nat} : Reach P e (.fn f) → P.fns[f]? = some F →
      Instr.isType t ∈ F.instrs → Reach P e (.ty t)
  | mkTuple {f : Nat} {F : Fn} {u : Nat} : Reach P e (.fn f) → P.fns[f]? = some F →
      Instr.tuple u ∈ F.instrs → Reach P e (.tuple u)
  | mkTupleType {f : Nat} {F : Fn} {u t : Nat} : Reach P e (.fn f) → P.fns[f]? = some F →
      Instr.tuple u ∈ F.instrs → firstTupleType P u = some t → Reach P e (.ty t)
  | child {t : Nat} {τ : Ty} {x : Nat} : Reach P e (.ty t) → P.types[t]? = some τ → x ∈ tyChildren τ →
      Reach P e (.ty x)
  | tupleOf {t id : Nat} : Reach P e (.ty t) → P.types[t]? = some (.tuple id) → Reach P e (.tuple id)
  | resOf {t : Nat} {n : String} : Reach P e (.ty t) → P.types[t]? = some (.resource n) → Reach P e (.res n)
  | field {u : Nat} {T : TupleInfo} {p : Option String × Nat} : Reach P e (.tuple u) → P.tuples[u]? = some T →
      p ∈ T.fields → Reach P e (.ty p.2)
  | bParam {b : Nat} {B : BuiltinInfo} : Reach P e (.builtin b) → P.builtins[b]? = some B →
      Reach P e (.ty B.paramType)
  | bResult {b : Nat} {B : BuiltinInfo} : Reach P e (.builtin b) → P.builtins[b]? = some B →
      Reach P e (.ty B.resultType)
  /-- index-only entries (optimisation.rs as of 5a04882): the `Process` type of a kept function, the never-receiving `Callable`
      type of a kept builtin — found by `TypeIndex::build`, referenced by nothing -/
  | indexOnly {t : Nat} {τ : Ty} {m : Marks} : P.types[t]? = some τ → isIndexOnly P m τ = true →
      (∀ f ∈ m.fns, Reach P e (.fn f)) → (∀ b ∈ m.builtins, Reach P e (.builtin b)) → Reach P e (.ty t)

/-- every mark is justified -/
structure Just (P : Prog) (e : Nat) (m : Marks) : Prop where
  fns : ∀ f ∈ m.fns, Reach P e (.fn f)
  consts : ∀ c ∈ m.consts, Reach P e (.const c)
  tuples : ∀ u ∈ m.tuples, Reach P e (.tuple u)
  types : ∀ t ∈ m.types, Reach P e (.ty t)
  builtins : ∀ b ∈ m.builtins, Reach P e (.builtin b)
  resources : ∀ n ∈ m.resources, Reach P e (.res n)

end QM.Packaging
