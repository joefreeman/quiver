import QuiverModel.Core.Text.DocSpec
/-
Lemmas about the layout engine model (`printLoop`, `fitsLoop`, `flattenLoop`): equations per match
arm; what one iteration of the print loop does with a frame (`Step`) and induction along the loop
(`printLoop_induct`), of which the atom invariants (permutation with line suffixes, document order
without), the shape of a line-suffix flush and printing in flat mode are instances; completeness of
`fits` on flat stacks; `flatten` by recursion on the document (`flatText`). Core Lean only.
-/
namespace QM.Text

theorem Doc.ind {P : Doc → Prop} (nil : P .nil) (text : ∀ s, P (.text s)) (line : P .line)
    (softline : P .softline) (hardline : P .hardline) (concat : ∀ ds, (∀ d ∈ ds, P d) → P (.concat ds))
    (nest : ∀ n d, P d → P (.nest n d)) (group : ∀ d sb, P d → P (.group d sb))
    (ifBreak : ∀ b f, P b → P f → P (.ifBreak b f)) (lineSuffix : ∀ d, P d → P (.lineSuffix d))
    (breakParent : P .breakParent) (d : Doc) : P d :=
  Doc.rec (motive_1 := P) (motive_2 := fun ds => ∀ d ∈ ds, P d) nil text line softline hardline concat nest
    group ifBreak lineSuffix breakParent (fun _ h => nomatch h)
    (fun _ _ hd hds x hx => by
      rcases List.mem_cons.mp hx with rfl | hx
      · exact hd
      · exact hds x hx)
    d

section
variable (w col : Nat) (f : Frame) (st suf : List Frame)

theorem printLoop_nil_nil : printLoop w col [] [] = [] := by rw [printLoop]
theorem printLoop_nil_cons (s : Frame) (ss : List Frame) :
    printLoop w col [] (s :: ss) = printLoop w col (s :: ss) [] := by rw [printLoop]
theorem printLoop_docNil (hd : f.doc = .nil) :
    printLoop w col (f :: st) suf = printLoop w col st suf := by
  obtain ⟨_, _, _⟩ := f; cases hd; rw [printLoop.eq_def]
theorem printLoop_breakParent (hd : f.doc = .breakParent) :
    printLoop w col (f :: st) suf = printLoop w col st suf := by
  obtain ⟨_, _, _⟩ := f; cases hd; rw [printLoop.eq_def]
theorem printLoop_text (s : List Char) (hd : f.doc = .text s) :
    printLoop w col (f :: st) suf = .atom s :: printLoop w (col + s.length) st suf := by
  obtain ⟨_, _, _⟩ := f; cases hd; rw [printLoop.eq_def]
theorem printLoop_concat (ds : List Doc) (hd : f.doc = .concat ds) :
    printLoop w col (f :: st) suf = printLoop w col (mkFrames f.indent f.mode ds ++ st) suf := by
  obtain ⟨_, _, _⟩ := f; cases hd; rw [printLoop.eq_def]
theorem printLoop_nest (n : Nat) (d : Doc) (hd : f.doc = .nest n d) :
    printLoop w col (f :: st) suf = printLoop w col (⟨f.indent + n, f.mode, d⟩ :: st) suf := by
  obtain ⟨_, _, _⟩ := f; cases hd; rw [printLoop.eq_def]
theorem printLoop_lineSuffix (d : Doc) (hd : f.doc = .lineSuffix d) :
    printLoop w col (f :: st) suf = printLoop w col st (suf ++ [⟨f.indent, f.mode, d⟩]) := by
  obtain ⟨_, _, _⟩ := f; cases hd; rw [printLoop.eq_def]
theorem printLoop_line_flat (hd : f.doc = .line) (hm : f.mode = .flat) :
    printLoop w col (f :: st) suf = .sp :: printLoop w (col + 1) st suf := by
  obtain ⟨_, _, _⟩ := f; cases hd; cases hm; rw [printLoop.eq_def]
theorem printLoop_softline_flat (hd : f.doc = .softline) (hm : f.mode = .flat) :
    printLoop w col (f :: st) suf = printLoop w col st suf := by
  obtain ⟨_, _, _⟩ := f; cases hd; cases hm; rw [printLoop.eq_def]
/-- A real line break (`Line`/`SoftLine` in break mode, or any `HardLine`). -/
def IsBreak (f : Frame) : Prop :=
  (f.doc = .line ∧ f.mode = .brk) ∨ (f.doc = .softline ∧ f.mode = .brk) ∨ f.doc = .hardline
theorem printLoop_break_nil (hb : IsBreak f) :
    printLoop w col (f :: st) [] = .nl f.indent :: printLoop w f.indent st [] := by
  obtain ⟨_, _, _⟩ := f
  rcases hb with ⟨hd, hm⟩ | ⟨hd, hm⟩ | hd
  · cases hd; cases hm; rw [printLoop.eq_def]
  · cases hd; cases hm; rw [printLoop.eq_def]
  · cases hd; rw [printLoop.eq_def]  -- a `HardLine` breaks in either mode
theorem printLoop_break_cons (hb : IsBreak f) (s : Frame) (ss : List Frame) :
    printLoop w col (f :: st) (s :: ss) = printLoop w col ((s :: ss) ++ f :: st) [] := by
  obtain ⟨_, _, _⟩ := f
  rcases hb with ⟨hd, hm⟩ | ⟨hd, hm⟩ | hd
  · cases hd; cases hm; rw [printLoop.eq_def]
  · cases hd; cases hm; rw [printLoop.eq_def]
  · cases hd; rw [printLoop.eq_def]  -- a `HardLine` breaks in either mode
theorem printLoop_ifBreak_brk (b fl : Doc) (hd : f.doc = .ifBreak b fl) (hm : f.mode = .brk) :
    printLoop w col (f :: st) suf = printLoop w col (⟨f.indent, .brk, b⟩ :: st) suf := by
  obtain ⟨_, _, _⟩ := f; cases hd; cases hm; rw [printLoop.eq_def]
theorem printLoop_ifBreak_flat (b fl : Doc) (hd : f.doc = .ifBreak b fl) (hm : f.mode = .flat) :
    printLoop w col (f :: st) suf = printLoop w col (⟨f.indent, .flat, fl⟩ :: st) suf := by
  obtain ⟨_, _, _⟩ := f; cases hd; cases hm; rw [printLoop.eq_def]
theorem printLoop_group (d : Doc) (sb : Bool) (hd : f.doc = .group d sb) :
    printLoop w col (f :: st) suf =
      printLoop w col (⟨f.indent, if sb || !fits (w - col) f.indent d st then .brk else .flat, d⟩ :: st) suf := by
  obtain ⟨_, _, _⟩ := f; cases hd; rw [printLoop.eq_def]
end

/-- What one iteration of the print loop does with a frame that neither ends the line nor holds a
    line suffix: the pieces it appends to the output and the frames it pushes in the frame's place.
    The width, the column and the rest of the stack matter to a group only (its mode). -/
inductive Step (w col : Nat) (st : List Frame) : Frame → List Piece → List Frame → Prop
  | nil (i m) : Step w col st ⟨i, m, .nil⟩ [] []
  | breakParent (i m) : Step w col st ⟨i, m, .breakParent⟩ [] []
  | softline (i) : Step w col st ⟨i, .flat, .softline⟩ [] []
  | text (i m s) : Step w col st ⟨i, m, .text s⟩ [.atom s] []
  | line (i) : Step w col st ⟨i, .flat, .line⟩ [.sp] []
  | concat (i m ds) : Step w col st ⟨i, m, .concat ds⟩ [] (mkFrames i m ds)
  | nest (i m n d) : Step w col st ⟨i, m, .nest n d⟩ [] [⟨i + n, m, d⟩]
  | ifBreakBrk (i b fl) : Step w col st ⟨i, .brk, .ifBreak b fl⟩ [] [⟨i, .brk, b⟩]
  | ifBreakFlat (i b fl) : Step w col st ⟨i, .flat, .ifBreak b fl⟩ [] [⟨i, .flat, fl⟩]
  | group (i m d sb) :
      Step w col st ⟨i, m, .group d sb⟩ [] [⟨i, if sb || !fits (w - col) i d st then .brk else .flat, d⟩]

theorem Step.eq {w col : Nat} {st : List Frame} {f : Frame} {ps : List Piece} {fs : List Frame}
    (h : Step w col st f ps fs) (suf : List Frame) :
    printLoop w col (f :: st) suf = ps ++ printLoop w (col + piecesWidth ps) (fs ++ st) suf := by
  cases h <;> rw [printLoop.eq_def] <;> rfl

theorem Step.size_le {w col : Nat} {st : List Frame} {f : Frame} {ps : List Piece} {fs : List Frame}
    (h : Step w col st f ps fs) : ps.length + framesSize fs ≤ f.doc.size := by
  cases h <;> simp only [framesSize, framesSize_map, Doc.size, List.length_cons, List.length_nil] <;> omega

/-- Induction along the print loop: a `Step`; a line suffix put aside; a line break, taken at once
    when no suffix is pending, else after the pending suffixes have been pushed back; the end of the
    stack, where pending suffixes are pushed back as well. -/
theorem printLoop_induct (w : Nat) {motive : Nat → List Frame → List Frame → Prop}
    (done : ∀ col, motive col [] [])
    (atEnd : ∀ col s ss, motive col (s :: ss) [] → motive col [] (s :: ss))
    (step : ∀ col f st suf ps fs, Step w col st f ps fs → motive (col + piecesWidth ps) (fs ++ st) suf →
      motive col (f :: st) suf)
    (defer : ∀ col i m d st suf, motive col st (suf ++ [⟨i, m, d⟩]) → motive col (⟨i, m, .lineSuffix d⟩ :: st) suf)
    (brk : ∀ col f st, IsBreak f → motive f.indent st [] → motive col (f :: st) [])
    (flush : ∀ col f st s ss, IsBreak f → motive col ((s :: ss) ++ f :: st) [] → motive col (f :: st) (s :: ss))
    (col : Nat) (st suf : List Frame) : motive col st suf := by
  refine printLoop.induct w (motive := motive)
    ?_ ?_ ?_ ?_ ?_ ?_ ?_ ?_ ?_ ?_ ?_ ?_ ?_ ?_ ?_ ?_ ?_ ?_ ?_ col st suf
  · exact done
  · exact atEnd
  · intro col suf ⟨i, m, _⟩ st hd ih; cases hd; exact step _ _ _ _ _ _ (.nil i m) ih
  · intro col suf ⟨i, m, _⟩ st hd ih; cases hd; exact step _ _ _ _ _ _ (.breakParent i m) ih
  · intro col suf ⟨i, m, _⟩ st s hd ih; cases hd; exact step _ _ _ _ _ _ (.text i m s) ih
  · intro col suf ⟨i, m, _⟩ st ds hd ih; cases hd; exact step _ _ _ _ _ _ (.concat i m ds) ih
  · intro col suf ⟨i, m, _⟩ st n d hd ih; cases hd; exact step _ _ _ _ _ _ (.nest i m n d) ih
  · intro col suf ⟨i, m, _⟩ st d hd ih; cases hd; exact defer _ _ _ _ _ _ ih
  · intro col suf ⟨i, _, _⟩ st hd hm ih; cases hd; cases hm; exact step _ _ _ _ _ _ (.line i) ih
  · intro col f st hd hm ih; exact brk _ _ _ (.inl ⟨hd, hm⟩) ih
  · intro col f st hd hm s ss ih; exact flush _ _ _ _ _ (.inl ⟨hd, hm⟩) ih
  · intro col suf ⟨i, _, _⟩ st hd hm ih; cases hd; cases hm; exact step _ _ _ _ _ _ (.softline i) ih
  · intro col f st hd hm ih; exact brk _ _ _ (.inr (.inl ⟨hd, hm⟩)) ih
  · intro col f st hd hm s ss ih; exact flush _ _ _ _ _ (.inr (.inl ⟨hd, hm⟩)) ih
  · intro col f st hd ih; exact brk _ _ _ (.inr (.inr hd)) ih
  · intro col f st hd s ss ih; exact flush _ _ _ _ _ (.inr (.inr hd)) ih
  · intro col suf ⟨i, _, _⟩ st b fl hd hm ih; cases hd; cases hm; exact step _ _ _ _ _ _ (.ifBreakBrk i b fl) ih
  · intro col suf ⟨i, _, _⟩ st b fl hd hm ih; cases hd; cases hm; exact step _ _ _ _ _ _ (.ifBreakFlat i b fl) ih
  · intro col suf ⟨i, m, _⟩ st d sb hd mode ih; cases hd; exact step _ _ _ _ _ _ (.group i m d sb) ih

/-- the texts a stack reads as: those of its frames (`Reads`, each in its own mode), top first -/
inductive ReadsStack : List Frame → List (List Char) → Prop
  | nil : ReadsStack [] []
  | cons (f st a b) : Reads f.doc f.mode a → ReadsStack st b → ReadsStack (f :: st) (a ++ b)

theorem ReadsStack.cons_inv {f : Frame} {st : List Frame} {as : List (List Char)}
    (h : ReadsStack (f :: st) as) :
    ∃ x y, as = x ++ y ∧ Reads f.doc f.mode x ∧ ReadsStack st y := by
  cases h with
  | cons _ _ a b h1 h2 => exact ⟨a, b, rfl, h1, h2⟩

theorem ReadsStack.nil_inv {as : List (List Char)} (h : ReadsStack [] as) : as = [] := by
  cases h; rfl

theorem ReadsStack.append_inv {s1 s2 : List Frame} {as : List (List Char)}
    (h : ReadsStack (s1 ++ s2) as) :
    ∃ x y, as = x ++ y ∧ ReadsStack s1 x ∧ ReadsStack s2 y := by
  induction s1 generalizing as with
  | nil => exact ⟨[], as, rfl, .nil, h⟩
  | cons f st ih =>
    obtain ⟨x, y, rfl, hx, hy⟩ := ReadsStack.cons_inv h
    obtain ⟨y1, y2, rfl, h1, h2⟩ := ih hy
    exact ⟨x ++ y1, y2, by simp, .cons _ _ _ _ hx h1, h2⟩

theorem ReadsStack.append {s1 s2 : List Frame} {x y : List (List Char)}
    (h1 : ReadsStack s1 x) (h2 : ReadsStack s2 y) : ReadsStack (s1 ++ s2) (x ++ y) := by
  induction h1 with
  | nil => simpa
  | cons f st a b ha _ ih => rw [List.append_assoc]; exact .cons _ _ _ _ ha ih

theorem ReadsStack.mkFrames_inv {i : Nat} {m : Mode} {ds : List Doc} {x : List (List Char)}
    (h : ReadsStack (mkFrames i m ds) x) : ReadsList ds m x := by
  induction ds generalizing x with
  | nil => simp [mkFrames] at h; rw [h.nil_inv]; exact .nil m
  | cons d ds ih =>
    simp only [mkFrames] at h
    obtain ⟨a, b, rfl, ha, hb⟩ := h.cons_inv
    exact .cons _ _ _ _ _ ha (ih hb)

theorem atomsOf_cons_atom (s : List Char) (ps : List Piece) : atomsOf (.atom s :: ps) = s :: atomsOf ps := rfl
theorem atomsOf_cons_sp (ps : List Piece) : atomsOf (.sp :: ps) = atomsOf ps := rfl
theorem atomsOf_cons_nl (n : Nat) (ps : List Piece) : atomsOf (.nl n :: ps) = atomsOf ps := rfl


/-- What the print loop will emit from a state is, up to the deferral of line suffixes, a reading of
    what is pending: nothing is dropped, nothing is duplicated. -/
def AtomsInv (w col : Nat) (st suf : List Frame) : Prop :=
  ∃ a b, ReadsStack st a ∧ ReadsStack suf b ∧ (atomsOf (printLoop w col st suf)).Perm (a ++ b)

theorem ReadsStack.single_inv {g : Frame} {x : List (List Char)} (h : ReadsStack [g] x) :
    Reads g.doc g.mode x := by
  obtain ⟨a, b, rfl, ha, hb⟩ := h.cons_inv
  rw [hb.nil_inv]; simpa using ha

section
variable {w col col' : Nat} {f : Frame} {st suf suf' : List Frame}

theorem AtomsInv.replace (fs' : List Frame)
    (e : printLoop w col (f :: st) suf = printLoop w col (fs' ++ st) suf)
    (hr : ∀ x, ReadsStack fs' x → Reads f.doc f.mode x)
    (h : AtomsInv w col (fs' ++ st) suf) : AtomsInv w col (f :: st) suf := by
  obtain ⟨a, b, ha, hb, hp⟩ := h
  obtain ⟨x, y, rfl, hx, hy⟩ := ha.append_inv
  exact ⟨x ++ y, b, .cons _ _ _ _ (hr x hx) hy, hb, by rw [e]; exact hp⟩
end

theorem atomsOf_append (a b : List Piece) : atomsOf (a ++ b) = atomsOf a ++ atomsOf b := by
  induction a with
  | nil => rfl
  | cons p ps ih => cases p <;> simp [atomsOf, ih]

theorem Step.reads {w col : Nat} {st : List Frame} {f : Frame} {ps : List Piece} {fs : List Frame}
    (h : Step w col st f ps fs) {x : List (List Char)} (hx : ReadsStack fs x) :
    Reads f.doc f.mode (atomsOf ps ++ x) := by
  cases h with
  | nil i m => cases hx; exact .nil m
  | breakParent i m => cases hx; exact .breakParent m
  | softline i => cases hx; exact .softline _
  | text i m s => cases hx; exact .text s m
  | line i => cases hx; exact .line _
  | concat i m ds => exact .concat _ _ _ hx.mkFrames_inv
  | nest i m n d => exact .nest _ _ _ _ hx.single_inv
  | ifBreakBrk i b fl => exact .ifBreakBrk _ _ _ hx.single_inv
  | ifBreakFlat i b fl => exact .ifBreakFlat _ _ _ hx.single_inv
  | group i m d sb => exact .group _ _ _ _ _ (fun hsb => by simp [hsb]) hx.single_inv

theorem IsBreak.reads {f : Frame} (h : IsBreak f) : Reads f.doc f.mode [] := by
  rcases h with ⟨hd, _⟩ | ⟨hd, _⟩ | hd <;> rw [hd] <;> constructor

theorem printLoop_atoms (w col : Nat) (st suf : List Frame) : AtomsInv w col st suf := by
  refine printLoop_induct w (motive := AtomsInv w) ?_ ?_ ?_ ?_ ?_ ?_ col st suf
  · exact fun col => ⟨[], [], .nil, .nil, by rw [printLoop_nil_nil]; exact .nil⟩
  · intro col s ss ⟨a, b, ha, hb, hp⟩
    rw [hb.nil_inv] at hp
    exact ⟨[], a, .nil, ha, by rw [printLoop_nil_cons]; simpa using hp⟩
  · intro col f st suf ps fs h ⟨a, b, ha, hb, hp⟩
    obtain ⟨x, y, rfl, hx, hy⟩ := ha.append_inv
    refine ⟨(atomsOf ps ++ x) ++ y, b, .cons _ _ _ _ (h.reads hx) hy, hb, ?_⟩
    rw [h.eq, atomsOf_append]
    simpa using hp.append_left (atomsOf ps)
  · intro col i m d st suf ⟨a, b, ha, hb, hp⟩
    obtain ⟨b1, x, rfl, hb1, hx⟩ := hb.append_inv
    refine ⟨x ++ a, b1, .cons _ _ _ _ (.lineSuffix _ _ _ hx.single_inv) ha, hb1, ?_⟩
    rw [printLoop_lineSuffix w col _ st suf d rfl]
    refine hp.trans ?_
    have : (a ++ (b1 ++ x)).Perm (x ++ (a ++ b1)) := by
      rw [← List.append_assoc]; exact List.perm_append_comm
    simpa using this
  · intro col f st hb ⟨a, b, ha, hb', hp⟩
    refine ⟨a, b, by simpa using ReadsStack.cons f st [] a hb.reads ha, hb', ?_⟩
    rw [printLoop_break_nil w col f st hb, atomsOf_cons_nl]; exact hp
  · intro col f st s ss hb ⟨a, b, ha, hb', hp⟩
    obtain ⟨x, y, rfl, hx, hy⟩ := ha.append_inv
    rw [hb'.nil_inv] at hp
    refine ⟨y, x, hy, hx, ?_⟩
    rw [printLoop_break_cons w col f st hb s ss]
    exact hp.trans (by simpa using List.perm_append_comm)

def NoSuffixStack (st : List Frame) : Prop := ∀ f ∈ st, noSuffix f.doc = true

theorem NoSuffixStack.tail {f : Frame} {st : List Frame} (h : NoSuffixStack (f :: st)) :
    NoSuffixStack st := (List.forall_mem_cons.1 h).2

theorem NoSuffixStack.head {f : Frame} {st : List Frame} (h : NoSuffixStack (f :: st)) :
    noSuffix f.doc = true := (List.forall_mem_cons.1 h).1

theorem NoSuffixStack.mkFrames (i : Nat) (m : Mode) (ds : List Doc) (h : noSuffixList ds = true) :
    NoSuffixStack (mkFrames i m ds) := by
  induction ds with
  | nil => intro f hf; simp [QM.Text.mkFrames] at hf
  | cons d ds ih =>
    simp only [noSuffixList, Bool.and_eq_true] at h
    exact List.forall_mem_cons.2 ⟨h.1, ih h.2⟩

theorem NoSuffixStack.append {a b : List Frame} (ha : NoSuffixStack a) (hb : NoSuffixStack b) :
    NoSuffixStack (a ++ b) := List.forall_mem_append.2 ⟨ha, hb⟩

/-- What the order theorem says of one state of `printLoop`: with nothing buffered and no line suffix
    on the stack, the atoms printed are the texts the stack reads as, in that order. -/
def OrdInv (w col : Nat) (st suf : List Frame) : Prop :=
  suf = [] → NoSuffixStack st → ReadsStack st (atomsOf (printLoop w col st suf))

section
variable {w col col' : Nat} {f : Frame} {st : List Frame}

theorem OrdInv.replace (fs' : List Frame)
    (e : printLoop w col (f :: st) [] = printLoop w col (fs' ++ st) [])
    (hr : ∀ x, ReadsStack fs' x → Reads f.doc f.mode x)
    (hn : noSuffix f.doc = true → NoSuffixStack fs')
    (h : OrdInv w col (fs' ++ st) []) : OrdInv w col (f :: st) [] := by
  intro _ hns
  rw [e]
  have := h rfl ((hn hns.head).append hns.tail)
  obtain ⟨x, y, hxy, hx, hy⟩ := this.append_inv
  rw [hxy]
  exact .cons _ _ _ _ (hr x hx) hy
end

theorem NoSuffixStack.single {g : Frame} (h : noSuffix g.doc = true) : NoSuffixStack [g] := by
  intro f hf; simp at hf; subst hf; exact h

theorem Step.noSuffixStack {w col : Nat} {st : List Frame} {f : Frame} {ps : List Piece} {fs : List Frame}
    (h : Step w col st f ps fs) (hn : noSuffix f.doc = true) : NoSuffixStack fs := by
  cases h with
  | concat i m ds => exact .mkFrames _ _ _ hn
  | nest | group => exact .single hn
  | ifBreakBrk => exact .single (Bool.and_eq_true_iff.mp hn).1
  | ifBreakFlat => exact .single (Bool.and_eq_true_iff.mp hn).2
  | _ => exact fun _ hf => nomatch hf

theorem printLoop_order (w col : Nat) (st suf : List Frame) : OrdInv w col st suf := by
  refine printLoop_induct w (motive := OrdInv w) ?_ ?_ ?_ ?_ ?_ ?_ col st suf
  · intro col _ _; rw [printLoop_nil_nil]; exact .nil
  · intro col s ss _ h; exact absurd h (by simp)
  · intro col f st suf ps fs h ih hs hns
    subst hs
    obtain ⟨x, y, hxy, hx, hy⟩ := (ih rfl ((h.noSuffixStack hns.head).append hns.tail)).append_inv
    rw [h.eq, atomsOf_append, hxy, ← List.append_assoc]
    exact .cons _ _ _ _ (h.reads hx) hy
  · intro col i m d st suf _ _ hns
    have := hns.head; simp [noSuffix] at this
  · intro col f st hb ih _ hns
    rw [printLoop_break_nil w col f st hb, atomsOf_cons_nl]
    simpa using ReadsStack.cons f st [] _ hb.reads (ih rfl hns.tail)
  · intro col f st s ss _ _ h; exact absurd h (by simp)

theorem ReadsList.det_of : ∀ (ds : List Doc),
    (∀ d ∈ ds, ∀ m as, ifBreakNeutral d = true → Reads d m as → as = atomsDet d) →
    ∀ (m : Mode) (as : List (List Char)), ifBreakNeutralList ds = true → ReadsList ds m as → as = atomsDetList ds
  | [], _, _, _, _, h => by cases h; rfl
  | d :: ds, ih, m, as, hn, h => by
    simp only [ifBreakNeutralList, Bool.and_eq_true] at hn
    cases h with
    | cons _ _ _ a b ha hb =>
      rw [ih d (by simp) m a hn.1 ha, ReadsList.det_of ds (fun x hx => ih x (by simp [hx])) m b hn.2 hb]
      rfl

theorem Reads.det (d : Doc) : ∀ (m : Mode) (as : List (List Char)),
    ifBreakNeutral d = true → Reads d m as → as = atomsDet d := by
  induction d using Doc.ind with
  | concat ds ih =>
    intro m as hn h
    cases h with
    | concat _ _ _ hl => exact ReadsList.det_of ds ih m as hn hl
  | nest _ d ih =>
    intro m as hn h
    cases h with
    | nest _ _ _ _ hd => exact ih m as hn hd
  | group d _ ih =>
    intro m as hn h
    cases h with
    | group _ _ _ m' _ _ hd => exact ih m' as hn hd
  | ifBreak b f ihb ihf =>
    intro m as hn h
    simp only [ifBreakNeutral, Bool.and_eq_true, decide_eq_true_eq] at hn
    cases h with
    | ifBreakBrk _ _ _ hb => exact ihb .brk as hn.1.1 hb
    | ifBreakFlat _ _ _ hf => simp only [atomsDet]; rw [hn.2]; exact ihf .flat as hn.1.2 hf
  | lineSuffix d ih =>
    intro m as hn h
    cases h with
    | lineSuffix _ _ _ hd => exact ih m as hn hd
  | _ => intro _ _ _ h; cases h; rfl

theorem ReadsList.det : ∀ (ds : List Doc) (m : Mode) (as : List (List Char)),
    ifBreakNeutralList ds = true → ReadsList ds m as → as = atomsDetList ds :=
  fun ds => ReadsList.det_of ds fun d _ => Reads.det d

def TextSufStack (st : List Frame) : Prop := ∀ f ∈ st, textSuffixes f.doc = true

theorem IsTextFrames.append_single {fs : List Frame} {ss : List (List Char)} (h : IsTextFrames fs ss)
    (i : Nat) (m : Mode) (s : List Char) : IsTextFrames (fs ++ [⟨i, m, .text s⟩]) (ss ++ [s]) := by
  induction fs generalizing ss with
  | nil => cases ss <;> simp_all [IsTextFrames]
  | cons f fs ih =>
    cases ss with
    | nil => simp [IsTextFrames] at h
    | cons s' ss => simp only [IsTextFrames] at h; exact ⟨h.1, ih h.2⟩

theorem printLoop_textFrames (w : Nat) (fs : List Frame) (ss : List (List Char))
    (h : IsTextFrames fs ss) (col : Nat) (st : List Frame) :
    ∃ col', printLoop w col (fs ++ st) [] = atomPieces ss ++ printLoop w col' st [] := by
  induction fs generalizing ss col with
  | nil => cases ss <;> simp_all [IsTextFrames, atomPieces]; exact ⟨col, rfl⟩
  | cons f fs ih =>
    cases ss with
    | nil => simp [IsTextFrames] at h
    | cons s ss =>
      simp only [IsTextFrames] at h
      obtain ⟨col', e⟩ := ih ss h.2 (col + s.length)
      refine ⟨col', ?_⟩
      simp only [List.cons_append]
      rw [printLoop_text w col f (fs ++ st) [] s h.1, e]
      simp [atomPieces]

theorem TextSufStack.tail {f : Frame} {st : List Frame} (h : TextSufStack (f :: st)) :
    TextSufStack st := (List.forall_mem_cons.1 h).2
theorem TextSufStack.head {f : Frame} {st : List Frame} (h : TextSufStack (f :: st)) :
    textSuffixes f.doc = true := (List.forall_mem_cons.1 h).1
theorem TextSufStack.cons {f : Frame} {st : List Frame} (h1 : textSuffixes f.doc = true)
    (h2 : TextSufStack st) : TextSufStack (f :: st) := List.forall_mem_cons.2 ⟨h1, h2⟩
theorem TextSufStack.mkFrames (i : Nat) (m : Mode) (ds : List Doc) (h : textSuffixesList ds = true) :
    TextSufStack (mkFrames i m ds) := by
  induction ds with
  | nil => intro f hf; simp [QM.Text.mkFrames] at hf
  | cons d ds ih =>
    simp only [textSuffixesList, Bool.and_eq_true] at h
    exact .cons h.1 (ih h.2)
theorem TextSufStack.append {a b : List Frame} (ha : TextSufStack a) (hb : TextSufStack b) :
    TextSufStack (a ++ b) := List.forall_mem_append.2 ⟨ha, hb⟩

theorem split_at_first_nl (out : List Piece) :
    ∃ pre rest, out = pre ++ rest ∧ noNl pre = true ∧ startsWithNlOrEmpty rest = true := by
  induction out with
  | nil => exact ⟨[], [], rfl, rfl, rfl⟩
  | cons p ps ih =>
    cases p with
    | nl n => exact ⟨[], .nl n :: ps, rfl, rfl, rfl⟩
    | atom s =>
      obtain ⟨pre, rest, e, h1, h2⟩ := ih
      exact ⟨.atom s :: pre, rest, by simp [e], by simpa [noNl] using h1, h2⟩
    | sp =>
      obtain ⟨pre, rest, e, h1, h2⟩ := ih
      exact ⟨.sp :: pre, rest, by simp [e], by simpa [noNl] using h1, h2⟩

theorem FlushShape.nil_ss (out : List Piece) : FlushShape out [] := by
  obtain ⟨pre, rest, e, h1, h2⟩ := split_at_first_nl out
  exact ⟨pre, [], rest, by simp [atomPieces, e], h1, h2⟩

theorem noNl_append (a b : List Piece) : noNl (a ++ b) = (noNl a && noNl b) := by
  induction a with
  | nil => rfl
  | cons p ps ih => cases p <;> simp [noNl, ih]

theorem FlushShape.prepend {out : List Piece} {ss : List (List Char)} (ps : List Piece)
    (hp : noNl ps = true) (h : FlushShape out ss) : FlushShape (ps ++ out) ss := by
  obtain ⟨pre, more, rest, e, h1, h2⟩ := h
  exact ⟨ps ++ pre, more, rest, by simp [e], by rw [noNl_append, hp, h1]; rfl, h2⟩

/-- What the flush theorem says of one state of `printLoop`: the buffered suffix texts `ss` come out as
    `FlushShape` describes — before the next line break, or at the end of the output. -/
def FlushInv (w col : Nat) (st suf : List Frame) : Prop :=
  TextSufStack st → ∀ ss, IsTextFrames suf ss → FlushShape (printLoop w col st suf) ss

theorem IsTextFrames.nil_inv {ss : List (List Char)} (h : IsTextFrames [] ss) : ss = [] := by
  cases ss <;> simp_all [IsTextFrames]

theorem Step.noNl {w col : Nat} {st : List Frame} {f : Frame} {ps : List Piece} {fs : List Frame}
    (h : Step w col st f ps fs) : noNl ps = true := by
  cases h <;> rfl

theorem Step.textSufStack {w col : Nat} {st : List Frame} {f : Frame} {ps : List Piece} {fs : List Frame}
    (h : Step w col st f ps fs) (ht : textSuffixes f.doc = true) : TextSufStack fs := by
  cases h with
  | concat i m ds => exact .mkFrames _ _ _ ht
  | nest | group => exact .cons ht nofun
  | ifBreakBrk => exact .cons (Bool.and_eq_true_iff.mp ht).1 nofun
  | ifBreakFlat => exact .cons (Bool.and_eq_true_iff.mp ht).2 nofun
  | _ => exact nofun

theorem printLoop_flush (w col : Nat) (st suf : List Frame) : FlushInv w col st suf := by
  refine printLoop_induct w (motive := FlushInv w) ?_ ?_ ?_ ?_ ?_ ?_ col st suf
  · intro col _ ss hss
    rw [hss.nil_inv]; exact .nil_ss _
  · intro col s ss' _ _ ss hss
    rw [printLoop_nil_cons]
    obtain ⟨col', e⟩ := printLoop_textFrames w (s :: ss') ss hss col []
    simp only [List.append_nil] at e
    rw [e, printLoop_nil_nil]
    exact ⟨[], [], [], by simp [atomPieces], rfl, rfl⟩
  · intro col f st suf ps fs h ih hts ss hss
    rw [h.eq]
    exact (ih ((h.textSufStack hts.head).append hts.tail) ss hss).prepend ps h.noNl
  · intro col i m d st suf ih hts ss hss
    rw [printLoop_lineSuffix w col _ st suf d rfl]
    have hh := hts.head
    cases d with
    | text s =>
      obtain ⟨pre, more, rest, e, h1, h2⟩ := ih hts.tail (ss ++ [s]) (hss.append_single _ _ s)
      exact ⟨pre, s :: more, rest, by simp [e, atomPieces], h1, h2⟩
    | _ => simp [textSuffixes] at hh
  · intro col f st _ _ _ ss hss
    rw [hss.nil_inv]; exact .nil_ss _
  · intro col f st s ss' hb _ _ ss hss
    rw [printLoop_break_cons w col f st hb s ss']
    obtain ⟨col', e⟩ := printLoop_textFrames w (s :: ss') ss hss col (f :: st)
    rw [e, printLoop_break_nil w col' f st hb]
    exact ⟨[], [], .nl f.indent :: printLoop w f.indent st [], by simp [atomPieces], rfl, rfl⟩


theorem fitsLoop_pop {loc rest loc' rest' : List Frame} {f : Frame} (rem : Int)
    (hp : popFrame loc rest = some (f, loc', rest')) :
    fitsLoop rem loc rest = fitsLoop rem (f :: loc') rest' := by
  cases loc with
  | cons g l => cases hp; rfl
  | nil =>
    cases rest with
    | nil => cases hp
    | cons g r => cases hp; rw [fitsLoop.eq_def, fitsLoop.eq_def rem [_]]; rfl

section
variable (rem : Int) (loc rest loc' rest' : List Frame) (f : Frame)

theorem fitsLoop_neg (h : rem < 0) : fitsLoop rem loc rest = false := by
  rw [fitsLoop.eq_def]; simp [h]
theorem fitsLoop_none (h0 : ¬ rem < 0) (hp : popFrame loc rest = none) : fitsLoop rem loc rest = true := by
  rw [fitsLoop.eq_def]; simp only [h0, ↓reduceIte]; split <;> simp_all
theorem fitsLoop_docNil (h0 : ¬ rem < 0) (hp : popFrame loc rest = some (f, loc', rest')) (hd : f.doc = .nil) :
    fitsLoop rem loc rest = fitsLoop rem loc' rest' := by
  obtain ⟨_, _, _⟩ := f; cases hd; rw [fitsLoop_pop rem hp, fitsLoop.eq_def, if_neg h0]; rfl
theorem fitsLoop_breakParent (h0 : ¬ rem < 0) (hp : popFrame loc rest = some (f, loc', rest')) (hd : f.doc = .breakParent) :
    fitsLoop rem loc rest = fitsLoop rem loc' rest' := by
  obtain ⟨_, _, _⟩ := f; cases hd; rw [fitsLoop_pop rem hp, fitsLoop.eq_def, if_neg h0]; rfl
theorem fitsLoop_lineSuffix (h0 : ¬ rem < 0) (hp : popFrame loc rest = some (f, loc', rest')) (d : Doc) (hd : f.doc = .lineSuffix d) :
    fitsLoop rem loc rest = fitsLoop rem loc' rest' := by
  obtain ⟨_, _, _⟩ := f; cases hd; rw [fitsLoop_pop rem hp, fitsLoop.eq_def, if_neg h0]; rfl
theorem fitsLoop_text (h0 : ¬ rem < 0) (hp : popFrame loc rest = some (f, loc', rest')) (s : List Char) (hd : f.doc = .text s) :
    fitsLoop rem loc rest = fitsLoop (rem - (s.length : Int)) loc' rest' := by
  obtain ⟨_, _, _⟩ := f; cases hd; rw [fitsLoop_pop rem hp, fitsLoop.eq_def, if_neg h0]; rfl
theorem fitsLoop_concat (h0 : ¬ rem < 0) (hp : popFrame loc rest = some (f, loc', rest')) (ds : List Doc) (hd : f.doc = .concat ds) :
    fitsLoop rem loc rest = fitsLoop rem (mkFrames f.indent f.mode ds ++ loc') rest' := by
  obtain ⟨_, _, _⟩ := f; cases hd; rw [fitsLoop_pop rem hp, fitsLoop.eq_def, if_neg h0]; rfl
theorem fitsLoop_nest (h0 : ¬ rem < 0) (hp : popFrame loc rest = some (f, loc', rest')) (n : Nat) (d : Doc) (hd : f.doc = .nest n d) :
    fitsLoop rem loc rest = fitsLoop rem (⟨f.indent + n, f.mode, d⟩ :: loc') rest' := by
  obtain ⟨_, _, _⟩ := f; cases hd; rw [fitsLoop_pop rem hp, fitsLoop.eq_def, if_neg h0]; rfl
theorem fitsLoop_line_flat (h0 : ¬ rem < 0) (hp : popFrame loc rest = some (f, loc', rest')) (hd : f.doc = .line) (hm : f.mode = .flat) :
    fitsLoop rem loc rest = fitsLoop (rem - 1) loc' rest' := by
  obtain ⟨_, _, _⟩ := f; cases hd; cases hm; rw [fitsLoop_pop rem hp, fitsLoop.eq_def, if_neg h0]; rfl
theorem fitsLoop_softline_flat (h0 : ¬ rem < 0) (hp : popFrame loc rest = some (f, loc', rest')) (hd : f.doc = .softline) (hm : f.mode = .flat) :
    fitsLoop rem loc rest = fitsLoop rem loc' rest' := by
  obtain ⟨_, _, _⟩ := f; cases hd; cases hm; rw [fitsLoop_pop rem hp, fitsLoop.eq_def, if_neg h0]; rfl
theorem fitsLoop_ifBreak_flat (h0 : ¬ rem < 0) (hp : popFrame loc rest = some (f, loc', rest')) (b fl : Doc) (hd : f.doc = .ifBreak b fl) (hm : f.mode = .flat) :
    fitsLoop rem loc rest = fitsLoop rem (⟨f.indent, .flat, fl⟩ :: loc') rest' := by
  obtain ⟨_, _, _⟩ := f; cases hd; cases hm; rw [fitsLoop_pop rem hp, fitsLoop.eq_def, if_neg h0]; rfl
theorem fitsLoop_group (h0 : ¬ rem < 0) (hp : popFrame loc rest = some (f, loc', rest')) (d : Doc) (sb : Bool) (hd : f.doc = .group d sb) :
    fitsLoop rem loc rest = fitsLoop rem (⟨f.indent, if sb then .brk else .flat, d⟩ :: loc') rest' := by
  obtain ⟨_, _, _⟩ := f; cases hd; rw [fitsLoop_pop rem hp, fitsLoop.eq_def, if_neg h0]; rfl
end

theorem popFrame_append {loc rest loc' rest' : List Frame} {f : Frame}
    (h : popFrame loc rest = some (f, loc', rest')) : loc ++ rest = f :: (loc' ++ rest') := by
  cases loc with
  | cons g l => simp [popFrame] at h; obtain ⟨rfl, rfl, rfl⟩ := h; simp
  | nil =>
    cases rest with
    | nil => simp [popFrame] at h
    | cons g r => simp [popFrame] at h; obtain ⟨rfl, rfl, rfl⟩ := h; simp

theorem popFrame_none {loc rest : List Frame} (h : popFrame loc rest = none) : loc = [] ∧ rest = [] := by
  cases loc with
  | cons g l => simp [popFrame] at h
  | nil =>
    cases rest with
    | nil => simp
    | cons g r => simp [popFrame] at h

theorem piecesWidth_append (a b : List Piece) : piecesWidth (a ++ b) = piecesWidth a + piecesWidth b := by
  induction a with
  | nil => simp [piecesWidth]
  | cons p ps ih => simp [piecesWidth, ih]; omega

/-- A stack all of whose frames are in flat mode and flat-layoutable. -/
def FlatStack (st : List Frame) : Prop := ∀ f ∈ st, f.mode = .flat ∧ flatOk f.doc = true

def stackPieces : List Frame → List Piece
  | [] => []
  | f :: st => flatPieces f.doc ++ stackPieces st

theorem stackPieces_append (a b : List Frame) : stackPieces (a ++ b) = stackPieces a ++ stackPieces b := by
  induction a with
  | nil => simp [stackPieces]
  | cons f st ih => simp [stackPieces, ih]

theorem stackPieces_mkFrames (i : Nat) (m : Mode) (ds : List Doc) :
    stackPieces (mkFrames i m ds) = flatPiecesList ds := by
  induction ds with
  | nil => simp [mkFrames, stackPieces, flatPiecesList]
  | cons d ds ih => simp [mkFrames, stackPieces, flatPiecesList, ih]

theorem FlatStack.tail {f : Frame} {st : List Frame} (h : FlatStack (f :: st)) : FlatStack st :=
  (List.forall_mem_cons.1 h).2
theorem FlatStack.head {f : Frame} {st : List Frame} (h : FlatStack (f :: st)) :
    f.mode = .flat ∧ flatOk f.doc = true := (List.forall_mem_cons.1 h).1
theorem FlatStack.cons {f : Frame} {st : List Frame} (h1 : f.mode = .flat) (h2 : flatOk f.doc = true)
    (h3 : FlatStack st) : FlatStack (f :: st) := List.forall_mem_cons.2 ⟨⟨h1, h2⟩, h3⟩
theorem FlatStack.mkFrames (i : Nat) (ds : List Doc) (h : flatOkList ds = true) :
    FlatStack (mkFrames i .flat ds) := by
  induction ds with
  | nil => intro f hf; simp [QM.Text.mkFrames] at hf
  | cons d ds ih =>
    simp only [flatOkList, Bool.and_eq_true] at h
    exact .cons rfl h.1 (ih h.2)
theorem FlatStack.append {a b : List Frame} (ha : FlatStack a) (hb : FlatStack b) : FlatStack (a ++ b) :=
  List.forall_mem_append.2 ⟨ha, hb⟩

/-- `fits` is complete for flat stacks: if everything still pending is flat-layoutable and its total
    width is within the remaining columns, `fits` says yes. The one idea: a flat frame counts the width
    of its `flatPieces`, every other arm is impossible on a `FlatStack`. It runs on the functional
    induction of `fitsLoop` arm by arm: a step relation like `Step` with its own induction principle
    would be longer than this, its only user. -/
theorem fitsLoop_flat (rem : Int) (loc rest : List Frame) :
    FlatStack (loc ++ rest) → (piecesWidth (stackPieces (loc ++ rest)) : Int) ≤ rem →
    fitsLoop rem loc rest = true := by
  refine fitsLoop.induct
    (motive := fun rem loc rest => FlatStack (loc ++ rest) →
      (piecesWidth (stackPieces (loc ++ rest)) : Int) ≤ rem → fitsLoop rem loc rest = true)
    ?_ ?_ ?_ ?_ ?_ ?_ ?_ ?_ ?_ ?_ ?_ ?_ ?_ ?_ ?_ ?_ rem loc rest
  · intro rem loc rest h0 _ hw
    exfalso
    have : (0 : Int) ≤ (piecesWidth (stackPieces (loc ++ rest)) : Int) := Int.natCast_nonneg _
    omega
  · intro rem loc rest h0 hp _ _
    exact fitsLoop_none rem loc rest h0 hp
  · intro rem loc rest h0 f loc' rest' hp hd ih hfs hw
    rw [fitsLoop_docNil rem loc rest loc' rest' f h0 hp hd]
    rw [popFrame_append hp] at hfs hw
    exact ih hfs.tail (by simpa [stackPieces, flatPieces, hd, piecesWidth] using hw)
  · intro rem loc rest h0 f loc' rest' hp s hd ih hfs hw
    rw [fitsLoop_text rem loc rest loc' rest' f h0 hp s hd]
    rw [popFrame_append hp] at hfs hw
    refine ih hfs.tail ?_
    simp only [stackPieces, hd, flatPieces, List.cons_append, List.nil_append, piecesWidth,
      pieceWidth] at hw
    push_cast at hw; omega
  · intro rem loc rest h0 f loc' rest' hp ds hd ih hfs hw
    rw [fitsLoop_concat rem loc rest loc' rest' f h0 hp ds hd]
    rw [popFrame_append hp] at hfs hw
    have hh := hfs.head
    rw [hd] at hh
    refine ih ?_ ?_
    · rw [List.append_assoc, hh.1]
      exact (FlatStack.mkFrames _ _ (by simpa [flatOk] using hh.2)).append hfs.tail
    · rw [List.append_assoc, stackPieces_append, stackPieces_mkFrames]
      simpa [stackPieces, hd, flatPieces] using hw
  · intro rem loc rest h0 f loc' rest' hp n d hd ih hfs hw
    rw [fitsLoop_nest rem loc rest loc' rest' f h0 hp n d hd]
    rw [popFrame_append hp] at hfs hw
    have hh := hfs.head
    rw [hd] at hh
    refine ih ?_ ?_
    · exact .cons hh.1 (by simpa [flatOk] using hh.2) hfs.tail
    · simpa [stackPieces, hd, flatPieces] using hw
  · intro rem loc rest h0 f loc' rest' hp hd hm ih hfs hw
    rw [fitsLoop_line_flat rem loc rest loc' rest' f h0 hp hd hm]
    rw [popFrame_append hp] at hfs hw
    refine ih hfs.tail ?_
    simp only [stackPieces, hd, flatPieces, List.cons_append, List.nil_append, piecesWidth,
      pieceWidth] at hw
    push_cast at hw; omega
  · intro rem loc rest h0 f loc' rest' hp hd hm hfs _
    rw [popFrame_append hp] at hfs
    have := hfs.head.1; rw [hm] at this; cases this
  · intro rem loc rest h0 f loc' rest' hp hd hm ih hfs hw
    rw [fitsLoop_softline_flat rem loc rest loc' rest' f h0 hp hd hm]
    rw [popFrame_append hp] at hfs hw
    exact ih hfs.tail (by simpa [stackPieces, flatPieces, hd, piecesWidth] using hw)
  · intro rem loc rest h0 f loc' rest' hp hd hm hfs _
    rw [popFrame_append hp] at hfs
    have := hfs.head.1; rw [hm] at this; cases this
  · intro rem loc rest h0 f loc' rest' hp hd hfs _
    rw [popFrame_append hp] at hfs
    have := hfs.head.2; rw [hd] at this; simp [flatOk] at this
  · intro rem loc rest h0 f loc' rest' hp d hd ih hfs _
    rw [popFrame_append hp] at hfs
    have := hfs.head.2; rw [hd] at this; simp [flatOk] at this
  · intro rem loc rest h0 f loc' rest' hp hd ih hfs hw
    rw [fitsLoop_breakParent rem loc rest loc' rest' f h0 hp hd]
    rw [popFrame_append hp] at hfs hw
    exact ih hfs.tail (by simpa [stackPieces, flatPieces, hd, piecesWidth] using hw)
  · intro rem loc rest h0 f loc' rest' hp b fl hd hm ih hfs _
    rw [popFrame_append hp] at hfs
    have := hfs.head.1; rw [hm] at this; cases this
  · intro rem loc rest h0 f loc' rest' hp b fl hd hm ih hfs hw
    rw [fitsLoop_ifBreak_flat rem loc rest loc' rest' f h0 hp b fl hd hm]
    rw [popFrame_append hp] at hfs hw
    have hh := hfs.head
    rw [hd] at hh
    refine ih ?_ ?_
    · exact .cons rfl (by simpa [flatOk] using hh.2) hfs.tail
    · simpa [stackPieces, hd, flatPieces] using hw
  · intro rem loc rest h0 f loc' rest' hp d sb hd ih hfs hw
    rw [fitsLoop_group rem loc rest loc' rest' f h0 hp d sb hd]
    rw [popFrame_append hp] at hfs hw
    have hh := hfs.head
    rw [hd] at hh
    simp only [flatOk, Bool.and_eq_true, Bool.not_eq_true'] at hh
    have hsb : sb = false := hh.2.1
    subst hsb
    simp only [Bool.false_eq_true, ↓reduceIte, ↓reduceDIte] at ih ⊢
    refine ih ?_ ?_
    · exact .cons rfl hh.2.2 hfs.tail
    · simpa [stackPieces, hd, flatPieces] using hw


theorem toIsize_small (n : Nat) (h : n < 2 ^ 63) : toIsize n = (n : Int) := by
  unfold toIsize
  have h1 : n % 2 ^ 64 = n := Nat.mod_eq_of_lt (by omega)
  rw [h1]; simp [h]

/-- a step on a flat stack that fits: it pushes flat frames, and the pieces it emits with theirs are
    the frame's flat pieces — a group passes its own `fits` check -/
theorem Step.flat {w col : Nat} {st : List Frame} {f : Frame} {ps : List Piece} {fs : List Frame}
    (hw : w < 2 ^ 63) (h : Step w col st f ps fs) (hfs : FlatStack (f :: st))
    (hc : col + piecesWidth (stackPieces (f :: st)) ≤ w) :
    FlatStack fs ∧ flatPieces f.doc = ps ++ stackPieces fs := by
  obtain ⟨hm, hok⟩ := hfs.head
  cases h with
  | concat i m ds =>
    cases hm
    exact ⟨.mkFrames _ _ (by simpa [flatOk] using hok), (stackPieces_mkFrames _ _ _).symm⟩
  | nest i m n d => exact ⟨.cons hm (by simpa [flatOk] using hok) nofun, by simp [stackPieces, flatPieces]⟩
  | ifBreakBrk => cases hm
  | ifBreakFlat i b fl => exact ⟨.cons rfl (by simpa [flatOk] using hok) nofun, by simp [stackPieces, flatPieces]⟩
  | group i m d sb =>
    simp only [flatOk, Bool.and_eq_true, Bool.not_eq_true'] at hok
    obtain ⟨rfl, hd⟩ := hok
    have hfit : fits (w - col) i d st = true := by
      unfold fits
      apply fitsLoop_flat
      · exact .cons rfl hd hfs.tail
      · rw [toIsize_small _ (by omega)]
        simp only [stackPieces, flatPieces, List.cons_append, List.nil_append, piecesWidth_append] at hc ⊢
        omega
    simp only [hfit, Bool.not_true, Bool.or_self, Bool.false_eq_true, ↓reduceIte]
    exact ⟨.cons rfl hd nofun, by simp [stackPieces, flatPieces]⟩
  | _ => exact ⟨nofun, rfl⟩

theorem printLoop_flat (w : Nat) (hw : w < 2 ^ 63) (col : Nat) (st suf : List Frame) :
    suf = [] → FlatStack st → col + piecesWidth (stackPieces st) ≤ w →
    printLoop w col st suf = stackPieces st := by
  refine printLoop_induct w
    (motive := fun col st suf => suf = [] → FlatStack st → col + piecesWidth (stackPieces st) ≤ w →
      printLoop w col st suf = stackPieces st) ?_ ?_ ?_ ?_ ?_ ?_ col st suf
  · intro col _ _ _; rw [printLoop_nil_nil]; rfl
  · intro col s ss _ h; exact absurd h (by simp)
  · intro col f st suf ps fs h ih hs hfs hc
    obtain ⟨hfl, he⟩ := h.flat hw hfs hc
    have hsp : stackPieces (f :: st) = ps ++ stackPieces (fs ++ st) := by
      rw [stackPieces_append, ← List.append_assoc, ← he]; rfl
    rw [h.eq, hsp, ih hs (hfl.append hfs.tail) (by rw [hsp, piecesWidth_append] at hc; omega)]
  · intro col i m d st suf _ _ hfs _
    have := hfs.head.2; simp [flatOk] at this
  · intro col f st hb _ _ hfs _
    obtain ⟨hm, hok⟩ := hfs.head
    rcases hb with ⟨_, hb⟩ | ⟨_, hb⟩ | hd
    · rw [hm] at hb; cases hb
    · rw [hm] at hb; cases hb
    · rw [hd] at hok; cases hok
  · intro col f st s ss _ _ h; exact absurd h (by simp)

theorem renderPieces_append (a b : List Piece) : renderPieces (a ++ b) = renderPieces a ++ renderPieces b := by
  induction a with
  | nil => simp [renderPieces]
  | cons p ps ih => simp [renderPieces, ih]

theorem renderPieces_cons_append (p : Piece) (ps : List Piece) (rest : List Char) :
    renderPieces (p :: ps) ++ rest = p.render ++ (renderPieces ps ++ rest) :=
  List.append_assoc ..

theorem render_lt_of_cons {p : Piece} {ps : List Piece} {n : Nat} (h : (renderPieces (p :: ps)).length < n) :
    (renderPieces ps).length < n := by
  rw [show renderPieces (p :: ps) = p.render ++ renderPieces ps from rfl, List.length_append] at h; omega

theorem render_lt_of_append {a b : List Piece} {n : Nat} (h : (renderPieces (a ++ b)).length < n) :
    (renderPieces a).length < n ∧ (renderPieces b).length < n := by
  rw [renderPieces_append, List.length_append] at h; omega

mutual
/-- the text `flatten` collects from a document (what `strip_trailing_whitespace` is then applied
    to), by recursion on the document instead of the explicit stack -/
def flatText : Doc → List Char
  | .text s => s
  | .line => [' ']
  | .hardline => ['\n']
  | .concat ds => flatTextList ds
  | .nest _ d => flatText d
  | .group d _ => flatText d
  | .lineSuffix d => flatText d
  | .ifBreak _ f => flatText f
  | .nil | .softline | .breakParent => []
def flatTextList : List Doc → List Char
  | [] => []
  | d :: ds => flatText d ++ flatTextList ds
end

theorem flatTextList_append (a b : List Doc) : flatTextList (a ++ b) = flatTextList a ++ flatTextList b := by
  induction a with
  | nil => rfl
  | cons d ds ih => simp only [List.cons_append, flatTextList, ih, List.append_assoc]

theorem flattenLoop_eq (st : List Doc) : flattenLoop st = flatTextList st := by
  refine flattenLoop.induct (motive := fun st => flattenLoop st = flatTextList st)
    ?_ ?_ ?_ ?_ ?_ ?_ ?_ ?_ ?_ ?_ ?_ ?_ st
  · rw [flattenLoop]; rfl
  · intro ds ih; rw [flattenLoop, ih]; rfl
  · intro ds ih; rw [flattenLoop, ih]; rfl
  · intro ds ih; rw [flattenLoop, ih]; rfl
  · intro ds s ih; rw [flattenLoop, ih]; rfl
  · intro ds ih; rw [flattenLoop, ih]; rfl
  · intro ds ih; rw [flattenLoop, ih]; rfl
  · intro ds ds1 ih; rw [flattenLoop, ih, flatTextList_append]; rfl
  · intro ds n inner ih; rw [flattenLoop, ih]; rfl
  · intro ds inner sb ih; rw [flattenLoop, ih]; rfl
  · intro ds inner ih; rw [flattenLoop, ih]; rfl
  · intro ds b fl ih; rw [flattenLoop, ih]; rfl

theorem flatTextList_flat : ∀ (ds : List Doc),
    (∀ d ∈ ds, flatOk d = true → flatText d = renderPieces (flatPieces d)) →
    flatOkList ds = true → flatTextList ds = renderPieces (flatPiecesList ds)
  | [], _, _ => rfl
  | d :: ds, ih, h => by
    simp only [flatOkList, Bool.and_eq_true] at h
    rw [flatTextList, flatPiecesList, renderPieces_append, ih d (by simp) h.1,
      flatTextList_flat ds (fun x hx => ih x (by simp [hx])) h.2]

theorem flatText_flat (d : Doc) : flatOk d = true → flatText d = renderPieces (flatPieces d) := by
  induction d using Doc.ind with
  | hardline => exact fun h => by cases h
  | lineSuffix _ _ => exact fun h => by cases h
  | concat ds ih => exact flatTextList_flat ds ih
  | nest _ d ih => exact ih
  | group d sb ih => exact fun h => ih (Bool.and_eq_true_iff.mp h).2
  | ifBreak b f _ ihf => exact ihf
  | text s => exact fun _ => (List.append_nil s).symm
  | _ => exact fun _ => rfl

/-- A flat-layoutable document, grouped, printed at any width that holds
    its flat layout (below 2^63, see `toIsize`) comes out exactly as `flatten` renders it. -/
theorem print_group_eq_flatten (d : Doc) (w : Nat) (hok : flatOk d = true)
    (hfit : piecesWidth (flatPieces d) ≤ w) (hw : w < 2 ^ 63) :
    print (.group d false) w = flatten d := by
  have hpieces : printPieces (.group d false) w = flatPieces d := by
    -- a group is laid out the same in either mode of its own frame
    rw [printPieces, printLoop_group w 0 ⟨0, .brk, _⟩ [] [] d false rfl,
      ← printLoop_group w 0 ⟨0, .flat, _⟩ [] [] d false rfl,
      printLoop_flat w hw 0 _ [] rfl (.cons rfl (by simpa [flatOk] using hok) (fun _ h => by cases h))
        (by simpa [stackPieces, flatPieces, piecesWidth_append, piecesWidth] using hfit)]
    simp [stackPieces, flatPieces]
  rw [print, flatten, hpieces, flattenLoop_eq, flatTextList, flatTextList, List.append_nil, flatText_flat d hok]

theorem flatOkList_of : ∀ (ds : List Doc),
    (∀ d ∈ ds, wfGroups d = true → noSuffixFlat d = true → forcesBreak d = false → flatOk d = true) →
    wfGroupsList ds = true → noSuffixFlatList ds = true → forcesBreakAny ds = false → flatOkList ds = true
  | [], _, _, _, _ => rfl
  | d :: ds, ih, hw, hs, hf => by
    simp only [wfGroupsList, Bool.and_eq_true] at hw
    simp only [noSuffixFlatList, Bool.and_eq_true] at hs
    simp only [forcesBreakAny, Bool.or_eq_false_iff] at hf
    simp only [flatOkList, Bool.and_eq_true]
    exact ⟨ih d (by simp) hw.1 hs.1 hf.1, flatOkList_of ds (fun x hx => ih x (by simp [hx])) hw.2 hs.2 hf.2⟩

/-- For documents built with `pretty::group` and free of line suffixes in their flat reading,
    `¬ forces_break` implies "can be laid out flat as `flatten` does" (`flatOk`). -/
theorem flatOk_of_not_forcesBreak (d : Doc) : wfGroups d = true → noSuffixFlat d = true →
    forcesBreak d = false → flatOk d = true := by
  induction d using Doc.ind with
  | hardline => exact fun _ _ h => by cases h
  | lineSuffix _ _ => exact fun _ h _ => by cases h
  | concat ds ih => exact flatOkList_of ds ih
  | nest _ d ih => exact ih
  | group d sb ih =>
    intro hw hs hf
    simp only [wfGroups, Bool.and_eq_true, beq_iff_eq] at hw
    cases hf
    exact ih hw.2 hs hw.1.symm
  | ifBreak b f _ ihf => exact fun hw hs hf => ihf (Bool.and_eq_true_iff.mp hw).2 hs hf
  | _ => exact fun _ _ _ => rfl

theorem flatOkList_of_not_forcesBreak : ∀ (ds : List Doc), wfGroupsList ds = true →
    noSuffixFlatList ds = true → forcesBreakAny ds = false → flatOkList ds = true :=
  fun ds => flatOkList_of ds fun d _ => flatOk_of_not_forcesBreak d

end QM.Text
