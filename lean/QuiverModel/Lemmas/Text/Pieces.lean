import QuiverModel.Core.Text.Fragment
import QuiverModel.Lemmas.Text.Layout
import QuiverModel.Lemmas.Text.Basic
/-
Lemmas for the fragment model that do not mention the fragment's syntax:

  * `pl_*`, `fl_*` — the equations of `printLoop` (no pending line suffixes) and `fitsLoop` on concrete
    frames, the form in which a builder's document is executed symbolically (`simp only [pl_*]`);
  * `tidyPs` — a piece list in which every `sp`/`nl` is followed by an atom and every `nl` preceded by
    one. Its atoms are `okAtom`s (`goodAtom`: no white space, or `quotedAtom`: a string literal), hence
    `atomsOk` (no line break in an atom); `nulFree` (over `nulAtom`) is the second, independent
    condition: no line starts with the NUL of a literal placeholder;
  * `linesFwd` — `str::lines` of a piece list (`rustLinesAux_linesFwd`), with `joinNl_linesFwd`,
    `linesFwd_all`, `linesFwd_nul`; from these: a tidy piece list is a fixed point of
    `strip_trailing_whitespace` (`strip_renderPieces`), and on a tidy, NUL-free one `collapse_blanks`
    only adds the final newline and `expand_literals` changes nothing (`post_passes`);
  * what the characters of identifiers and tuple names (`Core/Parse/Type`) are to the line passes
    (`not_ws_of_identBody`, `goodAtom_ident`, `ident_nulFree`, …).
-/
namespace QM.Frag
open QM.Text QM.Parse

section
variable (w col i : Nat) (m : Mode) (st : List Frame)

theorem pl_nil : printLoop w col (⟨i, m, .nil⟩ :: st) [] = printLoop w col st [] :=
  printLoop_docNil w col _ st [] rfl
theorem pl_bp : printLoop w col (⟨i, m, .breakParent⟩ :: st) [] = printLoop w col st [] :=
  printLoop_breakParent w col _ st [] rfl
theorem pl_text (s : List Char) :
    printLoop w col (⟨i, m, .text s⟩ :: st) [] = .atom s :: printLoop w (col + s.length) st [] :=
  printLoop_text w col _ st [] s rfl
theorem pl_concat (ds : List Doc) :
    printLoop w col (⟨i, m, .concat ds⟩ :: st) [] = printLoop w col (mkFrames i m ds ++ st) [] :=
  printLoop_concat w col _ st [] ds rfl
theorem pl_nest (n : Nat) (d : Doc) :
    printLoop w col (⟨i, m, .nest n d⟩ :: st) [] = printLoop w col (⟨i + n, m, d⟩ :: st) [] :=
  printLoop_nest w col _ st [] n d rfl
theorem pl_line_flat :
    printLoop w col (⟨i, .flat, .line⟩ :: st) [] = .sp :: printLoop w (col + 1) st [] :=
  printLoop_line_flat w col _ st [] rfl rfl
theorem pl_line_brk :
    printLoop w col (⟨i, .brk, .line⟩ :: st) [] = .nl i :: printLoop w i st [] :=
  printLoop_break_nil w col _ st (.inl ⟨rfl, rfl⟩)
theorem pl_softline_flat :
    printLoop w col (⟨i, .flat, .softline⟩ :: st) [] = printLoop w col st [] :=
  printLoop_softline_flat w col _ st [] rfl rfl
theorem pl_softline_brk :
    printLoop w col (⟨i, .brk, .softline⟩ :: st) [] = .nl i :: printLoop w i st [] :=
  printLoop_break_nil w col _ st (.inr (.inl ⟨rfl, rfl⟩))
theorem pl_ifBreak_brk (b fl : Doc) :
    printLoop w col (⟨i, .brk, .ifBreak b fl⟩ :: st) [] = printLoop w col (⟨i, .brk, b⟩ :: st) [] :=
  printLoop_ifBreak_brk w col _ st [] b fl rfl rfl
theorem pl_ifBreak_flat (b fl : Doc) :
    printLoop w col (⟨i, .flat, .ifBreak b fl⟩ :: st) [] = printLoop w col (⟨i, .flat, fl⟩ :: st) [] :=
  printLoop_ifBreak_flat w col _ st [] b fl rfl rfl
theorem pl_group (d : Doc) (sb : Bool) :
    ∃ m', printLoop w col (⟨i, m, .group d sb⟩ :: st) [] = printLoop w col (⟨i, m', d⟩ :: st) [] :=
  ⟨_, printLoop_group w col _ st [] d sb rfl⟩
end

/-! The same for `fitsLoop`, on a frame pushed on the local stack. -/

section
variable (R : Int) (i : Nat) (m : Mode) (loc rest : List Frame)

theorem fl_nil (h0 : ¬ R < 0) : fitsLoop R (⟨i, m, .nil⟩ :: loc) rest = fitsLoop R loc rest :=
  fitsLoop_docNil R (⟨i, m, .nil⟩ :: loc) rest loc rest ⟨i, m, .nil⟩ h0 rfl rfl
theorem fl_text (s : List Char) (h0 : ¬ R < 0) :
    fitsLoop R (⟨i, m, .text s⟩ :: loc) rest = fitsLoop (R - (s.length : Int)) loc rest :=
  fitsLoop_text R (⟨i, m, .text s⟩ :: loc) rest loc rest ⟨i, m, .text s⟩ h0 rfl s rfl
theorem fl_line_flat (h0 : ¬ R < 0) :
    fitsLoop R (⟨i, .flat, .line⟩ :: loc) rest = fitsLoop (R - 1) loc rest :=
  fitsLoop_line_flat R (⟨i, .flat, .line⟩ :: loc) rest loc rest ⟨i, .flat, .line⟩ h0 rfl rfl rfl
theorem fl_ifBreak_flat (b fl : Doc) (h0 : ¬ R < 0) :
    fitsLoop R (⟨i, .flat, .ifBreak b fl⟩ :: loc) rest = fitsLoop R (⟨i, .flat, fl⟩ :: loc) rest :=
  fitsLoop_ifBreak_flat R (⟨i, .flat, .ifBreak b fl⟩ :: loc) rest loc rest ⟨i, .flat, .ifBreak b fl⟩ h0 rfl
    b fl rfl rfl
theorem fl_nest (n : Nat) (d : Doc) (h0 : ¬ R < 0) :
    fitsLoop R (⟨i, m, .nest n d⟩ :: loc) rest = fitsLoop R (⟨i + n, m, d⟩ :: loc) rest :=
  fitsLoop_nest R (⟨i, m, .nest n d⟩ :: loc) rest loc rest ⟨i, m, .nest n d⟩ h0 rfl n d rfl
theorem fl_concat (ds : List Doc) (h0 : ¬ R < 0) :
    fitsLoop R (⟨i, m, .concat ds⟩ :: loc) rest = fitsLoop R (mkFrames i m ds ++ loc) rest :=
  fitsLoop_concat R (⟨i, m, .concat ds⟩ :: loc) rest loc rest ⟨i, m, .concat ds⟩ h0 rfl ds rfl
end

/-- the separator of `bracketed` -/
def sepDoc : Doc := .concat [.text [','], .line]

theorem pl_sep_flat (w col i : Nat) (st : List Frame) :
    printLoop w col (⟨i, .flat, sepDoc⟩ :: st) [] = .atom [','] :: .sp :: printLoop w (col + 1 + 1) st [] := by
  simp only [sepDoc, pl_concat, mkFrames, List.cons_append, List.nil_append, pl_text, pl_line_flat,
    List.length_cons, List.length_nil]
theorem pl_sep_brk (w col i : Nat) (st : List Frame) :
    printLoop w col (⟨i, .brk, sepDoc⟩ :: st) [] = .atom [','] :: .nl i :: printLoop w i st [] := by
  simp only [sepDoc, pl_concat, mkFrames, List.cons_append, List.nil_append, pl_text, pl_line_brk]

def isBrk : Mode → Bool
  | .brk => true
  | .flat => false

/-- a printed atom: not empty, no white space in it -/
def goodAtom (s : List Char) : Bool := !s.isEmpty && s.all (fun c => !isWhitespace c)

/-- a quoted atom (a string literal): between two `"`, anything but a raw line break -/
def quotedAtom (s : List Char) : Bool :=
  s.head? == some '"' && s.getLast? == some '"' && s.all (fun c => c != '\n' && c != '\r')

/-- an atom the line passes cope with -/
def okAtom (s : List Char) : Bool := goodAtom s || quotedAtom s

/-- The pieces leave no white space before a line break or at the end; the flag says whether the
    text so far ends in an atom (or is empty). A line break and the end ask for it: no blank before
    them (`strip_trailing_whitespace` would remove it) and no empty line (those come in between blocks
    only, `joinBlocks`); a space does not, it only clears it. -/
def tidyPs : Bool → List Piece → Bool
  | b, [] => b
  | _, .atom s :: r => okAtom s && tidyPs true r
  | _, .sp :: r => tidyPs false r
  | b, .nl _ :: r => b && tidyPs false r

theorem tidyPs_mono : ∀ (r : List Piece) (b : Bool), tidyPs false r = true → tidyPs b r = true
  | [], _, h => by simp [tidyPs] at h
  | .atom s :: r, _, h => by simpa [tidyPs] using h
  | .sp :: r, _, h => by simpa [tidyPs] using h
  | .nl k :: r, _, h => by simp [tidyPs] at h

theorem rustLinesAux_append (s : List Char) (hs : s.all (· ≠ '\n') = true) (cur rest : List Char) :
    rustLinesAux cur (s ++ rest) = rustLinesAux (s.reverse ++ cur) rest := by
  induction s generalizing cur with
  | nil => simp
  | cons c s ih =>
    simp only [List.all_cons, Bool.and_eq_true, decide_eq_true_eq] at hs
    simp only [List.cons_append, rustLinesAux, hs.1, if_false]
    rw [ih hs.2]; simp

theorem joinNl_cons_ne (a : List Char) {L : List (List Char)} (h : L ≠ []) :
    joinNl (a :: L) = a ++ '\n' :: joinNl L := by
  cases L with
  | nil => exact absurd rfl h
  | cons b L => rfl

theorem isWhitespace_nl : isWhitespace '\n' = true := by decide
theorem isWhitespace_space : isWhitespace ' ' = true := by decide

theorem all_ne_nl_of_not_ws {s : List Char} (h : s.all (fun c => !isWhitespace c) = true) :
    s.all (· ≠ '\n') = true := by
  simp only [List.all_eq_true, Bool.not_eq_true', decide_eq_true_eq] at h ⊢
  intro c hc e
  have := h c hc
  rw [e, isWhitespace_nl] at this
  exact Bool.noConfusion this

theorem okAtom_ne {s : List Char} (h : okAtom s = true) : s ≠ [] := by
  intro e; subst e
  simp [okAtom, goodAtom, quotedAtom] at h

theorem okAtom_clean {s : List Char} (h : okAtom s = true) :
    s.all (fun c => c != '\n' && c != '\r') = true := by
  simp only [okAtom, Bool.or_eq_true] at h
  rcases h with h | h
  · simp only [goodAtom, Bool.and_eq_true] at h
    simp only [List.all_eq_true, Bool.not_eq_true', Bool.and_eq_true, bne_iff_ne, ne_eq] at h ⊢
    intro c hc
    have := h.2 c hc
    refine ⟨?_, ?_⟩ <;> (intro e; rw [e] at this; revert this; decide)
  · simp only [quotedAtom, Bool.and_eq_true] at h
    exact h.2

theorem okAtom_nocr {s : List Char} (h : okAtom s = true) : '\r' ∉ s := by
  have := okAtom_clean h
  simp only [List.all_eq_true, Bool.and_eq_true, bne_iff_ne, ne_eq] at this
  exact fun hm => (this _ hm).2 rfl

theorem okAtom_last {s : List Char} (h : okAtom s = true) :
    ∃ init c, s = init ++ [c] ∧ isWhitespace c = false := by
  have hne := okAtom_ne h
  refine ⟨s.dropLast, s.getLast hne, (List.dropLast_concat_getLast hne).symm, ?_⟩
  simp only [okAtom, Bool.or_eq_true] at h
  rcases h with h | h
  · simp only [goodAtom, Bool.and_eq_true] at h
    simpa using (List.all_eq_true.mp h.2) _ (List.getLast_mem hne)
  · simp only [quotedAtom, Bool.and_eq_true, beq_iff_eq] at h
    rw [List.getLast?_eq_some_getLast hne] at h
    have : s.getLast hne = '"' := Option.some.inj h.1.2
    rw [this]; decide

theorem lower_ne {c : Char} (h : isLower c = true) (d : Char) (hd : d.toNat < 97) : c ≠ d := by
  intro e; subst e
  simp only [isLower, Bool.and_eq_true, decide_eq_true_eq] at h
  omega

theorem lower_not {c : Char} (h : isLower c = true) : isUpper c = false ∧ isDigit c = false := by
  simp only [isLower, isUpper, isDigit, Bool.and_eq_true, decide_eq_true_eq, Bool.and_eq_false_iff,
    decide_eq_false_iff_not] at h ⊢
  omega

/-- white space lies outside the printable ASCII range -/
theorem not_ws_of_range {c : Char} (h1 : 32 < c.toNat) (h2 : c.toNat < 133) : isWhitespace c = false := by
  simp only [isWhitespace, Bool.or_eq_false_iff, Bool.and_eq_false_iff, decide_eq_false_iff_not,
    beq_eq_false_iff_ne]
  omega

theorem not_ws_of_identBody {c : Char} (h : isIdentBody c = true) : isWhitespace c = false := by
  simp only [isIdentBody, isLower, isUpper, isDigit, Bool.or_eq_true, Bool.and_eq_true, decide_eq_true_eq] at h
  rcases h with ((h | h) | h) | h
  · exact not_ws_of_range (by omega) (by omega)
  · exact not_ws_of_range (by omega) (by omega)
  · exact not_ws_of_range (by omega) (by omega)
  · rw [h]; rfl

/-- every character of an identifier satisfies what lower-case letters, identifier characters, `?`
    and `!` satisfy -/
theorem ident_all {q : Char → Bool} (hbody : ∀ c, isIdentBody c = true → q c = true) (h1 : q '?' = true)
    (h2 : q '!' = true) {n : Str} (h : isIdentStr n = true) : n.all q = true := by
  cases n with
  | nil => cases h
  | cons c r =>
    simp only [isIdentStr, Bool.and_eq_true, Bool.or_eq_true, decide_eq_true_eq] at h
    obtain ⟨hc, hsuf⟩ := h
    have hr : r.all q = true := by
      rw [← List.takeWhile_append_dropWhile (p := isIdentBody) (l := r), List.all_append]
      have ht : (r.takeWhile isIdentBody).all q = true :=
        List.all_eq_true.mpr fun x hx => hbody x (List.all_eq_true.mp List.all_takeWhile x hx)
      rw [ht]
      rcases hsuf with ((e | e) | e) | e <;> rw [e] <;> simp [h1, h2]
    rw [List.all_cons, hr, hbody c (by simp [isIdentBody, hc])]
    rfl

theorem goodAtom_ident {n : Str} (h : isIdentStr n = true) : goodAtom n = true := by
  have := ident_all (q := fun c => !isWhitespace c) (fun c hc => by simp [not_ws_of_identBody hc])
    (by decide) (by decide) h
  cases n with
  | nil => cases h
  | cons c r => simpa [goodAtom] using this

theorem ident_nulFree {n : Str} (h : isIdentStr n = true) : n.all (· ≠ '\x00') = true :=
  ident_all (fun c hc => by
    simp only [decide_eq_true_eq]; rintro rfl; exact absurd hc (by decide)) (by decide) (by decide) h
/-! ### The post-passes of `format_program` on a layout

`collapse_blanks` and `expand_literals` work line by line (`str::lines`). The lines of a piece list are
computed directly (`linesFwd`); for a tidy, NUL-free piece list every line ends in a non-blank
character and does not start (after its indentation) with the NUL of a literal placeholder, so both
passes leave the text alone — up to the final newline that `collapse_blanks` adds. -/

/-- the lines of the rendered pieces; `p` is the current line so far -/
def linesFwd (p : List Char) : List Piece → List (List Char)
  | [] => if p.isEmpty then [] else [p]
  | .atom s :: r => linesFwd (p ++ s) r
  | .sp :: r => linesFwd (p ++ [' ']) r
  | .nl k :: r => p :: linesFwd (List.replicate k ' ') r

/-- no atom holds a line break (`\n`, `\r`) -/
def atomsOk : List Piece → Bool
  | [] => true
  | .atom s :: r => s.all (fun c => c != '\n' && c != '\r') && atomsOk r
  | _ :: r => atomsOk r

/-- the NUL of a literal placeholder cannot be the first character of this atom: there is none in it,
    or it starts with a quote -/
def nulAtom (s : List Char) : Bool := s.all (· ≠ '\x00') || s.head? == some '"'

/-- no line can start with the NUL that marks a literal placeholder -/
def nulFree : List Piece → Bool
  | [] => true
  | .atom s :: r => nulAtom s && nulFree r
  | _ :: r => nulFree r

theorem atomsOk_of_tidy : ∀ (ps : List Piece) (b : Bool), tidyPs b ps = true → atomsOk ps = true
  | [], _, _ => rfl
  | .atom s :: r, b, h => by
    simp only [tidyPs, Bool.and_eq_true] at h
    simp only [atomsOk, okAtom_clean h.1, atomsOk_of_tidy r true h.2, Bool.and_self]
  | .sp :: r, b, h => by
    simp only [tidyPs] at h
    simpa [atomsOk] using atomsOk_of_tidy r false h
  | .nl k :: r, b, h => by
    simp only [tidyPs, Bool.and_eq_true] at h
    simpa [atomsOk] using atomsOk_of_tidy r false h.2

theorem rustLinesAux_linesFwd (ps : List Piece) : ∀ (p : List Char), atomsOk ps = true → '\r' ∉ p →
    rustLinesAux p.reverse (renderPieces ps) = linesFwd p ps := by
  induction ps with
  | nil =>
    intro p _ _
    simp [renderPieces, rustLinesAux, linesFwd]
  | cons x r ih =>
    intro p ha hp
    cases x with
    | atom s =>
      simp only [atomsOk, Bool.and_eq_true] at ha
      simp only [renderPieces, Piece.render, linesFwd]
      have hcl := ha.1
      simp only [List.all_eq_true, Bool.and_eq_true, bne_iff_ne, ne_eq] at hcl
      have hnl : s.all (· ≠ '\n') = true := by
        simp only [List.all_eq_true, decide_eq_true_eq]
        exact fun c hc => (hcl c hc).1
      rw [rustLinesAux_append s hnl, ← List.reverse_append]
      refine ih (p ++ s) ha.2 ?_
      intro hm
      rcases List.mem_append.mp hm with hm | hm
      · exact hp hm
      · exact (hcl _ hm).2 rfl
    | sp =>
      simp only [atomsOk] at ha
      simp only [renderPieces, Piece.render, List.cons_append, List.nil_append, rustLinesAux,
        show ¬ (' ' = '\n') by decide, if_false, linesFwd]
      have := ih (p ++ [' ']) ha (by
        intro hm
        rcases List.mem_append.mp hm with hm | hm
        · exact hp hm
        · simp at hm)
      simpa using this
    | nl k =>
      simp only [atomsOk] at ha
      simp only [renderPieces, Piece.render, List.cons_append, rustLinesAux, if_true, linesFwd]
      have hrep : (List.replicate k ' ').all (· ≠ '\n') = true := by
        simp only [List.all_eq_true, decide_eq_true_eq]
        intro c hc; rw [List.eq_of_mem_replicate hc]; decide
      rw [rustLinesAux_append _ hrep]
      have ih' := ih (List.replicate k ' ') ha (by
        intro hm; have := List.eq_of_mem_replicate hm; exact absurd this (by decide))
      have htail : rustLinesAux ((List.replicate k ' ').reverse ++ []) (renderPieces r) =
          linesFwd (List.replicate k ' ') r := by simpa using ih'
      rw [htail]
      congr 1
      split
      · rename_i cur' heq
        exfalso; apply hp
        have : '\r' ∈ p.reverse := by rw [heq]; simp
        simpa using this
      · simp

/-- the current line ends in a non-blank character (if the flag claims an atom) -/
def EndsOk (b : Bool) (p : List Char) : Prop :=
  b = true → ∃ init c, p = init ++ [c] ∧ isWhitespace c = false

/-- the first character after the indentation -/
def headNS (p : List Char) : Option Char := (p.dropWhile (· = ' ')).head?

theorem headNS_append (p s : List Char) :
    headNS (p ++ s) = if p.all (· = ' ') then headNS s else headNS p := by
  induction p with
  | nil => simp [headNS]
  | cons c p ih =>
    by_cases hc : c = ' '
    · subst hc
      simpa [headNS, List.dropWhile_cons] using ih
    · simp [headNS, hc]

/-- a line that the post-passes leave alone -/
def GoodLine (l : List Char) : Prop :=
  (∃ init c, l = init ++ [c] ∧ isWhitespace c = false) ∧ headNS l ≠ some '\x00'

theorem headNS_ne_nul_of_all {s : List Char} (h : s.all (· ≠ '\x00') = true) : headNS s ≠ some '\x00' := by
  intro e
  have hm : '\x00' ∈ s.dropWhile (· = ' ') := by
    unfold headNS at e
    exact List.mem_of_mem_head? (by rw [e]; rfl)
  have hs : '\x00' ∈ s := (List.dropWhile_sublist _).subset hm
  have := (List.all_eq_true.mp h) _ hs
  simp at this

theorem nulAtom_of_all {s : List Char} (h : s.all (· ≠ '\x00') = true) : nulAtom s = true := by
  unfold nulAtom; rw [h]; rfl

theorem headNS_ne_nul_of_nulAtom {s : List Char} (h : nulAtom s = true) : headNS s ≠ some '\x00' := by
  simp only [nulAtom, Bool.or_eq_true, beq_iff_eq] at h
  rcases h with h | h
  · exact headNS_ne_nul_of_all h
  · cases s with
    | nil => simp at h
    | cons c r =>
      simp only [List.head?_cons, Option.some.injEq] at h
      subst h
      simp [headNS]

/-- every line of a tidy piece list satisfies what every text ending in a non-blank character does;
    the line so far has to, if the flag claims an atom -/
theorem linesFwd_all {E : List Char → Prop} (hE : ∀ init c, isWhitespace c = false → E (init ++ [c]))
    (ps : List Piece) : ∀ (b : Bool) (p : List Char), tidyPs b ps = true → (b = true → E p) →
    ∀ l ∈ linesFwd p ps, E l := by
  induction ps with
  | nil =>
    intro b p hb hp l hl
    simp only [linesFwd] at hl
    split at hl
    · simp at hl
    · rw [List.mem_singleton.mp hl]; exact hp hb
  | cons x r ih =>
    intro b p hb hp l hl
    cases x with
    | atom s =>
      simp only [tidyPs, Bool.and_eq_true] at hb
      refine ih true (p ++ s) hb.2 (fun _ => ?_) l hl
      obtain ⟨init, c, rfl, hc⟩ := okAtom_last hb.1
      rw [← List.append_assoc]; exact hE _ c hc
    | sp => exact ih false _ hb (fun h => Bool.noConfusion h) l hl
    | nl k =>
      simp only [tidyPs, Bool.and_eq_true] at hb
      rcases List.mem_cons.mp hl with rfl | hl
      · exact hp hb.1
      · exact ih false _ hb.2 (fun h => Bool.noConfusion h) l hl

theorem linesFwd_nul (ps : List Piece) : ∀ (p : List Char), nulFree ps = true → headNS p ≠ some '\x00' →
    ∀ l ∈ linesFwd p ps, headNS l ≠ some '\x00' := by
  induction ps with
  | nil =>
    intro p _ hn l hl
    simp only [linesFwd] at hl
    split at hl
    · simp at hl
    · rw [List.mem_singleton.mp hl]; exact hn
  | cons x r ih =>
    intro p hnf hn l hl
    cases x with
    | atom s =>
      simp only [nulFree, Bool.and_eq_true] at hnf
      refine ih (p ++ s) hnf.2 ?_ l hl
      rw [headNS_append]
      split
      · exact headNS_ne_nul_of_nulAtom hnf.1
      · exact hn
    | sp =>
      refine ih (p ++ [' ']) hnf ?_ l hl
      rw [headNS_append]
      split
      · simp [headNS]
      · exact hn
    | nl k =>
      rcases List.mem_cons.mp hl with rfl | hl
      · exact hn
      · refine ih _ hnf ?_ l hl
        have : (List.replicate k ' ').dropWhile (· = ' ') = [] := by
          rw [List.dropWhile_replicate]; simp
        simp [headNS, this]

theorem linesFwd_ne_nil (r : List Piece) : ∀ (q : List Char), q ≠ [] ∨ tidyPs false r = true →
    linesFwd q r ≠ [] := by
  induction r with
  | nil =>
    intro q h
    rcases h with h | h
    · cases q with
      | nil => exact absurd rfl h
      | cons c t => simp [linesFwd]
    · cases h
  | cons x r ih =>
    intro q h
    cases x with
    | atom s =>
      refine ih _ (.inl ?_)
      rcases h with h | h
      · simp [h]
      · simp only [tidyPs, Bool.and_eq_true] at h
        simp [okAtom_ne h.1]
    | sp => exact ih _ (.inl (by simp))
    | nl k => simp [linesFwd]

theorem joinNl_linesFwd (ps : List Piece) : ∀ (b : Bool) (p : List Char), tidyPs b ps = true →
    joinNl (linesFwd p ps) = p ++ renderPieces ps := by
  induction ps with
  | nil =>
    intro b p _
    cases p <;> simp [linesFwd, joinNl, renderPieces]
  | cons x r ih =>
    intro b p hb
    cases x with
    | atom s =>
      simp only [tidyPs, Bool.and_eq_true] at hb
      simp [linesFwd, ih true _ hb.2, renderPieces, Piece.render]
    | sp =>
      simp only [tidyPs] at hb
      simp [linesFwd, ih false _ hb, renderPieces, Piece.render]
    | nl k =>
      simp only [tidyPs, Bool.and_eq_true] at hb
      rw [linesFwd, joinNl_cons_ne _ (linesFwd_ne_nil r _ (.inr hb.2)), ih false _ hb.2]
      simp [renderPieces, Piece.render]

theorem linesFwd_snoc_nl (ps : List Piece) : ∀ (b : Bool) (p : List Char), tidyPs b ps = true →
    EndsOk b p → linesFwd p (ps ++ [.nl 0]) = linesFwd p ps := by
  induction ps with
  | nil =>
    intro b p hb hp
    simp only [tidyPs] at hb
    obtain ⟨init, c, rfl, _⟩ := hp hb
    simp [linesFwd]
  | cons x r ih =>
    intro b p hb hp
    cases x with
    | atom s =>
      simp only [tidyPs, Bool.and_eq_true] at hb
      simp only [List.cons_append, linesFwd]
      refine ih true (p ++ s) hb.2 ?_
      intro _
      obtain ⟨init, c, rfl, hc⟩ := okAtom_last hb.1
      exact ⟨p ++ init, c, by rw [List.append_assoc], hc⟩
    | sp =>
      simp only [tidyPs] at hb
      simp only [List.cons_append, linesFwd]
      exact ih false _ hb (by intro h; exact Bool.noConfusion h)
    | nl k =>
      simp only [tidyPs, Bool.and_eq_true] at hb
      simp only [List.cons_append, linesFwd]
      rw [ih false _ hb.2 (by intro h; exact Bool.noConfusion h)]

theorem collapseLoop_id (L : List (List Char)) (h : ∀ l ∈ L, isBlankLine l = false) :
    ∀ b : Bool, collapseLoop b L = L := by
  induction L with
  | nil => intro b; rfl
  | cons l ls ih =>
    intro b
    have hl := h l (by simp)
    simp only [collapseLoop, hl, Bool.false_and, Bool.false_eq_true, if_false]
    rw [ih (fun x hx => h x (by simp [hx]))]

theorem dropTrailingEmpty_id (L : List (List Char)) (h : ∀ l ∈ L, l ≠ []) : dropTrailingEmpty L = L := by
  unfold dropTrailingEmpty
  cases hr : L.reverse with
  | nil => simp [List.reverse_eq_nil_iff.mp hr]
  | cons a t =>
    have ha : a ∈ L := by
      have : a ∈ L.reverse := by rw [hr]; simp
      simpa using this
    have hne : a.isEmpty = false := by
      cases a with
      | nil => exact absurd rfl (h [] ha)
      | cons c r => rfl
    rw [List.dropWhile_cons, hne]
    simp only [Bool.false_eq_true, if_false]
    rw [← hr, List.reverse_reverse]

theorem trimEnd_snoc (init : List Char) (c : Char) (h : isWhitespace c = false) :
    trimEnd (init ++ [c]) = init ++ [c] := by
  simp [trimEnd, h]

theorem map_trimEnd_id (L : List (List Char))
    (h : ∀ l ∈ L, (∃ init c, l = init ++ [c] ∧ isWhitespace c = false) ∨ l = []) : L.map trimEnd = L := by
  induction L with
  | nil => rfl
  | cons l ls ih =>
    rw [List.map_cons, ih (fun x hx => h x (by simp [hx]))]
    rcases h l (by simp) with ⟨init, c, rfl, hc⟩ | rfl
    · rw [trimEnd_snoc init c hc]
    · rfl

theorem strip_renderPieces {ps : List Piece} (h : tidyPs true ps = true) :
    stripTrailingWhitespace (renderPieces ps) = renderPieces ps := by
  have hL : rustLinesAux [] (renderPieces ps) = linesFwd [] ps := by
    simpa using rustLinesAux_linesFwd ps [] (atomsOk_of_tidy ps true h) (by simp)
  have hends := linesFwd_all (E := fun l => (∃ init c, l = init ++ [c] ∧ isWhitespace c = false) ∨ l = [])
    (fun init c hc => .inl ⟨init, c, rfl, hc⟩) ps true [] h fun _ => .inr rfl
  rw [stripTrailingWhitespace, rustLines, hL, map_trimEnd_id _ hends, joinNl_linesFwd ps true [] h, List.nil_append]

theorem flatten_map_nl (L : List (List Char)) (h : L ≠ []) :
    (L.map (· ++ ['\n'])).flatten = joinNl L ++ ['\n'] := by
  induction L with
  | nil => exact absurd rfl h
  | cons l ls ih =>
    cases ls with
    | nil => simp [joinNl]
    | cons l' ls =>
      have := ih (by simp)
      simp only [List.map_cons, List.flatten_cons] at this ⊢
      rw [this]
      simp [joinNl]

theorem expandLine_plain {l : List Char} (h : headNS l ≠ some '\x00') : expandLine [] l = some [l] := by
  unfold expandLine
  simp only []
  unfold headNS at h
  split
  · rename_i digits heq
    rw [heq] at h
    exact absurd rfl h
  · rfl

theorem mapM_expand (L : List (List Char)) (h : ∀ l ∈ L, expandLine [] l = some [l]) :
    L.mapM (expandLine []) = some (L.map fun l => [l]) := by
  induction L with
  | nil => rfl
  | cons l ls ih =>
    rw [List.mapM_cons, h l (by simp), ih (fun x hx => h x (by simp [hx]))]
    rfl

theorem nulFree_append (a b : List Piece) : nulFree (a ++ b) = (nulFree a && nulFree b) := by
  induction a with
  | nil => simp [nulFree]
  | cons x r ih => cases x <;> simp [nulFree, ih, Bool.and_assoc]

/-! ### Blocks around single blank lines

A program with "tall" steps is a sequence of BLOCKS — tidy, NUL-free piece lists — separated by one
blank line each (`nl 0, nl 0`). Its lines are the lines of the blocks with one empty line in between,
so the line passes still leave it alone. -/

/-- the blocks with a blank line between each two -/
def joinBlocks : List (List Piece) → List Piece
  | [] => []
  | [b] => b
  | b :: bs => b ++ .nl 0 :: .nl 0 :: joinBlocks bs

/-- the lines of the blocks with an empty line between each two -/
def blockLines : List (List Piece) → List (List Char)
  | [] => []
  | [b] => linesFwd [] b
  | b :: bs => linesFwd [] b ++ [] :: blockLines bs

theorem linesFwd_append_nl (A R : List Piece) (k : Nat) : ∀ (p : List Char),
    linesFwd p (A ++ .nl k :: R) = linesFwd p (A ++ [.nl 0]) ++ linesFwd (List.replicate k ' ') R := by
  induction A with
  | nil => intro p; simp [linesFwd]
  | cons x A ih =>
    intro p
    cases x with
    | atom s => simpa [linesFwd] using ih (p ++ s)
    | sp => simpa [linesFwd] using ih (p ++ [' '])
    | nl j => simpa [linesFwd] using ih (List.replicate j ' ')

theorem linesFwd_joinBlocks : ∀ (bs : List (List Piece)), bs ≠ [] → (∀ b ∈ bs, tidyPs false b = true) →
    linesFwd [] (joinBlocks bs) = blockLines bs ∧ linesFwd [] (joinBlocks bs ++ [.nl 0]) = blockLines bs
  | [], hne, _ => absurd rfl hne
  | [b], _, h => by
    have hb := h b (by simp)
    exact ⟨rfl, by simpa [joinBlocks, blockLines] using
      linesFwd_snoc_nl b false [] hb (by intro e; exact Bool.noConfusion e)⟩
  | b :: b' :: bs, _, h => by
    have hb := h b (by simp)
    have ih := linesFwd_joinBlocks (b' :: bs) (by simp) (fun x hx => h x (by simp [hx]))
    have hsn := linesFwd_snoc_nl b false [] hb (by intro e; exact Bool.noConfusion e)
    constructor
    · show linesFwd [] (b ++ .nl 0 :: (.nl 0 :: joinBlocks (b' :: bs))) = _
      rw [linesFwd_append_nl, hsn]
      simp [linesFwd, blockLines, ih.1]
    · show linesFwd [] ((b ++ .nl 0 :: (.nl 0 :: joinBlocks (b' :: bs))) ++ [.nl 0]) = _
      rw [List.append_assoc, List.cons_append, List.cons_append, linesFwd_append_nl, hsn]
      simp [linesFwd, blockLines, ih.2]

theorem joinNl_append {A B : List (List Char)} (ha : A ≠ []) (hb : B ≠ []) :
    joinNl (A ++ B) = joinNl A ++ '\n' :: joinNl B := by
  induction A with
  | nil => exact absurd rfl ha
  | cons a A ih =>
    cases A with
    | nil =>
      cases B with
      | nil => exact absurd rfl hb
      | cons b B => rfl
    | cons a' A =>
      have := ih (by simp)
      simp only [List.cons_append] at this ⊢
      simp only [joinNl, this, List.append_assoc, List.cons_append]

theorem collapseLoop_cons_nonblank (a : List Char) (h : isBlankLine a = false) (b : Bool)
    (r : List (List Char)) : collapseLoop b (a :: r) = a :: collapseLoop false r := by
  simp [collapseLoop, h]

theorem collapseLoop_append_nonblank (A X : List (List Char)) (ha : A ≠ [])
    (h : ∀ l ∈ A, isBlankLine l = false) : ∀ b, collapseLoop b (A ++ X) = A ++ collapseLoop false X := by
  induction A with
  | nil => exact absurd rfl ha
  | cons a A ih =>
    intro b
    have hl := h a (by simp)
    cases A with
    | nil => simp [collapseLoop_cons_nonblank a hl]
    | cons a' A =>
      have := ih (by simp) (fun x hx => h x (by simp [hx])) false
      rw [List.cons_append, collapseLoop_cons_nonblank a hl, this]
      rfl

theorem dropTrailingEmpty_last (L : List (List Char)) (l : List Char) (h : l ≠ []) :
    dropTrailingEmpty (L ++ [l]) = L ++ [l] := by
  have hne : l.isEmpty = false := by cases l with | nil => exact absurd rfl h | cons c r => rfl
  simp [dropTrailingEmpty, hne]

theorem block_lines {b : List Piece} (h1 : tidyPs false b = true) (h2 : nulFree b = true) :
    linesFwd [] b ≠ [] ∧ (∀ l ∈ linesFwd [] b, GoodLine l) ∧ joinNl (linesFwd [] b) = renderPieces b :=
  ⟨linesFwd_ne_nil b [] (.inr h1),
    fun l hl => ⟨linesFwd_all (E := fun l => ∃ init c, l = init ++ [c] ∧ isWhitespace c = false)
        (fun init c hc => ⟨init, c, rfl, hc⟩) b false [] h1 (fun h => Bool.noConfusion h) l hl,
      linesFwd_nul b [] h2 (by simp [headNS]) l hl⟩,
    joinNl_linesFwd b false [] h1⟩

theorem blockLines_facts : ∀ (bs : List (List Piece)), bs ≠ [] →
    (∀ b ∈ bs, tidyPs false b = true ∧ nulFree b = true) →
    (∀ l ∈ blockLines bs, GoodLine l ∨ l = []) ∧ joinNl (blockLines bs) = renderPieces (joinBlocks bs) ∧
    (∀ pb, collapseLoop pb (blockLines bs) = blockLines bs) ∧
    (∃ L l, blockLines bs = L ++ [l] ∧ l ≠ [])
  | [], hne, _ => absurd rfl hne
  | [b], _, h => by
    obtain ⟨h1, h2⟩ := h b (by simp)
    obtain ⟨hne, hgood, hjoin⟩ := block_lines h1 h2
    refine ⟨fun l hl => .inl (hgood l hl), hjoin, fun pb => ?_, ?_⟩
    · refine collapseLoop_id _ (fun l hl => ?_) pb
      obtain ⟨init, c, rfl, hc⟩ := (hgood l hl).1
      simp [isBlankLine, hc]
    · have hlast := List.dropLast_concat_getLast hne
      refine ⟨_, _, hlast.symm, ?_⟩
      obtain ⟨init, c, he, _⟩ := (hgood _ (List.getLast_mem hne)).1
      rw [he]; simp
  | b :: b' :: bs, _, h => by
    obtain ⟨h1, h2⟩ := h b (by simp)
    obtain ⟨hne, hgood, hjoin⟩ := block_lines h1 h2
    obtain ⟨ihg, ihj, ihc, L, l, ihl, hl⟩ := blockLines_facts (b' :: bs) (by simp) (fun x hx => h x (by simp [hx]))
    have hnb : ∀ l ∈ linesFwd [] b, isBlankLine l = false := by
      intro l hl
      obtain ⟨init, c, rfl, hc⟩ := (hgood l hl).1
      simp [isBlankLine, hc]
    have hrest_ne : blockLines (b' :: bs) ≠ [] := by rw [ihl]; simp
    refine ⟨?_, ?_, ?_, ?_⟩
    · intro l hl
      simp only [blockLines, List.mem_append, List.mem_cons] at hl
      rcases hl with hl | rfl | hl
      · exact .inl (hgood l hl)
      · exact .inr rfl
      · exact ihg l hl
    · show joinNl (linesFwd [] b ++ [] :: blockLines (b' :: bs)) = renderPieces (b ++ .nl 0 :: .nl 0 :: joinBlocks (b' :: bs))
      rw [joinNl_append hne (by simp), hjoin, joinNl_cons_ne [] hrest_ne, ihj]
      simp [renderPieces_append, renderPieces, Piece.render]
    · intro pb
      show collapseLoop pb (linesFwd [] b ++ [] :: blockLines (b' :: bs)) = _
      rw [collapseLoop_append_nonblank _ _ hne hnb]
      simp [collapseLoop, isBlankLine, ihc true, blockLines]
    · exact ⟨linesFwd [] b ++ [] :: L, l, by simp [blockLines, ihl], hl⟩

theorem atomsOk_append (a c : List Piece) : atomsOk (a ++ c) = (atomsOk a && atomsOk c) := by
  induction a with
  | nil => rfl
  | cons x a ih => cases x <;> simp [atomsOk, ih, Bool.and_assoc]

theorem atomsOk_joinBlocks : ∀ (bs : List (List Piece)), (∀ b ∈ bs, atomsOk b = true) →
    atomsOk (joinBlocks bs) = true
  | [], _ => rfl
  | [b], h => h b (by simp)
  | b :: b' :: bs, h => by
    show atomsOk (b ++ .nl 0 :: .nl 0 :: joinBlocks (b' :: bs)) = true
    rw [atomsOk_append, h b (by simp)]
    exact atomsOk_joinBlocks (b' :: bs) fun x hx => h x (by simp [hx])

theorem flatten_singletons (L : List (List Char)) : (L.map fun l => [l]).flatten = L := by
  induction L with
  | nil => rfl
  | cons a t ih => simp [ih]

theorem post_passes_blocks {bs : List (List Piece)} (hne : bs ≠ [])
    (h : ∀ b ∈ bs, tidyPs false b = true ∧ nulFree b = true) :
    stripTrailingWhitespace (renderPieces (joinBlocks bs)) = renderPieces (joinBlocks bs) ∧
    collapseBlanks (renderPieces (joinBlocks bs)) = renderPieces (joinBlocks bs) ++ ['\n'] ∧
    expandLiterals (renderPieces (joinBlocks bs) ++ ['\n']) [] = some (renderPieces (joinBlocks bs) ++ ['\n']) := by
  obtain ⟨hlines, hjoin, hcol, L, l, hlast, hl⟩ := blockLines_facts bs hne h
  have hok : atomsOk (joinBlocks bs) = true :=
    atomsOk_joinBlocks bs fun b hb => atomsOk_of_tidy b false (h b hb).1
  have htidy : ∀ b ∈ bs, tidyPs false b = true := fun b hb => (h b hb).1
  have hL : rustLines (renderPieces (joinBlocks bs)) = blockLines bs := by
    have := rustLinesAux_linesFwd (joinBlocks bs) [] hok (by simp)
    rwa [(linesFwd_joinBlocks bs hne htidy).1] at this
  have hL' : rustLines (renderPieces (joinBlocks bs) ++ ['\n']) = blockLines bs := by
    have := rustLinesAux_linesFwd (joinBlocks bs ++ [.nl 0]) [] (by rw [atomsOk_append, hok]; rfl) (by simp)
    rw [(linesFwd_joinBlocks bs hne htidy).2, renderPieces_append] at this
    exact this
  have hLne : blockLines bs ≠ [] := by rw [hlast]; simp
  refine ⟨?_, ?_, ?_⟩
  · rw [stripTrailingWhitespace, hL, map_trimEnd_id _ fun l hl => (hlines l hl).imp_left (·.1), hjoin]
  · rw [collapseBlanks, hL, hcol true, hlast, dropTrailingEmpty_last L l hl, ← hlast, hjoin]
  · have hexp : ∀ l ∈ blockLines bs, expandLine [] l = some [l] := by
      intro l hl'
      rcases hlines l hl' with hg | rfl
      · exact expandLine_plain hg.2
      · exact expandLine_plain (by simp [headNS])
    rw [expandLiterals, hL', mapM_expand _ hexp, Option.map_some, flatten_singletons,
      flatten_map_nl _ hLne, hjoin]

/-- `collapse_blanks` adds the final newline to a tidy, NUL-free text and changes nothing else;
    `expand_literals` then finds no placeholder line. -/
theorem post_passes {ps : List Piece} (h1 : tidyPs false ps = true) (h2 : nulFree ps = true) :
    collapseBlanks (renderPieces ps) = renderPieces ps ++ ['\n'] ∧
    expandLiterals (renderPieces ps ++ ['\n']) [] = some (renderPieces ps ++ ['\n']) :=
  (post_passes_blocks (bs := [ps]) (by simp) (by simpa using ⟨h1, h2⟩)).2

end QM.Frag
