import QuiverModel.Lemmas.Text.Fragment
/-
The fragment model's SEQUENCES of steps (`a, B[x] c, d` — or one step per line); a step is any `T.WF`
term or chain.

  * `RestP` / `SeqP` — the layouts of a sequence: every step a layout of its term; between the steps
    `, ` (sequence group flat) or a line break (broken), the same choice for the whole sequence;
  * `printsAs_sequence` — the engine prints `sequenceDoc ts` as a layout of `ts`;
  * `seqP_lay` — `sequence` (on `seq_sep` of the type grammar's model) reads every layout back.
-/
namespace QM.Frag
open QM.Text QM.Parse

/-- the steps after the first, each behind its separator: `, `, a line break, or — around a "tall"
    step — a blank line (two line breaks at the sequence's indentation `z`) -/
inductive RestP (z : Nat) : Bool → List T → List Piece → Prop
  | nil {b : Bool} : RestP z b [] []
  | consFlat {t : T} {ts : List T} {ps rest : List Piece} :
      LayP t ps → RestP z false ts rest → RestP z false (t :: ts) (.atom [','] :: .sp :: (ps ++ rest))
  | consBrk {t : T} {ts : List T} {ps rest : List Piece} (k : Nat) :
      LayP t ps → RestP z true ts rest → RestP z true (t :: ts) (.nl k :: (ps ++ rest))
  | consTall {b : Bool} {t : T} {ts : List T} {ps rest : List Piece} :
      LayP t ps → RestP z b ts rest → RestP z b (t :: ts) (.nl z :: .nl z :: (ps ++ rest))

/-- a layout of the sequence `ts` at indentation `z` -/
def SeqP (z : Nat) (ts : List T) (all : List Piece) : Prop :=
  ∃ b t ts' ps rest, ts = t :: ts' ∧ all = ps ++ rest ∧ LayP t ps ∧ RestP z b ts' rest

theorem pl_seqSep_flat (w col i : Nat) (st : List Frame) :
    printLoop w col (⟨i, .flat, seqSepDoc⟩ :: st) [] = .atom [','] :: .sp :: printLoop w (col + 1 + 1) st [] := by
  simp only [seqSepDoc, pl_concat, mkFrames, List.cons_append, List.nil_append, pl_ifBreak_flat, pl_text,
    pl_line_flat, List.length_cons, List.length_nil]
theorem pl_seqSep_brk (w col i : Nat) (st : List Frame) :
    printLoop w col (⟨i, .brk, seqSepDoc⟩ :: st) [] = .nl i :: printLoop w i st [] := by
  simp only [seqSepDoc, pl_concat, mkFrames, List.cons_append, List.nil_append, pl_ifBreak_brk, pl_nil,
    pl_line_brk]

theorem pl_hardline (w col i : Nat) (m : Mode) (st : List Frame) :
    printLoop w col (⟨i, m, .hardline⟩ :: st) [] = .nl i :: printLoop w i st [] :=
  printLoop_break_nil w col _ st (.inr (.inr rfl))

theorem restPrintAs (ts : List T) (hwf : ∀ t ∈ ts, T.WF t) :
    ∀ (pt : Bool) (w col i : Nat) (m : Mode) (st : List Frame),
      ∃ ps' ps col', printLoop w col (mkFrames i m (restDocs pt ts) ++ st) [] = ps' ++ printLoop w col' st [] ∧
        renderPieces ps' = renderPieces ps ∧ RestP i (isBrk m) ts ps := by
  induction ts with
  | nil =>
    intro pt w col i m st
    exact ⟨[], [], col, by simp [restDocs, mkFrames], rfl, .nil⟩
  | cons t ts ih =>
    intro pt w col i m st
    have ht : PrintsAs (fieldDoc (chainDocOf t)) (LayP t) :=
      printsAs_fieldDoc (printsAs_chainDocOf (printLoop_term t (hwf t (by simp))))
    have ih' := ih (fun x hx => hwf x (by simp [hx])) (isTall t (chainDocOf t))
    simp only [restDocs]
    cases hsep : (pt || isTall t (chainDocOf t)) with
    | true =>
      simp only [if_true, mkFrames, List.cons_append, List.nil_append, pl_hardline]
      obtain ⟨ps', ps, col1, hp, hr, hl⟩ := ht w i i m _
      obtain ⟨rs', rs, col2, hq, hr2, hrest⟩ := ih' w col1 i m st
      rw [hp, hq]
      exact ⟨.nl i :: .nl i :: (ps' ++ rs'), .nl i :: .nl i :: (ps ++ rs), col2, by simp,
        by simp [renderPieces_append, renderPieces, hr, hr2], .consTall hl hrest⟩
    | false =>
      simp only [Bool.false_eq_true, if_false, mkFrames, List.cons_append, List.nil_append]
      cases m with
      | flat =>
        rw [pl_seqSep_flat]
        obtain ⟨ps', ps, col1, hp, hr, hl⟩ := ht w _ i .flat _
        obtain ⟨rs', rs, col2, hq, hr2, hrest⟩ := ih' w col1 i .flat st
        rw [hp, hq]
        exact ⟨.atom [','] :: .sp :: (ps' ++ rs'), .atom [','] :: .sp :: (ps ++ rs), col2, by simp,
          by simp [renderPieces_append, renderPieces, hr, hr2], .consFlat hl hrest⟩
      | brk =>
        rw [pl_seqSep_brk]
        obtain ⟨ps', ps, col1, hp, hr, hl⟩ := ht w i i .brk _
        obtain ⟨rs', rs, col2, hq, hr2, hrest⟩ := ih' w col1 i .brk st
        rw [hp, hq]
        exact ⟨.nl i :: (ps' ++ rs'), .nl i :: (ps ++ rs), col2, by simp,
          by simp [renderPieces_append, renderPieces, hr, hr2], .consBrk i hl hrest⟩

theorem printsAs_sequence {ts : List T} (hwf : WFProg ts) :
    ∀ (w col i : Nat) (m : Mode) (st : List Frame),
      ∃ ps' ps col', printLoop w col (⟨i, m, sequenceDoc ts⟩ :: st) [] = ps' ++ printLoop w col' st [] ∧
        renderPieces ps' = renderPieces ps ∧ SeqP i ts ps := by
  obtain ⟨hne, hall⟩ := hwf
  cases ts with
  | nil => exact absurd rfl hne
  | cons t ts =>
    intro w col i m st
    have hfd : PrintsAs (fieldDoc (chainDocOf t)) (LayP t) :=
      printsAs_fieldDoc (printsAs_chainDocOf (printLoop_term t (hall t (by simp))))
    simp only [sequenceDoc, Doc.mkGroup]
    obtain ⟨m', hg⟩ := pl_group w col i m st _ _
    rw [hg, pl_concat]
    simp only [mkFrames, List.cons_append, List.nil_append]
    obtain ⟨ps', ps, col1, hp, hr, hl⟩ := hfd w col i m' _
    rw [hp, pl_nest, pl_concat, Nat.add_zero]
    obtain ⟨rs', rs, col2, hq, hr2, hrest⟩ :=
      restPrintAs ts (fun x hx => hall x (by simp [hx])) (isTall t (chainDocOf t)) w col1 i m' st
    rw [hq]
    exact ⟨ps' ++ rs', ps ++ rs, col2, by simp, by simp [renderPieces_append, hr, hr2],
      _, t, ts, ps, rs, rfl, rfl, hl, hrest⟩

/-! ### A layout of a sequence (at indentation 0) is blocks around single blank lines -/

theorem restP_blocks {b : Bool} {ts : List T} {ps : List Piece} (h : RestP 0 b ts ps) :
    ∀ (p0 : List Piece), TidyBlockStart p0 → nulFree p0 = true →
      ∃ bs, bs ≠ [] ∧ p0 ++ ps = joinBlocks bs ∧ ∀ x ∈ bs, tidyPs false x = true ∧ nulFree x = true := by
  induction h with
  | nil =>
    intro p0 h0 hn
    refine ⟨[p0], by simp, by simp [joinBlocks], ?_⟩
    intro x hx
    simp only [List.mem_singleton] at hx
    subst hx
    have := h0 false [] rfl
    rw [List.append_nil] at this
    exact ⟨this, hn⟩
  | @consFlat t ts q rest hl _ ih =>
    intro p0 h0 hn
    have h3 : goodAtom [','] = true := by decide
    obtain ⟨bs, hne, heq, hall⟩ := ih (p0 ++ .atom [','] :: .sp :: q)
      (by
        intro b r hr
        have := h0 b (.atom [','] :: .sp :: (q ++ r)) (by simpa [tidyPs, okAtom, h3] using layP_tidy hl false r hr)
        simpa using this)
      (by simp only [nulFree_append, nulFree, hn, nulAtom_comma, layP_nulFree hl, Bool.and_self])
    exact ⟨bs, hne, by rw [← heq]; simp, hall⟩
  | @consBrk t ts q rest k hl _ ih =>
    intro p0 h0 hn
    obtain ⟨bs, hne, heq, hall⟩ := ih (p0 ++ .nl k :: q)
      (by
        intro b r hr
        have := h0 b (.nl k :: (q ++ r)) (by simpa [tidyPs] using layP_tidy hl false r hr)
        simpa using this)
      (by simp only [nulFree_append, nulFree, hn, layP_nulFree hl, Bool.and_self])
    exact ⟨bs, hne, by rw [← heq]; simp, hall⟩
  | @consTall b' t ts q rest hl _ ih =>
    intro p0 h0 hn
    obtain ⟨bs, hne, heq, hall⟩ := ih q (fun b r hr => layP_tidy hl b r hr) (layP_nulFree hl)
    refine ⟨p0 :: bs, by simp, ?_, ?_⟩
    · cases bs with
      | nil => exact absurd rfl hne
      | cons b1 bs => simp [joinBlocks, heq]
    · intro x hx
      simp only [List.mem_cons] at hx
      rcases hx with rfl | hx
      · have := h0 false [] rfl
        rw [List.append_nil] at this
        exact ⟨this, hn⟩
      · exact hall x hx

theorem seqP_blocks {ts : List T} {ps : List Piece} (h : SeqP 0 ts ps) :
    ∃ bs, bs ≠ [] ∧ ps = joinBlocks bs ∧ ∀ x ∈ bs, tidyPs false x = true ∧ nulFree x = true := by
  obtain ⟨_, t, ts', p1, rest, _, rfl, hl, hrest⟩ := h
  exact restP_blocks hrest p1 (fun b r hr => layP_tidy hl b r hr) (layP_nulFree hl)

theorem seqP_head {z : Nat} {ts : List T} {ps : List Piece} (h : SeqP z ts ps) : HeadOk (renderPieces ps) := by
  obtain ⟨_, t, ts', p1, rest, _, rfl, hl, _⟩ := h
  rw [renderPieces_append]
  exact (layP_head hl).append _

theorem skipHspaceComments_stop {c : Char} {r : Str} (h1 : Parse.isHspace c = false) (h2 : c ≠ '/') :
    skipHspaceComments false (c :: r) = c :: r := by
  unfold skipHspaceComments
  simp only [Bool.false_eq_true, if_false, h1]
  split
  · exact absurd rfl h2
  · rfl

theorem skipSepTail_skip {c : Char} (h : (isMultispace c || c = ',') = true) (R : Str) :
    skipSepTail false (c :: R) = skipSepTail false R := by
  conv => lhs; unfold skipSepTail
  simp only [Bool.false_eq_true, if_false]
  rw [if_pos (by simpa using h)]

theorem skipSepTail_headOk {s : Str} (h : HeadOk s) : skipSepTail false s = s := by
  have hs := headOk_stop h
  obtain ⟨c, r, rfl, hc⟩ := h
  simp only [headAll_cons, Bool.and_eq_true, Bool.not_eq_true', bne_iff_ne, ne_eq] at hs
  have hcomma : c ≠ ',' := headCls_ne hc ',' (by decide)
  unfold skipSepTail
  simp only [Bool.false_eq_true, if_false, hs.1, hcomma, decide_false, Bool.or_self]
  split
  · exact absurd rfl hs.2
  · rfl

theorem seqSep_comma {s : Str} (h : HeadOk s) : seqSep (',' :: ' ' :: s) = .ok () s := by
  unfold seqSep
  rw [skipHspaceComments_stop (by decide) (by decide)]
  simp only [alt, pchar, if_true]
  rw [skipSepTail_skip (by decide), skipSepTail_headOk h]

/-- the final newline of the formatted program -/
theorem seqSep_final : seqSep ['\n'] = .ok () [] := by
  unfold seqSep
  rw [skipHspaceComments_stop (by decide) (by decide)]
  simp [alt, pchar, lineEnding, skipSepTail]

theorem seqSep_fails_nil : Fails seqSep [] :=
  ⟨[], .crlf, by simp [seqSep, skipHspaceComments, alt, pchar, lineEnding]⟩

/-- a step may be followed by a line break and another step -/
theorem stop_nl_headOk (k : Nat) {s : Str} (h : HeadOk s) : Stop ('\n' :: (List.replicate k ' ' ++ s)) :=
  stop_nlw (all_ms_replicate k) (by rw [headOk_not_ms h]; exact headOk_not_paren h)

/-! white space between a line break and the next step: the indentation, or a blank line -/

theorem skipSepTail_ws {w : Str} (hw : w.all isMultispace = true) (R : Str) :
    skipSepTail false (w ++ R) = skipSepTail false R := by
  induction w with
  | nil => rfl
  | cons c w ih =>
    simp only [List.all_cons, Bool.and_eq_true] at hw
    rw [List.cons_append, skipSepTail_skip (by simp [hw.1]), ih hw.2]

theorem seqSep_nlw {w s : Str} (hw : w.all isMultispace = true) (h : HeadOk s) :
    seqSep ('\n' :: (w ++ s)) = .ok () s := by
  unfold seqSep
  rw [skipHspaceComments_stop (by decide) (by decide)]
  simp only [alt, pchar, lineEnding, show ¬ ('\n' = ',') by decide, if_false]
  rw [skipSepTail_ws hw, skipSepTail_headOk h]

theorem stopC_nlw {w s : Str} (hw : w.all isMultispace = true) (h : HeadOk s) : StopC ('\n' :: (w ++ s)) :=
  ⟨stop_nlw hw (by rw [headOk_not_ms h]; exact headOk_not_paren h), chainSep_fails_nlw hw (.inl h)⟩

theorem all_ms_blank (z : Nat) :
    (List.replicate z ' ' ++ '\n' :: List.replicate z ' ').all isMultispace = true := by
  rw [List.all_append, all_ms_replicate, List.all_cons, all_ms_replicate]
  decide

theorem restP_stop {z : Nat} {b : Bool} {ts : List T} {ps : List Piece} (h : RestP z b ts ps) {rest : Str}
    (hs : StopC rest) : StopC (renderPieces ps ++ rest) := by
  cases h with
  | nil => simpa [renderPieces] using hs
  | consFlat hl _ => simpa [renderPieces, Piece.render] using stopC_comma _
  | @consBrk t ts ps0 rest0 k hl _ =>
    have hh := ((layP_head hl).append (renderPieces rest0)).append rest
    have := stopC_nlw (all_ms_replicate k) hh
    simpa [renderPieces, Piece.render, renderPieces_append] using this
  | @consTall b' t ts ps0 rest0 hl _ =>
    have hh := ((layP_head hl).append (renderPieces rest0)).append rest
    have := stopC_nlw (all_ms_blank z) hh
    simpa [renderPieces, Piece.render, renderPieces_append] using this

theorem rest_lay {z : Nat} {b : Bool} {ts : List T} {ps : List Piece} (h : RestP z b ts ps) :
    ∀ (n : Nat) (rest : Str), (renderPieces ps).length < n → StopC rest →
      sepTail seqSep (chainP (termP n)) rest = .ok [] rest →
      sepTail seqSep (chainP (termP n)) (renderPieces ps ++ rest) = .ok ts rest := by
  induction h with
  | nil => intro n rest _ _ hend; simpa [renderPieces] using hend
  | consFlat hl hrest ih =>
    rename_i t ts ps0 rest0
    intro n rest hlen hs hend
    have hl1 := render_lt_of_append (render_lt_of_cons (render_lt_of_cons hlen))
    simp only [renderPieces_append, renderPieces, Piece.render, List.append_assoc, List.cons_append, List.nil_append]
    exact sepTail_cons (seqSep_comma ((layP_head hl).append _)) (by simp; omega)
      (chainP_lay hl n _ hl1.1 (restP_stop hrest hs)) (by simp) (ih n rest hl1.2 hs hend)
  | consBrk k hl hrest ih =>
    rename_i t ts ps0 rest0
    intro n rest hlen hs hend
    have hl1 := render_lt_of_append (render_lt_of_cons hlen)
    simp only [renderPieces_append, renderPieces, Piece.render, List.append_assoc, List.cons_append, List.nil_append]
    exact sepTail_cons (seqSep_nlw (all_ms_replicate k) ((layP_head hl).append _)) (by simp; omega)
      (chainP_lay hl n _ hl1.1 (restP_stop hrest hs)) (by simp) (ih n rest hl1.2 hs hend)
  | @consTall b' t ts ps0 rest0 hl hrest ih =>
    intro n rest hlen hs hend
    have hsplit : renderPieces (.nl z :: .nl z :: (ps0 ++ rest0)) ++ rest =
        '\n' :: ((List.replicate z ' ' ++ '\n' :: List.replicate z ' ') ++
          (renderPieces ps0 ++ (renderPieces rest0 ++ rest))) := by
      rw [renderPieces_cons_append, renderPieces_cons_append, renderPieces_append, List.append_assoc]
      simp only [Piece.render, List.append_assoc, List.cons_append]
    have hl1 := render_lt_of_append (render_lt_of_cons (render_lt_of_cons hlen))
    rw [hsplit]
    exact sepTail_cons (seqSep_nlw (all_ms_blank z) ((layP_head hl).append _)) (by simp; omega)
      (chainP_lay hl n _ hl1.1 (restP_stop hrest hs)) (by simp) (ih n rest hl1.2 hs hend)

/-- `separated_list1(seq_sep, chain)` reads a layout of the sequence, up to a `rest` at which the
    list ends (`hend`) -/
theorem seqP_lay {z : Nat} {ts : List T} {ps : List Piece} (h : SeqP z ts ps) (n : Nat) (rest : Str)
    (hlen : (renderPieces ps).length < n) (hs : StopC rest)
    (hend : sepTail seqSep (chainP (termP n)) rest = .ok [] rest) :
    sepList1 seqSep (chainP (termP n)) (renderPieces ps ++ rest) = .ok ts rest := by
  obtain ⟨b, t, ts', p1, rs, rfl, rfl, hl, hrest⟩ := h
  have hl1 := render_lt_of_append hlen
  rw [renderPieces_append, List.append_assoc]
  exact sepList1_cons (chainP_lay hl n _ hl1.1 (restP_stop hrest hs)) (rest_lay hrest n rest hl1.2 hs hend)

end QM.Frag
