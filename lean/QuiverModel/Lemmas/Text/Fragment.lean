import QuiverModel.Lemmas.Text.Pieces
import QuiverModel.Lemmas.Text.Escape
import QuiverModel.Lemmas.Parse.Eval
/-
Lemmas for the fragment model (Core/Text/Fragment):

  * `LayP` / `TailP` / `LayF` / `ItemsP` — the LANGUAGE OF LAYOUTS of a fragment term, of the further
    terms of a chain, of a field and of a field list, on the level of printed pieces: a tuple is either
    flat (`A[a, x: b]`) or broken (`A[⏎a,⏎x: b,⏎]`, with a trailing comma), each tuple independently;
  * layouts are tidy (no white space before a line break or at the end) and NUL-free, so
    `strip_trailing_whitespace`, `collapse_blanks`, `expand_literals` leave them alone (Pieces.lean);
  * `flatPs` — the flat layout, which is what `pretty::flatten` returns (`flatten_termDoc`);
  * `printLoop_term` — whatever the width, the column, the indentation, the enclosing mode and the
    rest of the stack, the layout engine prints `termDoc t` as (the text of) one of the layouts of `t`
    and goes on with the rest of the stack;
  * `Stop` / `StopC` — what may follow a term / a chain in the text; `termP_lay`, `chainP_lay` — the
    fragment parser reads every layout of `t` back as `t` before such a rest.

Facts about all terms go by `T.ind` (the hypothesis for a tuple covers the values of its fields, the
one for a chain its terms), facts about all layouts by `LayP.ind` (the four layout relations at once).
-/
namespace QM.Frag
open QM.Text QM.Parse

/-- the text of a leaf printed as one atom: a literal (`render_literal`) or an access with accessors
    (`render_access`) -/
inductive LitText : T → Str → Prop
  | int (i : Int) : LitText (.int i) (intText i)
  | bin {bs : List Nat} : (∀ b ∈ bs, b < 256) → LitText (.bin bs) (binText bs)
  | str (v : Str) : LitText (.str v) (strText v)
  | acc {n : Str} {p : List Acc} : T.WF (.acc n p) → LitText (.acc n p) (accessText n p)

theorem escapeSingle_head (v x : Str) : headAll (· ≠ '"') (escapeSingle v ++ x) = true ∨ v = [] := by
  cases v with
  | nil => exact .inr rfl
  | cons c v =>
    left
    rcases escapeSingle_cons c v with ⟨_, _, e⟩ | ⟨⟨_, h2, _⟩, e⟩
    · rw [e]; rfl
    · rw [e]; simpa [headAll] using h2

theorem strText_quoted (v : Str) : quotedAtom (strText v) = true := by
  have h := escapeSingle_clean v
  simp only [quotedAtom, strText, List.head?_cons, beq_self_eq_true, Bool.true_and, Bool.and_eq_true]
  refine ⟨?_, ?_⟩
  · rw [show '"' :: (escapeSingle v ++ ['"']) = ('"' :: escapeSingle v) ++ ['"'] from rfl,
      List.getLast?_append]
    rfl
  · simp only [List.all_cons, List.all_append, h]
    decide

theorem hexChar_facts : ∀ k : Fin 16, QM.hexDigit (QM.hexChar k.val) = some k.val ∧
    isIdentBody (QM.hexChar k.val) = true := by decide

theorem hexText_all {p : Char → Bool} (hp : ∀ k : Fin 16, p (QM.hexChar k.val) = true) :
    ∀ (bs : List Nat), (∀ b ∈ bs, b < 256) → (hexText bs).all p = true
  | [], _ => rfl
  | b :: bs, h => by
    have hb := h b (by simp)
    have h1 := hp ⟨b / 16, by omega⟩
    have h2 := hp ⟨b % 16, by omega⟩
    simp only [hexText, List.all_cons, h1, h2, Bool.true_and]
    exact hexText_all hp bs (fun x hx => h x (by simp [hx]))

theorem parseHexNat_hexText : ∀ (bs : List Nat), (∀ b ∈ bs, b < 256) → QM.parseHexNat (hexText bs) = some bs
  | [], _ => rfl
  | b :: bs, h => by
    have hb := h b (by simp)
    have h1 := (hexChar_facts ⟨b / 16, by omega⟩).1
    have h2 := (hexChar_facts ⟨b % 16, by omega⟩).1
    simp only [hexText, QM.parseHexNat, h1, h2, parseHexNat_hexText bs (fun x hx => h x (by simp [hx]))]
    congr 2
    omega

theorem pathText_all {q : Char → Bool} (hdot : q '.' = true) (hdig : ∀ c, isDigit c = true → q c = true)
    (hid : ∀ f : Str, isIdentStr f = true → f.all q = true) : ∀ (p : List Acc),
    (∀ a ∈ p, match a with
      | .field f => isIdentStr f = true
      | .index i => i < 2 ^ 64) → (pathText p).all q = true
  | [], _ => rfl
  | a :: p, h => by
    have ha := h a (by simp)
    have ih := pathText_all hdot hdig hid p (fun x hx => h x (by simp [hx]))
    cases a with
    | field f => simp only [pathText, accText, List.cons_append, List.all_cons, List.all_append, hdot, hid f ha, ih,
        Bool.and_self]
    | index i =>
      have hd : (Parse.natDigits i).all q = true := by
        have := (natDigits_spec i).1
        simp only [List.all_eq_true] at this ⊢
        exact fun c hc => hdig c (this c hc)
      simp only [pathText, accText, List.cons_append, List.all_cons, List.all_append, hdot, hd, ih, Bool.and_self]

theorem lit_all {q : Char → Bool} (hbody : ∀ c, isIdentBody c = true → q c = true) (hm : q '-' = true)
    (hdot : q '.' = true) (h1 : q '?' = true) (h2 : q '!' = true) {t : T} {s : Str} (h : LitText t s) :
    (∃ v, s = strText v) ∨ (s ≠ [] ∧ s.all q = true) := by
  have hdig : ∀ c, isDigit c = true → q c = true := fun c hc => hbody c (by simp [isIdentBody, hc])
  cases h with
  | str v => exact .inl ⟨v, rfl⟩
  | int i =>
    obtain ⟨hd, hne, _⟩ := natDigits_spec i.natAbs
    have : (Parse.natDigits i.natAbs).all q = true :=
      List.all_eq_true.mpr fun c hc => hdig c (List.all_eq_true.mp hd c hc)
    right
    unfold intText
    split
    · exact ⟨by simp, by rw [List.all_cons, hm, this]; rfl⟩
    · exact ⟨hne, this⟩
  | bin hb =>
    have := hexText_all (p := q) (fun k => hbody _ (hexChar_facts k).2) _ hb
    exact .inr ⟨by simp [binText], by
      rw [binText, List.all_cons, List.all_cons, this, hbody '0' (by decide), hbody 'x' (by decide)]; rfl⟩
  | @acc n p hwf =>
    obtain ⟨hn, _, hp⟩ := hwf
    have hid : ∀ f : Str, isIdentStr f = true → f.all q = true := fun f hf => ident_all hbody h1 h2 hf
    obtain ⟨c, r, rfl, _⟩ := isIdentStr_head hn
    exact .inr ⟨by simp [accessText], by
      rw [accessText, List.all_append, hid _ hn, pathText_all hdot hdig hid p hp]; rfl⟩

theorem lit_ok {t : T} {s : Str} (h : LitText t s) : okAtom s = true := by
  rcases lit_all (q := fun c => !isWhitespace c) (fun c hc => by simp [not_ws_of_identBody hc]) (by decide)
    (by decide) (by decide) (by decide) h with ⟨v, rfl⟩ | ⟨hne, hall⟩
  · simp [okAtom, strText_quoted v]
  · simp [okAtom, goodAtom, hne, hall]

theorem lit_nulAtom {t : T} {s : Str} (h : LitText t s) : nulAtom s = true := by
  rcases lit_all (q := (· ≠ '\x00')) (fun c hc => by
      simp only [decide_eq_true_eq]; rintro rfl; exact absurd hc (by decide))
    (by decide) (by decide) (by decide) (by decide) h with ⟨v, rfl⟩ | ⟨_, hall⟩
  · simp [nulAtom, strText]
  · exact nulAtom_of_all hall

theorem intText_head (i : Int) : ∃ c r, intText i = c :: r ∧ (isDigit c = true ∨ c = '-') := by
  obtain ⟨h1, h2, _⟩ := natDigits_spec i.natAbs
  unfold intText
  split
  · exact ⟨'-', _, rfl, .inr rfl⟩
  · cases hd : Parse.natDigits i.natAbs with
    | nil => exact absurd hd h2
    | cons c r =>
      rw [hd] at h1
      simp only [List.all_cons, Bool.and_eq_true] at h1
      exact ⟨c, r, rfl, .inl h1.1⟩

theorem lit_head {t : T} {s : Str} (h : LitText t s) (hna : ∀ n p, t ≠ .acc n p) :
    ∃ c r, s = c :: r ∧ (isDigit c = true ∨ c = '-' ∨ c = '"') := by
  cases h with
  | acc _ => exact (hna _ _ rfl).elim
  | int i =>
    obtain ⟨c, r, e, hc⟩ := intText_head i
    exact ⟨c, r, e, hc.imp_right .inl⟩
  | bin hb => exact ⟨'0', _, rfl, .inl (by decide)⟩
  | str v => exact ⟨'"', _, rfl, .inr (.inr rfl)⟩

theorem wfTerms_mem : ∀ (l : List T), T.WFTerms l → ∀ h ∈ l, isPrim h = true ∧ T.WF h
  | [], _, _, hh => by simp at hh
  | t :: l, hwf, h, hh => by
    rcases List.mem_cons.mp hh with rfl | hh
    · exact hwf.1
    · exact wfTerms_mem l hwf.2 h hh

theorem wfList_mem : ∀ (fs : List F), F.WFList fs → ∀ f ∈ fs, F.WF f
  | [], _, _, hf => by simp at hf
  | g :: fs, hwf, f, hf => by
    rcases List.mem_cons.mp hf with rfl | hf
    · exact hwf.1
    · exact wfList_mem fs hwf.2 f hf

theorem T.ind {P : T → Prop} (leaf : ∀ n, P (.leaf n)) (acc : ∀ n p, P (.acc n p)) (int : ∀ i, P (.int i))
    (bin : ∀ bs, P (.bin bs)) (str : ∀ v, P (.str v))
    (tup : ∀ name fs, (∀ l t, F.mk l t ∈ fs → P t) → P (.tup name fs))
    (chain : ∀ t more, P t → (∀ u ∈ more, P u) → P (.chain t more)) (t : T) : P t :=
  T.rec (motive_1 := P) (motive_2 := fun f => ∀ l t, f = .mk l t → P t)
    (motive_3 := fun fs => ∀ l t, F.mk l t ∈ fs → P t) (motive_4 := fun ts => ∀ u ∈ ts, P u)
    leaf acc int bin str tup chain
    (fun _ _ ih _ _ e => by cases e; exact ih)
    (fun _ _ h => by simp at h)
    (fun _ _ ihf ihfs l t h => by
      rcases List.mem_cons.mp h with e | h
      · exact ihf l t e.symm
      · exact ihfs l t h)
    (fun _ h => by simp at h)
    (fun _ _ ihu ihus v h => by
      rcases List.mem_cons.mp h with rfl | h
      · exact ihu
      · exact ihus v h)
    t

mutual
/-- the layouts of a term or chain: one atom for a leaf, a tuple flat or broken (line breaks at any
    indentation `k1`, `k2`, trailing comma), a chain its first term and then `TailP` -/
inductive LayP : T → List Piece → Prop
  | leaf {n : Str} : isIdentStr n = true → LayP (.leaf n) [.atom n]
  | lit {t : T} {s : Str} : LitText t s → LayP t [.atom s]
  | empty {name : Option Str} : optOk isTupleNameStr name → LayP (.tup name []) [.atom (emptyText name)]
  | flat {name : Option Str} {f : F} {fs : List F} {items : List Piece} :
      optOk isTupleNameStr name → ItemsP false (f :: fs) items →
      LayP (.tup name (f :: fs)) (.atom (openText name) :: (items ++ [.atom [']']]))
  | brk {name : Option Str} {f : F} {fs : List F} {items : List Piece} (k1 k2 : Nat) :
      optOk isTupleNameStr name → ItemsP true (f :: fs) items →
      LayP (.tup name (f :: fs))
        (.atom (openText name) :: .nl k1 :: (items ++ [.atom [','], .nl k2, .atom [']']]))
  | chain {t u : T} {us : List T} {ps rest : List Piece} :
      isPrim t = true → LayP t ps → TailP (u :: us) rest → LayP (.chain t (u :: us)) (ps ++ rest)
/-- the further terms of a chain, each behind one space -/
inductive TailP : List T → List Piece → Prop
  | nil : TailP [] []
  | cons {u : T} {us : List T} {ps rest : List Piece} :
      isPrim u = true → LayP u ps → TailP us rest → TailP (u :: us) (.sp :: (ps ++ rest))
  /-- the continuation line of a broken pipeline: `⏎~> term` -/
  | pipe {u : T} {us : List T} {ps rest : List Piece} (k : Nat) :
      isPrim u = true → LayP u ps → TailP us rest →
      TailP (u :: us) (.nl k :: .atom ['~', '>'] :: .sp :: (ps ++ rest))
/-- a field: its value, behind `label:` and a space if it is named (the formatter prints the label
    as ONE text `label: `; the layout keeps the space apart — same text, see `PrintsAs`) -/
inductive LayF : F → List Piece → Prop
  | unnamed {t : T} {ps : List Piece} : LayP t ps → LayF (.mk none t) ps
  | named {l : Str} {t : T} {ps : List Piece} : isIdentStr l = true → LayP t ps →
      LayF (.mk (some l) t) (.atom (l ++ [':']) :: .sp :: ps)
/-- the fields of a tuple with `, ` between them (`false`: the tuple is flat) or `,` and a line break
    (`true`: broken) -/
inductive ItemsP : Bool → List F → List Piece → Prop
  | one {b : Bool} {f : F} {ps : List Piece} : LayF f ps → ItemsP b [f] ps
  | consFlat {f g : F} {fs : List F} {ps rest : List Piece} :
      LayF f ps → ItemsP false (g :: fs) rest → ItemsP false (f :: g :: fs) (ps ++ .atom [','] :: .sp :: rest)
  | consBrk {f g : F} {fs : List F} {ps rest : List Piece} (k : Nat) :
      LayF f ps → ItemsP true (g :: fs) rest → ItemsP true (f :: g :: fs) (ps ++ .atom [','] :: .nl k :: rest)
end

theorem LayP.ind {P : T → List Piece → Prop} {Q : List T → List Piece → Prop} {R : F → List Piece → Prop}
    {S : Bool → List F → List Piece → Prop}
    (leaf : ∀ {n}, isIdentStr n = true → P (.leaf n) [.atom n])
    (lit : ∀ {t s}, LitText t s → P t [.atom s])
    (empty : ∀ {name}, optOk isTupleNameStr name → P (.tup name []) [.atom (emptyText name)])
    (flat : ∀ {name f fs items}, optOk isTupleNameStr name → ItemsP false (f :: fs) items →
      S false (f :: fs) items → P (.tup name (f :: fs)) (.atom (openText name) :: (items ++ [.atom [']']])))
    (brk : ∀ {name f fs items} (k1 k2 : Nat), optOk isTupleNameStr name → ItemsP true (f :: fs) items →
      S true (f :: fs) items →
      P (.tup name (f :: fs)) (.atom (openText name) :: .nl k1 :: (items ++ [.atom [','], .nl k2, .atom [']']])))
    (chain : ∀ {t u us ps rest}, isPrim t = true → LayP t ps → TailP (u :: us) rest → P t ps →
      Q (u :: us) rest → P (.chain t (u :: us)) (ps ++ rest))
    (tnil : Q [] [])
    (tcons : ∀ {u us ps rest}, isPrim u = true → LayP u ps → TailP us rest → P u ps → Q us rest →
      Q (u :: us) (.sp :: (ps ++ rest)))
    (pipe : ∀ {u us ps rest} (k : Nat), isPrim u = true → LayP u ps → TailP us rest → P u ps → Q us rest →
      Q (u :: us) (.nl k :: .atom ['~', '>'] :: .sp :: (ps ++ rest)))
    (unnamed : ∀ {t ps}, LayP t ps → P t ps → R (.mk none t) ps)
    (named : ∀ {l t ps}, isIdentStr l = true → LayP t ps → P t ps →
      R (.mk (some l) t) (.atom (l ++ [':']) :: .sp :: ps))
    (one : ∀ {b f ps}, LayF f ps → R f ps → S b [f] ps)
    (consFlat : ∀ {f g fs ps rest}, LayF f ps → ItemsP false (g :: fs) rest → R f ps → S false (g :: fs) rest →
      S false (f :: g :: fs) (ps ++ .atom [','] :: .sp :: rest))
    (consBrk : ∀ {f g fs ps rest} (k : Nat), LayF f ps → ItemsP true (g :: fs) rest → R f ps →
      S true (g :: fs) rest → S true (f :: g :: fs) (ps ++ .atom [','] :: .nl k :: rest)) :
    (∀ {t ps}, LayP t ps → P t ps) ∧ (∀ {us ps}, TailP us ps → Q us ps) ∧ (∀ {f ps}, LayF f ps → R f ps) ∧
      ∀ {b fs ps}, ItemsP b fs ps → S b fs ps :=
  ⟨fun h => LayP.rec (motive_1 := fun t ps _ => P t ps) (motive_2 := fun us ps _ => Q us ps)
      (motive_3 := fun f ps _ => R f ps) (motive_4 := fun b fs ps _ => S b fs ps)
      leaf lit empty flat brk chain tnil tcons pipe unnamed named one consFlat consBrk h,
    fun h => TailP.rec (motive_1 := fun t ps _ => P t ps) (motive_2 := fun us ps _ => Q us ps)
      (motive_3 := fun f ps _ => R f ps) (motive_4 := fun b fs ps _ => S b fs ps)
      leaf lit empty flat brk chain tnil tcons pipe unnamed named one consFlat consBrk h,
    fun h => LayF.rec (motive_1 := fun t ps _ => P t ps) (motive_2 := fun us ps _ => Q us ps)
      (motive_3 := fun f ps _ => R f ps) (motive_4 := fun b fs ps _ => S b fs ps)
      leaf lit empty flat brk chain tnil tcons pipe unnamed named one consFlat consBrk h,
    fun h => ItemsP.rec (motive_1 := fun t ps _ => P t ps) (motive_2 := fun us ps _ => Q us ps)
      (motive_3 := fun f ps _ => R f ps) (motive_4 := fun b fs ps _ => S b fs ps)
      leaf lit empty flat brk chain tnil tcons pipe unnamed named one consFlat consBrk h⟩

/-- What the print lemmas say about a document `d`: in every context the engine prints pieces with
    the TEXT of some piece list in `Lay` (the pieces themselves may be cut differently: `x: ` is one
    atom for the engine, an atom and a space in the layout), then goes on with the rest of the stack. -/
def PrintsAs (d : Doc) (Lay : List Piece → Prop) : Prop :=
  ∀ (w col i : Nat) (m : Mode) (st : List Frame),
    ∃ ps' ps col', printLoop w col (⟨i, m, d⟩ :: st) [] = ps' ++ printLoop w col' st [] ∧
      renderPieces ps' = renderPieces ps ∧ Lay ps

theorem PrintsAs.mono {d : Doc} {Lay Lay' : List Piece → Prop} (h : PrintsAs d Lay)
    (himp : ∀ ps, Lay ps → Lay' ps) : PrintsAs d Lay' := by
  intro w col i m st
  obtain ⟨ps', ps, col', hp, hr, hl⟩ := h w col i m st
  exact ⟨ps', ps, col', hp, hr, himp ps hl⟩

/-- what the print lemmas say about a list of documents pushed as frames of one mode -/
def FramesPrintAs (ds : List Doc) (Lay : List Piece → Prop) : Prop :=
  ∀ (w col i : Nat) (m : Mode) (st : List Frame),
    ∃ ps' ps col', printLoop w col (mkFrames i m ds ++ st) [] = ps' ++ printLoop w col' st [] ∧
      renderPieces ps' = renderPieces ps ∧ Lay ps

/-- `chain_doc`'s wrapping (`concat [prefix, group(break_if_wider_than(concat parts, 50))]`) adds
    nothing to what the parts print -/
theorem printsAs_groupChain {ds : List Doc} {Lay : List Piece → Prop} (h : FramesPrintAs ds Lay) :
    PrintsAs (.concat [.nil, Doc.mkGroup (breakIfWiderThan (.concat ds) chainSoftWidth)]) Lay := by
  intro w col i m st
  simp only [pl_concat, mkFrames, List.cons_append, List.nil_append, pl_nil, Doc.mkGroup]
  obtain ⟨m', hg⟩ := pl_group w col i m st _ _
  rw [hg]
  unfold breakIfWiderThan
  split
  · rw [pl_concat]
    exact h w col i m' st
  · simp only [pl_concat, mkFrames, List.cons_append, List.nil_append]
    obtain ⟨ps', ps, col', hp, hr, hl⟩ := h w col i m' (⟨i, m', .breakParent⟩ :: st)
    exact ⟨ps', ps, col', by rw [hp, pl_bp], hr, hl⟩

theorem printsAs_chainDoc {d : Doc} {Lay : List Piece → Prop} (h : PrintsAs d Lay) :
    PrintsAs (chainDoc d) Lay :=
  printsAs_groupChain (ds := [d]) h

/-- `field_doc` without trivia adds nothing to what the value prints -/
theorem printsAs_fieldDoc {d : Doc} {Lay : List Piece → Prop} (h : PrintsAs d Lay) :
    PrintsAs (fieldDoc d) Lay := by
  intro w col i m st
  simp only [fieldDoc, pl_concat, mkFrames, List.cons_append, List.nil_append, pl_nil]
  obtain ⟨ps', ps, col', hp, hr, hl⟩ := h w col i m (⟨i, m, .nil⟩ :: st)
  exact ⟨ps', ps, col', by rw [hp, pl_nil], hr, hl⟩

theorem printsAs_labelled {d : Doc} {t : T} {l : Str} (hl : isIdentStr l = true)
    (h : PrintsAs d (LayP t)) :
    PrintsAs (.concat [.text (l ++ [':', ' ']), d]) (LayF (.mk (some l) t)) := by
  intro w col i m st
  simp only [pl_concat, mkFrames, List.cons_append, List.nil_append, pl_text]
  obtain ⟨ps', ps, col', hp, hr, hlay⟩ := h w _ i m st
  refine ⟨.atom (l ++ [':', ' ']) :: ps', .atom (l ++ [':']) :: .sp :: ps, col', by rw [hp]; rfl, ?_,
    .named hl hlay⟩
  simp [renderPieces, Piece.render, hr]

/-- what `printLoop_items` says about the field documents of the fields `fs` -/
def ItemsPrintAs (fs : List F) : Prop :=
  ∀ (w col i : Nat) (m : Mode) (st : List Frame),
    ∃ ps' ps col', printLoop w col (mkFrames i m (Doc.joinList sepDoc (fieldDocs fs)) ++ st) [] =
        ps' ++ printLoop w col' st [] ∧ renderPieces ps' = renderPieces ps ∧ ItemsP (isBrk m) fs ps

theorem itemsPrintAs_one {f : F} (h : PrintsAs (fieldDocOf f) (LayF f)) : ItemsPrintAs [f] := by
  intro w col i m st
  simp only [fieldDocs, Doc.joinList, mkFrames, List.cons_append, List.nil_append]
  obtain ⟨ps', ps, col', hp, hr, hl⟩ := h w col i m st
  exact ⟨ps', ps, col', hp, hr, .one hl⟩

theorem itemsPrintAs_cons {f g : F} {fs : List F} (h : PrintsAs (fieldDocOf f) (LayF f))
    (ht : ItemsPrintAs (g :: fs)) : ItemsPrintAs (f :: g :: fs) := by
  intro w col i m st
  have hj : Doc.joinList sepDoc (fieldDocs (f :: g :: fs)) =
      fieldDocOf f :: sepDoc :: Doc.joinList sepDoc (fieldDocs (g :: fs)) := by
    simp [fieldDocs, Doc.joinList]
  rw [hj]
  simp only [mkFrames, List.cons_append]
  obtain ⟨ps', ps, col1, hp, hr, hl⟩ := h w col i m _
  rw [hp]
  cases m with
  | flat =>
    rw [pl_sep_flat]
    obtain ⟨rest', rest, col2, hq, hr2, hi⟩ := ht w _ i .flat st
    rw [hq]
    exact ⟨ps' ++ .atom [','] :: .sp :: rest', ps ++ .atom [','] :: .sp :: rest, col2, by simp,
      by simp [renderPieces_append, renderPieces, hr, hr2], .consFlat hl hi⟩
  | brk =>
    rw [pl_sep_brk]
    obtain ⟨rest', rest, col2, hq, hr2, hi⟩ := ht w _ i .brk st
    rw [hq]
    exact ⟨ps' ++ .atom [','] :: .nl i :: rest', ps ++ .atom [','] :: .nl i :: rest, col2, by simp,
      by simp [renderPieces_append, renderPieces, hr, hr2], .consBrk i hl hi⟩

theorem printsAs_bracketed {name : Option Str} {f : F} {fs : List F} (hn : optOk isTupleNameStr name)
    (h : ItemsPrintAs (f :: fs)) :
    PrintsAs (bracketed (openText name) (fieldDocs (f :: fs))) (LayP (.tup name (f :: fs))) := by
  intro w col i m st
  unfold bracketed Doc.mkGroup
  obtain ⟨m', hg⟩ := pl_group w col i m st _ _
  rw [hg]
  cases m' with
  | flat =>
    simp only [pl_concat, mkFrames, List.cons_append, List.nil_append, pl_text, pl_nest,
      pl_softline_flat, Doc.join]
    obtain ⟨items', items, col1, hp, hr, hi⟩ := h w _ (i + 2) .flat _
    rw [show Doc.concat [Doc.text [','], Doc.line] = sepDoc from rfl, hp]
    simp only [pl_ifBreak_flat, pl_nil, pl_softline_flat, pl_text]
    exact ⟨.atom (openText name) :: (items' ++ [.atom [']']]), .atom (openText name) :: (items ++ [.atom [']']]),
      col1 + [']'].length, by simp, by simp [renderPieces_append, renderPieces, hr], .flat hn hi⟩
  | brk =>
    simp only [pl_concat, mkFrames, List.cons_append, List.nil_append, pl_text, pl_nest,
      pl_softline_brk, Doc.join]
    obtain ⟨items', items, col1, hp, hr, hi⟩ := h w _ (i + 2) .brk _
    rw [show Doc.concat [Doc.text [','], Doc.line] = sepDoc from rfl, hp]
    simp only [pl_ifBreak_brk, pl_softline_brk, pl_text]
    exact ⟨.atom (openText name) :: .nl (i + 2) :: (items' ++ [.atom [','], .nl i, .atom [']']]),
      .atom (openText name) :: .nl (i + 2) :: (items ++ [.atom [','], .nl i, .atom [']']]),
      i + [']'].length, by simp, by simp [renderPieces_append, renderPieces, hr], .brk (i + 2) i hn hi⟩

theorem upper_ne {c : Char} (h : isUpper c = true) (d : Char) (hd : d.toNat < 65 ∨ 90 < d.toNat) : c ≠ d := by
  intro e; subst e
  simp only [isUpper, Bool.and_eq_true, decide_eq_true_eq] at h
  omega

theorem identBody_of_upper {c : Char} (h : isUpper c = true) : isIdentBody c = true := by
  simp [isIdentBody, h]

theorem identBody_ne_nul {c : Char} (h : isIdentBody c = true) : c ≠ '\x00' := by
  intro e; rw [e] at h; exact absurd h (by decide)

theorem goodAtom_tupleName {n : Str} (h : isTupleNameStr n = true) : goodAtom n = true := by
  obtain ⟨c, r, rfl, hc, hr⟩ := isTupleNameStr_head h
  have hr : r.all (fun c => !isWhitespace c) = true := by
    simp only [List.all_eq_true, Bool.not_eq_true'] at hr ⊢
    intro x hx; exact not_ws_of_identBody (hr x hx)
  simp [goodAtom, not_ws_of_identBody (identBody_of_upper hc), hr]

theorem tupleName_nulFree {n : Str} (h : isTupleNameStr n = true) : n.all (· ≠ '\x00') = true := by
  obtain ⟨c, r, rfl, hc, hr⟩ := isTupleNameStr_head h
  simp only [List.all_cons, Bool.and_eq_true, decide_eq_true_eq, List.all_eq_true]
  exact ⟨identBody_ne_nul (identBody_of_upper hc), fun x hx => identBody_ne_nul ((List.all_eq_true.mp hr) x hx)⟩

theorem goodAtom_snoc {a : Str} {c : Char} (h : goodAtom a = true) (hc : isWhitespace c = false) :
    goodAtom (a ++ [c]) = true := by
  simp only [goodAtom, Bool.and_eq_true, Bool.not_eq_true', List.isEmpty_eq_false_iff] at h ⊢
  refine ⟨by simp, ?_⟩
  rw [List.all_append, h.2]; simp [hc]

theorem good_empty {name : Option Str} (hn : optOk isTupleNameStr name) : goodAtom (emptyText name) = true := by
  cases name with
  | none => decide
  | some n => exact goodAtom_tupleName hn

theorem good_open {name : Option Str} (hn : optOk isTupleNameStr name) : goodAtom (openText name) = true := by
  cases name with
  | none => decide
  | some n => exact goodAtom_snoc (goodAtom_tupleName hn) (by decide)

theorem nul_empty {name : Option Str} (hn : optOk isTupleNameStr name) :
    (emptyText name).all (· ≠ '\x00') = true := by
  cases name with
  | none => decide
  | some n => exact tupleName_nulFree hn

theorem nul_open {name : Option Str} (hn : optOk isTupleNameStr name) :
    (openText name).all (· ≠ '\x00') = true := by
  cases name with
  | none => decide
  | some n =>
    simp only [openText, Option.getD_some, List.all_append, tupleName_nulFree hn]
    decide

/-- a piece list that is tidy behind whatever ends in an atom or a gap, and before anything tidy -/
def TidyBlockStart (p : List Piece) : Prop :=
  ∀ (b : Bool) (r : List Piece), tidyPs true r = true → tidyPs b (p ++ r) = true

theorem lay_tidy :
    (∀ {t ps}, LayP t ps → TidyBlockStart ps) ∧
    (∀ {us ps}, TailP us ps → ∀ r, tidyPs true r = true → tidyPs true (ps ++ r) = true) ∧
    (∀ {f ps}, LayF f ps → TidyBlockStart ps) ∧ ∀ {bk fs ps}, ItemsP bk fs ps → TidyBlockStart ps := by
  have hclose : goodAtom [']'] = true := by decide
  have hcomma : goodAtom [','] = true := by decide
  refine LayP.ind (Q := fun _ ps => ∀ r, tidyPs true r = true → tidyPs true (ps ++ r) = true)
    (S := fun _ _ ps => TidyBlockStart ps) ?leaf ?lit ?empty ?flat ?brk ?chain ?tnil ?tcons ?pipe ?unnamed ?named
    ?one ?consFlat ?consBrk
  case leaf => exact fun hn b r hr => by simp [tidyPs, okAtom, goodAtom_ident hn, hr]
  case lit => exact fun hl b r hr => by simp [tidyPs, lit_ok hl, hr]
  case empty => exact fun hn b r hr => by simp [tidyPs, okAtom, good_empty hn, hr]
  case flat =>
    intro _ _ _ _ hn _ ih b r hr
    have := ih true (.atom [']'] :: r) (by simp [tidyPs, okAtom, hclose, hr])
    simpa [tidyPs, okAtom, good_open hn] using this
  case brk =>
    intro _ _ _ _ k1 k2 hn _ ih b r hr
    have := ih false (.atom [','] :: .nl k2 :: .atom [']'] :: r) (by simp [tidyPs, okAtom, hclose, hcomma, hr])
    simpa [tidyPs, okAtom, good_open hn] using this
  case chain =>
    intro _ _ _ _ _ _ _ _ ihl iht b r hr
    simpa using ihl b (_ ++ r) (iht r hr)
  case tnil => exact fun r hr => hr
  case tcons =>
    intro _ _ _ _ _ _ _ ihl iht r hr
    simpa [tidyPs] using ihl false (_ ++ r) (iht r hr)
  case pipe =>
    intro _ _ _ _ k _ _ _ ihl iht r hr
    have h1 : goodAtom ['~', '>'] = true := by decide
    simpa [tidyPs, okAtom, h1] using ihl false (_ ++ r) (iht r hr)
  case unnamed => exact fun _ ih => ih
  case named =>
    intro _ _ _ hn _ ih b r hr
    simpa [tidyPs, okAtom, goodAtom_snoc (goodAtom_ident hn) (show isWhitespace ':' = false by decide)]
      using ih false r hr
  case one => exact fun _ ih => ih
  case consFlat =>
    intro _ _ _ _ _ _ _ ihl ihi b r hr
    have := ihl b (.atom [','] :: .sp :: (_ ++ r)) (by simpa [tidyPs, okAtom, hcomma] using ihi false r hr)
    simpa using this
  case consBrk =>
    intro _ _ _ _ _ k _ _ ihl ihi b r hr
    have := ihl b (.atom [','] :: .nl k :: (_ ++ r)) (by simpa [tidyPs, okAtom, hcomma] using ihi false r hr)
    simpa using this

theorem layP_tidy : ∀ {t : T} {ps : List Piece}, LayP t ps →
    ∀ (b : Bool) (r : List Piece), tidyPs true r = true → tidyPs b (ps ++ r) = true := lay_tidy.1
theorem tailP_tidy : ∀ {us : List T} {ps : List Piece}, TailP us ps →
    ∀ (r : List Piece), tidyPs true r = true → tidyPs true (ps ++ r) = true := lay_tidy.2.1
theorem layF_tidy : ∀ {f : F} {ps : List Piece}, LayF f ps →
    ∀ (b : Bool) (r : List Piece), tidyPs true r = true → tidyPs b (ps ++ r) = true := lay_tidy.2.2.1
theorem itemsP_tidy : ∀ {bk : Bool} {fs : List F} {ps : List Piece}, ItemsP bk fs ps →
    ∀ (b : Bool) (r : List Piece), tidyPs true r = true → tidyPs b (ps ++ r) = true := lay_tidy.2.2.2
theorem nulAtom_comma : nulAtom [','] = true := by decide
theorem nulAtom_close : nulAtom [']'] = true := by decide

theorem lay_nulFree :
    (∀ {t ps}, LayP t ps → nulFree ps = true) ∧ (∀ {us ps}, TailP us ps → nulFree ps = true) ∧
    (∀ {f ps}, LayF f ps → nulFree ps = true) ∧ ∀ {bk fs ps}, ItemsP bk fs ps → nulFree ps = true := by
  refine LayP.ind (Q := fun _ ps => nulFree ps = true) (S := fun _ _ ps => nulFree ps = true)
    ?leaf ?lit ?empty ?flat ?brk ?chain ?tnil ?tcons ?pipe ?unnamed ?named ?one ?consFlat ?consBrk
  case leaf => exact fun hn => by simp only [nulFree, nulAtom_of_all (ident_nulFree hn), Bool.and_self]
  case lit => exact fun hl => by simp only [nulFree, lit_nulAtom hl, Bool.and_self]
  case empty => exact fun hn => by simp only [nulFree, nulAtom_of_all (nul_empty hn), Bool.and_self]
  case flat =>
    exact fun hn _ ih => by
      simp only [nulFree, nulFree_append, ih, nulAtom_of_all (nul_open hn), nulAtom_close, Bool.and_self]
  case brk =>
    exact fun _ _ hn _ ih => by
      simp only [nulFree, nulFree_append, ih, nulAtom_of_all (nul_open hn), nulAtom_close, nulAtom_comma,
        Bool.and_self]
  case chain => exact fun _ _ _ ihl iht => by simp only [nulFree_append, ihl, iht, Bool.and_self]
  case tnil => rfl
  case tcons => exact fun _ _ _ ihl iht => by simp only [nulFree, nulFree_append, ihl, iht, Bool.and_self]
  case pipe =>
    exact fun _ _ _ _ ihl iht => by
      have h1 : nulAtom ['~', '>'] = true := by decide
      simp only [nulFree, nulFree_append, ihl, iht, h1, Bool.and_self]
  case unnamed => exact fun _ ih => ih
  case named =>
    exact fun hn _ ih => by
      have h1 : nulAtom (_ ++ [':']) = true :=
        nulAtom_of_all (by rw [List.all_append, ident_nulFree hn]; decide)
      simp only [nulFree, h1, ih, Bool.and_self]
  case one => exact fun _ ih => ih
  case consFlat =>
    exact fun _ _ ihl ihi => by simp only [nulFree, nulFree_append, ihl, ihi, nulAtom_comma, Bool.and_self]
  case consBrk =>
    exact fun _ _ _ ihl ihi => by simp only [nulFree, nulFree_append, ihl, ihi, nulAtom_comma, Bool.and_self]

theorem layP_nulFree : ∀ {t : T} {ps : List Piece}, LayP t ps → nulFree ps = true := lay_nulFree.1
theorem tailP_nulFree : ∀ {us : List T} {ps : List Piece}, TailP us ps → nulFree ps = true := lay_nulFree.2.1
theorem layF_nulFree : ∀ {f : F} {ps : List Piece}, LayF f ps → nulFree ps = true := lay_nulFree.2.2.1
theorem itemsP_nulFree : ∀ {bk : Bool} {fs : List F} {ps : List Piece}, ItemsP bk fs ps → nulFree ps = true :=
  lay_nulFree.2.2.2

/-- the text of a layout is what `print` returns for it -/
theorem strip_layP {t : T} {ps : List Piece} (h : LayP t ps) :
    stripTrailingWhitespace (renderPieces ps) = renderPieces ps := by
  have := layP_tidy h true [] rfl
  rw [List.append_nil] at this
  exact strip_renderPieces this

theorem post_passes_layP {t : T} {ps : List Piece} (h : LayP t ps) :
    collapseBlanks (renderPieces ps) = renderPieces ps ++ ['\n'] ∧
    expandLiterals (renderPieces ps ++ ['\n']) [] = some (renderPieces ps ++ ['\n']) := by
  have ht := layP_tidy h false [] rfl
  rw [List.append_nil] at ht
  exact post_passes ht (layP_nulFree h)

mutual
/-- the flat layout of a term or chain: everything on one line -/
def flatPs : T → List Piece
  | .leaf n => [.atom n]
  | .acc n p => [.atom (accessText n p)]
  | .int i => [.atom (intText i)]
  | .bin bs => [.atom (binText bs)]
  | .str v => [.atom (strText v)]
  | .tup name fs =>
    if fs.isEmpty then [.atom (emptyText name)] else .atom (openText name) :: (flatItems fs ++ [.atom [']']])
  | .chain t more => flatPs t ++ flatTail more
def flatTail : List T → List Piece
  | [] => []
  | u :: us => .sp :: (flatPs u ++ flatTail us)
def flatField : F → List Piece
  | .mk none t => flatPs t
  | .mk (some l) t => .atom (l ++ [':']) :: .sp :: flatPs t
def flatItems : List F → List Piece
  | [] => []
  | f :: fs => if fs.isEmpty then flatField f else flatField f ++ .atom [','] :: .sp :: flatItems fs
end

theorem flatField_of {l : Option Str} {t : T} (hl : optOk isIdentStr l) (h : LayP t (flatPs t)) :
    LayF (.mk l t) (flatField (.mk l t)) := by
  cases l with
  | none => exact .unnamed h
  | some l => exact .named hl h

theorem flatItems_of_all : ∀ (fs : List F), fs ≠ [] → (∀ f ∈ fs, LayF f (flatField f)) →
    ItemsP false fs (flatItems fs)
  | [], hne, _ => absurd rfl hne
  | [f], _, h => by simpa [flatItems] using ItemsP.one (b := false) (h f (by simp))
  | f :: g :: fs, _, h => by
    have := ItemsP.consFlat (h f (by simp)) (flatItems_of_all (g :: fs) (by simp) fun x hx => h x (by simp [hx]))
    simpa [flatItems] using this

theorem flatTail_of_all : ∀ (us : List T), (∀ u ∈ us, isPrim u = true ∧ LayP u (flatPs u)) →
    TailP us (flatTail us)
  | [], _ => .nil
  | u :: us, h =>
    .cons (h u (by simp)).1 (h u (by simp)).2 (flatTail_of_all us fun x hx => h x (by simp [hx]))

theorem flatPs_lay (t : T) : T.WF t → LayP t (flatPs t) := by
  induction t using T.ind with
  | leaf n => exact fun hwf => .leaf hwf
  | acc n p => exact fun hwf => .lit (.acc hwf)
  | int i => exact fun _ => .lit (.int i)
  | bin bs => exact fun hwf => .lit (.bin hwf)
  | str v => exact fun _ => .lit (.str v)
  | tup name fs ih =>
    intro hwf
    cases fs with
    | nil => exact .empty hwf.1
    | cons f fs =>
      refine .flat hwf.1 (flatItems_of_all _ (by simp) ?_)
      intro ⟨l, t⟩ hf
      have hw := wfList_mem _ hwf.2 _ hf
      exact flatField_of hw.1 (ih l t hf hw.2)
  | chain t more iht ihm =>
    intro hwf
    cases more with
    | nil => exact absurd rfl hwf.1
    | cons u us =>
      exact .chain hwf.2.1 (iht hwf.2.2.1) (flatTail_of_all _ fun v hv =>
        ⟨(wfTerms_mem _ hwf.2.2.2 v hv).1, ihm v hv (wfTerms_mem _ hwf.2.2.2 v hv).2⟩)

theorem flatTail_lay : (us : List T) → T.WFTerms us → TailP us (flatTail us) :=
  fun us hwf => flatTail_of_all us fun u hu => ⟨(wfTerms_mem us hwf u hu).1, flatPs_lay u (wfTerms_mem us hwf u hu).2⟩
theorem flatField_lay : (f : F) → F.WF f → LayF f (flatField f)
  | .mk _ t, hwf => flatField_of hwf.1 (flatPs_lay t hwf.2)
theorem flatItems_lay : (fs : List F) → fs ≠ [] → F.WFList fs → ItemsP false fs (flatItems fs) :=
  fun fs hne hwf => flatItems_of_all fs hne fun f hf => flatField_lay f (wfList_mem fs hwf f hf)

theorem flattenLoop_one (d : Doc) : flattenLoop [d] = flatText d := by
  rw [flattenLoop_eq, flatTextList, flatTextList, List.append_nil]

theorem flatText_groupChain (ds : List Doc) :
    flatText (.concat [.nil, Doc.mkGroup (breakIfWiderThan (.concat ds) chainSoftWidth)]) = flatTextList ds := by
  unfold breakIfWiderThan Doc.mkGroup
  split <;> simp [flatText, flatTextList]

theorem termDocs_eq_map (l : List T) : termDocs l = l.map termDoc := by
  induction l with
  | nil => rfl
  | cons t l ih => simp [termDocs, ih]

/-- the further terms of a chain whose last term has the layout `pl`, the others flat -/
def tailWith : List T → List Piece → List Piece
  | [], _ => []
  | u :: us, pl => if us.isEmpty then .sp :: pl else .sp :: (flatPs u ++ tailWith us pl)

theorem tailWith_cons_cons (u v : T) (vs : List T) (pl : List Piece) :
    tailWith (u :: v :: vs) pl = .sp :: (flatPs u ++ tailWith (v :: vs) pl) := by
  rw [tailWith]; simp

theorem tailWith_single (u : T) (pl : List Piece) : tailWith [u] pl = .sp :: pl := by
  rw [tailWith]; simp

theorem getLastD_termDocs (t : T) : ∀ (l : List T) (hne : l ≠ []),
    (termDoc t :: termDocs l).getLastD (termDoc t) = termDoc (l.getLast hne)
  | [], hne => absurd rfl hne
  | [u], _ => by simp [termDocs, List.getLastD]
  | u :: v :: vs, _ => by
    have := getLastD_termDocs u (v :: vs) (by simp)
    simp only [termDocs, List.getLast_cons_cons] at this ⊢
    simpa [List.getLastD] using this

theorem tailWith_lay : ∀ (us : List T) (hne : us ≠ []) (pl : List Piece), T.WFTerms us →
    LayP (us.getLast hne) pl → TailP us (tailWith us pl)
  | [], hne, _, _, _ => absurd rfl hne
  | [u], _, pl, hwf, hl => by
    have := TailP.cons hwf.1.1 (by simpa using hl) TailP.nil
    simpa [tailWith_single] using this
  | u :: v :: vs, _, pl, hwf, hl => by
    have ih := tailWith_lay (v :: vs) (by simp) pl hwf.2 (by simpa using hl)
    have := TailP.cons hwf.1.1 (flatPs_lay u hwf.1.2) ih
    rw [tailWith_cons_cons]; exact this

theorem tailWith_flat : ∀ (us : List T) (hne : us ≠ []), tailWith us (flatPs (us.getLast hne)) = flatTail us
  | [], hne => absurd rfl hne
  | [u], _ => by simp [tailWith_single, flatTail]
  | u :: v :: vs, _ => by
    have := tailWith_flat (v :: vs) (by simp)
    rw [tailWith_cons_cons, List.getLast_cons_cons, this]
    rfl

/-- the flattened head of `chain_doc` and the last term, as text -/
theorem headFlat_render : ∀ (t : T) (more : List T) (hne : more ≠ []) (pl : List Piece),
    (∀ h ∈ t :: more, flatten (termDoc h) = renderPieces (flatPs h)) →
    joinSp (((t :: more).map termDoc).dropLast.map flatten) ++ ' ' :: renderPieces pl =
      renderPieces (flatPs t ++ tailWith more pl)
  | t, [], hne, _, _ => absurd rfl hne
  | t, [u], _, pl, hf => by
    simp [List.dropLast, joinSp, hf t (by simp), tailWith_single, renderPieces_append, renderPieces, Piece.render]
  | t, u :: v :: vs, _, pl, hf => by
    have ih := headFlat_render u (v :: vs) (by simp) pl (fun h hh => hf h (by simp [hh]))
    have hd : ((t :: u :: v :: vs).map termDoc).dropLast =
        termDoc t :: ((u :: v :: vs).map termDoc).dropLast := by simp [List.dropLast]
    rw [hd, List.map_cons]
    have hne' : (((u :: v :: vs).map termDoc).dropLast.map flatten) ≠ [] := by simp [List.dropLast]
    have hj : ∀ (a : Str) (l : List Str), l ≠ [] → joinSp (a :: l) = a ++ ' ' :: joinSp l := by
      intro a l hl; cases l with | nil => exact absurd rfl hl | cons b l => rfl
    rw [hj _ _ hne', List.append_assoc, List.cons_append, ih, hf t (by simp), tailWith_cons_cons]
    simp [renderPieces_append, renderPieces, Piece.render]

theorem flatText_chainDocOf {t : T} (h : flatText (termDoc t) = renderPieces (flatPs t)) :
    flatText (if isPrim t = true then chainDoc (termDoc t) else termDoc t) = renderPieces (flatPs t) := by
  split
  · rw [chainDoc, flatText_groupChain, flatTextList, flatTextList, List.append_nil, h]
  · exact h

theorem flatText_field_of {l : Option Str} {t : T} (h : flatText (termDoc t) = renderPieces (flatPs t)) :
    flatText (fieldDocOf (.mk l t)) = renderPieces (flatField (.mk l t)) := by
  have hv := flatText_chainDocOf h
  cases l <;> simp [fieldDocOf, fieldDoc, flatField, flatText, flatTextList, hv, renderPieces, Piece.render]

theorem flatText_items_of_all : ∀ (fs : List F), fs ≠ [] →
    (∀ f ∈ fs, flatText (fieldDocOf f) = renderPieces (flatField f)) →
    flatTextList (Doc.joinList sepDoc (fieldDocs fs)) = renderPieces (flatItems fs)
  | [], hne, _ => absurd rfl hne
  | [f], _, h => by simp [fieldDocs, Doc.joinList, flatItems, flatTextList, h f]
  | f :: g :: fs, _, h => by
    have ih := flatText_items_of_all (g :: fs) (by simp) fun x hx => h x (by simp [hx])
    have hj : Doc.joinList sepDoc (fieldDocs (f :: g :: fs)) =
        fieldDocOf f :: sepDoc :: Doc.joinList sepDoc (fieldDocs (g :: fs)) := by
      simp [fieldDocs, Doc.joinList]
    rw [hj, flatTextList, flatTextList, h f (by simp), ih]
    simp [sepDoc, flatText, flatTextList, flatItems, renderPieces_append, renderPieces, Piece.render]

theorem flatText_parts_of_all : ∀ (more : List T), (∀ u ∈ more, flatText (termDoc u) = renderPieces (flatPs u)) →
    ∀ prev, flatTextList (chainParts prev (more.map isIdent) (termDocs more)) = renderPieces (flatTail more)
  | [], _, _ => by simp [chainParts, termDocs, flatTail, flatTextList, renderPieces]
  | u :: us, h, prev => by
    have ih := flatText_parts_of_all us (fun x hx => h x (by simp [hx])) (isIdent u)
    cases prev <;>
      simp [termDocs, chainParts, flatTail, flatTextList, flatText, h u, ih, renderPieces_append, renderPieces,
        Piece.render]

theorem flatText_term (t : T) : T.WF t → flatText (termDoc t) = renderPieces (flatPs t) := by
  have atom : ∀ s : Str, flatText (.text s) = renderPieces [.atom s] := fun s => (List.append_nil s).symm
  induction t using T.ind with
  | leaf n => exact fun _ => atom n
  | acc n p => exact fun _ => atom _
  | int i => exact fun _ => atom _
  | bin bs => exact fun _ => atom _
  | str v => exact fun _ => atom _
  | tup name fs ih =>
    intro hwf
    cases fs with
    | nil => exact atom _
    | cons f fs =>
      have hi := flatText_items_of_all (f :: fs) (by simp) fun ⟨l, t⟩ hf =>
        flatText_field_of (ih l t hf (wfList_mem _ hwf.2 _ hf).2)
      rw [show Doc.joinList sepDoc = Doc.joinList (.concat [.text [','], .line]) from rfl] at hi
      simp [termDoc, bracketed, Doc.mkGroup, Doc.join, flatText, flatTextList, hi, flatPs, renderPieces_append,
        renderPieces, Piece.render]
  | chain t more iht ihm =>
    intro hwf
    cases more with
    | nil => exact absurd rfl hwf.1
    | cons u us =>
    obtain ⟨_, hpt, hwt, hwm⟩ := hwf
    have hmore : ∀ v ∈ u :: us, flatText (termDoc v) = renderPieces (flatPs v) :=
      fun v hv => ihm v hv (wfTerms_mem _ hwm v hv).2
    simp only [termDoc, multiChainDoc, List.map_cons]
    split
    · -- the head flattened onto one line, then the last term
      have hflat : ∀ h ∈ t :: u :: us, flatten (termDoc h) = renderPieces (flatPs h) := by
        intro h hh
        rw [flatten, flattenLoop_one]
        rcases List.mem_cons.mp hh with rfl | hh
        · rw [iht hwt]; exact strip_layP (flatPs_lay _ hwt)
        · rw [hmore h hh]; exact strip_layP (flatPs_lay h (wfTerms_mem _ hwm h hh).2)
      have h2 := headFlat_render t (u :: us) (by simp) (flatPs ((u :: us).getLast (by simp))) hflat
      rw [tailWith_flat (u :: us) (by simp)] at h2
      simp only [flatText, flatTextList, List.nil_append, List.append_nil]
      rw [getLastD_termDocs t (u :: us) (by simp), hmore _ (List.getLast_mem _), termDocs_eq_map]
      simp only [List.cons_append, List.nil_append, flatPs]
      exact h2
    · have hparts := flatText_parts_of_all (u :: us) hmore (isIdent t)
      simp only [List.map_cons] at hparts
      rw [flatText_groupChain, flatTextList, iht hwt, hparts]
      simp [flatPs, renderPieces_append]

theorem flat1_term (t : T) (hwf : T.WF t) : flattenLoop [termDoc t] = renderPieces (flatPs t) :=
  (flattenLoop_one _).trans (flatText_term t hwf)

theorem flat1_parts : (prev : Bool) → (more : List T) → T.WFTerms more →
    flattenLoop (chainParts prev (more.map isIdent) (termDocs more)) = renderPieces (flatTail more) :=
  fun prev more hwf =>
    (flattenLoop_eq _).trans
      (flatText_parts_of_all more (fun u hu => flatText_term u (wfTerms_mem more hwf u hu).2) prev)
theorem flat1_all : (l : List T) → T.WFTerms l → ∀ h ∈ l, flattenLoop [termDoc h] = renderPieces (flatPs h) :=
  fun l hwf h hh => flat1_term h (wfTerms_mem l hwf h hh).2
theorem flat1_field : (f : F) → F.WF f → flattenLoop [fieldDocOf f] = renderPieces (flatField f)
  | .mk _ t, hwf => (flattenLoop_one _).trans (flatText_field_of (flatText_term t hwf.2))
theorem flat1_items : (fs : List F) → fs ≠ [] → F.WFList fs →
    flattenLoop (Doc.joinList sepDoc (fieldDocs fs)) = renderPieces (flatItems fs) :=
  fun fs hne hwf =>
    (flattenLoop_eq _).trans (flatText_items_of_all fs hne fun f hf =>
      match f, wfList_mem fs hwf f hf with
      | .mk _ t, hw => flatText_field_of (flatText_term t hw.2))

theorem flatten_termDoc (t : T) (hwf : T.WF t) : flatten (termDoc t) = renderPieces (flatPs t) := by
  unfold flatten
  rw [flat1_term t hwf]
  exact strip_layP (flatPs_lay t hwf)

theorem printsAs_chainDocOf {t : T} (h : PrintsAs (termDoc t) (LayP t)) :
    PrintsAs (if isPrim t = true then chainDoc (termDoc t) else termDoc t) (LayP t) := by
  split
  · exact printsAs_chainDoc h
  · exact h

/-- what the tail lemma says: the parts of `chain_terms_doc` after the first term print the further
    terms, each behind one space -/
def TailPrintsAs (prev : Bool) (more : List T) : Prop :=
  FramesPrintAs (chainParts prev (more.map isIdent) (termDocs more)) (TailP more)

theorem tailPrintsAs_nil (prev : Bool) : TailPrintsAs prev [] := by
  intro w col i m st
  exact ⟨[], [], col, by simp [chainParts, termDocs, mkFrames], rfl, .nil⟩

theorem tailPrintsAs_cons {prev : Bool} {u : T} {us : List T} (hp : isPrim u = true)
    (hu : PrintsAs (termDoc u) (LayP u)) (ht : TailPrintsAs (isIdent u) us) :
    TailPrintsAs prev (u :: us) := by
  intro w col i m st
  cases prev with
  | false =>
    simp only [List.map_cons, termDocs, chainParts, Bool.false_eq_true, if_false, List.cons_append,
      List.nil_append, mkFrames, pl_text]
    obtain ⟨ps', ps, col1, hq, hr, hl⟩ := hu w _ i m _
    obtain ⟨rs', rs, col2, hq2, hr2, hrest⟩ := ht w col1 i m st
    rw [hq, hq2]
    exact ⟨.atom [' '] :: (ps' ++ rs'), .sp :: (ps ++ rs), col2, by simp,
      by simp [renderPieces_append, renderPieces, Piece.render, hr, hr2], .cons hp hl hrest⟩
  | true =>
    simp only [List.map_cons, termDocs, chainParts, if_true, List.cons_append, List.nil_append, mkFrames]
    cases m with
    | flat =>
      rw [pl_line_flat, pl_ifBreak_flat, pl_nil]
      obtain ⟨ps', ps, col1, hq, hr, hl⟩ := hu w _ i .flat _
      obtain ⟨rs', rs, col2, hq2, hr2, hrest⟩ := ht w col1 i .flat st
      rw [hq, hq2]
      exact ⟨.sp :: (ps' ++ rs'), .sp :: (ps ++ rs), col2, by simp,
        by simp [renderPieces_append, renderPieces, hr, hr2], .cons hp hl hrest⟩
    | brk =>
      rw [pl_line_brk, pl_ifBreak_brk, pl_text]
      obtain ⟨ps', ps, col1, hq, hr, hl⟩ := hu w _ i .brk _
      obtain ⟨rs', rs, col2, hq2, hr2, hrest⟩ := ht w col1 i .brk st
      rw [hq, hq2]
      exact ⟨.nl i :: .atom ['~', '>', ' '] :: (ps' ++ rs'), .nl i :: .atom ['~', '>'] :: .sp :: (ps ++ rs), col2,
        by simp, by simp [renderPieces_append, renderPieces, Piece.render, hr, hr2], .pipe i hp hl hrest⟩

theorem getLastD_cons_cons (a b : T) (l : List T) (d : T) : (a :: b :: l).getLastD d = (b :: l).getLastD a := by
  simp [List.getLastD]

theorem printsAs_fieldDocOf {l : Option Str} {t : T} (hl : optOk isIdentStr l)
    (h : PrintsAs (termDoc t) (LayP t)) : PrintsAs (fieldDocOf (.mk l t)) (LayF (.mk l t)) := by
  cases l with
  | none => exact (printsAs_fieldDoc (printsAs_chainDocOf h)).mono fun _ => .unnamed
  | some l => exact printsAs_fieldDoc (printsAs_labelled hl (printsAs_chainDocOf h))

theorem itemsPrintAs_of_all : ∀ (fs : List F), fs ≠ [] → (∀ f ∈ fs, PrintsAs (fieldDocOf f) (LayF f)) →
    ItemsPrintAs fs
  | [], hne, _ => absurd rfl hne
  | [f], _, h => itemsPrintAs_one (h f (by simp))
  | f :: g :: fs, _, h =>
    itemsPrintAs_cons (h f (by simp)) (itemsPrintAs_of_all (g :: fs) (by simp) fun x hx => h x (by simp [hx]))

theorem tailPrintsAs_of_all : ∀ (more : List T),
    (∀ u ∈ more, isPrim u = true ∧ PrintsAs (termDoc u) (LayP u)) → ∀ prev, TailPrintsAs prev more
  | [], _, prev => tailPrintsAs_nil prev
  | u :: us, h, _ =>
    tailPrintsAs_cons (h u (by simp)).1 (h u (by simp)).2
      (tailPrintsAs_of_all us (fun x hx => h x (by simp [hx])) (isIdent u))

theorem printLoop_term (t : T) : T.WF t → PrintsAs (termDoc t) (LayP t) := by
  have atom : ∀ {t : T} {s : Str}, LayP t [.atom s] → PrintsAs (.text s) (LayP t) :=
    fun {t s} hl w col i m st => ⟨[.atom s], [.atom s], col + s.length, pl_text w col i m st s, rfl, hl⟩
  induction t using T.ind with
  | leaf n => exact fun hwf => atom (.leaf hwf)
  | acc n p => exact fun hwf => atom (.lit (.acc hwf))
  | int i => exact fun _ => atom (.lit (.int i))
  | bin bs => exact fun hwf => atom (.lit (.bin hwf))
  | str v => exact fun _ => atom (.lit (.str v))
  | tup name fs ih =>
    intro hwf
    cases fs with
    | nil => exact atom (.empty hwf.1)
    | cons f fs =>
      refine printsAs_bracketed hwf.1 (itemsPrintAs_of_all _ (by simp) ?_)
      intro ⟨l, t⟩ hf
      have hw := wfList_mem _ hwf.2 _ hf
      exact printsAs_fieldDocOf hw.1 (ih l t hf hw.2)
  | chain t more iht ihm =>
    intro hwf
    cases more with
    | nil => exact absurd rfl hwf.1
    | cons u us =>
    obtain ⟨_, hpt, hwt, hwm⟩ := hwf
    have hmore : ∀ v ∈ u :: us, isPrim v = true ∧ PrintsAs (termDoc v) (LayP v) :=
      fun v hv => ⟨(wfTerms_mem _ hwm v hv).1, ihm v hv (wfTerms_mem _ hwm v hv).2⟩
    simp only [termDoc, multiChainDoc, List.map_cons]
    split
    · -- a chain ending in a container: the head flattened onto one line, then the container
      have hflat : ∀ h ∈ t :: u :: us, flatten (termDoc h) = renderPieces (flatPs h) := by
        intro h hh
        rcases List.mem_cons.mp hh with rfl | hh
        · exact flatten_termDoc _ hwt
        · exact flatten_termDoc _ (wfTerms_mem (u :: us) hwm h hh).2
      intro w col i m st
      rw [pl_concat]
      simp only [mkFrames, List.cons_append, List.nil_append, pl_nil, pl_text]
      rw [getLastD_termDocs t (u :: us) (by simp)]
      obtain ⟨ps', ps, col1, hq, hr, hl⟩ := (hmore _ (List.getLast_mem (l := u :: us) (by simp))).2 w _ i m st
      rw [hq]
      have h2 := headFlat_render t (u :: us) (by simp) ps hflat
      rw [← termDocs_eq_map] at h2
      refine ⟨.atom (joinSp (List.map flatten (termDoc t :: termDocs (u :: us)).dropLast)) :: .atom [' '] :: ps',
        flatPs t ++ tailWith (u :: us) ps, col1, by simp, ?_,
        .chain hpt (flatPs_lay t hwt) (tailWith_lay (u :: us) (by simp) ps hwm hl)⟩
      rw [← h2]
      simp [renderPieces, Piece.render, hr, termDocs]
    · refine (printsAs_groupChain ?_)
      intro w col i m st
      simp only [mkFrames, List.cons_append]
      obtain ⟨ps', ps, col1, hq, hr, hl⟩ := iht hwt w col i m _
      obtain ⟨rs', rs, col2, hq2, hr2, hrs⟩ := tailPrintsAs_of_all _ hmore (isIdent t) w col1 i m st
      simp only [List.map_cons] at hq2
      rw [hq, hq2]
      exact ⟨ps' ++ rs', ps ++ rs, col2, by simp, by simp [renderPieces_append, hr, hr2], .chain hpt hl hrs⟩

theorem printLoop_all : (l : List T) → T.WFTerms l → ∀ h ∈ l, PrintsAs (termDoc h) (LayP h) :=
  fun l hwf h hh => printLoop_term h (wfTerms_mem l hwf h hh).2
/-- the further terms of a chain; `prev` = the term before them is a call-ender -/
theorem printLoop_tail : (prev : Bool) → (more : List T) → T.WFTerms more → TailPrintsAs prev more :=
  fun prev more hwf =>
    tailPrintsAs_of_all more (fun u hu => ⟨(wfTerms_mem more hwf u hu).1, printLoop_all more hwf u hu⟩) prev
theorem printLoop_field : (f : F) → F.WF f → PrintsAs (fieldDocOf f) (LayF f)
  | .mk _ t, hwf => printsAs_fieldDocOf hwf.1 (printLoop_term t hwf.2)
theorem printLoop_items : (fs : List F) → fs ≠ [] → F.WFList fs → ItemsPrintAs fs :=
  fun fs hne hwf => itemsPrintAs_of_all fs hne fun f hf => printLoop_field f (wfList_mem fs hwf f hf)

/-- how a layout can start: `[`, a lower-case letter (identifier, field label), an upper-case letter
    (tuple name), a digit or `-` (number literal), `"` (string literal) -/
def headCls (c : Char) : Bool := c == '[' || isLower c || isUpper c || isDigit c || c == '-' || c == '"'

def HeadOk (s : Str) : Prop := ∃ c r, s = c :: r ∧ headCls c = true

/-- none of the characters that matter to the white-space and separator parsers starts a layout -/
theorem headCls_ne {c : Char} (h : headCls c = true) (d : Char)
    (hd : d.toNat < 34 ∨ d.toNat = 40 ∨ d.toNat = 44 ∨ d.toNat = 47 ∨ d.toNat = 126) : c ≠ d := by
  intro e; subst e
  simp only [headCls, Bool.or_eq_true, beq_iff_eq, isLower, isUpper, isDigit, Bool.and_eq_true,
    decide_eq_true_eq] at h
  rcases h with ((((h | h) | h) | h) | h) | h
  · subst h; revert hd; decide
  · omega
  · omega
  · omega
  · subst h; revert hd; decide
  · subst h; revert hd; decide

theorem HeadOk.append {s : Str} (h : HeadOk s) (x : Str) : HeadOk (s ++ x) := by
  obtain ⟨c, r, rfl, hc⟩ := h
  exact ⟨c, r ++ x, rfl, hc⟩

theorem headOk_ident {n : Str} (h : isIdentStr n = true) : HeadOk n := by
  obtain ⟨c, r, rfl, hc⟩ := isIdentStr_head h
  exact ⟨c, r, rfl, by simp [headCls, hc]⟩

theorem headOk_tupleName {n : Str} (h : isTupleNameStr n = true) : HeadOk n := by
  obtain ⟨c, r, rfl, hc, _⟩ := isTupleNameStr_head h
  exact ⟨c, r, rfl, by simp [headCls, hc]⟩

theorem headOk_open {name : Option Str} (hn : optOk isTupleNameStr name) (x : Str) :
    HeadOk (openText name ++ x) := by
  cases name with
  | none => exact ⟨'[', x, rfl, by decide⟩
  | some n => simpa [openText] using (headOk_tupleName hn).append ('[' :: x)

/-- the `TailP` component is trivial (a tail starts with a gap); `LayP.ind` wants all four -/
theorem lay_head :
    (∀ {t ps}, LayP t ps → HeadOk (renderPieces ps)) ∧ (∀ {us ps}, TailP us ps → True) ∧
    (∀ {f ps}, LayF f ps → HeadOk (renderPieces ps)) ∧ ∀ {bk fs ps}, ItemsP bk fs ps → HeadOk (renderPieces ps) := by
  refine LayP.ind (Q := fun _ _ => True) (S := fun _ _ ps => HeadOk (renderPieces ps))
    ?leaf ?lit ?empty ?flat ?brk ?chain ?tnil ?tcons ?pipe ?unnamed ?named ?one ?consFlat ?consBrk
  case leaf => exact fun hn => by simpa [renderPieces, Piece.render] using headOk_ident hn
  case lit =>
    intro t s hl
    cases ht : t with
    | acc n p =>
      subst ht
      cases hl with
      | acc hwf => simpa [renderPieces, Piece.render, accessText] using (headOk_ident hwf.1).append (pathText p)
    | _ =>
      obtain ⟨c, r, rfl, hc⟩ := lit_head hl (by intro n p e; rw [ht] at e; cases e)
      refine ⟨c, r ++ [], by simp [renderPieces, Piece.render], ?_⟩
      rcases hc with hc | rfl | rfl
      · simp [headCls, hc]
      · decide
      · decide
  case empty =>
    intro name hn
    cases name with
    | none => exact ⟨'[', _, rfl, by decide⟩
    | some n => simpa [renderPieces, Piece.render, emptyText] using headOk_tupleName hn
  case flat => exact fun hn _ _ => headOk_open hn _
  case brk => exact fun _ _ hn _ _ => headOk_open hn _
  case chain => exact fun _ _ _ ih _ => by rw [renderPieces_append]; exact ih.append _
  case tnil => trivial
  case tcons => exact fun _ _ _ _ _ => trivial
  case pipe => exact fun _ _ _ _ _ _ => trivial
  case unnamed => exact fun _ ih => ih
  case named =>
    intro l _ ps0 hn _ _
    have := ((headOk_ident hn).append [':']).append (' ' :: renderPieces ps0)
    simpa [renderPieces, Piece.render] using this
  case one => exact fun _ ih => ih
  case consFlat => exact fun _ _ ih _ => by rw [renderPieces_append]; exact ih.append _
  case consBrk => exact fun _ _ _ ih _ => by rw [renderPieces_append]; exact ih.append _

theorem layP_head {t : T} {ps : List Piece} (h : LayP t ps) : HeadOk (renderPieces ps) := lay_head.1 h
theorem itemsP_head {bk : Bool} {fs : List F} {ps : List Piece} (h : ItemsP bk fs ps) :
    HeadOk (renderPieces ps) := lay_head.2.2.2 h

theorem headAll_cons (f : Char → Bool) (c : Char) (r : Str) : headAll f (c :: r) = f c := rfl

theorem headOk_stop {s : Str} (h : HeadOk s) :
    headAll (fun c => !isMultispace c && c != '/') s = true := by
  obtain ⟨c, r, rfl, hc⟩ := h
  have h1 := headCls_ne hc ' ' (by decide)
  have h2 := headCls_ne hc '\t' (by decide)
  have h3 := headCls_ne hc '\r' (by decide)
  have h4 := headCls_ne hc '\n' (by decide)
  have h5 := headCls_ne hc '/' (by decide)
  simp [headAll, isMultispace, h1, h2, h3, h4, h5]

theorem headOk_not_ms {s : Str} (h : HeadOk s) : s.dropWhile isMultispace = s := by
  have := headOk_stop h
  obtain ⟨c, r, rfl, _⟩ := h
  simp only [headAll_cons, Bool.and_eq_true, Bool.not_eq_true'] at this
  simp [this.1]

theorem all_ms_replicate (k : Nat) : (List.replicate k ' ').all isMultispace = true := by
  simp only [List.all_eq_true]
  intro c hc; rw [List.eq_of_mem_replicate hc]; decide

theorem ws1_ws {c : Char} {w s : Str} (hc : isMultispace c = true) (hw : w.all isMultispace = true)
    (hs : s.dropWhile isMultispace = s) : ws1 (c :: (w ++ s)) = .ok () s := by
  simp only [ws1, hc, if_true, List.dropWhile_append_of_pos (List.all_eq_true.mp hw), hs]

theorem ws1_sp {s : Str} (hs : s.dropWhile isMultispace = s) : ws1 (' ' :: s) = .ok () s :=
  ws1_ws (w := []) rfl rfl hs

theorem wsc_ws {w s : Str} (hw : w.all isMultispace = true)
    (hs : headAll (fun c => !isMultispace c && c != '/') s = true) : wsc (w ++ s) = .ok () s := by
  induction w with
  | nil => exact wsc_of_head hs
  | cons c w ih =>
    simp only [List.all_cons, Bool.and_eq_true] at hw
    rw [← ih hw.2]
    simp only [wsc, List.cons_append, skipWsc_ms hw.1]

theorem all_ms_nl (k : Nat) : ('\n' :: List.replicate k ' ').all isMultispace = true := by
  rw [List.all_cons, all_ms_replicate]; rfl

theorem wsc_headOk {s : Str} (h : HeadOk s) : wsc s = .ok () s := wsc_of_head (headOk_stop h)

theorem noWsc_close (rest : Str) : headAll (fun c => !isMultispace c && c != '/') (']' :: rest) = true := by
  rw [headAll_cons]; decide
theorem noWsc_comma (rest : Str) : headAll (fun c => !isMultispace c && c != '/') (',' :: rest) = true := by
  rw [headAll_cons]; decide

/-- What may follow a term of the fragment: nothing that continues a name or a number (`IdStop`: no
    identifier character), opens a field list (`[`), makes the term a field label (`:`), a decimal or
    a fraction (`.`, `/`), opens a string (`"`), continues a run of hex digits, or — after white space — starts a partial
    pattern (`(`). -/
def Stop (rest : Str) : Prop :=
  IdStop rest ∧
    headAll (fun c => c != '[' && c != ':' && c != '.' && c != '/' && c != '"' && !isHexDigit c) rest = true ∧
    headAll (fun c => c != '(') (rest.dropWhile isMultispace) = true

theorem stop_comma (r : Str) : Stop (',' :: r) :=
  ⟨by simp [IdStop]; decide, by rw [headAll_cons]; decide, rfl⟩
theorem stop_close (r : Str) : Stop (']' :: r) :=
  ⟨by simp [IdStop]; decide, by rw [headAll_cons]; decide, rfl⟩
theorem stop_nil : Stop [] := ⟨trivial, rfl, rfl⟩
theorem stop_nl : Stop ['\n'] := by
  refine ⟨by simp [IdStop]; decide, by rw [headAll_cons]; decide, by decide⟩

theorem Stop.not {rest : Str} (h : Stop rest) (d : Char)
    (hd : (d != '[' && d != ':' && d != '.' && d != '/' && d != '"' && !isHexDigit d) = false) :
    headAll (· ≠ d) rest = true := by
  have := h.2.1
  cases rest with
  | nil => rfl
  | cons c t =>
    rw [headAll_cons] at this ⊢
    simp only [decide_eq_true_eq]
    rintro rfl
    rw [hd] at this
    exact Bool.noConfusion this

theorem Stop.noBody {rest : Str} (h : Stop rest) : ∀ c t, rest = c :: t → isIdentBody c = false := by
  intro c t e; subst e; exact h.1.1

theorem sepList1_fails {α β : Type} {sep : P β} {p : P α} {i : Str} (h : Fails p i) :
    Fails (sepList1 sep p) i := by
  obtain ⟨e, c, h⟩ := h
  exact ⟨e, c, by simp [sepList1, h]⟩

theorem ptag_pipe_fails {s : Str} (h : HeadOk s ∨ s = []) : Fails (ptag ['~', '>']) s := by
  rcases h with ⟨c, r, rfl, hc⟩ | rfl
  · exact ptag_fails_of_head rfl (by
      rw [headAll_cons]; simpa using (headCls_ne hc '~' (by decide)))
  · exact ⟨[], .tag, by simp [ptag, isPrefix]⟩

theorem chainSep_sp {s : Str} (h : HeadOk s) : chainSep (' ' :: s) = .ok () s := by
  have hws : ws1 (' ' :: s) = .ok () s := ws1_sp (headOk_not_ms h)
  have h1 : Fails (seq ws1 (seq (ptag ['~', '>']) ws1)) (' ' :: s) :=
    Fails.seq_ok hws (Fails.seq (ptag_pipe_fails (.inl h)))
  unfold chainSep
  rw [alt_of_fails h1]
  obtain ⟨c, r, rfl, hc⟩ := h
  have hc1 : c ≠ ' ' := headCls_ne hc ' ' (by decide)
  have hc2 : c ≠ '\t' := headCls_ne hc '\t' (by decide)
  simp [hspace1, Parse.isHspace, hc1, hc2]

/-- What may follow a CHAIN: what may follow a term, and nothing the chain separator would accept. -/
def StopC (rest : Str) : Prop := Stop rest ∧ Fails chainSep rest

theorem chainSep_fails_of_head {c : Char} {r : Str} (h : isMultispace c = false) : Fails chainSep (c :: r) := by
  have h1 : Fails ws1 (c :: r) := ⟨c :: r, .multispace, by simp [ws1, h]⟩
  have h2 : Fails hspace1 (c :: r) := by
    refine ⟨c :: r, .space, ?_⟩
    have : Parse.isHspace c = false := by
      simp only [isMultispace, Bool.or_eq_false_iff, decide_eq_false_iff_not] at h
      simp [Parse.isHspace, h.1.1.1, h.1.1.2]
    simp [hspace1, this]
  exact Fails.alt (Fails.seq h1) h2

theorem chainSep_fails_nil : Fails chainSep [] :=
  Fails.alt (Fails.seq ⟨[], .multispace, by simp [ws1]⟩) ⟨[], .space, by simp [hspace1]⟩

theorem chainSep_fails_nlw {w s : Str} (hw : w.all isMultispace = true) (h : HeadOk s ∨ s = []) :
    Fails chainSep ('\n' :: (w ++ s)) := by
  have hws : ws1 ('\n' :: (w ++ s)) = .ok () s :=
    ws1_ws rfl hw (by rcases h with h | rfl; exact headOk_not_ms h; rfl)
  refine Fails.alt (Fails.seq_ok hws (Fails.seq (ptag_pipe_fails h))) ?_
  exact ⟨'\n' :: (w ++ s), .space, by simp [hspace1, Parse.isHspace]⟩

theorem stopC_comma (r : Str) : StopC (',' :: r) := ⟨stop_comma r, chainSep_fails_of_head (by decide)⟩
theorem stopC_close (r : Str) : StopC (']' :: r) := ⟨stop_close r, chainSep_fails_of_head (by decide)⟩
theorem stopC_nil : StopC [] := ⟨stop_nil, chainSep_fails_nil⟩
theorem stopC_nl : StopC ['\n'] := ⟨stop_nl, chainSep_fails_nlw (w := []) rfl (.inr rfl)⟩

theorem chainP_prim {term : P T} {i rest : Str} {t : T} (h : term i = .ok t rest)
    (hend : Fails chainSep rest) : chainP term i = .ok t rest := by
  unfold chainP
  rw [pmap_ok (sepList1_cons h (sepTail_of_fails hend))]

theorem chainP_fails {term : P T} {i : Str} (h : Fails term i) : Fails (chainP term) i :=
  Fails.pmap (sepList1_fails h)

theorem accessP_fails {s : Str} (h : Fails identifier s) : Fails accessP s := Fails.bind h

theorem stringP_fails {s : Str} (h : headAll (· ≠ '"') s = true) : Fails stringP s := by
  refine ⟨s, .char, ?_⟩
  cases s with
  | nil => rfl
  | cons c r =>
    have : c ≠ '"' := by simpa [headAll] using h
    unfold stringP
    split
    · rename_i body heq
      exact absurd (List.cons.inj heq).1 this
    · rfl

theorem notLit_noQuote {s : Str} (h : headAll (fun c => !isDigit c && c != '-' && c != '"') s = true) :
    headAll (· ≠ '"') s = true := by
  cases s with
  | nil => rfl
  | cons c r =>
    simp only [headAll_cons, Bool.and_eq_true, bne_iff_ne, ne_eq] at h
    simpa [headAll] using h.2

theorem literalP_fails {s : Str} (h : headAll (fun c => !isDigit c && c != '-' && c != '"') s = true) :
    Fails literalP s := by
  obtain ⟨h0, hm, hd⟩ : headAll (· ≠ '0') s = true ∧ Fails (pchar '-') s ∧ Fails digit1 s := by
    cases s with
    | nil => exact ⟨rfl, pchar_nil '-', [], .digit, by simp [digit1]⟩
    | cons c r =>
      simp only [headAll_cons, Bool.and_eq_true, Bool.not_eq_true', bne_iff_ne, ne_eq] at h
      refine ⟨?_, pchar_ne h.1.2 r, c :: r, .digit, by simp [digit1, h.1.1]⟩
      simp only [headAll_cons, decide_eq_true_eq]
      rintro rfl
      exact absurd h.1.1 (by decide)
  refine Fails.alt (Fails.pmap (Fails.seq (ptag_fails_of_head rfl h0))) (Fails.pmap ?_)
  unfold integerP
  exact Fails.bind_ok (opt_of_fails hm) (Fails.pmap hd)

theorem termP_notLit {n : Nat} {s : Str} (h : headAll (fun c => !isDigit c && c != '-' && c != '"') s = true) :
    termP (n + 1) s = alt (tupleP (fieldP (chainP (termP n)))) accessP s := by
  show alt stringP (alt literalP _) s = _
  rw [alt_of_fails (stringP_fails (notLit_noQuote h)), alt_of_fails (literalP_fails h)]

theorem notLit_letter {c : Char} (h : isLower c = true ∨ isUpper c = true) (r : Str) :
    headAll (fun c => !isDigit c && c != '-' && c != '"') (c :: r) = true := by
  have h65 : 65 ≤ c.toNat := by
    simp only [isLower, isUpper, Bool.and_eq_true, decide_eq_true_eq] at h
    omega
  simp only [headAll_cons, isDigit, Bool.and_eq_true, Bool.not_eq_true', Bool.and_eq_false_iff,
    decide_eq_false_iff_not, bne_iff_ne, ne_eq]
  refine ⟨⟨by omega, ?_⟩, ?_⟩
  · rintro rfl; exact absurd h65 (by decide)
  · rintro rfl; exact absurd h65 (by decide)

theorem notLit_ident {n : Str} (h : isIdentStr n = true) (x : Str) :
    headAll (fun c => !isDigit c && c != '-' && c != '"') (n ++ x) = true := by
  obtain ⟨c, r, rfl, hc⟩ := isIdentStr_head h
  exact notLit_letter (.inl hc) _

theorem notLit_tupleName {n : Str} (h : isTupleNameStr n = true) (x : Str) :
    headAll (fun c => !isDigit c && c != '-' && c != '"') (n ++ x) = true := by
  obtain ⟨c, r, rfl, hc, _⟩ := isTupleNameStr_head h
  exact notLit_letter (.inr hc) _

theorem notLit_open {name : Option Str} (hn : optOk isTupleNameStr name) (x : Str) :
    headAll (fun c => !isDigit c && c != '-' && c != '"') (openText name ++ x) = true := by
  cases name with
  | none => simp only [openText, Option.getD_none, List.nil_append, List.cons_append, headAll_cons]; decide
  | some n => simpa [openText] using notLit_tupleName hn ('[' :: x)

theorem bracketsP_fails {field : P F} {s : Str} (h : headAll (· ≠ '[') s = true) :
    Fails (bracketsP field) s :=
  Fails.delimited (Fails.seq (pchar_fails_of_head h))

theorem tupleP_fails {field : P F} {s : Str} (h1 : headAll (· ≠ '[') s = true)
    (h2 : headAll (fun c => !isUpper c) s = true) : Fails (tupleP field) s :=
  Fails.alt (Fails.bind (tupleName_fails_of_head h2))
    (Fails.alt (Fails.pmap (bracketsP_fails h1)) (Fails.bind (tupleName_fails_of_head h2)))

theorem tupleP_fails_ident {field : P F} {n : Str} (hn : isIdentStr n = true) (x : Str) :
    Fails (tupleP field) (n ++ x) := by
  obtain ⟨c, r, rfl, hc⟩ := isIdentStr_head hn
  refine tupleP_fails ?_ ?_
  · simp [headAll, lower_ne hc '[' (by decide)]
  · simp [headAll, (lower_not hc).1]

theorem termP_ident {n : Str} (hn : isIdentStr n = true) (x : Str) (k : Nat) :
    termP (k + 1) (n ++ x) = accessP (n ++ x) := by
  rw [termP_notLit (notLit_ident hn x), alt_of_fails (tupleP_fails_ident hn x)]

theorem identifier_fails_tupleName {n : Str} (hn : isTupleNameStr n = true) (x : Str) :
    Fails identifier (n ++ x) := by
  obtain ⟨c, r, rfl, hc, _⟩ := isTupleNameStr_head hn
  exact identifier_fails_of_head (by simp [headAll, (upper_facts hc).1])

theorem termP_fails_close (n : Nat) (rest : Str) : Fails (termP (n + 1)) (']' :: rest) :=
  Fails.alt (stringP_fails (by rw [headAll_cons]; decide))
    (Fails.alt (literalP_fails (by rw [headAll_cons]; decide))
      (Fails.alt (tupleP_fails (by rw [headAll_cons]; decide) (by rw [headAll_cons]; decide))
        (accessP_fails (identifier_fails_of_head (by rw [headAll_cons]; decide)))))

theorem termP_fails_nil (n : Nat) : Fails (termP (n + 1)) [] :=
  Fails.alt (stringP_fails rfl) (Fails.alt (literalP_fails rfl)
    (Fails.alt (tupleP_fails rfl rfl) (accessP_fails (identifier_fails_of_head rfl))))

theorem fieldP_fails_close (n : Nat) (rest : Str) : Fails (fieldP (chainP (termP (n + 1)))) (']' :: rest) :=
  Fails.alt (Fails.bind (identifier_fails_of_head (by rw [headAll_cons]; decide)))
    (Fails.pmap (termP_fails_close n rest))

/-- `separated_list`'s loop stops *before* a separator that is not followed by an item (the trailing
    comma of a broken tuple) -/
theorem sepTail_item_fails {α β : Type} {sep : P β} {p : P α} {i i1 : Str} {b : β}
    (h : sep i = .ok b i1) (hl : i1.length < i.length) (hp : Fails p i1) :
    sepTail sep p i = .ok [] i := by
  obtain ⟨e, c, hp⟩ := hp
  have : ¬ i1.length = i.length := by omega
  simp [sepTail, sepLoop, h, this, hp]

theorem commaWsc_ws {w s : Str} (hw : w.all isMultispace = true)
    (hs : headAll (fun c => !isMultispace c && c != '/') s = true) : commaWsc (',' :: (w ++ s)) = .ok () s := by
  unfold commaWsc
  rw [seq_ok (wsc_of_head (noWsc_comma _)), seq_ok (pchar_self ',' _)]
  exact wsc_ws hw hs

/-- the field list between `[` and `]`: behind the last field comes `]` at once, or the trailing comma
    of a broken tuple, white space and `]` -/
theorem bracketsP_ok {field : P F} {R r1 closer rest : Str} {fs : List F} (h0 : wsc R = .ok () r1)
    (h1 : sepList0 commaWsc field r1 = .ok fs closer)
    (hc : closer = ']' :: rest ∨ ∃ w, w.all isMultispace = true ∧ closer = ',' :: (w ++ ']' :: rest)) :
    bracketsP field ('[' :: R) = .ok fs rest := by
  unfold bracketsP delimited
  rw [seq_ok (r := r1) (a := ()) (by rw [seq_ok (pchar_self '[' R)]; exact h0)]
  have hclose := wsc_of_head (noWsc_close rest)
  rcases hc with rfl | ⟨w, hw, rfl⟩
  · exact before_ok (before_ok h1 (opt_of_fails (Fails.seq_ok hclose (pchar_ne (by decide) rest))))
      ((seq_ok hclose).trans (pchar_self ']' rest))
  · exact before_ok (before_ok h1 (opt_ok ((seq_ok (wsc_of_head (noWsc_comma _))).trans (pchar_self ',' _))))
      ((seq_ok (wsc_ws hw (noWsc_close rest))).trans (pchar_self ']' rest))

theorem tupleP_open {field : P F} {name : Option Str} {R rest : Str} {fs : List F}
    (hn : optOk isTupleNameStr name) (h : bracketsP field ('[' :: R) = .ok fs rest) :
    tupleP field (openText name ++ R) = .ok (.tup name fs) rest := by
  unfold tupleP
  cases name with
  | none =>
    simp only [openText, Option.getD_none, List.nil_append, List.cons_append]
    rw [alt_of_fails (Fails.bind (tupleName_fails_of_head (by rw [headAll_cons]; decide)))]
    exact alt_of_ok (pmap_ok h)
  | some n =>
    simp only [openText, Option.getD_some, List.append_assoc, List.cons_append, List.nil_append]
    refine alt_of_ok ?_
    rw [bind_ok (tupleName_append hn (by intro c t e; cases e; decide))]
    exact pmap_ok h

theorem tupleP_bare {field : P F} {n rest : Str} (hn : isTupleNameStr n = true) (hs : Stop rest) :
    tupleP field (n ++ rest) = .ok (.tup (some n) []) rest := by
  unfold tupleP
  have hname := tupleName_append hn hs.noBody
  have hup : headAll (· ≠ '[') (n ++ rest) = true := by
    obtain ⟨c, r, rfl, hc, _⟩ := isTupleNameStr_head hn
    simp [headAll, upper_ne hc '[' (by decide)]
  rw [alt_of_fails (Fails.bind_ok hname (Fails.pmap (bracketsP_fails (hs.not '[' (by decide)))))]
  rw [alt_of_fails (Fails.pmap (bracketsP_fails hup))]
  rw [bind_ok hname]
  refine pmap_ok (a := ()) (peekNot_of_fails ?_)
  refine Fails.seq_ok (r := rest.dropWhile isMultispace) (a := ()) (by simp [ws0]) (pchar_fails_of_head ?_)
  have := hs.2.2
  cases hd : rest.dropWhile isMultispace with
  | nil => rfl
  | cons c t => rw [hd, headAll_cons] at this; simpa [headAll] using this

theorem Stop.noDigit {rest : Str} (h : Stop rest) : ∀ c t, rest = c :: t → isDigit c = false := by
  intro c t e
  have := h.noBody c t e
  simp only [isIdentBody, Bool.or_eq_false_iff] at this
  exact this.1.2

theorem Stop.noHex {rest : Str} (h : Stop rest) : ∀ c t, rest = c :: t → isHexDigit c = false := by
  intro c t e; subst e
  have := h.2.1
  simp only [headAll_cons, Bool.and_eq_true, Bool.not_eq_true'] at this
  exact this.2

theorem ptag0x_fails_digits {ds rest : Str} (h : ds.all isDigit = true) (hne : ds ≠ [])
    (hr : headAll (· ≠ 'x') rest = true) : Fails (ptag ['0', 'x']) (ds ++ rest) := by
  refine ⟨ds ++ rest, .tag, ?_⟩
  cases ds with
  | nil => exact absurd rfl hne
  | cons d ds =>
    cases ds with
    | nil =>
      cases rest with
      | nil => simp [ptag, isPrefix]
      | cons c t =>
        have : ¬ 'x' = c := by simp [headAll] at hr; exact fun e => hr e.symm
        simp [ptag, isPrefix, this]
    | cons d2 ds =>
      simp only [List.all_cons, Bool.and_eq_true] at h
      have : ¬ 'x' = d2 := by intro e; subst e; exact absurd h.2.1 (by decide)
      simp [ptag, isPrefix, this]

theorem literalP_lit {t : T} {s rest : Str} (h : LitText t s) (hns : ∀ v, t ≠ .str v)
    (hna : ∀ n p, t ≠ .acc n p) (hs : Stop rest) :
    literalP (s ++ rest) = .ok t rest := by
  unfold literalP
  cases h with
  | str v => exact (hns v rfl).elim
  | acc _ => exact (hna _ _ rfl).elim
  | int i =>
    obtain ⟨h1, h2, h3⟩ := natDigits_spec i.natAbs
    have hx : headAll (· ≠ 'x') rest = true := by
      cases rest with
      | nil => rfl
      | cons c t =>
        have := hs.noBody c t rfl
        simp only [headAll_cons, decide_eq_true_eq]
        intro e; subst e; exact absurd this (by decide)
    have htw := takeWhile_append_stop h1 hs.noDigit
    have hdig : digit1 (Parse.natDigits i.natAbs ++ rest) = .ok (Parse.natDigits i.natAbs) rest := by
      have hne : (Parse.natDigits i.natAbs).isEmpty = false := by
        cases hd : Parse.natDigits i.natAbs with
        | nil => exact absurd hd h2
        | cons c r => rfl
      simp [digit1, htw.1, htw.2, hne]
    unfold intText
    split
    · rename_i hneg
      have hbin : Fails binaryP ('-' :: Parse.natDigits i.natAbs ++ rest) := by
        unfold binaryP
        exact Fails.seq (ptag_fails_of_head rfl (by rw [List.cons_append, headAll_cons]; decide))
      rw [alt_of_fails (Fails.pmap hbin)]
      refine pmap_ok ?_
      unfold integerP
      rw [List.cons_append, bind_ok (opt_ok (pchar_self '-' _)), pmap_ok hdig]
      simp only [Option.isSome_some, if_true, h3]
      congr 1
      omega
    · rename_i hpos
      have hbin : Fails binaryP (Parse.natDigits i.natAbs ++ rest) := by
        unfold binaryP
        exact Fails.seq (ptag0x_fails_digits h1 h2 hx)
      rw [alt_of_fails (Fails.pmap hbin)]
      refine pmap_ok ?_
      unfold integerP
      have hm : Fails (pchar '-') (Parse.natDigits i.natAbs ++ rest) := by
        cases hd : Parse.natDigits i.natAbs with
        | nil => exact absurd hd h2
        | cons c r =>
          rw [hd] at h1
          simp only [List.all_cons, Bool.and_eq_true] at h1
          exact pchar_ne (by intro e; subst e; exact absurd h1.1 (by decide)) _
      rw [bind_ok (opt_of_fails hm), pmap_ok hdig]
      simp only [Option.isSome_none, Bool.false_eq_true, if_false, h3]
      congr 1
      omega
  | bin hb =>
    rename_i bs
    refine alt_of_ok (pmap_ok ?_)
    unfold binaryP
    have hall := hexText_all (p := isHexDigit) (fun k => by simp [isHexDigit, (hexChar_facts k).1]) _ hb
    have htw := takeWhile_append_stop hall hs.noHex
    rw [show binText bs ++ rest = ['0', 'x'] ++ (hexText bs ++ rest) from rfl, seq_ok (ptag_append _ _)]
    simp only [htw.1, htw.2, parseHexNat_hexText bs hb]

theorem lit_ident_fails {t : T} {s : Str} (h : LitText t s) (hna : ∀ n p, t ≠ .acc n p) (x : Str) :
    Fails identifier (s ++ x) := by
  obtain ⟨c, r, rfl, hc⟩ := lit_head h hna
  refine identifier_fails_of_head ?_
  rw [List.cons_append, headAll_cons]
  rcases hc with hc | rfl | rfl
  · simp only [isDigit, isLower, Bool.and_eq_true, decide_eq_true_eq] at hc ⊢
    simp only [Bool.not_eq_true', Bool.and_eq_false_iff, decide_eq_false_iff_not]
    omega
  · decide
  · decide

theorem startsTripleQuote_false {X : Str} (h : headAll (· ≠ '"') X = true) :
    startsTripleQuote ('"' :: X) = false := by
  cases X with
  | nil => rfl
  | cons c r =>
    have : c ≠ '"' := by simpa [headAll] using h
    unfold startsTripleQuote
    split
    · rename_i heq
      exact absurd (List.cons.inj (List.cons.inj heq).2).1 this
    · rfl

theorem stringP_str (v : Str) {rest : Str} (hs : Stop rest) :
    stringP (strText v ++ rest) = .ok (.str v) rest := by
  have hsplit : strText v ++ rest = '"' :: (escapeSingle v ++ '"' :: rest) := by simp [strText]
  have htq : startsTripleQuote ('"' :: (escapeSingle v ++ '"' :: rest)) = false := by
    rcases escapeSingle_head v ('"' :: rest) with h | h
    · exact startsTripleQuote_false h
    · subst h
      have hr := hs.not '"' (by decide)
      simp only [escapeSingle, List.nil_append]
      cases rest with
      | nil => rfl
      | cons c r =>
        have : c ≠ '"' := by simpa [headAll] using hr
        unfold startsTripleQuote
        split
        · rename_i heq
          exact absurd (List.cons.inj (List.cons.inj (List.cons.inj heq).2).2).1 this
        · rfl
  rw [hsplit]
  unfold stringP
  simp only [htq, Bool.false_eq_true, if_false, stringSegments_escapeSingle]

theorem idStop_dot (r : Str) : IdStop ('.' :: r) := by simp [IdStop]; decide

theorem pathText_head : ∀ (p : List Acc), p ≠ [] → ∃ r, pathText p = '.' :: r
  | [], h => absurd rfl h
  | a :: p, _ => by cases a <;> exact ⟨_, rfl⟩

/-- what may follow an accessor: the next `.`, or what may follow the term -/
def AccStop (r : Str) : Prop := IdStop r ∧ ∀ c t, r = c :: t → isDigit c = false

theorem accStop_path (p : List Acc) {rest : Str} (h : Stop rest) : AccStop (pathText p ++ rest) := by
  cases p with
  | nil => exact ⟨h.1, h.noDigit⟩
  | cons a p =>
    obtain ⟨r, hr⟩ := pathText_head (a :: p) (by simp)
    rw [hr]; exact ⟨idStop_dot _, by intro c t e; cases e; decide⟩

theorem accessorP_acc {a : Acc} {rest : Str}
    (ha : match a with
      | .field f => isIdentStr f = true
      | .index i => i < 2 ^ 64) (hs : AccStop rest) :
    seq (pchar '.') accessorP (accText a ++ rest) = .ok a rest := by
  cases a with
  | field f =>
    simp only [accText, List.cons_append]
    rw [seq_ok (pchar_self '.' _)]
    unfold accessorP
    have hu : Fails (pmap usize Acc.index) (f ++ rest) := by
      refine Fails.pmap ⟨f ++ rest, .digit, ?_⟩
      obtain ⟨c, r, rfl, hc⟩ := isIdentStr_head ha
      simp [usize, (lower_not hc).2]
    rw [alt_of_fails hu]
    exact pmap_ok (identifier_append ha hs.1)
  | index i =>
    simp only [accText, List.cons_append]
    rw [seq_ok (pchar_self '.' _)]
    unfold accessorP
    exact alt_of_ok (pmap_ok (usize_append ha hs.2))

theorem path_many0 : ∀ (p : List Acc) {rest : Str},
    (∀ a ∈ p, match a with
      | .field f => isIdentStr f = true
      | .index i => i < 2 ^ 64) → Stop rest →
    many0 (seq (pchar '.') accessorP) (pathText p ++ rest) = .ok p rest
  | [], rest, _, hs => by
    exact many0_of_fails (Fails.seq (pchar_fails_of_head (hs.not '.' (by decide))))
  | a :: p, rest, h, hs => by
    have ha := h a (by simp)
    have ih := path_many0 p (rest := rest) (fun x hx => h x (by simp [hx])) hs
    have hstep := accessorP_acc (a := a) (rest := pathText p ++ rest) ha (accStop_path p hs)
    simp only [pathText, List.append_assoc]
    refine many0_cons hstep ?_ ih
    cases a <;> simp [accText, List.length_append] <;> omega

theorem accessP_acc {n : Str} {p : List Acc} {rest : Str} (hwf : T.WF (.acc n p)) (hs : Stop rest) :
    accessP (accessText n p ++ rest) = .ok (.acc n p) rest := by
  obtain ⟨hn, hne, hp⟩ := hwf
  unfold accessP
  obtain ⟨r, hr⟩ := pathText_head p hne
  have hid : identifier (n ++ (pathText p ++ rest)) = .ok n (pathText p ++ rest) :=
    identifier_append hn (by rw [hr]; exact idStop_dot _)
  simp only [accessText, List.append_assoc]
  rw [bind_ok hid, pmap_ok (path_many0 p hp hs)]
  cases p with
  | nil => exact absurd rfl hne
  | cons a p => rfl

theorem accessP_leaf {n rest : Str} (hn : isIdentStr n = true) (hs : Stop rest) :
    accessP (n ++ rest) = .ok (.leaf n) rest := by
  unfold accessP
  rw [bind_ok (identifier_append hn hs.1)]
  have := path_many0 [] (rest := rest) (by intro a ha; simp at ha) hs
  simp only [pathText, List.nil_append] at this
  rw [pmap_ok this]
  rfl

theorem termP_lit {t : T} {s rest : Str} (h : LitText t s) (hs : Stop rest) (n : Nat) :
    termP (n + 1) (s ++ rest) = .ok t rest := by
  show alt stringP (alt literalP _) _ = _
  cases h with
  | int i =>
    obtain ⟨c, r, hcr, hc⟩ := intText_head i
    have hq : headAll (· ≠ '"') (intText i ++ rest) = true := by
      simp only [hcr, List.cons_append, headAll_cons, decide_eq_true_eq]
      rintro rfl
      revert hc; decide
    rw [alt_of_fails (stringP_fails hq)]
    exact alt_of_ok (literalP_lit (.int i) (by intro v e; cases e) (by intro n p e; cases e) hs)
  | bin hb =>
    rw [alt_of_fails (stringP_fails (by simp [binText, headAll]))]
    exact alt_of_ok (literalP_lit (.bin hb) (by intro v e; cases e) (by intro n p e; cases e) hs)
  | str v => exact alt_of_ok (stringP_str v hs)
  | acc hwf =>
    rename_i nm p
    have hsplit : accessText nm p ++ rest = nm ++ (pathText p ++ rest) := List.append_assoc ..
    rw [hsplit]
    refine (termP_ident hwf.1 _ n).trans ?_
    rw [← hsplit]
    exact accessP_acc hwf hs

/-- what `items_lay` provides: the first item, then the loop of `separated_list0` over the others -/
def ItemsRead (n : Nat) (fs : List F) (s rest : Str) : Prop :=
  ∃ f fs' r1, fs = f :: fs' ∧ fieldP (chainP (termP n)) (s ++ rest) = .ok f r1 ∧
    sepTail commaWsc (fieldP (chainP (termP n))) r1 = .ok fs' rest

/-- the named-field alternative fails on an unnamed field (at the first character, or at the `:`) -/
theorem namedAlt_fails_prim {term : P T} {t : T} {ps : List Piece} {rest : Str} (h : LayP t ps)
    (hprim : isPrim t = true) (hs : Stop rest) :
    Fails (bind identifier fun n => seq (pchar ':') (seq ws1 (pmap term (F.mk (some n)))))
      (renderPieces ps ++ rest) := by
  have hcolon : Fails (pchar ':') rest := pchar_fails_of_head (hs.not ':' (by decide))
  have hopen : ∀ {name : Option Str} (x : Str), optOk isTupleNameStr name →
      Fails identifier (openText name ++ x) := by
    intro name x hn
    cases name with
    | none => exact identifier_fails_of_head (by simp [openText, headAll]; decide)
    | some n => simpa [openText] using identifier_fails_tupleName hn ('[' :: x)
  cases h with
  | leaf hn =>
    simp only [renderPieces, Piece.render, List.append_nil]
    exact Fails.bind_ok (identifier_append hn hs.1) (Fails.seq hcolon)
  | lit hl =>
    simp only [renderPieces, Piece.render, List.append_nil]
    cases hl with
    | acc hwf =>
      rename_i n p
      obtain ⟨r, hr⟩ := pathText_head p hwf.2.1
      simp only [accessText, List.append_assoc]
      rw [hr, List.cons_append]
      exact Fails.bind_ok (identifier_append hwf.1 (idStop_dot _)) (Fails.seq (pchar_ne (by decide) _))
    | int i => exact Fails.bind (lit_ident_fails (.int i) (by intro n p e; cases e) rest)
    | bin hb => exact Fails.bind (lit_ident_fails (.bin hb) (by intro n p e; cases e) rest)
    | str v => exact Fails.bind (lit_ident_fails (.str v) (by intro n p e; cases e) rest)
  | empty hn =>
    rename_i name
    cases name with
    | none => exact Fails.bind (identifier_fails_of_head (by simp [renderPieces, Piece.render, emptyText, headAll]; decide))
    | some n =>
      simp only [renderPieces, Piece.render, emptyText, List.append_nil]
      exact Fails.bind (identifier_fails_tupleName hn rest)
  | flat hn _ =>
    simp only [renderPieces, Piece.render, List.append_assoc]
    exact Fails.bind (hopen _ hn)
  | brk k1 k2 hn _ =>
    simp only [renderPieces, Piece.render, List.append_assoc]
    exact Fails.bind (hopen _ hn)
  | chain _ _ _ => simp [isPrim] at hprim

theorem headOk_not_paren {s : Str} (h : HeadOk s) : headAll (fun c => c != '(') s = true := by
  obtain ⟨c, r, rfl, hc⟩ := h
  rw [headAll_cons]
  simpa using headCls_ne hc '(' (by decide)

theorem stop_sp {s : Str} (h : HeadOk s) : Stop (' ' :: s) := by
  refine ⟨by simp [IdStop]; decide, by rw [headAll_cons]; decide, ?_⟩
  rw [List.dropWhile_cons, show isMultispace ' ' = true by decide, if_pos rfl, headOk_not_ms h]
  exact headOk_not_paren h

theorem stop_nlw {w x : Str} (hw : w.all isMultispace = true)
    (hx : headAll (fun c => c != '(') (x.dropWhile isMultispace) = true) : Stop ('\n' :: (w ++ x)) := by
  refine ⟨by simp [IdStop]; decide, by rw [headAll_cons]; decide, ?_⟩
  rwa [List.dropWhile_cons, show isMultispace '\n' = true by decide, if_pos rfl, List.dropWhile_append_of_pos (List.all_eq_true.mp hw)]

theorem chainSep_pipe (k : Nat) {s : Str} (h : HeadOk s) :
    chainSep ('\n' :: (List.replicate k ' ' ++ '~' :: '>' :: ' ' :: s)) = .ok () s := by
  unfold chainSep
  refine alt_of_ok ?_
  have ht : ptag ['~', '>'] ('~' :: '>' :: ' ' :: s) = .ok () (' ' :: s) := ptag_append ['~', '>'] (' ' :: s)
  rw [seq_ok (ws1_ws rfl (all_ms_replicate k) rfl), seq_ok ht]
  exact ws1_sp (headOk_not_ms h)

theorem tailP_stop {us : List T} {ps : List Piece} (h : TailP us ps) {rest : Str} (hs : Stop rest) :
    Stop (renderPieces ps ++ rest) := by
  cases h with
  | nil => simpa [renderPieces] using hs
  | @cons u us ps0 rest0 _ hl _ =>
    have := stop_sp (((layP_head hl).append (renderPieces rest0)).append rest)
    simpa [renderPieces, Piece.render, renderPieces_append] using this
  | @pipe u us ps0 rest0 k _ hl _ =>
    have := stop_nlw (all_ms_replicate k)
      (x := '~' :: '>' :: ' ' :: (renderPieces ps0 ++ (renderPieces rest0 ++ rest))) rfl
    simpa [renderPieces, Piece.render, renderPieces_append] using this

theorem namedAlt_fails {term : P T} {t : T} {ps : List Piece} {rest : Str} (h : LayP t ps) (hs : Stop rest) :
    Fails (bind identifier fun n => seq (pchar ':') (seq ws1 (pmap term (F.mk (some n)))))
      (renderPieces ps ++ rest) := by
  cases hp : isPrim t with
  | true => exact namedAlt_fails_prim h hp hs
  | false =>
    cases h with
    | chain hpt hl ht =>
      rw [renderPieces_append, List.append_assoc]
      exact namedAlt_fails_prim hl hpt (tailP_stop ht hs)
    | leaf _ => simp [isPrim] at hp
    | lit hl => cases hl <;> simp [isPrim] at hp
    | empty _ => simp [isPrim] at hp
    | flat _ _ => simp [isPrim] at hp
    | brk _ _ _ _ => simp [isPrim] at hp

theorem idStop_colon (r : Str) : IdStop (':' :: r) := by simp [IdStop]; decide

theorem render_open (name : Option Str) (X : List Piece) (rest : Str) :
    renderPieces (.atom (openText name) :: X) ++ rest = openText name ++ (renderPieces X ++ rest) := by
  simp [renderPieces, Piece.render]

theorem render_lt_of_open {name : Option Str} {ps : List Piece} {n : Nat}
    (h : (renderPieces (.atom (openText name) :: ps)).length < n + 1) : (renderPieces ps).length < n := by
  have : 0 < (openText name).length := by simp [openText]
  rw [show renderPieces (.atom (openText name) :: ps) = openText name ++ renderPieces ps from rfl,
    List.length_append] at h
  omega

/-- The fragment parser reads every layout back (with enough fuel for the text): `primary` a layout of
    a term, provided what follows cannot be taken for a continuation of the term (`Stop`); `chain` a
    layout of a term or chain; the loops of `separated_list` the further terms of a chain and the
    fields of a tuple. The fuel `n` is above the length of the text: `primary` spends one unit each
    time it is unfolded, and what it is unfolded on inside a tuple is shorter by the opening bracket
    (`render_lt_of_open`); everywhere else the same `n` is passed on to the parts. -/
theorem lay_parse :
    (∀ {t ps}, LayP t ps → ∀ (n : Nat) (rest : Str), (renderPieces ps).length < n →
      (isPrim t = true → Stop rest → termP n (renderPieces ps ++ rest) = .ok t rest) ∧
      (StopC rest → chainP (termP n) (renderPieces ps ++ rest) = .ok t rest)) ∧
    (∀ {us ps}, TailP us ps → ∀ (n : Nat) (rest : Str), (renderPieces ps).length < n → StopC rest →
      sepTail chainSep (termP n) (renderPieces ps ++ rest) = .ok us rest) ∧
    (∀ {f ps}, LayF f ps → ∀ (n : Nat) (rest : Str), (renderPieces ps).length < n → StopC rest →
      fieldP (chainP (termP n)) (renderPieces ps ++ rest) = .ok f rest) ∧
    ∀ {bk fs ps}, ItemsP bk fs ps → ∀ (n : Nat) (rest : Str), (renderPieces ps).length < n → StopC rest →
      sepTail commaWsc (fieldP (chainP (termP n))) rest = .ok [] rest →
      ∃ f fs' r1, fs = f :: fs' ∧ fieldP (chainP (termP n)) (renderPieces ps ++ rest) = .ok f r1 ∧
        r1.length ≤ (renderPieces ps ++ rest).length ∧
        sepTail commaWsc (fieldP (chainP (termP n))) r1 = .ok fs' rest := by
  -- a term: `primary` needs one unit of fuel, and a single term is a chain
  have prim : ∀ {t : T} {ps : List Piece}, isPrim t = true →
      (∀ (n : Nat) (rest : Str), (renderPieces ps).length < n + 1 → Stop rest →
        termP (n + 1) (renderPieces ps ++ rest) = .ok t rest) →
      ∀ (n : Nat) (rest : Str), (renderPieces ps).length < n →
        (isPrim t = true → Stop rest → termP n (renderPieces ps ++ rest) = .ok t rest) ∧
        (StopC rest → chainP (termP n) (renderPieces ps ++ rest) = .ok t rest) := by
    intro t ps hp h n rest hlen
    cases n with
    | zero => omega
    | succ n => exact ⟨fun _ => h n rest hlen, fun hs => chainP_prim (h n rest hlen hs.1) hs.2⟩
  refine LayP.ind ?leaf ?lit ?empty ?flat ?brk ?chain ?tnil ?tcons ?pipe ?unnamed ?named ?one ?consFlat ?consBrk
  case leaf =>
    intro name hn
    refine prim rfl fun n rest _ hstop => ?_
    simp only [renderPieces, Piece.render, List.append_nil]
    rw [termP_ident hn]
    exact accessP_leaf hn hstop
  case lit =>
    intro t s hl
    refine prim (by cases hl <;> rfl) fun n rest _ hstop => ?_
    simp only [renderPieces, Piece.render, List.append_nil]
    exact termP_lit hl hstop n
  case empty =>
    intro name hn
    refine prim rfl fun n rest hlen hstop => ?_
    cases name with
    | some nm =>
      simp only [renderPieces, Piece.render, emptyText, List.append_nil]
      rw [termP_notLit (notLit_tupleName hn rest)]
      exact alt_of_ok (tupleP_bare hn hstop)
    | none =>
      cases n with
      | zero => simp [renderPieces, Piece.render, emptyText] at hlen
      | succ n =>
        have hs : renderPieces [.atom (emptyText none)] ++ rest = openText none ++ (']' :: rest) := by
          simp [renderPieces, Piece.render, emptyText, openText]
        rw [hs, termP_notLit (notLit_open (name := none) trivial _)]
        refine alt_of_ok (tupleP_open (name := none) trivial
          (bracketsP_ok (wsc_of_head (noWsc_close rest)) (sepList0_of_fails (fieldP_fails_close n rest))
            (.inl rfl)))
  case flat =>
    intro name _ _ items hn hi ihi
    refine prim rfl fun n rest hlen _ => ?_
    have hl : (renderPieces items).length < n := (render_lt_of_append (render_lt_of_open hlen)).1
    simp only [renderPieces_append, renderPieces, Piece.render, List.append_assoc, List.cons_append, List.nil_append]
    obtain ⟨f', fs', r1, heq, hf, _, ht⟩ := ihi n (']' :: rest) hl (stopC_close rest)
      (sepTail_of_fails (commaWsc_fails_close rest (.inl rfl)))
    rw [termP_notLit (notLit_open hn _)]
    exact alt_of_ok (tupleP_open hn (bracketsP_ok (wsc_headOk ((itemsP_head hi).append _))
      (by rw [heq]; exact sepList0_cons hf ht) (.inl rfl)))
  case brk =>
    intro name _ _ items k1 k2 hn hi ihi
    refine prim rfl fun n rest hlen _ => ?_
    have hl : (renderPieces items).length < n :=
      (render_lt_of_append (render_lt_of_cons (render_lt_of_open hlen))).1
    simp only [renderPieces_append, renderPieces, Piece.render, List.append_assoc, List.cons_append, List.nil_append]
    cases n with
    | zero => omega
    | succ m =>
      have hend : sepTail commaWsc (fieldP (chainP (termP (m + 1))))
            (',' :: '\n' :: (List.replicate k2 ' ' ++ ']' :: rest)) =
          .ok [] (',' :: '\n' :: (List.replicate k2 ' ' ++ ']' :: rest)) :=
        sepTail_item_fails (commaWsc_ws (all_ms_nl k2) (noWsc_close rest)) (by simp; omega) (fieldP_fails_close m rest)
      obtain ⟨f', fs', r1, heq, hf, _, ht⟩ := ihi (m + 1) _ hl (stopC_comma _) hend
      rw [termP_notLit (notLit_open hn _)]
      exact alt_of_ok (tupleP_open hn (bracketsP_ok (wsc_ws (all_ms_nl k1) (headOk_stop ((itemsP_head hi).append _)))
        (by rw [heq]; exact sepList0_cons hf ht) (.inr ⟨_, all_ms_nl k2, rfl⟩)))
  case chain =>
    intro _ _ _ ps rs hp _ ht ihl iht n rest hlen
    refine ⟨fun h => by simp [isPrim] at h, fun hs => ?_⟩
    have hl1 := render_lt_of_append hlen
    rw [renderPieces_append, List.append_assoc]
    unfold chainP
    rw [pmap_ok (sepList1_cons ((ihl n _ hl1.1).1 hp (tailP_stop ht hs.1)) (iht n rest hl1.2 hs))]
  case tnil =>
    intro n rest _ hs
    simpa [renderPieces] using sepTail_of_fails (p := termP n) hs.2
  case tcons =>
    intro _ _ ps rs hp hl ht ihl iht n rest hlen hs
    have hl1 := render_lt_of_append (render_lt_of_cons hlen)
    simp only [renderPieces_append, renderPieces, Piece.render, List.append_assoc, List.cons_append, List.nil_append]
    exact sepTail_cons (chainSep_sp ((layP_head hl).append _))
      (by simp) ((ihl n _ hl1.1).1 hp (tailP_stop ht hs.1)) (by simp) (iht n rest hl1.2 hs)
  case pipe =>
    intro _ _ ps rs k hp hl ht ihl iht n rest hlen hs
    have hl1 := render_lt_of_append (render_lt_of_cons (render_lt_of_cons (render_lt_of_cons hlen)))
    simp only [renderPieces_append, renderPieces, Piece.render, List.append_assoc, List.cons_append, List.nil_append]
    exact sepTail_cons (chainSep_pipe k ((layP_head hl).append _))
      (by simp; omega) ((ihl n _ hl1.1).1 hp (tailP_stop ht hs.1)) (by simp) (iht n rest hl1.2 hs)
  case unnamed =>
    intro _ _ hl ih n rest hlen hstop
    unfold fieldP
    rw [alt_of_fails (namedAlt_fails hl hstop.1)]
    exact pmap_ok ((ih n rest hlen).2 hstop)
  case named =>
    intro l _ ps hn hl ih n rest hlen hstop
    have hl1 := render_lt_of_cons (render_lt_of_cons hlen)
    simp only [renderPieces_append, renderPieces, Piece.render, List.append_assoc, List.cons_append, List.nil_append]
    unfold fieldP
    refine alt_of_ok ?_
    rw [bind_ok (identifier_append hn (idStop_colon _)), seq_ok (pchar_self ':' _)]
    rw [seq_ok (ws1_sp (headOk_not_ms ((layP_head hl).append rest)))]
    exact pmap_ok ((ih n rest hl1).2 hstop)
  case one =>
    exact fun {_ f _} _ ih n rest hlen hstop hend => ⟨f, [], rest, rfl, ih n rest hlen hstop, by simp, hend⟩
  case consFlat =>
    intro f _ _ ps restp _ hi ihl ihi n rest hlen hstop hend
    have hl1 : (renderPieces ps).length < n ∧ (renderPieces restp).length < n :=
      ⟨(render_lt_of_append hlen).1, render_lt_of_cons (render_lt_of_cons (render_lt_of_append hlen).2)⟩
    obtain ⟨g', fs', r1, heq, hg, hr1, ht⟩ := ihi n rest hl1.2 hstop hend
    refine ⟨f, g' :: fs', ',' :: ' ' :: (renderPieces restp ++ rest), by rw [heq], ?_, ?_, ?_⟩
    · simp only [renderPieces_append, renderPieces, Piece.render, List.append_assoc, List.cons_append, List.nil_append]
      exact ihl n _ hl1.1 (stopC_comma _)
    · simp [renderPieces_append, renderPieces, Piece.render]
    · exact sepTail_cons (commaWsc_ws (w := [' ']) rfl (headOk_stop ((itemsP_head hi).append rest))) (by simp; omega)
        hg hr1 ht
  case consBrk =>
    intro f _ _ ps restp k _ hi ihl ihi n rest hlen hstop hend
    have hl1 : (renderPieces ps).length < n ∧ (renderPieces restp).length < n :=
      ⟨(render_lt_of_append hlen).1, render_lt_of_cons (render_lt_of_cons (render_lt_of_append hlen).2)⟩
    obtain ⟨g', fs', r1, heq, hg, hr1, ht⟩ := ihi n rest hl1.2 hstop hend
    refine ⟨f, g' :: fs', ',' :: '\n' :: (List.replicate k ' ' ++ (renderPieces restp ++ rest)),
      by rw [heq], ?_, ?_, ?_⟩
    · simp only [renderPieces_append, renderPieces, Piece.render, List.append_assoc, List.cons_append, List.nil_append]
      exact ihl n _ hl1.1 (stopC_comma _)
    · simp [renderPieces_append, renderPieces, Piece.render]
    · exact sepTail_cons (commaWsc_ws (all_ms_nl k) (headOk_stop ((itemsP_head hi).append rest))) (by simp; omega)
        hg hr1 ht

theorem termP_lay : ∀ {t : T} {ps : List Piece}, LayP t ps → isPrim t = true → ∀ (n : Nat) (rest : Str),
    (renderPieces ps).length < n → Stop rest → termP n (renderPieces ps ++ rest) = .ok t rest :=
  fun h hp n rest hlen hs => ((lay_parse.1 h) n rest hlen).1 hp hs
theorem chainP_lay {t : T} {ps : List Piece} (h : LayP t ps) (n : Nat) (rest : Str)
    (hlen : (renderPieces ps).length < n) (hs : StopC rest) :
    chainP (termP n) (renderPieces ps ++ rest) = .ok t rest :=
  ((lay_parse.1 h) n rest hlen).2 hs
theorem chain_lay : ∀ {t : T} {ps : List Piece}, LayP t ps → isPrim t = false → ∀ (n : Nat) (rest : Str),
    (renderPieces ps).length < n → StopC rest → chainP (termP n) (renderPieces ps ++ rest) = .ok t rest :=
  fun h _ n rest hlen hs => chainP_lay h n rest hlen hs
theorem tail_lay : ∀ {us : List T} {ps : List Piece}, TailP us ps → ∀ (n : Nat) (rest : Str),
    (renderPieces ps).length < n → StopC rest →
    sepTail chainSep (termP n) (renderPieces ps ++ rest) = .ok us rest := lay_parse.2.1
theorem fieldP_lay : ∀ {f : F} {ps : List Piece}, LayF f ps → ∀ (n : Nat) (rest : Str),
    (renderPieces ps).length < n → StopC rest → fieldP (chainP (termP n)) (renderPieces ps ++ rest) = .ok f rest :=
  lay_parse.2.2.1
theorem items_lay : ∀ {bk : Bool} {fs : List F} {ps : List Piece}, ItemsP bk fs ps →
    ∀ (n : Nat) (rest : Str), (renderPieces ps).length < n → StopC rest →
    sepTail commaWsc (fieldP (chainP (termP n))) rest = .ok [] rest → ItemsRead n fs (renderPieces ps) rest :=
  fun h n rest hlen hs hend =>
    let ⟨f, fs', r1, e, hf, _, ht⟩ := lay_parse.2.2.2 h n rest hlen hs hend
    ⟨f, fs', r1, e, hf, ht⟩

end QM.Frag
