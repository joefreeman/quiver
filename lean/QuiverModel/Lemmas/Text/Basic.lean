import QuiverModel.Core.Text.Scan
/-
Helper lemmas about M-Text (unfolding equations in `cons` form, UTF-8 lengths). Core Lean only.
-/
namespace QM.Text

theorem utf8Len_append (a b : List Char) : utf8Len (a ++ b) = utf8Len a + utf8Len b := by
  induction a with
  | nil => simp [utf8Len]
  | cons c cs ih => simp [utf8Len, ih]; omega

theorem stringSegments_cons (c : Char) (rest : List Char) :
    stringSegments (c :: rest) =
      if c = '"' then .closed [] rest
      else if c = '{' then .hole [] (c :: rest)
      else if c = '\\' then
        match rest with
        | [] => .unterminated
        | e :: rest' =>
          match singleEscape e with
          | some d => (stringSegments rest').push d
          | none => .badEscape
      else (stringSegments rest).push c := by
  rw [stringSegments.eq_def]; rfl

theorem decodeSingleAux_cons (o : Nat) (c : Char) (rest : List Char) :
    decodeSingleAux o (c :: rest) =
      if c = '\\' then
        match rest with
        | [] => .error ⟨o, 1, ['\\']⟩
        | e :: rest' =>
          match singleEscape e with
          | some d => (decodeSingleAux (o + 2) rest').map (d :: ·)
          | none => .error ⟨o, 2, ['\\', e]⟩
      else (decodeSingleAux (o + c.utf8Size) rest).map (c :: ·) := by
  rw [decodeSingleAux.eq_def]; rfl

theorem scanCloseSingleAux_cons (idx : Nat) (c : Char) (rest : List Char) :
    scanCloseSingleAux idx (c :: rest) =
      if c = '\\' then
        match rest with
        | [] => none
        | e :: rest' => scanCloseSingleAux (idx + c.utf8Size + e.utf8Size) rest'
      else if c = '"' then some idx
      else scanCloseSingleAux (idx + c.utf8Size) rest := by
  rw [scanCloseSingleAux.eq_def]; rfl

theorem scanCloseMultiAux_cons (idx : Nat) (c : Char) (rest : List Char) :
    scanCloseMultiAux idx (c :: rest) =
      if c = '\\' then
        match rest with
        | [] => none
        | e :: rest' => scanCloseMultiAux (idx + c.utf8Size + e.utf8Size) rest'
      else if c = '"' && startsTripleQuote (c :: rest) then some idx
      else scanCloseMultiAux (idx + c.utf8Size) rest := by
  rw [scanCloseMultiAux.eq_def]; rfl

theorem processSegments_cons (pending : List Char) (c : Char) (rest : List Char) :
    processSegments pending (c :: rest) =
      if c = ' ' || c = '\t' then processSegments (pending ++ [c]) rest
      else if c = '\n' then (processSegments [] rest).prepend ['\n']
      else if c = '{' then .hole pending (c :: rest)
      else if c = '\\' then
        match rest with
        | [] => .malformed
        | e :: rest' =>
          if e = '\n' then (processSegments [] (dropHspace rest')).prepend pending
          else
            match multiEscape e with
            | some d => (processSegments [] rest').prepend (pending ++ [d])
            | none => .malformed
      else (processSegments [] rest).prepend (pending ++ [c]) := by
  rw [processSegments.eq_def]; rfl

theorem processSegments_nil (pending : List Char) : processSegments pending [] = .text [] := by
  rw [processSegments.eq_def]

end QM.Text
