import QuiverModel.Lemmas.Text.Basic
/-
Lemmas for the string round trips of C17: how `escape_single_line_text` writes one character and
the scanners and decoders over its output; `protectTrailingSpaces` in recursive form (`protRec`),
decoding of one rendered line and of all lines, de-indentation of the rendered literal, escape-clean
text and the closing-delimiter scan over it. Core Lean only.
-/
namespace QM.Text

/-- `escape_single_line_text` writes a character either as the two-character escape that the parsers'
    table (`singleEscape`) decodes back to it, or — when it is none of the characters the scanners
    react to — as itself. -/
theorem escapeSingle_cons (c : Char) (rest : List Char) :
    (∃ x, singleEscape x = some c ∧ escapeSingle (c :: rest) = '\\' :: x :: escapeSingle rest) ∨
    ((c ≠ '\\' ∧ c ≠ '"' ∧ c ≠ '{' ∧ c ≠ '\n' ∧ c ≠ '\r') ∧
      escapeSingle (c :: rest) = c :: escapeSingle rest) := by
  by_cases h1 : c = '\\'
  · exact .inl ⟨'\\', by rw [h1]; rfl, by rw [h1]; rfl⟩
  by_cases h2 : c = '"'
  · exact .inl ⟨'"', by rw [h2]; rfl, by rw [h2]; rfl⟩
  by_cases h3 : c = '{'
  · exact .inl ⟨'{', by rw [h3]; rfl, by rw [h3]; rfl⟩
  by_cases h4 : c = '\n'
  · exact .inl ⟨'n', by rw [h4]; rfl, by rw [h4]; rfl⟩
  by_cases h5 : c = '\r'
  · exact .inl ⟨'r', by rw [h5]; rfl, by rw [h5]; rfl⟩
  by_cases h6 : c = '\t'
  · exact .inl ⟨'t', by rw [h6]; rfl, by rw [h6]; rfl⟩
  · exact .inr ⟨⟨h1, h2, h3, h4, h5⟩, by simp only [escapeSingle, if_neg h1, if_neg h2, if_neg h3, if_neg h4,
      if_neg h5, if_neg h6, List.singleton_append]⟩

theorem singleEscape_some {x c : Char} (h : singleEscape x = some c) : x ≠ '\n' ∧ x ≠ '\r' := by
  constructor <;> (rintro rfl; cases h)

theorem stringSegments_escapeSingle (s rest : List Char) :
    stringSegments (escapeSingle s ++ '"' :: rest) = .closed s rest := by
  induction s with
  | nil => simp [escapeSingle, stringSegments_cons]
  | cons c s ih =>
    rcases escapeSingle_cons c s with ⟨x, hx, e⟩ | ⟨⟨h1, h2, h3, _⟩, e⟩
    · rw [e, List.cons_append, List.cons_append, stringSegments_cons]
      simp only [hx, ih, SegResult.push, if_neg (show ¬ '\\' = '"' by decide), if_neg (show ¬ '\\' = '{' by decide), if_true]
    · rw [e, List.cons_append, stringSegments_cons, if_neg h2, if_neg h3, if_neg h1, ih]
      rfl

theorem decodeSingleAux_escape (o : Nat) (s : List Char) :
    decodeSingleAux o (escapeSingle s) = .ok s := by
  induction s generalizing o with
  | nil => rfl
  | cons c s ih =>
    rcases escapeSingle_cons c s with ⟨x, hx, e⟩ | ⟨⟨h1, _⟩, e⟩
    · rw [e, decodeSingleAux_cons]
      simp only [hx, ih, if_true]; rfl
    · rw [e, decodeSingleAux_cons, if_neg h1, ih]; rfl

theorem scanCloseSingleAux_escape (idx : Nat) (s rest : List Char) :
    scanCloseSingleAux idx (escapeSingle s ++ '"' :: rest) = some (idx + utf8Len (escapeSingle s)) := by
  induction s generalizing idx with
  | nil => simp [escapeSingle, scanCloseSingleAux_cons, utf8Len]
  | cons c s ih =>
    rcases escapeSingle_cons c s with ⟨x, _, e⟩ | ⟨⟨h1, h2, _⟩, e⟩
    · rw [e, List.cons_append, List.cons_append, scanCloseSingleAux_cons]
      simp only [if_true, ih, utf8Len, Nat.add_assoc]
    · rw [e, List.cons_append, scanCloseSingleAux_cons, if_neg h1, if_neg h2, ih]
      simp only [utf8Len, Nat.add_assoc]

theorem escapeSingle_clean (v : List Char) : (escapeSingle v).all (fun c => c != '\n' && c != '\r') = true := by
  induction v with
  | nil => rfl
  | cons c v ih =>
    rcases escapeSingle_cons c v with ⟨x, hx, e⟩ | ⟨⟨_, _, _, h4, h5⟩, e⟩
    · have := singleEscape_some hx
      simp [e, ih, this.1, this.2]
    · simp [e, ih, h4, h5]

/-- `protectTrailingSpaces` by recursion: a character is written `\s` iff it and all behind it are spaces -/
def protRec : List Char → List Char
  | [] => []
  | c :: t => if (c :: t).all (· = ' ') then '\\' :: 's' :: protRec t else c :: protRec t

theorem trailingSpaces_le (t : List Char) : trailingSpaces t ≤ t.length := by
  induction t with
  | nil => simp [trailingSpaces]
  | cons c t ih =>
    simp only [trailingSpaces, List.length_cons]
    split
    · split <;> omega
    · omega

theorem trailingSpaces_allSpaces (t : List Char) (h : t.all (· = ' ') = true) :
    trailingSpaces t = t.length := by
  induction t with
  | nil => simp [trailingSpaces]
  | cons c t ih =>
    simp only [List.all_cons, Bool.and_eq_true, decide_eq_true_eq] at h
    simp [trailingSpaces, h.1, h.2]

theorem protect_eq_protRec (x : List Char) : protectTrailingSpaces x = protRec x := by
  induction x with
  | nil => simp [protectTrailingSpaces, protRec, trailingSpaces]
  | cons c t ih =>
    by_cases hall : (c :: t).all (· = ' ') = true
    · have ht : t.all (· = ' ') = true := by
        simp only [List.all_cons, Bool.and_eq_true] at hall; exact hall.2
      have hc : c = ' ' := by
        simp only [List.all_cons, Bool.and_eq_true, decide_eq_true_eq] at hall; exact hall.1
      have e1 : protectTrailingSpaces t = (List.replicate t.length ['\\', 's']).flatten := by
        simp [protectTrailingSpaces, trailingSpaces_allSpaces t ht]
      rw [protRec, if_pos hall, ← ih, e1]
      simp [protectTrailingSpaces, trailingSpaces_allSpaces (c :: t) hall, List.replicate_succ]
    · rw [protRec, if_neg hall, ← ih]
      by_cases ht : t.all (· = ' ') = true
      · have hc : c ≠ ' ' := by
          intro hc; apply hall; simp [hc, ht]
        simp [protectTrailingSpaces, trailingSpaces, ht, hc, trailingSpaces_allSpaces t ht]
      · have hle := trailingSpaces_le t
        simp only [protectTrailingSpaces, trailingSpaces, ht, Bool.false_eq_true, ↓reduceIte,
          List.length_cons]
        have : t.length + 1 - trailingSpaces t = (t.length - trailingSpaces t) + 1 := by omega
        rw [this, List.take_succ_cons]; simp

theorem prepend_prepend (a b : List Char) (r : MlSegResult) :
    (r.prepend b).prepend a = r.prepend (a ++ b) := by
  cases r <;> simp [MlSegResult.prepend]

theorem prepend_nil (r : MlSegResult) : r.prepend [] = r := by
  cases r <;> simp [MlSegResult.prepend]

theorem escapeMultiText_allSpaces (t : List Char) (h : t.all (· = ' ') = true) :
    escapeMultiText t = t := by
  induction t with
  | nil => simp [escapeMultiText]
  | cons c t ih =>
    simp only [List.all_cons, Bool.and_eq_true, decide_eq_true_eq] at h
    simp [escapeMultiText, h.1, ih h.2]

/-- `escape_multiline_text` writes a character either as the two-character escape that the parser's
    table (`multiEscape`) decodes back to it, or as itself; a space is written as itself. -/
theorem escapeMultiText_cons (c : Char) (rest : List Char) :
    (∃ x, multiEscape x = some c ∧ c ≠ ' ' ∧ escapeMultiText (c :: rest) = '\\' :: x :: escapeMultiText rest) ∨
    ((c ≠ '\\' ∧ c ≠ '"' ∧ c ≠ '{' ∧ c ≠ '\r' ∧ c ≠ '\t') ∧
      escapeMultiText (c :: rest) = c :: escapeMultiText rest) := by
  by_cases h1 : c = '\\'
  · exact .inl ⟨'\\', by rw [h1]; rfl, by rw [h1]; decide, by rw [h1]; rfl⟩
  by_cases h2 : c = '"'
  · exact .inl ⟨'"', by rw [h2]; rfl, by rw [h2]; decide, by rw [h2]; rfl⟩
  by_cases h3 : c = '{'
  · exact .inl ⟨'{', by rw [h3]; rfl, by rw [h3]; decide, by rw [h3]; rfl⟩
  by_cases h5 : c = '\r'
  · exact .inl ⟨'r', by rw [h5]; rfl, by rw [h5]; decide, by rw [h5]; rfl⟩
  by_cases h6 : c = '\t'
  · exact .inl ⟨'t', by rw [h6]; rfl, by rw [h6]; decide, by rw [h6]; rfl⟩
  · exact .inr ⟨⟨h1, h2, h3, h5, h6⟩, by
      simp only [escapeMultiText, if_neg h1, if_neg h2, if_neg h3, if_neg h5, if_neg h6, List.singleton_append]⟩

theorem multiEscape_some {x c : Char} (h : multiEscape x = some c) :
    x ≠ ' ' ∧ x ≠ '\n' ∧ x ≠ '\r' ∧ x ≠ '\t' := by
  refine ⟨?_, ?_, ?_, ?_⟩ <;> (rintro rfl; cases h)

theorem escapeMultiText_allSpaces_iff (t : List Char) :
    (escapeMultiText t).all (· = ' ') = t.all (· = ' ') := by
  induction t with
  | nil => rfl
  | cons c t ih =>
    rcases escapeMultiText_cons c t with ⟨x, _, hc, e⟩ | ⟨_, e⟩
    · simp [e, hc]
    · simp [e, ih]

theorem protRec_cons_ne (c : Char) (t : List Char) (hc : c ≠ ' ') :
    protRec (c :: t) = c :: protRec t := by
  have : ¬ ((c :: t).all (· = ' ') = true) := by simp [hc]
  rw [protRec, if_neg this]

theorem processSegments_esc (pend : List Char) {x c : Char} (h : multiEscape x = some c) (rest : List Char) :
    processSegments pend ('\\' :: x :: rest) = (processSegments [] rest).prepend (pend ++ [c]) := by
  rw [processSegments_cons]
  simp [h, (multiEscape_some h).2.1]

/-- Decoding one rendered line: the escapes come back, the `\s` come back as spaces, and no
    pending whitespace is left over at the end of the line. -/
theorem processSegments_line (l : List Char) (hnl : '\n' ∉ l) (pend tail : List Char) :
    processSegments pend (protRec (escapeMultiText l) ++ tail) =
      if l = [] then processSegments pend tail
      else (processSegments [] tail).prepend (pend ++ l) := by
  induction l generalizing pend with
  | nil => simp [escapeMultiText, protRec]
  | cons c t ih =>
    have hnl' : '\n' ∉ t := fun h => hnl (List.mem_cons_of_mem _ h)
    have hc : c ≠ '\n' := fun h => hnl (h ▸ List.mem_cons_self)
    simp only [reduceCtorEq, ↓reduceIte]
    -- the recursive step, once the head unit has been decoded to `c` with empty pending afterwards
    have step : ∀ p : List Char,
        (processSegments [] (protRec (escapeMultiText t) ++ tail)).prepend (p ++ [c]) =
        (processSegments [] tail).prepend (p ++ c :: t) := by
      intro p
      rw [ih hnl' []]
      split
      · rename_i ht; subst ht; simp
      · simp [prepend_prepend]
    rcases escapeMultiText_cons c t with ⟨x, hx, _, e⟩ | ⟨⟨h1, _, h3, _, h6⟩, e⟩
    · rw [e, protRec_cons_ne _ _ (by decide), protRec_cons_ne _ _ (multiEscape_some hx).1, List.cons_append,
        List.cons_append, processSegments_esc pend hx, step]
    rw [e]
    by_cases hs : c = ' '
    · subst hs
      by_cases ht : t.all (· = ' ') = true
      · -- the rest of the line is spaces: this one is rendered `\s`
        have : (' ' :: escapeMultiText t).all (· = ' ') = true := by
          simp [escapeMultiText_allSpaces_iff, ht]
        rw [protRec, if_pos this, List.cons_append, List.cons_append, processSegments_esc pend (by rfl), step]
      · have : ¬ ((' ' :: escapeMultiText t).all (· = ' ') = true) := by
          simp [escapeMultiText_allSpaces_iff, ht]
        rw [protRec, if_neg this]
        have htne : t ≠ [] := by intro h; subst h; simp at ht
        simp [processSegments_cons, ih hnl' (pend ++ [' ']), htne]
    · rw [protRec_cons_ne _ _ hs]
      simp [processSegments_cons, hs, h6, hc, h3, h1, step]

theorem splitNl_cons (c : Char) (rest : List Char) :
    splitNl (c :: rest) =
      if c = '\n' then [] :: splitNl rest
      else match splitNl rest with
        | l :: ls => (c :: l) :: ls
        | [] => [[c]] := by
  rw [splitNl.eq_def]; rfl

theorem splitNl_ne_nil (v : List Char) : splitNl v ≠ [] := by
  induction v with
  | nil => simp [splitNl]
  | cons c rest ih =>
    rw [splitNl_cons]
    split
    · simp
    · split <;> simp

theorem joinNl_cons_cons (l l2 : List Char) (ls : List (List Char)) :
    joinNl (l :: l2 :: ls) = l ++ '\n' :: joinNl (l2 :: ls) := by
  simp [joinNl]

theorem joinNl_splitNl (v : List Char) : joinNl (splitNl v) = v := by
  induction v with
  | nil => simp [splitNl, joinNl]
  | cons c rest ih =>
    rw [splitNl_cons]
    split
    · rename_i hc
      cases h : splitNl rest with
      | nil => exact absurd h (splitNl_ne_nil rest)
      | cons l ls => rw [joinNl_cons_cons, ← h, ih]; simp [hc]
    · cases h : splitNl rest with
      | nil => exact absurd h (splitNl_ne_nil rest)
      | cons l ls =>
        simp only
        rw [h] at ih
        cases ls with
        | nil => simp [joinNl] at ih ⊢; exact ih
        | cons l2 ls => rw [joinNl_cons_cons] at ih ⊢; simp [ih]

theorem splitNl_lines_noNl (v : List Char) : ∀ l ∈ splitNl v, '\n' ∉ l := by
  induction v with
  | nil => simp [splitNl]
  | cons c rest ih =>
    rw [splitNl_cons]
    split
    · intro l hl
      simp only [List.mem_cons] at hl
      rcases hl with rfl | hl
      · simp
      · exact ih l hl
    · rename_i hc
      cases h : splitNl rest with
      | nil => exact absurd h (splitNl_ne_nil rest)
      | cons l0 ls =>
        rw [h] at ih
        intro l hl
        simp only [List.mem_cons] at hl
        rcases hl with rfl | hl
        · intro hm
          simp only [List.mem_cons] at hm
          rcases hm with hm | hm
          · exact hc hm.symm
          · exact ih l0 (by simp) hm
        · exact ih l (by simp [hl])

theorem processSegments_lines (ls : List (List Char)) (hne : ls ≠ []) (h : ∀ l ∈ ls, '\n' ∉ l) :
    processSegments [] (joinNl (ls.map (fun l => protRec (escapeMultiText l)))) =
      .text (joinNl ls) := by
  induction ls with
  | nil => exact absurd rfl hne
  | cons l rest ih =>
    cases rest with
    | nil =>
      have := processSegments_line l (h l (by simp)) [] []
      simp only [List.append_nil] at this
      simp only [List.map, joinNl, this]
      split
      · rename_i hl; subst hl; simp [processSegments_nil]
      · simp [processSegments_nil, MlSegResult.prepend]
    | cons l2 more =>
      have ih' := ih (by simp) (fun x hx => h x (by simp [hx]))
      simp only [List.map] at ih' ⊢
      rw [joinNl_cons_cons, joinNl_cons_cons]
      rw [processSegments_line l (h l (by simp)) [] _]
      rw [processSegments_cons]
      simp only [Char.reduceEq, decide_false, Bool.or_self, Bool.false_eq_true, ↓reduceIte]
      rw [ih']
      split
      · rename_i hl; subst hl; simp [MlSegResult.prepend]
      · simp [MlSegResult.prepend]

theorem normalizeNewlines_cons_ne (c : Char) (rest : List Char) (hc : c ≠ '\r') :
    normalizeNewlines (c :: rest) = c :: normalizeNewlines rest := by
  rw [normalizeNewlines.eq_def]
  split
  · rename_i heq; simp at heq
  · rename_i heq; simp at heq; exact absurd heq.1 hc
  · rename_i heq; simp at heq; exact absurd heq.1 hc
  · rename_i c' rest' _ _ heq
    simp at heq
    obtain ⟨rfl, rfl⟩ := heq
    rfl

theorem normalizeNewlines_noCR (cs : List Char) (h : '\r' ∉ cs) : normalizeNewlines cs = cs := by
  induction cs with
  | nil => simp [normalizeNewlines]
  | cons c rest ih =>
    have hc : c ≠ '\r' := fun e => h (e ▸ List.mem_cons_self)
    have hr : '\r' ∉ rest := fun e => h (List.mem_cons_of_mem _ e)
    rw [normalizeNewlines_cons_ne c rest hc, ih hr]

theorem splitNl_noNl (l : List Char) (h : '\n' ∉ l) : splitNl l = [l] := by
  induction l with
  | nil => simp [splitNl]
  | cons c rest ih =>
    have hc : c ≠ '\n' := fun e => h (e ▸ List.mem_cons_self)
    have hr : '\n' ∉ rest := fun e => h (List.mem_cons_of_mem _ e)
    rw [splitNl_cons, if_neg hc, ih hr]

theorem splitNl_append_nl (a b : List Char) : splitNl (a ++ '\n' :: b) = splitNl a ++ splitNl b := by
  induction a with
  | nil => simp [splitNl_cons, splitNl]
  | cons c rest ih =>
    simp only [List.cons_append]
    rw [splitNl_cons, splitNl_cons c rest]
    split
    · simp [ih]
    · rw [ih]
      cases h : splitNl rest with
      | nil => exact absurd h (splitNl_ne_nil rest)
      | cons l ls => simp

theorem splitNl_joinNl (ls : List (List Char)) (hne : ls ≠ []) (h : ∀ l ∈ ls, '\n' ∉ l) :
    splitNl (joinNl ls) = ls := by
  induction ls with
  | nil => exact absurd rfl hne
  | cons l rest ih =>
    cases rest with
    | nil => simp [joinNl, splitNl_noNl l (h l (by simp))]
    | cons l2 more =>
      rw [joinNl_cons_cons, splitNl_append_nl, splitNl_noNl l (h l (by simp)),
        ih (by simp) (fun x hx => h x (by simp [hx]))]
      simp

theorem stripPrefix_append (m l : List Char) : stripPrefix m (m ++ l) = some l := by
  induction m with
  | nil => cases l <;> simp [stripPrefix]
  | cons c m ih => simp [stripPrefix, ih]

theorem dedentLines_indent (margin : List Char) (Ls : List (List Char))
    (h : ∀ L ∈ Ls, L = [] ∨ ¬ (L.all isHspace = true)) :
    dedentLines margin (Ls.map (indentLine margin)) = some Ls := by
  induction Ls with
  | nil => simp [dedentLines]
  | cons L rest ih =>
    simp only [List.map, dedentLines, ih (fun x hx => h x (by simp [hx]))]
    rcases h L (by simp) with hL | hL
    · subst hL; simp [indentLine]
    · have hne : L ≠ [] := by intro e; subst e; simp at hL
      have : indentLine margin L = margin ++ L := by simp [indentLine, hne]
      have hns : ¬ ((margin ++ L).all isHspace = true) := by
        simp only [List.all_append, Bool.and_eq_true, not_and]; exact fun _ => hL
      rw [this, if_neg hns, stripPrefix_append]

theorem rsplitOnceNl_append (B margin : List Char) (hm : '\n' ∉ margin) :
    rsplitOnceNl (B ++ '\n' :: margin) = some (B, margin) := by
  unfold rsplitOnceNl
  rw [splitNl_append_nl, splitNl_noNl margin hm]
  simp only [List.reverse_append, List.reverse_cons, List.reverse_nil, List.nil_append,
    List.singleton_append]
  cases h : (splitNl B).reverse with
  | nil =>
    have := splitNl_ne_nil B
    simp at h; exact absurd h this
  | cons x xs =>
    simp only
    have : (x :: xs).reverse = splitNl B := by rw [← h]; simp
    rw [this, joinNl_splitNl]

theorem mem_joinNl (ls : List (List Char)) (c : Char) (hc : c ≠ '\n') (h : c ∈ joinNl ls) :
    ∃ l ∈ ls, c ∈ l := by
  induction ls with
  | nil => simp [joinNl] at h
  | cons l rest ih =>
    cases rest with
    | nil => simp [joinNl] at h; exact ⟨l, by simp, h⟩
    | cons l2 more =>
      rw [joinNl_cons_cons] at h
      simp only [List.mem_append, List.mem_cons] at h
      rcases h with h | h | h
      · exact ⟨l, by simp, h⟩
      · exact absurd h hc
      · obtain ⟨x, hx, hcx⟩ := ih h
        exact ⟨x, by simp [hx], hcx⟩

theorem multilineDedent_rendered (margin : List Char) (Ls : List (List Char))
    (hm : ∀ c ∈ margin, c = ' ') (hne : Ls ≠ [])
    (hnl : ∀ L ∈ Ls, '\n' ∉ L) (hcr : ∀ L ∈ Ls, '\r' ∉ L)
    (hbl : ∀ L ∈ Ls, L = [] ∨ ¬ (L.all isHspace = true)) :
    multilineDedent (renderedRaw margin Ls) = some (joinNl Ls) := by
  have hmnl : '\n' ∉ margin := fun h => by have := hm _ h; simp at this
  have hmcr : '\r' ∉ margin := fun h => by have := hm _ h; simp at this
  have hmh : margin.all isHspace = true := by
    simp only [List.all_eq_true]; intro c hc; simp [isHspace, hm c hc]
  have hinl : ∀ x ∈ Ls.map (indentLine margin), '\n' ∉ x := by
    intro x hx
    simp only [List.mem_map] at hx
    obtain ⟨L, hL, rfl⟩ := hx
    unfold indentLine; split
    · simp
    · simp only [List.mem_append, not_or]; exact ⟨hmnl, hnl L hL⟩
  have hnocr : '\r' ∉ renderedRaw margin Ls := by
    intro h
    simp only [renderedRaw, List.mem_cons, List.mem_append] at h
    rcases h with h | h | h | h
    · simp at h
    · obtain ⟨x, hx, hcx⟩ := mem_joinNl _ '\r' (by decide) h
      simp only [List.mem_map] at hx
      obtain ⟨L, hL, rfl⟩ := hx
      unfold indentLine at hcx; split at hcx
      · simp at hcx
      · simp only [List.mem_append] at hcx
        rcases hcx with hcx | hcx
        · exact hmcr hcx
        · exact hcr L hL hcx
    · simp at h
    · exact hmcr h
  unfold multilineDedent
  simp only [normalizeNewlines_noCR _ hnocr]
  have h1 : splitOnceNl (renderedRaw margin Ls) =
      some ([], joinNl (Ls.map (indentLine margin)) ++ '\n' :: margin) := by
    simp [renderedRaw, splitOnceNl]
  rw [h1]
  simp only [List.all_nil, Bool.not_true, Bool.false_eq_true, ↓reduceIte]
  rw [rsplitOnceNl_append _ _ hmnl]
  simp only [hmh, Bool.not_true, Bool.false_eq_true, ↓reduceIte]
  rw [splitNl_joinNl _ (by simpa using hne) hinl, dedentLines_indent margin Ls hbl]

/-- Escape-clean text: made of single characters other than `\` and `"`, and of two-character
    escape pairs `\x`. An escape-aware scanner steps over it unit by unit. -/
inductive EscClean : List Char → Prop
  | nil : EscClean []
  | char (c : Char) (t : List Char) : c ≠ '\\' → c ≠ '"' → EscClean t → EscClean (c :: t)
  | pair (x : Char) (t : List Char) : EscClean t → EscClean ('\\' :: x :: t)

theorem EscClean.append {a b : List Char} (ha : EscClean a) (hb : EscClean b) : EscClean (a ++ b) := by
  induction ha with
  | nil => simpa
  | char c t h1 h2 _ ih => exact .char c _ h1 h2 ih
  | pair x t _ ih => exact .pair x _ ih

theorem EscClean.spaces (m : List Char) (h : ∀ c ∈ m, c = ' ') : EscClean m := by
  induction m with
  | nil => exact .nil
  | cons c t ih =>
    have hc := h c (by simp)
    subst hc
    exact .char _ _ (by decide) (by decide) (ih (fun x hx => h x (by simp [hx])))

/-- What the scans need of `L`, the text written for the source line `l` (`l` only names the line:
    no field mentions it): escape-clean, no line break in it, and empty or not all horizontal space. -/
structure LineOk (l L : List Char) : Prop where
  clean : EscClean L
  noNl : '\n' ∉ L
  noCr : '\r' ∉ L
  blank : L = [] ∨ ¬ (L.all isHspace = true)

theorem protRec_ne_nil (x : List Char) (h : x ≠ []) : protRec x ≠ [] := by
  cases x with
  | nil => exact absurd rfl h
  | cons c t => rw [protRec]; split <;> simp

theorem escapeMultiText_ne_nil (t : List Char) (h : t ≠ []) : escapeMultiText t ≠ [] := by
  cases t with
  | nil => exact absurd rfl h
  | cons c t => rcases escapeMultiText_cons c t with ⟨_, _, _, e⟩ | ⟨_, e⟩ <;> simp [e]

theorem renderedLine_ok (l : List Char) (hnl : '\n' ∉ l) :
    LineOk l (protRec (escapeMultiText l)) := by
  induction l with
  | nil => exact ⟨by simp [escapeMultiText, protRec]; exact .nil, by simp [escapeMultiText, protRec],
      by simp [escapeMultiText, protRec], .inl (by simp [escapeMultiText, protRec])⟩
  | cons c t ih =>
    have hnl' : '\n' ∉ t := fun h => hnl (List.mem_cons_of_mem _ h)
    have hc : c ≠ '\n' := fun h => hnl (h ▸ List.mem_cons_self)
    obtain ⟨icl, inl, icr, hb⟩ := ih hnl'
    rcases escapeMultiText_cons c t with ⟨x, hx, _, e⟩ | ⟨⟨h1, h2, _, h5, h6⟩, e⟩
    · obtain ⟨hx1, hx2, hx3, _⟩ := multiEscape_some hx
      rw [e, protRec_cons_ne _ _ (by decide), protRec_cons_ne _ _ hx1]
      refine ⟨.pair x _ icl, ?_, ?_, .inr ?_⟩
      · simp only [List.mem_cons, not_or]; exact ⟨by decide, fun h => hx2 h.symm, inl⟩
      · simp only [List.mem_cons, not_or]; exact ⟨by decide, fun h => hx3 h.symm, icr⟩
      · simp [isHspace]
    rw [e]
    by_cases hs : c = ' '
    · subst hs
      by_cases ht : ((' ' :: escapeMultiText t).all (· = ' ') = true)
      · rw [protRec, if_pos ht]
        refine ⟨.pair 's' _ icl, ?_, ?_, .inr ?_⟩
        · simp only [List.mem_cons, not_or]; exact ⟨by decide, by decide, inl⟩
        · simp only [List.mem_cons, not_or]; exact ⟨by decide, by decide, icr⟩
        · simp [isHspace]
      · rw [protRec, if_neg ht]
        refine ⟨.char _ _ (by decide) (by decide) icl, ?_, ?_, .inr ?_⟩
        · simp only [List.mem_cons, not_or]; exact ⟨by decide, inl⟩
        · simp only [List.mem_cons, not_or]; exact ⟨by decide, icr⟩
        · -- the rest is not all spaces, so (by the induction hypothesis) not all hspace either
          have htne : t ≠ [] := by
            intro e; subst e; simp [escapeMultiText] at ht
          rcases hb with hb | hb
          · exact absurd hb (protRec_ne_nil _ (escapeMultiText_ne_nil t htne))
          · simp only [List.all_cons, Bool.and_eq_true, not_and]
            intro _; exact hb
    · rw [protRec_cons_ne _ _ hs]
      refine ⟨.char _ _ h1 h2 icl, ?_, ?_, .inr ?_⟩
      · simp only [List.mem_cons, not_or]; exact ⟨fun h => hc h.symm, inl⟩
      · simp only [List.mem_cons, not_or]; exact ⟨fun h => h5 h.symm, icr⟩
      · simp [isHspace, hs, h6]

theorem scanCloseMultiAux_clean (raw : List Char) (h : EscClean raw) (idx : Nat) (rest : List Char) :
    scanCloseMultiAux idx (raw ++ '"' :: '"' :: '"' :: rest) = some (idx + utf8Len raw) := by
  induction h generalizing idx with
  | nil => simp [scanCloseMultiAux_cons, startsTripleQuote, utf8Len]
  | char c t h1 h2 _ ih =>
    simp only [List.cons_append]
    rw [scanCloseMultiAux_cons, if_neg h1]
    simp only [h2, decide_false, Bool.false_and, Bool.false_eq_true, ↓reduceIte]
    rw [ih]; simp [utf8Len]; omega
  | pair x t _ ih =>
    simp only [List.cons_append]
    rw [scanCloseMultiAux_cons]
    simp only [↓reduceIte]
    rw [ih]; simp [utf8Len]; omega

theorem EscClean.joinNl (ls : List (List Char)) (h : ∀ l ∈ ls, EscClean l) : EscClean (joinNl ls) := by
  induction ls with
  | nil => simp [QM.Text.joinNl]; exact .nil
  | cons l rest ih =>
    cases rest with
    | nil => simpa [QM.Text.joinNl] using h l (by simp)
    | cons l2 more =>
      rw [joinNl_cons_cons]
      exact (h l (by simp)).append (.char _ _ (by decide) (by decide)
        (ih (fun x hx => h x (by simp [hx]))))

theorem multilineLines_eq (v : List Char) :
    multilineLines v = (splitNl v).map (fun l => protRec (escapeMultiText l)) := by
  simp [multilineLines, protect_eq_protRec]


end QM.Text
