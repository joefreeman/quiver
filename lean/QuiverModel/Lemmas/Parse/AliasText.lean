/-
Over `Receive` and `Text/Pieces`: the round trip of a whole alias STATEMENT
through `format_program`:
`fmtAlias a` (the `Doc` of `statement_doc`, laid out by the engine at width 100, then
`collapse_blanks` and `expand_literals`) is one of two explicit texts — the flat line or, for a union
right-hand side, the broken layout with one member per line behind `  | ` — and `type_alias` reads
either of them back to exactly `a`.
-/
import QuiverModel.Lemmas.Parse.Receive
import QuiverModel.Lemmas.Text.Pieces
namespace QM.Parse
open QM.Text

theorem skipWsc_brkSep (X : Str) : skipWsc false (brkSep ++ X) = '|' :: ' ' :: X := by
  show skipWsc false ('\n' :: ' ' :: ' ' :: '|' :: ' ' :: X) = _
  rw [skipWsc_ms (by decide), skipWsc_ms (by decide), skipWsc_ms (by decide)]
  exact skipWsc_of_head (by simp [headAll, isMultispace])

theorem barOp_brk_step {X : Str} (h : headAll (fun c => !isMultispace c && c != '/') X = true) :
    barOp '|' (brkSep ++ X) = .ok () X := by
  have h1 := skipWsc_brkSep X
  unfold barOp
  rw [seq_ok (a := ()) (r := '|' :: ' ' :: X) (by simp [wsc, h1]), seq_ok (pchar_self _ _)]
  simp [wsc, skipWsc_space h]

theorem amp_fails_brk (s : Str) : Fails (barOp '&') (brkSep ++ s) := by
  exact barOp_fails (by rw [skipWsc_brkSep]; rfl)

theorem stopB_brk (s : Str) : stopB (brkSep ++ s) = true := by
  simp [brkSep, stopB, headAll, contChar, isIdentBody, isLower, isUpper, isDigit, isMultispace,
    List.dropWhile_cons]

section
variable {k : Knot} {L : Nat} (hk : GoodK k L)
include hk

theorem members_loop_brk (ms : List Ty) (hw : Ty.wfList ms = true) (hl : Ty.lvAList ms ≤ L + 1)
    (rest : Str) (hr : stopTd rest = true) :
    many0 (seq (barOp '|') (intersectionType (baseTypeWith k))) (brokenMembers ms ++ rest) =
      .ok ms rest :=
  members_loop_sep hk brkSep (by decide) (fun _ h => barOp_brk_step h) stopB_brk amp_fails_brk ms hw hl rest hr

/-- the broken layout, entered behind `=` and the white space `ws0` skips: `| m1⏎  | m2 …` -/
theorem broken_ok {m : Ty} {ms : List Ty}
    (hw : Ty.wfList (m :: ms) = true) (h2 : 1 ≤ ms.length) (hl : Ty.lvAList (m :: ms) ≤ L + 1)
    {rest : Str} (hr : stopTd rest = true) :
    typeDefinitionWith k (baseTypeWith k) ('|' :: ' ' :: (printMember m ++ (brokenMembers ms ++ rest))) =
      .ok (.union (m :: ms)) rest := by
  cases ms with
  | nil => simp at h2
  | cons m2 ms2 =>
    simp only [Ty.wfList, Bool.and_eq_true] at hw
    have hl1 : m.lvM ≤ L + 1 :=
      Nat.le_trans m.lvM_le_lvA (Nat.le_trans (Nat.le_max_left _ _) hl)
    have hl2 : Ty.lvAList (m2 :: ms2) ≤ L + 1 := Nat.le_trans (Nat.le_max_right _ _) hl
    have hh := member_tail_head hw.1 (brokenMembers (m2 :: ms2) ++ rest)
    unfold typeDefinitionWith
    rw [alt_of_fails (functionType_fails_head k (by simp [headAll]))]
    have hbar : barOp '|' ('|' :: ' ' :: (printMember m ++ (brokenMembers (m2 :: ms2) ++ rest))) =
        .ok () (printMember m ++ (brokenMembers (m2 :: ms2) ++ rest)) := by
      unfold barOp
      rw [seq_ok (wsc_of_head (by simp [headAll, isMultispace])), seq_ok (pchar_self _ _)]
      simp [wsc, skipWsc_space hh.1]
    rw [seq_ok (opt_ok hbar)]
    have hb2 : brokenMembers (m2 :: ms2) ++ rest =
        brkSep ++ (printMember m2 ++ (brokenMembers ms2 ++ rest)) := by
      simp [brokenMembers, List.append_assoc]
    have hfirst := member_ok hk hw.1 hl1 (tail := brokenMembers (m2 :: ms2) ++ rest)
      (by rw [hb2]; exact stopB_brk _) (by rw [hb2]; exact amp_fails_brk _)
    rw [bind_ok hfirst,
      pmap_ok (members_loop_brk hk (m2 :: ms2) (by simp [Ty.wfList, hw.2]) hl2 rest hr)]
    simp

end

theorem parseType_bare {ts : List Ty} (hw : Ty.wfList ts = true) (h2 : 2 ≤ ts.length) {rest : Str}
    (hr : stopTd rest = true) : parseType (printMembers ts ++ rest) = .ok (.union ts) rest :=
  parseType_of_knot
    ((knot_good (Ty.lvAList ts)).bare ts hw h2 (Nat.le_refl _) rest hr)

theorem parseType_broken {m : Ty} {ms : List Ty} (hw : Ty.wfList (m :: ms) = true)
    (h2 : 1 ≤ ms.length) {rest : Str} (hr : stopTd rest = true) :
    parseType ('|' :: ' ' :: (printMember m ++ (brokenMembers ms ++ rest))) =
      .ok (.union (m :: ms)) rest :=
  parseType_of_knot (n := Ty.lvAList (m :: ms) + 2)
    (broken_ok (knot_good (Ty.lvAList (m :: ms))) hw h2 (Nat.le_succ _) hr)

theorem stopB_comma (s : Str) : stopB (',' :: s) = true := by
  simp [stopB, headAll, contChar, isIdentBody, isLower, isUpper, isDigit, isMultispace,
    List.dropWhile_cons]

theorem params_tail (ps : List Str) (hp : ps.all isIdentStr = true) (rest : Str) :
    sepTail commaWs0 typeName ((ps.map ([',', ' ', '\''] ++ ·)).flatten ++ '>' :: rest) =
      .ok ps ('>' :: rest) :=
  sepTail_map [',', ' '] ('\'' :: ·) (by simp) (G := (stopB · = true))
    (fun _ => stopB_comma _) (stopTd_stopB (stopTd_gt _)) (commaWs0_fails_gt rest) ps
    (fun _ _ _ => commaWs0_step (by simp [headAll, isMultispace]))
    fun p h _ hr => typeName_quote (List.all_eq_true.mp hp p h) (stopB_idstop hr)

/-- `render_type_parameters` read back by `opt(delimited('<', separated_list1(…), '>'))` -/
theorem params_ok {ps : List Str} (hp : ps.all isIdentStr = true) (Y : Str) :
    opt (delimited (pchar '<') (sepList1 commaWs0 typeName) (pchar '>'))
      (printParams ps ++ ' ' :: Y) = .ok (if ps.isEmpty then none else some ps) (' ' :: Y) := by
  cases ps with
  | nil =>
    simp only [printParams, List.isEmpty_nil, if_true, List.nil_append]
    exact opt_of_fails (Fails.delimited (pchar_ne (by decide) _))
  | cons p ps =>
    simp only [List.all_cons, Bool.and_eq_true] at hp
    have hpp : printParams (p :: ps) ++ ' ' :: Y =
        '<' :: '\'' :: (p ++ ((ps.map ([',', ' ', '\''] ++ ·)).flatten ++ '>' :: ' ' :: Y)) := by
      simp only [printParams, List.isEmpty_cons, Bool.false_eq_true, if_false, List.map_cons]
      rw [sepBy_cons, List.map_map]
      simp [Function.comp_def]
    rw [hpp]
    simp only [List.isEmpty_cons, Bool.false_eq_true, if_false]
    refine opt_ok ?_
    unfold delimited
    rw [seq_ok (pchar_self _ _)]
    refine before_ok (sepList1_cons (typeName_quote hp.1 (stopB_idstop ?_)) (params_tail ps hp.2 _)) (pchar_self _ _)
    cases ps with
    | nil => exact stopTd_stopB (stopTd_gt _)
    | cons q qs => exact stopB_comma _

/-- `type_alias` on `'name<'a, 'b> =`, white space, and a text its type parser accepts -/
theorem typeAlias_lhs (name : Option Str) (ps : List Str)
    (hn : ∀ n, name = some n → isIdentStr n = true) (hp : ps.all isIdentStr = true)
    {W X : Str} (hW : W.all isMultispace = true) (hX : headAll (fun c => !isMultispace c) X = true)
    {t : Ty} {r : Str} (ht : parseTypeG X = .ok t r) :
    typeAlias (aliasLhs name ps ++ (W ++ X)) = .ok ⟨name, ps, t⟩ r := by
  have htxt : aliasLhs name ps ++ (W ++ X) =
      '\'' :: (name.getD [] ++ (printParams ps ++ ' ' :: '=' :: (W ++ X))) := by
    simp [aliasLhs, List.append_assoc]
  rw [htxt]
  -- what follows the name: `<` or a space
  have hstop : IdStop (printParams ps ++ ' ' :: '=' :: (W ++ X)) ∧
      headAll (fun c => !isLower c) (printParams ps ++ ' ' :: '=' :: (W ++ X)) = true := by
    cases ps with
    | nil => simp [printParams, IdStop, headAll, isIdentBody, isLower, isUpper, isDigit]
    | cons p ps => simp [printParams, IdStop, headAll, isIdentBody, isLower, isUpper, isDigit]
  have hname : seq (pchar '\'') (opt identifier)
      ('\'' :: (name.getD [] ++ (printParams ps ++ ' ' :: '=' :: (W ++ X)))) =
      .ok name (printParams ps ++ ' ' :: '=' :: (W ++ X)) := by
    rw [seq_ok (pchar_self _ _)]
    cases name with
    | none => exact opt_of_fails (identifier_fails_of_head hstop.2)
    | some n => exact opt_ok (identifier_append (hn n rfl) hstop.1)
  unfold typeAlias
  rw [bind_ok hname, bind_ok (params_ok hp _)]
  have heq : seq ws0 (seq (pchar '=') ws0) (' ' :: '=' :: (W ++ X)) = .ok () X := by
    rw [seq_ok (a := ()) (r := '=' :: (W ++ X)) (by simp [ws0, List.dropWhile_cons, isMultispace]),
      seq_ok (pchar_self _ _)]
    have hX' : ∀ c t, X = c :: t → isMultispace c = false := fun c t e => by subst e; simpa [headAll] using hX
    simp [ws0, (takeWhile_append_stop hW hX').2]
  rw [seq_ok heq, pmap_ok ht]
  cases ps <;> simp

open QM.Frag

/-- the pieces of the members of `union_alias_doc` in a given mode of its group -/
def memberPieces (m : Mode) : Bool → List Ty → List Piece
  | _, [] => []
  | first, t :: rest =>
    (match m with
     | .flat => if first then [Piece.sp] else [Piece.sp, Piece.atom ['|', ' ']]
     | .brk => [Piece.nl 2, Piece.atom ['|', ' ']]) ++
      Piece.atom (printMember t) :: memberPieces m false rest

theorem parts_pieces (w : Nat) (m : Mode) : ∀ (ts : List Ty) (first : Bool) (col : Nat),
    printLoop w col (mkFrames 2 m (unionAliasParts first ts) ++ [⟨0, .brk, .nil⟩]) [] =
      memberPieces m first ts := by
  intro ts
  induction ts with
  | nil =>
    intro first col
    simp only [unionAliasParts, mkFrames, List.nil_append, pl_nil, printLoop_nil_nil, memberPieces]
  | cons t rest ih =>
    intro first col
    cases m <;> cases first <;>
      simp only [unionAliasParts, mkFrames, List.cons_append, List.nil_append, pl_line_flat,
        pl_line_brk, pl_ifBreak_flat, pl_ifBreak_brk, pl_nil, pl_text, ih, memberPieces,
        if_true, if_false, Bool.false_eq_true]

theorem printPieces_plain (name : Option Str) (ps : List Str) (t : Ty) (hu : ∀ ts, t ≠ .union ts) :
    printPieces (Doc.join .hardline [aliasDoc ⟨name, ps, t⟩]) 100 =
      [Piece.atom (aliasLhs name ps ++ ' ' :: printTy t)] := by
  cases t with
  | union ts => exact absurd rfl (hu ts)
  | _ =>
    simp only [printPieces, Doc.join, Doc.joinList, aliasDoc, pl_concat,
      mkFrames, List.cons_append, List.nil_append, pl_nil, pl_text, printLoop_nil_nil]

theorem render_members_flat (m : Ty) (ms : List Ty) :
    renderPieces (memberPieces .flat true (m :: ms)) = ' ' :: printMembers (m :: ms) := by
  have h : ∀ ms : List Ty, renderPieces (memberPieces .flat false ms) =
      (ms.map ([' ', '|', ' '] ++ printMember ·)).flatten := by
    intro ms
    induction ms with
    | nil => rfl
    | cons x xs ih => simp [memberPieces, renderPieces, Piece.render, ih]
  rw [printMembers, printMembersL_eq, List.map_cons, sepBy_cons, List.map_map]
  simp [memberPieces, renderPieces, Piece.render, h, Function.comp_def]

theorem render_members_brk : ∀ (first : Bool) (ts : List Ty),
    renderPieces (memberPieces .brk first ts) = brokenMembers ts := by
  intro first ts
  induction ts generalizing first with
  | nil => rfl
  | cons x xs ih =>
    simp [memberPieces, renderPieces, Piece.render, ih, brokenMembers, brkSep, List.replicate]

/-! ### The post-passes leave the layout alone

The atoms of the alias `Doc` contain spaces (a whole rendered type is one `Text`), so the piece list
is first exploded into one piece per character; the rendered text is the same, and the tidiness
lemmas of `Lemmas/Text/Pieces.lean` apply: a text with `GoodS` (every character `okc`, the last one
not a space) explodes into pieces that keep `tidyPs` (`tidy_good`) and `nulFree` (`nulFree_chars`). -/

/-- a character of a rendered type: a space, or neither white space nor NUL -/
def okc (c : Char) : Bool := c == ' ' || (!isWhitespace c && c != '\x00')

def lastOk : Str → Bool
  | [] => false
  | [c] => c != ' '
  | _ :: r => lastOk r

/-- a text the post-passes leave alone wherever it ends a line -/
def GoodS (s : Str) : Bool := s.all okc && lastOk s

def charPiece (c : Char) : Piece := if c = ' ' then .sp else .atom [c]

def explode : List Piece → List Piece
  | [] => []
  | .atom s :: r => s.map charPiece ++ explode r
  | p :: r => p :: explode r

theorem render_chars (s : Str) : renderPieces (s.map charPiece) = s := by
  induction s with
  | nil => rfl
  | cons c s ih =>
    by_cases hc : c = ' '
    · simp [charPiece, hc, renderPieces, Piece.render, ih]
    · simp [charPiece, hc, renderPieces, Piece.render, ih]

theorem render_explode (ps : List Piece) : renderPieces (explode ps) = renderPieces ps := by
  induction ps with
  | nil => rfl
  | cons p r ih =>
    cases p with
    | atom s => simp [explode, renderPieces_append, render_chars, renderPieces, Piece.render, ih]
    | sp => simp [explode, renderPieces, ih]
    | nl k => simp [explode, renderPieces, ih]

theorem goodAtom_char {c : Char} (h : okc c = true) (hc : c ≠ ' ') : okAtom [c] = true := by
  simp only [okc, Bool.or_eq_true, beq_iff_eq, Bool.and_eq_true, Bool.not_eq_true'] at h
  rcases h with h | h
  · exact absurd h hc
  · simp [okAtom, goodAtom, h.1]

theorem tidy_good : ∀ (s : Str), GoodS s = true → ∀ (b : Bool) (r : List Piece),
    tidyPs true r = true → tidyPs b (s.map charPiece ++ r) = true := by
  intro s
  induction s with
  | nil => intro h; simp [GoodS, lastOk] at h
  | cons c s ih =>
    intro h b r hr
    simp only [GoodS, List.all_cons, Bool.and_eq_true] at h
    cases s with
    | nil =>
      have hc : c ≠ ' ' := by simpa [lastOk] using h.2
      simp [charPiece, hc, tidyPs, goodAtom_char h.1.1 hc, hr]
    | cons d s =>
      have hrec := ih (by simp only [GoodS, Bool.and_eq_true]; exact ⟨h.1.2, by simpa [lastOk] using h.2⟩)
      by_cases hc : c = ' '
      · simp only [List.map_cons, List.cons_append, charPiece, hc, if_true, tidyPs]
        have := hrec false r hr
        simpa [List.map_cons, charPiece] using this
      · have := hrec true r hr
        simp only [List.map_cons, List.cons_append] at this ⊢
        simp only [charPiece, hc, if_false, tidyPs, goodAtom_char h.1.1 hc, Bool.true_and]
        simpa [charPiece] using this

theorem nulFree_chars : ∀ (s : Str), s.all okc = true → ∀ r : List Piece,
    nulFree (s.map charPiece ++ r) = nulFree r := by
  intro s
  induction s with
  | nil => intro _ r; rfl
  | cons c s ih =>
    intro h r
    simp only [List.all_cons, Bool.and_eq_true] at h
    by_cases hc : c = ' '
    · simp [charPiece, hc, nulFree, ih h.2]
    · have : c ≠ '\x00' := by
        have := h.1
        simp only [okc, Bool.or_eq_true, beq_iff_eq, Bool.and_eq_true, bne_iff_ne] at this
        rcases this with e | e
        · exact absurd e hc
        · exact e.2
      simp [charPiece, hc, nulFree, nulAtom, ih h.2, this]

theorem goodS_bar : GoodS ['|'] = true := by decide

theorem tidy_members (m : Mode) : ∀ (ts : List Ty) (first : Bool),
    (∀ t ∈ ts, GoodS (printMember t) = true) →
    tidyPs true (explode (memberPieces m first ts)) = true ∧
    nulFree (explode (memberPieces m first ts)) = true := by
  intro ts
  induction ts with
  | nil => intro _ _; exact ⟨rfl, rfl⟩
  | cons t rest ih =>
    intro first h
    have ht := h t (by simp)
    have hrest := ih false (fun x hx => h x (by simp [hx]))
    have hok : (printMember t).all okc = true := by
      simp only [GoodS, Bool.and_eq_true] at ht; exact ht.1
    have h1 : ∀ b, tidyPs b ((printMember t).map charPiece ++ explode (memberPieces m false rest)) = true :=
      fun b => tidy_good _ ht b _ hrest.1
    have h2 : nulFree ((printMember t).map charPiece ++ explode (memberPieces m false rest)) = true := by
      rw [nulFree_chars _ hok]; exact hrest.2
    cases m <;> cases first <;>
      simp [memberPieces, explode, charPiece, tidyPs, nulFree, nulAtom, okAtom, goodAtom, isWhitespace, h1, h2]

theorem passes_of_tidy {P : List Piece} (h1 : tidyPs false (explode P) = true)
    (h2 : nulFree (explode P) = true) :
    stripTrailingWhitespace (renderPieces P) = renderPieces P ∧
    collapseBlanks (renderPieces P) = renderPieces P ++ ['\n'] ∧
    expandLiterals (renderPieces P ++ ['\n']) [] = some (renderPieces P ++ ['\n']) := by
  have hs := strip_renderPieces (tidyPs_mono _ true h1)
  have hp := post_passes h1 h2
  rw [render_explode] at hs hp
  exact ⟨hs, hp.1, hp.2⟩

theorem lastOk_ne_nil {b : Str} (h : lastOk b = true) : b ≠ [] := by
  intro e; subst e; simp [lastOk] at h

theorem lastOk_append {a b : Str} (hb : lastOk b = true) : lastOk (a ++ b) = true := by
  induction a with
  | nil => simpa using hb
  | cons c a ih =>
    cases h : a ++ b with
    | nil =>
      have := lastOk_ne_nil hb
      simp only [List.append_eq_nil_iff] at h
      exact absurd h.2 this
    | cons x xs =>
      rw [List.cons_append, h]
      simp only [lastOk]
      rw [← h]; exact ih

theorem goodS_ok {s : Str} (h : GoodS s = true) : s.all okc = true := by
  simp only [GoodS, Bool.and_eq_true] at h; exact h.1

theorem goodS_append {a b : Str} (ha : a.all okc = true) (hb : GoodS b = true) :
    GoodS (a ++ b) = true := by
  simp only [GoodS, Bool.and_eq_true] at hb ⊢
  exact ⟨by rw [List.all_append, ha, hb.1]; rfl, lastOk_append hb.2⟩

theorem goodS_cons {c : Char} {b : Str} (hc : okc c = true) (hb : GoodS b = true) :
    GoodS (c :: b) = true :=
  goodS_append (a := [c]) (by simp [hc]) hb

theorem goodS_app_or {a b : Str} (ha : GoodS a = true) (hb : b = [] ∨ GoodS b = true) :
    GoodS (a ++ b) = true := by
  rcases hb with rfl | hb
  · simpa using ha
  · exact goodS_append (goodS_ok ha) hb

theorem goodS_end {a : Str} {c : Char} (ha : a.all okc = true) (hc : okc c = true) (hne : c ≠ ' ') :
    GoodS (a ++ [c]) = true :=
  goodS_append ha (by simp [GoodS, lastOk, hc, hne])

theorem all_okc_sepBy {sep : Str} (hsep : sep.all okc = true) : ∀ xs : List Str,
    (∀ x ∈ xs, GoodS x = true) → (sepBy sep xs).all okc = true := by
  intro xs
  induction xs with
  | nil => intro _; rfl
  | cons x xs ih =>
    intro h
    rw [sepBy_cons]
    have hx := (goodS_ok (h x (by simp)))
    have hxs : ∀ y ∈ xs, y.all okc = true := fun y hy => (goodS_ok (h y (by simp [hy])))
    rw [List.all_append, hx, Bool.true_and]
    simp only [List.all_flatten, List.all_map, List.all_eq_true, Function.comp]
    intro y hy c hc
    rcases List.mem_append.mp hc with hc | hc
    · exact (List.all_eq_true.mp hsep) c hc
    · exact (List.all_eq_true.mp (hxs y hy)) c hc

theorem goodS_sepBy {sep : Str} (hsep : sep.all okc = true) : ∀ xs : List Str, xs ≠ [] →
    (∀ x ∈ xs, GoodS x = true) → GoodS (sepBy sep xs) = true := by
  intro xs
  induction xs with
  | nil => intro h; exact absurd rfl h
  | cons x xs ih =>
    intro _ h
    cases xs with
    | nil => simpa [sepBy] using h x (by simp)
    | cons y ys =>
      have : sepBy sep (x :: y :: ys) = (x ++ sep) ++ sepBy sep (y :: ys) := by simp [sepBy]
      rw [this]
      refine goodS_append ?_ (ih (by simp) (fun z hz => h z (by simp [hz])))
      rw [List.all_append, (goodS_ok (h x (by simp))), hsep]; rfl

theorem all_okc_open {c : Char} (hc : okc c = true) (xs : List Str)
    (h : ∀ x ∈ xs, GoodS x = true) : (c :: sepBy [',', ' '] xs).all okc = true := by
  simp only [List.all_cons, Bool.and_eq_true]
  exact ⟨hc, all_okc_sepBy (by decide) _ h⟩

theorem all_okc_nm_open {nm : Str} (hnm : nm.all okc = true) {c : Char} (hc : okc c = true)
    (xs : List Str) (h : ∀ x ∈ xs, GoodS x = true) :
    (nm ++ c :: sepBy [',', ' '] xs).all okc = true := by
  rw [List.all_append, hnm, all_okc_open hc xs h]; rfl

theorem goodS_plain' : ∀ s : Str, s ≠ [] → (∀ c ∈ s, okc c = true ∧ c ≠ ' ') → GoodS s = true := by
  intro s
  induction s with
  | nil => intro h; exact absurd rfl h
  | cons c s ih =>
    intro _ h
    cases s with
    | nil =>
      have := h c (by simp)
      simp [GoodS, lastOk, this.1, this.2]
    | cons d s' =>
      exact goodS_cons (h c (by simp)).1 (ih (by simp) (fun x hx => h x (by simp [hx])))

theorem goodS_plain {s : Str} (hne : s ≠ []) (hw : s.all (fun c => !isWhitespace c) = true)
    (hn : s.all (· ≠ '\x00') = true) : GoodS s = true := by
  refine goodS_plain' s hne ?_
  intro c hc
  have h1 := (List.all_eq_true.mp hw) c hc
  have h2 := (List.all_eq_true.mp hn) c hc
  simp only [Bool.not_eq_true', decide_eq_true_eq] at h1 h2
  refine ⟨by simp [okc, h1, h2], ?_⟩
  intro e; rw [e, isWhitespace_space] at h1; exact Bool.noConfusion h1

theorem goodS_ident {n : Str} (h : isIdentStr n = true) : GoodS n = true := by
  have hg := goodAtom_ident h
  simp only [goodAtom, Bool.and_eq_true, Bool.not_eq_true', List.isEmpty_eq_false_iff] at hg
  exact goodS_plain hg.1 hg.2 (ident_nulFree h)

theorem goodS_body {s : Str} (hne : s ≠ []) (h : s.all isIdentBody = true) : GoodS s = true := by
  refine goodS_plain hne ?_ ?_
  · rw [List.all_eq_true] at h ⊢
    intro c hc; simp [not_ws_of_identBody (h c hc)]
  · rw [List.all_eq_true] at h ⊢
    intro c hc
    simp only [decide_eq_true_eq]
    intro e
    have := h c hc
    rw [e] at this
    exact absurd this (by decide)

theorem goodS_tupleName {n : Str} (h : isTupleNameStr n = true) : GoodS n = true := by
  cases n with
  | nil => simp [isTupleNameStr] at h
  | cons c r =>
    simp only [isTupleNameStr, Bool.and_eq_true] at h
    refine goodS_body (by simp) ?_
    simp only [List.all_cons, Bool.and_eq_true]
    exact ⟨by simp [isIdentBody, h.1], h.2⟩

theorem goodS_natDigits (n : Nat) : GoodS (natDigits n) = true := by
  have h := natDigits_spec n
  refine goodS_body h.2.1 ?_
  rw [List.all_eq_true] at *
  intro c hc
  simp [isIdentBody, h.1 c hc]

theorem angle_good (xs : List Str) (h : ∀ x ∈ xs, GoodS x = true) :
    angle xs = [] ∨ GoodS (angle xs) = true := by
  cases xs with
  | nil => left; rfl
  | cons x xs =>
    right
    simp only [angle, List.isEmpty_cons, Bool.false_eq_true, if_false]
    refine goodS_end ?_ (by decide) (by decide)
    simp only [List.all_cons, Bool.and_eq_true]
    exact ⟨by decide, all_okc_sepBy (by decide) _ h⟩

theorem goodS_paren {s : Str} (h : s.all okc = true) : GoodS ('(' :: s ++ [')']) = true := by
  exact goodS_end (by simp [h]; decide) (by decide) (by decide)

theorem goodS_atomWrap (t : Ty) {s : Str} (h : GoodS s = true) : GoodS (atomWrap t s) = true := by
  unfold atomWrap
  split
  · exact goodS_paren (goodS_ok h)
  · exact goodS_paren (goodS_ok h)
  · split
    · exact goodS_paren (goodS_ok h)
    · exact h
  · exact h

theorem goodS_memberWrap (t : Ty) {s : Str} (h : GoodS s = true) : GoodS (memberWrap t s) = true := by
  unfold memberWrap
  split
  · exact goodS_paren (goodS_ok h)
  · exact h

theorem mem_map_of {α : Type} {f : α → Str} {xs : List α} (h : ∀ a ∈ xs, GoodS (f a) = true) :
    ∀ x ∈ xs.map f, GoodS x = true := by
  intro x hx
  obtain ⟨a, ha, rfl⟩ := List.mem_map.mp hx
  exact h a ha

theorem goodS_tuple (name : Option Str) (fields : List Field) (isPartial : Bool)
    (hname : ∀ n, name = some n → GoodS n = true)
    (hfs' : ∀ x ∈ printFieldsL fields, GoodS x = true) :
    GoodS (printTy (.tuple name fields isPartial)) = true := by
  cases name with
  | none =>
    cases fields with
    | nil => cases isPartial <;> decide
    | cons f fs =>
      cases isPartial
      · simp only [printTy, List.nil_append, Bool.false_eq_true, if_false]
        exact goodS_end (all_okc_open (by decide) _ hfs') (by decide) (by decide)
      · simp only [printTy, List.nil_append, if_true]
        exact goodS_end (all_okc_open (by decide) _ hfs') (by decide) (by decide)
  | some n =>
    have hn0 := hname n rfl
    have hn : GoodS (if startsLower n then '\'' :: n else n) = true := by
      split
      · exact goodS_cons (by decide) hn0
      · exact hn0
    cases fields with
    | nil =>
      cases isPartial
      · simp only [printTy, Option.isSome_some, Bool.false_eq_true, if_false, if_true]
        exact hn
      · simp only [printTy, if_true]
        rw [show (['(', ')'] : Str) = ['('] ++ [')'] from rfl, ← List.append_assoc]
        exact goodS_end (by rw [List.all_append, goodS_ok hn]; decide) (by decide) (by decide)
    | cons f fs =>
      cases isPartial
      · simp only [printTy, Bool.false_eq_true, if_false]
        exact goodS_end (all_okc_nm_open (goodS_ok hn) (by decide) _ hfs') (by decide) (by decide)
      · simp only [printTy, if_true]
        exact goodS_end (all_okc_nm_open (goodS_ok hn) (by decide) _ hfs') (by decide) (by decide)

mutual
theorem goodS_printTy : (t : Ty) → t.wf = true → GoodS (printTy t) = true
  | .prim p, _ => by cases p <;> decide
  | .ident n args, hw => by
    simp only [Ty.wf, Bool.and_eq_true] at hw
    have hargs := goodS_printTys args hw.2
    simp only [printTy]
    split
    · exact goodS_end (by simp [(goodS_ok (goodS_ident hw.1))]; decide) (by decide) (by decide)
    · exact goodS_app_or (goodS_cons (by decide) (goodS_ident hw.1))
        (angle_good _ (by rw [printTys_eq]; exact mem_map_of hargs))
  | .tuple name fields isPartial, hw => by
    simp only [Ty.wf, Bool.and_eq_true] at hw
    have hfs := goodS_printFields fields hw.1
    refine goodS_tuple name fields isPartial ?_ (by rw [printFieldsL_eq]; exact mem_map_of hfs)
    intro n e
    subst e
    have := hw.2
    simp only [Bool.or_eq_true, Bool.and_eq_true] at this
    rcases this with h | h
    · exact goodS_tupleName h
    · exact goodS_ident h.1.1.1
  | .func i o, hw => by
    simp only [Ty.wf, Bool.and_eq_true] at hw
    have hi := goodS_atomWrap i (goodS_printTy i hw.1)
    have ho := goodS_atomWrap o (goodS_printTy o hw.2)
    simp only [printTy]
    refine goodS_append ?_ ho
    rw [List.all_append]
    simp [(goodS_ok hi)]; decide
  | .union ts, hw => by
    simp only [Ty.wf, Bool.and_eq_true] at hw
    have hts := goodS_printTys ts hw.2
    simp only [printTy]
    refine goodS_end ?_ (by decide) (by decide)
    simp only [List.all_cons, Bool.and_eq_true]
    refine ⟨by decide, all_okc_sepBy (by decide) _ ?_⟩
    rw [printMembersL_eq]
    exact mem_map_of (fun t ht => goodS_memberWrap t (hts t ht))
  | .inter ts, hw => by
    simp only [Ty.wf, Bool.and_eq_true, decide_eq_true_eq] at hw
    have hts := goodS_printTys ts hw.2
    simp only [printTy]
    refine goodS_sepBy (by decide) _ ?_ ?_
    · rw [printAtomsL_eq]
      cases ts with
      | nil => simp at hw
      | cons a as => simp
    · rw [printAtomsL_eq]
      exact mem_map_of (fun t ht => goodS_atomWrap t (hts t ht))
  | .cycle none, _ => by decide
  | .cycle (some n), _ => by
    simp only [printTy]
    exact goodS_cons (by decide) (goodS_natDigits n)
  | .proc a r, hw => by
    simp only [Ty.wf, Bool.and_eq_true] at hw
    have ha := goodS_printOpt a hw.1
    have hr := goodS_printOpt r hw.2
    cases a with
    | none =>
      cases r with
      | none => decide
      | some r =>
        simp only [printTy]
        refine goodS_end ?_ (by decide) (by decide)
        rw [List.all_append, (goodS_ok (goodS_atomWrap r (hr r rfl)))]; decide
    | some a =>
      cases r with
      | none =>
        simp only [printTy]
        exact goodS_cons (by decide) (goodS_atomWrap a (ha a rfl))
      | some r =>
        simp only [printTy]
        refine goodS_end ?_ (by decide) (by decide)
        simp [List.all_append, (goodS_ok (goodS_atomWrap r (hr r rfl))), (goodS_ok (goodS_atomWrap a (ha a rfl)))]
        decide
  | .resource n, hw => by
    simp only [Ty.wf] at hw
    simp only [printTy]
    exact goodS_cons (by decide) (goodS_tupleName hw)
  | .modty m mem args, hw => by
    simp only [Ty.wf, Bool.and_eq_true, Bool.not_eq_true', List.isEmpty_eq_false_iff] at hw
    have hargs := goodS_printTys args hw.2
    have hm : GoodS (sepBy ['/'] m) = true :=
      goodS_sepBy (by decide) m hw.1.1.1
        (fun x hx => goodS_ident ((List.all_eq_true.mp hw.1.1.2) x hx))
    have h1 : GoodS ('\'' :: '%' :: sepBy ['/'] m) = true :=
      goodS_cons (by decide) (goodS_cons (by decide) hm)
    have hang := angle_good (printTys args) (by rw [printTys_eq]; exact mem_map_of hargs)
    cases mem with
    | none =>
      simp only [printTy, List.append_nil]
      exact goodS_app_or h1 hang
    | some x =>
      simp only [printTy]
      exact goodS_app_or (goodS_app_or h1 (.inr (goodS_cons (by decide) (goodS_ident (by simpa using hw.1.2))))) hang
  | .selfDefault args, hw => by
    simp only [Ty.wf] at hw
    have hargs := goodS_printTys args hw
    simp only [printTy]
    exact goodS_app_or (a := ['\'']) (by decide)
      (angle_good _ (by rw [printTys_eq]; exact mem_map_of hargs))
theorem goodS_printTys : (ts : List Ty) → Ty.wfList ts = true → ∀ t ∈ ts, GoodS (printTy t) = true
  | [], _ => by intro t ht; simp at ht
  | a :: as, hw => by
    simp only [Ty.wfList, Bool.and_eq_true] at hw
    intro t ht
    rcases List.mem_cons.mp ht with h | ht
    · rw [h]; exact goodS_printTy a hw.1
    · exact goodS_printTys as hw.2 t ht
theorem goodS_printOpt : (o : Option Ty) → Ty.wfOpt o = true → ∀ t, o = some t → GoodS (printTy t) = true
  | none, _ => by intro t e; cases e
  | some a, hw => by
    simp only [Ty.wfOpt] at hw
    intro t e
    rw [← Option.some.inj e]
    exact goodS_printTy a hw
theorem goodS_printField : (f : Field) → f.wf = true → GoodS (printField f) = true
  | .field (some n) t, hw => by
    simp only [Field.wf, Bool.and_eq_true] at hw
    simp only [printField]
    rw [show n ++ ':' :: ' ' :: printTy t = (n ++ [':', ' ']) ++ printTy t by simp]
    refine goodS_append ?_ (goodS_printTy t hw.2)
    rw [List.all_append, (goodS_ok (goodS_ident hw.1))]; decide
  | .field none t, hw => by
    simp only [Field.wf] at hw
    simp only [printField]
    exact goodS_printTy t hw
  | .spread none _, _ => by simp only [printField]; decide
  | .spread (some id) args, hw => by
    simp only [Field.wf, Bool.and_eq_true] at hw
    have hargs := goodS_printTys args hw.2
    simp only [printField]
    rw [show '.' :: '.' :: '.' :: '\'' :: id ++ angle (printTys args) =
      ('.' :: '.' :: '.' :: '\'' :: id) ++ angle (printTys args) by simp]
    refine goodS_app_or ?_ (angle_good _ (by rw [printTys_eq]; exact mem_map_of hargs))
    exact goodS_cons (by decide) (goodS_cons (by decide) (goodS_cons (by decide)
      (goodS_cons (by decide) (goodS_ident hw.1))))
theorem goodS_printFields : (fs : List Field) → Field.wfList fs = true →
    ∀ f ∈ fs, GoodS (printField f) = true
  | [], _ => by intro f hf; simp at hf
  | a :: as, hw => by
    simp only [Field.wfList, Bool.and_eq_true] at hw
    intro f hf
    rcases List.mem_cons.mp hf with h | hf
    · rw [h]; exact goodS_printField a hw.1
    · exact goodS_printFields as hw.2 f hf
end

theorem goodS_lhs (name : Option Str) (ps : List Str)
    (hn : ∀ n, name = some n → isIdentStr n = true) (hp : ps.all isIdentStr = true) :
    GoodS (aliasLhs name ps) = true := by
  have h1 : (name.getD []).all okc = true := by
    cases name with
    | none => rfl
    | some n => exact goodS_ok (goodS_ident (hn n rfl))
  have h2 : (printParams ps).all okc = true := by
    unfold printParams
    split
    · rfl
    · refine goodS_ok (goodS_end (all_okc_open (by decide) _ ?_) (by decide) (by decide))
      refine mem_map_of (fun p hpm => goodS_cons (by decide) (goodS_ident ((List.all_eq_true.mp hp) p hpm)))
  unfold aliasLhs
  refine goodS_append ?_ (by decide)
  simp only [List.all_cons, List.all_append, Bool.and_eq_true]
  exact ⟨⟨by decide, h1⟩, h2⟩

theorem stopTd_nl : stopTd ['\n'] = true := by decide

theorem headAll_weaken {X : Str} (h : headAll (fun c => !isMultispace c && c != '/') X = true) :
    headAll (fun c => !isMultispace c) X = true := (headAll_and h).1

theorem typeAlias_flat (a : Alias) (hw : a.wf = true) (rest : Str) (hr : stopTd rest = true) :
    typeAlias (printAlias a ++ rest) = .ok a rest := by
  obtain ⟨name, ps, ty⟩ := a
  simp only [Alias.wf, Bool.and_eq_true] at hw
  have hn : ∀ n, name = some n → isIdentStr n = true := by
    intro n e; subst e; exact hw.1.1
  by_cases hu : ∃ ts, ty = .union ts
  · obtain ⟨ts, rfl⟩ := hu
    have hwt : 2 ≤ ts.length ∧ Ty.wfList ts = true := by
      simpa [Ty.wf] using hw.2
    have htxt : printAlias ⟨name, ps, .union ts⟩ ++ rest =
        aliasLhs name ps ++ ([' '] ++ (printMembers ts ++ rest)) := by
      simp [printAlias]
    rw [htxt]
    refine typeAlias_lhs name ps hn hw.1.2 (by decide) ?_
      (by rw [parseTypeG_eq_parseType]; exact parseType_bare hwt.2 hwt.1 hr)
    cases ts with
    | nil => simp at hwt
    | cons m ms =>
      have hpm : printMembers (m :: ms) ++ rest =
          printMember m ++ ((ms.map ([' ', '|', ' '] ++ printMember ·)).flatten ++ rest) := by
        rw [printMembers, printMembersL_eq, List.map_cons, sepBy_cons, List.map_map, List.append_assoc]
        rfl
      rw [hpm]
      simp only [Ty.wfList, Bool.and_eq_true] at hwt
      exact headAll_weaken (member_tail_head hwt.2.1 _).1
  · have hu' : ∀ ts, ty ≠ .union ts := fun ts e => hu ⟨ts, e⟩
    have htxt : printAlias ⟨name, ps, ty⟩ ++ rest =
        aliasLhs name ps ++ ([' '] ++ (printTy ty ++ rest)) := by
      cases ty with
      | union ts => exact absurd rfl (hu' ts)
      | _ => simp [printAlias]
    rw [htxt]
    refine typeAlias_lhs name ps hn hw.1.2 (by decide) ?_ ?_
    · obtain ⟨c, s, hp, hc⟩ := printTy_head hw.2
      rw [hp]
      simp [headAll, (typeHead_facts hc).2.2.2.2.2]
    · rw [parseTypeG_eq_parseType]
      have h := (knot_good ty.lvT).td ty hw.2 (Nat.le_refl _) rest hr
      exact parseType_of_knot h

theorem typeAlias_broken (name : Option Str) (ps : List Str) (ts : List Ty)
    (hw : Alias.wf ⟨name, ps, .union ts⟩ = true) (rest : Str) (hr : stopTd rest = true) :
    typeAlias (brokenAlias name ps ts ++ rest) = .ok ⟨name, ps, .union ts⟩ rest := by
  simp only [Alias.wf, Bool.and_eq_true] at hw
  have hn : ∀ n, name = some n → isIdentStr n = true := by
    intro n e; subst e; exact hw.1.1
  have hwt : 2 ≤ ts.length ∧ Ty.wfList ts = true := by
    simpa [Ty.wf] using hw.2
  cases ts with
  | nil => simp at hwt
  | cons m ms =>
    have htxt : brokenAlias name ps (m :: ms) ++ rest =
        aliasLhs name ps ++ (['\n', ' ', ' '] ++
          ('|' :: ' ' :: (printMember m ++ (brokenMembers ms ++ rest)))) := by
      simp [brokenAlias, brokenMembers, brkSep, List.append_assoc]
    rw [htxt]
    refine typeAlias_lhs name ps hn hw.1.2 (by decide) (by simp [headAll, isMultispace]) ?_
    rw [parseTypeG_eq_parseType]
    exact parseType_broken hwt.2 (by simpa using hwt.1) hr

/-- the width of the members on the flat line: a space, `| ` except before the first, the member -/
def membersWidth : Bool → List Ty → Nat
  | _, [] => 0
  | first, t :: rest =>
    1 + (if first then 0 else 2) + (printMember t).length + membersWidth false rest

theorem fits_end (R : Int) : fitsLoop R [] [⟨0, .brk, .nil⟩] = decide ((0 : Int) ≤ R) := by
  by_cases h0 : R < 0
  · rw [fitsLoop_neg R _ _ h0]; simp; omega
  · rw [fitsLoop_docNil R [] [⟨0, .brk, .nil⟩] [] [] ⟨0, .brk, .nil⟩ h0 rfl rfl,
      fitsLoop_none R [] [] h0 rfl]
    simp; omega

theorem fits_parts : ∀ (ts : List Ty) (first : Bool) (R : Int),
    fitsLoop R (mkFrames 2 .flat (unionAliasParts first ts)) [⟨0, .brk, .nil⟩] =
      decide ((membersWidth first ts : Int) ≤ R) := by
  intro ts
  induction ts with
  | nil =>
    intro first R
    simp only [unionAliasParts, mkFrames, membersWidth]
    exact fits_end R
  | cons t rest ih =>
    intro first R
    have hneg : ∀ {R' : Int} {X : Prop} [Decidable X], R' < 0 → (X → 0 ≤ R') →
        ∀ loc, fitsLoop R' loc [⟨0, .brk, .nil⟩] = decide X := by
      intro R' X _ h hx loc
      rw [fitsLoop_neg R' _ _ h]
      simp only [Bool.false_eq, decide_eq_false_iff_not]
      intro x; have := hx x; omega
    simp only [unionAliasParts, mkFrames, membersWidth]
    by_cases h0 : R < 0
    · exact hneg h0 (by intro h; omega) _
    rw [fl_line_flat R 2 _ _ h0]
    by_cases h1 : R - 1 < 0
    · exact hneg h1 (by intro h; omega) _
    cases first with
    | true =>
      simp only [if_true]
      rw [fl_ifBreak_flat (R - 1) 2 _ _ _ _ h1, fl_nil (R - 1) 2 .flat _ _ h1,
        fl_text (R - 1) 2 .flat _ _ _ h1, ih false]
      simp only [decide_eq_decide]
      omega
    | false =>
      simp only [Bool.false_eq_true, if_false]
      rw [fl_text (R - 1) 2 .flat _ _ _ h1]
      by_cases h2 : R - 1 - ((['|', ' '] : List Char).length : Int) < 0
      · exact hneg h2 (by intro h; simp only [List.length_cons, List.length_nil] at h2 ⊢; omega) _
      rw [fl_text _ 2 .flat _ _ _ h2, ih false]
      simp only [decide_eq_decide, List.length_cons, List.length_nil]
      omega

theorem forcesBreak_parts : ∀ (ts : List Ty) (first : Bool),
    forcesBreakAny (unionAliasParts first ts) = false := by
  intro ts
  induction ts with
  | nil => intro _; rfl
  | cons t rest ih =>
    intro first
    cases first <;> simp [unionAliasParts, forcesBreakAny, forcesBreak, ih]

/-- the mode the group of `union_alias_doc` gets -/
def unionMode (name : Option Str) (ps : List Str) (ts : List Ty) : Mode :=
  if (aliasLhs name ps).length + membersWidth true ts ≤ 100 then .flat else .brk

theorem printPieces_union_mode (name : Option Str) (ps : List Str) (ts : List Ty) (hne : ts ≠ []) :
    printPieces (Doc.join .hardline [aliasDoc ⟨name, ps, .union ts⟩]) 100 =
      Piece.atom (aliasLhs name ps) :: memberPieces (unionMode name ps ts) true ts := by
  have hfb : forcesBreak (.nest 2 (.concat (unionAliasParts true ts))) = false := by
    simp [forcesBreak, forcesBreak_parts]
  have hW : 1 ≤ membersWidth true ts := by
    cases ts with
    | nil => exact absurd rfl hne
    | cons t rest => simp only [membersWidth]; omega
  have hfits : fits (100 - (0 + (aliasLhs name ps).length)) 0
      (.nest 2 (.concat (unionAliasParts true ts))) [⟨0, .brk, .nil⟩] =
      decide ((aliasLhs name ps).length + membersWidth true ts ≤ 100) := by
    unfold fits
    rw [toIsize_small _ (by omega)]
    have h0 : ¬ (((100 - (0 + (aliasLhs name ps).length) : Nat) : Int) < 0) := by omega
    rw [fl_nest _ 0 .flat _ _ _ _ h0, fl_concat _ (0 + 2) .flat _ _ _ h0]
    simp only [List.append_nil, Nat.zero_add]
    rw [fits_parts]
    simp only [decide_eq_decide]
    omega
  simp only [printPieces, Doc.join, Doc.joinList, aliasDoc, unionAliasDoc, Doc.mkGroup, pl_concat,
    mkFrames, List.cons_append, List.nil_append, pl_nil, pl_text]
  rw [printLoop_group 100 _ _ _ [] _ _ rfl, hfb, hfits]
  simp only [Bool.false_or]
  rw [pl_nest, pl_concat]
  unfold unionMode
  by_cases hle : (aliasLhs name ps).length + membersWidth true ts ≤ 100
  · simp only [hle, decide_true, Bool.not_true, Bool.false_eq_true, if_false, if_true, Nat.zero_add]
    rw [parts_pieces 100 .flat ts true _]
  · simp only [hle, decide_false, Bool.not_false, if_true, if_false, Nat.zero_add]
    rw [parts_pieces 100 .brk ts true _]

theorem length_printAlias_union (name : Option Str) (ps : List Str) (m : Ty) (ms : List Ty) :
    (printAlias ⟨name, ps, .union (m :: ms)⟩).length =
      (aliasLhs name ps).length + membersWidth true (m :: ms) := by
  have h : ∀ ms : List Ty, ((ms.map ([' ', '|', ' '] ++ printMember ·)).flatten).length =
      membersWidth false ms := by
    intro ms
    induction ms with
    | nil => rfl
    | cons x xs ih =>
      simp only [List.map_cons, List.flatten_cons, List.length_append, List.length_cons,
        List.length_nil, membersWidth, Bool.false_eq_true, if_false]
      rw [ih] <;> omega
  simp only [printAlias, printMembers, printMembersL_eq, List.map_cons]
  rw [sepBy_cons, List.map_map]
  simp only [List.length_append, List.length_cons, membersWidth, if_true]
  have := h ms
  simp only [Function.comp_def] at this ⊢
  rw [this]; omega

/-- **the layout is decided by the length of the flat line**: `format_program` writes the flat line
    unless the right-hand side is a union and the flat line is longer than 100 characters; then every
    member gets its own line. The post-passes change nothing: no line of these texts ends in white
    space, is blank, or holds the NUL of a literal placeholder. -/
theorem fmtAlias_decided (a : Alias) (hw : a.wf = true) :
    fmtAlias a =
      (match a.ty with
       | .union ts =>
         if (printAlias a).length ≤ 100 then printAlias a else brokenAlias a.name a.params ts
       | _ => printAlias a) ++ ['\n'] := by
  obtain ⟨name, ps, ty⟩ := a
  simp only [Alias.wf, Bool.and_eq_true] at hw
  have hn : ∀ n, name = some n → isIdentStr n = true := by
    intro n e; subst e; exact hw.1.1
  have hlhs := goodS_lhs name ps hn hw.1.2
  have key : ∀ P : List Piece, printPieces (Doc.join .hardline [aliasDoc ⟨name, ps, ty⟩]) 100 = P →
      tidyPs false (explode P) = true → nulFree (explode P) = true →
      fmtAlias ⟨name, ps, ty⟩ = renderPieces P ++ ['\n'] := by
    intro P hP h1 h2
    obtain ⟨p1, p2, p3⟩ := passes_of_tidy h1 h2
    unfold fmtAlias QM.Text.print
    rw [hP, p1, p2, p3]
  by_cases hu : ∃ ts, ty = .union ts
  · obtain ⟨ts, rfl⟩ := hu
    have hwt : 2 ≤ ts.length ∧ Ty.wfList ts = true := by
      simpa [Ty.wf] using hw.2
    cases ts with
    | nil => simp at hwt
    | cons t ts =>
      have hmem : ∀ x ∈ t :: ts, GoodS (printMember x) = true := fun x hx =>
        goodS_memberWrap x (goodS_printTys (t :: ts) hwt.2 x hx)
      have htm := tidy_members (unionMode name ps (t :: ts)) (t :: ts) true hmem
      rw [key _ (printPieces_union_mode name ps (t :: ts) (by simp))
        (by simp only [explode]; exact tidy_good _ hlhs false _ htm.1)
        (by simp only [explode]; rw [nulFree_chars _ (goodS_ok hlhs)]; exact htm.2),
        length_printAlias_union]
      unfold unionMode
      by_cases hle : (aliasLhs name ps).length + membersWidth true (t :: ts) ≤ 100
      · simp only [hle, if_true, renderPieces, Piece.render, render_members_flat, printAlias]
      · simp only [hle, if_false, renderPieces, Piece.render, render_members_brk, brokenAlias]
  · have hu' : ∀ ts, ty ≠ .union ts := fun ts e => hu ⟨ts, e⟩
    have hg : GoodS (aliasLhs name ps ++ ' ' :: printTy ty) = true := by
      rw [show aliasLhs name ps ++ ' ' :: printTy ty = (aliasLhs name ps ++ [' ']) ++ printTy ty by simp]
      refine goodS_append ?_ (goodS_printTy ty hw.2)
      rw [List.all_append, goodS_ok hlhs]; decide
    rw [key _ (printPieces_plain name ps ty hu')
      (by simp only [explode]; exact tidy_good _ hg false [] rfl)
      (by simp only [explode]; rw [nulFree_chars _ (goodS_ok hg)]; rfl)]
    cases ty with
    | union ts => exact absurd rfl (hu' ts)
    | _ => simp [renderPieces, Piece.render, printAlias]

/-- **the text of `format_program`** on a program that is one well-formed alias: the flat line, or —
    only for a union right-hand side — one member per line; then a newline. -/
theorem fmtAlias_text (a : Alias) (hw : a.wf = true) :
    fmtAlias a = printAlias a ++ ['\n'] ∨
    ∃ ts, a.ty = .union ts ∧ fmtAlias a = brokenAlias a.name a.params ts ++ ['\n'] := by
  rw [fmtAlias_decided a hw]
  obtain ⟨name, ps, ty⟩ := a
  cases ty with
  | union ts =>
    dsimp only
    split
    · exact .inl rfl
    · exact .inr ⟨ts, rfl, rfl⟩
  | _ => exact .inl rfl

theorem fmtAlias_quote (a : Alias) (hw : a.wf = true) : ∃ s, fmtAlias a = '\'' :: s := by
  rcases fmtAlias_text a hw with h | ⟨ts, _, h⟩ <;> rw [h]
  · unfold printAlias
    split <;> exact ⟨_, rfl⟩
  · exact ⟨_, rfl⟩

end QM.Parse
