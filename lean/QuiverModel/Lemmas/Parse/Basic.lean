/-
Compositional properties of the nom-style combinators of `Core/Parse/Type.lean`:

* `Sound p`  : whatever `p` returns (remaining input of a success, position of an error) is a SUFFIX
               of its input;
* `Strict p` : a success consumed at least one character;
* `NoOut p`  : `p` never runs out of fuel;
* `Tot m p`  : `p` does not run out of fuel on inputs shorter than `m`;
* `Safe m p` : `Sound p` and `Tot m p` together;
* `PLe p p'` : wherever `p` has an answer (not `out`), `p'` has the same answer.

Each comes with one closure lemma per combinator, so the property of a grammar function follows the
shape of its definition (`Lemmas/Parse/Grammar.lean`).
-/
import QuiverModel.Core.Parse.Type
namespace QM.Parse

def Res.Within {α : Type} (i : Str) : Res α → Prop
  | .ok _ r => r <:+ i
  | .err e _ => e <:+ i
  | .out => True

def Res.StrictIn {α : Type} (i : Str) : Res α → Prop
  | .ok _ r => r.length < i.length
  | _ => True

def Sound {α : Type} (p : P α) : Prop := ∀ i, (p i).Within i
def Strict {α : Type} (p : P α) : Prop := ∀ i, (p i).StrictIn i

theorem Res.Within.mono {α : Type} {i j : Str} {r : Res α} (h : j <:+ i) (hr : r.Within j) :
    r.Within i := by
  cases r with
  | ok a r => exact List.IsSuffix.trans hr h
  | err e c => exact List.IsSuffix.trans hr h
  | out => trivial

theorem Sound.ok {α : Type} {p : P α} (h : Sound p) {i : Str} {a : α} {r : Str}
    (e : p i = .ok a r) : r <:+ i := by
  have := h i; rw [e] at this; exact this

theorem Sound.err {α : Type} {p : P α} (h : Sound p) {i : Str} {x : Str} {c : Code}
    (e : p i = .err x c) : x <:+ i := by
  have := h i; rw [e] at this; exact this

theorem Strict.ok {α : Type} {p : P α} (h : Strict p) {i : Str} {a : α} {r : Str}
    (e : p i = .ok a r) : r.length < i.length := by
  have := h i; rw [e] at this; exact this

theorem Sound.bind {α β : Type} {p : P α} {q : α → P β} (hp : Sound p) (hq : ∀ a, Sound (q a)) :
    Sound (Parse.bind p q) := by
  intro i
  unfold QM.Parse.bind
  cases e : p i with
  | ok a r => exact Res.Within.mono (hp.ok e) (hq a r)
  | err x c => exact hp.err e
  | out => trivial

theorem Sound.seq {α β : Type} {p : P α} {q : P β} (hp : Sound p) (hq : Sound q) :
    Sound (Parse.seq p q) := Sound.bind hp (fun _ => hq)

/-- consumes nothing and returns `a`. `pmap p f` is `bind p fun a => ret (f a)` and `before p q` is
    `bind p fun a => pmap q fun _ => a` by unfolding, so closure under them is closure under `bind`. -/
def ret {α : Type} (a : α) : P α := fun i => .ok a i

theorem Sound.ret {α : Type} (a : α) : Sound (Parse.ret a) := fun i => List.suffix_refl i

theorem Sound.pmap {α β : Type} {p : P α} {f : α → β} (hp : Sound p) : Sound (Parse.pmap p f) :=
  Sound.bind hp fun _ => Sound.ret _

theorem Sound.before {α β : Type} {p : P α} {q : P β} (hp : Sound p) (hq : Sound q) :
    Sound (Parse.before p q) := Sound.bind hp fun _ => Sound.pmap hq

theorem Sound.void {α : Type} {p : P α} (hp : Sound p) : Sound (Parse.void p) := Sound.pmap hp

theorem Sound.alt {α : Type} {p q : P α} (hp : Sound p) (hq : Sound q) : Sound (Parse.alt p q) := by
  intro i
  unfold QM.Parse.alt
  cases e : p i with
  | ok a r => exact hp.ok e
  | err x c => exact hq i
  | out => trivial

theorem Sound.opt {α : Type} {p : P α} (hp : Sound p) : Sound (Parse.opt p) := by
  intro i
  unfold QM.Parse.opt
  cases e : p i with
  | ok a r => exact hp.ok e
  | err x c => exact List.suffix_refl i
  | out => trivial

theorem Sound.verify {α : Type} {p : P α} {f : α → Bool} (hp : Sound p) : Sound (Parse.verify p f) := by
  intro i
  unfold QM.Parse.verify
  cases e : p i with
  | ok a r =>
    by_cases h : f a = true
    · simp only [h, if_true]; exact hp.ok e
    · simp only [h]; exact List.suffix_refl i
  | err x c => exact hp.err e
  | out => trivial

theorem Sound.peekNot {α : Type} (p : P α) : Sound (Parse.peekNot p) := by
  intro i
  unfold QM.Parse.peekNot
  cases e : p i with
  | ok a r => exact List.suffix_refl i
  | err x c => exact List.suffix_refl i
  | out => trivial

theorem Sound.pchar (c : Char) : Sound (Parse.pchar c) := by
  intro i
  unfold QM.Parse.pchar
  cases i with
  | nil => exact List.suffix_refl _
  | cons d r =>
    by_cases h : d = c
    · simp only [h, if_true]; exact List.suffix_cons c r
    · simp only [h, if_false]; exact List.suffix_refl _

theorem Sound.ptag (s : Str) : Sound (Parse.ptag s) := by
  intro i
  unfold QM.Parse.ptag
  by_cases h : isPrefix s i = true
  · simp only [h, if_true]; exact List.drop_suffix _ _
  · simp only [h]; exact List.suffix_refl _

theorem many0Loop_sound {α : Type} {p : P α} (hp : Sound p) (n : Nat) : Sound (many0Loop p n) := by
  induction n with
  | zero => intro i; simp [many0Loop, Res.Within]
  | succ n ih =>
    intro i
    simp only [many0Loop]
    cases e : p i with
    | ok a r =>
      by_cases hl : r.length = i.length
      · simp only [hl, if_true]; exact List.suffix_refl _
      · simp only [hl, if_false]
        have := ih r
        cases e2 : many0Loop p n r with
        | ok as r' => rw [e2] at this; exact List.IsSuffix.trans this (hp.ok e)
        | err x c => rw [e2] at this; exact List.IsSuffix.trans this (hp.ok e)
        | out => trivial
    | err x c => exact List.suffix_refl _
    | out => trivial

theorem Sound.many0 {α : Type} {p : P α} (hp : Sound p) : Sound (Parse.many0 p) :=
  fun i => many0Loop_sound hp _ i

theorem sepLoop_sound {α β : Type} {sep : P β} {p : P α} (hs : Sound sep) (hp : Sound p) (n : Nat) :
    Sound (sepLoop sep p n) := by
  induction n with
  | zero => intro i; simp [sepLoop, Res.Within]
  | succ n ih =>
    intro i
    simp only [sepLoop]
    cases e : sep i with
    | ok b i1 =>
      by_cases hl : i1.length = i.length
      · simp only [hl, if_true]; exact hs.ok e
      · simp only [hl, if_false]
        cases e1 : p i1 with
        | ok a i2 =>
          dsimp only at *
          have := ih i2
          have h2 : i2 <:+ i := List.IsSuffix.trans (hp.ok e1) (hs.ok e)
          cases e2 : sepLoop sep p n i2 with
          | ok as r' => rw [e2] at this; exact List.IsSuffix.trans this h2
          | err x c => rw [e2] at this; exact List.IsSuffix.trans this h2
          | out => trivial
        | err x c => exact List.suffix_refl _
        | out => trivial
    | err x c => exact List.suffix_refl _
    | out => trivial

/-- The common shape of `sepList1`, `sepList0` and `sepList0Pos`: a first element, the loop behind it,
    `f` to pack the parts, and `d` for the result when there is no first element. -/
def sepListWith {α β γ : Type} (sep : P β) (p : P α) (f : α → Str → List α → γ) (d : Option γ) :
    P γ := fun i =>
  match p i with
  | .ok a r =>
    match sepLoop sep p (r.length + 1) r with
    | .ok as r' => .ok (f a r as) r'
    | .err e c => .err e c
    | .out => .out
  | .err e c =>
    match d with
    | some b => .ok b i
    | none => .err e c
  | .out => .out

theorem sepList1_eq {α β : Type} (sep : P β) (p : P α) :
    sepList1 sep p = sepListWith sep p (fun a _ as => a :: as) none := rfl
theorem sepList0_eq {α β : Type} (sep : P β) (p : P α) :
    sepList0 sep p = sepListWith sep p (fun a _ as => a :: as) (some []) := rfl
theorem sepList0Pos_eq {α β : Type} (sep : P β) (p : P α) :
    sepList0Pos sep p = sepListWith sep p (fun a r as => (a :: as, some r)) (some ([], none)) := rfl

theorem Sound.sepListWith {α β γ : Type} {sep : P β} {p : P α} {f : α → Str → List α → γ}
    {d : Option γ} (hs : Sound sep) (hp : Sound p) : Sound (sepListWith sep p f d) := by
  intro i
  unfold QM.Parse.sepListWith
  cases e : p i with
  | ok a r =>
    have := sepLoop_sound hs hp (r.length + 1) r
    dsimp only
    cases e2 : sepLoop sep p (r.length + 1) r with
    | ok as r' => rw [e2] at this; exact List.IsSuffix.trans this (hp.ok e)
    | err x c => rw [e2] at this; exact List.IsSuffix.trans this (hp.ok e)
    | out => trivial
  | err x c => cases d <;> first | exact hp.err e | exact List.suffix_refl _
  | out => trivial

theorem Strict.bind_left {α β : Type} {p : P α} {q : α → P β} (hp : Strict p)
    (hq : ∀ a, Sound (q a)) : Strict (Parse.bind p q) := by
  intro i
  unfold QM.Parse.bind
  cases e : p i with
  | ok a r =>
    dsimp only at *
    have h1 := hp.ok e
    cases e2 : q a r with
    | ok b r' =>
      have := ((hq a).ok e2).length_le
      show r'.length < i.length
      omega
    | err x c => trivial
    | out => trivial
  | err x c => trivial
  | out => trivial

theorem Strict.bind_right {α β : Type} {p : P α} {q : α → P β} (hp : Sound p)
    (hq : ∀ a, Strict (q a)) : Strict (Parse.bind p q) := by
  intro i
  unfold QM.Parse.bind
  cases e : p i with
  | ok a r =>
    dsimp only at *
    have h1 := (hp.ok e).length_le
    cases e2 : q a r with
    | ok b r' =>
      have := (hq a).ok e2
      show r'.length < i.length
      omega
    | err x c => trivial
    | out => trivial
  | err x c => trivial
  | out => trivial

theorem Strict.seq_left {α β : Type} {p : P α} {q : P β} (hp : Strict p) (hq : Sound q) :
    Strict (Parse.seq p q) := Strict.bind_left hp (fun _ => hq)

theorem Strict.seq_right {α β : Type} {p : P α} {q : P β} (hp : Sound p) (hq : Strict q) :
    Strict (Parse.seq p q) := Strict.bind_right hp (fun _ => hq)

theorem Strict.before_left {α β : Type} {p : P α} {q : P β} (hp : Strict p) (hq : Sound q) :
    Strict (Parse.before p q) := Strict.bind_left hp fun _ => Sound.pmap hq

theorem Strict.delimited {α β γ : Type} {o : P α} {p : P β} {c : P γ} (ho : Strict o) (hp : Sound p)
    (hc : Sound c) : Strict (Parse.delimited o p c) := Strict.seq_left ho (Sound.before hp hc)

theorem Strict.pmap {α β : Type} {p : P α} {f : α → β} (hp : Strict p) : Strict (Parse.pmap p f) :=
  Strict.bind_left hp fun _ => Sound.ret _

theorem Strict.alt {α : Type} {p q : P α} (hp : Strict p) (hq : Strict q) : Strict (Parse.alt p q) := by
  intro i
  unfold QM.Parse.alt
  cases e : p i with
  | ok a r => exact hp.ok e
  | err x c => exact hq i
  | out => trivial

theorem Strict.verify {α : Type} {p : P α} {f : α → Bool} (hp : Strict p) : Strict (Parse.verify p f) := by
  intro i
  unfold QM.Parse.verify
  cases e : p i with
  | ok a r =>
    by_cases h : f a = true
    · simp only [h, if_true]; exact hp.ok e
    · simp only [h]; trivial
  | err x c => trivial
  | out => trivial

theorem Strict.pchar (c : Char) : Strict (Parse.pchar c) := by
  intro i
  unfold QM.Parse.pchar
  cases i with
  | nil => trivial
  | cons d r =>
    by_cases h : d = c
    · simp only [h, if_true]; show r.length < (c :: r).length; simp
    · simp only [h, if_false]; trivial

theorem isPrefix_length {s i : Str} (h : isPrefix s i = true) : s.length ≤ i.length := by
  induction s generalizing i with
  | nil => simp
  | cons a as ih =>
    cases i with
    | nil => simp [isPrefix] at h
    | cons b bs =>
      simp only [isPrefix, Bool.and_eq_true] at h
      have := ih h.2
      simp; omega

theorem Strict.ptag {s : Str} (hs : s ≠ []) : Strict (Parse.ptag s) := by
  intro i
  unfold QM.Parse.ptag
  by_cases h : isPrefix s i = true
  · simp only [h, if_true]
    show (i.drop s.length).length < i.length
    have := isPrefix_length h
    have : 0 < s.length := List.length_pos_iff.mpr hs
    simp; omega
  · simp only [h]; trivial

def NoOut {α : Type} (p : P α) : Prop := ∀ i, p i ≠ .out
def Tot {α : Type} (m : Nat) (p : P α) : Prop := ∀ i, i.length < m → p i ≠ .out
def PLe {α : Type} (p p' : P α) : Prop := ∀ i, p i ≠ .out → p' i = p i

theorem NoOut.tot {α : Type} {p : P α} (h : NoOut p) (m : Nat) : Tot m p := fun i _ => h i
theorem Tot.weaken {α : Type} {p : P α} {m : Nat} (h : Tot (m + 1) p) : Tot m p :=
  fun i hi => h i (by omega)
theorem PLe.refl {α : Type} (p : P α) : PLe p p := fun _ _ => rfl

theorem Tot.bind {α β : Type} {m : Nat} {p : P α} {q : α → P β} (sp : Sound p) (hp : Tot m p)
    (hq : ∀ a, Tot m (q a)) : Tot m (Parse.bind p q) := by
  intro i hi
  unfold QM.Parse.bind
  cases e : p i with
  | ok a r => exact hq a r (by have := (sp.ok e).length_le; omega)
  | err x c => simp
  | out => exact absurd e (hp i hi)

/-- after a strict prefix the continuation only needs to be total one level below -/
theorem Tot.bind_strict {α β : Type} {m : Nat} {p : P α} {q : α → P β} (sp : Strict p)
    (hp : Tot (m + 1) p) (hq : ∀ a, Tot m (q a)) : Tot (m + 1) (Parse.bind p q) := by
  intro i hi
  unfold QM.Parse.bind
  cases e : p i with
  | ok a r => exact hq a r (by have := sp.ok e; omega)
  | err x c => simp
  | out => exact absurd e (hp i hi)

theorem Tot.pmap {α β : Type} {m : Nat} {p : P α} {f : α → β} (hp : Tot m p) : Tot m (Parse.pmap p f) := by
  intro i hi
  unfold QM.Parse.pmap
  cases e : p i with
  | ok a r => simp
  | err x c => simp
  | out => exact absurd e (hp i hi)

theorem Tot.before {α β : Type} {m : Nat} {p : P α} {q : P β} (sp : Sound p) (hp : Tot m p)
    (hq : Tot m q) : Tot m (Parse.before p q) := Tot.bind sp hp fun _ => Tot.pmap hq

theorem Tot.alt {α : Type} {m : Nat} {p q : P α} (hp : Tot m p) (hq : Tot m q) : Tot m (Parse.alt p q) := by
  intro i hi
  unfold QM.Parse.alt
  cases e : p i with
  | ok a r => simp
  | err x c => exact hq i hi
  | out => exact absurd e (hp i hi)

theorem Tot.opt {α : Type} {m : Nat} {p : P α} (hp : Tot m p) : Tot m (Parse.opt p) := by
  intro i hi
  unfold QM.Parse.opt
  cases e : p i with
  | ok a r => simp
  | err x c => simp
  | out => exact absurd e (hp i hi)

theorem Tot.verify {α : Type} {m : Nat} {p : P α} {f : α → Bool} (hp : Tot m p) :
    Tot m (Parse.verify p f) := by
  intro i hi
  unfold QM.Parse.verify
  cases e : p i with
  | ok a r => by_cases h : f a = true <;> simp [h]
  | err x c => simp
  | out => exact absurd e (hp i hi)

theorem Tot.peekNot {α : Type} {m : Nat} {p : P α} (hp : Tot m p) : Tot m (Parse.peekNot p) := by
  intro i hi
  unfold QM.Parse.peekNot
  cases e : p i with
  | ok a r => simp
  | err x c => simp
  | out => exact absurd e (hp i hi)

theorem many0Loop_tot {α : Type} {m : Nat} {p : P α} (sp : Sound p) (hp : Tot m p) (n : Nat) :
    ∀ i, i.length < n → i.length < m → many0Loop p n i ≠ .out := by
  induction n with
  | zero => intro i h; omega
  | succ n ih =>
    intro i hn hm
    simp only [many0Loop]
    cases e : p i with
    | ok a r =>
      by_cases hl : r.length = i.length
      · simp [hl]
      · simp only [hl, if_false]
        have hle := (sp.ok e).length_le
        have := ih r (by omega) (by omega)
        cases e2 : many0Loop p n r with
        | ok as r' => simp
        | err x c => simp
        | out => exact absurd e2 this
    | err x c => simp
    | out => exact absurd e (hp i hm)

theorem Tot.many0 {α : Type} {m : Nat} {p : P α} (sp : Sound p) (hp : Tot m p) : Tot m (Parse.many0 p) :=
  fun i hi => many0Loop_tot sp hp _ i (by omega) hi

theorem sepLoop_tot {α β : Type} {m : Nat} {sep : P β} {p : P α} (ss : Sound sep) (sp : Sound p)
    (hs : Tot m sep) (hp : Tot m p) (n : Nat) :
    ∀ i, i.length < n → i.length < m → sepLoop sep p n i ≠ .out := by
  induction n with
  | zero => intro i h; omega
  | succ n ih =>
    intro i hn hm
    simp only [sepLoop]
    cases e : sep i with
    | ok b i1 =>
      by_cases hl : i1.length = i.length
      · simp [hl]
      · simp only [hl, if_false]
        have hle := (ss.ok e).length_le
        cases e1 : p i1 with
        | ok a i2 =>
          dsimp only at *
          have hle2 := (sp.ok e1).length_le
          have := ih i2 (by omega) (by omega)
          cases e2 : sepLoop sep p n i2 with
          | ok as r' => simp
          | err x c => simp
          | out => exact absurd e2 this
        | err x c => simp
        | out => exact absurd e1 (hp i1 (by omega))
    | err x c => simp
    | out => exact absurd e (hs i hm)

theorem Tot.sepListWith {α β γ : Type} {m : Nat} {sep : P β} {p : P α} {f : α → Str → List α → γ}
    {d : Option γ} (ss : Sound sep) (sp : Sound p) (hs : Tot m sep) (hp : Tot m p) :
    Tot m (sepListWith sep p f d) := by
  intro i hi
  unfold QM.Parse.sepListWith
  cases e : p i with
  | ok a r =>
    have hle := (sp.ok e).length_le
    have := sepLoop_tot ss sp hs hp (r.length + 1) r (by omega) (by omega)
    dsimp only
    cases e2 : sepLoop sep p (r.length + 1) r with
    | ok as r' => simp
    | err x c => simp
    | out => exact absurd e2 this
  | err x c => cases d <;> simp
  | out => exact absurd e (hp i hi)

/-! ### Soundness and totality together

The closure lemmas of `Tot` need `Sound` of whatever runs first, so a grammar function gets both from
one statement that follows the shape of its definition. -/

/-- results are suffixes of the input, and `p` answers on every input shorter than `m`
    (`m = 0`: soundness alone) -/
structure Safe {α : Type} (m : Nat) (p : P α) : Prop where
  sound : Sound p
  tot : Tot m p

theorem Safe.of_sound {α : Type} {p : P α} (h : Sound p) : Safe 0 p := ⟨h, fun _ hi => absurd hi (Nat.not_lt_zero _)⟩
theorem Safe.of_noOut {α : Type} {m : Nat} {p : P α} (s : Sound p) (h : NoOut p) : Safe m p := ⟨s, h.tot m⟩
theorem Safe.weaken {α : Type} {m : Nat} {p : P α} (h : Safe (m + 1) p) : Safe m p := ⟨h.1, h.2.weaken⟩
theorem Safe.noOut {α : Type} {p : P α} (h : ∀ m, Safe m p) : NoOut p :=
  fun i => (h (i.length + 1)).2 i (Nat.lt_succ_self _)

theorem Safe.bind {α β : Type} {m : Nat} {p : P α} {q : α → P β} (hp : Safe m p) (hq : ∀ a, Safe m (q a)) :
    Safe m (Parse.bind p q) :=
  ⟨.bind hp.1 fun a => (hq a).1, .bind hp.1 hp.2 fun a => (hq a).2⟩
theorem Safe.bind_strict {α β : Type} {m : Nat} {p : P α} {q : α → P β} (sp : Strict p)
    (hp : Safe (m + 1) p) (hq : ∀ a, Safe m (q a)) : Safe (m + 1) (Parse.bind p q) :=
  ⟨.bind hp.1 fun a => (hq a).1, .bind_strict sp hp.2 fun a => (hq a).2⟩
theorem Safe.seq {α β : Type} {m : Nat} {p : P α} {q : P β} (hp : Safe m p) (hq : Safe m q) :
    Safe m (Parse.seq p q) := .bind hp fun _ => hq
theorem Safe.seq_strict {α β : Type} {m : Nat} {p : P α} {q : P β} (sp : Strict p) (hp : Safe (m + 1) p)
    (hq : Safe m q) : Safe (m + 1) (Parse.seq p q) := .bind_strict sp hp fun _ => hq
theorem Safe.before {α β : Type} {m : Nat} {p : P α} {q : P β} (hp : Safe m p) (hq : Safe m q) :
    Safe m (Parse.before p q) := ⟨.before hp.1 hq.1, .before hp.1 hp.2 hq.2⟩
theorem Safe.delimited {α β γ : Type} {m : Nat} {o : P α} {p : P β} {c : P γ} (ho : Safe m o) (hp : Safe m p)
    (hc : Safe m c) : Safe m (Parse.delimited o p c) := .seq ho (.before hp hc)
theorem Safe.delimited_strict {α β γ : Type} {m : Nat} {o : P α} {p : P β} {c : P γ} (so : Strict o)
    (ho : Safe (m + 1) o) (hp : Safe m p) (hc : Safe m c) : Safe (m + 1) (Parse.delimited o p c) :=
  .seq_strict so ho (.before hp hc)
theorem Safe.pmap {α β : Type} {m : Nat} {p : P α} {f : α → β} (hp : Safe m p) : Safe m (Parse.pmap p f) :=
  ⟨.pmap hp.1, .pmap hp.2⟩
theorem Safe.alt {α : Type} {m : Nat} {p q : P α} (hp : Safe m p) (hq : Safe m q) : Safe m (Parse.alt p q) :=
  ⟨.alt hp.1 hq.1, .alt hp.2 hq.2⟩
theorem Safe.opt {α : Type} {m : Nat} {p : P α} (hp : Safe m p) : Safe m (Parse.opt p) :=
  ⟨.opt hp.1, .opt hp.2⟩
theorem Safe.verify {α : Type} {m : Nat} {p : P α} {f : α → Bool} (hp : Safe m p) :
    Safe m (Parse.verify p f) := ⟨.verify hp.1, .verify hp.2⟩
theorem Safe.peekNot {α : Type} {m : Nat} {p : P α} (hp : Safe m p) : Safe m (Parse.peekNot p) :=
  ⟨.peekNot p, .peekNot hp.2⟩
theorem Safe.many0 {α : Type} {m : Nat} {p : P α} (hp : Safe m p) : Safe m (Parse.many0 p) :=
  ⟨.many0 hp.1, .many0 hp.1 hp.2⟩
theorem Safe.sepListWith {α β γ : Type} {m : Nat} {sep : P β} {p : P α} {f : α → Str → List α → γ}
    {d : Option γ} (hs : Safe m sep) (hp : Safe m p) : Safe m (sepListWith sep p f d) :=
  ⟨.sepListWith hs.1 hp.1, .sepListWith hs.1 hp.1 hs.2 hp.2⟩
theorem Safe.sepList1 {α β : Type} {m : Nat} {sep : P β} {p : P α} (hs : Safe m sep) (hp : Safe m p) :
    Safe m (Parse.sepList1 sep p) := sepList1_eq sep p ▸ Safe.sepListWith hs hp
theorem Safe.sepList0 {α β : Type} {m : Nat} {sep : P β} {p : P α} (hs : Safe m sep) (hp : Safe m p) :
    Safe m (Parse.sepList0 sep p) := sepList0_eq sep p ▸ Safe.sepListWith hs hp
theorem Safe.sepList0Pos {α β : Type} {m : Nat} {sep : P β} {p : P α} (hs : Safe m sep) (hp : Safe m p) :
    Safe m (Parse.sepList0Pos sep p) := sepList0Pos_eq sep p ▸ Safe.sepListWith hs hp
theorem Safe.withInput {α : Type} {m : Nat} {f : Str → P α} (h : ∀ x, Safe m (f x)) :
    Safe m (Parse.withInput f) := ⟨fun i => (h i).1 i, fun i hi => (h i).2 i hi⟩

theorem PLe.bind {α β : Type} {p p' : P α} {q q' : α → P β} (hp : PLe p p')
    (hq : ∀ a, PLe (q a) (q' a)) : PLe (Parse.bind p q) (Parse.bind p' q') := by
  intro i h
  unfold QM.Parse.bind at h ⊢
  cases e : p i with
  | ok a r =>
    rw [hp i (by rw [e]; simp), e]
    rw [e] at h
    exact hq a r h
  | err x c => rw [hp i (by rw [e]; simp), e]
  | out => rw [e] at h; exact absurd rfl h

theorem PLe.seq {α β : Type} {p p' : P α} {q q' : P β} (hp : PLe p p') (hq : PLe q q') :
    PLe (Parse.seq p q) (Parse.seq p' q') := PLe.bind hp (fun _ => hq)

theorem PLe.pmap {α β : Type} {p p' : P α} {f : α → β} (hp : PLe p p') :
    PLe (Parse.pmap p f) (Parse.pmap p' f) := PLe.bind hp fun _ => PLe.refl _

theorem PLe.before {α β : Type} {p p' : P α} {q q' : P β} (hp : PLe p p') (hq : PLe q q') :
    PLe (Parse.before p q) (Parse.before p' q') := PLe.bind hp fun _ => PLe.pmap hq

theorem PLe.delimited {α β γ : Type} {o o' : P α} {p p' : P β} {c c' : P γ} (ho : PLe o o')
    (hp : PLe p p') (hc : PLe c c') : PLe (Parse.delimited o p c) (Parse.delimited o' p' c') :=
  PLe.seq ho (PLe.before hp hc)

theorem PLe.alt {α : Type} {p p' q q' : P α} (hp : PLe p p') (hq : PLe q q') :
    PLe (Parse.alt p q) (Parse.alt p' q') := by
  intro i h
  unfold QM.Parse.alt at h ⊢
  cases e : p i with
  | ok a r => rw [hp i (by rw [e]; simp), e]
  | err x c =>
    rw [hp i (by rw [e]; simp), e]
    rw [e] at h
    exact hq i h
  | out => rw [e] at h; exact absurd rfl h

theorem PLe.opt {α : Type} {p p' : P α} (hp : PLe p p') : PLe (Parse.opt p) (Parse.opt p') := by
  intro i h
  unfold QM.Parse.opt at h ⊢
  cases e : p i with
  | ok a r => rw [hp i (by rw [e]; simp), e]
  | err x c => rw [hp i (by rw [e]; simp), e]
  | out => rw [e] at h; exact absurd rfl h

theorem PLe.verify {α : Type} {p p' : P α} {f : α → Bool} (hp : PLe p p') :
    PLe (Parse.verify p f) (Parse.verify p' f) := by
  intro i h
  unfold QM.Parse.verify at h ⊢
  cases e : p i with
  | ok a r => rw [hp i (by rw [e]; simp), e]
  | err x c => rw [hp i (by rw [e]; simp), e]
  | out => rw [e] at h; exact absurd rfl h

theorem PLe.peekNot {α : Type} {p p' : P α} (hp : PLe p p') : PLe (Parse.peekNot p) (Parse.peekNot p') := by
  intro i h
  unfold QM.Parse.peekNot at h ⊢
  cases e : p i with
  | ok a r => rw [hp i (by rw [e]; simp), e]
  | err x c => rw [hp i (by rw [e]; simp), e]
  | out => rw [e] at h; exact absurd rfl h

/-- an answer of the loop stays the answer under a larger counter (and more fuel for `p`) -/
theorem many0Loop_ple {α : Type} {p p' : P α} (hp : PLe p p') {n m : Nat} (hm : n ≤ m) :
    PLe (many0Loop p n) (many0Loop p' m) := by
  induction n generalizing m with
  | zero => intro i h; simp [many0Loop] at h
  | succ n ih =>
    obtain ⟨m, rfl⟩ : ∃ m', m = m' + 1 := ⟨m - 1, by omega⟩
    have ih := ih (m := m) (by omega)
    intro i h
    simp only [many0Loop] at h ⊢
    cases e : p i with
    | ok a r =>
      rw [hp i (by rw [e]; simp), e]
      rw [e] at h
      by_cases hl : r.length = i.length
      · simp [hl]
      · simp only [hl, if_false] at h ⊢
        cases e2 : many0Loop p n r with
        | ok as r' => rw [ih r (by rw [e2]; simp), e2]
        | err x c => rw [ih r (by rw [e2]; simp), e2]
        | out => rw [e2] at h; exact absurd rfl h
    | err x c => rw [hp i (by rw [e]; simp), e]
    | out => rw [e] at h; exact absurd rfl h

theorem PLe.many0 {α : Type} {p p' : P α} (hp : PLe p p') : PLe (Parse.many0 p) (Parse.many0 p') :=
  fun i h => many0Loop_ple hp (Nat.le_refl _) i h

theorem sepLoop_ple {α β : Type} {sep sep' : P β} {p p' : P α} (hs : PLe sep sep') (hp : PLe p p')
    {n m : Nat} (hm : n ≤ m) : PLe (sepLoop sep p n) (sepLoop sep' p' m) := by
  induction n generalizing m with
  | zero => intro i h; simp [sepLoop] at h
  | succ n ih =>
    obtain ⟨m, rfl⟩ : ∃ m', m = m' + 1 := ⟨m - 1, by omega⟩
    have ih := ih (m := m) (by omega)
    intro i h
    simp only [sepLoop] at h ⊢
    cases e : sep i with
    | ok b i1 =>
      rw [hs i (by rw [e]; simp), e]
      rw [e] at h
      by_cases hl : i1.length = i.length
      · simp [hl]
      · simp only [hl, if_false] at h ⊢
        cases e1 : p i1 with
        | ok a i2 =>
          rw [hp i1 (by rw [e1]; simp), e1]
          rw [e1] at h
          dsimp only at h ⊢
          cases e2 : sepLoop sep p n i2 with
          | ok as r' => rw [ih i2 (by rw [e2]; simp), e2]
          | err x c => rw [ih i2 (by rw [e2]; simp), e2]
          | out => rw [e2] at h; exact absurd rfl h
        | err x c => rw [hp i1 (by rw [e1]; simp), e1]
        | out => rw [e1] at h; exact absurd rfl h
    | err x c => rw [hs i (by rw [e]; simp), e]
    | out => rw [e] at h; exact absurd rfl h

theorem PLe.sepListWith {α β γ : Type} {sep sep' : P β} {p p' : P α} {f : α → Str → List α → γ}
    {d : Option γ} (hs : PLe sep sep') (hp : PLe p p') :
    PLe (sepListWith sep p f d) (sepListWith sep' p' f d) := by
  intro i h
  unfold QM.Parse.sepListWith at h ⊢
  cases e : p i with
  | ok a r =>
    rw [hp i (by rw [e]; simp), e]
    rw [e] at h
    dsimp only at h ⊢
    cases e2 : sepLoop sep p (r.length + 1) r with
    | ok as r' => rw [sepLoop_ple hs hp (Nat.le_refl _) r (by rw [e2]; simp), e2]
    | err x c => rw [sepLoop_ple hs hp (Nat.le_refl _) r (by rw [e2]; simp), e2]
    | out => rw [e2] at h; exact absurd rfl h
  | err x c => rw [hp i (by rw [e]; simp), e]
  | out => rw [e] at h; exact absurd rfl h

theorem PLe.sepList1 {α β : Type} {sep sep' : P β} {p p' : P α} (hs : PLe sep sep')
    (hp : PLe p p') : PLe (Parse.sepList1 sep p) (Parse.sepList1 sep' p') := by
  rw [sepList1_eq, sepList1_eq]; exact PLe.sepListWith hs hp
theorem PLe.sepList0 {α β : Type} {sep sep' : P β} {p p' : P α} (hs : PLe sep sep')
    (hp : PLe p p') : PLe (Parse.sepList0 sep p) (Parse.sepList0 sep' p') := by
  rw [sepList0_eq, sepList0_eq]; exact PLe.sepListWith hs hp
theorem PLe.sepList0Pos {α β : Type} {sep sep' : P β} {p p' : P α} (hs : PLe sep sep')
    (hp : PLe p p') : PLe (sepList0Pos sep p) (sepList0Pos sep' p') := by
  rw [sepList0Pos_eq, sepList0Pos_eq]; exact PLe.sepListWith hs hp

end QM.Parse
