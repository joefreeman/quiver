/-
Over `Eval`: everything the type parsers return is well-formed (`Ty.wf`): `Post Q p`
(every value `p` returns satisfies `Q`), its closure lemmas, and `knot_wf`.
-/
import QuiverModel.Lemmas.Parse.Eval
namespace QM.Parse

def Post {α : Type} (Q : α → Prop) (p : P α) : Prop := ∀ i a r, p i = .ok a r → Q a

theorem Post.mono {α : Type} {Q Q' : α → Prop} {p : P α} (h : Post Q p) (hq : ∀ a, Q a → Q' a) :
    Post Q' p := fun i a r e => hq a (h i a r e)

theorem Post.trivial {α : Type} {p : P α} : Post (fun _ => True) p := fun _ _ _ _ => True.intro

theorem Post.bind {α β : Type} {Qa : α → Prop} {Qb : β → Prop} {p : P α} {q : α → P β}
    (hp : Post Qa p) (hq : ∀ a, Qa a → Post Qb (q a)) : Post Qb (bind p q) := by
  intro i b r e
  obtain ⟨a, r1, h, e⟩ := bind_ok_inv e
  exact hq a (hp i a r1 h) r1 b r e

theorem Post.seq {α β : Type} {Qb : β → Prop} {p : P α} {q : P β} (hq : Post Qb q) :
    Post Qb (seq p q) :=
  Post.bind Post.trivial fun _ _ => hq

theorem Post.ret {α : Type} {Q : α → Prop} {a : α} (h : Q a) : Post Q (ret a) := by
  intro i b r e; cases e; exact h

theorem Post.pmap {α β : Type} {Qa : α → Prop} {Qb : β → Prop} {p : P α} {f : α → β}
    (hp : Post Qa p) (hf : ∀ a, Qa a → Qb (f a)) : Post Qb (pmap p f) :=
  Post.bind hp fun a ha => Post.ret (hf a ha)

theorem Post.before {α β : Type} {Qa : α → Prop} {p : P α} {q : P β} (hp : Post Qa p) :
    Post Qa (before p q) :=
  Post.bind hp fun _ ha => Post.pmap Post.trivial fun _ _ => ha

theorem Post.delimited {α β γ : Type} {Qb : β → Prop} {o : P α} {p : P β} {c : P γ}
    (hp : Post Qb p) : Post Qb (delimited o p c) := Post.seq (Post.before hp)

theorem Post.alt {α : Type} {Q : α → Prop} {p q : P α} (hp : Post Q p) (hq : Post Q q) :
    Post Q (alt p q) := by
  intro i a r e
  rcases alt_ok_inv e with h | ⟨_, h⟩
  · exact hp i a r h
  · exact hq i a r h

theorem Post.opt {α : Type} {Q : α → Prop} {p : P α} (hp : Post Q p) :
    Post (fun o => ∀ a, o = some a → Q a) (opt p) := by
  intro i o r e
  unfold Parse.opt at e
  cases h : p i with
  | ok a r1 =>
    rw [h] at e; simp only [Res.ok.injEq] at e
    intro a' ha; rw [← e.1] at ha; cases ha; exact hp i a r1 h
  | err x y => rw [h] at e; simp only [Res.ok.injEq] at e; intro a' ha; rw [← e.1] at ha; cases ha
  | out => rw [h] at e; simp at e

theorem Post.verify {α : Type} {Q : α → Prop} {p : P α} {f : α → Bool} (hp : Post Q p) :
    Post (fun a => Q a ∧ f a = true) (verify p f) := by
  intro i a r e
  unfold Parse.verify at e
  cases h : p i with
  | ok a' r1 =>
    rw [h] at e; dsimp only at e
    by_cases hf : f a' = true
    · simp only [hf, if_true, Res.ok.injEq] at e; rw [← e.1]; exact ⟨hp i a' r1 h, hf⟩
    · simp [hf] at e
  | err x y => rw [h] at e; simp at e
  | out => rw [h] at e; simp at e

theorem many0Loop_post {α : Type} {Q : α → Prop} {p : P α} (hp : Post Q p) (n : Nat) :
    Post (fun l => ∀ a ∈ l, Q a) (many0Loop p n) := by
  induction n with
  | zero => intro i l r e; simp [many0Loop] at e
  | succ n ih =>
    intro i l r e
    simp only [many0Loop] at e
    cases h : p i with
    | ok a r1 =>
      rw [h] at e; dsimp only at e
      by_cases hl : r1.length = i.length
      · simp [hl] at e
      · simp only [hl, if_false] at e
        cases h2 : many0Loop p n r1 with
        | ok as r2 =>
          rw [h2] at e; simp only [Res.ok.injEq] at e; rw [← e.1]
          intro x hx
          rcases List.mem_cons.mp hx with rfl | hx
          · exact hp i _ r1 h
          · exact ih r1 as r2 h2 x hx
        | err x y => rw [h2] at e; simp at e
        | out => rw [h2] at e; simp at e
    | err x y => rw [h] at e; simp only [Res.ok.injEq] at e; rw [← e.1]; intro x hx; cases hx
    | out => rw [h] at e; simp at e

theorem Post.many0 {α : Type} {Q : α → Prop} {p : P α} (hp : Post Q p) :
    Post (fun l => ∀ a ∈ l, Q a) (many0 p) := fun i l r e => many0Loop_post hp _ i l r e

theorem sepLoop_post {α β : Type} {Q : α → Prop} {sep : P β} {p : P α} (hp : Post Q p) (n : Nat) :
    Post (fun l => ∀ a ∈ l, Q a) (sepLoop sep p n) := by
  induction n with
  | zero => intro i l r e; simp [sepLoop] at e
  | succ n ih =>
    intro i l r e
    simp only [sepLoop] at e
    cases h : sep i with
    | ok b i1 =>
      rw [h] at e; dsimp only at e
      by_cases hl : i1.length = i.length
      · simp [hl] at e
      · simp only [hl, if_false] at e
        cases h1 : p i1 with
        | ok a i2 =>
          rw [h1] at e; dsimp only at e
          cases h2 : sepLoop sep p n i2 with
          | ok as r2 =>
            rw [h2] at e; simp only [Res.ok.injEq] at e; rw [← e.1]
            intro x hx
            rcases List.mem_cons.mp hx with rfl | hx
            · exact hp i1 _ i2 h1
            · exact ih i2 as r2 h2 x hx
          | err x y => rw [h2] at e; simp at e
          | out => rw [h2] at e; simp at e
        | err x y => rw [h1] at e; simp only [Res.ok.injEq] at e; rw [← e.1]; intro x hx; cases hx
        | out => rw [h1] at e; simp at e
    | err x y => rw [h] at e; simp only [Res.ok.injEq] at e; rw [← e.1]; intro x hx; cases hx
    | out => rw [h] at e; simp at e

theorem Post.sepListWith {α β γ : Type} {Q : α → Prop} {R : γ → Prop} {sep : P β} {p : P α}
    {f : α → Str → List α → γ} {d : Option γ} (hp : Post Q p)
    (hf : ∀ a r as, Q a → (∀ x ∈ as, Q x) → R (f a r as)) (hd : ∀ b, d = some b → R b) :
    Post R (sepListWith sep p f d) := by
  intro i c r e
  unfold Parse.sepListWith at e
  cases h : p i with
  | ok a r1 =>
    rw [h] at e; dsimp only at e
    cases h2 : sepLoop sep p (r1.length + 1) r1 with
    | ok as r2 =>
      rw [h2] at e; simp only [Res.ok.injEq] at e; rw [← e.1]
      exact hf a r1 as (hp i _ r1 h) (sepLoop_post hp _ r1 as r2 h2)
    | err x y => rw [h2] at e; simp at e
    | out => rw [h2] at e; simp at e
  | err x y =>
    rw [h] at e
    cases d with
    | none => simp at e
    | some b => simp only [Res.ok.injEq] at e; rw [← e.1]; exact hd b rfl
  | out => rw [h] at e; simp at e

theorem Post.sepList1 {α β : Type} {Q : α → Prop} {sep : P β} {p : P α} (hp : Post Q p) :
    Post (fun l => l ≠ [] ∧ ∀ a ∈ l, Q a) (sepList1 sep p) := by
  rw [sepList1_eq]
  refine Post.sepListWith hp (fun a _ as ha has => ⟨by simp, ?_⟩) (fun _ h => by cases h)
  intro x hx
  rcases List.mem_cons.mp hx with rfl | hx
  · exact ha
  · exact has x hx

theorem Post.sepList0 {α β : Type} {Q : α → Prop} {sep : P β} {p : P α} (hp : Post Q p) :
    Post (fun l => ∀ a ∈ l, Q a) (sepList0 sep p) := by
  rw [sepList0_eq]
  refine Post.sepListWith hp (fun a _ as ha has x hx => ?_) (fun _ h x hx => by cases h; cases hx)
  rcases List.mem_cons.mp hx with rfl | hx
  · exact ha
  · exact has x hx

theorem Post.identifier : Post (fun n => isIdentStr n = true) identifier := by
  intro i a r e
  unfold Parse.identifier at e
  cases i with
  | nil => simp at e
  | cons c t =>
    by_cases hl : isLower c = true
    · simp only [hl, if_true] at e
      have hall : (t.takeWhile isIdentBody).all isIdentBody = true := List.all_takeWhile
      have key : ∀ suf : Str, (suf = [] ∨ suf = ['?'] ∨ suf = ['!'] ∨ suf = ['?', '!']) →
          isIdentStr (c :: (t.takeWhile isIdentBody ++ suf)) = true := by
        intro suf hs
        have hstop : ∀ d tl, suf = d :: tl → isIdentBody d = false := by
          intro d tl h
          rcases hs with h' | h' | h' | h' <;> rw [h'] at h <;> cases h <;> decide
        have := (takeWhile_append_stop hall hstop).2
        simp only [isIdentStr, hl, Bool.true_and, this]
        rcases hs with h' | h' | h' | h' <;> simp [h']
      split at e
      · simp only [Res.ok.injEq] at e; rw [← e.1]
        have := key ['?', '!'] (by simp); simpa using this
      · simp only [Res.ok.injEq] at e; rw [← e.1]
        have := key ['?'] (by simp); simpa using this
      · simp only [Res.ok.injEq] at e; rw [← e.1]
        have := key ['!'] (by simp); simpa using this
      · simp only [Res.ok.injEq] at e; rw [← e.1]
        have := key [] (by simp); simpa using this
    · simp [hl] at e

theorem Post.tupleName : Post (fun n => isTupleNameStr n = true) tupleName := by
  intro i a r e
  unfold Parse.tupleName at e
  cases i with
  | nil => simp at e
  | cons c t =>
    by_cases hl : isUpper c = true
    · simp only [hl, if_true, Res.ok.injEq] at e
      rw [← e.1]
      simp [isTupleNameStr, hl]
    · simp [hl] at e

theorem Post.usize : Post (fun n => n < 2 ^ 64) usize := by
  intro i a r e
  unfold Parse.usize at e
  simp only at e
  split at e
  · simp at e
  · split at e
    · rename_i h; simp only [Res.ok.injEq] at e; rw [← e.1]; exact h
    · simp at e

theorem Post.typeName : Post (fun n => isIdentStr n = true) typeName := Post.seq Post.identifier

theorem Post.importPath :
    Post (fun m : List Str => m ≠ [] ∧ ∀ a ∈ m, isIdentStr a = true) importPath :=
  Post.seq (Post.sepList1 Post.identifier)

def WFp (t : Ty) : Prop := t.wf = true
def WFl (l : List Ty) : Prop := Ty.wfList l = true
def WFf (f : Field) : Prop := f.wf = true
def WFfl (l : List Field) : Prop := Field.wfList l = true

def KWF (k : Knot) : Prop := Post WFp k.td ∧ Post WFp k.bt

section
variable {k : Knot} (hk : KWF k)
include hk

theorem typeArgs_wf : Post WFl (typeArgs k) :=
  Post.delimited (Post.mono (Post.sepList1 hk.1) (fun _ h => Ty.wfList_iff.mpr h.2))

theorem optArgs_wf : Post WFl (optArgs k) := by
  unfold optArgs
  refine Post.pmap (Post.opt (typeArgs_wf hk)) ?_
  intro o ho
  cases o with
  | none => rfl
  | some a => exact ho a rfl

theorem fieldType_wf : Post WFf (fieldType k) := by
  unfold fieldType
  refine Post.alt (Post.seq (Post.pmap (Qa := fun o : Option (Str × Option (List Ty)) =>
      ∀ pr, o = some pr → isIdentStr pr.1 = true ∧ ∀ a, pr.2 = some a → WFl a) (Post.opt ?_) ?_))
    (Post.alt ?_ ?_)
  · refine Post.bind Post.typeName (fun id hid => Post.pmap (Post.opt (typeArgs_wf hk)) ?_)
    intro o ho; exact ⟨hid, ho⟩
  · intro o ho
    cases o with
    | none => rfl
    | some pr =>
      obtain ⟨id, a⟩ := pr
      obtain ⟨h1, h2⟩ := ho (id, a) rfl
      show (Field.spread (some id) (a.getD [])).wf = true
      simp only [Field.wf, Bool.and_eq_true]
      refine ⟨h1, ?_⟩
      cases a with
      | none => rfl
      | some l => exact h2 l rfl
  · refine Post.bind Post.identifier (fun n hn => Post.seq (Post.seq (Post.pmap hk.1 ?_)))
    intro t ht
    show (Field.field (some n) t).wf = true
    simp only [Field.wf, Bool.and_eq_true]; exact ⟨hn, ht⟩
  · exact Post.pmap hk.1 (fun t ht => ht)

theorem fieldTypeList_wf : Post WFfl (fieldTypeList k) :=
  Post.before (Post.mono (Post.sepList0 (fieldType_wf hk)) (fun _ h => Field.wfList_iff.mpr h))

theorem fieldsIn_wf (o c : Char) : Post WFfl (fieldsIn o c k) :=
  Post.delimited (fieldTypeList_wf hk)

theorem partialType_wf : Post WFp (partialType k) := by
  unfold partialType
  refine Post.alt (Post.bind Post.tupleName (fun n hn => Post.pmap (fieldsIn_wf hk _ _) ?_)) ?_
  · intro fs hfs
    show (Ty.tuple (some n) fs true).wf = true
    simp only [Ty.wf, Bool.and_eq_true, Bool.or_eq_true]; exact ⟨hfs, Or.inl hn⟩
  · refine Post.mono (Post.verify (Post.pmap (Qb := fun t => ∃ fs, t = Ty.tuple none fs true ∧ WFfl fs)
      (fieldsIn_wf hk _ _) (fun fs hfs => ⟨fs, rfl, hfs⟩))) ?_
    intro t ⟨⟨fs, ht, hfs⟩, hv⟩
    subst ht
    show (Ty.tuple none fs true).wf = true
    simp only [Ty.wf, Bool.and_eq_true]
    exact ⟨hfs, by simpa using hv⟩

omit hk in
theorem inherit_wf {id : Str} (hid : isIdentStr id = true) :
    ∀ fs : List Field, Field.wfList fs = true →
      Field.wfList (fs.map (Field.inheritSpread id)) = true ∧
      (fs.map (Field.inheritSpread id)).any Field.isBareSpread = false ∧
      (fs.map (Field.inheritSpread id)).any Field.isSpread = fs.any Field.isSpread := by
  intro fs
  induction fs with
  | nil => intro _; exact ⟨rfl, rfl, rfl⟩
  | cons f fs ih =>
    intro h
    simp only [Field.wfList, Bool.and_eq_true] at h
    obtain ⟨i1, i2, i3⟩ := ih h.2
    cases f with
    | field nm t =>
      simp only [List.map_cons, Field.inheritSpread, Field.wfList, Bool.and_eq_true, List.any_cons,
        Field.isBareSpread, Field.isSpread, Bool.false_or]
      exact ⟨⟨h.1, i1⟩, i2, i3⟩
    | spread o args =>
      cases o with
      | none =>
        have ha : args = [] := by
          have := h.1; simp only [Field.wf] at this
          cases args with
          | nil => rfl
          | cons a as => simp at this
        subst ha
        simp only [List.map_cons, Field.inheritSpread, Field.wfList, Field.wf, Bool.and_eq_true,
          List.any_cons, Field.isBareSpread, Field.isSpread, Bool.false_or, Bool.true_or, Ty.wfList]
        exact ⟨⟨⟨hid, trivial⟩, i1⟩, i2, trivial⟩
      | some x =>
        simp only [List.map_cons, Field.inheritSpread, Field.wfList, Bool.and_eq_true, List.any_cons,
          Field.isBareSpread, Field.isSpread, Bool.false_or, Bool.true_or]
        exact ⟨⟨h.1, i1⟩, i2, trivial⟩

theorem tupleType_wf : Post WFp (tupleType k) := by
  unfold tupleType
  refine Post.alt (Post.bind Post.tupleName (fun n hn => Post.pmap (fieldsIn_wf hk _ _) ?_))
    (Post.alt ?_ (Post.alt (Post.pmap (fieldsIn_wf hk _ _) ?_)
      (Post.bind Post.tupleName (fun n hn => Post.pmap Post.trivial ?_))))
  · intro fs hfs
    show (Ty.tuple (some n) fs false).wf = true
    simp only [Ty.wf, Bool.and_eq_true, Bool.or_eq_true]; exact ⟨hfs, Or.inl hn⟩
  · refine Post.mono (Post.verify (Post.bind (Qb := fun t => ∃ id fs, t = Ty.tuple (some id)
        (fs.map (Field.inheritSpread id)) false ∧ isIdentStr id = true ∧ WFfl fs)
        Post.typeName (fun id hid => Post.pmap (fieldsIn_wf hk _ _)
          (fun fs hfs => ⟨id, fs, rfl, hid, hfs⟩)))) ?_
    intro t ⟨⟨id, fs, ht, hid, hfs⟩, hv⟩
    subst ht
    obtain ⟨i1, i2, i3⟩ := inherit_wf hid fs hfs
    show (Ty.tuple (some id) (fs.map (Field.inheritSpread id)) false).wf = true
    simp only [Ty.wf, Bool.and_eq_true, Bool.or_eq_true, i1, i2, true_and]
    refine Or.inr ⟨⟨⟨hid, rfl⟩, ?_⟩, rfl⟩
    simpa using hv
  · intro fs hfs
    show (Ty.tuple none fs false).wf = true
    simp only [Ty.wf, Bool.and_eq_true]; exact ⟨hfs, rfl⟩
  · intro _ _
    show (Ty.tuple (some n) [] false).wf = true
    simp only [Ty.wf, Field.wfList, Bool.true_and, Bool.or_eq_true]; exact Or.inl hn

theorem selfDefaultType_wf : Post WFp (selfDefaultType k) :=
  Post.seq (Post.pmap (optArgs_wf hk) (fun a ha => by show (Ty.selfDefault a).wf = true; exact ha))

theorem moduleType_wf : Post WFp (moduleType k) := by
  unfold moduleType
  refine Post.seq (Post.bind Post.importPath (fun m hm =>
    Post.bind (Post.opt (Post.seq Post.identifier)) (fun mem hmem => Post.pmap (optArgs_wf hk) ?_)))
  intro a ha
  show (Ty.modty m mem a).wf = true
  simp only [Ty.wf, Bool.and_eq_true, Bool.not_eq_true', List.isEmpty_eq_false_iff]
  refine ⟨⟨⟨hm.1, List.all_eq_true.mpr hm.2⟩, ?_⟩, ha⟩
  cases mem with
  | none => rfl
  | some x => exact hmem x rfl

omit hk in
theorem identifierToType_wf {n : Str} (hn : isIdentStr n = true) : (identifierToType n).wf = true := by
  unfold identifierToType
  split
  · rfl
  · split
    · rfl
    · split
      · rfl
      · simp only [Ty.wf, Ty.wfList, Bool.and_true]; exact hn

theorem typeIdentifier_wf : Post WFp (typeIdentifier k) := by
  unfold typeIdentifier
  refine Post.bind Post.typeName (fun n hn => Post.pmap (Post.opt (typeArgs_wf hk)) ?_)
  intro o ho
  cases o with
  | none => exact identifierToType_wf hn
  | some a =>
    show (Ty.ident n a).wf = true
    simp only [Ty.wf, Bool.and_eq_true]; exact ⟨hn, ho a rfl⟩

theorem processType_wf : Post WFp (processType k) := by
  unfold processType
  refine Post.alt (Post.delimited (Post.alt (Post.pmap (Post.seq hk.2) ?_)
    (Post.seq (Post.bind hk.2 (fun a ha => Post.seq (Post.pmap hk.2 ?_)))))) (Post.seq (Post.pmap (Post.opt hk.2) ?_))
  · intro r hr; show (Ty.proc none (some r)).wf = true; simp only [Ty.wf, Ty.wfOpt, Bool.true_and]; exact hr
  · intro r hr; show (Ty.proc (some a) (some r)).wf = true
    simp only [Ty.wf, Ty.wfOpt, Bool.and_eq_true]; exact ⟨ha, hr⟩
  · intro o ho
    show (Ty.proc o none).wf = true
    cases o with
    | none => rfl
    | some a => simp only [Ty.wf, Ty.wfOpt, Bool.and_true]; exact ho a rfl

theorem groupType_wf : Post WFp (groupType k) := Post.delimited hk.1

omit hk in
theorem resourceType_wf : Post WFp resourceType :=
  Post.pmap (Post.seq Post.tupleName) (fun n hn => by show (Ty.resource n).wf = true; exact hn)

omit hk in
theorem typeCycle_wf : Post WFp typeCycle := by
  refine Post.seq (Post.pmap (Post.opt Post.usize) ?_)
  intro o ho
  show (Ty.cycle o).wf = true
  cases o with
  | none => rfl
  | some n => simp only [Ty.wf, decide_eq_true_eq]; exact ho n rfl

omit hk in
theorem typeParameter_wf : Post WFp typeParameter :=
  Post.pmap (Post.delimited Post.typeName)
    (fun n hn => by show (Ty.ident n []).wf = true; simp only [Ty.wf, Ty.wfList, Bool.and_true]; exact hn)

theorem functionIoType_wf : Post WFp (functionIoType k) := by
  unfold functionIoType
  exact Post.alt (partialType_wf hk) (Post.alt (groupType_wf hk) (Post.alt (tupleType_wf hk)
    (Post.alt resourceType_wf (Post.alt typeCycle_wf (Post.alt (processType_wf hk)
    (Post.alt (moduleType_wf hk) (Post.alt (typeIdentifier_wf hk) (selfDefaultType_wf hk))))))))

theorem functionType_wf : Post WFp (functionType k) := by
  unfold functionType
  refine Post.seq (Post.bind (functionIoType_wf hk) (fun a ha => Post.seq (Post.pmap (functionIoType_wf hk) ?_)))
  intro b hb
  show (Ty.func a b).wf = true
  simp only [Ty.wf, Bool.and_eq_true]; exact ⟨ha, hb⟩

theorem baseTypeWith_wf : Post WFp (baseTypeWith k) := by
  unfold baseTypeWith
  exact Post.alt (tupleType_wf hk) (Post.alt (partialType_wf hk) (Post.alt resourceType_wf
    (Post.alt typeCycle_wf (Post.alt (processType_wf hk) (Post.alt typeParameter_wf
    (Post.alt (moduleType_wf hk) (Post.alt (groupType_wf hk)
    (Post.alt (typeIdentifier_wf hk) (selfDefaultType_wf hk)))))))))

end

/-- `first` alone, or `C (first :: rest)` for `C` an intersection or a union (≥ 2 members) -/
theorem wf_first_rest {first : Ty} {rest : List Ty} (C : List Ty → Ty)
    (hC : ∀ ts, (C ts).wf = (decide (2 ≤ ts.length) && Ty.wfList ts)) (hf : first.wf = true)
    (hr : ∀ a ∈ rest, a.wf = true) : (if rest.isEmpty then first else C (first :: rest)).wf = true := by
  cases rest with
  | nil => simpa using hf
  | cons x xs =>
    simp only [List.isEmpty_cons, Bool.false_eq_true, if_false, hC, Bool.and_eq_true, decide_eq_true_eq]
    refine ⟨by simp, Ty.wfList_iff.mpr fun a ha => ?_⟩
    rcases List.mem_cons.mp ha with rfl | ha
    · exact hf
    · exact hr a ha

theorem intersectionType_wf {bt : P Ty} (hb : Post WFp bt) : Post WFp (intersectionType bt) := by
  unfold intersectionType
  refine Post.bind hb (fun first hf => Post.pmap (Post.many0 (Post.seq hb)) ?_)
  exact fun rest hr => wf_first_rest Ty.inter (fun _ => by simp [Ty.wf]) hf hr

theorem typeDefinitionWith_wf {k : Knot} (hk : KWF k) {bt : P Ty} (hb : Post WFp bt) :
    Post WFp (typeDefinitionWith k bt) := by
  unfold typeDefinitionWith
  refine Post.alt (functionType_wf hk) (Post.seq (Post.bind (intersectionType_wf hb)
    (fun first hf => Post.pmap (Post.many0 (Post.seq (intersectionType_wf hb))) ?_)))
  exact fun rest hr => wf_first_rest Ty.union (fun _ => by simp [Ty.wf]) hf hr

theorem knot_wf (n : Nat) : KWF (knot n) := by
  induction n with
  | zero => exact ⟨fun i a r e => by simp [knot] at e, fun i a r e => by simp [knot] at e⟩
  | succ n ih =>
    exact ⟨typeDefinitionWith_wf ih (baseTypeWith_wf ih), baseTypeWith_wf ih⟩

end QM.Parse
