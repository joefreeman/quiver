/-
Over `Factored`: the grammar of /repo 1d93429 (`parenTypeG`, `knotG`: the parenthesised
process forms are continued from the first field `paren_type` has read): closure properties, the
one-level equality with the separate `(@t -> t)` alternative (`parenProcessFromFirst_errEq`,
`parenTypeG_eq`, for any knot `k'.step` whose lower knot has `KRecv`: it rejects a text that continues with `-`, and the knot above
agrees with it — monotonicity across knot levels), and the equality of the grammars (`knotG_eq`).
-/
import QuiverModel.Lemmas.Parse.Factored
namespace QM.Parse

/-- the arrow in front of the return type: `ws0 -> ws1` behind a bare `@`, `ws1 -> ws1` behind `@t` -/
def procArrow (recv : Option Ty) : P Unit :=
  match recv with
  | none => seq ws0 (seq (ptag ['-', '>']) ws1)
  | some _ => arrow

theorem Safe.procArrow {m : Nat} (recv : Option Ty) : Safe m (Parse.procArrow recv) := by
  cases recv with
  | none => exact .seq .ws0 (.seq (.ptag _) .ws1)
  | some x => exact .arrow

theorem Strict.procArrow (recv : Option Ty) : Strict (Parse.procArrow recv) := by
  cases recv with
  | none =>
    exact Strict.seq_right Sound.ws0 (Strict.seq_left (Strict.ptag (by simp)) Sound.ws1)
  | some x => exact Strict.seq_left Strict.ws1 (Sound.seq (Sound.ptag _) Sound.ws1)

theorem NoOut.procArrow (recv : Option Ty) : NoOut (Parse.procArrow recv) :=
  Safe.noOut fun _ => .procArrow recv

theorem parenProcessFromFirst_eq (k : Knot) (i : Str) (recv : Option Ty) (more : List Field)
    (firstEnd afterOpen content : Str) :
    parenProcessFromFirst k i (some ⟨Field.field none (Ty.proc recv none) :: more, some firstEnd, afterOpen, content⟩) =
      if headIs '@' afterOpen then
        match procArrow recv firstEnd with
        | .ok _ r1 =>
          match k.bt r1 with
          | .ok ret r2 =>
            match pchar ')' r2 with
            | .ok _ rest => .ok (.proc recv (some ret)) rest
            | _ => .err i .verify
          | .err _ _ => .err i .verify
          | .out => .out
        | _ => .err i .verify
      else .err i .verify := by
  cases recv <;> rfl

/-- `parenProcessFromFirst` does something only on a list whose first field is a bare process type; on
    every other list it answers the same error. -/
theorem parenProcessFromFirst_shape (i : Str) (l : Option ParenList) :
    (∃ recv more fe ao ct, l = some ⟨Field.field none (Ty.proc recv none) :: more, some fe, ao, ct⟩) ∨
    (∀ k : Knot, parenProcessFromFirst k i l = .err i .verify) := by
  by_cases h : ∃ recv more fe ao ct,
      l = some ⟨Field.field none (Ty.proc recv none) :: more, some fe, ao, ct⟩
  · exact Or.inl h
  · refine Or.inr (fun k => ?_)
    unfold parenProcessFromFirst
    split
    · rename_i recv more fe ao ct
      exact absurd ⟨recv, more, fe, ao, ct, rfl⟩ h
    · rfl

theorem parenProcessFromFirst_within {k : Knot} (hk : KSound k) {i : Str} {l : ParenList}
    (hfe : ∀ fe, l.firstEnd = some fe → fe <:+ i) :
    (parenProcessFromFirst k i (some l)).Within i := by
  rcases parenProcessFromFirst_shape i (some l) with ⟨recv, more, fe, ao, ct, h⟩ | h
  · simp only [Option.some.injEq] at h
    subst h
    rw [parenProcessFromFirst_eq]
    have hfe' : fe <:+ i := hfe fe rfl
    split
    · cases e1 : procArrow recv fe with
      | ok u r1 =>
        have h1 := (Safe.procArrow (m := 0) recv).1.ok e1
        dsimp only
        cases e2 : k.bt r1 with
        | ok ret r2 =>
          have h2 := hk.2.ok e2
          dsimp only
          cases e3 : pchar ')' r2 with
          | ok u2 rest =>
            exact List.IsSuffix.trans ((Sound.pchar _).ok e3)
              (List.IsSuffix.trans h2 (List.IsSuffix.trans h1 hfe'))
          | err x y => exact List.suffix_refl _
          | out => exact List.suffix_refl _
        | err x y => exact List.suffix_refl _
        | out => trivial
      | err x y => exact List.suffix_refl _
      | out => exact List.suffix_refl _
    · exact List.suffix_refl _
  · rw [h k]; exact List.suffix_refl _

theorem parenProcessFromFirst_tot {k : Knot} {m : Nat} (hk : KSafe m k) {i : Str} {l : ParenList}
    (hfe : ∀ fe, l.firstEnd = some fe → fe.length ≤ m) :
    parenProcessFromFirst k i (some l) ≠ .out := by
  rcases parenProcessFromFirst_shape i (some l) with ⟨recv, more, fe, ao, ct, h⟩ | h
  · simp only [Option.some.injEq] at h
    subst h
    rw [parenProcessFromFirst_eq]
    have hfe' : fe.length ≤ m := hfe fe rfl
    split
    · cases e1 : procArrow recv fe with
      | ok u r1 =>
        have h1 := (Strict.procArrow recv).ok e1
        dsimp only
        cases e2 : k.bt r1 with
        | ok ret r2 => dsimp only; cases pchar ')' r2 <;> simp
        | err x y => simp
        | out => exact absurd e2 (hk.2.tot r1 (by omega))
      | err x y => simp
      | out => simp
    · simp
  · rw [h k]; simp

theorem parenProcessFromFirst_ple {k k' : Knot} (h : KLe k k') (i : Str) (l : Option ParenList)
    (hne : parenProcessFromFirst k i l ≠ .out) :
    parenProcessFromFirst k' i l = parenProcessFromFirst k i l := by
  rcases parenProcessFromFirst_shape i l with ⟨recv, more, fe, ao, ct, hl⟩ | hl
  · subst hl
    rw [parenProcessFromFirst_eq] at hne ⊢
    rw [parenProcessFromFirst_eq]
    split
    · rename_i hat
      simp only [hat, if_true] at hne
      cases e1 : procArrow recv fe with
      | ok u r1 =>
        rw [e1] at hne
        dsimp only at hne ⊢
        have : k.bt r1 ≠ .out := by intro e; rw [e] at hne; exact hne rfl
        rw [h.2 r1 this]
      | err x y => rfl
      | out => rfl
    · rfl
  · rw [hl k, hl k']

/-- the continuation from the first field, as a function of the result of `parenList` -/
def fromFirst (k : Knot) (i : Str) : Res ParenList → Res Ty
  | .ok l _ => parenProcessFromFirst k i (some l)
  | _ => .err i .verify

theorem parenTypeG_eq_decide (gf : Bool) (k : Knot) (i : Str) :
    parenTypeG gf k i = parenDecide gf i (parenList k i) (fromFirst k i (parenList k i)) := by
  unfold parenTypeG parenDecide
  cases parenList k i <;> rfl

theorem parenTypeG_safe {k : Knot} {m : Nat} (hk : KSafe m k) (gf : Bool) :
    Safe (m + 1) (parenTypeG gf k) where
  sound i := by
    rw [parenTypeG_eq_decide]
    refine parenDecide_within ((parenList_safe hk).1 i) (fun _ _ e _ hf => parenList_firstEnd hk e hf) ?_
    cases e : parenList k i with
    | ok l pos => exact parenProcessFromFirst_within hk.sound fun fe hf => parenList_firstEnd hk e hf
    | err x c => exact List.suffix_refl _
    | out => exact List.suffix_refl _
  tot i hi := by
    rw [parenTypeG_eq_decide]
    refine parenDecide_ne_out ((parenList_safe hk).2 i hi) ?_
    cases e : parenList k i with
    | ok l pos =>
      exact parenProcessFromFirst_tot hk fun fe hf => by have := (parenList_firstEnd hk e hf).length_le; omega
    | err x c => simp [fromFirst]
    | out => simp [fromFirst]

theorem parenTypeG_ple {k k' : Knot} (h : KLe k k') (gf : Bool) :
    PLe (parenTypeG gf k) (parenTypeG gf k') := by
  intro i hne
  rw [parenTypeG_eq_decide] at hne ⊢
  rw [parenTypeG_eq_decide, parenList_ple h i (by intro e; rw [e] at hne; exact hne rfl)]
  refine parenDecide_ple ?_ hne
  cases parenList k i with
  | ok l pos => exact parenProcessFromFirst_ple h i (some l)
  | err x c => exact fun _ => rfl
  | out => exact fun _ => rfl

theorem Knot.stepG_eq (k : Knot) : k.stepG = k.stepOver parenTypeG := rfl

theorem typeDefinitionG_sound {k : Knot} (hk : KSound k) {bt : P Ty} (hb : Sound bt) :
    Sound (typeDefinitionG k bt) :=
  typeDefinitionOver_sound (functionIoTypeOver_safe hk.safe (parenTypeG_safe hk.safe true)).1 hb

/-- what `type_definition` does behind the first intersection member -/
def contTd (bt : P Ty) (first : Ty) : P Ty :=
  bind (pmap (many0 (seq (barOp '&') bt)) fun rest =>
      if rest.isEmpty then first else Ty.inter (first :: rest)) fun f1 =>
    pmap (many0 (seq (barOp '|') (intersectionType bt))) fun rest =>
      if rest.isEmpty then f1 else Ty.union (f1 :: rest)

theorem contTd_nil {bt : P Ty} {first : Ty} {p : Str} (h1 : Fails (barOp '&') p)
    (h2 : Fails (barOp '|') p) : contTd bt first p = .ok first p := by
  unfold contTd
  rw [bind_ok (pmap_ok (many0_of_fails (Fails.seq h1))), pmap_ok (many0_of_fails (Fails.seq h2))]
  simp

theorem contTd_proc {bt : P Ty} {first T : Ty} {p pT : Str} (h : contTd bt first p = .ok T pT)
    (hi : ∀ ts, T ≠ .inter ts) (hu : ∀ ts, T ≠ .union ts) : T = first ∧ pT = p := by
  unfold contTd at h
  obtain ⟨f1, p1, h1, h2⟩ := bind_ok_inv h
  obtain ⟨rest1, h1', hf1⟩ := pmap_ok_inv h1
  obtain ⟨rest2, h2', hT⟩ := pmap_ok_inv h2
  cases rest2 with
  | cons x xs => simp at hT; exact absurd hT (hu _)
  | nil =>
    simp at hT
    have hp2 := many0_nil_rest h2'
    cases rest1 with
    | cons y ys => simp at hf1; rw [hT, hf1] at hi; exact absurd rfl (hi _)
    | nil =>
      simp at hf1
      have hp1 := many0_nil_rest h1'
      exact ⟨by rw [hT, hf1], by rw [hp2, hp1]⟩

theorem base_at (k' : Knot) (u : Str) :
    baseTypeWith k' ('@' :: u) = pmap (opt k'.bt) (fun a => Ty.proc a none) u := by
  unfold baseTypeWith
  rw [alt_of_fails (tupleType_fails_head k' (by simp [headAll, isUpper])),
    alt_of_fails (partialType_fails_head k' (by simp [headAll, isUpper])),
    alt_of_fails (resourceType_fails_head (by simp [headAll])),
    alt_of_fails (typeCycle_fails_head (by simp [headAll]))]
  have hp : processType k' ('@' :: u) = pmap (opt k'.bt) (fun a => Ty.proc a none) u := by
    unfold processType
    rw [alt_of_fails (Fails.delimited (pchar_ne (by decide) _)), seq_ok (pchar_self _ _)]
  unfold alt
  rw [hp]
  unfold pmap opt
  cases k'.bt u <;> rfl

theorem td_at (k' : Knot) (u : Str) :
    typeDefinitionWith k' (baseTypeWith k') ('@' :: u) =
      match k'.bt u with
      | .ok A u1 => contTd (baseTypeWith k') (.proc (some A) none) u1
      | .err _ _ => contTd (baseTypeWith k') (.proc none none) u
      | .out => .out := by
  unfold typeDefinitionWith
  rw [alt_of_fails (functionType_fails_head k' (by simp [headAll]))]
  have hbar : Fails (barOp '|') ('@' :: u) :=
    Fails.seq_ok (a := ()) (wsc_of_head (by simp [headAll, isMultispace])) (Fails.seq (pchar_ne (by decide) _))
  rw [seq_ok (opt_of_fails hbar)]
  unfold intersectionType contTd
  simp only [Parse.bind, base_at, Parse.pmap, Parse.opt]
  cases k'.bt u <;> rfl

/-- the arrow, the return type and the closing parenthesis of a parenthesised process form -/
def procTail (k : Knot) (recv : Option Ty) (p : Str) : Res Ty :=
  match procArrow recv p with
  | .ok _ v =>
    match k.bt v with
    | .ok R v2 =>
      match pchar ')' v2 with
      | .ok _ rest => .ok (.proc recv (some R)) rest
      | .err e c => .err e c
      | .out => .out
    | .err e c => .err e c
    | .out => .out
  | .err e c => .err e c
  | .out => .out

theorem parenProcessFromFirst_procTail (k : Knot) (i : Str) (recv : Option Ty) (more : List Field)
    (fe ao ct : Str) (hat : headIs '@' ao = true) :
    Res.errEq (procTail k recv fe)
      (parenProcessFromFirst k i (some ⟨Field.field none (Ty.proc recv none) :: more, some fe, ao, ct⟩)) := by
  rw [parenProcessFromFirst_eq]
  simp only [hat, if_true]
  unfold procTail
  cases e1 : procArrow recv fe with
  | ok u v =>
    dsimp only
    cases e2 : k.bt v with
    | ok R v2 =>
      dsimp only
      cases e3 : pchar ')' v2 with
      | ok u2 rest => exact Or.inl rfl
      | err x y => exact Or.inr ⟨⟨_, _, rfl⟩, ⟨_, _, rfl⟩⟩
      | out => exact absurd e3 (NoOut.pchar _ _)
    | err x y => exact Or.inr ⟨⟨_, _, rfl⟩, ⟨_, _, rfl⟩⟩
    | out => exact Or.inl rfl
  | err x y => exact Or.inr ⟨⟨_, _, rfl⟩, ⟨_, _, rfl⟩⟩
  | out => exact absurd e1 (NoOut.procArrow _ _)

theorem parenProcessType_some (k : Knot) (u u1 : Str) (A : Ty) (hbt : k.bt u = .ok A u1)
    (hq1 : Fails (seq ws0 (seq (ptag ['-', '>']) ws1)) u) :
    Res.errEq (parenProcessType k ('(' :: '@' :: u)) (procTail k (some A) u1) := by
  have hq1a : Fails (pmap (seq (seq (pchar '@') (seq ws0 (seq (ptag ['-', '>']) ws1))) k.bt)
      fun r => Ty.proc none (some r)) ('@' :: u) :=
    Fails.pmap (Fails.seq (Fails.seq_ok (pchar_self _ _) hq1))
  unfold parenProcessType delimited
  rw [seq_ok (pchar_self _ _)]
  unfold before
  rw [alt_of_fails hq1a, seq_ok (pchar_self _ _), bind_ok hbt]
  unfold procTail
  simp only [procArrow, seq, Parse.bind, Parse.pmap]
  cases e1 : arrow u1 with
  | ok x v =>
    dsimp only
    cases e2 : k.bt v with
    | ok R v2 =>
      dsimp only
      cases e3 : pchar ')' v2 with
      | ok u2 rest => exact Or.inl rfl
      | err x y => exact Or.inl rfl
      | out => exact Or.inl rfl
    | err x y => exact Or.inl rfl
    | out => exact Or.inl rfl
  | err x y => exact Or.inl rfl
  | out => exact Or.inl rfl

theorem parenProcessType_none (k : Knot) (u : Str) (hbt : Fails k.bt u) :
    Res.errEq (parenProcessType k ('(' :: '@' :: u)) (procTail k none u) := by
  have hq1b : Fails (seq (pchar '@')
      (bind k.bt fun a => seq arrow (pmap k.bt fun r => Ty.proc (some a) (some r)))) ('@' :: u) :=
    Fails.seq_ok (pchar_self _ _) (Fails.bind hbt)
  unfold parenProcessType delimited
  rw [seq_ok (pchar_self _ _)]
  unfold before procTail
  -- the first arm decides
  cases e1 : procArrow none u with
  | ok x v =>
    have hpre : seq (pchar '@') (seq ws0 (seq (ptag ['-', '>']) ws1)) ('@' :: u) = .ok () v := by
      rw [seq_ok (pchar_self _ _)]; exact e1
    dsimp only
    cases e2 : k.bt v with
    | ok R v2 =>
      rw [alt_of_ok (pmap_ok (a := R) (r := v2) (by rw [seq_ok hpre]; exact e2))]
      dsimp only
      cases e3 : pchar ')' v2 with
      | ok u2 rest => exact Or.inl rfl
      | err x y => exact Or.inl rfl
      | out => exact Or.inl rfl
    | err x y =>
      have : Fails (pmap (seq (seq (pchar '@') (seq ws0 (seq (ptag ['-', '>']) ws1))) k.bt)
          fun r => Ty.proc none (some r)) ('@' :: u) :=
        Fails.pmap (Fails.seq_ok hpre ⟨x, y, e2⟩)
      rw [alt_of_fails this]
      obtain ⟨a, b, h⟩ := hq1b
      rw [h]; exact Or.inr ⟨⟨_, _, rfl⟩, ⟨_, _, rfl⟩⟩
    | out =>
      have : pmap (seq (seq (pchar '@') (seq ws0 (seq (ptag ['-', '>']) ws1))) k.bt)
          (fun r => Ty.proc none (some r)) ('@' :: u) = .out := by
        simp only [Parse.pmap, seq_ok hpre, e2]
      simp only [alt, this]; exact Or.inl rfl
  | err x y =>
    have : Fails (pmap (seq (seq (pchar '@') (seq ws0 (seq (ptag ['-', '>']) ws1))) k.bt)
        fun r => Ty.proc none (some r)) ('@' :: u) :=
      Fails.pmap (Fails.seq (Fails.seq_ok (pchar_self _ _) ⟨x, y, e1⟩))
    rw [alt_of_fails this]
    obtain ⟨a, b, h⟩ := hq1b
    rw [h]; exact Or.inr ⟨⟨_, _, rfl⟩, ⟨_, _, rfl⟩⟩
  | out => exact absurd e1 (NoOut.procArrow _ _)

theorem sepList0Pos_first {α β : Type} {sep : P β} {p : P α} {x pos : Str} {fs : List α}
    {fe : Option Str} (h : sepList0Pos sep p x = .ok (fs, fe) pos) :
    (∀ a r, p x = .ok a r → ∃ more, fs = a :: more ∧ fe = some r) ∧
    (Fails p x → fs = [] ∧ fe = none) := by
  unfold sepList0Pos at h
  cases e : p x with
  | ok a r =>
    rw [e] at h; dsimp only at h
    cases e2 : sepLoop sep p (r.length + 1) r with
    | ok as r' =>
      rw [e2] at h
      simp only [Res.ok.injEq, Prod.mk.injEq] at h
      refine ⟨fun a' r'' h' => ?_, fun ⟨x1, y1, hf⟩ => (by rw [e] at hf; cases hf)⟩
      simp only [Res.ok.injEq] at h'
      exact ⟨as, by rw [← h.1.1, h'.1], by rw [← h.1.2, h'.2]⟩
    | err a b => rw [e2] at h; simp at h
    | out => rw [e2] at h; simp at h
  | err a b =>
    rw [e] at h
    simp only [Res.ok.injEq, Prod.mk.injEq] at h
    exact ⟨fun a' r' h' => (by cases h'), fun _ => ⟨h.1.1.symm, h.1.2.symm⟩⟩
  | out => rw [e] at h; simp at h

theorem procArrow_dash {recv : Option Ty} {p v : Str} (h : procArrow recv p = .ok () v) :
    ∃ t, p.dropWhile isMultispace = '-' :: t := by
  have hpre : ∀ q w, seq (ptag ['-', '>']) ws1 q = .ok () w → ∃ t, q = '-' :: t := by
    intro q w hq
    obtain ⟨_, r1, h1, _⟩ := seq_ok_inv hq
    unfold ptag at h1
    cases q with
    | nil => simp [isPrefix] at h1
    | cons c t =>
      by_cases hc : c = '-'
      · exact ⟨t, by rw [hc]⟩
      · have hne : ¬ ('-' = c) := fun e => hc e.symm
        simp [isPrefix, hne] at h1
  cases recv with
  | none =>
    simp only [procArrow] at h
    obtain ⟨_, r1, h1, h2⟩ := seq_ok_inv h
    simp only [ws0, Res.ok.injEq] at h1
    rw [← h1.2] at h2
    exact hpre _ _ h2
  | some x =>
    simp only [procArrow, arrow] at h
    obtain ⟨_, r1, h1, h2⟩ := seq_ok_inv h
    unfold ws1 at h1
    cases p with
    | nil => simp at h1
    | cons c r =>
      by_cases hc : isMultispace c = true
      · simp only [hc, if_true, Res.ok.injEq] at h1
        rw [List.dropWhile_cons, if_pos hc, h1.2]
        exact hpre _ _ h2
      · simp [hc] at h1

theorem bar_fails_of_dash {p t : Str} {c : Char} (hc : c ≠ '-')
    (h : p.dropWhile isMultispace = '-' :: t) : Fails (barOp c) p := by
  have hsk : skipWsc false p = '-' :: t := by
    rw [skipWsc_dropWhile, h]; exact skipWsc_of_head (by simp [headAll, isMultispace])
  exact barOp_fails (by rw [hsk]; simpa [headAll] using fun e => hc e.symm)

theorem fieldType_at (k : Knot) (u : Str) :
    fieldType k ('@' :: u) = pmap k.td (fun t => Field.field none t) ('@' :: u) :=
  fieldType_of_head k rfl rfl

/-- What the one-level lemma needs of the knot below: its `base_type` rejects a text that, after
    whitespace, continues with `-` (true of every unfolded knot), and the knot above agrees with it
    wherever it has an answer. -/
structure KRecv (k' : Knot) : Prop where
  dash : ∀ (x t : Str) (A : Ty) (r : Str), x.dropWhile isMultispace = '-' :: t → k'.bt x ≠ .ok A r
  mono : PLe k'.bt k'.step.bt

/-- Behind the partial-type test, the separate alternative `(@t -> t)` / `(@-> t)` and its
    continuation from the first field agree (up to which error is reported). -/
theorem parenProcessFromFirst_errEq {k' : Knot} (hk : KRecv k') {s pos : Str} {l : ParenList}
    (hl : parenList k'.step ('(' :: s) = .ok l pos) :
    Res.errEq (parenProcessType k'.step ('(' :: s))
      (parenProcessFromFirst k'.step ('(' :: s) (some l)) := by
  rw [parenList_cons] at hl
  obtain ⟨r, hr, hl'⟩ := pmap_ok_inv hl
  subst hl'
  have hr' : sepList0Pos commaWsc (fieldType k'.step) (skipWsc false s) = .ok (r.1, r.2) pos := hr
  by_cases hat : headIs '@' s = true
  case neg =>
    -- no `(@`: both fail
    have hold : Fails (parenProcessType k'.step) ('(' :: s) := by
      have hh : headAll (· ≠ '@') s = true := by
        cases s with
        | nil => rfl
        | cons c t => simpa [headAll, headIs] using hat
      unfold parenProcessType delimited
      exact Fails.seq_ok (pchar_self _ _) (Fails.before (Fails.alt
        (Fails.pmap (Fails.seq (Fails.seq (pchar_fails_of_head hh)))) (Fails.seq (pchar_fails_of_head hh))))
    refine Or.inr ⟨hold, ?_⟩
    rcases parenProcessFromFirst_shape ('(' :: s) (some ⟨r.1, r.2, s, skipWsc false s⟩) with
      ⟨recv, more, fe, ao, ct, h⟩ | h
    · simp only [Option.some.injEq, ParenList.mk.injEq] at h
      obtain ⟨h1, h2, h3, h4⟩ := h
      rw [show (⟨r.1, r.2, s, skipWsc false s⟩ : ParenList) =
        ⟨Field.field none (Ty.proc recv none) :: more, some fe, s, skipWsc false s⟩ by rw [h1, h2]]
      rw [parenProcessFromFirst_eq]
      simp only [hat]
      exact ⟨_, _, rfl⟩
    · exact ⟨_, _, h _⟩
  obtain ⟨u, rfl⟩ : ∃ u, s = '@' :: u := by
    cases s with
    | nil => simp [headIs] at hat
    | cons c t => exact ⟨t, by simp [headIs] at hat; rw [hat]⟩
  have hct : skipWsc false ('@' :: u) = '@' :: u := skipWsc_of_head (by simp [headAll, isMultispace])
  rw [hct] at hr'
  have hfirst := sepList0Pos_first hr'
  rw [fieldType_at] at hfirst
  have htd : k'.step.td ('@' :: u) = typeDefinitionWith k' (baseTypeWith k') ('@' :: u) := rfl
  -- whatever `parenProcessFromFirst` sees as first field comes from `type_definition` on `@ u`
  have hnew : ∀ recv (p : Str), k'.step.td ('@' :: u) = contTd (baseTypeWith k') (.proc recv none) p →
      Res.errEq (procTail k'.step recv p)
        (parenProcessFromFirst k'.step ('(' :: '@' :: u) (some ⟨r.1, r.2, '@' :: u, skipWsc false ('@' :: u)⟩)) := by
    intro recv p hRT
    cases ea : procArrow recv p with
    | ok x v =>
      cases x
      obtain ⟨t, hd⟩ := procArrow_dash ea
      have hRT' : k'.step.td ('@' :: u) = .ok (.proc recv none) p := by
        rw [hRT]
        exact contTd_nil (bar_fails_of_dash (by decide) hd) (bar_fails_of_dash (by decide) hd)
      obtain ⟨more, h1, h2⟩ := hfirst.1 _ _ (pmap_ok hRT')
      rw [show (⟨r.1, r.2, '@' :: u, skipWsc false ('@' :: u)⟩ : ParenList) =
        ⟨Field.field none (Ty.proc recv none) :: more, some p, '@' :: u, skipWsc false ('@' :: u)⟩ by
          rw [h1, h2]]
      exact parenProcessFromFirst_procTail _ _ _ _ _ _ _ rfl
    | err x y =>
      have hpt : ∃ e c, procTail k'.step recv p = .err e c := ⟨x, y, by simp [procTail, ea]⟩
      refine Or.inr ⟨hpt, ?_⟩
      rcases parenProcessFromFirst_shape ('(' :: '@' :: u) (some ⟨r.1, r.2, '@' :: u, skipWsc false ('@' :: u)⟩)
        with ⟨recv2, more, fe, ao, ct, h⟩ | h
      · simp only [Option.some.injEq, ParenList.mk.injEq] at h
        obtain ⟨h1, h2, h3, h4⟩ := h
        -- the first field is a bare process type: it is the one `contTd` started from
        have hft : pmap k'.step.td (fun t => Field.field none t) ('@' :: u) =
            .ok (.field none (.proc recv2 none)) fe := by
          cases eft : pmap k'.step.td (fun t => Field.field none t) ('@' :: u) with
          | ok a r0 =>
            obtain ⟨more', h1', h2'⟩ := hfirst.1 a r0 eft
            rw [h1] at h1'; rw [h2] at h2'
            simp only [List.cons.injEq, Option.some.injEq] at h1' h2'
            rw [← h1'.1, ← h2']
          | err a b =>
            have := hfirst.2 ⟨a, b, eft⟩
            rw [h1] at this; simp at this
          | out =>
            unfold sepList0Pos at hr'
            rw [fieldType_at, eft] at hr'; simp at hr'
        obtain ⟨T, hT, hTe⟩ := pmap_ok_inv hft
        simp only [Field.field.injEq, true_and] at hTe
        rw [hRT] at hT
        obtain ⟨hT1, hT2⟩ := contTd_proc hT (by intro ts; rw [← hTe]; simp) (by intro ts; rw [← hTe]; simp)
        rw [← hTe] at hT1
        simp only [Ty.proc.injEq, and_true] at hT1
        rw [show (⟨r.1, r.2, '@' :: u, skipWsc false ('@' :: u)⟩ : ParenList) =
          ⟨Field.field none (Ty.proc recv none) :: more, some p, '@' :: u, skipWsc false ('@' :: u)⟩ by
            rw [h1, h2, hT1, hT2]]
        exact (parenProcessFromFirst_procTail _ _ _ _ _ _ _ rfl).err_right hpt
      · exact ⟨_, _, h _⟩
    | out => exact absurd ea (NoOut.procArrow _ _)
  -- the receive type, read one level below
  cases e0 : k'.bt u with
  | ok A u1 =>
    have hkbt : k'.step.bt u = .ok A u1 := by rw [hk.mono u (by rw [e0]; simp), e0]
    have hpre : Fails (seq ws0 (seq (ptag ['-', '>']) ws1)) u := by
      cases ep : procArrow none u with
      | ok x v =>
        cases x
        obtain ⟨t, hd⟩ := procArrow_dash ep
        exact absurd e0 (hk.dash u t A u1 hd)
      | err x y => exact ⟨x, y, ep⟩
      | out => exact absurd ep (NoOut.procArrow _ _)
    have hRT : k'.step.td ('@' :: u) = contTd (baseTypeWith k') (.proc (some A) none) u1 := by
      rw [htd, td_at, e0]
    exact (parenProcessType_some _ u u1 A hkbt hpre).trans (hnew (some A) u1 hRT)
  | err x y =>
    have hkbt : Fails k'.step.bt u := ⟨x, y, by rw [hk.mono u (by rw [e0]; simp), e0]⟩
    have hRT : k'.step.td ('@' :: u) = contTd (baseTypeWith k') (.proc none none) u := by
      rw [htd, td_at, e0]
    exact (parenProcessType_none _ u hkbt).trans (hnew none u hRT)
  | out =>
    -- then the field list ran out of fuel as well
    unfold sepList0Pos at hr'
    rw [fieldType_at] at hr'
    simp [Parse.pmap, htd, td_at, e0] at hr'

theorem parenAfterPartial_congr {gf : Bool} {i : Str} {l : Option ParenList} {q q' : Res Ty}
    (h : Res.errEq q q') : parenAfterPartial gf i l q = parenAfterPartial gf i l q' := by
  rcases h with h | ⟨⟨a, b, h1⟩, ⟨a', b', h2⟩⟩
  · rw [h]
  · rw [h1, h2]; unfold parenAfterPartial; cases gf <;> rfl

theorem parenTypeG_eq {k' : Knot} (hk : KRecv k') (gf : Bool) :
    parenTypeG gf k'.step = parenType gf k'.step := by
  funext i
  unfold parenTypeG parenType
  cases e : parenList k'.step i with
  | out => rfl
  | err x y =>
    have hq : Fails (parenProcessType k'.step) i := by
      cases i with
      | nil => exact Fails.delimited (pchar_nil _)
      | cons c s =>
        by_cases hc : c = '('
        · subst hc; exact absurd e (parenList_not_err s x y)
        · exact Fails.delimited (pchar_ne hc _)
    obtain ⟨a, b, hq⟩ := hq
    dsimp only
    exact parenAfterPartial_congr (Or.inr ⟨⟨_, _, rfl⟩, ⟨a, b, hq⟩⟩)
  | ok l pos =>
    have hi : ∃ s, i = '(' :: s := by
      cases i with
      | nil => simp [parenList, seq, Parse.bind, pchar] at e
      | cons c s =>
        by_cases hc : c = '('
        · exact ⟨s, by rw [hc]⟩
        · simp [parenList, seq, Parse.bind, pchar, hc] at e
    obtain ⟨s, rfl⟩ := hi
    have hq := (parenProcessFromFirst_errEq hk e).symm
    dsimp only
    cases closeParen pos with
    | ok u rest =>
      dsimp only
      split
      · rfl
      · exact parenAfterPartial_congr hq
    | err x y => exact parenAfterPartial_congr hq
    | out => exact parenAfterPartial_congr hq

/-- one level: `base_type`, `function_input_type` and `type_definition` of this grammar equal those of the
    left-factored grammar -/
theorem stepG_eq_stepF {k' : Knot} (hk : KRecv k') :
    baseTypeG k'.step = baseTypeF k'.step ∧ functionIoTypeG k'.step = functionIoTypeF k'.step ∧
    typeDefinitionG k'.step (baseTypeG k'.step) = typeDefinitionF k'.step (baseTypeF k'.step) := by
  have hb : baseTypeG k'.step = baseTypeF k'.step := by
    unfold baseTypeG baseTypeF; rw [parenTypeG_eq hk]
  have hf : functionIoTypeG k'.step = functionIoTypeF k'.step := by
    unfold functionIoTypeG functionIoTypeF; rw [parenTypeG_eq hk]
  refine ⟨hb, hf, ?_⟩
  unfold typeDefinitionG typeDefinitionF functionTypeG functionTypeF
  rw [hb, hf]

theorem knot_krecv (n : Nat) : KRecv (knot n) where
  dash := by
    intro x t A r hd
    cases n with
    | zero => simp [knot]
    | succ m =>
      have hf : Fails (baseTypeWith (knot m)) x := by
        cases x with
        | nil => simp at hd
        | cons c s =>
          by_cases hc : isMultispace c = true
          · refine base_fails_head (knot m) (i := c :: s) ?_
            simp only [isMultispace, Bool.or_eq_true, decide_eq_true_eq] at hc
            rcases hc with ((rfl | rfl) | rfl) | rfl <;> rfl
          · rw [List.dropWhile_cons, if_neg hc] at hd
            simp only [List.cons.injEq] at hd
            rw [hd.1]; exact base_fails_head (knot m) (i := '-' :: s) rfl
      obtain ⟨a, b, hf⟩ := hf
      show baseTypeWith (knot m) x ≠ _
      rw [hf]; simp
  mono := (knot_mono n).2

theorem parenTypeG_eq_nonparen (gf : Bool) (k : Knot) {i : Str} (hh : headAll (· ≠ '(') i = true) :
    parenTypeG gf k i = parenType gf k i := by
  obtain ⟨a, b, h1⟩ : Fails (parenList k) i := Fails.seq (pchar_fails_of_head hh)
  obtain ⟨c, d, h2⟩ : Fails (parenProcessType k) i := Fails.delimited (pchar_fails_of_head hh)
  unfold parenTypeG parenType
  rw [h1]
  exact parenAfterPartial_congr (Or.inr ⟨⟨_, _, rfl⟩, ⟨c, d, h2⟩⟩)

theorem baseTypeG_nil (k : Knot) : baseTypeG k [] = baseTypeWith k [] := by
  rw [← baseTypeF_eq_nonparen k (i := []) rfl]
  have := parenTypeG_eq_nonparen false k (i := []) rfl
  simp only [baseTypeG, baseTypeF, alt, this]

theorem tdG_nil_eq (k : Knot) :
    typeDefinitionG k (baseTypeG k) [] = typeDefinitionWith k (baseTypeWith k) [] := by
  have hb := baseTypeG_nil k
  obtain ⟨e, c, he⟩ := base_fails_nil k
  simp [typeDefinitionG, typeDefinitionWith, alt, functionTypeG, functionType, seq, Parse.bind,
    pchar, opt, barOp, wsc, skipWsc, intersectionType, hb, he]

/-- With any fuel, on every input within that fuel, the grammar of the code
    (/repo 1d93429; `knotG`: the receive type of a parenthesised process type is read once) and the original
    grammar give the same answer (value, remainder, error position and code). -/
theorem knotG_eq : ∀ n, KEqBelow n (knotG n) (knot n) :=
  knot_eq_of_step (S := Knot.stepG) (fun _ => rfl)
    (fun hk => Knot.stepG_eq _ ▸ hk.stepOver (parenTypeG_safe hk))
    (fun h => by rw [Knot.stepG_eq, Knot.stepG_eq]; exact h.stepOver (parenTypeG_ple h)) fun
    -- `KRecv`, `KHead` speak of an unfolded knot; within fuel 1 there is just the empty input
    | 0 => fun i hi => by
      have : i = [] := List.eq_nil_of_length_eq_zero (by omega)
      subst this
      exact ⟨tdG_nil_eq (knot 0), baseTypeG_nil (knot 0)⟩
    | m + 1 => fun i _ => by
      obtain ⟨hb, _, ht⟩ := stepG_eq_stepF (knot_krecv m)
      exact ⟨(congrFun ht i).trans (congrFun (typeDefinitionF_eq (knot_khead m)) i),
        (congrFun hb i).trans (congrFun (baseTypeF_eq (knot_khead m)) i)⟩

theorem parseTypeG_eq_parseType (i : Str) : parseTypeG i = parseType i :=
  (knotG_eq (i.length + 1) i (Nat.lt_succ_self _)).1

end QM.Parse
