/-
Over `Basic`: the lexical parsers and every grammar function of `Core/Parse/Type.lean`
are `Safe` (results are suffixes of the input; one level above a knot that answers below `m` they
answer below `m + 1`: `knot_safe`, fuel `length + 1` suffices), the type parsers are `Strict` (consume
at least one character), and more fuel never changes an answer (`knot_mono`, `knot_mono_le`). Each
statement about a grammar function is a term that follows its definition. `typeDefinitionOver` is
`type_definition` over given `function_input_type` and `base_type` parsers, which is all the three
grammars of the model differ in at that level.
-/
import QuiverModel.Lemmas.Parse.Basic
namespace QM.Parse

theorem Sound.ws0 : Sound ws0 := fun _ => List.dropWhile_suffix _

theorem Sound.ws1 : Sound ws1 := by
  intro i
  unfold QM.Parse.ws1
  cases i with
  | nil => exact List.suffix_refl _
  | cons c r =>
    by_cases h : isMultispace c = true
    · simp only [h, if_true]
      exact List.IsSuffix.trans (List.dropWhile_suffix _) (List.suffix_cons c r)
    · simp only [h]; exact List.suffix_refl _

theorem Strict.ws1 : Strict ws1 := by
  intro i
  unfold QM.Parse.ws1
  cases i with
  | nil => trivial
  | cons c r =>
    by_cases h : isMultispace c = true
    · simp only [h, if_true]
      show (r.dropWhile isMultispace).length < (c :: r).length
      have := (List.dropWhile_suffix (l := r) isMultispace).length_le
      simp; omega
    · simp only [h]; trivial

/-- by induction on a bound of the length: on `//` `skipWsc` recurses two characters ahead -/
theorem skipWsc_suffix_aux (n : Nat) : ∀ (b : Bool) (i : Str), i.length ≤ n → skipWsc b i <:+ i := by
  induction n with
  | zero =>
    intro b i h
    have : i = [] := List.eq_nil_of_length_eq_zero (by omega)
    subst this; simp [skipWsc]
  | succ n ih =>
    intro b i h
    cases i with
    | nil => simp [skipWsc]
    | cons c r =>
      have hr : r.length ≤ n := by simp at h; omega
      unfold skipWsc
      split
      · split
        · exact List.IsSuffix.trans (ih _ r hr) (List.suffix_cons c r)
        · exact List.IsSuffix.trans (ih _ r hr) (List.suffix_cons c r)
      · split
        · exact List.IsSuffix.trans (ih _ r hr) (List.suffix_cons c r)
        · split
          · rename_i r' _
            have hr' : r'.length ≤ n := by simp at hr; omega
            exact List.IsSuffix.trans (ih _ r' hr')
              (List.IsSuffix.trans (List.suffix_cons '/' r') (List.suffix_cons '/' ('/' :: r')))
          · exact List.suffix_refl _

theorem skipWsc_suffix (b : Bool) (i : Str) : skipWsc b i <:+ i :=
  skipWsc_suffix_aux i.length b i (Nat.le_refl _)

theorem Sound.wsc : Sound wsc := fun i => skipWsc_suffix false i

theorem identifier_ok {i a r : Str} (h : identifier i = .ok a r) : i = a ++ r ∧ a ≠ [] := by
  unfold QM.Parse.identifier at h
  cases i with
  | nil => simp at h
  | cons c t =>
    by_cases hl : isLower c = true
    · simp only [hl, if_true] at h
      have htd : t.takeWhile isIdentBody ++ t.dropWhile isIdentBody = t :=
        List.takeWhile_append_dropWhile
      generalize t.dropWhile isIdentBody = r1 at h htd
      split at h
      · injection h with h1 h2; subst h1 h2
        exact ⟨by simpa using htd.symm, by simp⟩
      · injection h with h1 h2; subst h1 h2
        exact ⟨by simpa using htd.symm, by simp⟩
      · injection h with h1 h2; subst h1 h2
        exact ⟨by simpa using htd.symm, by simp⟩
      · injection h with h1 h2; subst h1 h2
        exact ⟨by simpa using htd.symm, by simp⟩
    · simp [hl] at h

theorem identifier_err {i e : Str} {c : Code} (h : identifier i = .err e c) : e = i := by
  unfold QM.Parse.identifier at h
  cases i with
  | nil => simp at h; exact h.1
  | cons d t =>
    by_cases hl : isLower d = true
    · simp only [hl, if_true] at h
      split at h <;> simp at h
    · simp [hl] at h; exact h.1.symm
theorem Sound.identifier : Sound identifier := by
  intro i
  cases h : QM.Parse.identifier i with
  | ok a r => rw [(identifier_ok h).1]; exact List.suffix_append a r
  | err e c => rw [identifier_err h]; exact List.suffix_refl _
  | out => trivial

theorem Strict.identifier : Strict identifier := by
  intro i
  cases h : QM.Parse.identifier i with
  | ok a r =>
    obtain ⟨h1, h2⟩ := identifier_ok h
    show r.length < i.length
    have : 0 < a.length := List.length_pos_iff.mpr h2
    rw [h1]; simp; omega
  | err e c => trivial
  | out => trivial

theorem Sound.tupleName : Sound tupleName := by
  intro i
  unfold QM.Parse.tupleName
  cases i with
  | nil => exact List.suffix_refl _
  | cons c r =>
    by_cases h : isUpper c = true
    · simp only [h, if_true]
      exact List.IsSuffix.trans (List.dropWhile_suffix _) (List.suffix_cons c r)
    · simp only [h]; exact List.suffix_refl _

theorem Strict.tupleName : Strict tupleName := by
  intro i
  unfold QM.Parse.tupleName
  cases i with
  | nil => trivial
  | cons c r =>
    by_cases h : isUpper c = true
    · simp only [h, if_true]
      show (r.dropWhile isIdentBody).length < (c :: r).length
      have := (List.dropWhile_suffix (l := r) isIdentBody).length_le
      simp; omega
    · simp only [h]; trivial

theorem Sound.usize : Sound usize := by
  intro i
  unfold QM.Parse.usize
  simp only
  split
  · exact List.suffix_refl _
  · split
    · exact List.dropWhile_suffix _
    · exact List.suffix_refl _

theorem NoOut.pchar (c : Char) : NoOut (pchar c) := by
  intro i; unfold QM.Parse.pchar; cases i with
  | nil => simp
  | cons d r => by_cases h : d = c <;> simp [h]
theorem NoOut.ptag (s : Str) : NoOut (ptag s) := by
  intro i; unfold QM.Parse.ptag; by_cases h : isPrefix s i = true <;> simp [h]
theorem NoOut.ws0 : NoOut ws0 := by intro i; simp [QM.Parse.ws0]
theorem NoOut.ws1 : NoOut ws1 := by
  intro i; unfold QM.Parse.ws1; cases i with
  | nil => simp
  | cons c r => by_cases h : isMultispace c = true <;> simp [h]
theorem NoOut.wsc : NoOut wsc := by intro i; simp [QM.Parse.wsc]
theorem NoOut.identifier : NoOut identifier := by
  intro i; unfold QM.Parse.identifier; cases i with
  | nil => simp
  | cons c r =>
    by_cases h : isLower c = true
    · simp only [h, if_true]; split <;> simp
    · simp [h]
theorem NoOut.tupleName : NoOut tupleName := by
  intro i; unfold QM.Parse.tupleName; cases i with
  | nil => simp
  | cons c r => by_cases h : isUpper c = true <;> simp [h]
theorem NoOut.usize : NoOut usize := by
  intro i; unfold QM.Parse.usize; simp only; split
  · simp
  · split <;> simp

theorem Safe.pchar {m : Nat} (c : Char) : Safe m (Parse.pchar c) := .of_noOut (.pchar c) (.pchar c)
theorem Safe.ptag {m : Nat} (s : Str) : Safe m (Parse.ptag s) := .of_noOut (.ptag s) (.ptag s)
theorem Safe.ws0 {m : Nat} : Safe m Parse.ws0 := .of_noOut .ws0 .ws0
theorem Safe.ws1 {m : Nat} : Safe m Parse.ws1 := .of_noOut .ws1 .ws1
theorem Safe.wsc {m : Nat} : Safe m Parse.wsc := .of_noOut .wsc .wsc
theorem Safe.identifier {m : Nat} : Safe m Parse.identifier := .of_noOut .identifier .identifier
theorem Safe.tupleName {m : Nat} : Safe m Parse.tupleName := .of_noOut .tupleName .tupleName
theorem Safe.usize {m : Nat} : Safe m Parse.usize := .of_noOut .usize .usize

theorem Safe.typeName {m : Nat} : Safe m typeName := .seq (.pchar _) .identifier
theorem Safe.importPath {m : Nat} : Safe m importPath := .seq (.pchar _) (.sepList1 (.pchar _) .identifier)
theorem Safe.commaWs0 {m : Nat} : Safe m commaWs0 := .seq .ws0 (.seq (.pchar _) .ws0)
theorem Safe.commaWsc {m : Nat} : Safe m commaWsc := .seq .wsc (.seq (.pchar _) .wsc)
theorem Safe.arrow {m : Nat} : Safe m arrow := .seq .ws1 (.seq (.ptag _) .ws1)
theorem Safe.barOp {m : Nat} (c : Char) : Safe m (barOp c) := .seq .wsc (.seq (.pchar _) .wsc)
theorem Safe.resourceType {m : Nat} : Safe m resourceType := .pmap (.seq (.pchar _) .tupleName)
theorem Safe.typeCycle {m : Nat} : Safe m typeCycle := .seq (.pchar _) (.pmap (.opt .usize))
theorem Safe.typeParameter {m : Nat} : Safe m typeParameter :=
  .pmap (.delimited (.pchar _) .typeName (.pchar _))

theorem Sound.typeName : Sound typeName := (Safe.typeName (m := 0)).1
theorem Sound.importPath : Sound importPath := (Safe.importPath (m := 0)).1
theorem Sound.arrow : Sound arrow := (Safe.arrow (m := 0)).1
theorem Sound.barOp (c : Char) : Sound (barOp c) := (Safe.barOp (m := 0) c).1

theorem Strict.typeName : Strict typeName := .seq_left (.pchar _) .identifier
theorem Strict.commaWs0 : Strict commaWs0 := .seq_right .ws0 (.seq_left (.pchar _) .ws0)
theorem Strict.commaWsc : Strict commaWsc := .seq_right .wsc (.seq_left (.pchar _) .wsc)
theorem Strict.resourceType : Strict resourceType := .pmap (.seq_left (.pchar _) .tupleName)
theorem Strict.typeCycle : Strict typeCycle :=
  .seq_left (.pchar _) (.pmap (.opt .usize))
theorem Strict.typeParameter : Strict typeParameter :=
  .pmap (.delimited (.pchar _) .typeName (.pchar _))

def KSound (k : Knot) : Prop := Sound k.td ∧ Sound k.bt

/-- Both entry points are sound and answer (no `out`) on every input shorter than `m`. -/
def KSafe (m : Nat) (k : Knot) : Prop := Safe m k.td ∧ Safe m k.bt

theorem KSound.safe {k : Knot} (hk : KSound k) : KSafe 0 k := ⟨.of_sound hk.1, .of_sound hk.2⟩
theorem KSafe.sound {k : Knot} {m : Nat} (hk : KSafe m k) : KSound k := ⟨hk.1.sound, hk.2.sound⟩

/-- `type_definition` over given `function_input_type` and `base_type` parsers (the grammars of
    `Core/Parse/Type.lean` differ in nothing else at this level) -/
def typeDefinitionOver (fio bt : P Ty) : P Ty :=
  alt (seq (pchar '#') (bind fio fun a => seq arrow (pmap fio fun b => Ty.func a b)))
    (seq (opt (barOp '|'))
      (bind (intersectionType bt) fun first =>
        pmap (many0 (seq (barOp '|') (intersectionType bt))) fun rest =>
          if rest.isEmpty then first else Ty.union (first :: rest)))

theorem Knot.step_eq (k : Knot) :
    k.step = { td := typeDefinitionOver (functionIoType k) (baseTypeWith k), bt := baseTypeWith k } := rfl

theorem intersectionType_safe {m : Nat} {bt : P Ty} (hb : Safe m bt) : Safe m (intersectionType bt) :=
  .bind hb fun _ => .pmap (.many0 (.seq (.barOp _) hb))

/-- a function type starts with `#`, so `fio` is only called one level down -/
theorem typeDefinitionOver_safe {m : Nat} {fio bt : P Ty} (hf : Safe m fio) (hb : Safe (m + 1) bt) :
    Safe (m + 1) (typeDefinitionOver fio bt) :=
  .alt (.seq_strict (.pchar _) (.pchar _) (.bind hf fun _ => .seq .arrow (.pmap hf)))
    (.seq (.opt (.barOp _)) (.bind (intersectionType_safe hb) fun _ =>
      .pmap (.many0 (.seq (.barOp _) (intersectionType_safe hb)))))

/- Where the level rises: a `_strict` rule (`seq_strict`, `delimited_strict`, `bind_strict`) stands exactly
where a character is consumed in front of a call of `k.td` / `k.bt`, and turns `Safe m` of the knot
into `Safe (m + 1)`; a function that may call the knot at its own position (`fieldType`,
`fieldTypeList`) stays at `m`. -/
section
variable {k : Knot} {m : Nat} (hk : KSafe m k)
include hk

theorem typeArgs_safe : Safe (m + 1) (typeArgs k) :=
  .delimited_strict (.pchar _) (.pchar _) (.sepList1 .commaWs0 hk.1) (.pchar _)

theorem optArgs_safe : Safe (m + 1) (optArgs k) := .pmap (.opt (typeArgs_safe hk))

theorem fieldType_safe : Safe m (fieldType k) :=
  .alt (.seq (.ptag _) (.pmap (.opt (.bind .typeName fun _ => .pmap (.opt (typeArgs_safe hk).weaken)))))
    (.alt (.bind .identifier fun _ => .seq (.pchar _) (.seq .ws1 (.pmap hk.1))) (.pmap hk.1))

theorem fieldTypeList_safe : Safe m (fieldTypeList k) :=
  .before (.sepList0 .commaWsc (fieldType_safe hk)) (.opt (.seq .wsc (.pchar _)))

theorem fieldsIn_safe (o c : Char) : Safe (m + 1) (fieldsIn o c k) :=
  .delimited_strict (.seq_left (.pchar _) .wsc) (.seq (.pchar _) .wsc) (fieldTypeList_safe hk)
    (.seq .wsc (.pchar _))

theorem namedPartialType_safe : Safe (m + 1) (namedPartialType k) :=
  .bind .tupleName fun _ => .pmap (fieldsIn_safe hk _ _)

theorem partialType_safe : Safe (m + 1) (partialType k) :=
  .alt (namedPartialType_safe hk) (.verify (.pmap (fieldsIn_safe hk _ _)))

theorem tupleType_safe : Safe (m + 1) (tupleType k) :=
  .alt (.bind .tupleName fun _ => .pmap (fieldsIn_safe hk _ _))
    (.alt (.verify (.bind .typeName fun _ => .pmap (fieldsIn_safe hk _ _)))
      (.alt (.pmap (fieldsIn_safe hk _ _))
        (.bind .tupleName fun _ => .pmap (.peekNot (.seq .ws0 (.pchar _))))))

theorem selfDefaultType_safe : Safe (m + 1) (selfDefaultType k) :=
  .seq (.pchar _) (.pmap (optArgs_safe hk))

theorem moduleType_safe : Safe (m + 1) (moduleType k) :=
  .seq (.pchar _) (.bind .importPath fun _ =>
    .bind (.opt (.seq (.pchar _) .identifier)) fun _ => .pmap (optArgs_safe hk))

theorem typeIdentifier_safe : Safe (m + 1) (typeIdentifier k) :=
  .bind .typeName fun _ => .pmap (.opt (typeArgs_safe hk))

theorem parenProcessType_safe : Safe (m + 1) (parenProcessType k) :=
  .delimited_strict (.pchar _) (.pchar _)
    (.alt (.pmap (.seq (.seq (.pchar _) (.seq .ws0 (.seq (.ptag _) .ws1))) hk.2))
      (.seq (.pchar _) (.bind hk.2 fun _ => .seq .arrow (.pmap hk.2))))
    (.pchar _)

theorem atProcessType_safe : Safe (m + 1) (atProcessType k) :=
  .seq_strict (.pchar _) (.pchar _) (.pmap (.opt hk.2))

theorem processType_safe : Safe (m + 1) (processType k) :=
  .alt (parenProcessType_safe hk) (atProcessType_safe hk)

theorem groupType_safe : Safe (m + 1) (groupType k) :=
  .delimited_strict (.seq_left (.pchar _) .ws0) (.seq (.pchar _) .ws0) hk.1 (.seq .ws0 (.pchar _))

theorem functionIoType_safe : Safe (m + 1) (functionIoType k) :=
  .alt (partialType_safe hk) (.alt (groupType_safe hk) (.alt (tupleType_safe hk) (.alt .resourceType
    (.alt .typeCycle (.alt (processType_safe hk) (.alt (moduleType_safe hk)
    (.alt (typeIdentifier_safe hk) (selfDefaultType_safe hk))))))))

theorem baseTypeWith_safe : Safe (m + 1) (baseTypeWith k) :=
  .alt (tupleType_safe hk) (.alt (partialType_safe hk) (.alt .resourceType (.alt .typeCycle
    (.alt (processType_safe hk) (.alt .typeParameter (.alt (moduleType_safe hk) (.alt (groupType_safe hk)
    (.alt (typeIdentifier_safe hk) (selfDefaultType_safe hk)))))))))

theorem KSafe.step : KSafe (m + 1) k.step :=
  Knot.step_eq k ▸ ⟨typeDefinitionOver_safe (functionIoType_safe hk).weaken (baseTypeWith_safe hk), baseTypeWith_safe hk⟩
end

/-- **fuel_suffices**, knot form: with fuel `n` the parsers answer on every input shorter than `n`
    (every recursive call of the grammar sits behind a consumed character). -/
theorem knot_safe (n : Nat) : KSafe n (knot n) := by
  induction n with
  | zero => exact KSound.safe ⟨fun _ => trivial, fun _ => trivial⟩
  | succ n ih => exact ih.step

theorem knot_sound (n : Nat) : KSound (knot n) := (knot_safe n).sound

section
variable {k : Knot} (hk : KSound k)
include hk
theorem fieldTypeList_sound : Sound (fieldTypeList k) := (fieldTypeList_safe hk.safe).1
theorem fieldsIn_sound (o c : Char) : Sound (fieldsIn o c k) := (fieldsIn_safe hk.safe o c).1
theorem functionIoType_sound : Sound (functionIoType k) := (functionIoType_safe hk.safe).1
theorem baseTypeWith_sound : Sound (baseTypeWith k) := (baseTypeWith_safe hk.safe).1
end

theorem intersectionType_sound {bt : P Ty} (hb : Sound bt) : Sound (intersectionType bt) :=
  (intersectionType_safe (.of_sound hb)).1

theorem typeDefinitionOver_sound {fio bt : P Ty} (hf : Sound fio) (hb : Sound bt) :
    Sound (typeDefinitionOver fio bt) :=
  .alt (.seq (.pchar _) (.bind hf fun _ => .seq .arrow (.pmap hf)))
    (.seq (.opt (.barOp _)) (.bind (intersectionType_sound hb) fun _ =>
      .pmap (.many0 (.seq (.barOp _) (intersectionType_sound hb)))))

def KStrict (k : Knot) : Prop := Strict k.td ∧ Strict k.bt

section
variable {k : Knot} (hk : KSound k)
include hk

theorem fieldsIn_strict (o c : Char) : Strict (fieldsIn o c k) :=
  .delimited (.seq_left (.pchar _) .wsc) (fieldTypeList_sound hk) (.seq .wsc (.pchar _))

theorem partialType_strict : Strict (partialType k) :=
  .alt (.bind_left .tupleName fun _ => .pmap (fieldsIn_sound hk _ _))
    (.verify (.pmap (fieldsIn_strict hk _ _)))

theorem tupleType_strict : Strict (tupleType k) :=
  .alt (.bind_left .tupleName fun _ => .pmap (fieldsIn_sound hk _ _))
    (.alt (.verify (.bind_left .typeName fun _ => .pmap (fieldsIn_sound hk _ _)))
      (.alt (.pmap (fieldsIn_strict hk _ _)) (.bind_left .tupleName fun _ => .pmap (.peekNot _))))

theorem selfDefaultType_strict : Strict (selfDefaultType k) :=
  .seq_left (.pchar _) (.pmap (optArgs_safe hk.safe).1)

theorem moduleType_strict : Strict (moduleType k) :=
  .seq_left (.pchar _) (.bind Sound.importPath fun _ =>
    .bind (.opt (.seq (.pchar _) .identifier)) fun _ => .pmap (optArgs_safe hk.safe).1)

theorem typeIdentifier_strict : Strict (typeIdentifier k) :=
  .bind_left .typeName fun _ => .pmap (.opt (typeArgs_safe hk.safe).1)

theorem processType_strict : Strict (processType k) :=
  .alt (.delimited (.pchar _)
      (.alt (.pmap (.seq (.seq (.pchar _) (.seq .ws0 (.seq (.ptag _) .ws1))) hk.2))
        (.seq (.pchar _) (.bind hk.2 fun _ => .seq .arrow (.pmap hk.2))))
      (.pchar _))
    (.seq_left (.pchar _) (.pmap (.opt hk.2)))

theorem groupType_strict : Strict (groupType k) :=
  .delimited (.seq_left (.pchar _) .ws0) hk.1 (.seq .ws0 (.pchar _))

theorem functionIoType_strict : Strict (functionIoType k) := by
  unfold functionIoType
  exact Strict.alt (partialType_strict hk) (Strict.alt (groupType_strict hk)
    (Strict.alt (tupleType_strict hk) (Strict.alt Strict.resourceType (Strict.alt Strict.typeCycle
    (Strict.alt (processType_strict hk) (Strict.alt (moduleType_strict hk)
    (Strict.alt (typeIdentifier_strict hk) (selfDefaultType_strict hk))))))))

theorem baseTypeWith_strict : Strict (baseTypeWith k) :=
  .alt (tupleType_strict hk) (.alt (partialType_strict hk) (.alt .resourceType (.alt .typeCycle
    (.alt (processType_strict hk) (.alt .typeParameter (.alt (moduleType_strict hk)
    (.alt (groupType_strict hk) (.alt (typeIdentifier_strict hk) (selfDefaultType_strict hk)))))))))
end

theorem typeDefinitionOver_strict {fio bt : P Ty} (sf : Sound fio) (sb : Sound bt) (hb : Strict bt) :
    Strict (typeDefinitionOver fio bt) :=
  .alt (.seq_left (.pchar _) (.bind sf fun _ => .seq .arrow (.pmap sf)))
    (.seq_right (.opt (.barOp _)) (.bind_left (.bind_left hb fun _ =>
        .pmap (.many0 (.seq (.barOp _) sb)))
      fun _ => .pmap (.many0 (.seq (.barOp _) (intersectionType_sound sb)))))

theorem knot_strict (n : Nat) : KStrict (knot n) := by
  cases n with
  | zero => exact ⟨fun _ => trivial, fun _ => trivial⟩
  | succ n =>
    have hk := knot_sound n
    show KStrict (knot n).step
    exact Knot.step_eq (knot n) ▸ ⟨typeDefinitionOver_strict (functionIoType_sound hk)
      (baseTypeWith_sound hk) (baseTypeWith_strict hk), baseTypeWith_strict hk⟩

theorem PLe.trans {α : Type} {p q r : P α} (h1 : PLe p q) (h2 : PLe q r) : PLe p r :=
  fun i hi => by rw [h2 i (by rw [h1 i hi]; exact hi), h1 i hi]

def KLe (k k' : Knot) : Prop := PLe k.td k'.td ∧ PLe k.bt k'.bt

theorem KLe.refl (k : Knot) : KLe k k := ⟨.refl _, .refl _⟩
theorem KLe.trans {k1 k2 k3 : Knot} (h1 : KLe k1 k2) (h2 : KLe k2 k3) : KLe k1 k3 :=
  ⟨h1.1.trans h2.1, h1.2.trans h2.2⟩

theorem intersectionType_ple {bt bt' : P Ty} (hb : PLe bt bt') :
    PLe (intersectionType bt) (intersectionType bt') :=
  .bind hb fun _ => .pmap (.many0 (.seq (.refl _) hb))

theorem typeDefinitionOver_ple {fio fio' bt bt' : P Ty} (hf : PLe fio fio') (hb : PLe bt bt') :
    PLe (typeDefinitionOver fio bt) (typeDefinitionOver fio' bt') :=
  .alt (.seq (.refl _) (.bind hf fun _ => .seq (.refl _) (.pmap hf)))
    (.seq (.refl _) (.bind (intersectionType_ple hb) fun _ =>
      .pmap (.many0 (.seq (.refl _) (intersectionType_ple hb)))))

section
variable {k k' : Knot} (h : KLe k k')
include h

theorem typeArgs_ple : PLe (typeArgs k) (typeArgs k') :=
  .delimited (.refl _) (.sepList1 (.refl _) h.1) (.refl _)

theorem optArgs_ple : PLe (optArgs k) (optArgs k') := .pmap (.opt (typeArgs_ple h))

theorem fieldType_ple : PLe (fieldType k) (fieldType k') :=
  .alt (.seq (.refl _) (.pmap (.opt (.bind (.refl _) fun _ => .pmap (.opt (typeArgs_ple h))))))
    (.alt (.bind (.refl _) fun _ => .seq (.refl _) (.seq (.refl _) (.pmap h.1))) (.pmap h.1))

theorem fieldsIn_ple (o c : Char) : PLe (fieldsIn o c k) (fieldsIn o c k') :=
  .delimited (.refl _) (.before (.sepList0 (.refl _) (fieldType_ple h)) (.refl _)) (.refl _)

theorem namedPartialType_ple : PLe (namedPartialType k) (namedPartialType k') :=
  .bind (.refl _) fun _ => .pmap (fieldsIn_ple h _ _)

theorem partialType_ple : PLe (partialType k) (partialType k') :=
  .alt (namedPartialType_ple h) (.verify (.pmap (fieldsIn_ple h _ _)))

theorem tupleType_ple : PLe (tupleType k) (tupleType k') :=
  .alt (.bind (.refl _) fun _ => .pmap (fieldsIn_ple h _ _))
    (.alt (.verify (.bind (.refl _) fun _ => .pmap (fieldsIn_ple h _ _)))
      (.alt (.pmap (fieldsIn_ple h _ _)) (.refl _)))

theorem selfDefaultType_ple : PLe (selfDefaultType k) (selfDefaultType k') :=
  .seq (.refl _) (.pmap (optArgs_ple h))

theorem moduleType_ple : PLe (moduleType k) (moduleType k') :=
  .seq (.refl _) (.bind (.refl _) fun _ => .bind (.refl _) fun _ => .pmap (optArgs_ple h))

theorem typeIdentifier_ple : PLe (typeIdentifier k) (typeIdentifier k') :=
  .bind (.refl _) fun _ => .pmap (.opt (typeArgs_ple h))

theorem parenProcessType_ple : PLe (parenProcessType k) (parenProcessType k') :=
  .delimited (.refl _)
    (.alt (.pmap (.seq (.refl _) h.2)) (.seq (.refl _) (.bind h.2 fun _ => .seq (.refl _) (.pmap h.2))))
    (.refl _)

theorem atProcessType_ple : PLe (atProcessType k) (atProcessType k') :=
  .seq (.refl _) (.pmap (.opt h.2))

theorem processType_ple : PLe (processType k) (processType k') :=
  .alt (parenProcessType_ple h) (atProcessType_ple h)

theorem groupType_ple : PLe (groupType k) (groupType k') := .delimited (.refl _) h.1 (.refl _)

theorem functionIoType_ple : PLe (functionIoType k) (functionIoType k') :=
  .alt (partialType_ple h) (.alt (groupType_ple h) (.alt (tupleType_ple h) (.alt (.refl _)
    (.alt (.refl _) (.alt (processType_ple h) (.alt (moduleType_ple h)
    (.alt (typeIdentifier_ple h) (selfDefaultType_ple h))))))))

theorem baseTypeWith_ple : PLe (baseTypeWith k) (baseTypeWith k') :=
  .alt (tupleType_ple h) (.alt (partialType_ple h) (.alt (.refl _) (.alt (.refl _)
    (.alt (processType_ple h) (.alt (.refl _) (.alt (moduleType_ple h) (.alt (groupType_ple h)
    (.alt (typeIdentifier_ple h) (selfDefaultType_ple h)))))))))

theorem KLe.step : KLe k.step k'.step := by
  rw [Knot.step_eq, Knot.step_eq]
  exact ⟨typeDefinitionOver_ple (functionIoType_ple h) (baseTypeWith_ple h), baseTypeWith_ple h⟩
end

theorem knot_mono (n : Nat) : KLe (knot n) (knot (n + 1)) := by
  induction n with
  | zero => exact ⟨fun i h => absurd rfl h, fun i h => absurd rfl h⟩
  | succ n ih => exact ih.step

theorem knot_mono_le {n m : Nat} (h : n ≤ m) : KLe (knot n) (knot m) := by
  induction h with
  | refl => exact .refl _
  | step _ ih => exact ih.trans (knot_mono _)

theorem parseType_of_knot {n : Nat} {i : Str} {t : Ty} {r : Str} (h : (knot n).td i = .ok t r) :
    parseType i = .ok t r := by
  have hne : (knot n).td i ≠ .out := by rw [h]; simp
  have h1 := (knot_mono_le (Nat.le_max_left n (i.length + 1))).1 i hne
  have h0 : (knot (i.length + 1)).td i ≠ .out := (knot_safe _).1.tot i (Nat.lt_succ_self _)
  have h2 := (knot_mono_le (Nat.le_max_right n (i.length + 1))).1 i h0
  unfold parseType typeDefinition
  rw [← h2, h1, h]

end QM.Parse
