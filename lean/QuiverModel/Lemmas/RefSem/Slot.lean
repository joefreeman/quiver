import QuiverModel.Core.RefSem.Compile1
/-
The slot a name resolves to (`slot`, Core/RefSem/Compile1.lean): it lies inside the context, and in an extended context
the innermost binding wins.
-/
namespace QM.RefSem.C1

theorem slot_lt : (Γ : List String) → (x : String) → (i : Nat) → slot Γ x = some i → i < Γ.length
  | [], _, _, h => nomatch h
  | y :: r, x, i, h => by
    simp only [slot] at h
    split at h
    · rename_i j hj
      cases h
      exact Nat.succ_lt_succ (slot_lt r x j hj)
    · split at h
      · cases h
        exact Nat.succ_pos _
      · cases h

/-- the innermost binding wins: a name bound among the appended names resolves there -/
theorem slot_append_eq : (Γ names : List String) → (x : String) →
    slot (Γ ++ names) x = (slot names x).elim (slot Γ x) fun j => some (Γ.length + j)
  | [], names, x => by
    simp only [List.nil_append, List.length_nil, Nat.zero_add]
    cases slot names x <;> rfl
  | y :: r, names, x => by
    simp only [List.cons_append, slot, slot_append_eq r names x]
    cases slot names x with
    | some j => simp only [Option.elim, List.length_cons]; congr 1; omega
    | none => rfl

theorem slot_append (Γ names : List String) (x : String) (i : Nat) (h : slot (Γ ++ names) x = some i) :
    (slot names x = none ∧ slot Γ x = some i) ∨ (Γ.length ≤ i ∧ slot names x = some (i - Γ.length)) := by
  rw [slot_append_eq] at h
  cases hn : slot names x with
  | none => exact Or.inl ⟨rfl, by simpa only [hn, Option.elim] using h⟩
  | some j =>
    simp only [hn, Option.elim, Option.some.injEq] at h
    subst h
    exact Or.inr ⟨Nat.le_add_right _ _, by rw [Nat.add_sub_cancel_left]⟩

theorem slot_append_self (Γ : List String) (x : String) : slot (Γ ++ [x]) x = some Γ.length := by
  simp [slot_append_eq, slot]

theorem slot_append_ne (Γ : List String) (x y : String) (h : y ≠ x) : slot (Γ ++ [x]) y = slot Γ y := by
  simp [slot_append_eq, slot, h]

end QM.RefSem.C1
