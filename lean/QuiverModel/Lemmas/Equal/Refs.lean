import QuiverModel.Core.Equal.Basic
/-
Lemmas about `create_ref` (for C13): the minted word as a number, injectivity within the
2^48 guard, the multi-worker minting invariant.
-/
namespace QM.Equal
open QM QM.VM

/-- The minted word is the bitwise OR on naturals (no truncation: the shifted worker id is below
`2^64`). -/
theorem mintRef_toNat_or (w : UInt16) (c : UInt64) :
    (mintRef w c).toNat = (w.toNat * 2 ^ 48) ||| c.toNat := by
  unfold mintRef
  rw [UInt64.toNat_or, UInt64.toNat_shiftLeft]
  have hw : w.toNat < 2 ^ 16 := w.toNat_lt
  simp only [UInt16.toNat_toUInt64]
  have h48 : (48 : UInt64).toNat % 64 = 48 := by decide
  rw [h48, Nat.shiftLeft_eq]
  have : w.toNat * 2 ^ 48 < 2 ^ 64 := by omega
  rw [Nat.mod_eq_of_lt this]

/-- Within the guard the OR is an addition: the counter stays below the worker field. -/
theorem mintRef_toNat (w : UInt16) (c : UInt64) (hc : c.toNat < 2 ^ 48) :
    (mintRef w c).toNat = w.toNat * 2 ^ 48 + c.toNat := by
  rw [mintRef_toNat_or, ← Nat.shiftLeft_eq, ← Nat.shiftLeft_add_eq_or_of_lt hc, Nat.shiftLeft_eq]

theorem mintRef_decode (w : UInt16) (c : UInt64) (hc : c.toNat < 2 ^ 48) :
    (mintRef w c).toNat / 2 ^ 48 = w.toNat ∧ (mintRef w c).toNat % 2 ^ 48 = c.toNat := by
  rw [mintRef_toNat w c hc, Nat.mul_comm]
  exact ⟨by rw [Nat.mul_add_div (by decide), Nat.div_eq_of_lt hc, Nat.add_zero],
    by rw [Nat.mul_add_mod, Nat.mod_eq_of_lt hc]⟩

theorem mintRef_injective (w₁ w₂ : UInt16) (c₁ c₂ : UInt64)
    (h₁ : c₁.toNat < 2 ^ 48) (h₂ : c₂.toNat < 2 ^ 48) (h : mintRef w₁ c₁ = mintRef w₂ c₂) :
    w₁ = w₂ ∧ c₁ = c₂ := by
  have d₁ := mintRef_decode w₁ c₁ h₁
  have d₂ := mintRef_decode w₂ c₂ h₂
  rw [h] at d₁
  exact ⟨UInt16.toNat_inj.1 (d₁.1.symm.trans d₂.1), UInt64.toNat_inj.1 (d₁.2.symm.trans d₂.2)⟩

/-- Beyond the guard the counter spills into the worker field: worker 0's `2^48`-th ref *is*
worker 1's first ref. -/
theorem mintRef_collision_beyond_guard : mintRef 0 (2 ^ 48) = mintRef 1 0 := by decide

/-- Invariant of the minting system with `n` workers. `bound`: a counter is at most the number of
mints so far, so a total below `2^48` keeps every counter inside the guard; `shape`: a recorded ref
was minted by its worker from a counter below the present one. -/
structure MintInv (n : Nat) (s : MintState) : Prop where
  len : s.counters.length = n
  bound : ∀ (w : Nat) (c : UInt64), s.counters[w]? = some c → c.toNat ≤ s.minted.length
  shape : ∀ w r, (w, r) ∈ s.minted →
    ∃ c k : UInt64, s.counters[w]? = some c ∧ k.toNat < c.toNat ∧ r = mintRef (UInt16.ofNat w) k
  nodup : (s.minted.map Prod.snd).Nodup

theorem MintInv.init (n : Nat) : MintInv n (MintState.init n) := by
  refine ⟨by simp [MintState.init], ?_, ?_, ?_⟩
  · intro w c h
    simp [MintState.init, List.getElem?_replicate] at h
    simp [← h.2]
  · intro w r h; simp [MintState.init] at h
  · simp [MintState.init]

theorem mint_eq_some {s s' : MintState} {w : Nat} (h : s.mint w = some s') :
    ∃ c, s.counters[w]? = some c ∧ c ≠ 0xFFFFFFFFFFFFFFFF ∧
      s' = ⟨s.counters.set w (c + 1), (w, mintRef (UInt16.ofNat w) c) :: s.minted⟩ := by
  unfold MintState.mint createRef at h
  split at h
  · cases h
  · rename_i c hc
    refine ⟨c, hc, ?_⟩
    by_cases hne : c = 0xFFFFFFFFFFFFFFFF
    · rw [if_pos hne] at h; cases h
    · rw [if_neg hne] at h; exact ⟨hne, (Option.some.inj h).symm⟩

theorem MintInv.step (n : Nat) (hn : n ≤ 65536) (s s' : MintState) (w : Nat)
    (inv : MintInv n s) (hroom : s.minted.length < 2 ^ 48) (h : s.mint w = some s') :
    MintInv n s' ∧ s'.minted.length = s.minted.length + 1 := by
  obtain ⟨c, hc, hne, rfl⟩ := mint_eq_some h
  have hwlt : w < n := inv.len ▸ (List.getElem?_eq_some_iff.1 hc).1
  have hc48 : c.toNat < 2 ^ 48 := Nat.lt_of_le_of_lt (inv.bound w c hc) hroom
  have hsucc : (c + 1).toNat = c.toNat + 1 := by
    rw [UInt64.toNat_add, show (1 : UInt64).toNat = 1 from rfl]
    exact Nat.mod_eq_of_lt (Nat.lt_of_le_of_lt hc48 (by decide))
  have hset : (s.counters.set w (c + 1))[w]? = some (c + 1) :=
    List.getElem?_set_self (inv.len ▸ hwlt)
  refine ⟨⟨by rw [List.length_set, inv.len], ?_, ?_, ?_⟩, rfl⟩
  · intro w' c' h'
    rw [List.length_cons]
    by_cases e : w' = w
    · rw [e, hset] at h'
      rw [← Option.some.inj h', hsucc]
      exact Nat.succ_le_succ (inv.bound w c hc)
    · rw [List.getElem?_set_ne (Ne.symm e)] at h'
      exact Nat.le_succ_of_le (inv.bound w' c' h')
  · intro w' r h'
    rcases List.mem_cons.1 h' with e | h'
    · cases e
      exact ⟨c + 1, c, hset, by rw [hsucc]; exact Nat.lt_succ_self _, rfl⟩
    · obtain ⟨c', k, hc', hk, hr⟩ := inv.shape w' r h'
      by_cases e : w' = w
      · subst e
        cases hc.symm.trans hc'
        exact ⟨c + 1, k, hset, by rw [hsucc]; exact Nat.lt_succ_of_lt hk, hr⟩
      · exact ⟨c', k, by rw [List.getElem?_set_ne (Ne.symm e)]; exact hc', hk, hr⟩
  · -- a ref already minted with the same word would come from the same worker and counter,
    -- but recorded counters are below the current one
    rw [List.map_cons, List.nodup_cons]
    refine ⟨fun hmem => ?_, inv.nodup⟩
    obtain ⟨⟨w', r⟩, hm, rfl⟩ := List.mem_map.1 hmem
    obtain ⟨c', k, hc', hk, hr⟩ := inv.shape w' _ hm
    have hw'lt : w' < n := inv.len ▸ (List.getElem?_eq_some_iff.1 hc').1
    have hk48 : k.toNat < 2 ^ 48 := Nat.lt_trans hk (Nat.lt_of_le_of_lt (inv.bound w' c' hc') hroom)
    obtain ⟨hw, rfl⟩ := mintRef_injective _ _ _ _ hk48 hc48 hr.symm
    have hww : w' = w := by
      have h1 := congrArg UInt16.toNat hw
      rwa [UInt16.toNat_ofNat', UInt16.toNat_ofNat', Nat.mod_eq_of_lt (by omega), Nat.mod_eq_of_lt (by omega)] at h1
    subst hww
    cases hc.symm.trans hc'
    exact Nat.lt_irrefl _ hk

theorem MintInv.run (n : Nat) (hn : n ≤ 65536) : ∀ (ws : List Nat) (s s' : MintState),
    MintInv n s → s.minted.length + ws.length ≤ 2 ^ 48 → s.run ws = some s' → MintInv n s'
  | [], s, s', inv, _, h => by simp [MintState.run] at h; subst h; exact inv
  | w :: ws, s, s', inv, hb, h => by
    simp only [MintState.run] at h
    cases hm : s.mint w with
    | none => simp [hm] at h
    | some s1 =>
      simp only [hm] at h
      simp only [List.length_cons] at hb
      obtain ⟨inv1, hl1⟩ := MintInv.step n hn s s1 w inv (by omega) hm
      exact MintInv.run n hn ws s1 s' inv1 (by omega) h

end QM.Equal
