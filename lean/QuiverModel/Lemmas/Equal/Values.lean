import QuiverModel.Lemmas.Equal.Canon
/-
Lemmas about `values_equal` (for C13): the binary arm, canonical ids in a coherent context,
the mutual induction `valuesEqual ↔ erase =`.

The `Rope` here (Core/Equal/Basic.lean: `len`, `toVec`, invariant `LenOK`) carries only what
`values_equal` reads of a `BinaryData`. `QM.Bytes.Rope` (Core/Bytes.lean, lemmas in Lemmas/Bytes) models
the same Rust type with its constructors and `usize` arithmetic (invariant `WF`, content `bytes`) for
C12. No theorem relates the two.
-/
namespace QM.Equal
open QM QM.VM

theorem Rope.len_eq : ∀ r : Rope, r.LenOK → r.len = r.toVec.length
  | .owned _, _ => rfl
  | .zeroed _, _ => by simp [Rope.len, Rope.toVec]
  | .slice p off l, h => by
    have ih := Rope.len_eq p h.1
    have hb := h.2
    simp only [Rope.len, Rope.toVec, List.length_take, List.length_drop]
    omega
  | .concat l r t, h => by
    have i1 := Rope.len_eq l h.1
    have i2 := Rope.len_eq r h.2.1
    simp only [Rope.len, Rope.toVec, List.length_append, h.2.2, i1, i2]
  | .tiled u c, h => by
    have ih := Rope.len_eq u h.1
    have hb := h.2
    simp only [Rope.len, Rope.toVec, List.length_flatten, List.map_replicate, List.sum_replicate_nat]
    rw [Nat.min_eq_left hb, ih, Nat.mul_comm]

theorem Rope.lenOKB_iff : ∀ r : Rope, r.lenOKB = true ↔ r.LenOK
  | .owned _ => by simp [Rope.lenOKB, Rope.LenOK]
  | .zeroed _ => by simp [Rope.lenOKB, Rope.LenOK]
  | .slice p _ _ => by simp [Rope.lenOKB, Rope.LenOK, Rope.lenOKB_iff p]
  | .concat l r _ => by simp [Rope.lenOKB, Rope.LenOK, Rope.lenOKB_iff l, Rope.lenOKB_iff r, and_assoc]
  | .tiled u _ => by simp [Rope.lenOKB, Rope.LenOK, Rope.lenOKB_iff u]

/-! The smart constructors preserve the invariant and have the expected bytes: every rope the
builtins can allocate (`binary_concat`, `binary_slice`, `binary_repeat`, `binary_new`, literals)
satisfies `LenOK`, so `Ctx.Coherent`'s heap clause is an invariant of the allocation API. -/

theorem Rope.mkConcat_ok (l r : Rope) (hl : l.LenOK) (hr : r.LenOK) :
    (Rope.mkConcat l r).LenOK ∧ (Rope.mkConcat l r).toVec = l.toVec ++ r.toVec :=
  ⟨⟨hl, hr, rfl⟩, rfl⟩

theorem Rope.mkSlice_ok (p : Rope) (off l : Nat) (hp : p.LenOK) (r : Rope)
    (h : Rope.mkSlice p off l = some r) :
    r.LenOK ∧ r.toVec = (p.toVec.drop off).take l := by
  unfold Rope.mkSlice at h
  have hlen := Rope.len_eq p hp
  split at h
  · cases h
  · rename_i hb
    split at h
    · cases h; rename_i hz; subst hz; simp [Rope.LenOK, Rope.toVec]
    · split at h
      · cases h; rename_i hf
        refine ⟨hp, ?_⟩
        rw [hf.1, hf.2, hlen]; simp
      · cases h
        refine ⟨⟨hp, by omega⟩, rfl⟩

theorem Rope.mkTiled_ok (u : Rope) (c : Nat) (hu : u.LenOK)
    (hsize : (Rope.mkTiled u c).len ≤ maxBinarySize) :
    (Rope.mkTiled u c).LenOK ∧ (Rope.mkTiled u c).toVec = (List.replicate c u.toVec).flatten := by
  have hlen := Rope.len_eq u hu
  unfold Rope.mkTiled at hsize ⊢
  split
  · rename_i h
    refine ⟨trivial, ?_⟩
    rcases h with rfl | h0
    · simp [Rope.toVec]
    · have : u.toVec = [] := List.eq_nil_of_length_eq_zero (by omega)
      simp [Rope.toVec, this]
  · split
    · rename_i h1; subst h1
      exact ⟨hu, by simp⟩
    · rename_i h0 h1
      rw [if_neg h0, if_neg h1] at hsize
      refine ⟨⟨hu, ?_⟩, rfl⟩
      simp only [Rope.len] at hsize
      have hmax : maxBinarySize < usizeMax := by decide
      by_cases hle : u.len * c ≤ usizeMax
      · exact hle
      · rw [Nat.min_eq_right (by omega)] at hsize; omega

/-- What `update_program` and the allocation discipline establish: the canonical table is the one
`compute_canonical_tuples` produces for the tuple table, and every heap rope stores its true length. -/
def Ctx.Coherent (X : Ctx) : Prop :=
  X.canon = canonicalTuples X.tuples ∧ ∀ r ∈ X.heap, r.LenOK

theorem Ctx.ofProgram_coherent (ts cs hp) (h : ∀ r ∈ hp, Rope.LenOK r) : (Ctx.ofProgram ts cs hp).Coherent :=
  ⟨rfl, h⟩

/-- **Binary equality does not depend on the rope shape**: all four sub-arms compute "both handles
resolve and the flattened bytes agree" — for the heap/heap arm this needs the length invariant
(the `len()` fast path answers `false` as soon as the *stored* lengths differ). -/
theorem binEqual_eq (X : Ctx) (hH : ∀ r ∈ X.heap, r.LenOK) (a b : Bin) :
    binEqual X a b = (match X.bytesOf a, X.bytesOf b with
      | some x, some y => x == y
      | _, _ => false) := by
  cases a <;> cases b <;> simp only [binEqual, Ctx.bytesOf]
  · rfl
  · rfl
  · cases X.constBytes _ <;> cases X.heapBytes _ <;> simp
    rw [Bool.eq_iff_iff]; simp only [beq_iff_eq]; exact eq_comm
  · rename_i ia ib
    simp only [Ctx.heapBytes]
    cases ha : X.heap[ia]? with
    | none => simp
    | some ra =>
      cases hb : X.heap[ib]? with
      | none => simp
      | some rb =>
        have la := Rope.len_eq ra (hH ra (List.mem_of_getElem? ha))
        have lb := Rope.len_eq rb (hH rb (List.mem_of_getElem? hb))
        simp only [Option.map_some]
        by_cases hl : ra.len = rb.len
        · simp [hl]
        · have : ra.toVec ≠ rb.toVec := by
            intro e; apply hl; rw [la, lb, e]
          simp [hl, this]

/-- Without the invariant the verdict *does* depend on the shape: a `Concat` node that stores a
wrong total is unequal to the flat binary with the same bytes. -/
theorem binEqual_needs_LenOK :
    let X : Ctx := { tuples := [], canon := [], consts := [],
                     heap := [.concat (.owned [1]) (.owned [2]) 3, .owned [1, 2]] }
    binEqual X (.heap 0) (.heap 1) = false ∧ X.heapBytes 0 = X.heapBytes 1 := by
  decide

theorem canonOf_eq_iff (X : Ctx) (hX : X.Coherent) (i j : Nat) (ti tj : TupleInfo)
    (hi : X.tuples[i]? = some ti) (hj : X.tuples[j]? = some tj) :
    X.canonOf i = X.canonOf j ↔ ti.name = tj.name ∧ ti.labels = tj.labels := by
  obtain ⟨hi', rfl⟩ := List.getElem?_eq_some_iff.1 hi
  obtain ⟨hj', rfl⟩ := List.getElem?_eq_some_iff.1 hj
  have := canon_spec X.tuples i j hi' hj'
  rw [← this]
  unfold Ctx.canonOf
  rw [hX.1]
  simp [canonicalTuples_length, hi', hj']

theorem eraseList_length_eq (X : Ctx) : ∀ (as bs : ValList), eraseList X as = eraseList X bs → as.length = bs.length
  | .nil, .nil, _ => rfl
  | .nil, .cons _ _, h => by simp [eraseList] at h
  | .cons _ _, .nil, h => by simp [eraseList] at h
  | .cons a as, .cons b bs, h => by
    simp only [eraseList, SVList.cons.injEq] at h
    have := eraseList_length_eq X as bs h.2
    simp [ValList.length] at this ⊢
    exact this

theorem erase_bin_of_isSome (X : Ctx) (b : Bin) (h : (X.bytesOf b).isSome) :
    ∃ bs, X.bytesOf b = some bs ∧ erase X (.bin b) = .bin bs := by
  cases hb : X.bytesOf b with
  | none => simp [hb] at h
  | some bs => exact ⟨bs, rfl, by simp [erase, hb]⟩

theorem erase_tup_of_some (X : Ctx) (id : Nat) (fs : ValList) (t : TupleInfo) (h : X.tuples[id]? = some t) :
    erase X (.tup id fs) = .tup t.name t.labels (eraseList X fs) := by
  simp [erase, h]

@[simp] theorem erase_int (X : Ctx) (z : Int) : erase X (.int z) = .int z := by simp [erase]
@[simp] theorem erase_ref (X : Ctx) (r : Nat) : erase X (.ref r) = .ref r := by simp [erase]
@[simp] theorem erase_fn (X : Ctx) (i : Nat) (cs : ValList) : erase X (.fn i cs) = .fn i (eraseList X cs) := by
  simp [erase]
@[simp] theorem erase_builtin (X : Ctx) (i : Nat) : erase X (.builtin i) = .builtin i := by simp [erase]
@[simp] theorem erase_proc (X : Ctx) (p f : Nat) : erase X (.proc p f) = .proc p := by simp [erase]
@[simp] theorem erase_res (X : Ctx) (r t : Nat) : erase X (.res r t) = .res r := by simp [erase]

theorem valuesEqual_ctorIdx {X : Ctx} {a b : Val} (h : valuesEqual X a b = true) : a.ctorIdx = b.ctorIdx := by
  revert h
  fun_cases valuesEqual X a b <;> intro h <;> first | rfl | cases h

/-- a well-formed value is never erased to `SV.bad`: the erasure keeps the variant -/
theorem erase_ctorIdx {X : Ctx} {pf : Nat → Nat} {a : Val} (h : WF X pf a) : (erase X a).ctorIdx = a.ctorIdx := by
  cases a with
  | bin b => obtain ⟨bs, _, e⟩ := erase_bin_of_isSome X b h; rw [e]; rfl
  | tup id fs => obtain ⟨⟨t, ht, _⟩, _⟩ := h; rw [erase_tup_of_some X id fs t ht]; rfl
  | _ => rfl

theorem iff_erase_of_ctorIdx_ne {X : Ctx} {pf : Nat → Nat} {a b : Val} (ha : WF X pf a) (hb : WF X pf b)
    (h : (a.ctorIdx == b.ctorIdx) = false) : valuesEqual X a b = true ↔ erase X a = erase X b :=
  ⟨fun e => absurd (valuesEqual_ctorIdx e) (ne_of_beq_false h),
   fun e => absurd (by rw [← erase_ctorIdx ha, ← erase_ctorIdx hb, e]) (ne_of_beq_false h)⟩

/- Two values of different variants are unequal on both sides (`iff_erase_of_ctorIdx_ne`); for the
same variant both sides are unfolded. The list statement carries `as.length = bs.length`, which
`values_equal` tests apart, because the zip stops at the shorter list. -/
mutual
theorem valuesEqual_iff_erase_aux (X : Ctx) (hX : X.Coherent) (pf : Nat → Nat) :
    ∀ (a b : Val), WF X pf a → WF X pf b → (valuesEqual X a b = true ↔ erase X a = erase X b)
  | .int x, b, ha, hb => by
    cases b with
    | int y => simp [valuesEqual]
    | _ => exact iff_erase_of_ctorIdx_ne ha hb rfl
  | .bin x, b, ha, hb => by
    cases b with
    | bin y =>
      obtain ⟨as, hxa, ea⟩ := erase_bin_of_isSome X _ ha
      obtain ⟨bs, hxb, eb⟩ := erase_bin_of_isSome X _ hb
      simp [valuesEqual, binEqual_eq X hX.2, hxa, hxb, ea, eb]
    | _ => exact iff_erase_of_ctorIdx_ne ha hb rfl
  | .ref x, b, ha, hb => by
    cases b with
    | ref y => simp [valuesEqual]
    | _ => exact iff_erase_of_ctorIdx_ne ha hb rfl
  | .tup ta ea, b, ha, hb => by
    cases b with
    | tup tb eb =>
      obtain ⟨⟨t1, ht1, -⟩, hwa⟩ := ha
      obtain ⟨⟨t2, ht2, -⟩, hwb⟩ := hb
      have hz := zipAllEqual_iff_eraseList_aux X hX pf ea eb hwa hwb
      have hc := canonOf_eq_iff X hX ta tb t1 t2 ht1 ht2
      simp only [valuesEqual, erase_tup_of_some X ta ea t1 ht1, erase_tup_of_some X tb eb t2 ht2, SV.tup.injEq,
        Bool.and_eq_true, beq_iff_eq, hc, ← hz, and_assoc]
    | _ => exact iff_erase_of_ctorIdx_ne ha hb rfl
  | .fn ia ca, b, ha, hb => by
    cases b with
    | fn ib cb =>
      have hz := zipAllEqual_iff_eraseList_aux X hX pf ca cb ha hb
      simp only [valuesEqual, erase_fn, SV.fn.injEq, Bool.and_eq_true, beq_iff_eq, ← hz]
    | _ => exact iff_erase_of_ctorIdx_ne ha hb rfl
  | .builtin x, b, ha, hb => by
    cases b with
    | builtin y => simp [valuesEqual]
    | _ => exact iff_erase_of_ctorIdx_ne ha hb rfl
  | .proc p f, b, ha, hb => by
    cases b with
    | proc q g =>
      -- both function indices are `pf` of the process id, so they agree as soon as the ids do
      simp only [WF] at ha hb
      simp only [valuesEqual, erase_proc, SV.proc.injEq, Bool.and_eq_true, beq_iff_eq, ha, hb]
      exact ⟨fun h => h.1, fun h => ⟨h, by rw [h]⟩⟩
    | _ => exact iff_erase_of_ctorIdx_ne ha hb rfl
  | .res r t, b, ha, hb => by
    cases b with
    | res r' t' => simp [valuesEqual]
    | _ => exact iff_erase_of_ctorIdx_ne ha hb rfl
theorem zipAllEqual_iff_eraseList_aux (X : Ctx) (hX : X.Coherent) (pf : Nat → Nat) :
    ∀ (as bs : ValList), WFList X pf as → WFList X pf bs →
      ((as.length = bs.length ∧ zipAllEqual X as bs = true) ↔ eraseList X as = eraseList X bs)
  | .nil, .nil, _, _ => by simp [zipAllEqual, eraseList]
  | .nil, .cons _ _, _, _ => by simp [eraseList, ValList.length]
  | .cons _ _, .nil, _, _ => by simp [eraseList, ValList.length]
  | .cons a as, .cons b bs, ha, hb => by
    simp only [WFList] at ha hb
    have h1 := valuesEqual_iff_erase_aux X hX pf a b ha.1 hb.1
    have h2 := zipAllEqual_iff_eraseList_aux X hX pf as bs ha.2 hb.2
    simp only [zipAllEqual, eraseList, SVList.cons.injEq, Bool.and_eq_true, ← h1, ← h2]
    simp [ValList.length]
    constructor <;> rintro ⟨h1, h2, h3⟩ <;> exact ⟨h2, h1, h3⟩
end

mutual
/-- Every process handle inside the value carries the function index `pf pid`. -/
def ProcOK (pf : Nat → Nat) : Val → Prop
  | .proc pid f => f = pf pid
  | .tup _ fs => ProcOKList pf fs
  | .fn _ caps => ProcOKList pf caps
  | _ => True
def ProcOKList (pf : Nat → Nat) : ValList → Prop
  | .nil => True
  | .cons v vs => ProcOK pf v ∧ ProcOKList pf vs
end

mutual
/-- `WF` is the decidable check the driver evaluates (`wfB`) plus coherence of process handles. -/
theorem WF_iff_wfB (X : Ctx) (pf : Nat → Nat) : ∀ a : Val, WF X pf a ↔ (wfB X a = true ∧ ProcOK pf a)
  | .int _ => by simp [WF, wfB, ProcOK]
  | .bin _ => by simp [WF, wfB, ProcOK]
  | .ref _ => by simp [WF, wfB, ProcOK]
  | .builtin _ => by simp [WF, wfB, ProcOK]
  | .proc _ _ => by simp [WF, wfB, ProcOK]
  | .res _ _ => by simp [WF, wfB, ProcOK]
  | .fn _ caps => by
    have := WFList_iff_wfListB X pf caps
    simp [WF, wfB, ProcOK, this]
  | .tup id fs => by
    have := WFList_iff_wfListB X pf fs
    simp only [WF, wfB, ProcOK, this, Bool.and_eq_true]
    cases h : X.tuples[id]? with
    | none => simp
    | some t => simp [ValList.length]; constructor <;> (intro h; simp_all)
theorem WFList_iff_wfListB (X : Ctx) (pf : Nat → Nat) :
    ∀ l : ValList, WFList X pf l ↔ (wfListB X l = true ∧ ProcOKList pf l)
  | .nil => by simp [WFList, wfListB, ProcOKList]
  | .cons v vs => by
    have h1 := WF_iff_wfB X pf v
    have h2 := WFList_iff_wfListB X pf vs
    simp only [WFList, wfListB, ProcOKList, h1, h2, Bool.and_eq_true]
    constructor
    · rintro ⟨⟨a, b⟩, c, d⟩; exact ⟨⟨a, c⟩, b, d⟩
    · rintro ⟨⟨a, c⟩, b, d⟩; exact ⟨⟨a, b⟩, c, d⟩
end

/-- `Equal(2)` compares the deeper operand with itself and with the other one; `Not` then reads the
verdict off the `Ok` / NIL it left. -/
theorem matchVerdict_eq (X : Ctx) (a b : Val) :
    matchVerdict X a b = .ok (valuesEqual X a a && valuesEqual X a b) := by
  -- `[a, b].all (valuesEqual X a ·)` unfolded
  have h : matchVerdict X a b =
      .ok (!(if (valuesEqual X a a && (valuesEqual X a b && true)) then Val.ok else Val.nil).isNil) := rfl
  rw [h]
  cases valuesEqual X a a <;> cases valuesEqual X a b <;> rfl

theorem valuesEqual_nil (X : Ctx) : valuesEqual X Val.nil Val.nil = true := by
  simp [valuesEqual, zipAllEqual, Val.nil, ValList.length]

end QM.Equal
