import QuiverModel.Core.Equal.Basic
/-
Lemmas about `compute_canonical_tuples` (for C13): closed form, minimality, `canon_spec`,
stability under table growth.
-/
namespace QM.Equal
open QM QM.VM

/-- Index of the first entry of `ts` with shape `s` (`ts.length` if there is none). -/
def firstIdx (s : Shape) : List TupleInfo → Nat
  | [] => 0
  | t :: ts => if t.shape = s then 0 else firstIdx s ts + 1

theorem firstIdx_le (s : Shape) (ts : List TupleInfo) : firstIdx s ts ≤ ts.length := by
  induction ts with
  | nil => simp [firstIdx]
  | cons t ts ih => simp only [firstIdx]; split <;> simp <;> omega

theorem firstIdx_lt_iff (s : Shape) (ts : List TupleInfo) :
    firstIdx s ts < ts.length ↔ ∃ t ∈ ts, t.shape = s := by
  induction ts with
  | nil => simp [firstIdx]
  | cons t ts ih =>
    simp only [firstIdx]
    by_cases h : t.shape = s
    · simp [h]
    · simp [h, ih]

theorem firstIdx_spec (s : Shape) (ts : List TupleInfo) (h : firstIdx s ts < ts.length) :
    (ts[firstIdx s ts]).shape = s ∧ ∀ k (hk : k < firstIdx s ts), (ts[k]'(by omega)).shape ≠ s := by
  induction ts with
  | nil => simp at h
  | cons t ts ih =>
    by_cases ht : t.shape = s
    · simp [firstIdx, ht]
    · have h' : firstIdx s ts < ts.length := by simp [firstIdx, ht] at h; exact h
      have := ih h'
      simp only [firstIdx, ht, if_false]
      refine ⟨by simpa using this.1, ?_⟩
      intro k hk
      cases k with
      | zero => simpa using ht
      | succ k => simpa using this.2 k (by omega)

theorem firstIdx_append_of_mem (s : Shape) (pre rest : List TupleInfo) (h : ∃ t ∈ pre, t.shape = s) :
    firstIdx s (pre ++ rest) = firstIdx s pre := by
  induction pre with
  | nil => simp at h
  | cons t pre ih =>
    by_cases ht : t.shape = s
    · simp [firstIdx, ht]
    · have : ∃ t ∈ pre, t.shape = s := by
        obtain ⟨u, hu, hs⟩ := h
        simp at hu
        rcases hu with rfl | hu
        · exact absurd hs ht
        · exact ⟨u, hu, hs⟩
      simp [firstIdx, ht, ih this]

theorem firstIdx_append_of_not_mem (s : Shape) (pre rest : List TupleInfo) (h : ¬ ∃ t ∈ pre, t.shape = s) :
    firstIdx s (pre ++ rest) = pre.length + firstIdx s rest := by
  induction pre with
  | nil => simp
  | cons t pre ih =>
    have ht : ¬ t.shape = s := fun e => h ⟨t, by simp, e⟩
    have h' : ¬ ∃ t ∈ pre, t.shape = s := fun ⟨u, hu, hs⟩ => h ⟨u, by simp [hu], hs⟩
    simp [firstIdx, ht, ih h']; omega

/-- Loop invariant of `compute_canonical_tuples`: `by_shape` maps exactly the shapes seen so far,
each to its first index. -/
def SeenInv (seen : List (Shape × Nat)) (pre : List TupleInfo) : Prop :=
  ∀ s, lookupShape s seen = if (∃ t ∈ pre, t.shape = s) then some (firstIdx s pre) else none

theorem exists_shape_snoc (s : Shape) (pre : List TupleInfo) (t : TupleInfo) :
    (∃ u ∈ pre ++ [t], u.shape = s) ↔ (∃ u ∈ pre, u.shape = s) ∨ t.shape = s := by
  simp only [List.mem_append, List.mem_singleton, or_and_right, exists_or, exists_eq_left]

theorem SeenInv.snoc_seen {seen : List (Shape × Nat)} {pre : List TupleInfo} (inv : SeenInv seen pre)
    {t : TupleInfo} (hm : ∃ u ∈ pre, u.shape = t.shape) : SeenInv seen (pre ++ [t]) := by
  intro s
  rw [inv s]
  by_cases hs : ∃ u ∈ pre, u.shape = s
  · rw [if_pos hs, if_pos ((exists_shape_snoc ..).2 (.inl hs)), firstIdx_append_of_mem s pre [t] hs]
  · rw [if_neg hs, if_neg (fun h => ((exists_shape_snoc ..).1 h).elim hs fun e => hs (e ▸ hm))]

theorem SeenInv.snoc_new {seen : List (Shape × Nat)} {pre : List TupleInfo} (inv : SeenInv seen pre)
    {t : TupleInfo} (hm : ¬ ∃ u ∈ pre, u.shape = t.shape) :
    SeenInv ((t.shape, pre.length) :: seen) (pre ++ [t]) := by
  intro s
  rw [lookupShape]
  by_cases hts : t.shape = s
  · rw [if_pos hts, if_pos ((exists_shape_snoc ..).2 (.inr hts)),
      firstIdx_append_of_not_mem s pre [t] (hts ▸ hm), firstIdx, if_pos hts]
    rfl
  · rw [if_neg hts, inv s]
    by_cases hs : ∃ u ∈ pre, u.shape = s
    · rw [if_pos hs, if_pos ((exists_shape_snoc ..).2 (.inl hs)), firstIdx_append_of_mem s pre [t] hs]
    · rw [if_neg hs, if_neg (fun h => ((exists_shape_snoc ..).1 h).elim hs hts)]

/-- the loop after the tuples `pre`, with `seen` their map, on what is left -/
theorem canonGo_eq (rest : List TupleInfo) : ∀ (seen : List (Shape × Nat)) (pre : List TupleInfo),
    SeenInv seen pre →
    canonGo seen pre.length rest = rest.map (fun t => firstIdx t.shape (pre ++ rest)) := by
  induction rest with
  | nil => intros; rfl
  | cons t rest ih =>
    intro seen pre inv
    have hpre : pre ++ t :: rest = (pre ++ [t]) ++ rest := (List.append_cons ..)
    have hlen : pre.length + 1 = (pre ++ [t]).length := (List.length_append (as := pre) (bs := [t])).symm
    rw [canonGo, List.map_cons, inv t.shape]
    by_cases hm : ∃ u ∈ pre, u.shape = t.shape
    · rw [if_pos hm]; simp only
      rw [hlen, ih seen _ (inv.snoc_seen hm), ← hpre, firstIdx_append_of_mem _ _ _ hm]
    · rw [if_neg hm]; simp only
      rw [hlen, ih _ _ (inv.snoc_new hm), ← hpre, firstIdx_append_of_not_mem _ _ _ hm, firstIdx, if_pos rfl]
      rfl

theorem canonicalTuples_eq (ts : List TupleInfo) :
    canonicalTuples ts = ts.map (fun t => firstIdx t.shape ts) := by
  have := canonGo_eq ts [] [] (by intro s; simp [lookupShape])
  simpa [canonicalTuples] using this

theorem canonicalTuples_length (ts : List TupleInfo) : (canonicalTuples ts).length = ts.length := by
  simp [canonicalTuples_eq]

theorem canonicalTuples_getElem (ts : List TupleInfo) (i : Nat) (hi : i < ts.length) :
    (canonicalTuples ts)[i]'(by simpa [canonicalTuples_length] using hi) = firstIdx (ts[i]).shape ts := by
  simp [canonicalTuples_eq]

theorem firstIdx_getElem_lt (ts : List TupleInfo) {i : Nat} (hi : i < ts.length) :
    firstIdx (ts[i]).shape ts < ts.length :=
  (firstIdx_lt_iff _ _).2 ⟨ts[i], List.getElem_mem hi, rfl⟩

/-- **Minimality**: the canonical id of `i` is the *lowest* id with the same name and labels. -/
theorem canon_least (ts : List TupleInfo) (i : Nat) (hi : i < ts.length) :
    let k := (canonicalTuples ts)[i]'(by simpa [canonicalTuples_length] using hi)
    ∃ hk : k < ts.length, k ≤ i ∧ (ts[k]).shape = (ts[i]).shape ∧
      ∀ m (hm : m < k), (ts[m]'(by omega)).shape ≠ (ts[i]).shape := by
  intro k
  have hk : k = firstIdx (ts[i]).shape ts := canonicalTuples_getElem ts i hi
  have hlt := firstIdx_getElem_lt ts hi
  have sp := firstIdx_spec _ ts hlt
  refine ⟨by omega, ?_, ?_, ?_⟩
  · rw [hk]
    apply Nat.le_of_not_lt
    intro h
    exact sp.2 i h rfl
  · simp only [hk]; exact sp.1
  · intro m hm
    exact sp.2 m (by omega)

/-- **`canon_spec`**: two tuple ids in range have the same canonical id exactly when they have the
same name and the same field labels (field types play no role — `TupleInfo` does not carry them). -/
theorem canon_spec (ts : List TupleInfo) (i j : Nat) (hi : i < ts.length) (hj : j < ts.length) :
    (canonicalTuples ts)[i]'(by simpa [canonicalTuples_length] using hi)
      = (canonicalTuples ts)[j]'(by simpa [canonicalTuples_length] using hj)
    ↔ (ts[i]).name = (ts[j]).name ∧ (ts[i]).labels = (ts[j]).labels := by
  rw [canonicalTuples_getElem ts i hi, canonicalTuples_getElem ts j hj]
  have si := (firstIdx_spec _ ts (firstIdx_getElem_lt ts hi)).1
  have sj := (firstIdx_spec _ ts (firstIdx_getElem_lt ts hj)).1
  have hshape : (ts[i]).shape = (ts[j]).shape ↔ (ts[i]).name = (ts[j]).name ∧ (ts[i]).labels = (ts[j]).labels := by
    simp [TupleInfo.shape]
  rw [← hshape]
  constructor
  · intro h
    rw [← si, ← sj]
    simp only [h]
  · intro h; rw [h]

theorem canonOf_ofProgram (ts : List TupleInfo) (cs : List Const) (hp : List Rope) (i : Nat)
    (hi : i < ts.length) :
    (Ctx.ofProgram ts cs hp).canonOf i = firstIdx (ts[i]).shape ts := by
  simp [Ctx.canonOf, Ctx.ofProgram, canonicalTuples_eq, hi]

/-- Canonical ids are **stable under program growth** (the REPL appends tuples and recomputes the
table at every update): ids already present keep their canonical id. -/
theorem canon_append_stable (ts more : List TupleInfo) (i : Nat) (hi : i < ts.length) :
    (canonicalTuples (ts ++ more))[i]'(by simp [canonicalTuples_length]; omega)
      = (canonicalTuples ts)[i]'(by simpa [canonicalTuples_length] using hi) := by
  rw [canonicalTuples_getElem ts i hi, canonicalTuples_getElem (ts ++ more) i (by simp; omega)]
  have : (ts ++ more)[i]'(by simp; omega) = ts[i] := by simp [List.getElem_append_left hi]
  rw [this]
  exact firstIdx_append_of_mem _ ts more ⟨ts[i], List.getElem_mem hi, rfl⟩

theorem canonOf_out_of_range (X : Ctx) (i : Nat) (h : X.canon.length ≤ i) : X.canonOf i = i := by
  simp [Ctx.canonOf, h]

example : canonicalTuples
    [⟨none, []⟩, ⟨some "Ok", []⟩, ⟨some "P", [some "x", none]⟩, ⟨some "P", [some "y", none]⟩,
     ⟨some "P", [some "x", none]⟩, ⟨some "Q", [some "x", none]⟩, ⟨some "P", [some "x", none]⟩]
    = [0, 1, 2, 3, 2, 5, 2] := by decide

end QM.Equal
