import QuiverModel.Core.Soundness.Unify
import QuiverModel.Lemmas.Soundness.Basic
import QuiverModel.Lemmas.Util.List
/-
For C01's guard theorem: the fragment (`patT`: first-order patterns without unions; `argT`: closed
first-order arguments, unions included), the meaning of an instantiated pattern (`InhP`, over the
`FieldsRel` of Lemmas/Types), invariants of the bindings (`BOk`, `BLe`), and soundness of `unifyWith` on
the fragment (`unify_sound_aux`). `Core/Soundness/Infer.lean` imports this module for `patT`, `argT` (the
test `inferCall` makes) and for `foV`, `flat1` of `Basic`.
-/
namespace QM.Soundness
open QM.Types

/-- parameter types of the fragment: int, bin, type variables, tuples of such. -/
def patT (T : Table) : Nat → Nat → Bool
  | 0, _ => false
  | n + 1, p =>
    match T.types[p]? with
    | some .integer => true
    | some .binary => true
    | some (.variable _) => true
    | some (.tuple id) =>
      match T.tuples[id]? with
      | some info => info.fields.all (fun f => patT T n f.2)
      | none => false
    | _ => false

/-- argument types of the fragment: int, bin, tuples and unions of such (closed, cycle-free,
first-order). -/
def argT (T : Table) : Nat → Nat → Bool
  | 0, _ => false
  | n + 1, a =>
    match T.types[a]? with
    | some .integer => true
    | some .binary => true
    | some (.tuple id) =>
      match T.tuples[id]? with
      | some info => info.fields.all (fun f => argT T n f.2)
      | none => false
    | some (.union ids) => ids.all (argT T n)
    | _ => false

theorem patT_fo {T : Table} : ∀ (n p : Nat), patT T n p = true → foV T n p = true := by
  intro n
  induction n with
  | zero => intro p h; cases h
  | succ n ih =>
    intro p h
    unfold patT at h; unfold foV
    split at h
    · rename_i hty; rw [hty]
    · rename_i hty; rw [hty]
    · rename_i hty; rw [hty]
    · rename_i id hty
      rw [hty]
      split at h
      · rename_i info htu
        simp only [htu, List.all_eq_true] at h ⊢
        exact fun q hq => ih q.2 (h q hq)
      · cases h
    · cases h

theorem argT_fo {T : Table} : ∀ (n a : Nat), argT T n a = true → foV T n a = true := by
  intro n
  induction n with
  | zero => intro p h; cases h
  | succ n ih =>
    intro p h
    unfold argT at h; unfold foV
    split at h
    · rename_i hty; rw [hty]
    · rename_i hty; rw [hty]
    · rename_i id hty
      rw [hty]
      split at h
      · rename_i info htu
        simp only [htu, List.all_eq_true] at h ⊢
        exact fun q hq => ih q.2 (h q hq)
      · cases h
    · rename_i ids hty
      simp only [hty, List.all_eq_true] at h ⊢
      exact fun i hi => ih i (h i hi)
    · cases h

theorem patT_transfer {T T' : Table} (hE : Ext T T') :
    ∀ (n p m : Nat), patT T n p = true → n ≤ m → patT T' m p = true := by
  intro n
  induction n with
  | zero => intro p m h; simp [patT] at h
  | succ n ih =>
    intro p m h hle
    cases m with
    | zero => omega
    | succ m =>
      have hle' : n ≤ m := by omega
      unfold patT at h ⊢
      cases hty : T.types[p]? with
      | none => rw [hty] at h; simp at h
      | some ty =>
        rw [hty] at h; rw [hE.1 p ty hty]
        cases ty with
        | integer => rfl
        | binary => rfl
        | «variable» _ => rfl
        | tuple id =>
          simp only at h ⊢
          cases htu : T.tuples[id]? with
          | none => rw [htu] at h; simp at h
          | some info =>
            rw [htu] at h; rw [hE.2 id info htu]; simp only at h ⊢
            rw [List.all_eq_true] at h ⊢
            exact fun q hq => ih q.2 m (h q hq) hle'
        | _ => simp at h

theorem argT_transfer {T T' : Table} (hE : Ext T T') :
    ∀ (n p m : Nat), argT T n p = true → n ≤ m → argT T' m p = true := by
  intro n
  induction n with
  | zero => intro p m h; simp [argT] at h
  | succ n ih =>
    intro p m h hle
    cases m with
    | zero => omega
    | succ m =>
      have hle' : n ≤ m := by omega
      unfold argT at h ⊢
      cases hty : T.types[p]? with
      | none => rw [hty] at h; simp at h
      | some ty =>
        rw [hty] at h; rw [hE.1 p ty hty]
        cases ty with
        | integer => rfl
        | binary => rfl
        | union ids =>
          simp only at h ⊢
          rw [List.all_eq_true] at h ⊢
          exact fun i hi => ih i m (h i hi) hle'
        | tuple id =>
          simp only at h ⊢
          cases htu : T.tuples[id]? with
          | none => rw [htu] at h; simp at h
          | some info =>
            rw [htu] at h; rw [hE.2 id info htu]; simp only at h ⊢
            rw [List.all_eq_true] at h ⊢
            exact fun q hq => ih q.2 m (h q hq) hle'
        | _ => simp at h

/-- `v` is a value of the pattern type `p` with every type variable replaced by its binding
(explored `n` levels deep; an unbound variable admits nothing). This is what
`inh (substitute σ p)` means on the fragment — see `substitute_sound`. -/
def InhP (T : Table) (b : Bindings) : Nat → Nat → V → Prop
  | 0, _, _ => False
  | n + 1, p, v =>
    match T.types[p]? with
    | some (.variable x) =>
      match b.get x with
      | some t => inh T [] t v
      | none => False
    | some .integer => ∃ z, v = .int z
    | some .binary => ∃ bs, v = .bin bs
    | some (.tuple id) =>
      match T.tuples[id]?, v with
      | some info, .tup name fs => name = info.name ∧ FieldsRel (InhP T b n) info.fields fs.toList
      | _, _ => False
    | _ => False

theorem get_insert_self (b : Bindings) (x t : Nat) : (b.insert x t).get x = some t := by
  induction b with
  | nil => simp only [Bindings.insert, Bindings.get, List.lookup, beq_self_eq_true]
  | cons kw rest ih =>
    obtain ⟨k, w⟩ := kw
    unfold Bindings.insert
    split
    · rename_i hk
      simp only [Bindings.get, List.lookup, hk, beq_self_eq_true]
    · rename_i hk
      have hxk : (x == k) = false := beq_eq_false_iff_ne.mpr fun h => hk h.symm
      simp only [Bindings.get, List.lookup, hxk]
      exact ih

theorem get_insert_ne (b : Bindings) (x y t : Nat) (h : x ≠ y) : (b.insert x t).get y = b.get y := by
  induction b with
  | nil => simp only [Bindings.insert, Bindings.get, List.lookup, beq_eq_false_iff_ne.mpr h.symm]
  | cons kw rest ih =>
    obtain ⟨k, w⟩ := kw
    unfold Bindings.insert
    split
    · rename_i hk
      simp only [Bindings.get, List.lookup, beq_eq_false_iff_ne.mpr (hk ▸ h.symm)]
    · simp only [Bindings.get, List.lookup] at ih ⊢
      rw [ih]

/-- every bound type is first-order. -/
def BOk (T : Table) (b : Bindings) : Prop := ∀ x t, b.get x = some t → FO T t

/-- the bindings only grow: every bound variable stays bound, to a type with at least the same
values (in the extended table). -/
def BLe (T T' : Table) (b b' : Bindings) : Prop :=
  ∀ x t, b.get x = some t → ∃ t', b'.get x = some t' ∧ ∀ v, inh T [] t v → inh T' [] t' v

theorem BLe.refl' {T T' : Table} (hE : Ext T T') {b : Bindings} (hb : BOk T b) : BLe T T' b b :=
  fun x t h => ⟨t, h, fun _ hv => inh_ext hE (hb x t h) hv⟩

theorem BLe.trans {A B C : Table} {b1 b2 b3 : Bindings} (h1 : BLe A B b1 b2) (h2 : BLe B C b2 b3) :
    BLe A C b1 b3 := by
  intro x t h
  obtain ⟨t', ht', hv'⟩ := h1 x t h
  obtain ⟨t'', ht'', hv''⟩ := h2 x t' ht'
  exact ⟨t'', ht'', fun v hv => hv'' v (hv' v hv)⟩

theorem BOk.ext {T T' : Table} (hE : Ext T T') {b : Bindings} (hb : BOk T b) : BOk T' b :=
  fun x t h => (hb x t h).ext hE

theorem InhP_mono {T T' : Table} {b b' : Bindings} (hE : Ext T T') (hL : BLe T T' b b') :
    ∀ (n p : Nat) (v : V) (m : Nat), patT T n p = true → InhP T b n p v → n ≤ m → InhP T' b' m p v := by
  intro n
  induction n with
  | zero => intro p v m h; cases h
  | succ n ih =>
    intro p v m hp h hle
    cases m with
    | zero => exact absurd hle (Nat.not_succ_le_zero n)
    | succ m =>
    unfold patT at hp
    unfold InhP at h ⊢
    split at hp
    · rename_i hty; rw [hty] at h; rw [hE.1 p _ hty]; exact h
    · rename_i hty; rw [hty] at h; rw [hE.1 p _ hty]; exact h
    · rename_i x hty
      rw [hty] at h; rw [hE.1 p _ hty]
      dsimp only at h ⊢
      split at h
      · rename_i t hbx
        obtain ⟨t', ht', hv'⟩ := hL x t hbx
        rw [ht']; exact hv' v h
      · exact h.elim
    · rename_i id hty
      rw [hty] at h; rw [hE.1 p _ hty]
      dsimp only at h ⊢
      split at hp
      · rename_i info htu
        rw [htu] at h; rw [hE.2 id info htu]
        cases v with
        | tup name fs =>
          refine ⟨h.1, h.2.imp fun c hc w hw => ?_⟩
          obtain ⟨q, hq, rfl⟩ := List.mem_map.mp hc
          exact ih q.2 w m (List.all_eq_true.mp hp q hq) hw (Nat.le_of_succ_le_succ hle)
        | _ => exact h.elim
      · cases hp
    · cases hp

theorem closed_InhP {T : Table} {b : Bindings} :
    ∀ (n t : Nat) (v : V) (m : Nat), patT T n t = true → argT T m t = true → inh T [] t v → InhP T b n t v := by
  intro n
  induction n with
  | zero => intro t v m h; cases h
  | succ n ih =>
    intro t v m hp ha hv
    cases m with
    | zero => cases ha
    | succ m =>
      unfold patT at hp; unfold argT at ha; unfold InhP
      split at hp
      · rename_i hty; rw [hty]; exact (QM.Types.inh_integer hty).mp hv
      · rename_i hty; rw [hty]; exact (QM.Types.inh_binary hty).mp hv
      · rename_i hty; rw [hty] at ha; cases ha
      · rename_i id hty
        rw [hty] at ha ⊢
        dsimp only at ha ⊢
        split at hp
        · rename_i info htu
          rw [htu] at ha ⊢
          obtain ⟨name, fs, rfl, hname, hfs⟩ := (QM.Types.inh_tuple hty htu).mp hv
          refine ⟨hname, hfs.imp fun c hc w hw => ?_⟩
          obtain ⟨q, hq, rfl⟩ := List.mem_map.mp hc
          exact ih q.2 w m (List.all_eq_true.mp hp q hq) (List.all_eq_true.mp ha q hq) hw
        · cases hp
      · cases hp

/-- what one successful unification establishes. -/
def UnifyPost (T : Table) (b : Bindings) (p a : Nat) (T' : Table) (b' : Bindings) (n : Nat) : Prop :=
  Ext T T' ∧ BOk T' b' ∧ BLe T T' b b' ∧ ∀ v, inh T [] a v → InhP T' b' n p v

/-- the statement proved by induction on the fuel. `n` and `m` are the depths to which `p` and `a` lie in the
fragment (independent: a variable of `p` faces a whole sub-tree of `a`); the meaning `InhP` is claimed at `p`'s depth `n`. -/
def UnifySoundAt (rules : Rules) (cf f : Nat) : Prop :=
  ∀ (T : Table) (b : Bindings) (p a : Nat) (T' : Table) (b' : Bindings) (n m : Nat),
    unifyWith rules cf f T b p a = some (T', some b') →
    patT T n p = true → argT T m a = true → BOk T b → UnifyPost T b p a T' b' n

/-- the field loop of the tuple/tuple arm. -/
theorem allU_fields {rules : Rules} {cf f : Nat} (IH : UnifySoundAt rules cf f)
    (zs : List ((Option Name × Nat) × (Option Name × Nat))) : ∀ (T : Table) (b : Bindings)
      (T' : Table) (b' : Bindings) (n m : Nat),
      allU (fun T' b' (z : (Option Name × Nat) × (Option Name × Nat)) =>
              if z.1.1 ≠ z.2.1 then some (T', none) else unifyWith rules cf f T' b' z.1.2 z.2.2)
           T b zs = some (T', some b') →
      (∀ z ∈ zs, patT T n z.1.2 = true ∧ argT T m z.2.2 = true) → BOk T b →
      Ext T T' ∧ BOk T' b' ∧ BLe T T' b b' ∧
        ∀ z ∈ zs, z.1.1 = z.2.1 ∧ ∀ v, inh T [] z.2.2 v → InhP T' b' n z.1.2 v := by
  induction zs with
  | nil =>
    intro T b T' b' n m h _ hb
    cases h
    exact ⟨Ext.refl _, hb, BLe.refl' (Ext.refl _) hb, fun z hz => nomatch hz⟩
  | cons z rest ih =>
    intro T b T' b' n m h hz hb
    unfold allU at h
    by_cases hl : z.1.1 = z.2.1
    · simp only [ne_eq, hl, not_true_eq_false, if_false] at h
      split at h
      · cases h
      · cases h
      · rename_i T1 b1 hu
        have hzz := hz z List.mem_cons_self
        obtain ⟨hE1, hb1, hL1, hs1⟩ := IH T b z.1.2 z.2.2 T1 b1 n m hu hzz.1 hzz.2 hb
        have hrest : ∀ z' ∈ rest, patT T1 n z'.1.2 = true ∧ argT T1 m z'.2.2 = true := fun z' hz' =>
          have := hz z' (List.mem_cons_of_mem _ hz')
          ⟨patT_transfer hE1 n _ n this.1 (Nat.le_refl _), argT_transfer hE1 m _ m this.2 (Nat.le_refl _)⟩
        obtain ⟨hE2, hb2, hL2, hs2⟩ := ih T1 b1 T' b' n m h hrest hb1
        refine ⟨hE1.trans hE2, hb2, hL1.trans hL2, fun z' hz' => ?_⟩
        rcases List.mem_cons.mp hz' with rfl | hz''
        · exact ⟨hl, fun v hv => InhP_mono hE2 hL2 n _ v n (patT_transfer hE1 n _ n hzz.1 (Nat.le_refl _))
            (hs1 v hv) (Nat.le_refl _)⟩
        · obtain ⟨hl', hs'⟩ := hs2 z' hz''
          exact ⟨hl', fun v hv => hs' v (inh_ext hE1 ⟨m, argT_fo m _ (hz z' (List.mem_cons_of_mem _ hz'')).2⟩ hv)⟩
    · simp only [ne_eq, hl, not_false_eq_true, if_true] at h
      cases h

/-- the variant loop of the "non-union parameter, union argument" arm under the EVERY-variant rule. -/
theorem allU_variants {rules : Rules} {cf f : Nat} (IH : UnifySoundAt rules cf f) (p : Nat)
    (cvs : List Nat) : ∀ (T : Table) (b : Bindings) (T' : Table) (b' : Bindings) (n m : Nat),
      allU (fun T' b' cv => unifyWith rules cf f T' b' p cv) T b cvs = some (T', some b') →
      patT T n p = true → (∀ cv ∈ cvs, argT T m cv = true) → BOk T b →
      Ext T T' ∧ BOk T' b' ∧ BLe T T' b b' ∧
        ∀ cv ∈ cvs, ∀ v, inh T [] cv v → InhP T' b' n p v := by
  induction cvs with
  | nil =>
    intro T b T' b' n m h _ _ hb
    cases h
    exact ⟨Ext.refl _, hb, BLe.refl' (Ext.refl _) hb, fun z hz => nomatch hz⟩
  | cons cv rest ih =>
    intro T b T' b' n m h hp hcv hb
    unfold allU at h
    split at h
    · cases h
    · cases h
    · rename_i T1 b1 hu
      obtain ⟨hE1, hb1, hL1, hs1⟩ := IH T b p cv T1 b1 n m hu hp (hcv cv List.mem_cons_self) hb
      have hp1 := patT_transfer hE1 n p n hp (Nat.le_refl _)
      have hrest : ∀ c ∈ rest, argT T1 m c = true := fun c hc =>
        argT_transfer hE1 m c m (hcv c (List.mem_cons_of_mem _ hc)) (Nat.le_refl _)
      obtain ⟨hE2, hb2, hL2, hs2⟩ := ih T1 b1 T' b' n m h hp1 hrest hb1
      refine ⟨hE1.trans hE2, hb2, hL1.trans hL2, fun c hc v hv => ?_⟩
      rcases List.mem_cons.mp hc with rfl | hc'
      · exact InhP_mono hE2 hL2 n p v n hp1 (hs1 v hv) (Nat.le_refl _)
      · exact hs2 c hc' v (inh_ext hE1 ⟨m, argT_fo m c (hcv c (List.mem_cons_of_mem _ hc'))⟩ hv)

theorem bind_fresh {T : Table} {b : Bindings} {x a n m p : Nat} (hb : BOk T b) (hbx : b.get x = none)
    (hty : T.types[p]? = some (.variable x)) (ha : argT T m a = true) :
    UnifyPost T b p a T (b.insert x a) (n + 1) := by
  refine ⟨Ext.refl _, ?_, ?_, ?_⟩
  · intro y t hy
    by_cases hxy : x = y
    · subst hxy; rw [get_insert_self] at hy; cases hy; exact ⟨m, argT_fo m a ha⟩
    · rw [get_insert_ne _ _ _ _ hxy] at hy; exact hb y t hy
  · intro y t hy
    have hxy : x ≠ y := by intro e; subst e; rw [hbx] at hy; cases hy
    exact ⟨t, by rw [get_insert_ne _ _ _ _ hxy]; exact hy, fun _ hv => hv⟩
  · intro v hv
    unfold InhP; rw [hty]; simp only; rw [get_insert_self]; exact hv

theorem bind_widen {T T1 : Table} {b : Bindings} {x a n m p e w : Nat} (hb : BOk T b)
    (hbx : b.get x = some e) (hty : T.types[p]? = some (.variable x)) (ha : argT T m a = true)
    (hu : unionIds T [e, a] = (T1, w)) :
    UnifyPost T b p a T1 (b.insert x w) (n + 1) := by
  obtain ⟨hE, hfw, hin⟩ := unionIds_pair hu (hb x e hbx) ⟨m, argT_fo m a ha⟩
  refine ⟨hE, ?_, ?_, ?_⟩
  · intro y t hy
    by_cases hxy : x = y
    · subst hxy; rw [get_insert_self] at hy; cases hy; exact hfw
    · rw [get_insert_ne _ _ _ _ hxy] at hy; exact (hb y t hy).ext hE
  · intro y t hy
    by_cases hxy : x = y
    · subst hxy
      rw [hbx] at hy; cases hy
      exact ⟨w, get_insert_self _ _ _, fun v hv => hin v (Or.inl hv)⟩
    · exact ⟨t, by rw [get_insert_ne _ _ _ _ hxy]; exact hy, fun _ hv => inh_ext hE (hb y t hy) hv⟩
  · intro v hv
    unfold InhP; rw [hE.1 p _ hty]; simp only; rw [get_insert_self]; exact hin v (Or.inr hv)

theorem unifyWith_of {rules : Rules} {cf f : Nat} {T : Table} {b : Bindings} {p a : Nat} {tp ta : Ty}
    (htp : T.types[p]? = some tp) (hta : T.types[a]? = some ta) :
    unifyWith rules cf (f + 1) T b p a = unifyStep rules cf (unifyWith rules cf f) T b p a tp ta := by
  show (match T.types[p]?, T.types[a]? with
    | some tp, some ta => unifyStep rules cf (unifyWith rules cf f) T b p a tp ta
    | _, _ => some (T, some b)) = _
  rw [htp, hta]

theorem unifyStep_var {rules : Rules} {cf : Nat} {rec : Table → Bindings → Nat → Nat → URes} {T : Table}
    {b : Bindings} {p a x : Nat} {ta : Ty}
    (hta : ta = .integer ∨ ta = .binary ∨ (∃ i, ta = .tuple i) ∨ ∃ cvs, ta = .union cvs) :
    unifyStep rules cf rec T b p a (.variable x) ta =
      match b.get x with
      | some e =>
        if e ≠ a then
          let (T1, w) := unionIds T [e, a]
          some (T1, some (b.insert x w))
        else some (T, some b)
      | none =>
        if rules.scope = .sharedNames ∧ T.types[a]? = some (.variable x) then some (T, some b)
        else some (T, some (b.insert x a)) := by
  -- with `ta` not a variable the argument is never resolved through the bindings
  obtain ⟨_, _, _, _, sc⟩ := rules
  cases sc <;> rcases hta with rfl | rfl | ⟨i, rfl⟩ | ⟨cvs, rfl⟩ <;> rfl

theorem unifyStep_union_arg {rules : Rules} (hr : rules.unionArg = .everyVariant) {cf : Nat}
    {rec : Table → Bindings → Nat → Nat → URes} {T : Table} {b : Bindings} {p a : Nat} {tp : Ty} {cvs : List Nat}
    (htp : tp = .integer ∨ tp = .binary ∨ ∃ i, tp = .tuple i) :
    unifyStep rules cf rec T b p a tp (.union cvs) = allU (fun T' b' cv => rec T' b' p cv) T b cvs := by
  obtain ⟨_, _, _, _, _⟩ := rules
  cases hr
  rcases htp with rfl | rfl | ⟨i, rfl⟩ <;> cases cvs <;> rfl

/-- Soundness of `unifyWith` on the fragment, for every fuel, under the EVERY-variant rule for union
arguments (fix 8f4b36d; the cycle and merge switches are irrelevant: the fragment never reaches
those arms). -/
theorem unify_sound_aux (rules : Rules) (hr : rules.unionArg = .everyVariant) (cf : Nat) :
    ∀ f, UnifySoundAt rules cf f := by
  intro f
  induction f with
  | zero => intro T b p a T' b' n m h; cases h
  | succ f ih =>
    intro T b p a T' b' n m h hp ha hb
    cases n with
    | zero => cases hp
    | succ n =>
    cases m with
    | zero => cases ha
    | succ m =>
    have hp0 := hp
    have ha0 := ha
    -- the "non-union parameter, union argument" arm, once reduced to the variant loop
    have union_arm : ∀ {cvs}, allU (fun T' b' cv => unifyWith rules cf f T' b' p cv) T b cvs = some (T', some b') →
        T.types[a]? = some (.union cvs) → (∀ cv ∈ cvs, argT T m cv = true) → UnifyPost T b p a T' b' (n + 1) := by
      intro cvs h hta hcv
      obtain ⟨hE, hb', hL, hs⟩ := allU_variants ih p cvs T b T' b' (n + 1) m h hp hcv hb
      refine ⟨hE, hb', hL, fun v hv => ?_⟩
      obtain ⟨cv, hcvm, hv'⟩ := (QM.Types.inh_union hta).mp hv
      exact hs cv hcvm v (inh_ext (Ext.refl T) ⟨m, argT_fo m cv (hcv cv hcvm)⟩ hv')
    unfold patT at hp; unfold argT at ha
    have hta : ∃ ta, T.types[a]? = some ta ∧
        (ta = .integer ∨ ta = .binary ∨ (∃ i, ta = .tuple i) ∨ ∃ cvs, ta = .union cvs) := by
      split at ha
      · exact ⟨_, ‹_›, .inl rfl⟩
      · exact ⟨_, ‹_›, .inr (.inl rfl)⟩
      · exact ⟨_, ‹_›, .inr (.inr (.inl ⟨_, rfl⟩))⟩
      · exact ⟨_, ‹_›, .inr (.inr (.inr ⟨_, rfl⟩))⟩
      · cases ha
    obtain ⟨ta, hta, hkind⟩ := hta
    split at hp
    · -- `'int`
      rename_i htp
      rw [unifyWith_of htp hta] at h
      rcases hkind with rfl | rfl | ⟨i, rfl⟩ | ⟨cvs, rfl⟩
      · cases h
        refine ⟨Ext.refl _, hb, BLe.refl' (Ext.refl _) hb, fun v hv => ?_⟩
        unfold InhP; rw [htp]; exact (QM.Types.inh_integer hta).mp hv
      · cases h
      · cases h
      · rw [unifyStep_union_arg hr (.inl rfl)] at h
        rw [hta] at ha
        exact union_arm h hta fun cv hcv => (List.all_eq_true.mp ha) cv hcv
    · -- `'bin`
      rename_i htp
      rw [unifyWith_of htp hta] at h
      rcases hkind with rfl | rfl | ⟨i, rfl⟩ | ⟨cvs, rfl⟩
      · cases h
      · cases h
        refine ⟨Ext.refl _, hb, BLe.refl' (Ext.refl _) hb, fun v hv => ?_⟩
        unfold InhP; rw [htp]; exact (QM.Types.inh_binary hta).mp hv
      · cases h
      · rw [unifyStep_union_arg hr (.inr (.inl rfl))] at h
        rw [hta] at ha
        exact union_arm h hta fun cv hcv => (List.all_eq_true.mp ha) cv hcv
    · -- a type variable: bind it, keep it, or widen its binding
      rename_i x htp
      rw [unifyWith_of htp hta, unifyStep_var hkind] at h
      cases hbx : b.get x with
      | none =>
        rw [hbx] at h
        have hne : ¬ (rules.scope = .sharedNames ∧ T.types[a]? = some (.variable x)) := by
          rw [hta]
          rintro ⟨_, e⟩
          rcases hkind with rfl | rfl | ⟨i, rfl⟩ | ⟨cvs, rfl⟩ <;> cases e
        simp only [hne, if_false, Option.some.injEq, Prod.mk.injEq] at h
        obtain ⟨rfl, rfl⟩ := h
        exact bind_fresh hb hbx htp ha0
      | some e =>
        rw [hbx] at h
        by_cases hea : e = a
        · subst hea
          simp only [ne_eq, not_true_eq_false, if_false, Option.some.injEq, Prod.mk.injEq] at h
          obtain ⟨rfl, rfl⟩ := h
          refine ⟨Ext.refl _, hb, BLe.refl' (Ext.refl _) hb, fun v hv => ?_⟩
          unfold InhP; rw [htp]; simp only; rw [hbx]; exact hv
        · simp only [ne_eq, hea, not_false_eq_true, if_true] at h
          cases hu : unionIds T [e, a] with
          | mk T1 w =>
            rw [hu] at h
            cases h
            exact bind_widen hb hbx htp ha0 hu
    · -- a tuple
      rename_i i1 htp
      rw [unifyWith_of htp hta] at h
      split at hp
      case h_2 => cases hp
      rename_i info1 ht1
      rcases hkind with rfl | rfl | ⟨i2, rfl⟩ | ⟨cvs, rfl⟩
      · cases h
      · cases h
      · rw [hta] at ha
        dsimp only at ha
        split at ha
        case h_2 => cases ha
        rename_i info2 ht2
        change (if _ then _ else _) = _ at h
        by_cases hc : i1 = i2 ∧ (rules.scope = .sharedNames ∨ containsVariables T cf p = some false)
        · simp only [if_pos hc, Option.some.injEq, Prod.mk.injEq] at h
          obtain ⟨rfl, rfl⟩ := h
          obtain ⟨rfl, _⟩ := hc
          cases ht1.symm.trans ht2
          refine ⟨Ext.refl _, hb, BLe.refl' (Ext.refl _) hb, fun v hv => ?_⟩
          have ha' : argT T (m + 1) p = true := by
            unfold argT; rw [htp]; simp only; rw [ht1]; exact ha
          -- the shortcut for equal tuple ids: `a` and `p` are the same tuple type, so `p` is closed too and means itself
          exact closed_InhP (n + 1) p v (m + 1) hp0 ha'
            ((QM.Types.inh_tuple htp ht1).mpr ((QM.Types.inh_tuple hta ht1).mp hv))
        · simp only [if_neg hc] at h
          rw [ht1, ht2] at h
          simp only at h
          by_cases hn : info1.name = info2.name
          · simp only [ne_eq, hn, not_true_eq_false, if_false] at h
            by_cases hl : info1.fields.length = info2.fields.length
            · simp only [hl, not_true_eq_false, if_false] at h
              have hzs : ∀ z ∈ info1.fields.zip info2.fields,
                  patT T n z.1.2 = true ∧ argT T m z.2.2 = true := by
                intro z hz
                obtain ⟨h1, h2⟩ := List.of_mem_zip hz
                exact ⟨(List.all_eq_true.mp hp) z.1 h1, (List.all_eq_true.mp ha) z.2 h2⟩
              obtain ⟨hE, hb', hL, hs⟩ := allU_fields ih _ T b T' b' n m h hzs hb
              refine ⟨hE, hb', hL, fun v hv => ?_⟩
              obtain ⟨name, fs, rfl, hname, hfs⟩ := (QM.Types.inh_tuple hta ht2).mp hv
              unfold InhP
              rw [hE.1 p _ htp]; simp only; rw [hE.2 i1 _ ht1]; simp only
              refine ⟨hname.trans hn.symm, FieldsRel.zip_imp info2.fields info1.fields _ hl.symm (fun z hz => ?_) hfs⟩
              have hz' := hs (z.2, z.1) (mem_zip_swap hz)
              exact ⟨hz'.1.symm, hz'.2⟩
            · simp [hl] at h
          · simp [hn] at h
      · rw [unifyStep_union_arg hr (.inr (.inr ⟨_, rfl⟩))] at h
        rw [hta] at ha
        exact union_arm h hta fun cv hcv => (List.all_eq_true.mp ha) cv hcv
    · cases hp

end QM.Soundness
