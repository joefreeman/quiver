import QuiverModel.Core.Soundness.FieldAccess
import QuiverModel.Lemmas.Types.InhLemmas
/-
For `C01.field_by_name_sound_tuple` / `_union` (`Theorems/C01Field.lean`): when the model of
`get_field_by_name` accepts `e.x` on a tuple type or a union of tuple types with index `idx`, every
value of that type is a tuple whose field number `idx` is labelled `x` and lies in one of the
collected field types.
-/
namespace QM.Soundness
open QM.Types

theorem findLabelled_spec (x : Name) (fields : List (Option Name × Nat)) : ∀ (i j ft : Nat),
    findLabelled x fields i = some (j, ft) → ∃ k, j = i + k ∧ fields[k]? = some (some x, ft) := by
  induction fields with
  | nil => intro i j ft h; cases h
  | cons p rest ih =>
    intro i j ft h
    obtain ⟨l, t⟩ := p
    unfold findLabelled at h
    split at h
    · rename_i hl
      cases h
      exact ⟨0, rfl, by rw [hl]; rfl⟩
    · obtain ⟨k, hk, hf⟩ := ih (i + 1) j ft h
      exact ⟨k + 1, by omega, hf⟩

theorem fieldsRel_at {P : Nat → V → Prop} {fields : List (Option Name × Nat)} {fs : List (Option Name × V)}
    (h : FieldsRel P fields fs) : ∀ (k : Nat) (l : Option Name) (ft : Nat), fields[k]? = some (l, ft) →
    ∃ u, fs[k]? = some (l, u) ∧ P ft u := by
  induction h with
  | nil => intro k l ft hk; cases hk
  | @cons p q _ _ h1 h2 _ ih =>
    intro k l ft hk
    cases k with
    | zero =>
      cases Option.some.inj hk
      exact ⟨q.2, congrArg some (Prod.ext h1.symm rfl), h2⟩
    | succ k => exact ih k l ft hk

theorem tuple_field {T : Table} {i id idx ft : Nat} {x : Name} {st : List Nat} {v : V}
    (hty : T.types[i]? = some (.tuple id))
    (hsrc : fieldFromSource T x (.tuple id) = some (idx, ft)) (hv : inh T st i v) :
    ∃ name fs u, v = .tup name fs ∧ fs.toList[idx]? = some (some x, u) ∧ inh T st ft u := by
  unfold fieldFromSource at hsrc
  dsimp only at hsrc
  split at hsrc
  · rename_i info htu
    obtain ⟨k, hk, hfield⟩ := findLabelled_spec x info.fields 0 idx ft hsrc
    cases (Nat.zero_add k ▸ hk : idx = k)
    obtain ⟨name, fs, rfl, _, hf⟩ := (QM.Types.inh_tuple hty htu).mp hv
    obtain ⟨u, hu, hg⟩ := fieldsRel_at hf idx (some x) ft hfield
    exact ⟨name, fs, u, rfl, hu, hg⟩
  · cases hsrc

theorem fieldLoop_ok {T : Table} {x : Name} (srcs : List FieldSource) : ∀ (common : Option Nat)
    (results : List Nat) (idx : Nat) (tys : List Nat),
    fieldLoop .always T x srcs common results = .ok idx tys →
    (∀ c, common = some c → c = idx) ∧ (∀ r ∈ results, r ∈ tys) ∧
      ∀ src ∈ srcs, ∃ ft, fieldFromSource T x src = some (idx, ft) ∧ ft ∈ tys := by
  induction srcs with
  | nil =>
    intro common results idx tys h
    unfold fieldLoop at h
    split at h
    · cases h
      exact ⟨fun c' hc => (Option.some.inj hc).symm, fun r' hr => hr, fun _ hs => nomatch hs⟩
    · cases h
  | cons src rest ih =>
    intro common results idx tys h
    unfold fieldLoop at h
    split at h
    · cases h
    · rename_i i ft hf
      simp only [reduceCtorEq, false_and, if_false] at h
      -- in both cases the loop goes on with the common index `i`
      have key : fieldLoop .always T x rest (some i) (results ++ [ft]) = .ok idx tys ∧
          ∀ c, common = some c → c = i := by
        split at h
        · rename_i prev
          split at h
          · cases h
          · rename_i hp
            exact ⟨Decidable.of_not_not hp ▸ h, fun c hc => (Option.some.inj hc) ▸ Decidable.of_not_not hp⟩
        · exact ⟨h, fun c hc => nomatch hc⟩
      obtain ⟨h1, h2, h3⟩ := ih (some i) (results ++ [ft]) idx tys key.1
      cases h1 i rfl
      refine ⟨key.2, fun r hr => h2 r (List.mem_append_left _ hr), fun s hs => ?_⟩
      rcases List.mem_cons.mp hs with rfl | hs
      · exact ⟨ft, hf, h2 ft (List.mem_append_right _ List.mem_cons_self)⟩
      · exact h3 s hs

theorem extract_union_tuples {T : Table} {fuel : Nat} (ids : List Nat) : ∀ (acc : List FieldSource),
    (∀ i ∈ ids, ∃ id, T.types[i]? = some (.tuple id)) →
    ∃ l, ids.foldl (fun acc i => appendSources acc (extractFieldSources T (fuel + 1) i)) (some acc) =
        some (acc ++ l) ∧
      ∀ i ∈ ids, ∀ id, T.types[i]? = some (.tuple id) → FieldSource.tuple id ∈ l := by
  induction ids with
  | nil => exact fun acc _ => ⟨[], by rw [List.append_nil]; rfl, fun _ h => nomatch h⟩
  | cons i rest ih =>
    intro acc h
    obtain ⟨id, hid⟩ := h i List.mem_cons_self
    have hx : extractFieldSources T (fuel + 1) i = some [.tuple id] := by
      unfold extractFieldSources; rw [hid]
    obtain ⟨l, hl, hm⟩ := ih (acc ++ [.tuple id]) (fun j hj => h j (List.mem_cons_of_mem _ hj))
    refine ⟨.tuple id :: l, ?_, fun j hj id' hid' => ?_⟩
    · have hstep : appendSources (some acc) (some [FieldSource.tuple id]) = some (acc ++ [.tuple id]) := rfl
      rw [List.foldl_cons, hx, hstep, hl, List.append_assoc]
      rfl
    · rcases List.mem_cons.mp hj with rfl | hj
      · cases Option.some.inj (hid.symm.trans hid')
        exact List.mem_cons_self
      · exact List.mem_cons_of_mem _ (hm j hj id' hid')

end QM.Soundness
