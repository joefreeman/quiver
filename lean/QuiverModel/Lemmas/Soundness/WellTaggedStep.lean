import QuiverModel.Core.Soundness.WellTagged
/-
For `C01.wellTagged_preserved` (`Theorems/C01VM.lean`), one lemma per instruction: every
instruction of C07's M-VM preserves well-taggedness of the values a process holds, given the
`Obligation` of that instruction (which is `True` except at `Tuple(id)`, `Call` of a builtin and
`Select`).
-/
namespace QM.Soundness
open QM.Types QM.VM

variable {T : Table} {D : Decls}

theorem ListWT.nil : ListWT T D [] := fun _ h => by cases h

theorem ListWT.cons {v : Val} {l : List Val} (hv : WT T D v) (hl : ListWT T D l) : ListWT T D (v :: l) := by
  intro w hw
  rcases List.mem_cons.mp hw with rfl | hw
  · exact hv
  · exact hl w hw

theorem ListWT.head {v : Val} {l : List Val} (h : ListWT T D (v :: l)) : WT T D v :=
  h v (List.mem_cons_self ..)

theorem ListWT.tail {v : Val} {l : List Val} (h : ListWT T D (v :: l)) : ListWT T D l :=
  fun w hw => h w (List.mem_cons_of_mem _ hw)

theorem ListWT.append {l1 l2 : List Val} (h1 : ListWT T D l1) (h2 : ListWT T D l2) : ListWT T D (l1 ++ l2) := by
  intro w hw
  rcases List.mem_append.mp hw with hw | hw
  · exact h1 w hw
  · exact h2 w hw

theorem ListWT.sub {l l' : List Val} (h : ListWT T D l) (hs : ∀ w ∈ l', w ∈ l) : ListWT T D l' :=
  fun w hw => h w (hs w hw)

theorem ListWT.take {l : List Val} (h : ListWT T D l) (n : Nat) : ListWT T D (l.take n) :=
  h.sub (fun _ hw => List.mem_of_mem_take hw)

theorem ListWT.drop {l : List Val} (h : ListWT T D l) (n : Nat) : ListWT T D (l.drop n) :=
  h.sub (fun _ hw => List.mem_of_mem_drop hw)

theorem ListWT.reverse {l : List Val} (h : ListWT T D l) : ListWT T D l.reverse :=
  h.sub (fun _ hw => List.mem_reverse.mp hw)

theorem ListWT.eraseIdx {l : List Val} (h : ListWT T D l) (k : Nat) : ListWT T D (l.eraseIdx k) :=
  h.sub (fun _ hw => List.mem_of_mem_eraseIdx hw)

theorem ListWT.get {l : List Val} (h : ListWT T D l) {i : Nat} {v : Val} (hi : l[i]? = some v) : WT T D v :=
  h v (List.mem_of_getElem? hi)

theorem allWT_iff : ∀ (vs : ValList), AllWT T D vs ↔ ListWT T D vs.toList
  | .nil => by simp [AllWT, ListWT]
  | .cons v vs => by
    simp only [AllWT, ValList.toList_cons]
    constructor
    · intro h; exact ListWT.cons h.1 ((allWT_iff vs).mp h.2)
    · intro h; exact ⟨h.head, (allWT_iff vs).mpr h.tail⟩

theorem fieldsWT_list (fields : List (Option Name × Nat)) :
    ∀ (fs : ValList), FieldsWT T D fields fs → ListWT T D fs.toList := by
  induction fields with
  | nil => intro fs h; cases fs with
    | nil => exact .nil
    | cons _ _ => exact h.elim
  | cons f rest ih => intro fs h; cases fs with
    | nil => exact .nil
    | cons v vs => exact .cons h.1 (ih vs h.2.2)

theorem fieldsWT_of_typed (fields : List (Option Name × Nat)) :
    ∀ (vals : List Val), ListWT T D vals → FieldsTyped T D fields vals →
      FieldsWT T D fields (ValList.ofList vals) := by
  induction fields with
  | nil => intro vals _ h; cases vals with
    | nil => trivial
    | cons _ _ => exact h.elim
  | cons f rest ih => intro vals hl h; cases vals with
    | nil => exact h.elim
    | cons v vs => exact ⟨hl.head, h.1, ih vs hl.tail h.2⟩

theorem wt_ok (hT : TableInit T) : WT T D Val.ok := by
  obtain ⟨n, hn⟩ := hT.2
  exact ⟨_, hn, by simp [FieldsWT]⟩

theorem wt_nil (hT : TableInit T) : WT T D Val.nil := by
  obtain ⟨n, hn⟩ := hT.1
  exact ⟨_, hn, by simp [FieldsWT]⟩

theorem wt_verdict (hT : TableInit T) (b : Bool) : WT T D (if b then Val.ok else Val.nil) := by
  cases b
  · exact wt_nil hT
  · exact wt_ok hT

theorem wt_ite (hT : TableInit T) (c : Prop) [Decidable c] : WT T D (if c then Val.ok else Val.nil) := by
  split
  · exact wt_ok hT
  · exact wt_nil hT

theorem ProcWT.update {p p' : Proc} (h : ProcWT T D p) (hs : ListWT T D p'.stack) (hl : ListWT T D p'.locals)
    (hm : p'.mailbox = p.mailbox) (hsel : p'.selectState = p.selectState) (hr : p'.result = p.result) :
    ProcWT T D p' :=
  { stack := hs, locals := hl, mailbox := hm ▸ h.mailbox,
    sources := fun st hst => h.sources st (hsel ▸ hst),
    receiving := fun st k m hst hrc => h.receiving st k m (hsel ▸ hst) hrc,
    result := fun v hv => h.result v (hr ▸ hv) }

theorem ProcWT.bump {p : Proc} (h : ProcWT T D p) : ProcWT T D p.bump := by
  unfold Proc.bump
  split
  · exact h
  · exact h.update h.stack h.locals rfl rfl rfl

theorem ProcWT.setCounter {p : Proc} (h : ProcWT T D p) (c : Nat) : ProcWT T D (p.setCounter c) := by
  unfold Proc.setCounter
  split
  · exact h
  · exact h.update h.stack h.locals rfl rfl rfl

/-- **an instruction that only moves values**: the new stack and locals hold well-tagged values
(taken from the old ones, or atoms), everything else stays. -/
theorem ProcWT.moved {p : Proc} (h : ProcWT T D p) {s l : List Val} (hs : ListWT T D s) (hl : ListWT T D l) :
    ProcWT T D { p with stack := s, locals := l } :=
  h.update hs hl rfl rfl rfl

theorem wt_constant {P : Prog} {p p' : Proc} {a : Option Action} {i : Nat}
    (h : handleConstant P p i = .ok (p', a)) (hp : ProcWT T D p) : ProcWT T D p' ∧ ActionWT T D a := by
  unfold handleConstant at h
  split at h
  · cases h
  · cases h
    exact ⟨(hp.moved (.cons (by trivial) hp.stack) hp.locals).bump, trivial⟩
  · cases h
    exact ⟨(hp.moved (.cons (by trivial) hp.stack) hp.locals).bump, trivial⟩

theorem wt_pop {p p' : Proc} {a : Option Action} (h : handlePop p = .ok (p', a)) (hp : ProcWT T D p) :
    ProcWT T D p' ∧ ActionWT T D a := by
  unfold handlePop at h
  split at h
  · cases h
  · rename_i v s hs
    cases h
    have hst : ListWT T D (v :: s) := hs ▸ hp.stack
    exact ⟨(hp.moved hst.tail hp.locals).bump, trivial⟩

theorem wt_duplicate {p p' : Proc} {a : Option Action} (h : handleDuplicate p = .ok (p', a))
    (hp : ProcWT T D p) : ProcWT T D p' ∧ ActionWT T D a := by
  unfold handleDuplicate at h
  split at h
  · cases h
  · rename_i v s hs
    cases h
    have hst : ListWT T D (v :: s) := hs ▸ hp.stack
    exact ⟨(hp.moved (.cons hst.head hst) hp.locals).bump, trivial⟩

theorem wt_pick {p p' : Proc} {a : Option Action} {n : Nat} (h : handlePick p n = .ok (p', a))
    (hp : ProcWT T D p) : ProcWT T D p' ∧ ActionWT T D a := by
  unfold handlePick at h
  split at h
  · cases h
  · rename_i v hv
    cases h
    exact ⟨(hp.moved (.cons (hp.stack.get hv) hp.stack) hp.locals).bump, trivial⟩

theorem wt_rotate {p p' : Proc} {a : Option Action} {n : Nat} (h : handleRotate p n = .ok (p', a))
    (hp : ProcWT T D p) : ProcWT T D p' ∧ ActionWT T D a := by
  unfold handleRotate at h
  split at h
  · cases h
  · split at h
    · cases h
    · split at h
      · cases h
      · rename_i hitem
        cases h
        exact ⟨(hp.moved (.cons (hp.stack.get hitem) (hp.stack.eraseIdx _)) hp.locals).bump, trivial⟩

theorem wt_reset {p p' : Proc} {a : Option Action} {n : Nat} (h : handleReset p n = .ok (p', a))
    (hp : ProcWT T D p) : ProcWT T D p' ∧ ActionWT T D a := by
  unfold handleReset at h
  split at h
  · cases h
  · split at h
    · cases h
    · cases h
      exact ⟨(hp.moved hp.stack (hp.locals.take _)).bump, trivial⟩

theorem wt_load {p p' : Proc} {a : Option Action} {i : Nat} (h : handleLoad p i = .ok (p', a))
    (hp : ProcWT T D p) : ProcWT T D p' ∧ ActionWT T D a := by
  unfold handleLoad at h
  split at h
  · cases h
  · split at h
    · cases h
    · rename_i v hv
      cases h
      exact ⟨(hp.moved (.cons (hp.locals.get hv) hp.stack) hp.locals).bump, trivial⟩

theorem wt_store {p p' : Proc} {a : Option Action} (h : handleStore p = .ok (p', a)) (hp : ProcWT T D p) :
    ProcWT T D p' ∧ ActionWT T D a := by
  unfold handleStore at h
  split at h
  · cases h
  · rename_i v s hs
    cases h
    have hst : ListWT T D (v :: s) := hs ▸ hp.stack
    exact ⟨(hp.moved hst.tail (hp.locals.append (.cons hst.head .nil))).bump, trivial⟩

theorem wt_get {p p' : Proc} {a : Option Action} {i : Nat} (h : handleGet p i = .ok (p', a))
    (hp : ProcWT T D p) : ProcWT T D p' ∧ ActionWT T D a := by
  unfold handleGet at h
  split at h
  · cases h
  · rename_i id els s hs
    split at h
    · cases h
    · rename_i e he
      cases h
      have hst : ListWT T D (.tup id els :: s) := hs ▸ hp.stack
      obtain ⟨info, _, hf⟩ := hst.head
      exact ⟨(hp.moved (.cons ((fieldsWT_list _ _ hf).get he) hst.tail) hp.locals).bump, trivial⟩
  · cases h

theorem wt_isType (hT : TableInit T) {O : Oracle} {p p' : Proc} {a : Option Action} {id : Nat}
    (h : handleIsType O p id = .ok (p', a)) (hp : ProcWT T D p) : ProcWT T D p' ∧ ActionWT T D a := by
  unfold handleIsType at h
  split at h
  · cases h
  · rename_i v s hs
    cases h
    have hst : ListWT T D (v :: s) := hs ▸ hp.stack
    exact ⟨(hp.moved (.cons (wt_verdict hT _) hst.tail) hp.locals).bump, trivial⟩

theorem wt_jump {p p' : Proc} {a : Option Action} {off : Int} (h : handleJump p off = .ok (p', a))
    (hp : ProcWT T D p) : ProcWT T D p' ∧ ActionWT T D a := by
  unfold handleJump at h
  split at h
  · cases h
  · split at h
    · cases h; exact ⟨hp, trivial⟩
    · cases h; exact ⟨hp.setCounter _, trivial⟩

theorem wt_jumpIf {p p' : Proc} {a : Option Action} {off : Int} (h : handleJumpIf p off = .ok (p', a))
    (hp : ProcWT T D p) : ProcWT T D p' ∧ ActionWT T D a := by
  unfold handleJumpIf at h
  split at h
  · cases h
  · rename_i c s hs
    have hst : ListWT T D (c :: s) := hs ▸ hp.stack
    have hp1 := hp.moved hst.tail hp.locals
    simp only at h
    split at h
    · split at h
      · cases h
      · split at h
        · cases h; exact ⟨hp1, trivial⟩
        · cases h; exact ⟨hp1.setCounter _, trivial⟩
    · cases h; exact ⟨hp1.bump, trivial⟩

theorem wt_tuple {P : Prog} {O : Oracle} {p p' : Proc} {a : Option Action} {id : Nat}
    (h : handleTuple P p id = .ok (p', a)) (hp : ProcWT T D p) (hob : Obligation T D O P p (.tuple id)) :
    ProcWT T D p' ∧ ActionWT T D a := by
  unfold handleTuple at h
  split at h
  · cases h
  · rename_i size hsize
    split at h
    · cases h
    · rename_i hlen
      cases h
      obtain ⟨info, hinfo, htyped⟩ := hob size hsize (Nat.le_of_not_lt hlen)
      have hnew : WT T D (.tup id (ValList.ofList (p.stack.take size).reverse)) :=
        ⟨info, hinfo, fieldsWT_of_typed _ _ (hp.stack.take size).reverse htyped⟩
      exact ⟨(hp.moved (.cons hnew (hp.stack.drop size)) hp.locals).bump, trivial⟩

theorem wt_function {P : Prog} {p p' : Proc} {a : Option Action} {i : Nat}
    (h : handleFunction P p i = .ok (p', a)) (hp : ProcWT T D p) : ProcWT T D p' ∧ ActionWT T D a := by
  unfold handleFunction at h
  split at h
  · cases h
  · rename_i fn _
    split at h
    · cases h
    · cases h
      have hnew : WT T D (.fn i (ValList.ofList (p.stack.take fn.captures).reverse)) :=
        (allWT_iff _).mpr (by rw [ValList.toList_ofList]; exact (hp.stack.take fn.captures).reverse)
      exact ⟨(hp.moved (.cons hnew (hp.stack.drop fn.captures)) hp.locals).bump, trivial⟩

theorem wt_builtinRef {P : Prog} {p p' : Proc} {a : Option Action} {i : Nat}
    (h : handleBuiltin P p i = .ok (p', a)) (hp : ProcWT T D p) : ProcWT T D p' ∧ ActionWT T D a := by
  unfold handleBuiltin at h
  split at h
  · cases h
  · cases h
    exact ⟨(hp.moved (.cons (by trivial) hp.stack) hp.locals).bump, trivial⟩

theorem wt_equal (hT : TableInit T) {O : Oracle} {p p' : Proc} {a : Option Action} {n : Nat}
    (h : handleEqual O p n = .ok (p', a)) (hp : ProcWT T D p) : ProcWT T D p' ∧ ActionWT T D a := by
  unfold handleEqual at h
  split at h
  · cases h
  · split at h
    · cases h
    · cases h
      exact ⟨(hp.moved (.cons (wt_ite hT _) (hp.stack.drop n)) hp.locals).bump, trivial⟩

theorem wt_not (hT : TableInit T) {p p' : Proc} {a : Option Action}
    (h : handleNot p = .ok (p', a)) (hp : ProcWT T D p) : ProcWT T D p' ∧ ActionWT T D a := by
  unfold handleNot at h
  split at h
  · cases h
  · rename_i v s hs
    cases h
    have hst : ListWT T D (v :: s) := hs ▸ hp.stack
    exact ⟨(hp.moved (.cons (wt_verdict hT _) hst.tail) hp.locals).bump, trivial⟩

theorem wt_self {p p' : Proc} {a : Option Action} (h : handleSelf p = .ok (p', a)) (hp : ProcWT T D p) :
    ProcWT T D p' ∧ ActionWT T D a := by
  unfold handleSelf at h
  split at h
  · cases h
  · cases h
    exact ⟨(hp.moved (.cons (by trivial) hp.stack) hp.locals).bump, trivial⟩

theorem wt_processRef {p p' : Proc} {a : Option Action} {pid fidx : Nat}
    (h : handleProcessRef p pid fidx = .ok (p', a)) (hp : ProcWT T D p) : ProcWT T D p' ∧ ActionWT T D a := by
  cases h
  exact ⟨(hp.moved (.cons (by trivial) hp.stack) hp.locals).bump, trivial⟩

theorem wt_caps {fi : Nat} {caps : ValList} (h : WT T D (.fn fi caps)) : ListWT T D caps.toList :=
  (allWT_iff caps).mp h

theorem wt_call {O : Oracle} {P : Prog} {p p' : Proc} {a : Option Action}
    (h : handleCall O P p = .ok (p', a)) (hp : ProcWT T D p)
    (hob : ∀ id param rest v, p.stack = .builtin id :: param :: rest → O.builtin id param = .value v → WT T D v) :
    ProcWT T D p' ∧ ActionWT T D a := by
  unfold handleCall at h
  split at h
  · cases h
  · rename_i fi caps s hstk
    have hst : ListWT T D (.fn fi caps :: s) := hstk ▸ hp.stack
    split at h
    · cases h
    · split at h
      · cases h
      · cases h
        exact ⟨hp.update hst.tail (hp.locals.append (wt_caps hst.head)) rfl rfl rfl, trivial⟩
  · rename_i id s hstk
    have hst : ListWT T D (.builtin id :: s) := hstk ▸ hp.stack
    split at h
    · cases h
    · rename_i param s'
      split at h
      · cases h
      · cases h
      · rename_i v hb
        cases h
        exact ⟨(hp.moved (.cons (hob id param s' v hstk hb) hst.tail.tail) hp.locals).bump, trivial⟩
      · cases h
        exact ⟨hp.update hst.tail.tail hp.locals rfl rfl rfl, trivial⟩
  · cases h

theorem wt_tailCall {P : Prog} {p p' : Proc} {a : Option Action} {r : Bool}
    (h : handleTailCall P p r = .ok (p', a)) (hp : ProcWT T D p) : ProcWT T D p' ∧ ActionWT T D a := by
  unfold handleTailCall at h
  split at h
  · split at h
    · cases h
    · rename_i arg s hstk
      split at h
      · cases h
      · cases h
        exact ⟨hp.update (hstk ▸ hp.stack) (hp.locals.take _) rfl rfl rfl, trivial⟩
  · split at h
    · cases h
    · rename_i fv s hstk
      have hst : ListWT T D (fv :: s) := hstk ▸ hp.stack
      split at h
      · cases h
      · split at h
        · split at h
          · cases h
          · split at h
            · cases h
            · cases h
              exact ⟨hp.update hst.tail ((hp.locals.take _).append (wt_caps hst.head)) rfl rfl rfl, trivial⟩
        · cases h

theorem wt_spawn {p p' : Proc} {a : Option Action} (h : handleSpawn p = .ok (p', a)) (hp : ProcWT T D p) :
    ProcWT T D p' ∧ ActionWT T D a := by
  unfold handleSpawn at h
  split at h
  · cases h
  · split at h
    · cases h
    · rename_i fv s hstk
      have hst : ListWT T D (fv :: s) := hstk ▸ hp.stack
      split at h
      · cases h
      · split at h
        · cases h
          exact ⟨hp.update hst.tail.tail hp.locals rfl rfl rfl, wt_caps hst.head, hst.tail.head⟩
        · cases h

theorem wt_send {p p' : Proc} {a : Option Action} (h : handleSend p = .ok (p', a)) (hp : ProcWT T D p) :
    ProcWT T D p' ∧ ActionWT T D a := by
  unfold handleSend at h
  split at h
  · cases h
  · split at h
    · cases h
    · rename_i target s hstk
      have hst : ListWT T D (target :: s) := hstk ▸ hp.stack
      split at h
      · cases h
      · split at h
        · cases h
          exact ⟨(hp.moved (.cons hst.head hst.tail.tail) hp.locals).bump, hst.tail.head⟩
        · cases h

theorem selectSources_wt {v : Val} (hv : WT T D v) : ListWT T D (selectSources v) := by
  unfold selectSources
  split
  · obtain ⟨info, _, hf⟩ := hv
    exact fieldsWT_list _ _ hf
  · exact .cons hv .nil

theorem ProcWT.selecting {p : Proc} (hs : ListWT T D p.stack) (hl : ListWT T D p.locals)
    (hm : ListWT T D p.mailbox) (hr : ∀ v, p.result = some (.ok v) → WT T D v) {st : SelectState}
    (hsrc : ListWT T D st.sources) (hrc : ∀ k m, st.receiving = some (k, m) → WT T D m)
    (hsel : p.selectState = some st) : ProcWT T D p :=
  ⟨hs, hl, hm, fun st' h' => Option.some.inj (hsel ▸ h') ▸ hsrc,
    fun st' k m h' => Option.some.inj (hsel ▸ h') ▸ hrc k m, hr⟩

theorem wt_selectDecide {O : Oracle} {P : Prog} {p p' : Proc} {a : Option Action} {st : SelectState}
    (h : selectDecide O P p st = .ok (p', a))
    (hs : ListWT T D p.stack) (hl : ListWT T D p.locals) (hm : ListWT T D p.mailbox)
    (hr : ∀ v, p.result = some (.ok v) → WT T D v) (hsrc : ListWT T D st.sources)
    (hob : (∀ v, O.select = .complete v → WT T D v) ∧ (∀ k m, O.select = .callReceive k m → WT T D m)) :
    ProcWT T D p' ∧ ActionWT T D a := by
  unfold selectDecide at h
  split at h
  · rename_i v hsel
    cases h
    exact ⟨ProcWT.bump ⟨.cons (hob.1 v hsel) hs, hl, hm, (fun _ h => nomatch h), (fun _ _ _ h => nomatch h), hr⟩,
      trivial⟩
  · rename_i k msg hsel
    split at h
    · rename_i fi caps hk
      have hmsg : WT T D msg := hob.2 k msg hsel
      refine wt_call h (ProcWT.selecting (.cons (hsrc.get hk) (.cons hmsg hs)) hl hm hr
        (st := { st with receiving := some (k, msg) }) hsrc (fun _ _ h => ?_) rfl) ?_
      · cases h; exact hmsg
      · intro id param rest v hstk
        cases hstk
    · cases h
  · cases h
    exact ⟨ProcWT.selecting hs hl hm hr (st := { st with receiving := none }) hsrc (fun _ _ h => nomatch h) rfl,
      trivial⟩
  · cases h
  · cases h
  · cases h

theorem wt_select {O : Oracle} {P : Prog} {p p' : Proc} {a : Option Action}
    (h : handleSelect O P p = .ok (p', a)) (hp : ProcWT T D p)
    (hob : (∀ v, O.select = .complete v → WT T D v) ∧ (∀ k m, O.select = .callReceive k m → WT T D m)) :
    ProcWT T D p' ∧ ActionWT T D a := by
  unfold handleSelect at h
  split at h
  · rename_i st hss
    split at h
    · cases h
    · split at h
      · split at h
        · cases h
        · rename_i verdict s hstk
          exact wt_selectDecide h (hstk ▸ hp.stack).tail hp.locals hp.mailbox hp.result (hp.sources st hss) hob
      · exact wt_selectDecide h hp.stack hp.locals hp.mailbox hp.result (hp.sources st hss) hob
  · split at h
    · cases h
    · rename_i v s hstk
      have hst : ListWT T D (v :: s) := hstk ▸ hp.stack
      have hsrc := selectSources_wt hst.head
      dsimp only at h
      split at h
      · cases h
        exact ⟨.selecting hst.tail hp.locals hp.mailbox hp.result hsrc (fun _ _ h => by cases h) rfl, trivial⟩
      · cases h
        exact ⟨.selecting hst.tail hp.locals hp.mailbox hp.result hsrc (fun _ _ h => by cases h) rfl, trivial⟩

end QM.Soundness
