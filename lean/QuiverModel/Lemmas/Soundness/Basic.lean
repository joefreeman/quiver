import QuiverModel.Lemmas.Types.Extend
/-
For C01's guard theorem (`C01.guard_unify_sound_partial`): table extension (`Ext`), the first-order
fragment (`foV`, `FO`), transfer of `inh` along extensions and stacks (`inh_ext`), registration, and the
meaning of `unionIds` on the fragment (`flat1`). The model of inference (`Core/Soundness/Infer.lean`)
computes with `foV` and `flat1`, so it imports this module (through `UnifySound`).
-/
namespace QM.Soundness
open QM.Types

/-- `T'` extends `T`: both registries grow at the end only (what `register_*` does). -/
def Ext (T T' : Table) : Prop :=
  (∀ (i : Nat) (t : Ty), T.types[i]? = some t → T'.types[i]? = some t) ∧
  (∀ (i : Nat) (t : TupleInfo), T.tuples[i]? = some t → T'.tuples[i]? = some t)

theorem Ext.refl (T : Table) : Ext T T := ⟨fun _ _ h => h, fun _ _ h => h⟩

theorem Ext.trans {A B C : Table} (h1 : Ext A B) (h2 : Ext B C) : Ext A C :=
  ⟨fun i t h => h2.1 i t (h1.1 i t h), fun i t h => h2.2 i t (h1.2 i t h)⟩

theorem registerType_spec (T : Table) (t : Ty) (T' : Table) (i : Nat)
    (h : T.registerType t = (T', i)) : Ext T T' ∧ T'.types[i]? = some t := by
  have := QM.Types.registerType_spec T t
  rw [h] at this
  exact ⟨⟨this.1.types, this.1.tuples⟩, this.2⟩

theorem registerTuple_spec (T : Table) (n : Option Name) (fs : List (Option Name × Nat)) (T' : Table) (i : Nat)
    (h : T.registerTuple n fs = (T', i)) : Ext T T' ∧ T'.tuples[i]? = some ⟨n, fs⟩ := by
  have := QM.Types.registerTuple_spec T n fs
  rw [h] at this
  exact ⟨⟨this.1.types, this.1.tuples⟩, this.2⟩

/-- first-order, cycle-free types (variables allowed as leaves), explored `n` levels deep. -/
def foV (T : Table) : Nat → Nat → Bool
  | 0, _ => false
  | n + 1, t =>
    match T.types[t]? with
    | some .integer => true
    | some .binary => true
    | some (.variable _) => true
    | some (.tuple id) =>
      match T.tuples[id]? with
      | some info => info.fields.all (fun f => foV T n f.2)
      | none => false
    | some (.union ids) => ids.all (foV T n)
    | _ => false

theorem foV_transfer {T T' : Table} (hE : Ext T T') :
    ∀ (n t m : Nat), foV T n t = true → n ≤ m → foV T' m t = true := by
  intro n
  induction n with
  | zero => intro t m h; simp [foV] at h
  | succ n ih =>
    intro t m h hle
    cases m with
    | zero => omega
    | succ m =>
      have hle' : n ≤ m := by omega
      unfold foV at h ⊢
      cases hty : T.types[t]? with
      | none => rw [hty] at h; simp at h
      | some ty =>
        rw [hty] at h
        rw [hE.1 t ty hty]
        cases ty with
        | integer => rfl
        | binary => rfl
        | «variable» x => rfl
        | reference => simp at h
        | part _ _ => simp at h
        | callable _ _ _ => simp at h
        | cycle _ => simp at h
        | process _ _ => simp at h
        | resource _ => simp at h
        | union ids =>
          simp only at h ⊢
          rw [List.all_eq_true] at h ⊢
          exact fun i hi => ih i m (h i hi) hle'
        | tuple id =>
          simp only at h ⊢
          cases htu : T.tuples[id]? with
          | none => rw [htu] at h; simp at h
          | some info =>
            rw [htu] at h
            rw [hE.2 id info htu]
            simp only at h ⊢
            rw [List.all_eq_true] at h ⊢
            exact fun p hp => ih p.2 m (h p hp) hle'

/-- first-order (with variable leaves), at some depth. Not `QM.Types.FO`, which excludes variables and admits
references, resources and partial types; `open QM.Types` notwithstanding, a bare `FO` in this namespace is this one. -/
def FO (T : Table) (t : Nat) : Prop := ∃ n, foV T n t = true

theorem FO.ext {T T' : Table} (hE : Ext T T') {t : Nat} (h : FO T t) : FO T' t :=
  let ⟨n, hn⟩ := h; ⟨n, foV_transfer hE n t n hn (Nat.le_refl _)⟩

theorem fo_all {T : Table} (l : List Nat) (h : ∀ i ∈ l, FO T i) : ∃ n, ∀ i ∈ l, foV T n i = true :=
  common_fuel (fun n i => foV T n i = true) (fun n m i hnm hi => foV_transfer (Ext.refl T) n i m hi hnm) l h

theorem inh_ext {T T' : Table} (hE : Ext T T') {t : Nat} {v : V} {st st' : List Nat} (hfo : FO T t)
    (h : inh T st t v) : inh T' st' t v := by
  obtain ⟨n, hn⟩ := hfo
  induction n generalizing t v st st' with
  | zero => cases hn
  | succ n ih =>
    unfold foV at hn
    split at hn
    · rename_i hty; exact (inh_integer (hE.1 t _ hty)).mpr ((inh_integer hty).mp h)
    · rename_i hty; exact (inh_binary (hE.1 t _ hty)).mpr ((inh_binary hty).mp h)
    · rename_i hty; exact inh_variable (hE.1 t _ hty)
    · rename_i id hty
      split at hn
      · rename_i info htu
        obtain ⟨name, fs, rfl, hname, hf⟩ := (QM.Types.inh_tuple hty htu).mp h
        refine (QM.Types.inh_tuple (hE.1 t _ hty) (hE.2 id _ htu)).mpr ⟨name, fs, rfl, hname, hf.imp fun c hc w hw => ?_⟩
        obtain ⟨p, hp, rfl⟩ := List.mem_map.mp hc
        exact ih hw (List.all_eq_true.mp hn p hp)
      · cases hn
    · rename_i ids hty
      obtain ⟨i, hi, hv⟩ := (inh_union hty).mp h
      exact (inh_union (hE.1 t _ hty)).mpr ⟨i, hi, ih hv (List.all_eq_true.mp hn i hi)⟩
    · cases hn

/-- the variants `union_type_ids` inlines for one id. -/
def flat1 (T : Table) (id : Nat) : List Nat :=
  match T.types[id]? with
  | some (.union vs) => vs
  | _ => [id]

theorem mem_flattenIds {T : Table} {i : Nat} (ids : List Nat) :
    i ∈ flattenIds T ids ↔ ∃ x ∈ ids, i ∈ flat1 T x := by
  induction ids with
  | nil => exact ⟨(fun h => nomatch h), (fun ⟨_, h, _⟩ => nomatch h)⟩
  | cons y rest ih =>
    show i ∈ flat1 T y ++ flattenIds T rest ↔ _
    simp only [List.mem_append, ih, List.mem_cons, exists_eq_or_imp]

theorem flat1_fo {T : Table} {x : Nat} (h : FO T x) : ∀ i ∈ flat1 T x, FO T i := by
  intro i hi
  obtain ⟨n, hn⟩ := h
  unfold flat1 at hi
  split at hi
  · rename_i vs hty
    cases n with
    | zero => cases hn
    | succ n =>
      unfold foV at hn
      rw [hty] at hn
      exact ⟨n, List.all_eq_true.mp hn i hi⟩
  · cases List.mem_singleton.mp hi
    exact ⟨n, hn⟩

theorem flat1_inh {T : Table} {x : Nat} {v : V} (hfo : FO T x) (h : inh T [] x v) :
    ∃ i ∈ flat1 T x, inh T [] i v := by
  have hfo1 := flat1_fo hfo
  unfold flat1 at hfo1 ⊢
  split
  · rename_i vs hty
    obtain ⟨i, hi, hv⟩ := (QM.Types.inh_union hty).mp h
    exact ⟨i, hi, inh_ext (Ext.refl T) (hfo1 i (by rw [hty]; exact hi)) hv⟩
  · exact ⟨x, List.mem_singleton.mpr rfl, h⟩

theorem unionIds_many {T T' : Table} {ids : List Nat} {u : Nat} (h : unionIds T ids = (T', u))
    (hfo : ∀ x ∈ ids, FO T x) :
    Ext T T' ∧ FO T' u ∧ ∀ v, (∃ x ∈ ids, inh T [] x v) → inh T' [] u v := by
  unfold unionIds at h
  generalize hl : dedupKeep [] (flattenIds T ids) = l at h
  have hmem : ∀ i, i ∈ l ↔ ∃ x ∈ ids, i ∈ flat1 T x := fun i => by
    rw [← hl, QM.Types.mem_dedupKeep, mem_flattenIds]
    exact and_iff_left (fun h => nomatch h)
  have hmemFO : ∀ i ∈ l, FO T i := fun i hi =>
    let ⟨x, hx, hix⟩ := (hmem i).mp hi
    flat1_fo (hfo x hx) i hix
  have hcover : ∀ v, (∃ x ∈ ids, inh T [] x v) → ∃ i ∈ l, inh T [] i v := by
    rintro v ⟨x, hx, hv⟩
    obtain ⟨i, hi, hiv⟩ := flat1_inh (hfo x hx) hv
    exact ⟨i, (hmem i).mpr ⟨x, hx, hi⟩, hiv⟩
  have reg : ∀ (l : List Nat), (∀ i ∈ l, FO T i) → T.registerType (.union l) = (T', u) →
      Ext T T' ∧ FO T' u ∧ ∀ v, (∃ i ∈ l, inh T [] i v) → inh T' [] u v := by
    intro l hl h
    obtain ⟨hE, hu⟩ := registerType_spec T (.union l) T' u h
    obtain ⟨n, hn⟩ := fo_all l hl
    refine ⟨hE, ⟨n + 1, ?_⟩, ?_⟩
    · unfold foV; rw [hu]
      exact List.all_eq_true.mpr fun i hi => foV_transfer hE n i n (hn i hi) (Nat.le_refl _)
    · rintro v ⟨i, hi, hf⟩
      exact (QM.Types.inh_union hu).mpr ⟨i, hi, inh_ext hE ⟨n, hn i hi⟩ hf⟩
  match l, h, hmemFO, hcover with
  | [], h, hmemFO, hcover =>
    obtain ⟨hE, hfu, hin⟩ := reg [] hmemFO h
    exact ⟨hE, hfu, fun v hv => hin v (hcover v hv)⟩
  | [z], h, hmemFO, hcover =>
    cases h
    refine ⟨Ext.refl _, hmemFO _ List.mem_cons_self, fun v hv => ?_⟩
    obtain ⟨i, hi, hiv⟩ := hcover v hv
    cases List.mem_singleton.mp hi
    exact hiv
  | a :: b :: rest, h, hmemFO, hcover =>
    obtain ⟨hE, hfu, hin⟩ := reg _ hmemFO h
    exact ⟨hE, hfu, fun v hv => hin v (hcover v hv)⟩

theorem unionIds_pair {T T' : Table} {x y u : Nat} (h : unionIds T [x, y] = (T', u))
    (hx : FO T x) (hy : FO T y) :
    Ext T T' ∧ FO T' u ∧ ∀ v, (inh T [] x v ∨ inh T [] y v) → inh T' [] u v := by
  obtain ⟨hE, hfu, hin⟩ := unionIds_many h (by
    intro z hz
    rcases List.mem_cons.mp hz with rfl | hz
    · exact hx
    · cases List.mem_singleton.mp hz; exact hy)
  exact ⟨hE, hfu, fun v hv => hin v (hv.elim (fun h => ⟨x, List.mem_cons_self, h⟩)
    fun h => ⟨y, List.mem_cons_of_mem _ List.mem_cons_self, h⟩)⟩

end QM.Soundness
