import QuiverModel.Core.Soundness.Infer
import QuiverModel.Core.RefSem.Eval
import QuiverModel.Lemmas.Types.InhLemmas
/-
For `C01.infer_sound_fragment` (`Theorems/C01Infer.lean`): run-time values of the reference
semantics as values of the type model (`toV`), the typing relation `VT`, and the facts about the
table look-ups the model of the inference makes (`findType`, `tupleType`, `unionPair`, `withoutNil`, `nilIn`).
-/
namespace QM.Soundness
open QM.Types QM.RefSem

mutual
  /-- a first-order value of the reference semantics as a value of the type model (names interned
  by `nm`); closures and builtins have no image. -/
  def toV (nm : String → Name) : RefSem.Val → Option V
    | .int z => some (.int z)
    | .bin bs => some (.bin bs)
    | .tup n fs =>
      match toVFields nm fs with
      | some ws => some (.tup (n.map nm) ws)
      | none => none
    | .clo _ _ _ => none
    | .builtin _ => none
  def toVFields (nm : String → Name) : RefSem.Fields → Option VFields
    | [] => some .nil
    | (l, v) :: rest =>
      match toV nm v, toVFields nm rest with
      | some w, some ws => some (.cons (l.map nm) w ws)
      | _, _ => none
end

/-- `v` is a value of type `t` of the table. -/
def VT (c : Ctx) (t : Nat) (v : RefSem.Val) : Prop := ∃ w, toV c.nm v = some w ∧ inh c.T [] t w

theorem toV_notCallable {nm : String → Name} {v : RefSem.Val} {w : V} (h : toV nm v = some w) :
    v.isCallable = false := by
  cases v <;> simp [toV, Val.isCallable] at *

theorem VT.notCallable {c : Ctx} {t : Nat} {v : RefSem.Val} (h : VT c t v) : v.isCallable = false :=
  let ⟨_, hw, _⟩ := h
  toV_notCallable hw

theorem toV_int_inv {nm : String → Name} {v : RefSem.Val} {z : Int} (h : toV nm v = some (.int z)) :
    v = .int z := by
  cases v with
  | int z' => simp [toV] at h; rw [h]
  | bin _ => simp [toV] at h
  | tup n fs => simp only [toV] at h; split at h <;> simp at h
  | clo _ _ _ => simp [toV] at h
  | builtin _ => simp [toV] at h

theorem toV_bin_inv {nm : String → Name} {v : RefSem.Val} {bs : List UInt8} (h : toV nm v = some (.bin bs)) :
    v = .bin bs := by
  cases v with
  | int _ => simp [toV] at h
  | bin b' => simp [toV] at h; rw [h]
  | tup n fs => simp only [toV] at h; split at h <;> simp at h
  | clo _ _ _ => simp [toV] at h
  | builtin _ => simp [toV] at h

theorem toV_tup_inv {nm : String → Name} {v : RefSem.Val} {n : Option Name} {ws : VFields}
    (h : toV nm v = some (.tup n ws)) :
    ∃ n' fs, v = .tup n' fs ∧ n'.map nm = n ∧ toVFields nm fs = some ws := by
  cases v with
  | int _ => simp [toV] at h
  | bin _ => simp [toV] at h
  | tup n' fs =>
    simp only [toV] at h
    split at h
    · rename_i ws' hws
      simp only [Option.some.injEq, V.tup.injEq] at h
      exact ⟨n', fs, rfl, h.1, by rw [hws, h.2]⟩
    · simp at h
  | clo _ _ _ => simp [toV] at h
  | builtin _ => simp [toV] at h

theorem toVFields_nil_inv {nm : String → Name} {fs : RefSem.Fields} (h : toVFields nm fs = some .nil) :
    fs = [] := by
  cases fs with
  | nil => rfl
  | cons p rest =>
    obtain ⟨l, v⟩ := p
    simp only [toVFields] at h
    split at h <;> simp at h

theorem toVFields_cons_inv {nm : String → Name} {fs : RefSem.Fields} {l : Option Name} {w : V} {ws : VFields}
    (h : toVFields nm fs = some (.cons l w ws)) :
    ∃ l' v rest, fs = (l', v) :: rest ∧ l'.map nm = l ∧ toV nm v = some w ∧ toVFields nm rest = some ws := by
  cases fs with
  | nil => simp [toVFields] at h
  | cons p rest =>
    obtain ⟨l', v⟩ := p
    simp only [toVFields] at h
    split at h
    · rename_i w' ws' hw hws
      simp only [Option.some.injEq, VFields.cons.injEq] at h
      exact ⟨l', v, rest, rfl, h.1, by rw [hw, h.2.1], by rw [hws, h.2.2]⟩
    · simp at h

theorem toVFields_index {nm : String → Name} (fs : RefSem.Fields) : ∀ (ws : VFields) (k : Nat) (l : Option Name)
    (u : V), toVFields nm fs = some ws → ws.toList[k]? = some (l, u) →
    ∃ u', fieldByIndex fs k = some u' ∧ toV nm u' = some u := by
  induction fs with
  | nil =>
    intro ws k l u h hk
    cases h
    cases hk
  | cons p rest ih =>
    intro ws k l u h hk
    obtain ⟨l', v⟩ := p
    simp only [toVFields] at h
    split at h
    · rename_i w ws' hw hws
      cases h
      cases k with
      | zero =>
        cases Option.some.inj hk
        exact ⟨v, rfl, hw⟩
      | succ k => exact ih ws' k l u hws hk
    · cases h

theorem indexOf_spec {α : Type} [DecidableEq α] (a : α) (l : List α) : ∀ (k i : Nat),
    indexOf a l k = some i → ∃ j, i = k + j ∧ l[j]? = some a := by
  induction l with
  | nil => intro k i h; cases h
  | cons x xs ih =>
    intro k i h
    unfold indexOf at h
    split at h
    · rename_i hx
      cases h
      exact ⟨0, rfl, by rw [hx]; rfl⟩
    · obtain ⟨j, hj, hl⟩ := ih (k + 1) i h
      exact ⟨j + 1, by omega, hl⟩

theorem findType_spec {T : Table} {ty : Types.Ty} {i : Nat} (h : findType T ty = some i) :
    T.types[i]? = some ty := by
  obtain ⟨j, hj, hl⟩ := indexOf_spec ty T.types 0 i h
  have : i = j := by omega
  rw [this]; exact hl

theorem tupleType_spec {T : Table} {n : Option Name} {fs : List (Option Name × Nat)} {t : Nat}
    (h : tupleType T n fs = some t) :
    ∃ id, T.types[t]? = some (.tuple id) ∧ T.tuples[id]? = some ⟨n, fs⟩ := by
  unfold tupleType at h
  split at h
  · rename_i id hid
    obtain ⟨j, hj, hl⟩ := indexOf_spec (⟨n, fs⟩ : TupleInfo) T.tuples 0 id hid
    have : id = j := by omega
    exact ⟨id, findType_spec h, by rw [this]; exact hl⟩
  · simp at h

theorem inh_isNilTy {T : Table} {t : Nat} {w : V} {st : List Nat} (hn : isNilTy T t = true) (h : inh T st t w) :
    w = .tup none .nil := by
  unfold isNilTy at hn
  split at hn
  · rename_i id hty
    split at hn
    · rename_i htu
      obtain ⟨name, fs, rfl, hname, hf⟩ := (QM.Types.inh_tuple hty htu).mp h
      cases fs with
      | nil => rw [hname]
      | cons _ _ _ => cases hf
    · cases hn
  · cases hn

theorem nilIn_complete {T : Table} (n : Nat) : ∀ (t : Nat) (st : List Nat),
    inh T st t (.tup none .nil) → nilIn T n t = true := by
  induction n with
  | zero => intro _ _ _; rfl
  | succ n ih =>
    intro t st h
    unfold nilIn
    -- `nilIn` answers `false` on `'int`, `'bin` and on the tuple types other than nil only
    split
    · rename_i hty
      cases (QM.Types.inh_integer hty).mp h with
      | intro _ hz => cases hz
    · rename_i hty
      cases (QM.Types.inh_binary hty).mp h with
      | intro _ hz => cases hz
    · rename_i id hty
      cases htu : T.tuples[id]? with
      | none => exact absurd h (inh_tuple_missing hty htu)
      | some info =>
        obtain ⟨name, fs, hv, hname, hf⟩ := (QM.Types.inh_tuple hty htu).mp h
        cases hv
        obtain ⟨_, fields⟩ := info
        cases hname
        cases fields with
        | nil => unfold isNilTy; rw [hty]; dsimp only; rw [htu]
        | cons _ _ => cases hf
    · rename_i ids hty
      obtain ⟨i, hi, hv⟩ := (QM.Types.inh_union hty).mp h
      exact List.any_eq_true.mpr ⟨i, hi, ih i _ hv⟩
    · rfl

theorem unionOfTypes_fo {T : Table} {fuel u : Nat} {tys : List Nat} (h : unionOfTypes T fuel tys = some u)
    (ty : Nat) (hty : ty ∈ tys) : FO T ty := by
  unfold unionOfTypes at h
  split at h
  · rename_i hall
    exact ⟨fuel, List.all_eq_true.mp hall ty hty⟩
  · simp at h

theorem unionMany_inh {T : Table} {fuel u : Nat} {ids : List Nat} (h : unionMany T fuel ids = some u)
    (w : V) (x : Nat) (hx : x ∈ ids) (hw : inh T [] x w) : inh T [] u w := by
  unfold unionMany at h
  split at h
  · rename_i hall
    split at h
    · rename_i hT
      simp only [Option.some.injEq] at h
      have hp : unionIds T ids = (T, u) := by
        cases hq : unionIds T ids with
        | mk T' u' => rw [hq] at hT h; simp only at hT h; rw [hT, h]
      exact (unionIds_many hp (fun y hy => ⟨fuel, List.all_eq_true.mp hall y hy⟩)).2.2 w ⟨x, hx, hw⟩
    · simp at h
  · simp at h

theorem unionPair_inh {T : Table} {fuel x y u : Nat} (h : unionPair T fuel x y = some u) (w : V)
    (hw : inh T [] x w ∨ inh T [] y w) : inh T [] u w := by
  have hm : unionMany T fuel [x, y] = some u := by
    simpa only [unionPair, unionMany, List.all_cons, List.all_nil, Bool.and_true] using h
  rcases hw with hw | hw
  · exact unionMany_inh hm w x List.mem_cons_self hw
  · exact unionMany_inh hm w y (List.mem_cons_of_mem _ List.mem_cons_self) hw

theorem unionOfTypes_inh {T : Table} {fuel u : Nat} {tys : List Nat} (h : unionOfTypes T fuel tys = some u)
    (w : V) (ty : Nat) (hty : ty ∈ tys) (hw : inh T [] ty w) : inh T [] u w := by
  unfold unionOfTypes at h
  have hm : ty ∈ tys.eraseDups := List.mem_eraseDups.mpr hty
  split at h
  case isFalse => simp at h
  split at h
  · rename_i a ha
    rw [ha] at hm
    simp only [List.mem_singleton] at hm
    simp only [Option.some.injEq] at h
    rw [← h, ← hm]; exact hw
  · rename_i a b hab
    rw [hab] at hm
    simp only [List.mem_cons, List.not_mem_nil, or_false] at hm
    rcases hm with hm | hm
    · exact unionPair_inh h w (Or.inl (hm ▸ hw))
    · exact unionPair_inh h w (Or.inr (hm ▸ hw))
  · simp at h

theorem withoutNil_inh {T : Table} {fuel t t' : Nat} (h : withoutNil T fuel t = some t') (w : V)
    (hw : inh T [] t w) (hnn : w ≠ .tup none .nil) : inh T [] t' w := by
  unfold withoutNil at h
  split at h
  · rename_i hfo
    obtain ⟨i, hi, hiw⟩ := flat1_inh ⟨fuel, hfo⟩ hw
    have hin : isNilTy T i = false := by
      cases hb : isNilTy T i with
      | false => rfl
      | true => exact absurd (inh_isNilTy hb hiw) hnn
    have hmem : i ∈ (flat1 T t).filter (fun i => !isNilTy T i) := by
      simp [List.mem_filter, hi, hin]
    split at h
    · simp at h
    · exact unionMany_inh h w i hmem hiw
  · simp at h

end QM.Soundness
