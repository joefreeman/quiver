import QuiverModel.Lemmas.Sys.Helper
/-
Every micro step as an output committed to the system.

Every handler that runs on worker `i` — a command, the executor step, the completion check — computes an `Out` (new
worker state, events, entries for the ghost histories) from the worker's own state, the program and the clock;
`Sys.commit` puts it into the system, so what such a step leaves alone is read off `commit` by `rfl`.  `CmdStep`, `ExecStep`
and `checkOut`/`ChkOut` list what the three handlers can hand back; `CmdFault` lists the commands that raise the fault flag
instead; `CmdCase` and `ExecCase` say the same by kind, for the invariants that read only the process table, `spawning`, the await registry and the
events (`CmdStep.case`, `ExecStep.case`).
The environment is the same with `EnvOut`/`Sys.envCommit`/`EnvStep` (`handleEvent_step`).  `Step R s s'` is one micro
step with the worker's part in that form (`WStep` is that part alone), and the induction principle of every invariant
(`microStep_step`, `run_invariant'` in Start.lean).
-/
namespace QM.Sys
variable [Cfg]

/-- the ProcessExited report of `noteExit`, as a list of events -/
def exitEvts (cur : Pid) (x : Proc) : List Evt := if Cfg.exitReports && !x.sleepsAfter then [.exited cur] else []

theorem noteExit_eq_emit (s : Sys) (i : Wid) (cur : Pid) (x : Proc) : s.noteExit i cur x = s.emit i (exitEvts cur x) := by
  unfold Sys.noteExit exitEvts; split
  · rfl
  · exact (s.emit_nil i).symm

theorem mem_exitEvts {cur : Pid} {x : Proc} {e : Evt} (h : e ∈ exitEvts cur x) : e = .exited cur := by
  unfold exitEvts at h; split at h
  · exact List.mem_singleton.mp h
  · cases h

structure Out where
  wk : WorkerSt
  evs : List Evt := []
  sent : List (Pid × Msg) := []
  appended : List (Pid × Msg) := []
  dropped : List (Pid × Msg) := []
  deadDropped : List (Pid × Msg) := []
  spawnNotified : List (Pid × Pid × Bool) := []
  reported : List (Pid × Pid) := []
  learned : List (Pid × Pid) := []

def Sys.commit (s : Sys) (i : Wid) (o : Out) : Sys :=
  { s with wk := upd s.wk i o.wk, evtQ := upd s.evtQ i (s.evtQ i ++ o.evs), sent := s.sent ++ o.sent,
           appended := s.appended ++ o.appended, dropped := s.dropped ++ o.dropped,
           deadDropped := s.deadDropped ++ o.deadDropped, spawnNotified := s.spawnNotified ++ o.spawnNotified,
           reported := s.reported ++ o.reported, learned := s.learned ++ o.learned }

theorem commit_wk_self (s : Sys) (i : Wid) (o : Out) : (s.commit i o).wk i = o.wk := upd_same _ _ _

theorem commit_wk_other (s : Sys) {i w : Wid} (o : Out) (hw : w ≠ i) : (s.commit i o).wk w = s.wk w := upd_other _ _ _ _ hw

theorem commit_evtQ_self (s : Sys) (i : Wid) (o : Out) : (s.commit i o).evtQ i = s.evtQ i ++ o.evs := upd_same _ _ _

theorem commit_evtQ_other (s : Sys) {i w : Wid} (o : Out) (hw : w ≠ i) : (s.commit i o).evtQ w = s.evtQ w := upd_other _ _ _ _ hw

theorem commit_appended {s : Sys} {i : Wid} {o : Out} (h : o.appended = []) : (s.commit i o).appended = s.appended := by
  show s.appended ++ _ = _; rw [h, List.append_nil]

theorem commit_sent {s : Sys} {i : Wid} {o : Out} (h : o.sent = []) : (s.commit i o).sent = s.sent := by
  show s.sent ++ _ = _; rw [h, List.append_nil]

theorem mem_commit_evtQ {s : Sys} {i w : Wid} {o : Out} {e : Evt} (h : e ∈ (s.commit i o).evtQ w) :
    e ∈ s.evtQ w ∨ (w = i ∧ e ∈ o.evs) := by
  have h' : e ∈ upd s.evtQ i (s.evtQ i ++ o.evs) w := h
  rw [upd_apply] at h'
  split at h'
  · rename_i hw; subst hw; exact (List.mem_append.mp h').imp id fun h2 => ⟨rfl, h2⟩
  · exact Or.inl h'

theorem mem_evtQ_commit {s : Sys} {w : Wid} {e : Evt} (i : Wid) (o : Out) (h : e ∈ s.evtQ w) : e ∈ (s.commit i o).evtQ w :=
  mem_upd_append_left h

/-- the cases of `handleCmdWith` that do not fault, for a worker in state `w` -/
inductive CmdStep (R : Rules) (prog : Prog) (w : WorkerSt) : Cmd → Out → Prop
  | misc : CmdStep R prog w .misc { wk := w }
  | start (p : Pid) : CmdStep R prog w (.start p) { wk := w.setProc p (Proc.sleeping p) }
  | resume (p : Pid) (fn : Nat) (x : Proc) (v : Val) : fn < prog.length → w.procs p = some x → x.result = some (.ok v) →
      x.persistent = true →
      CmdStep R prog w (.resume p fn)
        { wk := { w with procs := upd w.procs p (some { x with result := none, fn := fn, pc := 0, acc := [] }),
                         queue := w.queue ++ [p] } }
  | spawn (p : Pid) (fn : Nat) (regs : List Pid) : fn < prog.length →
      CmdStep R prog w (.spawn p fn regs) { wk := { (w.setProc p (Proc.fresh fn (p :: regs))) with queue := w.queue ++ [p] } }
  | notifyNone (caller newPid : Pid) : w.procs caller = none →
      CmdStep R prog w (.notifySpawn caller newPid)
        { wk := { w with spawning := serase w.spawning caller }, spawnNotified := [(caller, newPid, false)] }
  | notifySome (caller newPid : Pid) (x : Proc) : w.procs caller = some x →
      CmdStep R prog w (.notifySpawn caller newPid)
        { wk :=
            let w2 := { w with spawning := serase w.spawning caller,
                               procs := upd w.procs caller (some { x with regs := x.regs ++ [newPid], pc := x.pc + 1, spawnIssued := false }) }
            if decide (caller ∈ w.spawning) then { w2 with queue := w2.queue ++ [caller] } else w2,
          spawnNotified := [(caller, newPid, decide (caller ∈ w.spawning))] }
  | deliverNone (t : Pid) (m : Msg) : w.procs t = none →
      CmdStep R prog w (.deliver t m) { wk := w.wakeSelecting t, dropped := [(t, m)] }
  | deliverDead (t : Pid) (m : Msg) (x : Proc) : w.procs t = some x → Cfg.releaseDead = true → x.deliverable = false →
      CmdStep R prog w (.deliver t m) { wk := w.wakeSelecting t, appended := [(t, m)], deadDropped := [(t, m)] }
  | deliver (t : Pid) (m : Msg) (x : Proc) : w.procs t = some x → (Cfg.releaseDead && !x.deliverable) = false →
      CmdStep R prog w (.deliver t m)
        { wk := ({ w with procs := upd w.procs t (some { x with mailbox := x.mailbox ++ [m] }) } : WorkerSt).wakeSelecting t,
          appended := [(t, m)] }
  | queryAwait (a : Pid) (ts : List Pid) :
      CmdStep R prog w (.queryAwait a ts)
        { wk := (queryTargets w a ts).1, evs := [.procResults a (queryTargets w a ts).2],
          reported := reportedOf a (queryTargets w a ts).2 }
  | updateAwait (a : Pid) (rs : Results) :
      CmdStep R prog w (.updateAwait a rs)
        { wk := if R.wakeOnlyIfEmpty && rs.any (fun tr => tr.2.isSome) then applyResults w a rs
                else R.emptyWake (applyResults w a rs) a,
          learned := reportedOf a rs }
  | getResult (req : Nat) (p : Pid) (x : Proc) (r : Res) : w.procs p = some x → x.result = some r →
      CmdStep R prog w (.getResult req p) { wk := w, evs := [.resultResp req r] }
  | getLater (req : Nat) (p : Pid) (x : Proc) : w.procs p = some x → x.result = none →
      CmdStep R prog w (.getResult req p)
        { wk := { w with resultReqKeys := sinsert w.resultReqKeys p, resultReqs := upd w.resultReqs p (w.resultReqs p ++ [req]) } }

theorem commit_same (s : Sys) (i : Wid) : s.commit i { wk := s.wk i } = s := by
  cases s; simp [Sys.commit]

/-- the commands `handleCmdWith` may answer with a fault: a `resume` (it faults unless the process sleeps with a value:
`CmdStep.resume`), a `spawn` of a function that does not exist, a `getResult` for an unknown process -/
inductive CmdFault (prog : Prog) (w : WorkerSt) : Cmd → Prop
  | resume (p : Pid) (fn : Nat) : CmdFault prog w (.resume p fn)
  | spawn (p : Pid) (fn : Nat) (regs : List Pid) : fn ≥ prog.length → CmdFault prog w (.spawn p fn regs)
  | getResult (req : Nat) (p : Pid) : w.procs p = none → CmdFault prog w (.getResult req p)

/-- **How a command is handled** is decided by the worker's state and the program: a fault, or
one of the cases of `CmdStep`, whose output is committed. -/
theorem handleCmd_cases (R : Rules) (i : Wid) (c : Cmd) (w : WorkerSt) (prog : Prog) :
    (CmdFault prog w c ∧ ∀ s : Sys, s.wk i = w → s.prog = prog → handleCmdWith R s i c = s.setFault) ∨
    ∃ o, CmdStep R prog w c o ∧ ∀ s : Sys, s.wk i = w → s.prog = prog → handleCmdWith R s i c = s.commit i o := by
  cases c with
  | misc => exact Or.inr ⟨_, .misc, fun s hw _ => by subst hw; exact (commit_same s i).symm⟩
  | start p => exact Or.inr ⟨_, .start p, fun s hw _ => by subst hw; simp [handleCmdWith, Sys.commit, Sys.setWk]⟩
  | resume p fn =>
    by_cases hfn : fn ≥ prog.length
    · exact Or.inl ⟨.resume p fn, fun s hw hp => by subst hw hp; simp only [handleCmdWith, if_pos hfn]⟩
    cases hx : w.procs p with
    | none => exact Or.inl ⟨.resume p fn, fun s hw hp => by subst hw hp; simp only [handleCmdWith, if_neg hfn, hx]⟩
    | some x =>
      cases hr : x.result with
      | none => exact Or.inl ⟨.resume p fn, fun s hw hp => by subst hw hp; simp only [handleCmdWith, if_neg hfn, hx, hr]⟩
      | some r =>
        cases r with
        | err => exact Or.inl ⟨.resume p fn, fun s hw hp => by subst hw hp; simp only [handleCmdWith, if_neg hfn, hx, hr]⟩
        | ok v =>
          cases hpe : x.persistent with
          | false => exact Or.inl ⟨.resume p fn, fun s hw hp => by subst hw hp; simp [handleCmdWith, hx, hr, hpe]⟩
          | true =>
            exact Or.inr ⟨_, .resume p fn x v (Nat.lt_of_not_ge hfn) hx hr hpe, fun s hw hp => by
              subst hw hp; simp [handleCmdWith, if_neg hfn, hx, hr, hpe, Sys.commit, Sys.setWk]⟩
  | spawn p fn regs =>
    by_cases hfn : fn ≥ prog.length
    · exact Or.inl ⟨.spawn p fn regs hfn, fun s hw hp => by subst hw hp; simp only [handleCmdWith, if_pos hfn]⟩
    · exact Or.inr ⟨_, .spawn p fn regs (Nat.lt_of_not_ge hfn), fun s hw hp => by
        subst hw hp; simp [handleCmdWith, if_neg hfn, Sys.commit, Sys.setWk]⟩
  | notifySpawn caller newPid =>
    cases hx : w.procs caller with
    | none => exact Or.inr ⟨_, .notifyNone caller newPid hx, fun s hw _ => by
        subst hw; simp [handleCmdWith, hx, Sys.commit, Sys.setWk]⟩
    | some x => exact Or.inr ⟨_, .notifySome caller newPid x hx, fun s hw _ => by
        subst hw; simp [handleCmdWith, hx, Sys.commit, Sys.setWk]⟩
  | deliver t m =>
    cases hx : w.procs t with
    | none => exact Or.inr ⟨_, .deliverNone t m hx, fun s hw _ => by
        subst hw; simp [handleCmdWith, hx, Sys.commit, Sys.setWk]⟩
    | some x =>
      cases hd : (Cfg.releaseDead && !x.deliverable) with
      | true =>
        have hd' := hd; simp only [Bool.and_eq_true, Bool.not_eq_true'] at hd'
        exact Or.inr ⟨_, .deliverDead t m x hx hd'.1 hd'.2, fun s hw _ => by
          subst hw; simp [handleCmdWith, hx, hd, Sys.commit, Sys.setWk]⟩
      | false => exact Or.inr ⟨_, .deliver t m x hx hd, fun s hw _ => by
          subst hw; simp [handleCmdWith, hx, hd, Sys.commit, Sys.setWk]⟩
  | queryAwait a ts => exact Or.inr ⟨_, .queryAwait a ts, fun s hw _ => by
      subst hw; simp [handleCmdWith, Sys.commit, Sys.setWk, Sys.pushEvt]⟩
  | updateAwait a rs => exact Or.inr ⟨_, .updateAwait a rs, fun s hw _ => by
      subst hw; simp [handleCmdWith, Sys.commit, Sys.setWk]⟩
  | getResult req p =>
    cases hx : w.procs p with
    | none => exact Or.inl ⟨.getResult req p hx, fun s hw _ => by subst hw; simp only [handleCmdWith, hx]⟩
    | some x =>
      cases hr : x.result with
      | some r => exact Or.inr ⟨_, .getResult req p x r hx hr, fun s hw _ => by
          subst hw; simp [handleCmdWith, hx, hr, Sys.commit, Sys.pushEvt]⟩
      | none => exact Or.inr ⟨_, .getLater req p x hx hr, fun s hw _ => by
          subst hw; simp [handleCmdWith, hx, hr, Sys.commit, Sys.setWk]⟩


theorem handleCmd_step (R : Rules) (i : Wid) (c : Cmd) (w : WorkerSt) (prog : Prog) :
    (∀ s : Sys, s.wk i = w → s.prog = prog → handleCmdWith R s i c = s.setFault) ∨
    ∃ o, CmdStep R prog w c o ∧ ∀ s : Sys, s.wk i = w → s.prog = prog → handleCmdWith R s i c = s.commit i o :=
  (handleCmd_cases R i c w prog).imp_left And.right

theorem CmdStep.sent {R : Rules} {prog : Prog} {w : WorkerSt} {c : Cmd} {o : Out} (h : CmdStep R prog w c o) : o.sent = [] := by
  cases h <;> rfl

theorem CmdStep.evs_spec {R : Rules} {prog : Prog} {w : WorkerSt} {c : Cmd} {o : Out} (h : CmdStep R prog w c o) :
    ∀ e ∈ o.evs, (∃ a ts, c = .queryAwait a ts ∧ e = .procResults a (queryTargets w a ts).2) ∨ ∃ req r, e = .resultResp req r := by
  intro e he
  cases h with
  | queryAwait a ts => exact Or.inl ⟨a, ts, rfl, List.mem_singleton.mp he⟩
  | getResult req p x r => exact Or.inr ⟨req, r, List.mem_singleton.mp he⟩
  | _ => cases he

theorem CmdStep.appended_spec {R : Rules} {prog : Prog} {w : WorkerSt} {c : Cmd} {o : Out} (h : CmdStep R prog w c o) :
    o.appended = [] ∨ ∃ t m x, c = .deliver t m ∧ w.procs t = some x ∧ o.appended = [(t, m)] := by
  cases h with
  | deliverDead t m x hx => exact Or.inr ⟨t, m, x, rfl, hx, rfl⟩
  | deliver t m x hx => exact Or.inr ⟨t, m, x, rfl, hx, rfl⟩
  | _ => exact Or.inl rfl

theorem noteExit_commit (s : Sys) (i : Wid) (W : WorkerSt) (cur : Pid) (x : Proc) :
    (s.setWk i W).noteExit i cur x = s.commit i { wk := W, evs := exitEvts cur x } := by
  rw [noteExit_eq_emit]
  simp only [Sys.commit, Sys.emit, Sys.setWk, List.append_nil]

/-- what `execStep` does with the outcome of the time slice of `cur`, whose state after it is `x'` -/
def sliceOut (w1 : WorkerSt) (cur : Pid) (x' : Proc) (ordQ : List Pid) : Outcome → Out
  | .cont => { wk := { w1 with procs := upd w1.procs cur (some x'), queue := w1.queue ++ [cur] } }
  | .send t m => { wk := { w1 with procs := upd w1.procs cur (some x'), queue := w1.queue ++ [cur] },
                   evs := [.deliver t m], sent := [(t, m)] }
  | .spawn fn regs => { wk := { w1 with procs := upd w1.procs cur (some x'), spawning := sinsert w1.spawning cur },
                        evs := [.spawn cur fn regs none] }
  | .awaitInit ts => { wk := { w1 with procs := upd w1.procs cur (some x'), selecting := sinsert w1.selecting cur },
                       evs := [.await cur ts] }
  | .blocked => { wk := { w1 with procs := upd w1.procs cur (some x'), selecting := sinsert w1.selecting cur } }
  | .failed => { wk := ({ w1 with procs := upd w1.procs cur (some x') } : WorkerSt).finish cur x' ordQ, evs := exitEvts cur x' }
  | .done => { wk := ({ w1 with procs := upd w1.procs cur (some x') } : WorkerSt).finish cur x' ordQ, evs := exitEvts cur x' }

theorem mem_sliceOut_evs {w1 : WorkerSt} {cur : Pid} {x' : Proc} {ordQ : List Pid} {out : Outcome} {e : Evt}
    (h : e ∈ (sliceOut w1 cur x' ordQ out).evs) :
    e = .exited cur ∨ (∃ t m, out = .send t m ∧ e = .deliver t m) ∨ (∃ fn regs, out = .spawn fn regs ∧ e = .spawn cur fn regs none) ∨
    ∃ ts, out = .awaitInit ts ∧ e = .await cur ts := by
  cases out with
  | send t m => exact Or.inr (Or.inl ⟨t, m, rfl, List.mem_singleton.mp h⟩)
  | spawn fn regs => exact Or.inr (Or.inr (Or.inl ⟨fn, regs, rfl, List.mem_singleton.mp h⟩))
  | awaitInit ts => exact Or.inr (Or.inr (Or.inr ⟨ts, rfl, List.mem_singleton.mp h⟩))
  | failed => exact Or.inl (mem_exitEvts h)
  | done => exact Or.inl (mem_exitEvts h)
  | _ => cases h

/-- the cases of `execStep` for a worker whose state, after `check_expired_timeouts`, is `w0` -/
inductive ExecStep (prog : Prog) (now : Nat) (fuel : Nat) (ordQ : List Pid) (w0 : WorkerSt) : Out → Prop
  | idle : w0.queue = [] → ExecStep prog now fuel ordQ w0 { wk := w0 }
  | gone (cur : Pid) (rest : List Pid) : w0.queue = cur :: rest → w0.procs cur = none →
      ExecStep prog now fuel ordQ w0 { wk := { w0 with queue := rest } }
  | errored (cur : Pid) (rest : List Pid) (x : Proc) : w0.queue = cur :: rest → w0.procs cur = some x → x.result = some .err →
      ExecStep prog now fuel ordQ w0 { wk := ({ w0 with queue := rest } : WorkerSt).finish cur x ordQ, evs := exitEvts cur x }
  | ran (cur : Pid) (rest : List Pid) (x x' : Proc) (out : Outcome) : w0.queue = cur :: rest → w0.procs cur = some x →
      x.result ≠ some .err → slice prog now cur fuel x = (x', out) →
      ExecStep prog now fuel ordQ w0 (sliceOut { w0 with queue := rest } cur x' ordQ out)

/-- the executor step writes to no ghost history but `sent` -/
theorem ExecStep.quiet {prog : Prog} {now fuel : Nat} {ordQ : List Pid} {w0 : WorkerSt} {o : Out}
    (h : ExecStep prog now fuel ordQ w0 o) :
    o.appended = [] ∧ o.dropped = [] ∧ o.deadDropped = [] ∧ o.spawnNotified = [] ∧ o.reported = [] ∧ o.learned = [] := by
  cases h with
  | ran _ _ _ _ out => cases out <;> exact ⟨rfl, rfl, rfl, rfl, rfl, rfl⟩
  | _ => exact ⟨rfl, rfl, rfl, rfl, rfl, rfl⟩

theorem ExecStep.no_results {prog : Prog} {now fuel : Nat} {ordQ : List Pid} {w0 : WorkerSt} {o : Out}
    (h : ExecStep prog now fuel ordQ w0 o) (a : Pid) (rs : Results) : Evt.procResults a rs ∉ o.evs := by
  intro he
  cases h with
  | idle => cases he
  | gone => cases he
  | errored => cases mem_exitEvts he
  | ran => rcases mem_sliceOut_evs he with h | ⟨_, _, _, h⟩ | ⟨_, _, _, h⟩ | ⟨_, _, h⟩ <;> cases h

theorem execStep_step (i : Wid) (fuel : Nat) (ordQ : List Pid) (w : WorkerSt) (prog : Prog) (now : Nat) :
    ∃ o, ExecStep prog now fuel ordQ (w.checkExpired prog now ordQ) o ∧
      ∀ s : Sys, s.wk i = w → s.prog = prog → s.now = now → execStep s i fuel ordQ = s.commit i o := by
  generalize hw0 : w.checkExpired prog now ordQ = w0
  cases hq : w0.queue with
  | nil => exact ⟨_, .idle hq, fun s hw hp hn => by
      subst hw hp hn; simp only [execStep, hw0, hq, Sys.commit, Sys.setWk, List.append_nil, upd_self]⟩
  | cons cur rest =>
    cases hx : w0.procs cur with
    | none => exact ⟨_, .gone cur rest hq hx, fun s hw hp hn => by
        subst hw hp hn; simp only [execStep, hw0, hq, hx, Sys.commit, Sys.setWk, List.append_nil, upd_self]⟩
    | some x =>
      by_cases he : x.result = some .err
      · exact ⟨_, .errored cur rest x hq hx he, fun s hw hp hn => by
          subst hw hp hn; simp only [execStep, hw0, hq, hx, he, if_true, noteExit_commit]⟩
      · cases hsl : slice prog now cur fuel x with
        | mk x' out =>
          refine ⟨_, .ran cur rest x x' out hq hx he hsl, fun s hw hp hn => ?_⟩
          subst hw hp hn
          simp only [execStep, hw0, hq, hx, he, if_false, hsl]
          cases out <;> simp only [sliceOut, noteExit_commit] <;>
            simp only [Sys.commit, Sys.setWk, Sys.pushEvt, List.append_nil, upd_self]

/-! ### a command and an executor step by kind -/

/-- what `handle_action` emits for the outcome of `cur`'s time slice (a finishing slice emits nothing here: its
`ProcessExited` is `exitEvts`) -/
def Outcome.evts (cur : Pid) : Outcome → List Evt
  | .send t m => [.deliver t m]
  | .spawn fn regs => [.spawn cur fn regs none]
  | .awaitInit ts => [.await cur ts]
  | _ => []

omit [Cfg] in
theorem Outcome.mem_evts {out : Outcome} {cur : Pid} {e : Evt} (h : e ∈ out.evts cur) :
    (∃ t m, e = .deliver t m) ∨ (∃ fn regs, e = .spawn cur fn regs none) ∨ ∃ ts, out = .awaitInit ts ∧ e = .await cur ts := by
  cases out with
  | send t m => exact .inl ⟨t, m, List.mem_singleton.1 h⟩
  | spawn fn regs => exact .inr (.inl ⟨fn, regs, List.mem_singleton.1 h⟩)
  | awaitInit ts => exact .inr (.inr ⟨ts, rfl, List.mem_singleton.1 h⟩)
  | cont | blocked | failed | done => cases h

/-- What `Executor::step` does to the worker state `w`: the new state and the events appended. (`check_expired_timeouts`
only moves pids from `selecting` to the run queue: of the state after it the cases read the run queue alone.) -/
inductive ExecCase (prog : Prog) (now fuel : Nat) (ordQ : List Pid) (w : WorkerSt) : WorkerSt → List Evt → Prop
  /-- the run queue is empty, or the pid at its front is unknown -/
  | idle {w'} (procs : w'.procs = w.procs) (spawning : w'.spawning = w.spawning) (regs : SameRegs w w') :
      ExecCase prog now fuel ordQ w w' []
  /-- `cur` ran a slice that did not end the process: its record is replaced, it may park in `spawning` -/
  | ran {w' cur x x' out} (front : cur ∈ (w.checkExpired prog now ordQ).queue) (hx : w.procs cur = some x)
      (hsl : slice prog now cur fuel x = (x', out)) (hout : out ≠ .failed ∧ out ≠ .done)
      (procs : w'.procs = upd w.procs cur (some x'))
      (spawning : ∀ q, q ∈ w'.spawning → q ∈ w.spawning ∨ (q = cur ∧ ∃ fn regs, out = .spawn fn regs))
      (regs : SameRegs w w') : ExecCase prog now fuel ordQ w w' (out.evts cur)
  /-- the finished branch: `cur` had failed before (`xf = x`), or its slice failed or ran off the end -/
  | fin {w1 cur x xf evs} (front : cur ∈ (w.checkExpired prog now ordQ).queue) (hx : w.procs cur = some x)
      (hxf : (x.result = some .err ∧ xf = x) ∨
        ∃ out, slice prog now cur fuel x = (xf, out) ∧ (out = .failed ∨ out = .done))
      (procs : w1.procs = upd w.procs cur (some xf)) (spawning : w1.spawning = w.spawning) (regs : SameRegs w w1)
      (hevs : evs = [] ∨ evs = [.exited cur]) : ExecCase prog now fuel ordQ w (w1.finish cur xf ordQ) evs

theorem exitEvts_cases (cur : Pid) (x : Proc) : exitEvts cur x = [] ∨ exitEvts cur x = [.exited cur] := by
  unfold exitEvts; split
  · exact .inr rfl
  · exact .inl rfl

theorem ExecStep.case {prog : Prog} {now fuel : Nat} {ordQ : List Pid} {w : WorkerSt} {o : Out}
    (h : ExecStep prog now fuel ordQ (w.checkExpired prog now ordQ) o) : ExecCase prog now fuel ordQ w o.wk o.evs := by
  cases h with
  | idle hq => exact .idle rfl rfl ⟨rfl, rfl⟩
  | gone cur rest hq hx => exact .idle rfl rfl ⟨rfl, rfl⟩
  | errored cur rest x hq hx he =>
    have hself : (w.checkExpired prog now ordQ).procs = upd w.procs cur (some x) := by
      funext q; unfold upd; split
      · rename_i hq'; rw [hq']; exact hx
      · rfl
    exact .fin (hq ▸ List.mem_cons_self) hx (.inl ⟨he, rfl⟩) hself rfl ⟨rfl, rfl⟩ (exitEvts_cases cur x)
  | ran cur rest x x' out hq hx he hsl =>
    have front : cur ∈ (w.checkExpired prog now ordQ).queue := hq ▸ List.mem_cons_self
    cases out with
    | spawn fn regs =>
      exact .ran front hx hsl ⟨nofun, nofun⟩ rfl (fun q h => (mem_sinsert.1 h).imp id (fun e => ⟨e, fn, regs, rfl⟩)) ⟨rfl, rfl⟩
    | failed => exact .fin front hx (.inr ⟨_, hsl, .inl rfl⟩) rfl rfl ⟨rfl, rfl⟩ (exitEvts_cases cur x')
    | done => exact .fin front hx (.inr ⟨_, hsl, .inr rfl⟩) rfl rfl ⟨rfl, rfl⟩ (exitEvts_cases cur x')
    | _ => exact .ran front hx hsl ⟨nofun, nofun⟩ rfl (fun _ h => .inl h) ⟨rfl, rfl⟩

omit [Cfg] in
theorem result_of_not_deliverable {x : Proc} (h : x.deliverable = false) : ∃ r, x.result = some r := by
  unfold Proc.deliverable at h
  cases hr : x.result with
  | none => rw [hr] at h; cases h
  | some r => exact ⟨r, rfl⟩

def Cmd.isAwait : Cmd → Bool
  | .queryAwait _ _ | .updateAwait _ _ => true
  | _ => false

/-- What `handle_command` (current rules) does to the worker state `w`, by kind: the new state, the events emitted and
the messages recorded as appended. -/
inductive CmdCase (w : WorkerSt) : Cmd → WorkerSt → List Evt → List (Pid × Msg) → Prop
  /-- no process record changes (`misc`, `getResult`, a message for an unknown or dead process, a NotifySpawn for an
  unknown caller) -/
  | same {c w' evs app} (hc : c.isAwait = false) (hcr : ∀ q f regs, c ≠ .spawn q f regs) (procs : w'.procs = w.procs)
      (spawning : w'.spawning = w.spawning ∨
        ∃ caller np, c = .notifySpawn caller np ∧ w.procs caller = none ∧ w'.spawning = serase w.spawning caller)
      (regs : SameRegs w w') (hevs : evs = [] ∨ ∃ req r, evs = [.resultResp req r])
      (happ : app = [] ∨ ∃ t m x, c = .deliver t m ∧ w.procs t = some x ∧ x.result ≠ none ∧ app = [(t, m)]) :
      CmdCase w c w' evs app
  | start {p w'} (procs : w'.procs = upd w.procs p (some (Proc.sleeping p))) (spawning : w'.spawning = w.spawning)
      (regs : SameRegs w w') : CmdCase w (.start p) w' [] []
  | spawn {p fn rg w'} (procs : w'.procs = upd w.procs p (some (Proc.fresh fn (p :: rg)))) (spawning : w'.spawning = w.spawning)
      (regs : SameRegs w w') : CmdCase w (.spawn p fn rg) w' [] []
  /-- `resume` is only queued before start-up (`CmdOK`); nothing but the registry is tracked -/
  | resume {p fn w'} (regs : SameRegs w w') : CmdCase w (.resume p fn) w' [] []
  /-- `notify_spawn`: the caller leaves `spawning` and moves past its Spawn instruction -/
  | spawned {caller np w' x} (hx : w.procs caller = some x)
      (procs : w'.procs = upd w.procs caller (some { x with regs := x.regs ++ [np], pc := x.pc + 1, spawnIssued := false }))
      (spawning : w'.spawning = serase w.spawning caller) (regs : SameRegs w w') :
      CmdCase w (.notifySpawn caller np) w' [] []
  /-- `notify_message` for a process that can receive -/
  | mail {t m w' x} (hx : w.procs t = some x)
      (procs : w'.procs = upd w.procs t (some { x with mailbox := x.mailbox ++ [m] }))
      (spawning : w'.spawning = w.spawning) (regs : SameRegs w w') : CmdCase w (.deliver t m) w' [] [(t, m)]
  /-- `query_and_await` -/
  | query {a ts} : CmdCase w (.queryAwait a ts) (queryTargets w a ts).1 [.procResults a (queryTargets w a ts).2] []
  /-- `update_await_results`, then the wake-up -/
  | update {a rs w'} (procs : w'.procs = (applyResults w a rs).procs) (spawning : w'.spawning = w.spawning)
      (regs : SameRegs w w') : CmdCase w (.updateAwait a rs) w' [] []

theorem CmdStep.case {prog : Prog} {w : WorkerSt} {c : Cmd} {o : Out} (h : CmdStep Rules.current prog w c o) :
    CmdCase w c o.wk o.evs o.appended := by
  cases h with
  | misc => exact .same rfl nofun rfl (.inl rfl) ⟨rfl, rfl⟩ (.inl rfl) (.inl rfl)
  | start p => exact .start rfl rfl ⟨rfl, rfl⟩
  | resume p fn x v => exact .resume ⟨rfl, rfl⟩
  | spawn p fn regs => exact .spawn rfl rfl ⟨rfl, rfl⟩
  | notifyNone caller np hx => exact .same rfl nofun rfl (.inr ⟨_, _, rfl, hx, rfl⟩) ⟨rfl, rfl⟩ (.inl rfl) (.inl rfl)
  | notifySome caller np x hx =>
    dsimp only
    split <;> exact .spawned hx rfl rfl ⟨rfl, rfl⟩
  | deliverNone t m hx =>
    exact .same rfl nofun (wakeSelecting_procs _ _) (.inl (wakeSelecting_spawning _ _)) (Helper.wakeSelecting _ _).sameRegs
      (.inl rfl) (.inl rfl)
  | deliverDead t m x hx _ hnd =>
    -- variant `releaseDead`, a receiver that can never receive: recorded as appended, nothing stored
    refine .same rfl nofun (wakeSelecting_procs _ _) (.inl (wakeSelecting_spawning _ _)) (Helper.wakeSelecting _ _).sameRegs
      (.inl rfl) (.inr ⟨t, m, x, rfl, hx, fun hn => ?_, rfl⟩)
    obtain ⟨_, hr⟩ := result_of_not_deliverable hnd
    rw [hn] at hr; cases hr
  | deliver t m x hx =>
    have hw := Helper.wakeSelecting ({ w with procs := upd w.procs t (some { x with mailbox := x.mailbox ++ [m] }) } : WorkerSt) t
    exact .mail hx (wakeSelecting_procs _ _) (wakeSelecting_spawning _ _) ⟨hw.awaitersFor, hw.awaited⟩
  | queryAwait a ts => exact .query
  | updateAwait a rs =>
    exact .update (wakeSelecting_procs _ _) ((wakeSelecting_spawning _ _).trans (applyResults_spawning a rs _))
      ((Helper.applyResults a rs w).trans (Helper.wakeSelecting _ a)).sameRegs
  | getResult req p x r => exact .same rfl nofun rfl (.inl rfl) ⟨rfl, rfl⟩ (.inr ⟨_, _, rfl⟩) (.inl rfl)
  | getLater req p x => exact .same rfl nofun rfl (.inl rfl) ⟨rfl, rfl⟩ (.inl rfl) (.inl rfl)

/-- a command leaves the await registry alone and emits at most a ResultResponse, unless it is a QueryAndAwait -/
theorem CmdCase.regs_or_query {w w' : WorkerSt} {c : Cmd} {evs : List Evt} {app : List (Pid × Msg)} (hc : CmdCase w c w' evs app) :
    (SameRegs w w' ∧ ∀ e ∈ evs, ∃ req r, e = Evt.resultResp req r) ∨
    ∃ a ts, c = .queryAwait a ts ∧ w' = (queryTargets w a ts).1 ∧ evs = [.procResults a (queryTargets w a ts).2] := by
  cases hc with
  | query => exact .inr ⟨_, _, rfl, rfl, rfl⟩
  | same _ _ _ _ regs hevs =>
    refine .inl ⟨regs, fun e he => ?_⟩
    rcases hevs with rfl | ⟨req, r, rfl⟩
    · cases he
    · exact ⟨req, r, List.mem_singleton.1 he⟩
  | start _ _ regs | spawn _ _ regs | resume regs | spawned _ _ _ regs | mail _ _ _ regs | update _ _ regs =>
    exact .inl ⟨regs, fun _ he => nomatch he⟩

theorem ExecCase.regs {prog : Prog} {now fuel : Nat} {ordQ : List Pid} {w w' : WorkerSt} {evs : List Evt}
    (hc : ExecCase prog now fuel ordQ w w' evs) : SameRegs w w' := by
  cases hc with
  | idle _ _ regs | ran _ _ _ _ _ _ regs => exact regs
  | fin _ _ _ _ _ regs _ => exact finish_regs regs _ _ _

theorem foldPushEvt_commit {α : Type} (i : Wid) (g : α → Evt) (r : α → List (Pid × Pid)) (f : Sys → α → Sys)
    (hf : ∀ acc a, f acc a = { acc.pushEvt i (g a) with reported := acc.reported ++ r a }) : ∀ (l : List α) (s : Sys),
    l.foldl f s = s.commit i { wk := s.wk i, evs := l.map g, reported := l.flatMap r }
  | [], s => (commit_same s i).symm
  | a :: l, s => by
    rw [List.foldl_cons, foldPushEvt_commit i g r f hf l, hf]
    simp only [Sys.commit, Sys.pushEvt, upd_same, upd_upd, upd_self, List.append_nil, List.map_cons, List.flatMap_cons,
      List.append_assoc, List.singleton_append]

/-- what `reportTarget` hands back -/
def reportOut (w : WorkerSt) (t : Pid) : Out :=
  match w.resultOf t with
  | none => { wk := w }
  | some r => { wk := { w with awaitersFor := upd w.awaitersFor t [], awaited := serase w.awaited t },
                evs := (w.awaitersFor t).map fun a => .procResults a [(t, some r)],
                reported := (w.awaitersFor t).flatMap fun a => [(a, t)] }

theorem reportTarget_commit (s : Sys) (i : Wid) (t : Pid) : reportTarget s i t = s.commit i (reportOut (s.wk i) t) := by
  unfold reportTarget reportOut
  dsimp only
  cases (s.wk i).resultOf t with
  | none => exact (commit_same s i).symm
  | some r =>
    dsimp only
    rw [foldPushEvt_commit i (fun a => Evt.procResults a [(t, some r)]) (fun a => [(a, t)]) _ fun _ _ => rfl]
    simp only [Sys.commit, Sys.setWk, upd_upd, List.append_nil]

/-- what `answerRequests` hands back -/
def answerOut (w : WorkerSt) (p : Pid) : Out :=
  match w.resultOf p with
  | none => { wk := w }
  | some r => { wk := { w with resultReqKeys := serase w.resultReqKeys p, resultReqs := upd w.resultReqs p [] },
                evs := (w.resultReqs p).map fun req => .resultResp req r }

theorem answerRequests_commit (s : Sys) (i : Wid) (p : Pid) : answerRequests s i p = s.commit i (answerOut (s.wk i) p) := by
  unfold answerRequests answerOut
  dsimp only
  cases (s.wk i).resultOf p with
  | none => exact (commit_same s i).symm
  | some r =>
    dsimp only
    rw [foldPushEvt_commit i (fun req => Evt.resultResp req r) (fun _ => []) _ fun acc _ => by rw [List.append_nil]; rfl]
    simp [Sys.commit, Sys.setWk]

/-! ### the completion check as one output -/

/-- first `o1`, then `o2` (computed from `o1.wk`) -/
def Out.seq (o1 o2 : Out) : Out :=
  { wk := o2.wk, evs := o1.evs ++ o2.evs, sent := o1.sent ++ o2.sent, appended := o1.appended ++ o2.appended,
    dropped := o1.dropped ++ o2.dropped, deadDropped := o1.deadDropped ++ o2.deadDropped,
    spawnNotified := o1.spawnNotified ++ o2.spawnNotified, reported := o1.reported ++ o2.reported, learned := o1.learned ++ o2.learned }

theorem commit_commit (s : Sys) (i : Wid) (o1 o2 : Out) : (s.commit i o1).commit i o2 = s.commit i (o1.seq o2) := by
  simp only [Sys.commit, Out.seq, upd_upd, upd_same, List.append_assoc]

def foldOut {α : Type} (f : WorkerSt → α → Out) : List α → Out → Out
  | [], o => o
  | a :: l, o => foldOut f l (o.seq (f o.wk a))

/-- a fold of committing functions is one commit of the folded outputs -/
theorem foldl_commit {α : Type} {i : Wid} (g : Sys → α → Sys) (f : WorkerSt → α → Out) (hg : ∀ s a, g s a = s.commit i (f (s.wk i) a)) (s : Sys) :
    ∀ (l : List α) (o : Out), l.foldl g (s.commit i o) = s.commit i (foldOut f l o)
  | [], _ => rfl
  | a :: l, o => by rw [List.foldl_cons, hg, commit_wk_self, commit_commit, foldl_commit g f hg s l]; rfl

/-- what `check_completed_processes` hands back -/
def checkOut (w : WorkerSt) (ordE : List Pid) : Out :=
  let o1 := foldOut reportOut (orderBy ordE (completedAwaited w)) { wk := w }
  foldOut answerOut o1.wk.resultReqKeys o1

theorem checkStep_commit (s : Sys) (i : Wid) (ordE : List Pid) : checkStep s i ordE = s.commit i (checkOut (s.wk i) ordE) := by
  unfold checkStep checkOut
  dsimp only
  conv => lhs; rw [← commit_same s i]
  rw [foldl_commit _ reportOut (fun a t => reportTarget_commit a i t), commit_wk_self,
    foldl_commit _ answerOut (fun a p => answerRequests_commit a i p), commit_wk_self]


omit [Cfg] in
theorem resultOf_of_procs {w w' : WorkerSt} (h : w'.procs = w.procs) (t : Pid) : w'.resultOf t = w.resultOf t := by
  unfold WorkerSt.resultOf; rw [h]

/-- What the completion check does, seen from the worker: the processes and the scheduling sets are untouched; per target
all or nothing — its awaiters are all still registered, or all forgotten with the report for each of them emitted; every
event reports a completed target to one of its awaiters or answers a result request. -/
structure ChkOut (w : WorkerSt) (o : Out) : Prop where
  procs : o.wk.procs = w.procs
  pids : o.wk.pids = w.pids
  queue : o.wk.queue = w.queue
  spawning : o.wk.spawning = w.spawning
  selecting : o.wk.selecting = w.selecting
  awaited : ∀ t, t ∈ o.wk.awaited → t ∈ w.awaited
  reg : ∀ t, o.wk.awaitersFor t = w.awaitersFor t ∨
    (o.wk.awaitersFor t = [] ∧ t ∉ o.wk.awaited ∧
      ∃ r, w.resultOf t = some r ∧ ∀ a ∈ w.awaitersFor t, Evt.procResults a [(t, some r)] ∈ o.evs)
  evs : ∀ e ∈ o.evs, (∃ a t r, e = .procResults a [(t, some r)] ∧ a ∈ w.awaitersFor t ∧ w.resultOf t = some r) ∨
    ∃ req r, e = .resultResp req r
  quiet : o.sent = [] ∧ o.appended = [] ∧ o.dropped = [] ∧ o.deadDropped = [] ∧ o.spawnNotified = [] ∧ o.learned = []

omit [Cfg] in
theorem ChkOut.awaitersFor {w : WorkerSt} {o : Out} (h : ChkOut w o) {t a : Pid} (ha : a ∈ o.wk.awaitersFor t) :
    a ∈ w.awaitersFor t := by
  rcases h.reg t with e | ⟨e, _⟩ <;> rw [e] at ha
  · exact ha
  · cases ha

omit [Cfg] in
theorem ChkOut.refl (w : WorkerSt) : ChkOut w { wk := w } :=
  ⟨rfl, rfl, rfl, rfl, rfl, fun _ h => h, fun _ => .inl rfl, nofun, rfl, rfl, rfl, rfl, rfl, rfl⟩

omit [Cfg] in
theorem ChkOut.seq {w : WorkerSt} {o1 o2 : Out} (h1 : ChkOut w o1) (h2 : ChkOut o1.wk o2) : ChkOut w (o1.seq o2) := by
  obtain ⟨a1, a2, a3, a4, a5, a6⟩ := h1.quiet
  obtain ⟨b1, b2, b3, b4, b5, b6⟩ := h2.quiet
  have hres : ∀ t, o1.wk.resultOf t = w.resultOf t := resultOf_of_procs h1.procs
  refine ⟨h2.procs.trans h1.procs, h2.pids.trans h1.pids, h2.queue.trans h1.queue, h2.spawning.trans h1.spawning,
    h2.selecting.trans h1.selecting, fun t h => h1.awaited t (h2.awaited t h), fun t => ?_, fun e he => ?_, ?_⟩
  · rcases h1.reg t with e1 | ⟨e1, hn, r, hr, hcov⟩
    · rcases h2.reg t with e2 | ⟨e2, hn2, r, hr, hcov⟩
      · exact .inl (e2.trans e1)
      · exact .inr ⟨e2, hn2, r, (hres t).symm.trans hr, fun a ha => List.mem_append_right _ (hcov a (e1 ▸ ha))⟩
    · refine .inr ⟨?_, fun h => hn (h2.awaited t h), r, hr, fun a ha => List.mem_append_left _ (hcov a ha)⟩
      rcases h2.reg t with e2 | ⟨e2, _⟩
      · exact e2.trans e1
      · exact e2
  · rcases List.mem_append.mp he with he | he
    · exact h1.evs e he
    · exact (h2.evs e he).imp_left fun ⟨a, t, r, e1, e2, e3⟩ => ⟨a, t, r, e1, h1.awaitersFor e2, (hres t).symm.trans e3⟩
  · simp only [Out.seq, a1, a2, a3, a4, a5, a6, b1, b2, b3, b4, b5, b6, List.append_nil, and_self]

theorem ChkOut.report (w : WorkerSt) (t : Pid) : ChkOut w (reportOut w t) := by
  unfold reportOut
  split
  · exact .refl w
  · rename_i r hr
    refine ⟨rfl, rfl, rfl, rfl, rfl, fun _ h => (mem_serase.mp h).1, fun t' => ?_, fun e he => ?_, rfl, rfl, rfl, rfl, rfl, rfl⟩
    · by_cases e : t' = t
      · subst e
        exact .inr ⟨upd_same _ _ _, fun h => (mem_serase.mp h).2 rfl, r, hr, fun a ha => List.mem_map.mpr ⟨a, ha, rfl⟩⟩
      · exact .inl (upd_other _ _ _ _ e)
    · obtain ⟨a, ha, rfl⟩ := List.mem_map.mp he
      exact .inl ⟨a, t, r, rfl, ha, hr⟩

omit [Cfg] in
theorem ChkOut.answer (w : WorkerSt) (p : Pid) : ChkOut w (answerOut w p) := by
  unfold answerOut
  split
  · exact .refl w
  · rename_i r _
    refine ⟨rfl, rfl, rfl, rfl, rfl, fun _ h => h, fun _ => .inl rfl, fun e he => ?_, rfl, rfl, rfl, rfl, rfl, rfl⟩
    obtain ⟨req, _, rfl⟩ := List.mem_map.mp he
    exact .inr ⟨req, r, rfl⟩

omit [Cfg] in
theorem ChkOut.foldOut {α : Type} {f : WorkerSt → α → Out} (hf : ∀ w a, ChkOut w (f w a)) {w : WorkerSt} :
    ∀ (l : List α) {o : Out}, ChkOut w o → ChkOut w (foldOut f l o)
  | [], _, h => h
  | a :: l, _, h => ChkOut.foldOut hf l (h.seq (hf _ a))

theorem ChkOut.check (w : WorkerSt) (ordE : List Pid) : ChkOut w (checkOut w ordE) :=
  ChkOut.foldOut ChkOut.answer _ (ChkOut.foldOut ChkOut.report _ (.refl w))

theorem foldOut_report (l : List Pid) : ∀ (o : Out), (foldOut reportOut l o).wk.procs = o.wk.procs ∧
    (∀ t, (foldOut reportOut l o).wk.awaitersFor t = if t ∈ l ∧ (o.wk.resultOf t).isSome = true then [] else o.wk.awaitersFor t) ∧
    ∀ t, t ∈ (foldOut reportOut l o).wk.awaited ↔ t ∈ o.wk.awaited ∧ ¬ (t ∈ l ∧ (o.wk.resultOf t).isSome = true) := by
  induction l with
  | nil => exact fun o => ⟨rfl, fun t => by simp [foldOut], fun t => by simp [foldOut]⟩
  | cons t0 rest ih =>
    intro o
    obtain ⟨ih1, ih2, ih3⟩ := ih (o.seq (reportOut o.wk t0))
    have hp : (o.seq (reportOut o.wk t0)).wk.procs = o.wk.procs := (ChkOut.report o.wk t0).procs
    have hres := resultOf_of_procs hp
    refine ⟨ih1.trans hp, fun t => ?_, fun t => ?_⟩
    · rw [foldOut, ih2 t, hres t]
      show (if _ then _ else (reportOut o.wk t0).wk.awaitersFor t) = _
      unfold reportOut
      cases hr : o.wk.resultOf t0 with
      | none =>
        by_cases e : t = t0
        · subst e; simp [hr]
        · simp [e]
      | some r =>
        by_cases e : t = t0
        · subst e; simp [hr]
        · simp [e]
    · rw [foldOut, ih3 t, hres t]
      show t ∈ (reportOut o.wk t0).wk.awaited ∧ _ ↔ _
      unfold reportOut
      cases hr : o.wk.resultOf t0 with
      | none =>
        by_cases e : t = t0
        · subst e; simp [hr]
        · simp [e]
      | some r =>
        by_cases e : t = t0
        · subst e; simp [hr, mem_serase]
        · simp [e, mem_serase]

omit [Cfg] in
theorem foldOut_answer (l : List Pid) : ∀ (o : Out), (foldOut answerOut l o).wk.awaitersFor = o.wk.awaitersFor ∧
    (foldOut answerOut l o).wk.awaited = o.wk.awaited := by
  induction l with
  | nil => exact fun o => ⟨rfl, rfl⟩
  | cons p rest ih =>
    intro o
    obtain ⟨ih1, ih2⟩ := ih (o.seq (answerOut o.wk p))
    have h : (answerOut o.wk p).wk.awaitersFor = o.wk.awaitersFor ∧ (answerOut o.wk p).wk.awaited = o.wk.awaited := by
      unfold answerOut; split <;> exact ⟨rfl, rfl⟩
    exact ⟨ih1.trans h.1, ih2.trans h.2⟩

/-- after the check the awaiters of a target are forgotten exactly when it is awaited and has a result -/
theorem checkOut_awaitersFor (w : WorkerSt) (ordE : List Pid) (t : Pid) :
    (checkOut w ordE).wk.awaitersFor t = if t ∈ w.awaited ∧ (w.resultOf t).isSome = true then [] else w.awaitersFor t := by
  unfold checkOut
  dsimp only
  rw [(foldOut_answer _ _).1, (foldOut_report _ _).2.1 t]
  simp [mem_orderBy, completedAwaited]

theorem mem_checkOut_awaited (w : WorkerSt) (ordE : List Pid) (t : Pid) :
    t ∈ (checkOut w ordE).wk.awaited ↔ t ∈ w.awaited ∧ w.resultOf t = none := by
  unfold checkOut
  dsimp only
  rw [(foldOut_answer _ _).2, (foldOut_report _ _).2.2 t]
  simp only [mem_orderBy, completedAwaited, List.mem_filter]
  cases w.resultOf t <;> simp

/-! ### the environment's step as an output -/

/-- what handling one event hands back: the environment's new tables, the commands it sends (in order), the spawn it
records, whether it raised the fault flag -/
structure EnvOut where
  env : Env
  cmds : List (Wid × Cmd) := []
  spawned : List (Pid × Pid) := []
  fault : Bool := false

def pushAll (q : Wid → List Cmd) : List (Wid × Cmd) → Wid → List Cmd
  | [] => q
  | (w, c) :: l => pushAll (upd q w (q w ++ [c])) l

def Sys.envCommit (s : Sys) (o : EnvOut) : Sys :=
  { s with env := o.env, cmdQ := pushAll s.cmdQ o.cmds, spawned := s.spawned ++ o.spawned, fault := s.fault || o.fault }

omit [Cfg] in
theorem pushAll_foldl {α : Type} (g : α → Wid × Cmd) (f : Sys → α → Sys) (hf : ∀ s a, f s a = s.pushCmd (g a).1 (g a).2) :
    ∀ (l : List α) (s : Sys), l.foldl f s = { s with cmdQ := pushAll s.cmdQ (l.map g) }
  | [], s => rfl
  | a :: l, s => by rw [List.foldl_cons, pushAll_foldl g f hf l, hf]; rfl

theorem mem_pushAll {l : List (Wid × Cmd)} {q : Wid → List Cmd} {w : Wid} {c : Cmd} :
    c ∈ pushAll q l w ↔ c ∈ q w ∨ (w, c) ∈ l := by
  induction l generalizing q with
  | nil => simp [pushAll]
  | cons wc l ih =>
    obtain ⟨w1, c1⟩ := wc
    rw [pushAll, ih, upd_snoc_apply]
    by_cases e : w = w1
    · subst e; simp [or_assoc]
    · simp [e]

/-- `placement`, as a function of the environment's tables -/
def placeAt (router : Pid → Option Wid) (n : Nat) (coloc : Option Pid) (newPid : Pid) : Wid :=
  match coloc.bind router with
  | some w => w
  | none => newPid % n

omit [Cfg] in
theorem placement_eq (s : Sys) (coloc : Option Pid) (p : Pid) : placement s coloc p = placeAt s.env.router s.n coloc p := rfl

/-- the worker a ProcessResults event comes from, as `handle_process_results` finds it -/
def senderOf (router : Pid → Option Wid) : Results → Option Wid
  | [] => none
  | (p, _) :: _ => router p

omit [Cfg] in
theorem sender_eq (router : Pid → Option Wid) (rs : Results) :
    handleProcResultsWith.match_1 (fun _ => Option Wid) rs (fun _ => none) (fun p _ _ => router p) = senderOf router rs := by
  cases rs with
  | nil => rfl
  | cons pr _ => cases pr; rfl

/-- the cases of `handleEventWith`, for an environment in state `env` (`n` workers) -/
inductive EnvStep (combine : Option Results → Results → Results) (env : Env) (n : Nat) : Evt → EnvOut → Prop
  | spawn (caller fn regs coloc) (w : Wid) (cw : Wid) :
      w = placeAt env.router n coloc env.nextPid →
      upd env.router env.nextPid (some w) caller = some cw →
      EnvStep combine env n (.spawn caller fn regs coloc)
        { env := { env with nextPid := env.nextPid + 1, router := upd env.router env.nextPid (some w) },
          cmds := [(w, .spawn env.nextPid fn regs), (cw, .notifySpawn caller env.nextPid)], spawned := [(caller, env.nextPid)] }
  | spawnFault (caller fn regs coloc) (w : Wid) :
      w = placeAt env.router n coloc env.nextPid →
      upd env.router env.nextPid (some w) caller = none →
      EnvStep combine env n (.spawn caller fn regs coloc)
        { env := { env with nextPid := env.nextPid + 1, router := upd env.router env.nextPid (some w) },
          cmds := [(w, .spawn env.nextPid fn regs)], fault := true }
  | deliver (t m) (w : Wid) : env.router t = some w → EnvStep combine env n (.deliver t m) { env := env, cmds := [(w, .deliver t m)] }
  | deliverFault (t m) : env.router t = none → EnvStep combine env n (.deliver t m) { env := env, fault := true }
  | awaitFault (a ts) : ts.any (fun t => (env.router t).isNone) = true → EnvStep combine env n (.await a ts) { env := env, fault := true }
  | await (a ts) : ¬ ts.any (fun t => (env.router t).isNone) = true →
      EnvStep combine env n (.await a ts)
        { env := { env with pending := upd env.pending a (some { expected := targetWorkers env.router ts, responses := [] }) },
          cmds := (targetWorkers env.router ts).map fun w => (w, .queryAwait a (ts.filter fun t => env.router t = some w)) }
  /-- a pending entry exists but the answer is empty or its first pid unrouted: ignored -/
  | stray (a rs) (pa) : env.pending a = some pa → senderOf env.router rs = none →
      EnvStep combine env n (.procResults a rs) { env := env }
  /-- the last expected answer: the merged answers are forwarded to the awaiter -/
  | last (a rs) (pa : PendingAwait) (w aw : Wid) : env.pending a = some pa → senderOf env.router rs = some w →
      (pa.expected.filter (· ≠ w)).isEmpty = true → env.router a = some aw →
      EnvStep combine env n (.procResults a rs)
        { env := { env with pending := upd env.pending a none },
          cmds := [(aw, .updateAwait a ((ainsert pa.responses w (combine (alookup pa.responses w) rs)).map (·.2)).flatten)] }
  | lastFault (a rs) (pa : PendingAwait) (w : Wid) : env.pending a = some pa → senderOf env.router rs = some w →
      (pa.expected.filter (· ≠ w)).isEmpty = true → env.router a = none →
      EnvStep combine env n (.procResults a rs) { env := { env with pending := upd env.pending a none }, fault := true }
  /-- other workers are still expected: the answer is merged into the pending entry -/
  | more (a rs) (pa : PendingAwait) (w : Wid) : env.pending a = some pa → senderOf env.router rs = some w →
      ¬ (pa.expected.filter (· ≠ w)).isEmpty = true →
      EnvStep combine env n (.procResults a rs)
        { env := { env with pending := upd env.pending a (some ⟨pa.expected.filter (· ≠ w),
            ainsert pa.responses w (combine (alookup pa.responses w) rs)⟩) } }
  /-- no pending entry (a later completion report): forwarded as it is -/
  | late (a rs) (aw : Wid) : env.pending a = none → env.router a = some aw →
      EnvStep combine env n (.procResults a rs) { env := env, cmds := [(aw, .updateAwait a rs)] }
  | lateFault (a rs) : env.pending a = none → env.router a = none → EnvStep combine env n (.procResults a rs) { env := env, fault := true }
  | resultResp (req r) : EnvStep combine env n (.resultResp req r) { env := { env with results := env.results ++ [(req, r)] } }
  | exited (p) : EnvStep combine env n (.exited p) { env := env }

omit [Cfg] in
theorem envCommit_same (s : Sys) : s.envCommit { env := s.env } = s := by
  cases s; simp [Sys.envCommit, pushAll]

omit [Cfg] in
/-- **How an event is handled** is decided by the environment's own tables. -/
theorem handleEvent_step (combine) (e : Evt) (env : Env) (n : Nat) :
    ∃ o, EnvStep combine env n e o ∧ ∀ s : Sys, s.env = env → s.n = n → handleEventWith combine s e = s.envCommit o := by
  cases e with
  | spawn caller fn regs coloc =>
    cases hc : upd env.router env.nextPid (some (placeAt env.router n coloc env.nextPid)) caller with
    | none => exact ⟨_, .spawnFault caller fn regs coloc _ rfl hc, fun s he hn => by
        subst he hn
        simp only [handleEventWith, handleSpawn, placement_eq, Sys.pushCmd, Sys.setFault, hc, Sys.envCommit, pushAll, List.append_nil,
          Bool.or_true]⟩
    | some cw => exact ⟨_, .spawn caller fn regs coloc _ cw rfl hc, fun s he hn => by
        subst he hn
        simp only [handleEventWith, handleSpawn, placement_eq, Sys.pushCmd, hc, Sys.envCommit, pushAll, Bool.or_false]⟩
  | deliver t m =>
    cases hr : env.router t with
    | none => exact ⟨_, .deliverFault t m hr, fun s he _ => by
        subst he; simp [handleEventWith, handleDeliver, hr, Sys.setFault, Sys.envCommit, pushAll]⟩
    | some w => exact ⟨_, .deliver t m w hr, fun s he _ => by
        subst he; simp [handleEventWith, handleDeliver, hr, Sys.pushCmd, Sys.envCommit, pushAll]⟩
  | await a ts =>
    by_cases h : ts.any (fun t => (env.router t).isNone) = true
    · exact ⟨_, .awaitFault a ts h, fun s he _ => by
        subst he; simp only [handleEventWith, handleAwait, h, if_true, Sys.setFault, Sys.envCommit, pushAll, List.append_nil, Bool.or_true]⟩
    · refine ⟨_, .await a ts h, fun s he _ => ?_⟩
      subst he
      simp only [handleEventWith, handleAwait, h]
      rw [pushAll_foldl (fun w => (w, Cmd.queryAwait a (ts.filter fun t => s.env.router t = some w))) _ fun _ _ => rfl]
      simp [Sys.envCommit]
  | procResults a rs =>
    cases hp : env.pending a with
    | none =>
      cases hr : env.router a with
      | none => exact ⟨_, .lateFault a rs hp hr, fun s he _ => by
          subst he; simp [handleEventWith, handleProcResultsWith, hp, hr, Sys.setFault, Sys.envCommit, pushAll]⟩
      | some aw => exact ⟨_, .late a rs aw hp hr, fun s he _ => by
          subst he; simp [handleEventWith, handleProcResultsWith, hp, hr, Sys.pushCmd, Sys.envCommit, pushAll]⟩
    | some pa =>
      cases hs : senderOf env.router rs with
      | none => exact ⟨_, .stray a rs pa hp hs, fun s he _ => by
          subst he; simp only [handleEventWith, handleProcResultsWith, sender_eq, hp, hs]; exact (envCommit_same s).symm⟩
      | some w =>
        by_cases hem : (pa.expected.filter (· ≠ w)).isEmpty = true
        · cases hr : env.router a with
          | none => exact ⟨_, .lastFault a rs pa w hp hs hem hr, fun s he _ => by
              subst he; simp only [handleEventWith, handleProcResultsWith, sender_eq, hp, hs, if_pos hem, hr, Sys.setFault, Sys.envCommit, pushAll, List.append_nil, Bool.or_true]⟩
          | some aw => exact ⟨_, .last a rs pa w aw hp hs hem hr, fun s he _ => by
              subst he; simp only [handleEventWith, handleProcResultsWith, sender_eq, hp, hs, if_pos hem, hr, Sys.pushCmd, Sys.envCommit, pushAll, List.append_nil, Bool.or_false]⟩
        · exact ⟨_, .more a rs pa w hp hs hem, fun s he _ => by
            subst he; simp only [handleEventWith, handleProcResultsWith, sender_eq, hp, hs, if_neg hem, Sys.envCommit, pushAll, List.append_nil, Bool.or_false]⟩
  | resultResp req r => exact ⟨_, .resultResp req r, fun s he _ => by subst he; simp [handleEventWith, Sys.envCommit, pushAll]⟩
  | exited p => exact ⟨_, .exited p, fun s he _ => by subst he; exact (envCommit_same s).symm⟩


/-- what the environment leaves alone when it handles an event: it queues commands, updates its
own tables, may raise the fault flag and records spawns -/
structure EnvFrame (s s' : Sys) : Prop where
  wk : s'.wk = s.wk
  evtQ : s'.evtQ = s.evtQ
  prog : s'.prog = s.prog
  n : s'.n = s.n
  now : s'.now = s.now
  sent : s'.sent = s.sent
  appended : s'.appended = s.appended
  dropped : s'.dropped = s.dropped
  deadDropped : s'.deadDropped = s.deadDropped
  spawnNotified : s'.spawnNotified = s.spawnNotified
  reported : s'.reported = s.reported
  learned : s'.learned = s.learned

omit [Cfg] in
theorem handleEvent_frame (combine) (s : Sys) (e : Evt) : EnvFrame s (handleEventWith combine s e) := by
  obtain ⟨o, _, h⟩ := handleEvent_step combine e s.env s.n
  rw [h s rfl rfl]
  constructor <;> rfl

theorem envStep1_frame (combine) (s : Sys) (w : Wid) :
    EnvFrame { s with evtQ := upd s.evtQ w (s.evtQ w).tail } (envStep1With combine s w) := by
  unfold envStep1With
  cases h : s.evtQ w with
  | nil => exact ⟨rfl, by rw [show ([] : List Evt).tail = s.evtQ w from h.symm, upd_self], rfl, rfl, rfl, rfl, rfl, rfl, rfl, rfl, rfl, rfl⟩
  | cons e rest => exact handleEvent_frame combine _ e

theorem envStepWith_wk (combine) (s : Sys) (vis : List Nat) : (envStepWith combine s vis).wk = s.wk :=
  foldl_invariant (fun s' : Sys => s'.wk = s.wk) _
    (fun a w ha => iter_invariant (fun s' : Sys => s'.wk = s.wk) _ (fun b hb => (envStep1_frame combine b w).wk.trans hb) _ a ha) _ s rfl

/-! ### one micro step -/

/-- the five micro-steps -/
inductive Micro where
  | env (w : Wid)
  | cmd (i : Wid)
  | exec (i : Wid) (fuel : Nat) (ordQ : List Pid)
  | check (i : Wid) (ordE : List Pid)
  | tick (ms : Nat)

def microStep (R : Rules) (s : Sys) : Micro → Sys
  | .env w => envStep1With R.combine s w
  | .cmd i => cmdStep1With R s i
  | .exec i fuel ordQ => execStep s i fuel ordQ
  | .check i ordE => checkStep s i ordE
  | .tick ms => { s with now := s.now + ms }


/-- What a worker does in one step, seen from the worker alone: the command it consumes (if any) and the output. -/
inductive WStep (R : Rules) (prog : Prog) (now : Nat) (w : WorkerSt) : Option Cmd → Out → Prop
  | cmd {c o} (h : CmdStep R prog w c o) : WStep R prog now w (some c) o
  | exec {fuel ordQ o} (h : ExecStep prog now fuel ordQ (w.checkExpired prog now ordQ) o) : WStep R prog now w none o
  | check (ordE : List Pid) : WStep R prog now w none (checkOut w ordE)

/-- **One micro step** of the system: an event or a command is consumed, a worker runs its executor or its completion
check, or time passes. -/
inductive Step (R : Rules) (s : Sys) : Sys → Prop
  | env {w e rest} (hq : s.evtQ w = e :: rest) : Step R s (handleEventWith R.combine { s with evtQ := upd s.evtQ w rest } e)
  | fault {i c rest} (hq : s.cmdQ i = c :: rest) (hf : CmdFault s.prog (s.wk i) c) :
      Step R s (Sys.setFault { s with cmdQ := upd s.cmdQ i rest })
  | cmd {i c rest o} (hq : s.cmdQ i = c :: rest) (h : CmdStep R s.prog (s.wk i) c o) :
      Step R s (Sys.commit { s with cmdQ := upd s.cmdQ i rest } i o)
  | exec {i fuel ordQ o} (h : ExecStep s.prog s.now fuel ordQ ((s.wk i).checkExpired s.prog s.now ordQ) o) : Step R s (s.commit i o)
  | check (i : Wid) (ordE : List Pid) : Step R s (s.commit i (checkOut (s.wk i) ordE))
  | tick (ms : Nat) : Step R s { s with now := s.now + ms }

/-- the state a worker step starts from: the head of the command queue is gone if the step consumes a command -/
def Sys.pop (s : Sys) (i : Wid) : Option Cmd → Sys
  | none => s
  | some _ => { s with cmdQ := upd s.cmdQ i (s.cmdQ i).tail }

omit [Cfg] in
theorem Sys.pop_some {s : Sys} {i : Wid} {c : Cmd} {rest : List Cmd} (hq : s.cmdQ i = c :: rest) :
    s.pop i (some c) = { s with cmdQ := upd s.cmdQ i rest } := by
  simp only [Sys.pop, hq, List.tail_cons]

omit [Cfg] in
theorem pop_frame (s : Sys) (i : Wid) (oc : Option Cmd) :
    (s.pop i oc).evtQ = s.evtQ ∧ (s.pop i oc).wk = s.wk ∧ (s.pop i oc).prog = s.prog ∧ (s.pop i oc).env = s.env := by
  cases oc <;> exact ⟨rfl, rfl, rfl, rfl⟩

omit [Cfg] in
theorem pop_cmdQ_other (s : Sys) {i w : Wid} (oc : Option Cmd) (hw : w ≠ i) : (s.pop i oc).cmdQ w = s.cmdQ w := by
  cases oc with
  | none => rfl
  | some c => exact upd_other _ _ _ _ hw

omit [Cfg] in
theorem mem_pop_cmdQ {s : Sys} {i w : Wid} {oc : Option Cmd} {c' : Cmd} (h : c' ∈ (s.pop i oc).cmdQ w) : c' ∈ s.cmdQ w := by
  cases oc with
  | none => exact h
  | some c =>
    have h' : c' ∈ upd s.cmdQ i (s.cmdQ i).tail w := h
    rw [upd_apply] at h'
    split at h'
    · rename_i e; exact e ▸ List.mem_of_mem_tail h'
    · exact h'

omit [Cfg] in
/-- a queued command is still queued after the step, unless it is the one the step consumes -/
theorem mem_cmdQ_pop {s : Sys} {i w : Wid} {oc : Option Cmd} (hq : ∀ c, oc = some c → ∃ rest, s.cmdQ i = c :: rest) {c' : Cmd}
    (h : c' ∈ s.cmdQ w) : (w = i ∧ oc = some c') ∨ c' ∈ (s.pop i oc).cmdQ w := by
  cases oc with
  | none => exact .inr h
  | some c =>
    obtain ⟨rest, hq⟩ := hq c rfl
    show _ ∨ c' ∈ upd s.cmdQ i (s.cmdQ i).tail w
    by_cases hw : w = i
    · subst hw
      rw [upd_same, hq, List.tail_cons]
      rw [hq] at h
      exact (List.mem_cons.mp h).imp (fun e => ⟨rfl, by rw [e]⟩) id
    · exact .inr (by rw [upd_other _ _ _ _ hw]; exact h)

/-- a micro step changes nothing or is a `Step` (`microStep_cases` is the elimination form) -/
theorem microStep_step (R : Rules) (s : Sys) (m : Micro) : microStep R s m = s ∨ Step R s (microStep R s m) := by
  cases m with
  | env w =>
    show envStep1With R.combine s w = s ∨ Step R s (envStep1With R.combine s w)
    unfold envStep1With
    split
    · exact .inl rfl
    · rename_i e rest hq; exact .inr (.env hq)
  | cmd i =>
    show cmdStep1With R s i = s ∨ Step R s (cmdStep1With R s i)
    unfold cmdStep1With
    split
    · exact .inl rfl
    · rename_i c rest hq
      rcases handleCmd_cases R i c (s.wk i) s.prog with ⟨hf, e⟩ | ⟨o, ho, e⟩ <;> rw [e { s with cmdQ := upd s.cmdQ i rest } rfl rfl]
      · exact .inr (.fault hq hf)
      · exact .inr (.cmd hq ho)
  | exec i fuel ordQ =>
    obtain ⟨o, ho, e⟩ := execStep_step i fuel ordQ (s.wk i) s.prog s.now
    show execStep s i fuel ordQ = s ∨ Step R s (execStep s i fuel ordQ)
    rw [e s rfl rfl rfl]
    exact .inr (.exec ho)
  | check i ordE =>
    show checkStep s i ordE = s ∨ Step R s (checkStep s i ordE)
    rw [checkStep_commit]
    exact .inr (.check i ordE)
  | tick ms => exact .inr (.tick ms)

/-- a micro step changes nothing or is a `Step` -/
theorem microStep_cases {R : Rules} {s : Sys} {P : Sys → Prop} (h0 : P s) (h1 : ∀ s', Step R s s' → P s') (m : Micro) :
    P (microStep R s m) := by
  rcases microStep_step R s m with e | hs
  · rw [e]; exact h0
  · exact h1 _ hs

/-- what every `Step` keeps, every micro step keeps -/
theorem Step.micro {R : Rules} {G : Sys → Prop} (hG : ∀ s s', G s → Step R s s' → G s') {s : Sys} (h : G s) (m : Micro) :
    G (microStep R s m) :=
  microStep_cases h (fun _ => hG _ _ h) m

theorem Step.prog {R : Rules} {s s' : Sys} (h : Step R s s') : s'.prog = s.prog := by
  cases h with
  | env hq => exact (handleEvent_frame _ _ _).prog
  | _ => rfl

theorem microStep_prog (R : Rules) (s : Sys) (m : Micro) : (microStep R s m).prog = s.prog :=
  microStep_cases (P := fun s' => s'.prog = s.prog) rfl (fun _ hs => hs.prog) m

theorem appended_step {R : Rules} {s s' : Sys} (hs : Step R s s') : s.appended <+: s'.appended := by
  cases hs with
  | env hq => rw [(handleEvent_frame _ _ _).appended]; exact List.prefix_refl _
  | fault => exact List.prefix_refl _
  | tick => exact List.prefix_refl _
  | _ => exact List.prefix_append _ _

theorem appended_mono_micro (s : Sys) (m : Micro) : s.appended <+: (microStep Rules.current s m).appended :=
  microStep_cases (List.prefix_refl _) (fun _ => appended_step) m

/-- A property of every worker with its event queue is an invariant if losing the head of the queue keeps it and every
worker step keeps it with the emitted events appended; the step is given with the system it happens in (the command it
consumes is the head of the worker's queue). -/
theorem Step.local_invariant_at {R : Rules} {Q : WorkerSt → List Evt → Prop} (hpop : ∀ w e rest, Q w (e :: rest) → Q w rest)
    {s s' : Sys} (h : Step R s s') (hs : ∀ w, Q (s.wk w) (s.evtQ w))
    (hQ : ∀ i oc o, WStep R s.prog s.now (s.wk i) oc o → (∀ c, oc = some c → ∃ rest, s.cmdQ i = c :: rest) →
      Q o.wk (s.evtQ i ++ o.evs)) (w : Wid) : Q (s'.wk w) (s'.evtQ w) := by
  have work : ∀ (s0 : Sys) (i : Wid) (oc : Option Cmd) (o : Out), s0.wk = s.wk → s0.evtQ = s.evtQ →
      WStep R s.prog s.now (s.wk i) oc o → (∀ c, oc = some c → ∃ rest, s.cmdQ i = c :: rest) →
      Q ((s0.commit i o).wk w) ((s0.commit i o).evtQ w) := by
    intro s0 i oc o h1 h2 hw hc
    by_cases e : w = i
    · subst e; rw [commit_wk_self, commit_evtQ_self, h2]; exact hQ _ _ _ hw hc
    · rw [commit_wk_other _ _ e, commit_evtQ_other _ _ e, h1, h2]; exact hs w
  cases h with
  | @env w0 e rest hq =>
    have hf := handleEvent_frame R.combine { s with evtQ := upd s.evtQ w0 rest } e
    rw [hf.wk, hf.evtQ]
    show Q (s.wk w) (upd s.evtQ w0 rest w)
    rw [upd_apply]; split
    · rename_i e'; subst e'; exact hpop _ e _ (hq ▸ hs w)
    · exact hs w
  | fault => exact hs w
  | cmd hq h => exact work _ _ _ _ rfl rfl (.cmd h) fun _ e => ⟨_, Option.some.inj e ▸ hq⟩
  | exec h => exact work s _ _ _ rfl rfl (.exec h) nofun
  | check i ordE => exact work s i _ _ rfl rfl (.check ordE) nofun
  | tick => exact hs w

/-- the same when what a worker step keeps does not depend on the system around it -/
theorem Step.local_invariant {R : Rules} {Q : WorkerSt → List Evt → Prop} (hpop : ∀ w e rest, Q w (e :: rest) → Q w rest)
    (hQ : ∀ prog now w q oc o, WStep R prog now w oc o → Q w q → Q o.wk (q ++ o.evs)) {s s' : Sys} (h : Step R s s')
    (hs : ∀ w, Q (s.wk w) (s.evtQ w)) (w : Wid) : Q (s'.wk w) (s'.evtQ w) :=
  h.local_invariant_at hpop hs (fun i _ _ hw _ => hQ _ _ _ _ _ _ hw (hs i)) w

/-- the same for a property of the worker states alone -/
theorem Step.wk_invariant {R : Rules} {P : WorkerSt → Prop} (hP : ∀ prog now w oc o, WStep R prog now w oc o → P w → P o.wk)
    {s s' : Sys} (h : Step R s s') (hs : ∀ w, P (s.wk w)) (w : Wid) : P (s'.wk w) :=
  h.local_invariant (Q := fun w _ => P w) (fun _ _ _ h => h) (fun prog now w _ oc o hw => hP prog now w oc o hw) hs w

end QM.Sys
