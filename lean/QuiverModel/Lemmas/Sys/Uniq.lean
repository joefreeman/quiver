import QuiverModel.Lemmas.Sys.Stream
/-!
M-Sys: "no script is run by two pids" (`Uniq`) from a static condition on the script table
(`SpawnOnce`: every script is spawned at one place, the main script nowhere) — a token argument over
SpawnAction events, SpawnProcess commands and processes.
-/
namespace QM.Sys
set_option linter.unusedSectionVars false
variable [Cfg]

/-- every script is spawned at one place of the script table, the main script nowhere -/
structure SpawnOnce (prog : Prog) : Prop where
  main : ∀ (k j : Nat) (pass : List Nat), ¬ ((prog.getD k ([] : Script))[j]? = some (Act.spawn 0 pass))
  once : ∀ (k j : Nat) (pass : List Nat) (k' j' : Nat) (pass' : List Nat) (f : Nat), (prog.getD k [])[j]? = some (Act.spawn f pass) →
    (prog.getD k' [])[j']? = some (Act.spawn f pass') → k = k' ∧ j = j'

/-- between `w` and `w'` process `c` issues the SpawnAction for script `f`: it was not issuing, now it is, at a spawn of `f`
at or past its old position -/
abbrev Issues (prog : Prog) (w w' : WorkerSt) (c : Pid) (f : Nat) : Prop :=
  ∃ x x' pass, w.procs c = some x ∧ w'.procs c = some x' ∧ x'.fn = x.fn ∧ x.spawnIssued = false ∧ x.pc ≤ x'.pc ∧
    x'.spawnIssued = true ∧ (prog.getD x.fn [])[x'.pc]? = some (Act.spawn f pass)

theorem exec_adv {prog : Prog} {now fuel : Nat} {ordQ : List Pid} {w0 : WorkerSt} {o : Out} (h : ExecStep prog now fuel ordQ w0 o)
    {c : Pid} {f : Nat} {regs : List Pid} {co : Option Pid} (he : Evt.spawn c f regs co ∈ o.evs) : Issues prog w0 o.wk c f := by
  cases h with
  | idle => cases he
  | gone => cases he
  | errored => cases mem_exitEvts he
  | ran cur rest x x' out _ hx _ hsl =>
    rcases mem_sliceOut_evs he with h | ⟨_, _, _, h⟩ | ⟨_, _, rfl, h⟩ | ⟨_, _, h⟩ <;> cases h
    obtain ⟨hadv, hsp⟩ := slice_adv prog now c fuel x
    rw [hsl] at hadv hsp
    obtain ⟨g1, g2, pass, g3⟩ := hsp f regs rfl
    exact ⟨x, x', pass, hx, upd_same _ _ _, hadv.1, g1, hadv.2.elim Nat.le_of_lt fun h => Nat.le_of_eq h.1.symm, g2, g3⟩

theorem Step.spawn_evt {s s' : Sys} (hs : Step Rules.current s s') {w : Wid} {c : Pid} {f : Nat} {regs : List Pid} {co : Option Pid}
    (hm : Evt.spawn c f regs co ∈ s'.evtQ w) :
    Evt.spawn c f regs co ∈ s.evtQ w ∨ Issues s.prog (s.wk w) (s'.wk w) c f := by
  cases hs with
  | env hq => rw [(handleEvent_frame _ _ _).evtQ] at hm; exact .inl (mem_upd_tail hq hm)
  | fault => exact .inl hm
  | tick => exact .inl hm
  | cmd hq ho =>
    refine (mem_commit_evtQ hm).imp id fun h => ?_
    rcases ho.evs_spec _ h.2 with ⟨_, _, _, e⟩ | ⟨_, _, e⟩ <;> cases e
  | check i ordE =>
    refine (mem_commit_evtQ hm).imp id fun h => ?_
    rcases (ChkOut.check _ ordE).evs _ h.2 with ⟨_, _, _, e, _⟩ | ⟨_, _, e⟩ <;> cases e
  | exec ho =>
    refine (mem_commit_evtQ hm).imp id fun ⟨hw, he⟩ => ?_
    subst hw
    obtain ⟨x, x', pass, h1, h2, h3⟩ := exec_adv ho he
    exact ⟨x, x', pass, h1, by rw [commit_wk_self]; exact h2, h3⟩

/-- no pid is born in a step of a worker: only the environment, handling an event, creates SpawnProcess commands -/
theorem sid_back_step {s s' : Sys} (hsi : SInv s) (hs : Step Rules.current s s') :
    (∃ w e rest, s.evtQ w = e :: rest ∧ s' = handleEventWith Rules.current.combine { s with evtQ := upd s.evtQ w rest } e) ∨
    ∀ q f, Sid s' q f → Sid s q f := by
  cases hs with
  | env hq => exact .inl ⟨_, _, _, hq, rfl⟩
  | fault hq => exact .inr (Sid.back_of (fun w p x' hx' => .inl ⟨x', hx', rfl⟩) fun w c hc => mem_upd_tail hq hc)
  | tick => exact .inr fun _ _ h => h
  | cmd hq ho => exact .inr (sid_back_cmd hsi hq ho)
  | exec ho => exact .inr ho.sid_back
  | check i ordE =>
    refine .inr (Sid.back_of (fun w p x' hx' => .inl ⟨x', ?_, rfl⟩) fun _ _ h => h)
    by_cases e : w = i
    · rw [e, commit_wk_self, (ChkOut.check _ ordE).procs] at hx'; exact e ▸ hx'
    · rwa [commit_wk_other _ _ e] at hx'

/-- some pid runs (or, still in its SpawnProcess command, will run) script `f` -/
def Born (s : Sys) (f : Nat) : Prop := ∃ q, Sid s q f
/-- a SpawnAction for script `f` waits in some event queue (not the `InFlightFrom` of Wake.lean, which is about
await answers) -/
def InFlight (s : Sys) (f : Nat) : Prop := ∃ w c regs co, Evt.spawn c f regs co ∈ s.evtQ w

/-- the token invariant: no script has two pids; a script that is born or being born has its parent at or past the spawn
position; no pid of a script while its SpawnAction is in flight -/
structure UInv (s : Sys) : Prop where
  uniq : Uniq s
  parent : ∀ f k j pass, (s.prog.getD k [])[j]? = some (Act.spawn f pass) → (Born s f ∨ InFlight s f) →
    ∃ w p x, (s.wk w).procs p = some x ∧ x.fn = k ∧ (j < x.pc ∨ (x.pc = j ∧ x.spawnIssued = true))
  excl : ∀ f, InFlight s f → ¬ Born s f

theorem parent_adv {x x' : Proc} {j : Nat} (h : Adv x x') (hp : j < x.pc ∨ (x.pc = j ∧ x.spawnIssued = true)) :
    j < x'.pc ∨ (x'.pc = j ∧ x'.spawnIssued = true) := by
  obtain ⟨_, ha⟩ := h
  rcases hp with hp | ⟨e, hi⟩
  · rcases ha with ha | ⟨ha, _⟩
    · exact Or.inl (Nat.lt_trans hp ha)
    · exact Or.inl (by rw [ha]; exact hp)
  · rcases ha with ha | ⟨ha, hi'⟩
    · exact Or.inl (by rw [← e]; exact ha)
    · exact Or.inr ⟨ha.trans e, hi' hi⟩

/-- steps in which no pid is born: a SpawnAction newly in flight is issued by the parent of its script, which stands at the
spawn position, so the script is not yet born -/
theorem UInv.of_back {s s' : Sys} (h : UInv s) (hr : RInv s) (hso : SpawnOnce s.prog) (hprog : s'.prog = s.prog)
    (hadv : ∀ w, AdvKeep (s.wk w) (s'.wk w)) (hback : ∀ q f, Sid s' q f → Sid s q f)
    (hevt : ∀ w c f regs co, Evt.spawn c f regs co ∈ s'.evtQ w →
      Evt.spawn c f regs co ∈ s.evtQ w ∨ Issues s.prog (s.wk w) (s'.wk w) c f) : UInv s' := by
  have hb : ∀ f, Born s' f → Born s f := fun f ⟨q, hq⟩ => ⟨q, hback q f hq⟩
  have hinfl : ∀ f, InFlight s' f → InFlight s f ∨ ∃ w cur, Issues s.prog (s.wk w) (s'.wk w) cur f :=
    fun f ⟨w, c, regs, co, hm⟩ => (hevt w c f regs co hm).imp (fun h1 => ⟨w, c, regs, co, h1⟩) fun h1 => ⟨w, c, h1⟩
  refine ⟨fun q q' f h1 h2 => h.uniq q q' f (hback q f h1) (hback q' f h2), ?_, ?_⟩
  · intro f k j pass hsc hbi
    rw [hprog] at hsc
    have hold : (Born s f ∨ InFlight s f) → ∃ w p x, (s'.wk w).procs p = some x ∧ x.fn = k ∧ (j < x.pc ∨ (x.pc = j ∧ x.spawnIssued = true)) := by
      intro ho
      obtain ⟨w, p, x, hx, hf, hp⟩ := h.parent f k j pass hsc ho
      obtain ⟨x', hx', ha⟩ := hadv w p x hx
      exact ⟨w, p, x', hx', ha.1.trans hf, parent_adv ha hp⟩
    rcases hbi with hbn | hi
    · exact hold (Or.inl (hb f hbn))
    · rcases hinfl f hi with h1 | ⟨w, cur, x, x', pass', g1, g2, g3, g4, g5, g6, g7⟩
      · exact hold (Or.inr h1)
      · obtain ⟨ek, ej⟩ := hso.once _ _ _ _ _ _ _ hsc g7
        exact ⟨w, cur, x', g2, by rw [g3, ek], Or.inr ⟨ej.symm, g6⟩⟩
  · intro f hi hbn
    have hbs := hb f hbn
    rcases hinfl f hi with h1 | ⟨w, cur, x, x', pass', g1, g2, g3, g4, g5, g6, g7⟩
    · exact h.excl f h1 hbs
    · obtain ⟨w', p, xp, hxp, hf, hp⟩ := h.parent f x.fn x'.pc pass' g7 (Or.inl hbs)
      have hpc : p = cur := h.uniq p cur x.fn (Or.inl ⟨w', xp, hxp, hf⟩) (Or.inl ⟨w, x, g1, rfl⟩)
      subst hpc
      cases hr.one_worker hxp g1
      rw [g1] at hxp; simp only [Option.some.injEq] at hxp; subst hxp
      rcases hp with hp | ⟨_, hi'⟩
      · omega
      · rw [g4] at hi'; cases hi'

theorem spawn_evt_caller {ρ : Nat → Nat → Nat} {ar : Nat → Nat} {σ : Nat → List (Nat × Nat)} {s : Sys} (hk : KInv ρ ar σ s)
    {w : Wid} {c : Pid} {f : Nat} {regs : List Pid} {co : Option Pid} (hm : Evt.spawn c f regs co ∈ s.evtQ w) :
    ∃ x pass, (s.wk w).procs c = some x ∧ (s.prog.getD x.fn [])[x.pc]? = some (Act.spawn f pass) := by
  have hpark := spair_evt_parked hk.wi.pair hm
  obtain ⟨x, hx, _⟩ := (hk.wi.si.sched w).live c (Or.inr (Or.inl hpark))
  obtain ⟨pass, h1, _⟩ := (hk.procs w c x hx).spev f regs co hm
  exact ⟨x, pass, hx, h1⟩

/-- the environment handles an event: a pid is born only from a SpawnAction, whose script is then no longer in flight -/
theorem UInv.env {ρ : Nat → Nat → Nat} {ar : Nat → Nat} {σ : Nat → List (Nat × Nat)} {s : Sys} (hk : KInv ρ ar σ s)
    (hso : SpawnOnce s.prog) (h : UInv s) {w0 : Wid} {e : Evt} {rest : List Evt} (hq : s.evtQ w0 = e :: rest) :
    UInv (handleEventWith Rules.current.combine { s with evtQ := upd s.evtQ w0 rest } e) := by
  have hf := handleEvent_frame Rules.current.combine { s with evtQ := upd s.evtQ w0 rest } e
  have hwk : (handleEventWith Rules.current.combine { s with evtQ := upd s.evtQ w0 rest } e).wk = s.wk := hf.wk
  have hevq : (handleEventWith Rules.current.combine { s with evtQ := upd s.evtQ w0 rest } e).evtQ = upd s.evtQ w0 rest := hf.evtQ
  obtain ⟨hprog, _, hnew, _⟩ := cmdSpec_evt Rules.current.combine hk.wi.si.r hq
  generalize handleEventWith Rules.current.combine { s with evtQ := upd s.evtQ w0 rest } e = s' at *
  -- scripts of the post-state: old ones, or the pid born from the head event
  have hsid : ∀ q f, Sid s' q f → Sid s q f ∨ (q = s.env.nextPid ∧ ∃ c0 regs coloc, e = Evt.spawn c0 f regs coloc) := by
    rintro q f (⟨w, y, hy, hf⟩ | ⟨w, regs, hmem⟩)
    · exact Or.inl (Or.inl ⟨w, y, by rw [hwk] at hy; exact hy, hf⟩)
    · rcases hnew w _ hmem with h1 | h1 | ⟨c0, f', regs', coloc, rest', hq0, h1 | ⟨h1, _⟩⟩
      · exact Or.inl (Or.inr ⟨w, regs, h1⟩)
      · have := h1.1; simp [cmdCreate] at this
      · simp only [Cmd.spawn.injEq] at h1; obtain ⟨rfl, rfl, rfl⟩ := h1
        exact Or.inr ⟨rfl, c0, regs, coloc, (List.cons.inj (hq.symm.trans hq0)).1⟩
      · cases h1
  have hinfl : ∀ f, InFlight s' f → InFlight s f :=
    fun f ⟨w, c, regs, co, hm⟩ => ⟨w, c, regs, co, mem_upd_tail hq (hevq ▸ hm)⟩
  have hhead : ∀ {f c0 regs coloc}, e = Evt.spawn c0 f regs coloc → InFlight s f :=
    fun {f c0 regs coloc} he => ⟨w0, c0, regs, coloc, by rw [hq, he]; exact List.mem_cons_self⟩
  refine ⟨?_, ?_, ?_⟩
  · intro q q' f h1 h2
    rcases hsid q f h1 with a1 | ⟨rfl, c0, regs, coloc, he⟩
    · rcases hsid q' f h2 with a2 | ⟨rfl, c0, regs, coloc, he⟩
      · exact h.uniq q q' f a1 a2
      · exact absurd ⟨q, a1⟩ (h.excl f (hhead he))
    · rcases hsid q' f h2 with a2 | ⟨rfl, _⟩
      · exact absurd ⟨q', a2⟩ (h.excl f (hhead he))
      · rfl
  · intro f k j pass hsc hbi
    rw [hprog] at hsc
    have hold : Born s f ∨ InFlight s f := by
      rcases hbi with ⟨q, hq'⟩ | hi
      · rcases hsid q f hq' with a | ⟨_, c0, regs, coloc, he⟩
        · exact Or.inl ⟨q, a⟩
        · exact Or.inr (hhead he)
      · exact Or.inr (hinfl f hi)
    obtain ⟨w, p, x, hx, hf, hp⟩ := h.parent f k j pass hsc hold
    exact ⟨w, p, x, by rw [hwk]; exact hx, hf, hp⟩
  · rintro f hi ⟨q, hq'⟩
    rcases hsid q f hq' with a | ⟨_, c0, regs0, coloc0, rfl⟩
    · exact h.excl f (hinfl f hi) ⟨q, a⟩
    · -- a second SpawnAction for `f` would be in flight
      obtain ⟨w1, c1, regs1, co1, hm1⟩ := hi
      rw [hevq] at hm1
      have hm1s : Evt.spawn c1 f regs1 co1 ∈ s.evtQ w1 := mem_upd_tail hq hm1
      have hm0s : Evt.spawn c0 f regs0 coloc0 ∈ s.evtQ w0 := by rw [hq]; exact List.mem_cons_self
      obtain ⟨x0, pass0, hx0, hs0⟩ := spawn_evt_caller hk hm0s
      obtain ⟨x1, pass1, hx1, hs1⟩ := spawn_evt_caller hk hm1s
      obtain ⟨ek, _⟩ := hso.once _ _ _ _ _ _ _ hs0 hs1
      have hc : c0 = c1 := h.uniq c0 c1 x0.fn (Or.inl ⟨w0, x0, hx0, rfl⟩) (Or.inl ⟨w1, x1, hx1, ek.symm⟩)
      subst hc
      cases hk.wi.si.r.one_worker hx0 hx1
      have hrest : Evt.spawn c0 f regs1 co1 ∈ rest := by simpa using hm1
      have hsp := hk.wi.pair w0 c0
      rw [hq, List.countP_cons] at hsp
      simp only [isSpawnEvt, decide_true, if_true] at hsp
      have hpos : 0 < rest.countP (isSpawnEvt c0) := by
        rw [List.countP_pos_iff]; exact ⟨_, hrest, by simp [isSpawnEvt]⟩
      have hle : (if c0 ∈ (s.wk w0).spawning then 1 else 0) ≤ 1 := by split <;> omega
      omega

theorem UInv.step {ρ : Nat → Nat → Nat} {ar : Nat → Nat} {σ : Nat → List (Nat × Nat)} {s s' : Sys} (hk : KInv ρ ar σ s)
    (hso : SpawnOnce s.prog) (h : UInv s) (hs : Step Rules.current s s') : UInv s' := by
  rcases sid_back_step hk.wi.si hs with ⟨w, e, rest, hq, rfl⟩ | hback
  · exact h.env hk hso hq
  · exact h.of_back hk.wi.si.r hso hs.prog (adv_step hk.wi.si hs) hback fun _ _ _ _ _ => hs.spawn_evt

theorem UInv.micro {ρ : Nat → Nat → Nat} {ar : Nat → Nat} {σ : Nat → List (Nat × Nat)} {s : Sys} (hk : KInv ρ ar σ s)
    (hso : SpawnOnce s.prog) (m : Micro) (h : UInv s) : UInv (microStep Rules.current s m) :=
  microStep_cases h (fun _ => h.step hk hso) m

theorem UInv.of_started {s : Sys} (h : Started s) (hso : SpawnOnce s.prog) : UInv s := by
  have hsid : ∀ q f, Sid s q f → q = 0 ∧ f = 0 := by
    rintro q f (⟨w, y, hy, hf⟩ | ⟨w, regs, hm⟩)
    · rw [h.procs] at hy
      split at hy
      · rename_i hwp
        simp only [Option.some.injEq] at hy; subst hy
        exact ⟨hwp.2, hf.symm⟩
      · cases hy
    · rcases h.cmds w _ hm with h1 | ⟨_, _, h1⟩ <;> cases h1
  have hnofl : ∀ f, ¬ InFlight s f := by
    rintro f ⟨w, c, regs, co, hm⟩
    rw [h.evtQ w] at hm; cases hm
  refine ⟨fun q q' f h1 h2 => by rw [(hsid q f h1).1, (hsid q' f h2).1], ?_, fun f hi => absurd hi (hnofl f)⟩
  intro f k j pass hsc hbi
  rcases hbi with ⟨q, hq⟩ | hi
  · obtain ⟨_, rfl⟩ := hsid q f hq
    exact absurd hsc (hso.main k j pass)
  · exact absurd hi (hnofl f)

/-- **The Kahn invariant of the confluent class from static hypotheses only**: a script table with
a register typing, one sender script per mailbox and every script spawned at one place
(`SpawnOnce`): in every reachable state every process's history is the trace of its script over the
static stream of its mailbox; no script is run by two pids; arrivals follow the static streams. -/
theorem kahn_invariant_static (ρ : Nat → Nat → Nat) (ar : Nat → Nat) (snd : Nat → Nat) (n : Nat) (prog : Prog) (req : Nat)
    (hn : 0 < n) (hwf : ProgWF prog) (hty : RegTyping prog ρ ar) (htab : SingleSenderTable prog ρ ar snd) (hso : SpawnOnce prog)
    (cs : List Choice) :
    PreStart (run (Sys.init n prog req) cs) ∨
      (KInv ρ ar (streamOf prog ρ snd) (run (Sys.init n prog req) cs) ∧ StreamOK (streamOf prog ρ snd) (run (Sys.init n prog req) cs) ∧
        Uniq (run (Sys.init n prog req) cs)) := by
  have key := invariant_from_init Rules.current
    (fun s => SInv s ∧ DInv s ∧ (s.prog = prog →
      KInv ρ ar (streamOf prog ρ snd) s ∧ MInv ρ snd s ∧ StreamOK (streamOf prog ρ snd) s ∧ UInv s))
    (fun s hs => ⟨SInv.of_started hs, DInv.of_started hs, fun hp =>
      ⟨KInv.of_started hs (hp ▸ hty), MInv.of_started hs, by
        intro w p x _ _; rw [hs.appended]; simp, UInv.of_started hs (hp ▸ hso)⟩⟩)
    (fun s m ⟨hsi, hdi, hk⟩ => by
      have hprog := microStep_prog Rules.current s m
      have hsi' := hsi.micro Rules.current_sane m
      have hdi' := hdi.micro Rules.current_tame m
      refine ⟨hsi', hdi', fun hp => ?_⟩
      have hp0 : s.prog = prog := hprog.symm.trans hp
      obtain ⟨hk1, hm1, _, hu1⟩ := hk hp0
      have hu' : UInv (microStep Rules.current s m) := hu1.micro hk1 (hp0 ▸ hso) m
      have hm' : MInv ρ snd (microStep Rules.current s m) := hm1.micro hk1 (hp0 ▸ htab) m
      have hsd' : StreamOK (streamOf prog ρ snd) (microStep Rules.current s m) := by
        have := streamOK_of hsi' hdi' hu'.uniq hm'
        rw [hp] at this; exact this
      exact ⟨hk1.micro m hsd', hm', hsd', hu'⟩) n prog req hn hwf cs
  rcases key with h | ⟨_, _, h⟩
  · exact Or.inl h
  · obtain ⟨h1, _, h3, h4⟩ := h (run_prog _ _ _)
    exact Or.inr ⟨h1, h3, h4.uniq⟩

end QM.Sys
