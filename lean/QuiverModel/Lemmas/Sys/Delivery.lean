import QuiverModel.Lemmas.Sys.Start
/-
Delivery invariant of M-Sys (`DInv`): message conservation per (sender, receiver) pair along the
pipeline  sender's event queue → receiver's command queue → handled by `notify_message` (the ghost list `appended`;
under the variant `releaseDead` a handled message for a dead receiver is not put into the mailbox: Dead.lean),  no
message is dropped for want of a receiver (a `DeliverMessage` never overtakes the `SpawnProcess` of its target), and
spawn replies are conserved per caller.
-/
namespace QM.Sys
set_option linter.unusedSectionVars false
variable [Cfg]

/-- messages of a (receiver, message) log that go from `a` to `b` -/
def sel (a b : Pid) (l : List (Pid × Msg)) : List Msg :=
  l.filterMap (fun rm => if rm.1 = b ∧ rm.2.src = a then some rm.2 else none)

/-- the message a command / an event carries; `selC`, `selE`: the messages from `a` to `b` in a command / event queue -/
def cmdMsg : Cmd → Option (Pid × Msg)
  | .deliver t m => some (t, m)
  | _ => none
def evtMsg : Evt → Option (Pid × Msg)
  | .deliver t m => some (t, m)
  | _ => none

def cmdMsgs (q : List Cmd) : List (Pid × Msg) := q.filterMap cmdMsg
def evtMsgs (q : List Evt) : List (Pid × Msg) := q.filterMap evtMsg

def selC (a b : Pid) (q : List Cmd) : List Msg := sel a b (cmdMsgs q)
def selE (a b : Pid) (q : List Evt) : List Msg := sel a b (evtMsgs q)

/-- the worker a pid is routed to (0 for pids the environment has not allocated) -/
def home (s : Sys) (p : Pid) : Wid := (s.env.router p).getD 0

theorem home_eq {s : Sys} {p : Pid} {w : Wid} (h : s.env.router p = some w) : home s p = w := by
  simp [home, h]

@[simp] theorem sel_nil (a b : Pid) : sel a b [] = [] := rfl
theorem sel_append (a b : Pid) (l l' : List (Pid × Msg)) : sel a b (l ++ l') = sel a b l ++ sel a b l' := by
  simp [sel, List.filterMap_append]
theorem sel_single (a b : Pid) (t : Pid) (m : Msg) :
    sel a b [(t, m)] = if t = b ∧ m.src = a then [m] else [] := by
  simp only [sel, List.filterMap_cons, List.filterMap_nil]
  by_cases h : t = b ∧ m.src = a <;> simp [h]

theorem cmdMsg_eq_some {c : Cmd} {t : Pid} {m : Msg} : cmdMsg c = some (t, m) ↔ c = .deliver t m := by
  cases c <;> simp [cmdMsg]
theorem evtMsg_eq_some {e : Evt} {t : Pid} {m : Msg} : evtMsg e = some (t, m) ↔ e = .deliver t m := by
  cases e <;> simp [evtMsg]

theorem mem_sel_iff {a b : Pid} {l : List (Pid × Msg)} {m : Msg} : m ∈ sel a b l ↔ (b, m) ∈ l ∧ m.src = a := by
  simp only [sel, List.mem_filterMap, Option.ite_none_right_eq_some, Option.some.injEq]
  constructor
  · rintro ⟨⟨t, m'⟩, hm, ⟨rfl, rfl⟩, rfl⟩; exact ⟨hm, rfl⟩
  · rintro ⟨hm, rfl⟩; exact ⟨_, hm, ⟨rfl, rfl⟩, rfl⟩

theorem mem_selC {a b : Pid} {q : List Cmd} {m : Msg} : m ∈ selC a b q ↔ Cmd.deliver b m ∈ q ∧ m.src = a := by
  simp only [selC, mem_sel_iff, cmdMsgs, List.mem_filterMap, cmdMsg_eq_some, exists_eq_right]
theorem mem_selE {a b : Pid} {q : List Evt} {m : Msg} : m ∈ selE a b q ↔ Evt.deliver b m ∈ q ∧ m.src = a := by
  simp only [selE, mem_sel_iff, evtMsgs, List.mem_filterMap, evtMsg_eq_some, exists_eq_right]

theorem selC_append (a b : Pid) (q q' : List Cmd) : selC a b (q ++ q') = selC a b q ++ selC a b q' := by
  simp only [selC, cmdMsgs, List.filterMap_append, sel_append]
theorem selE_append (a b : Pid) (q q' : List Evt) : selE a b (q ++ q') = selE a b q ++ selE a b q' := by
  simp only [selE, evtMsgs, List.filterMap_append, sel_append]

theorem selC_silent {c : Cmd} (h : cmdMsg c = none) (a b : Pid) : selC a b [c] = [] := by
  simp only [selC, cmdMsgs, List.filterMap_cons, h, List.filterMap_nil, sel_nil]
theorem selE_silent {e : Evt} (h : evtMsg e = none) (a b : Pid) : selE a b [e] = [] := by
  simp only [selE, evtMsgs, List.filterMap_cons, h, List.filterMap_nil, sel_nil]

def spawnedOf (c : Pid) (l : List (Pid × Pid)) : List Pid :=
  l.filterMap (fun cp => if cp.1 = c then some cp.2 else none)
def notifiedOf (c : Pid) (l : List (Pid × Pid × Bool)) : List Pid :=
  l.filterMap (fun x => if x.1 = c then some x.2.1 else none)
def cmdNotify (c : Pid) : Cmd → Option Pid
  | .notifySpawn c' p => if c' = c then some p else none
  | _ => none
def notifyC (c : Pid) (q : List Cmd) : List Pid := q.filterMap (cmdNotify c)

theorem cmdNotify_eq_some {c p : Pid} {x : Cmd} : cmdNotify c x = some p ↔ x = .notifySpawn c p := by
  cases x <;> simp [cmdNotify]

theorem mem_notifyC {c p : Pid} {q : List Cmd} : p ∈ notifyC c q ↔ Cmd.notifySpawn c p ∈ q := by
  simp only [notifyC, List.mem_filterMap, cmdNotify_eq_some, exists_eq_right]

theorem notifyC_append (c : Pid) (q q' : List Cmd) : notifyC c (q ++ q') = notifyC c q ++ notifyC c q' :=
  List.filterMap_append

theorem notifyC_silent {c : Pid} {x : Cmd} (h : cmdNotify c x = none) : notifyC c [x] = [] := by
  simp only [notifyC, List.filterMap_cons, h, List.filterMap_nil]

def cmdCreate : Cmd → Option Pid
  | .spawn p _ _ => some p
  | _ => none
def creates (q : List Cmd) : List Pid := q.filterMap cmdCreate

theorem cmdCreate_eq_some {c : Cmd} {p : Pid} : cmdCreate c = some p ↔ ∃ fn regs, c = .spawn p fn regs := by
  cases c <;> simp [cmdCreate]

theorem mem_creates_iff {p : Pid} {q : List Cmd} : p ∈ creates q ↔ ∃ fn regs, Cmd.spawn p fn regs ∈ q := by
  simp only [creates, List.mem_filterMap, cmdCreate_eq_some]
  constructor
  · rintro ⟨c, hc, fn, regs, rfl⟩; exact ⟨fn, regs, hc⟩
  · rintro ⟨fn, regs, hc⟩; exact ⟨_, hc, fn, regs, rfl⟩

theorem creates_append (q q' : List Cmd) : creates (q ++ q') = creates q ++ creates q' := List.filterMap_append

theorem creates_cons (q : List Cmd) (c : Cmd) :
    creates (c :: q) = (match cmdCreate c with | some p => [p] | none => []) ++ creates q := by
  simp only [creates, List.filterMap_cons]
  cases h : cmdCreate c <;> simp

theorem mem_creates_cons {p : Pid} {c : Cmd} {q : List Cmd} :
    p ∈ creates (c :: q) ↔ some p = cmdCreate c ∨ p ∈ creates q := by
  cases h : cmdCreate c <;> simp [creates, h, eq_comm]

theorem creates_silent {c : Cmd} (h : cmdCreate c = none) : creates [c] = [] := by
  simp only [creates, List.filterMap_cons, h, List.filterMap_nil]

/-- every `deliver` in the queue targets a process that exists or is created earlier in the queue -/
def QOK (K : Pid → Prop) : List Cmd → Prop
  | [] => True
  | .spawn p _ _ :: q => QOK (fun x => K x ∨ x = p) q
  | .deliver t _ :: q => K t ∧ QOK K q
  | _ :: q => QOK K q

/-- requirement on a command appended at the end of a queue -/
def endOK (K : Pid → Prop) (q : List Cmd) : Cmd → Prop
  | .deliver t _ => K t ∨ t ∈ creates q
  | _ => True

theorem QOK_cons {K : Pid → Prop} {c : Cmd} {q : List Cmd} :
    QOK K (c :: q) ↔ (∀ t m, c = .deliver t m → K t) ∧ QOK (fun x => K x ∨ some x = cmdCreate c) q := by
  cases c <;> simp [QOK, cmdCreate]

theorem endOK_iff {K : Pid → Prop} {q : List Cmd} {c : Cmd} :
    endOK K q c ↔ ∀ t m, c = .deliver t m → K t ∨ t ∈ creates q := by
  cases c <;> simp [endOK]

theorem QOK.mono {K K' : Pid → Prop} (hk : ∀ x, K x → K' x) : ∀ {q : List Cmd}, QOK K q → QOK K' q
  | [], _ => trivial
  | c :: q, h => by
    rw [QOK_cons] at h ⊢
    exact ⟨fun t m e => hk t (h.1 t m e), QOK.mono (fun x hx => hx.imp_left (hk x)) h.2⟩

theorem QOK.append {c : Cmd} : ∀ {K : Pid → Prop} {q : List Cmd}, QOK K q → endOK K q c → QOK K (q ++ [c])
  | K, [], _, he => by
    rw [endOK_iff] at he
    exact QOK_cons.mpr ⟨fun t m e => (he t m e).resolve_right List.not_mem_nil, trivial⟩
  | K, x :: q, h, he => by
    rw [List.cons_append, QOK_cons] at *
    refine ⟨h.1, QOK.append h.2 ?_⟩
    rw [endOK_iff] at he ⊢
    intro t m e
    rcases he t m e with h1 | h1
    · exact Or.inl (Or.inl h1)
    · exact (mem_creates_cons.mp h1).imp_left Or.inr

theorem QOK.push {K : Wid → Pid → Prop} {q : Wid → List Cmd} (h : ∀ w, QOK (K w) (q w)) {w : Wid} {c : Cmd}
    (hc : endOK (K w) (q w) c) (w' : Wid) : QOK (K w') (upd q w (q w ++ [c]) w') := by
  unfold upd; split
  · rename_i e; subst e; exact (h w').append hc
  · exact h w'

theorem mem_creates_push {q : Wid → List Cmd} {w' : Wid} {p : Pid} (h : p ∈ creates (q w')) (w : Wid) (c : Cmd) :
    p ∈ creates (upd q w (q w ++ [c]) w') := by
  rw [hom_push creates_append]
  exact List.mem_append_left _ h

/-- `conserve`: for every pair, what was handled, then what waits in the receiver's command queue, then what waits in
the sender's event queue is what was sent — oldest first, which is what gives exactly-once and per-sender FIFO.
`spawnReply` is the same for the NotifySpawn replies of a caller. -/
structure DInv (s : Sys) : Prop where
  r : RInv s
  qok : ∀ w, QOK (known s w) (s.cmdQ w)
  placedOrPending : ∀ p w, s.env.router p = some w → known s w p ∨ p ∈ creates (s.cmdQ w)
  nodrop : s.dropped = []
  conserve : ∀ a b, sel a b s.appended ++ selC a b (s.cmdQ (home s b)) ++ selE a b (s.evtQ (home s a)) = sel a b s.sent
  spawnReply : ∀ c, notifiedOf c s.spawnNotified ++ notifyC c (s.cmdQ (home s c)) = spawnedOf c s.spawned

theorem selE_of_evtOK {router : Router} {plen : Nat} {w : Wid} {a b : Pid} {q : List Evt}
    (hq : ∀ e ∈ q, EvtOK router plen w e) (ha : router a ≠ some w) : selE a b q = [] :=
  List.eq_nil_iff_forall_not_mem.mpr fun _ hm =>
    have ⟨hin, hsrc⟩ := mem_selE.mp hm
    ha (hsrc ▸ (hq _ hin).1)

theorem selC_of_cmdOK {router : Router} {plen : Nat} {K : Pid → Prop} {w : Wid} {a b : Pid} {q : List Cmd}
    (hq : ∀ c ∈ q, CmdOK router plen K w c) (hb : router b ≠ some w) : selC a b q = [] :=
  List.eq_nil_iff_forall_not_mem.mpr fun _ hm => hb (hq _ (mem_selC.mp hm).1)

theorem notifyC_of_cmdOK {router : Router} {plen : Nat} {K : Pid → Prop} {w : Wid} {c : Pid} {q : List Cmd}
    (hq : ∀ x ∈ q, CmdOK router plen K w x) (hc : router c ≠ some w) : notifyC c q = [] :=
  List.eq_nil_iff_forall_not_mem.mpr fun _ hm => hc (hq _ (mem_notifyC.mp hm)).1

/-- extending the router does not change what a queue-valued `G` holds at the home of `p` (an unrouted pid's `home` is
the junk value 0, hence the hypothesis that `G` is empty everywhere in that case): keeps `conserve` and `spawnReply`
across a spawn -/
theorem home_ext {s : Sys} {r' : Router} (he : Ext s.env.router r') {β : Type} (G : Wid → List β) {p : Pid}
    (hG : s.env.router p = none → ∀ w, G w = []) : G ((r' p).getD 0) = G (home s p) := by
  cases hr : s.env.router p with
  | none => rw [hG hr, hG hr]
  | some w => rw [home, hr, he p w hr]

/-- what `DInv` needs to know of a worker step that consumes no command and only emits events -/
structure WorkerEff (s s' : Sys) (i : Wid) : Prop where
  r' : RInv s'
  env : s'.env = s.env
  cmdQ : s'.cmdQ = s.cmdQ
  known : ∀ w p, known s' w p ↔ known s w p
  evs : ∃ evs, s'.evtQ = upd s.evtQ i (s.evtQ i ++ evs) ∧ s'.sent = s.sent ++ evtMsgs evs
  appended : s'.appended = s.appended
  dropped : s'.dropped = s.dropped
  spawned : s'.spawned = s.spawned
  spawnNotified : s'.spawnNotified = s.spawnNotified

theorem home_congr {s s' : Sys} (h : s'.env = s.env) (p : Pid) : home s' p = home s p := by
  simp [home, h]

theorem DInv.workerEff {s s' : Sys} {i : Wid} (h : DInv s) (e : WorkerEff s s' i) : DInv s' := by
  obtain ⟨evs, hev, hsent⟩ := e.evs
  refine { r := e.r', qok := ?_, placedOrPending := ?_, nodrop := by rw [e.dropped]; exact h.nodrop,
           conserve := ?_, spawnReply := ?_ }
  · intro w; rw [e.cmdQ]
    exact QOK.mono (fun x hx => (e.known w x).mpr hx) (h.qok w)
  · intro p w hp
    rw [e.env] at hp; rw [e.cmdQ]
    rcases h.placedOrPending p w hp with h1 | h1
    · exact Or.inl ((e.known w p).mpr h1)
    · exact Or.inr h1
  · intro a b
    rw [e.appended, e.cmdQ, home_congr e.env, home_congr e.env, hsent, sel_append, ← h.conserve a b, hev]
    by_cases ha : home s a = i
    · rw [ha]; simp only [upd_same, selE_append, List.append_assoc]; rfl
    · have hne : s'.env.router a ≠ some i := by
        intro hr; rw [e.env] at hr; exact ha (home_eq hr)
      have : selE a b evs = [] := by
        refine selE_of_evtOK (plen := s'.prog.length) (fun ev hev' => e.r'.evts i ev ?_) hne
        rw [hev]; simp [hev']
      simp only [upd_other _ _ _ _ ha]
      unfold selE at this
      rw [this]; simp
  · intro c
    rw [e.spawnNotified, e.cmdQ, home_congr e.env, e.spawned]
    exact h.spawnReply c

/-- shape of a worker step that consumes no command: only worker `i`'s state changes (same set of
processes), events are appended to its event queue, `sent` grows by the messages among them -/
structure Shape (s s' : Sys) (i : Wid) : Prop where
  env : s'.env = s.env
  prog : s'.prog = s.prog
  cmdQ : s'.cmdQ = s.cmdQ
  known : ∀ w p, known s' w p ↔ known s w p
  evs : ∃ evs, s'.evtQ = upd s.evtQ i (s.evtQ i ++ evs) ∧ s'.sent = s.sent ++ evtMsgs evs
  appended : s'.appended = s.appended
  dropped : s'.dropped = s.dropped
  deadDropped : s'.deadDropped = s.deadDropped
  spawned : s'.spawned = s.spawned
  spawnNotified : s'.spawnNotified = s.spawnNotified

theorem Shape.ghost {s s' : Sys} {i : Wid} (h : Shape s s' i) (reported learned : List (Pid × Pid)) :
    Shape s { s' with reported := reported, learned := learned } i := { h with }

theorem Shape.commit (s : Sys) (i : Wid) {o : Out} (hk : ∀ p, (o.wk.procs p).isSome = ((s.wk i).procs p).isSome)
    (hsent : o.sent = evtMsgs o.evs)
    (hq : o.appended = [] ∧ o.dropped = [] ∧ o.deadDropped = [] ∧ o.spawnNotified = []) : Shape s (s.commit i o) i := by
  refine { env := rfl, prog := rfl, cmdQ := rfl, known := fun w p => ?_, evs := ⟨o.evs, rfl, by rw [← hsent]; rfl⟩,
           appended := ?_, dropped := ?_, deadDropped := ?_, spawned := rfl, spawnNotified := ?_ }
  · unfold QM.Sys.known
    by_cases e : w = i
    · rw [e, commit_wk_self, hk]
    · rw [commit_wk_other _ _ e]
  · exact (congrArg (s.appended ++ ·) hq.1).trans (List.append_nil _)
  · exact (congrArg (s.dropped ++ ·) hq.2.1).trans (List.append_nil _)
  · exact (congrArg (s.deadDropped ++ ·) hq.2.2.1).trans (List.append_nil _)
  · exact (congrArg (s.spawnNotified ++ ·) hq.2.2.2).trans (List.append_nil _)

theorem evtMsgs_exitEvts (cur : Pid) (x : Proc) : evtMsgs (exitEvts cur x) = [] := by unfold exitEvts; split <;> rfl

theorem ExecStep.sent_eq {prog : Prog} {now fuel : Nat} {ordQ : List Pid} {w0 : WorkerSt} {o : Out}
    (h : ExecStep prog now fuel ordQ w0 o) : o.sent = evtMsgs o.evs := by
  cases h with
  | errored cur _ x _ _ _ => exact (evtMsgs_exitEvts cur x).symm
  | ran cur _ _ x' out _ _ _ _ =>
    cases out with
    | failed => exact (evtMsgs_exitEvts cur x').symm
    | done => exact (evtMsgs_exitEvts cur x').symm
    | _ => rfl
  | _ => rfl

theorem Shape.exec (s : Sys) (i : Wid) {fuel : Nat} {ordQ : List Pid} {o : Out}
    (ho : ExecStep s.prog s.now fuel ordQ ((s.wk i).checkExpired s.prog s.now ordQ) o) : Shape s (s.commit i o) i :=
  Shape.commit s i ho.case.sameProcs.dom ho.sent_eq
    ⟨ho.quiet.1, ho.quiet.2.1, ho.quiet.2.2.1, ho.quiet.2.2.2.1⟩

theorem Shape.check (s : Sys) (i : Wid) (ordE : List Pid) : Shape s (s.commit i (checkOut (s.wk i) ordE)) i := by
  have hc := ChkOut.check (s.wk i) ordE
  obtain ⟨h1, h2, h3, h4, h5, _⟩ := hc.quiet
  refine Shape.commit s i (fun p => by rw [hc.procs]) (h1.trans (Eq.symm ?_)) ⟨h2, h3, h4, h5⟩
  exact List.filterMap_eq_nil_iff.mpr fun e he => by
    rcases hc.evs e he with ⟨_, _, _, rfl, _⟩ | ⟨_, _, rfl⟩ <;> rfl

theorem Shape.workerEff {s s' : Sys} {i : Wid} (h : Shape s s' i) (r' : RInv s') : WorkerEff s s' i :=
  { r' := r', env := h.env, cmdQ := h.cmdQ, known := h.known, evs := h.evs, appended := h.appended,
    dropped := h.dropped, spawned := h.spawned, spawnNotified := h.spawnNotified }

/-- what `DInv` needs to know of a step in which worker `i` consumes the command `c` at the head of its queue -/
structure CmdEff (s s' : Sys) (i : Wid) (c : Cmd) (rest : List Cmd) : Prop where
  r' : RInv s'
  env : s'.env = s.env
  cmdQ : s'.cmdQ = upd s.cmdQ i rest
  knownMono : ∀ w p, known s w p → known s' w p
  knownNew : ∀ w p, known s' w p → known s w p ∨ (w = i ∧ cmdCreate c = some p)
  created : ∀ p, cmdCreate c = some p → known s' i p
  evs : ∃ evs, s'.evtQ = upd s.evtQ i (s.evtQ i ++ evs) ∧ evtMsgs evs = []
  sent : s'.sent = s.sent
  delivered : ∀ t m, c = .deliver t m → known s i t → s'.appended = s.appended ++ [(t, m)] ∧ s'.dropped = s.dropped
  notDeliver : cmdMsg c = none → s'.appended = s.appended ∧ s'.dropped = s.dropped
  spawned : s'.spawned = s.spawned
  notified : ∀ c', notifiedOf c' s'.spawnNotified =
    notifiedOf c' s.spawnNotified ++ (match cmdNotify c' c with | some p => [p] | none => [])

/-- a consumed `deliver t m` leaves the command queue of `home t = i` (that it is queued at its receiver's home is `CmdOK`)
and joins `appended`: for every pair the three-part sum is unchanged; likewise a consumed NotifySpawn -/
theorem DInv.cmdEff {s s' : Sys} {i : Wid} {c : Cmd} {rest : List Cmd} (h : DInv s) (hq : s.cmdQ i = c :: rest)
    (e : CmdEff s s' i c rest) : DInv s' := by
  have hcok : CmdOK s.env.router s.prog.length (known s i) i c := h.r.cmds i c (hq ▸ List.mem_cons_self)
  have hqok := QOK_cons.mp (hq ▸ h.qok i)
  obtain ⟨evs, hev, hevs⟩ := e.evs
  have happ : s'.appended = s.appended ++ (cmdMsg c).toList ∧ s'.dropped = s.dropped := by
    cases hc : cmdMsg c with
    | none => simpa using e.notDeliver hc
    | some tm =>
      cases cmdMsg_eq_some.mp hc
      exact e.delivered _ _ rfl (hqok.1 _ _ rfl)
  refine { r := e.r', qok := ?_, placedOrPending := ?_, nodrop := happ.2 ▸ h.nodrop, conserve := ?_, spawnReply := ?_ }
  · intro w
    rw [e.cmdQ]
    unfold upd; split
    · rename_i hw; subst hw
      exact QOK.mono (fun x hx => hx.elim (e.knownMono w x) (fun hc => e.created x hc.symm)) hqok.2
    · exact QOK.mono (e.knownMono w) (h.qok w)
  · intro p w hp
    rw [e.env] at hp
    rw [e.cmdQ]
    refine (h.placedOrPending p w hp).elim (fun h1 => Or.inl (e.knownMono w p h1)) fun h1 => ?_
    unfold upd; split
    · rename_i hw; subst hw
      rw [hq] at h1
      exact (mem_creates_cons.mp h1).imp_left fun hc => e.created p hc.symm
    · exact Or.inr h1
  · intro a b
    have hsel : sel a b (cmdMsg c).toList = if home s b = i then selC a b [c] else [] := by
      have : selC a b [c] = sel a b (cmdMsg c).toList := by cases hc : cmdMsg c <;> simp [selC, cmdMsgs, hc]
      rw [this, ite_nil_eq]
      intro hne
      obtain ⟨m, hm⟩ := List.exists_mem_of_ne_nil _ (this ▸ hne)
      cases List.mem_singleton.mp (mem_selC.mp hm).1
      exact home_eq hcok
    rw [home_congr e.env, home_congr e.env, e.sent, ← h.conserve a b, e.cmdQ, hev, happ.1, sel_append, hsel,
      hom_push_silent (selE_append a b) (by rw [selE, hevs]; rfl), hom_pop (selC_append a b) hq (home s b)]
    simp only [List.append_assoc]
  · intro c'
    have hnot : (match cmdNotify c' c with | some p => [p] | none => []) = if home s c' = i then notifyC c' [c] else [] := by
      have : notifyC c' [c] = (match cmdNotify c' c with | some p => [p] | none => []) := by
        cases hc : cmdNotify c' c <;> simp [notifyC, hc]
      rw [← this, ite_nil_eq]
      intro hne
      obtain ⟨p, hp⟩ := List.exists_mem_of_ne_nil _ hne
      cases List.mem_singleton.mp (mem_notifyC.mp hp)
      exact home_eq hcok.1
    rw [e.notified c', home_congr e.env, e.spawned, ← h.spawnReply c', e.cmdQ, hnot,
      hom_pop (notifyC_append c') hq (home s c')]
    simp only [List.append_assoc]

theorem CmdEff.simple {s s' : Sys} {i : Wid} {c : Cmd} {rest : List Cmd} (r' : RInv s') (env : s'.env = s.env)
    (cmdQ : s'.cmdQ = upd s.cmdQ i rest) (hk : ∀ w p, known s' w p ↔ known s w p)
    (evs : ∃ evs, s'.evtQ = upd s.evtQ i (s.evtQ i ++ evs) ∧ evtMsgs evs = [])
    (sent : s'.sent = s.sent) (app : s'.appended = s.appended) (drop : s'.dropped = s.dropped)
    (spawned : s'.spawned = s.spawned) (notif : s'.spawnNotified = s.spawnNotified)
    (hc1 : cmdCreate c = none) (hc2 : cmdMsg c = none) (hc3 : ∀ c', cmdNotify c' c = none) : CmdEff s s' i c rest :=
  { r' := r', env := env, cmdQ := cmdQ, knownMono := fun w p h => (hk w p).mpr h,
    knownNew := fun w p h => Or.inl ((hk w p).mp h), created := (fun p h => by rw [hc1] at h; cases h),
    evs := evs, sent := sent,
    delivered := (fun t m h => by subst h; simp [cmdMsg] at hc2),
    notDeliver := fun _ => ⟨app, drop⟩, spawned := spawned,
    notified := fun c' => by rw [notif, hc3 c']; simp }

theorem notifiedOf_snoc (c' caller newPid : Pid) (was : Bool) (l : List (Pid × Pid × Bool)) :
    notifiedOf c' (l ++ [(caller, newPid, was)]) =
      notifiedOf c' l ++ (match cmdNotify c' (.notifySpawn caller newPid) with | some p => [p] | none => []) := by
  simp only [notifiedOf, List.filterMap_append, cmdNotify, List.filterMap_cons, List.filterMap_nil]
  by_cases h : caller = c' <;> simp [h]

theorem dom_of_same {w w' : WorkerSt} {c : Cmd} (hs : SameProcs w w') (hc : cmdCreate c = none) (p : Pid) :
    (w'.procs p).isSome ↔ (w.procs p).isSome ∨ cmdCreate c = some p := by
  rw [hs.dom, hc]; simp

/-- what the output of a command may do to the set of processes and to the delivery and spawn-reply logs -/
structure OutDelta (w : WorkerSt) (c : Cmd) (o : Out) : Prop where
  dom : ∀ p, (o.wk.procs p).isSome ↔ (w.procs p).isSome ∨ cmdCreate c = some p
  silent : evtMsgs o.evs = []
  sent : o.sent = []
  delivered : ∀ t m, c = .deliver t m → (w.procs t).isSome → o.appended = [(t, m)] ∧ o.dropped = []
  notDeliver : cmdMsg c = none → o.appended = [] ∧ o.dropped = []
  notified : ∀ c', notifiedOf c' o.spawnNotified = (match cmdNotify c' c with | some p => [p] | none => [])

theorem OutDelta.plain {w : WorkerSt} {c : Cmd} {o : Out} (hs : SameProcs w o.wk) (h1 : cmdCreate c = none)
    (h2 : cmdMsg c = none) (h3 : ∀ c', cmdNotify c' c = none) (he : evtMsgs o.evs = [])
    (hl : o.sent = [] ∧ o.appended = [] ∧ o.dropped = [] ∧ o.spawnNotified = []) : OutDelta w c o :=
  ⟨dom_of_same hs h1, he, hl.1, fun t m e => (by rw [e] at h2; cases h2), fun _ => ⟨hl.2.1, hl.2.2.1⟩,
    fun c' => (by rw [hl.2.2.2, h3 c']; rfl)⟩

/-- (`hc` only rules out `start` and `resume`; the router in it plays no part) -/
theorem CmdStep.delta {R : Rules} (hR : R.Tame) {prog : Prog} {w : WorkerSt} {c : Cmd} {o : Out} (h : CmdStep R prog w c o)
    {r : Router} {n : Nat} {K : Pid → Prop} {i : Wid} (hc : CmdOK r n K i c) : OutDelta w c o := by
  have updDom : ∀ {p x x'}, w.procs p = some x → ∀ q, (upd w.procs p (some x') q).isSome ↔ (w.procs q).isSome ∨ none = some q :=
    fun hx q => by
      unfold upd; split
      · rename_i e; simp [e, hx]
      · simp
  have snoc : ∀ c' caller np was, notifiedOf c' [(caller, np, was)] =
      (match cmdNotify c' (.notifySpawn caller np) with | some p => [p] | none => []) := fun c' caller np was =>
    notifiedOf_snoc c' caller np was []
  cases h with
  | misc => exact .plain (.refl _) rfl rfl (fun _ => rfl) rfl ⟨rfl, rfl, rfl, rfl⟩
  | start p => exact hc.elim
  | resume p fn x v => exact hc.elim
  | spawn p fn regs =>
    refine ⟨fun q => ?_, rfl, rfl, nofun, fun _ => ⟨rfl, rfl⟩, fun _ => rfl⟩
    simp only [WorkerSt.setProc, cmdCreate, Option.some.injEq]
    unfold upd; split
    · rename_i e; simp [e]
    · rename_i e; simp [Ne.symm e]
  | notifyNone caller np _ => exact ⟨dom_of_same (.of_eq rfl rfl) rfl, rfl, rfl, nofun, fun _ => ⟨rfl, rfl⟩, fun _ => snoc ..⟩
  | notifySome caller np x hx =>
    refine ⟨fun q => ?_, rfl, rfl, nofun, fun _ => ⟨rfl, rfl⟩, fun _ => snoc ..⟩
    dsimp only; split <;> exact updDom hx q
  | deliverNone t m hx =>
    exact ⟨dom_of_same (.wakeSelecting _ _) rfl, rfl, rfl, fun _ _ e hk => (by cases e; rw [hx] at hk; cases hk), nofun, fun _ => rfl⟩
  | deliverDead t m x _ =>
    exact ⟨dom_of_same (.wakeSelecting _ _) rfl, rfl, rfl, fun _ _ e _ => (by cases e; exact ⟨rfl, rfl⟩), nofun, fun _ => rfl⟩
  | deliver t m x hx =>
    refine ⟨fun q => ?_, rfl, rfl, fun _ _ e _ => (by cases e; exact ⟨rfl, rfl⟩), nofun, fun _ => rfl⟩
    rw [(SameProcs.wakeSelecting _ _).dom]; exact updDom hx q
  | queryAwait a ts =>
    exact ⟨fun p => (by rw [(queryTargets_spec a ts w).1]; simp [cmdCreate]), rfl, rfl, nofun, fun _ => ⟨rfl, rfl⟩, fun _ => rfl⟩
  | updateAwait a rs =>
    refine .plain ?_ rfl rfl (fun _ => rfl) rfl ⟨rfl, rfl, rfl, rfl⟩
    dsimp only
    split
    · exact SameProcs.applyResults a rs _
    · exact (SameProcs.applyResults a rs _).trans (hR _ a)
  | getResult req p x r => exact .plain (.refl _) rfl rfl (fun _ => rfl) rfl ⟨rfl, rfl, rfl, rfl⟩
  | getLater req p x => exact .plain (.of_eq rfl rfl) rfl rfl (fun _ => rfl) rfl ⟨rfl, rfl, rfl, rfl⟩

theorem CmdEff.commit {s : Sys} {i : Wid} {c : Cmd} {rest : List Cmd} {o : Out} (hd : OutDelta (s.wk i) c o)
    (r' : RInv (Sys.commit { s with cmdQ := upd s.cmdQ i rest } i o)) :
    CmdEff s (Sys.commit { s with cmdQ := upd s.cmdQ i rest } i o) i c rest := by
  have hk : ∀ w p, known (Sys.commit { s with cmdQ := upd s.cmdQ i rest } i o) w p ↔
      known s w p ∨ (w = i ∧ cmdCreate c = some p) := by
    intro w p
    unfold known
    by_cases e : w = i
    · rw [e, commit_wk_self, hd.dom]; simp
    · rw [commit_wk_other _ _ e]; simp [e]
  have nil : ∀ {α : Type} (l : List α) {l' : List α}, l' = [] → l ++ l' = l := fun l _ e => by rw [e, List.append_nil]
  exact { r' := r', env := rfl, cmdQ := rfl, knownMono := fun w p hp => (hk w p).mpr (Or.inl hp), knownNew := fun w p => (hk w p).mp,
          created := fun p hp => (hk i p).mpr (Or.inr ⟨rfl, hp⟩), evs := ⟨o.evs, rfl, hd.silent⟩, sent := nil _ hd.sent,
          delivered := fun t m e hkn => ⟨congrArg (s.appended ++ ·) (hd.delivered t m e hkn).1, nil _ (hd.delivered t m e hkn).2⟩,
          notDeliver := fun hc => ⟨nil _ (hd.notDeliver hc).1, nil _ (hd.notDeliver hc).2⟩,
          spawned := rfl, notified := fun c' => (List.filterMap_append).trans (congrArg (notifiedOf c' s.spawnNotified ++ ·) (hd.notified c')) }

theorem DInv.popEvtOther {s : Sys} (h : DInv s) {w : Wid} {e : Evt} {rest : List Evt} (hq : s.evtQ w = e :: rest)
    (he : evtMsg e = none) : DInv { s with evtQ := upd s.evtQ w rest } where
  r := (h.r.popEvt hq).1
  qok := h.qok
  placedOrPending := h.placedOrPending
  nodrop := h.nodrop
  conserve a b := by
    show _ ++ selE a b (upd s.evtQ w rest (home s a)) = _
    rw [hom_pop_silent (selE_append a b) hq (selE_silent he a b)]; exact h.conserve a b
  spawnReply := h.spawnReply

theorem DInv.pushCmdOther {s : Sys} (h : DInv s) (w : Wid) (c : Cmd)
    (hc : CmdOK s.env.router s.prog.length (known s w) w c)
    (h1 : cmdMsg c = none) (h3 : ∀ c', cmdNotify c' c = none) : DInv (s.pushCmd w c) where
  r := h.r.pushCmd w c hc
  qok := QOK.push h.qok (endOK_iff.mpr fun t m e => by rw [e] at h1; cases h1)
  placedOrPending p w' hp := (h.placedOrPending p w' hp).imp_right (mem_creates_push · w c)
  nodrop := h.nodrop
  conserve a b := by
    rw [pushCmd_cmdQ, hom_push_silent (selC_append a b) (selC_silent h1 a b)]; exact h.conserve a b
  spawnReply c' := by
    rw [pushCmd_cmdQ, hom_push_silent (notifyC_append c') (notifyC_silent (h3 c'))]; exact h.spawnReply c'

theorem DInv.envOther {s : Sys} (h : DInv s) (pending : Pid → Option PendingAwait) (results : List (Nat × Res)) :
    DInv { s with env := { s.env with pending := pending, results := results } } :=
  { r := { h.r with }, qok := h.qok, placedOrPending := h.placedOrPending, nodrop := h.nodrop,
    conserve := h.conserve, spawnReply := h.spawnReply }

theorem DInv.handleAwait {s : Sys} (h : DInv s) {w0 : Wid} {a : Pid} {ts : List Pid}
    (he : EvtOK s.env.router s.prog.length w0 (.await a ts)) : DInv (handleAwait s a ts) :=
  handleAwait_invariant he.2 (fun _ => h.envOther _ _) fun _ w _ hr hts h' =>
    h'.pushCmdOther w _ ⟨hr ▸ Option.isSome_iff_exists.mpr ⟨w0, he.1⟩, fun t ht => hr ▸ hts t ht⟩ rfl fun _ => rfl

theorem DInv.handleProcResults {s : Sys} (h : DInv s) (combine) {w0 : Wid} {a : Pid} {rs : Results}
    (he : EvtOK s.env.router s.prog.length w0 (.procResults a rs)) : DInv (handleProcResultsWith combine s a rs) := by
  obtain ⟨aw, ha⟩ := Option.isSome_iff_exists.mp he.1
  exact handleProcResults_invariant combine rs ha h (fun _ => h.envOther _ _) fun _ _ hr h' =>
    h'.pushCmdOther aw _ (hr ▸ ha) rfl fun _ => rfl

theorem DInv.handleDeliver {s : Sys} (h : DInv s) {w : Wid} {t : Pid} {m : Msg} {rest : List Evt}
    (hq : s.evtQ w = .deliver t m :: rest) : DInv (handleDeliver { s with evtQ := upd s.evtQ w rest } t m) := by
  obtain ⟨r1, hsrc, ht⟩ := h.r.popEvt hq
  obtain ⟨wt, hr⟩ := Option.isSome_iff_exists.mp ht
  rw [handleDeliver_eq (s := { s with evtQ := upd s.evtQ w rest }) hr]
  refine { r := r1.pushCmd wt _ hr, qok := QOK.push h.qok (h.placedOrPending t wt hr),
           placedOrPending := fun p w' hp => (h.placedOrPending p w' hp).imp_right (mem_creates_push · wt _),
           nodrop := h.nodrop, conserve := fun a b => ?_, spawnReply := fun c' => ?_ }
  · -- the message leaves the sender's event queue and joins the receiver's command queue
    have hS : sel a b [(t, m)] ≠ [] → (s.env.router b).getD 0 = wt ∧ (s.env.router a).getD 0 = w := fun hne => by
      rw [sel_single] at hne
      split at hne
      · rename_i hab; exact ⟨hab.1 ▸ home_eq hr, hab.2 ▸ home_eq hsrc⟩
      · exact absurd rfl hne
    have hC : selC a b [.deliver t m] = sel a b [(t, m)] := rfl
    have hE : selE a b [.deliver t m] = sel a b [(t, m)] := rfl
    have hcons := h.conserve a b
    dsimp only [Sys.pushCmd, home] at hcons ⊢
    rw [← hcons, hom_push (selC_append a b), hom_pop (selE_append a b) hq ((s.env.router a).getD 0), hC, hE,
      ite_nil_eq fun hne => (hS hne).1, ite_nil_eq fun hne => (hS hne).2]
    simp only [List.append_assoc]
  · dsimp only [Sys.pushCmd, home]
    rw [hom_push_silent (notifyC_append c') rfl]; exact h.spawnReply c'

theorem DInv.alloc {s : Sys} (h : DInv s) {w : Wid} {fn : Nat} {regs : List Pid} (r' : RInv (s.alloc w fn regs)) :
    DInv (s.alloc w fn regs) := by
  have hext := ext_insert_fresh h.r w
  refine { r := r', qok := QOK.push h.qok trivial, placedOrPending := fun p w' hp => ?_, nodrop := h.nodrop,
           conserve := fun a b => ?_, spawnReply := fun c' => ?_ }
  · dsimp only [Sys.alloc, Sys.pushCmd] at hp ⊢
    unfold upd at hp; split at hp
    · rename_i e; cases hp
      rw [hom_push creates_append, if_pos rfl, e]
      exact Or.inr (List.mem_append_right _ (List.mem_singleton_self _))
    · exact (h.placedOrPending p w' hp).imp_right (mem_creates_push · w _)
  · dsimp only [Sys.alloc, Sys.pushCmd, home]
    rw [hom_push_silent (selC_append a b) rfl,
      home_ext hext (fun w' => selC a b (s.cmdQ w')) fun hb w' => selC_of_cmdOK (h.r.cmds w') (hb ▸ nofun),
      home_ext hext (fun w' => selE a b (s.evtQ w')) fun ha w' => selE_of_evtOK (h.r.evts w') (ha ▸ nofun)]
    exact h.conserve a b
  · dsimp only [Sys.alloc, Sys.pushCmd, home]
    rw [hom_push_silent (notifyC_append c') rfl,
      home_ext hext (fun w' => notifyC c' (s.cmdQ w')) fun hc w' => notifyC_of_cmdOK (h.r.cmds w') (hc ▸ nofun)]
    exact h.spawnReply c'

theorem DInv.reply {s : Sys} (h : DInv s) {cw : Wid} {caller newPid : Pid} (hc : s.env.router caller = some cw)
    (r' : RInv (s.reply cw caller newPid)) : DInv (s.reply cw caller newPid) := by
  refine { r := r', qok := QOK.push h.qok trivial,
           placedOrPending := fun p w' hp => (h.placedOrPending p w' hp).imp_right (mem_creates_push · cw _),
           nodrop := h.nodrop, conserve := fun a b => ?_, spawnReply := fun c' => ?_ }
  · dsimp only [Sys.reply, Sys.pushCmd, home]
    rw [hom_push_silent (selC_append a b) rfl]; exact h.conserve a b
  · dsimp only [Sys.reply, Sys.pushCmd, home]
    have hN : notifyC c' [.notifySpawn caller newPid] = if caller = c' then [newPid] else [] := by
      by_cases e : caller = c' <;> simp [notifyC, cmdNotify, e]
    have hS : spawnedOf c' (s.spawned ++ [(caller, newPid)]) = spawnedOf c' s.spawned ++ if caller = c' then [newPid] else [] := by
      by_cases e : caller = c' <;> simp [spawnedOf, e]
    have hhome : (if caller = c' then [newPid] else []) ≠ [] → (s.env.router c').getD 0 = cw := fun hne => by
      split at hne
      · rename_i e; exact e ▸ home_eq hc
      · exact absurd rfl hne
    rw [hom_push (notifyC_append c'), hS, ← h.spawnReply c', hN, List.append_assoc, ite_nil_eq hhome]
    rfl

theorem DInv.handleSpawn {s : Sys} (h : DInv s) {w0 : Wid} {caller : Pid} {fn : Nat} {regs : List Pid} {coloc : Option Pid}
    (he : EvtOK s.env.router s.prog.length w0 (.spawn caller fn regs coloc)) :
    DInv (handleSpawn s caller fn regs coloc) := by
  have r' := h.r.handleSpawn he
  have hne := Nat.ne_of_lt (h.r.below caller w0 he.1)
  have hc := ext_insert_fresh h.r (placement s coloc s.env.nextPid) _ _ he.1
  rw [handleSpawn_alloc he.1 hne] at r' ⊢
  exact (h.alloc (h.r.alloc (placement_lt h.r coloc _) he.2.1 he.2.2)).reply hc r'

theorem DInv.step {R : Rules} (hR : R.Tame) {s s' : Sys} (h : DInv s) (hs : Step R s s') : DInv s' := by
  have r' := h.r.step hR hs
  cases hs with
  | @env w e rest hq =>
    have he := (h.r.popEvt hq).2
    cases e with
    | spawn c fn regs coloc => exact (h.popEvtOther hq rfl).handleSpawn he
    | deliver t m => exact h.handleDeliver hq
    | await a ts => exact (h.popEvtOther hq rfl).handleAwait he
    | procResults a rs => exact (h.popEvtOther hq rfl).handleProcResults R.combine he
    | resultResp req r => exact (h.popEvtOther hq rfl).envOther _ _
    | exited p => exact h.popEvtOther hq rfl
  | fault hq hf => exact absurd hf (h.r.popCmd hq).2.not_fault
  | cmd hq ho => exact h.cmdEff hq (.commit (ho.delta hR (h.r.cmds _ _ (hq ▸ List.mem_cons_self))) r')
  | exec ho => exact h.workerEff ((Shape.exec s _ ho).workerEff r')
  | check i ordE => exact h.workerEff ((Shape.check s i ordE).workerEff r')
  | tick ms => exact { h with r := r' }

theorem DInv.micro {R : Rules} (hR : R.Tame) {s : Sys} (h : DInv s) (m : Micro) : DInv (microStep R s m) :=
  Step.micro (fun _ _ h hs => h.step hR hs) h m

/-- a queue without `deliver`, `spawn`, `notifySpawn` commands -/
def Inert (q : List Cmd) : Prop := ∀ c ∈ q, cmdMsg c = none ∧ cmdCreate c = none ∧ ∀ c', cmdNotify c' c = none

theorem Inert.facts {K : Pid → Prop} : ∀ {q : List Cmd}, Inert q →
    QOK K q ∧ (∀ a b, selC a b q = []) ∧ (∀ c', notifyC c' q = []) ∧ creates q = []
  | [], _ => ⟨trivial, fun _ _ => rfl, fun _ => rfl, rfl⟩
  | c :: q, h => by
    have ih := Inert.facts (K := K) (q := q) (fun c' hc' => h c' (List.mem_cons_of_mem _ hc'))
    obtain ⟨h1, h2, h3⟩ := h c (by simp)
    refine ⟨QOK_cons.mpr ⟨fun t m e => (by rw [e] at h1; cases h1), ?_⟩,
      fun a b => by rw [← List.singleton_append, selC_append, selC_silent h1, ih.2.1]; rfl,
      fun c' => by rw [← List.singleton_append, notifyC_append, notifyC_silent (h3 c'), ih.2.2.1]; rfl,
      by rw [← List.singleton_append, creates_append, creates_silent h2, ih.2.2.2]; rfl⟩
    exact (Inert.facts (q := q) fun c' hc' => h c' (List.mem_cons_of_mem _ hc')).1

theorem inert_misc : Cmd.misc ∈ [Cmd.misc] → True := fun _ => trivial

theorem Started.inert {s : Sys} (h : Started s) (w : Wid) : Inert (s.cmdQ w) := by
  intro c hc
  rcases h.cmds w c hc with rfl | ⟨_, _, rfl⟩ <;> exact ⟨rfl, rfl, fun _ => rfl⟩

theorem PreStart.inert {s : Sys} (h : PreStart s) (w : Wid) : Inert (s.cmdQ w) := by
  intro c hc
  by_cases ew : w = 0
  · subst ew
    obtain ⟨k, req, hq⟩ := h.cmd0
    rw [hq] at hc
    simp only [List.mem_append, List.mem_replicate, List.mem_cons, List.not_mem_nil, or_false] at hc
    rcases hc with ⟨_, rfl⟩ | rfl | rfl <;> exact ⟨rfl, rfl, fun _ => rfl⟩
  · rw [h.cmdOther w ew c hc]; exact ⟨rfl, rfl, fun _ => rfl⟩

theorem DInv.of_started {s : Sys} (h : Started s) : DInv s := by
  have hr := RInv.of_started h
  refine { r := hr, qok := fun w => (Inert.facts (h.inert w)).1, placedOrPending := ?_, nodrop := h.dropped,
           conserve := ?_, spawnReply := ?_ }
  · intro p w hp
    left
    rw [h.router] at hp; simp only [upd_apply] at hp
    split at hp
    · rename_i e; subst e; simp at hp; subst hp
      unfold known; rw [h.procs]; simp
    · simp at hp
  · intro a b
    rw [h.appended, h.sent, (Inert.facts (K := fun _ => True) (h.inert _)).2.1, h.evtQ]; rfl
  · intro c
    rw [h.spawnNotified, h.spawned, (Inert.facts (K := fun _ => True) (h.inert _)).2.2.1]; rfl

/-- a command that neither creates a process nor completes a spawn -/
def plainCmd (c : Cmd) : Prop := cmdCreate c = none ∧ ∀ a b, c ≠ .notifySpawn a b

theorem EnvStep.cmds_spec {combine} {env : Env} {n : Nat} {e : Evt} {o : EnvOut} (h : EnvStep combine env n e o) {w : Wid} {c : Cmd}
    (hm : (w, c) ∈ o.cmds) :
    plainCmd c ∨ ∃ c0 f regs coloc, e = .spawn c0 f regs coloc ∧
      (c = .spawn env.nextPid f regs ∨ (c = .notifySpawn c0 env.nextPid ∧ (c0 = env.nextPid ∨ env.router c0 = some w))) := by
  cases h with
  | spawn c0 f regs coloc w1 cw _ hcw =>
    refine .inr ⟨c0, f, regs, coloc, rfl, ?_⟩
    simp only [List.mem_cons, Prod.mk.injEq, List.not_mem_nil, or_false] at hm
    rcases hm with ⟨_, rfl⟩ | ⟨rfl, rfl⟩
    · exact .inl rfl
    · refine .inr ⟨rfl, ?_⟩
      rw [upd_apply] at hcw
      split at hcw
      · exact .inl ‹_›
      · exact .inr hcw
  | spawnFault c0 f regs coloc =>
    rw [(Prod.mk.inj (List.mem_singleton.mp hm)).2]; exact .inr ⟨c0, f, regs, coloc, rfl, .inl rfl⟩
  | await a ts => obtain ⟨_, _, h2⟩ := List.mem_map.mp hm; cases h2; exact .inl ⟨rfl, nofun⟩
  | deliver | last | late => rw [(Prod.mk.inj (List.mem_singleton.mp hm)).2]; exact .inl ⟨rfl, nofun⟩
  | _ => cases hm

theorem filter_eq_sel (a b : Pid) : ∀ (l : List (Pid × Msg)), (∀ e ∈ l, e.1 = b → e.2.src = a) →
    (l.filter (fun e => e.1 = b)).map (fun e => e.2) = sel a b l
  | [], _ => rfl
  | e :: l, h => by
    have ih := filter_eq_sel a b l (fun e' he' => h e' (List.mem_cons_of_mem _ he'))
    unfold sel at ih ⊢
    by_cases hb : e.1 = b
    · have hs := h e (by simp) hb
      simp only [List.filter_cons, hb, decide_true, if_true, List.map_cons, List.filterMap_cons, hs, and_self]
      rw [ih]
    · simp only [List.filter_cons, hb, decide_false, Bool.false_eq_true, if_false, List.filterMap_cons, false_and]
      exact ih

end QM.Sys
