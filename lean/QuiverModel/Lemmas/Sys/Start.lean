import QuiverModel.Lemmas.Sys.Routing
/-
Start-up of the system and the induction principle used by every invariant proof.

`Sys.init` has the commands of `Repl::evaluate` queued but not yet consumed.  Until worker 0
consumes `ResumeProcess 0` nothing can happen except consuming `misc` commands (`PreStart`);
consuming it yields the explicit state `Started`.  An invariant `G` that holds for every `Started`
state and is preserved by the five micro-steps holds (as `PreStart ∨ G`) after every choice sequence.
-/
namespace QM.Sys
set_option linter.unusedSectionVars false
variable [Cfg]

/-- worker 0 after `Repl::new`: the persistent process 0, asleep -/
def W0init : WorkerSt := WorkerSt.empty.setProc 0 (Proc.sleeping 0)

/-- worker 0 after the `resume` of `Repl::evaluate`: process 0 at the start of script 0, queued -/
def W0started : WorkerSt :=
  { W0init with procs := upd W0init.procs 0 (some { Proc.sleeping 0 with result := none, fn := 0, pc := 0, acc := [] }),
                queue := [0] }

/-- nothing has happened yet: only pid 0 is routed, no event, no command but `misc`s, every ghost history empty -/
structure Quiet (s : Sys) : Prop where
  npos : 0 < s.n
  nofault : s.fault = false
  progwf : ProgWF s.prog
  router : s.env.router = upd (fun _ => none) 0 (some 0)
  pending : s.env.pending = fun _ => none
  nextPid : s.env.nextPid = 1
  results : s.env.results = []
  evtQ : ∀ w, s.evtQ w = []
  cmdOther : ∀ w, w ≠ 0 → ∀ c ∈ s.cmdQ w, c = Cmd.misc
  sent : s.sent = []
  appended : s.appended = []
  dropped : s.dropped = []
  deadDropped : s.deadDropped = []
  spawned : s.spawned = []
  spawnNotified : s.spawnNotified = []
  reported : s.reported = []
  learned : s.learned = []

structure PreStart (s : Sys) : Prop extends Quiet s where
  wk : s.wk = upd (fun _ => WorkerSt.empty) 0 W0init
  cmd0 : ∃ k req, s.cmdQ 0 = List.replicate k Cmd.misc ++ [Cmd.resume 0 0, Cmd.getResult req 0]

structure Started (s : Sys) : Prop extends Quiet s where
  wk : s.wk = upd (fun _ => WorkerSt.empty) 0 W0started
  cmd0 : ∃ req, s.cmdQ 0 = [Cmd.getResult req 0]

theorem Started.cmds {s : Sys} (h : Started s) (w : Wid) (c : Cmd) (hc : c ∈ s.cmdQ w) : c = .misc ∨ ∃ r p, c = .getResult r p := by
  by_cases ew : w = 0
  · subst ew
    obtain ⟨req, hq⟩ := h.cmd0
    rw [hq, List.mem_singleton] at hc
    exact Or.inr ⟨req, 0, hc⟩
  · exact Or.inl (h.cmdOther w ew c hc)

theorem preStart_init (n : Nat) (prog : Prog) (req : Nat) (hn : 0 < n) (hwf : ProgWF prog) : PreStart (Sys.init n prog req) := by
  refine { npos := hn, nofault := rfl, progwf := hwf, router := rfl, pending := rfl, nextPid := rfl, results := rfl, evtQ := fun _ => rfl,
           cmdOther := ?_, sent := rfl, appended := rfl, dropped := rfl, deadDropped := rfl, spawned := rfl, spawnNotified := rfl,
           reported := rfl, learned := rfl, wk := rfl, cmd0 := ⟨2, req, rfl⟩ }
  intro w hw c hc
  simp only [Sys.init, hw, if_false] at hc
  split at hc <;> simp_all

theorem PreStart.wk_idle {s : Sys} (h : PreStart s) (i : Wid) :
    (s.wk i).queue = [] ∧ (s.wk i).selecting = [] ∧ (s.wk i).awaited = [] ∧ (s.wk i).resultReqKeys = [] := by
  rw [h.wk]
  by_cases e : i = 0
  · subst e; simp [W0init, WorkerSt.setProc, WorkerSt.empty]
  · simp [e, WorkerSt.empty]

theorem checkExpired_idle {w : WorkerSt} (hq : w.selecting = []) (prog : Prog) (now : Nat) (ordQ : List Pid) :
    w.checkExpired prog now ordQ = w := by
  cases w
  simp only [WorkerSt.checkExpired, WorkerSt.expired] at *
  subst hq
  simp

theorem execStep_idle {s : Sys} {i : Wid} (hq : (s.wk i).queue = []) (hs : (s.wk i).selecting = [])
    (fuel : Nat) (ordQ : List Pid) : execStep s i fuel ordQ = s := by
  unfold execStep
  dsimp only
  rw [checkExpired_idle hs, hq]
  simp

theorem checkStep_idle {s : Sys} {i : Wid} (ha : (s.wk i).awaited = []) (hr : (s.wk i).resultReqKeys = [])
    (ordE : List Pid) : checkStep s i ordE = s := by
  unfold checkStep completedAwaited
  dsimp only
  rw [ha]
  simp [hr]

/-- Before start-up worker 0 consumes its `misc`s and then the `resume`; every other micro step is a no-op because all
scheduling sets and queues are empty.  Proved on the functions themselves: no invariant admits a queued `resume`. -/
theorem PreStart.micro {s : Sys} (h : PreStart s) (R : Rules) (m : Micro) :
    PreStart (microStep R s m) ∨ Started (microStep R s m) := by
  cases m with
  | env w =>
    left
    simp only [microStep, envStep1With, h.evtQ w]
    exact h
  | exec i fuel ordQ =>
    left
    obtain ⟨hq, hs, _, _⟩ := h.wk_idle i
    simp only [microStep, execStep_idle hq hs]
    exact h
  | check i ordE =>
    left
    obtain ⟨_, _, ha, hr⟩ := h.wk_idle i
    simp only [microStep, checkStep_idle ha hr]
    exact h
  | tick ms => left; exact { h with }
  | cmd i =>
    simp only [microStep, cmdStep1With]
    by_cases e : i = 0
    · subst e
      obtain ⟨k, req, hk⟩ := h.cmd0
      cases k with
      | zero =>
        right
        simp only [List.replicate, List.nil_append] at hk
        rw [hk]
        simp only [handleCmdWith]
        have hlen : ¬ (0 ≥ s.prog.length) := by have := h.progwf.1; omega
        rw [if_neg hlen]
        have hp : (s.wk 0).procs 0 = some (Proc.sleeping 0) := by
          rw [h.wk]; simp [W0init, WorkerSt.setProc]
        simp only [hp, Proc.sleeping, Proc.fresh]
        refine { npos := h.npos, nofault := h.nofault, progwf := h.progwf, router := h.router, pending := h.pending, nextPid := h.nextPid,
                 results := h.results, evtQ := h.evtQ, cmdOther := ?_, sent := h.sent, appended := h.appended,
                 dropped := h.dropped, deadDropped := h.deadDropped, spawned := h.spawned, spawnNotified := h.spawnNotified, reported := h.reported,
                 learned := h.learned, wk := ?_, cmd0 := ⟨req, by simp⟩ }
        · intro w hw c hc
          have hc' : c ∈ upd s.cmdQ 0 [Cmd.getResult req 0] w := hc
          simp only [upd_apply, hw, if_false] at hc'
          exact h.cmdOther w hw c hc'
        · show upd s.wk 0 _ = _
          simp only [h.wk]
          funext j
          by_cases ej : j = 0
          · subst ej; simp [W0started, W0init, WorkerSt.setProc, Proc.sleeping, Proc.fresh, WorkerSt.empty]
          · simp [ej]
      | succ k =>
        left
        simp only [List.replicate, List.cons_append] at hk
        rw [hk]
        simp only [handleCmdWith]
        refine { h with cmdOther := ?_, cmd0 := ⟨k, req, by simp⟩ }
        intro w hw c hc
        simp only [upd_apply, hw, if_false] at hc
        exact h.cmdOther w hw c hc
    · left
      cases hq : s.cmdQ i with
      | nil => simp only []; exact h
      | cons c rest =>
        have hc : c = Cmd.misc := h.cmdOther i e c (by rw [hq]; simp)
        subst hc
        simp only [handleCmdWith]
        refine { h with cmdOther := ?_, cmd0 := ?_ }
        · intro w hw c hc
          simp only [upd_apply] at hc
          split at hc
          · rename_i ew; subst ew; exact h.cmdOther w hw c (by rw [hq]; exact List.mem_cons_of_mem _ hc)
          · exact h.cmdOther w hw c hc
        · obtain ⟨k, req, hk⟩ := h.cmd0
          refine ⟨k, req, ?_⟩
          simp only [upd_apply, Ne.symm e, if_false]
          exact hk

/-! ### every `sysStep` is a sequence of micro-steps -/

theorem micro_iter (R : Rules) (P : Sys → Prop) (hP : ∀ s m, P s → P (microStep R s m)) (m : Micro) :
    ∀ k s, P s → P (iter (fun a => microStep R a m) k s) :=
  iter_invariant P _ (fun a ha => hP a m ha)

theorem sysStep_invariant (R : Rules) (P : Sys → Prop) (hP : ∀ s m, P s → P (microStep R s m))
    (s : Sys) (c : Choice) (h : P s) : P (sysStepWith R s c) := by
  cases c with
  | env vis =>
    simp only [sysStepWith, envStepWith]
    apply foldl_invariant P _ _ _ _ h
    intro a w ha
    exact micro_iter R P hP (.env w) _ a ha
  | worker i vis fuel ordQ ordE =>
    simp only [sysStepWith]
    split
    · simp only [workerStepWith]
      apply hP _ (.check i ordE)
      apply hP _ (.exec i fuel ordQ)
      exact micro_iter R P hP (.cmd i) _ s h
    · exact h
  | tick ms => exact hP s (.tick ms) h

theorem run_invariant (R : Rules) (P : Sys → Prop) (hP : ∀ s m, P s → P (microStep R s m))
    (cs : List Choice) (s : Sys) (h : P s) : P (runWith R s cs) := by
  unfold runWith
  exact foldl_invariant P _ (fun a c ha => sysStep_invariant R P hP a c ha) cs s h

/-- what every `Step` keeps holds after every run -/
theorem run_invariant' (R : Rules) (G : Sys → Prop) (hG : ∀ s s', G s → Step R s s' → G s')
    (cs : List Choice) (s : Sys) (h : G s) : G (runWith R s cs) :=
  run_invariant R G (fun _ m hs => Step.micro hG hs m) cs s h

theorem run_prog (R : Rules) (s : Sys) (cs : List Choice) : (runWith R s cs).prog = s.prog :=
  run_invariant R (fun s' => s'.prog = s.prog) (fun s' m h => (microStep_prog R s' m).trans h) cs s rfl

/-- The induction principle: an invariant of all `Started` states that the micro-steps preserve
holds, up to the start-up phase, after every choice sequence from `Sys.init`. -/
theorem invariant_from_init (R : Rules) (G : Sys → Prop) (hstart : ∀ s, Started s → G s)
    (hstep : ∀ s m, G s → G (microStep R s m))
    (n : Nat) (prog : Prog) (req : Nat) (hn : 0 < n) (hwf : ProgWF prog) (cs : List Choice) :
    PreStart (runWith R (Sys.init n prog req) cs) ∨ G (runWith R (Sys.init n prog req) cs) := by
  apply run_invariant R (fun s => PreStart s ∨ G s)
  · intro s m h
    rcases h with h | h
    · rcases h.micro R m with h' | h'
      · exact Or.inl h'
      · exact Or.inr (hstart _ h')
    · exact Or.inr (hstep s m h)
  · exact Or.inl (preStart_init n prog req hn hwf)

/-- … with the step case given for `Step` -/
theorem invariant_of_steps (R : Rules) (G : Sys → Prop) (hstart : ∀ s, Started s → G s)
    (hstep : ∀ s s', G s → Step R s s' → G s')
    (n : Nat) (prog : Prog) (req : Nat) (hn : 0 < n) (hwf : ProgWF prog) (cs : List Choice) :
    PreStart (runWith R (Sys.init n prog req) cs) ∨ G (runWith R (Sys.init n prog req) cs) :=
  invariant_from_init R G hstart (fun _ m h => Step.micro hstep h m) n prog req hn hwf cs

theorem run_eq_runWith (s : Sys) (cs : List Choice) : run s cs = runWith Rules.current s cs := rfl

/-! ### the routing invariant holds from the start -/

theorem Started.wk_at {s : Sys} (h : Started s) (w : Wid) :
    s.wk w = if w = 0 then W0started else WorkerSt.empty := by
  rw [h.wk]; simp [upd_apply]

theorem W0started_procs (p : Pid) :
    W0started.procs p = if p = 0 then some { Proc.sleeping 0 with result := none, fn := 0, pc := 0, acc := [] } else none := by
  simp only [W0started, W0init, WorkerSt.setProc, WorkerSt.empty, upd_apply]
  split <;> simp_all

theorem Started.procs {s : Sys} (h : Started s) (w : Wid) (p : Pid) :
    (s.wk w).procs p = if w = 0 ∧ p = 0 then some { Proc.sleeping 0 with result := none, fn := 0, pc := 0, acc := [] } else none := by
  rw [h.wk_at]
  by_cases ew : w = 0
  · subst ew; simp [W0started_procs]
  · simp [ew, WorkerSt.empty]

theorem RInv.of_started {s : Sys} (h : Started s) : RInv s := by
  have hr : ∀ p w, s.env.router p = some w → p = 0 ∧ w = 0 := by
    intro p w hp; rw [h.router] at hp; simp only [upd_apply] at hp
    split at hp <;> simp_all
  refine { nofault := h.nofault, progwf := h.progwf, below := ?_, zero := ?_, wbound := ?_, placed := ?_, cmds := ?_, evts := ?_,
           regs := ?_, awaiters := ?_ }
  · intro p w hp; rw [h.nextPid, (hr p w hp).1]; exact Nat.one_pos
  · unfold Routed; rw [h.router]; simp
  · intro p w hp; rw [(hr p w hp).2]; exact h.npos
  · intro w p hp
    unfold known at hp; rw [h.procs] at hp
    split at hp
    · rename_i e; rw [e.1, e.2, h.router]; simp
    · simp at hp
  · intro w c hc
    by_cases ew : w = 0
    · subst ew
      obtain ⟨req, hq⟩ := h.cmd0
      rw [hq] at hc; simp at hc; subst hc
      show known s 0 0
      unfold known; rw [h.procs]; simp
    · rw [h.cmdOther w ew c hc]; trivial
  · intro w e he; rw [h.evtQ w] at he; simp at he
  · intro w p x hx q hq
    rw [h.procs] at hx
    split at hx
    · simp at hx; subst hx
      simp [Proc.sleeping, Proc.fresh] at hq
      subst hq; unfold Routed; rw [h.router]; simp
    · simp at hx
  · intro w t a ha
    rw [h.wk_at] at ha
    split at ha <;> simp [W0started, W0init, WorkerSt.setProc, WorkerSt.empty] at ha

theorem RInv.micro {R : Rules} (hR : R.Tame) {s : Sys} (h : RInv s) (m : Micro) : RInv (microStep R s m) :=
  Step.micro (fun _ _ h hs => h.step hR hs) h m

end QM.Sys
