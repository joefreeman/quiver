import QuiverModel.Lemmas.Sys.Sched
/-!
M-Sys, "no process in limbo": every process that has no result is in one of the executor's three
scheduling sets (`queue`, `spawning`, `selecting`) — in every state reachable from `Sys.init`
(including the start-up phase), current rules.  With C04's idle theorems: in an idle system the
unfinished processes are exactly the ones parked in a select with no locally ready source.
-/
namespace QM.Sys
set_option linter.unusedSectionVars false
variable [Cfg]

/-- every unfinished process of the worker is scheduled (the converse of `WSched.live`, Sched.lean) -/
def WL (w : WorkerSt) : Prop := ∀ p x, w.procs p = some x → x.result = none → w.scheduled p

/-- … except possibly `cur` (the process the executor has just popped) -/
def WLx (w : WorkerSt) (cur : Pid) : Prop := ∀ p x, w.procs p = some x → x.result = none → p ≠ cur → w.scheduled p

theorem WL.congr {w w' : WorkerSt} (h : WL w) (hp : w'.procs = w.procs) (hs : ∀ p, w.scheduled p → w'.scheduled p) : WL w' :=
  fun p x hx hr => hs p (h p x (hp ▸ hx) hr)

/-- **no helper leaves an unfinished process unscheduled**: results are untouched, and who leaves `selecting` joins the queue -/
theorem WL.helper {w w' : WorkerSt} (hW : WL w) (h : Helper w w') : WL w' := by
  obtain ⟨L, hq, hs, _, _⟩ := h.woke
  intro p x' hx' hr
  rcases h.procs p with ⟨_, e⟩ | ⟨y, y', e1, e2, u⟩
  · rw [e] at hx'; cases hx'
  · rw [e2] at hx'; cases hx'
    rcases hW p y e1 (u.result.symm.trans hr) with h1 | h1 | h1
    · exact .inl (hq ▸ List.mem_append_left _ h1)
    · exact .inr (.inl (h.spawning ▸ h1))
    · by_cases hp : p ∈ L
      · exact .inl (hq ▸ List.mem_append_right _ hp)
      · exact .inr (.inr (by rw [hs]; simp [h1, hp]))

theorem WL.wakeSelecting {w : WorkerSt} (h : WL w) (q : Pid) : WL (w.wakeSelecting q) := h.helper (.wakeSelecting w q)

theorem WL.checkExpired {w : WorkerSt} (h : WL w) (prog : Prog) (now : Nat) (ordQ : List Pid) :
    WL (w.checkExpired prog now ordQ) := by
  refine h.congr rfl ?_
  intro p hp
  unfold WorkerSt.checkExpired
  dsimp only
  rcases hp with hp | hp | hp
  · exact Or.inl (by simp [hp])
  · exact Or.inr (Or.inl hp)
  · by_cases e : p ∈ orderBy ordQ (w.expired prog now)
    · exact Or.inl (by simp [e])
    · exact Or.inr (Or.inr (by simp [hp, e]))

theorem WL.release {w : WorkerSt} (h : WL w) (cur : Pid) : WL (w.release cur) := h.helper (.release w cur)

/-- the finished branch: `cur` gets a result, the others keep their place -/
theorem WLx.finish {w : WorkerSt} {cur : Pid} (h : WLx w cur) (x : Proc) (ordQ : List Pid) : WL (w.finish cur x ordQ) := by
  refine WL.helper (fun p y hy hr => ?_) (Helper.finish w cur x ordQ)
  by_cases e : p = cur
  · subst e; simp only [upd_same, Option.some.injEq] at hy; subst hy; simp at hr
  · simp only [upd_apply, e, if_false] at hy; exact h p y hy hr e

theorem WLx.close {w w' : WorkerSt} {cur : Pid} (h : WLx w cur) {x' : Proc} (hp : w'.procs = upd w.procs cur (some x'))
    (hs : ∀ p, w.scheduled p → w'.scheduled p) (hc : w'.scheduled cur) : WL w' := by
  intro p y hy hr
  rw [hp] at hy
  by_cases e : p = cur
  · subst e; exact hc
  · simp only [upd_apply, e, if_false] at hy; exact hs p (h p y hy hr e)

def LInv (s : Sys) : Prop := ∀ w, WL (s.wk w)

/-- a process other than `q` keeps its place when `q` is put back on the queue -/
theorem scheduled_requeue {w w' : WorkerSt} {q p : Pid} (hq : w'.queue = w.queue ++ [q]) (hsp : ∀ p, p ≠ q → p ∈ w.spawning → p ∈ w'.spawning)
    (hse : w'.selecting = w.selecting) (h : w.scheduled p) : w'.scheduled p := by
  by_cases e : p = q
  · subst e; exact Or.inl (by rw [hq]; simp)
  · rcases h with h1 | h1 | h1
    · exact Or.inl (by rw [hq]; simp [h1])
    · exact Or.inr (Or.inl (hsp p e h1))
    · exact Or.inr (Or.inr (hse ▸ h1))

theorem WL.cmdStep {prog : Prog} {w : WorkerSt} {c : Cmd} {o : Out} (h : CmdStep Rules.current prog w c o) (hi : WL w) :
    WL o.wk := by
  cases h with
  | misc => exact hi
  | start p =>
    intro q y hy hr
    by_cases e : q = p
    · subst e; simp [WorkerSt.setProc, Proc.sleeping, Proc.fresh] at hy; subst hy; simp at hr
    · simp only [WorkerSt.setProc, upd_apply, e, if_false] at hy; exact hi q y hy hr
  | resume p fn x v =>
    intro q y hy hr
    by_cases e : q = p
    · subst e; exact Or.inl (by simp)
    · simp only [upd_apply, e, if_false] at hy
      exact scheduled_requeue (q := p) rfl (fun _ _ h => h) rfl (hi q y hy hr)
  | spawn p fn regs =>
    intro q y hy hr
    by_cases e : q = p
    · subst e; exact Or.inl (by simp)
    · simp only [WorkerSt.setProc, upd_apply, e, if_false] at hy
      exact scheduled_requeue (q := p) rfl (fun _ _ h => h) rfl (hi q y hy hr)
  | notifyNone caller newPid hx =>
    intro q y hy hr
    have hq : q ≠ caller := by intro e; subst e; rw [hx] at hy; cases hy
    rcases hi q y hy hr with h1 | h1 | h1
    · exact Or.inl h1
    · exact Or.inr (Or.inl (mem_serase.mpr ⟨h1, hq⟩))
    · exact Or.inr (Or.inr h1)
  | notifySome caller newPid x hx =>
    dsimp only
    intro q y hy hr
    by_cases e : q = caller
    · -- the caller was parked in `spawning` (then it is re-queued) or scheduled elsewhere
      subst e
      split
      · exact Or.inl (by simp)
      · rename_i hwas
        split at hy <;> simp only [upd_same, Option.some.injEq] at hy <;> subst hy
        all_goals
          rcases hi q x hx hr with h1 | h1 | h1
          · exact Or.inl h1
          · exact absurd h1 (by simpa using hwas)
          · exact Or.inr (Or.inr h1)
    · have hy' : w.procs q = some y := by split at hy <;> simpa only [upd_apply, e, if_false] using hy
      have hs := hi q y hy' hr
      split
      · exact scheduled_requeue (q := caller) (w := w) rfl (fun p hp h => mem_serase.mpr ⟨h, hp⟩) rfl hs
      · rcases hs with h1 | h1 | h1
        · exact Or.inl h1
        · exact Or.inr (Or.inl (mem_serase.mpr ⟨h1, e⟩))
        · exact Or.inr (Or.inr h1)
  | deliverNone t => exact hi.wakeSelecting t
  | deliverDead t => exact hi.wakeSelecting t
  | deliver t m x hx =>
    refine WL.wakeSelecting ?_ t
    intro q y hy hr
    by_cases e : q = t
    · subst e; simp only [upd_same, Option.some.injEq] at hy; subst hy; exact hi q x hx hr
    · simp only [upd_apply, e, if_false] at hy; exact hi q y hy hr
  | queryAwait a ts =>
    have q := queryTargets_spec' a ts w
    refine hi.congr q.procs ?_
    intro p hp
    unfold WorkerSt.scheduled
    rw [q.queue, q.selecting, q.spawning]
    exact hp
  | updateAwait a rs => exact hi.helper ((Helper.applyResults a rs w).trans (.wakeSelecting _ a))
  | getResult => exact hi
  | getLater => exact hi.congr rfl (fun _ hp => hp)

theorem WL.execStep {prog : Prog} {now fuel : Nat} {ordQ : List Pid} {w0 : WorkerSt} {o : Out}
    (h : ExecStep prog now fuel ordQ w0 o) (h0 : WL w0) : WL o.wk := by
  -- once `cur` has been popped, everybody else is still scheduled
  have pop : ∀ cur rest, w0.queue = cur :: rest → WLx { w0 with queue := rest } cur := by
    intro cur rest hq p y hy hr hne
    rcases h0 p y hy hr with h1 | h1 | h1
    · rw [hq] at h1
      rcases List.mem_cons.mp h1 with h2 | h2
      · exact absurd h2 hne
      · exact Or.inl h2
    · exact Or.inr (Or.inl h1)
    · exact Or.inr (Or.inr h1)
  cases h with
  | idle => exact h0
  | gone cur rest hq hnone =>
    intro p y hy hr
    exact pop cur rest hq p y hy hr (by intro e; subst e; rw [hnone] at hy; cases hy)
  | errored cur rest x hq => exact (pop cur rest hq).finish x ordQ
  | ran cur rest x x' out hq =>
    have hx0 := pop cur rest hq
    have hx1 : WLx { w0 with queue := rest, procs := upd w0.procs cur (some x') } cur := by
      intro p y hy hr hne
      simp only [upd_apply, hne, if_false] at hy
      exact hx0 p y hy hr hne
    have requeue : ∀ p, ({ w0 with queue := rest } : WorkerSt).scheduled p →
        ({ w0 with queue := rest ++ [cur], procs := upd w0.procs cur (some x') } : WorkerSt).scheduled p :=
      fun p hp => hp.imp (fun h1 => by simp [h1]) id
    cases out with
    | cont => exact hx0.close (x' := x') rfl requeue (Or.inl (List.mem_append_right _ List.mem_cons_self))
    | send t m => exact hx0.close (x' := x') rfl requeue (Or.inl (List.mem_append_right _ List.mem_cons_self))
    | spawn fn regs =>
      exact hx0.close (x' := x') rfl (fun p hp => hp.imp id (Or.imp (fun h1 => mem_sinsert.mpr (Or.inl h1)) id))
        (Or.inr (Or.inl (mem_sinsert.mpr (Or.inr rfl))))
    | awaitInit ts =>
      exact hx0.close (x' := x') rfl (fun p hp => hp.imp id (Or.imp id fun h1 => mem_sinsert.mpr (Or.inl h1)))
        (Or.inr (Or.inr (mem_sinsert.mpr (Or.inr rfl))))
    | blocked =>
      exact hx0.close (x' := x') rfl (fun p hp => hp.imp id (Or.imp id fun h1 => mem_sinsert.mpr (Or.inl h1)))
        (Or.inr (Or.inr (mem_sinsert.mpr (Or.inr rfl))))
    | failed => exact hx1.finish x' ordQ
    | done => exact hx1.finish x' ordQ

theorem WL.wstep {prog : Prog} {now : Nat} {w : WorkerSt} {oc : Option Cmd} {o : Out}
    (h : WStep Rules.current prog now w oc o) (hw : WL w) : WL o.wk := by
  cases h with
  | cmd h => exact WL.cmdStep h hw
  | exec h => exact WL.execStep h (hw.checkExpired _ _ _)
  | check ordE =>
    have hc := ChkOut.check w ordE
    exact hw.congr hc.procs fun p hp => by unfold WorkerSt.scheduled; rw [hc.queue, hc.spawning, hc.selecting]; exact hp

theorem LInv.step {s s' : Sys} (h : LInv s) (hs : Step Rules.current s s') : LInv s' :=
  hs.wk_invariant (fun _ _ _ _ _ => WL.wstep) h

theorem LInv.init (n : Nat) (prog : Prog) (req : Nat) : LInv (Sys.init n prog req) := by
  intro w p x hx hr
  simp only [Sys.init] at hx
  by_cases e : w = 0
  · subst e
    simp only [upd_same, WorkerSt.setProc, WorkerSt.empty, upd_apply] at hx
    split at hx
    · simp only [Option.some.injEq] at hx; subst hx; simp [Proc.sleeping, Proc.fresh] at hr
    · cases hx
  · simp [upd_apply, e, WorkerSt.empty] at hx

/-- **No process in limbo**: in every reachable state (any choices) a process without a result is
in `queue`, `spawning` or `selecting` of its executor. -/
theorem no_limbo (n : Nat) (prog : Prog) (req : Nat) (cs : List Choice) : LInv (run (Sys.init n prog req) cs) :=
  run_invariant' Rules.current LInv (fun _ _ h hs => h.step hs) cs _ (LInv.init n prog req)

end QM.Sys
