import QuiverModel.Lemmas.Sys.Faithful
/-
The await answer chain is faithful end to end (`TInv`): every result carried by the pending entry
of an awaiter, by an UpdateAwaitResults command, or stored in a process's `awaiting` map is the
actual (and, by `ResMono`, permanent) result of that target.
-/
namespace QM.Sys
set_option linter.unusedSectionVars false
variable [Cfg]

/-- process `t` has result `r` (on some worker) -/
def HasRes (s : Sys) (t : Pid) (r : Res) : Prop := ∃ w, (s.wk w).resultOf t = some r

theorem HasRes.mono {s s' : Sys} (hm : ResMono s s') {t : Pid} {r : Res} (h : HasRes s t r) : HasRes s' t r := by
  obtain ⟨w, hw⟩ := h; exact ⟨w, hm w t r hw⟩

/-- every stored `some v` of `w'` was already stored in `w`, or comes from `extra` -/
def AwFrom (w w' : WorkerSt) (extra : Pid → Pid → Val → Prop) : Prop :=
  ∀ p x' t v, w'.procs p = some x' → (t, some v) ∈ x'.awaiting →
    (∃ x, w.procs p = some x ∧ (t, some v) ∈ x.awaiting) ∨ extra p t v

theorem AwFrom.refl (w : WorkerSt) (extra) : AwFrom w w extra := fun p x' t v hp hm => Or.inl ⟨x', hp, hm⟩

theorem AwFrom.weaken {w w' : WorkerSt} {e e' : Pid → Pid → Val → Prop} (h : AwFrom w w' e) (he : ∀ p t v, e p t v → e' p t v) :
    AwFrom w w' e' := fun p x' t v hp hm => (h p x' t v hp hm).imp id (he p t v)

theorem AwFrom.trans {a b c : WorkerSt} {e : Pid → Pid → Val → Prop} (h1 : AwFrom a b e) (h2 : AwFrom b c e) : AwFrom a c e := by
  intro p x' t v hp hm
  rcases h2 p x' t v hp hm with ⟨y, hy, hmy⟩ | h
  · exact h1 p y t v hy hmy
  · exact Or.inr h

theorem AwFrom.of_procs {w w' : WorkerSt} (h : w'.procs = w.procs) (e) : AwFrom w w' e := by
  intro p x' t v hp hm; rw [h] at hp; exact Or.inl ⟨x', hp, hm⟩

theorem AwFrom.updProc {w w' : WorkerSt} {q : Pid} {y' : Proc} {e : Pid → Pid → Val → Prop}
    (hp : w'.procs = upd w.procs q (some y'))
    (hy : ∀ t v, (t, some v) ∈ y'.awaiting → (∃ y, w.procs q = some y ∧ (t, some v) ∈ y.awaiting) ∨ e q t v) : AwFrom w w' e := by
  intro p x' t v hpx hm
  rw [hp] at hpx
  by_cases hq : p = q
  · subst hq; simp only [upd_same, Option.some.injEq] at hpx; subst hpx; exact hy t v hm
  · simp only [upd_other _ _ _ _ hq] at hpx; exact Or.inl ⟨x', hpx, hm⟩

theorem AwFrom.modProc (w : WorkerSt) (q : Pid) (f : Proc → Proc) (e : Pid → Pid → Val → Prop)
    (hf : ∀ y t v, w.procs q = some y → (t, some v) ∈ (f y).awaiting → (t, some v) ∈ y.awaiting ∨ e q t v) :
    AwFrom w (w.modProc q f) e := by
  unfold WorkerSt.modProc
  split
  · rename_i y hy
    refine AwFrom.updProc (y' := f y) rfl ?_
    intro t v hm
    rcases hf y t v hy hm with h | h
    · exact Or.inl ⟨y, hy, h⟩
    · exact Or.inr h
  · exact AwFrom.refl w e

theorem AwFrom.wakeSelecting (w : WorkerSt) (q : Pid) (e) : AwFrom w (w.wakeSelecting q) e :=
  AwFrom.of_procs (by simp) e

/-- `notify_result` stores `(t, some v)` only for an `ok v` result -/
theorem AwFrom.notifyResult (w : WorkerSt) (a t : Pid) (r : Res) :
    AwFrom w (w.notifyResult a t r) (fun p t' v => p = a ∧ t' = t ∧ r = .ok v) := by
  cases r with
  | ok v0 =>
    show AwFrom w (w.notifyResultOk a t v0) _
    unfold WorkerSt.notifyResultOk
    refine (AwFrom.modProc w a _ _ ?_).trans (AwFrom.wakeSelecting _ a _)
    intro y t' v _ hm
    split at hm
    · rcases mem_ainsert hm with h | ⟨h1, h2⟩
      · exact Or.inl h
      · cases h2; exact Or.inr ⟨rfl, h1, rfl⟩
    · exact Or.inl hm
  | err =>
    show AwFrom w (w.notifyFailure a t) _
    unfold WorkerSt.notifyFailure
    split
    · split
      · refine (AwFrom.modProc w a _ _ ?_).trans (AwFrom.wakeSelecting _ a _)
        intro y t' v _ hm; exact Or.inl hm
      · exact AwFrom.refl w _
    · exact AwFrom.refl w _

theorem AwFrom.notifyPending (w : WorkerSt) (a t : Pid) (e : Pid → Pid → Val → Prop) : AwFrom w (w.notifyPending a t) e := by
  unfold WorkerSt.notifyPending
  refine AwFrom.modProc w a _ _ ?_
  intro y t' v _ hm; exact Or.inl hm

theorem AwFrom.release (w : WorkerSt) (cur : Pid) (e : Pid → Pid → Val → Prop) : AwFrom w (w.release cur) e := by
  unfold WorkerSt.release
  split
  · refine AwFrom.modProc w cur _ _ ?_
    intro y t' v _ hm
    unfold Proc.releaseDead at hm
    split at hm
    · exact Or.inl hm
    · cases hm
  · exact AwFrom.refl w e

theorem AwFrom.applyResults (a : Pid) : ∀ (rs : Results) (w : WorkerSt),
    AwFrom w (applyResults w a rs) (fun p t v => p = a ∧ (t, some (Res.ok v)) ∈ rs)
  | [], w => AwFrom.refl w _
  | (t0, some r) :: rest, w => by
    unfold QM.Sys.applyResults
    refine AwFrom.trans ((AwFrom.notifyResult w a t0 r).weaken ?_) ((AwFrom.applyResults a rest _).weaken ?_)
    · rintro p t v ⟨rfl, rfl, rfl⟩; exact ⟨rfl, by simp⟩
    · rintro p t v ⟨rfl, h⟩; exact ⟨rfl, List.mem_cons_of_mem _ h⟩
  | (t0, none) :: rest, w => by
    unfold QM.Sys.applyResults
    exact (AwFrom.notifyPending w a t0 _).trans
      ((AwFrom.applyResults a rest _).weaken (fun p t v ⟨h1, h2⟩ => ⟨h1, List.mem_cons_of_mem _ h2⟩))

/-- stored values only disappear (or are reset to `none`) during a time slice -/
theorem SliceW.awaiting {prog : Prog} {now : Nat} {self : Pid} {p p' : Proc} {out : Outcome} (h : SliceW prog now self p p' out)
    (t : Pid) (v : Val) : (t, some v) ∈ p'.awaiting → (t, some v) ∈ p.awaiting := by
  induction h with
  | selStart _ _ _ _ ih => exact ih
  | selAwait => exact mem_foldl_ainsert_some _ _
  | selYes _ _ _ _ _ ih => exact fun h => (List.mem_filter.mp (ih h)).1
  | _ => exact id

/-! ### the invariant -/

/-- the three places a reported result travels through — the environment's pending answers, a queued UpdateAwaitResults,
an awaiter's `awaiting` map — hold results that some worker has -/
structure TCore (s : Sys) : Prop where
  pend : ∀ a pa w rs t r, s.env.pending a = some pa → (w, rs) ∈ pa.responses → (t, some r) ∈ rs → HasRes s t r
  updc : ∀ w a rs t r, Cmd.updateAwait a rs ∈ s.cmdQ w → (t, some r) ∈ rs → HasRes s t r
  stored : ∀ w a x t v, (s.wk w).procs a = some x → (t, some v) ∈ x.awaiting → HasRes s t (.ok v)

/-- `EInv` (reports in flight are truthful) with `TCore` -/
structure TInv (s : Sys) : Prop where
  e : EInv s
  core : TCore s

/-- what a command stores: only UpdateAwaitResults stores, and only its own `ok` entries -/
def cmdExtra (c : Cmd) : Pid → Pid → Val → Prop :=
  fun p t v => ∃ rs, c = .updateAwait p rs ∧ (t, some (Res.ok v)) ∈ rs

theorem AwFrom.cmdCase {w w' : WorkerSt} {c : Cmd} {evs : List Evt} {app : List (Pid × Msg)} (h : CmdCase w c w' evs app)
    (hre : ∀ p fn, c ≠ .resume p fn) : AwFrom w w' (cmdExtra c) := by
  cases h with
  | same _ _ procs => exact .of_procs procs _
  | start procs => exact .updProc procs fun t v hm => by simp [Proc.sleeping, Proc.fresh] at hm
  | resume => exact absurd rfl (hre _ _)
  | spawn procs => exact .updProc procs fun t v hm => by simp [Proc.fresh] at hm
  | spawned hx procs => exact .updProc procs fun t v hm => .inl ⟨_, hx, hm⟩
  | mail hx procs => exact .updProc procs fun t v hm => .inl ⟨_, hx, hm⟩
  | query => exact .of_procs (queryTargets_spec' _ _ w).procs _
  | update procs =>
    exact ((AwFrom.applyResults _ _ w).weaken fun p t v ⟨e, h⟩ => ⟨_, e ▸ rfl, h⟩).trans (.of_procs procs _)

/-! ### environment side -/

/-- `TCore` after the environment has handled an event with output `o`: the answers kept in the new `pending` table
and those sent on as UpdateAwaitResults are results somebody has.  (`HasRes` reads the worker states only, which the
environment does not touch.) -/
theorem TCore.envCommit {s : Sys} (h : TCore s) {o : EnvOut}
    (hP : ∀ a pa w rs t r, o.env.pending a = some pa → (w, rs) ∈ pa.responses → (t, some r) ∈ rs → HasRes s t r)
    (hC : ∀ w a rs t r, (w, Cmd.updateAwait a rs) ∈ o.cmds → (t, some r) ∈ rs → HasRes s t r) : TCore (s.envCommit o) :=
  ⟨hP, fun w a rs t r hm ht => (mem_pushAll.mp hm).elim (fun h1 => h.updc w a rs t r h1 ht) (fun h1 => hC w a rs t r h1 ht),
    h.stored⟩

theorem TCore.env {s : Sys} (h : TCore s) (htr : Truthful s) {w0 : Wid} {e : Evt} {rest : List Evt} (hq : s.evtQ w0 = e :: rest) :
    TCore (handleEventWith mergeAnswer { s with evtQ := upd s.evtQ w0 rest } e) := by
  obtain ⟨o, ho, eq⟩ := handleEvent_step mergeAnswer e s.env s.n
  rw [eq { s with evtQ := upd s.evtQ w0 rest } rfl rfl]
  have h0 : TCore ({ s with evtQ := upd s.evtQ w0 rest } : Sys) := ⟨h.pend, h.updc, h.stored⟩
  -- the `pending` table after one entry has been replaced
  have updP : ∀ {a : Pid} {x : Option PendingAwait},
      (∀ pa, x = some pa → ∀ w rs t r, (w, rs) ∈ pa.responses → (t, some r) ∈ rs → HasRes s t r) →
      ∀ a' pa' w rs t r, upd s.env.pending a x a' = some pa' → (w, rs) ∈ pa'.responses → (t, some r) ∈ rs → HasRes s t r := by
    intro a x hx a' pa' w rs t r hp
    by_cases e : a' = a
    · subst e; rw [upd_same] at hp; exact hx pa' hp w rs t r
    · rw [upd_other _ _ _ _ e] at hp; exact h.pend a' pa' w rs t r hp
  -- what the consumed ProcessResults carries is truthful; so is what it is merged into
  have hnew : ∀ {a rs}, e = .procResults a rs → ∀ t r, (t, some r) ∈ rs → HasRes s t r :=
    fun he t r ht => ⟨w0, htr w0 _ _ (by rw [hq, he]; exact List.mem_cons_self) t r ht⟩
  have hmem : ∀ {a rs pa w}, e = .procResults a rs → s.env.pending a = some pa → ∀ w' rs' t r,
      (w', rs') ∈ ainsert pa.responses w (mergeAnswer (alookup pa.responses w) rs) → (t, some r) ∈ rs' → HasRes s t r := by
    intro a rs pa w he hpend w' rs' t r hm ht
    rcases mem_ainsert hm with h1 | ⟨_, h2⟩
    · exact h.pend a pa w' rs' t r hpend h1 ht
    · subst h2
      cases hold : alookup pa.responses w with
      | none => rw [hold] at ht; exact hnew he t r ht
      | some old =>
        rw [hold] at ht
        rcases mem_aextend (show (t, some r) ∈ aextend old rs from ht) with h3 | h3
        · exact h.pend a pa w old t r hpend (alookup_mem hold) h3
        · exact hnew he t r h3
  cases ho with
  | await a ts _ =>
    refine h0.envCommit (updP fun pa e w rs t r hm => by cases e; cases hm) fun w a' rs t r hm => ?_
    obtain ⟨_, _, e⟩ := List.mem_map.mp hm; cases e
  | last a rs pa w aw hp _ _ _ =>
    refine h0.envCommit (updP fun _ e => nomatch e) fun w' a' rs' t r hm ht => ?_
    cases List.mem_singleton.mp hm
    obtain ⟨rs1, hrs1, ht1⟩ := List.mem_flatten.mp ht
    obtain ⟨⟨w1, rs2⟩, hm1, rfl⟩ := List.mem_map.mp hrs1
    exact hmem rfl hp w1 rs2 t r hm1 ht1
  | lastFault a rs pa w hp _ _ _ => exact h0.envCommit (updP fun _ e => nomatch e) nofun
  | more a rs pa w hp _ _ =>
    exact h0.envCommit (updP fun pa' e w' rs' t r hm ht => by cases e; exact hmem rfl hp w' rs' t r hm ht) nofun
  | late a rs aw _ _ =>
    exact h0.envCommit h.pend fun w' a' rs' t r hm ht => by cases List.mem_singleton.mp hm; exact hnew rfl t r ht
  | spawn | spawnFault | deliver | deliverFault | awaitFault | stray | lateFault | resultResp | exited =>
    exact h0.envCommit h.pend fun w a rs t r hm => by simp at hm

/-! ### worker side -/

/-- what `finish` stores: the result of `cur`, at its local awaiters -/
theorem AwFrom.finish (w : WorkerSt) (cur : Pid) (x : Proc) (ordQ : List Pid)
    (hx : ∀ t v, (t, some v) ∈ x.awaiting → ∃ y, w.procs cur = some y ∧ (t, some v) ∈ y.awaiting) :
    AwFrom w (w.finish cur x ordQ) (fun _ t v => t = cur ∧ x.finalRes = .ok v) := by
  unfold WorkerSt.finish
  dsimp only
  refine AwFrom.trans (AwFrom.updProc (w' := { w with procs := upd w.procs cur (some { x with result := some x.finalRes }) })
    (q := cur) (y' := { x with result := some x.finalRes }) rfl
    (fun t v hm => Or.inl (hx t v hm))) ?_
  refine AwFrom.trans ?_ (AwFrom.release _ cur _)
  exact foldl_rel_of_step (R := (AwFrom · · _)) (AwFrom.refl · _) AwFrom.trans _
    (fun w' a => (AwFrom.notifyResult w' a cur x.finalRes).weaken (fun p t v ⟨_, h2, h3⟩ => ⟨h2, h3⟩)) _ _

theorem AwFrom.execCase {prog : Prog} {now fuel : Nat} {ordQ : List Pid} {w w' : WorkerSt} {evs : List Evt}
    (h : ExecCase prog now fuel ordQ w w' evs) : AwFrom w w' (fun _ t v => w'.resultOf t = some (.ok v)) := by
  have aw : ∀ {cur : Pid} {x x' : Proc} {out : Outcome}, slice prog now cur fuel x = (x', out) →
      ∀ t v, (t, some v) ∈ x'.awaiting → (t, some v) ∈ x.awaiting :=
    fun {cur x _ _} hsl t v => by have := (slice_view prog now cur fuel x).awaiting t v; rwa [hsl] at this
  cases h with
  | idle procs => exact .of_procs procs _
  | ran _ hx hsl _ procs => exact .updProc procs fun t v hm => .inl ⟨_, hx, aw hsl t v hm⟩
  | @fin w1 cur x xf _ _ hx hxf procs =>
    have hxf' : ∀ t v, (t, some v) ∈ xf.awaiting → (t, some v) ∈ x.awaiting := by
      rcases hxf with ⟨_, rfl⟩ | ⟨out, hsl, _⟩
      · exact fun _ _ h => h
      · exact aw hsl
    refine (AwFrom.updProc (w' := w1) procs fun t v hm => .inl ⟨x, hx, hxf' t v hm⟩).trans
      ((AwFrom.finish w1 cur xf ordQ fun t v hm => ⟨xf, by rw [procs, upd_same], hm⟩).weaken ?_)
    rintro _ t v ⟨rfl, hv⟩; rw [finish_resultOf_cur, hv]

/-- a worker-side step keeps `TCore`: results are stable, the environment and the other workers are untouched, commands
are only consumed, and what worker `i` newly stores is a result -/
theorem TCore.workerStep {s s' : Sys} (h : TCore s) (hmono : ResMono s s') {i : Wid} {w' : WorkerSt} (henv : s'.env = s.env)
    (hwk : s'.wk = upd s.wk i w') (hcmd : ∀ w c, c ∈ s'.cmdQ w → c ∈ s.cmdQ w)
    (hst : AwFrom (s.wk i) w' fun _ t v => HasRes s' t (.ok v)) : TCore s' := by
  refine ⟨fun a pa w rs t r hp hm ht => (h.pend a pa w rs t r (henv ▸ hp) hm ht).mono hmono,
    fun w a rs t r hm ht => (h.updc w a rs t r (hcmd w _ hm) ht).mono hmono, ?_⟩
  intro w a x t v hx hm
  rw [hwk] at hx
  by_cases hw : w = i
  · subst hw
    rw [upd_same] at hx
    rcases hst a x t v hx hm with ⟨y, hy, hmy⟩ | h1
    · exact (h.stored w a y t v hy hmy).mono hmono
    · exact h1
  · rw [upd_other _ _ _ _ hw] at hx; exact (h.stored w a x t v hx hm).mono hmono

theorem TCore.step {s s' : Sys} (h : TInv s) (hs : Step Rules.current s s') : TCore s' := by
  have hmono := ResMono.step h.e.si hs
  cases hs with
  | env hq => exact h.core.env h.e.evt hq
  | @fault i c rest hq hf =>
    exact h.core.workerStep hmono (i := i) rfl (upd_self s.wk i).symm (fun w c hm => mem_upd_tail hq hm) (AwFrom.refl _ _)
  | @cmd i c rest o hq ho =>
    refine h.core.workerStep hmono rfl rfl (fun w c hm => mem_upd_tail hq hm)
      ((AwFrom.cmdCase ho.case fun p fn e => (e ▸ h.e.si.r.cmds i c (hq ▸ List.mem_cons_self) : CmdOK _ _ _ _ (.resume p fn))).weaken ?_)
    rintro a t v ⟨rs, rfl, hrs⟩
    exact (h.core.updc i a rs t (.ok v) (by rw [hq]; simp) hrs).mono hmono
  | @exec i fuel ordQ o ho =>
    exact h.core.workerStep hmono rfl rfl (fun _ _ hm => hm)
      ((AwFrom.execCase ho.case).weaken fun _ t v hr => ⟨i, by rw [commit_wk_self]; exact hr⟩)
  | check i ordE =>
    exact h.core.workerStep hmono rfl rfl (fun _ _ hm => hm) (AwFrom.of_procs (ChkOut.check (s.wk i) ordE).procs _)
  | tick => exact ⟨h.core.pend, h.core.updc, h.core.stored⟩

theorem TInv.step {s s' : Sys} (h : TInv s) (hs : Step Rules.current s s') : TInv s' := ⟨h.e.step hs, TCore.step h hs⟩

theorem TInv.micro {s : Sys} (h : TInv s) (m : Micro) : TInv (microStep Rules.current s m) :=
  Step.micro (fun _ _ h hs => h.step hs) h m

theorem TInv.of_started {s : Sys} (h : Started s) : TInv s := by
  refine ⟨EInv.of_started h, ?_, ?_, ?_⟩
  · intro a pa w rs t r hp; rw [h.pending] at hp; cases hp
  · intro w a rs t r hm
    rcases h.cmds w _ hm with h1 | ⟨_, _, h1⟩ <;> cases h1
  · intro w a x t v hx hm
    rw [h.procs] at hx
    split at hx
    · simp at hx; subst hx; simp [Proc.sleeping, Proc.fresh] at hm
    · cases hx

end QM.Sys
