import QuiverModel.Lemmas.Sys.Kahn
/-!
M-Sys: the arrival half of confluence.  For a script table in which every mailbox has ONE sender
script (`SingleSenderTable`), in a run in which no script is run by two processes (`Uniq`, a fact
about the final state), the arrival history of every receiving process is a prefix of the static
send sequence of its sender (`streamOf`): `StreamOK` holds, so the Kahn invariant needs no
hypothesis about arrivals.

The invariant `MInv` compares the ghost log `sent` with the scripts: every logged send was made by the sender script of its
target's script (`M0`), and what a process has sent to the pids OF A SCRIPT `kb` is what its script sends to `kb` up to its
position (`M1`, through `Picks`/`selG`; per script, so a pid born later needs no case).  `ExecSends` is what an executor
step adds; `streamOK_of` combines `MInv` with delivery conservation and `Uniq`.
-/
namespace QM.Sys
set_option linter.unusedSectionVars false
variable [Cfg]

/-- the key of a send whose register denotes script `kb` -/
def isSendTo (ρ : Nat → Nat → Nat) (k kb : Nat) : Act → Option (Nat × Nat)
  | .send r tag seq => if ρ k r = kb then some (tag, seq) else none
  | _ => none

/-- keys of the sends of script `k` before position `pc` whose register denotes script `kb` -/
def sendsK (prog : Prog) (ρ : Nat → Nat → Nat) (k pc kb : Nat) : List (Nat × Nat) :=
  ((prog.getD k []).take pc).filterMap (isSendTo ρ k kb)

/-- the input stream of script `kb`: everything its sender script sends to it, in script order -/
def streamOf (prog : Prog) (ρ : Nat → Nat → Nat) (snd : Nat → Nat) (kb : Nat) : List (Nat × Nat) :=
  sendsK prog ρ (snd kb) (prog.getD (snd kb) []).length kb

/-- every mailbox has one sender SCRIPT (`snd kb`), and sends use registers that exist -/
structure SingleSenderTable (prog : Prog) (ρ : Nat → Nat → Nat) (ar : Nat → Nat) (snd : Nat → Nat) : Prop where
  only : ∀ k j r tag seq, (prog.getD k [])[j]? = some (.send r tag seq) → snd (ρ k r) = k ∧ r < base prog ar k j

theorem sendsK_succ {prog : Prog} {ρ : Nat → Nat → Nat} {k pc kb : Nat} {a : Act} (h : (prog.getD k [])[pc]? = some a) :
    sendsK prog ρ k (pc + 1) kb = sendsK prog ρ k pc kb ++ (isSendTo ρ k kb a).toList := by
  unfold sendsK
  rw [List.take_add_one, h]
  simp only [Option.toList_some, List.filterMap_append, List.filterMap_cons, List.filterMap_nil]
  cases isSendTo ρ k kb a <;> rfl

theorem sendsK_prefix (prog : Prog) (ρ : Nat → Nat → Nat) (k kb : Nat) {pc pc' : Nat} (h : pc ≤ pc') :
    sendsK prog ρ k pc kb <+: sendsK prog ρ k pc' kb := by
  unfold sendsK
  exact ((List.take_prefix_take_left h).filterMap _)

theorem sendsK_len_ge (prog : Prog) (ρ : Nat → Nat → Nat) (k kb : Nat) {pc : Nat} (h : (prog.getD k []).length ≤ pc) :
    sendsK prog ρ k pc kb = sendsK prog ρ k (prog.getD k []).length kb := by
  unfold sendsK
  rw [List.take_of_length_le h, List.take_of_length_le (Nat.le_refl _)]

theorem slice_nspawn (prog : Prog) (now : Nat) (self : Pid) (fuel : Nat) (x : Proc) :
    nspawn ((prog.getD x.fn []).take (slice prog now self fuel x).1.pc) = nspawn ((prog.getD x.fn []).take x.pc) := by
  have hw := slice_view prog now self fuel x
  generalize slice prog now self fuel x = r at hw ⊢
  obtain ⟨x', out⟩ := r
  replace hw : SliceW prog now self x x' out := hw
  induction hw with
  | @send p r tag seq hs => rw [nspawn_take_succ (show (prog.getD p.fn [])[p.pc]? = _ from hs)]; rfl
  | selStart _ _ _ _ ih => exact ih
  | @selYes p _ _ srcs _ _ hs _ _ _ _ ih =>
    exact ih.trans (by rw [nspawn_take_succ (show (prog.getD p.fn [])[p.pc]? = _ from hs)]; rfl)
  | _ => rfl

/-- what a slice adds to the static send sequences of its script: the key of its final send (outcome `send`, to the script
its register denotes), else nothing -/
def OutSend (prog : Prog) (ρ : Nat → Nat → Nat) (self : Pid) (x : Proc) (r : Proc × Outcome) : Prop :=
  match r.2 with
  | .send t m => ∃ rr, t = x.reg rr ∧ m.src = self ∧ 1 ≤ r.1.pc ∧
      (prog.getD x.fn [])[r.1.pc - 1]? = some (.send rr m.tag m.seq) ∧
      ∀ kb, sendsK prog ρ x.fn r.1.pc kb = sendsK prog ρ x.fn x.pc kb ++ (if ρ x.fn rr = kb then [m.key] else [])
  | _ => ∀ kb, sendsK prog ρ x.fn r.1.pc kb = sendsK prog ρ x.fn x.pc kb

theorem slice_sends (prog : Prog) (ρ : Nat → Nat → Nat) (now : Nat) (self : Pid) (fuel : Nat) (x : Proc) :
    OutSend prog ρ self x (slice prog now self fuel x) := by
  have hw := slice_view prog now self fuel x
  generalize slice prog now self fuel x = r at hw ⊢
  obtain ⟨x', out⟩ := r
  replace hw : SliceW prog now self x x' out := hw
  induction hw with
  | @send p r tag seq hs =>
    have hs' : (prog.getD p.fn [])[p.pc]? = some (.send r tag seq) := hs
    refine ⟨r, rfl, rfl, Nat.le_add_left _ _, by simpa using hs', fun kb => ?_⟩
    show sendsK prog ρ p.fn (p.pc + 1) kb = _
    rw [sendsK_succ hs']
    simp only [isSendTo, Msg.key]
    split <;> rfl
  | selStart _ _ _ _ ih => exact ih
  | @selYes p _ _ srcs _ _ hs _ _ _ _ ih =>
    -- completing a select sends nothing: what the rest of the slice sends is what the slice sends
    have hstep : ∀ kb, sendsK prog ρ p.fn (p.pc + 1) kb = sendsK prog ρ p.fn p.pc kb := by
      intro kb; rw [sendsK_succ (show (prog.getD p.fn [])[p.pc]? = _ from hs)]; simp [isSendTo]
    unfold OutSend at ih ⊢
    split
    · rename_i t m heq
      rw [heq] at ih
      obtain ⟨rr, h3, h4, h5, h6, h7⟩ := ih
      exact ⟨rr, h3, h4, h5, h6, fun kb => by rw [h7 kb]; show sendsK prog ρ p.fn (p.pc + 1) kb ++ _ = _; rw [hstep kb]⟩
    · rename_i hne
      split at ih
      · rename_i t m heq; exact absurd heq (hne t m)
      · intro kb; rw [ih kb]; exact hstep kb
  | _ => exact fun _ => rfl

theorem filterMap_nodup_inj {α β : Type} (g : α → Option β) : ∀ (l : List α), (l.filterMap g).Nodup →
    ∀ a b y, a ∈ l → b ∈ l → g a = some y → g b = some y → a = b
  | [], _, a, _, _, ha, _, _, _ => by cases ha
  | x :: l, hn, a, b, y, ha, hb, ga, gb => by
    cases hx : g x with
    | none =>
      simp only [List.filterMap_cons, hx] at hn
      rcases List.mem_cons.mp ha with rfl | ha'
      · rw [hx] at ga; cases ga
      · rcases List.mem_cons.mp hb with rfl | hb'
        · rw [hx] at gb; cases gb
        · exact filterMap_nodup_inj g l hn a b y ha' hb' ga gb
    | some z =>
      simp only [List.filterMap_cons, hx, List.nodup_cons] at hn
      rcases List.mem_cons.mp ha with rfl | ha'
      · rcases List.mem_cons.mp hb with rfl | hb'
        · rfl
        · exfalso; apply hn.1
          rw [hx] at ga; simp only [Option.some.injEq] at ga; subst ga
          exact List.mem_filterMap.mpr ⟨b, hb', gb⟩
      · rcases List.mem_cons.mp hb with rfl | hb'
        · exfalso; apply hn.1
          rw [hx] at gb; simp only [Option.some.injEq] at gb; subst gb
          exact List.mem_filterMap.mpr ⟨a, ha', ga⟩
        · exact filterMap_nodup_inj g l hn.2 a b y ha' hb' ga gb

theorem Sid.functional {s : Sys} (hs : SInv s) {q : Pid} {f f' : Nat} (h : Sid s q f) (h' : Sid s q f') : f = f' := by
  rcases h with ⟨w, y, hy, hf⟩ | ⟨w, regs, hm⟩
  · exact hf.symm.trans (h'.proc_fn hs hy)
  · rcases h' with ⟨w', y', hy', hf'⟩ | ⟨w', regs', hm'⟩
    · exact (Sid.proc_fn hs (Or.inr ⟨w, regs, hm⟩) hy').symm.trans hf'
    · have r1 : s.env.router q = some w := (hs.r.cmds w _ hm).1
      have r2 : s.env.router q = some w' := (hs.r.cmds w' _ hm').1
      rw [r1] at r2; simp only [Option.some.injEq] at r2; subst r2
      have := filterMap_nodup_inj cmdCreate (s.cmdQ w) (hs.fresh w).1 _ _ q hm hm' rfl rfl
      simp only [Cmd.spawn.injEq] at this
      exact this.2.1

theorem sid_mono_step {s s' : Sys} (hs : SInv s) (h : Step Rules.current s s') (hnf : s'.fault = false) :
    ∀ q f, Sid s q f → Sid s' q f := by
  apply Sid.mono (fun w => (adv_step hs h w).fnKeep)
  intro w q f regs hm
  cases h with
  | env hq => exact .inl ((cmdSpec_evt _ hs.r hq).2.1 w _ hm)
  | fault => cases hnf
  | @cmd i c rest o hq ho =>
    -- a SpawnProcess command leaves its queue when its process is created
    rcases mem_upd_tail_or hq hm with ⟨rfl, rfl⟩ | h1
    · cases ho
      exact .inr ⟨w, Proc.fresh f (q :: regs), by rw [commit_wk_self]; exact upd_same _ _ _, rfl⟩
    · exact .inl h1
  | _ => exact .inl hm

theorem sid_mono_micro {s : Sys} (hs : SInv s) (m : Micro) : ∀ q f, Sid s q f → Sid (microStep Rules.current s m) q f :=
  microStep_cases (P := fun s' => s'.fault = false → ∀ q f, Sid s q f → Sid s' q f) (fun _ _ _ h => h)
    (fun _ h hnf => sid_mono_step hs h hnf) m (hs.micro Rules.current_sane m).r.nofault

/-- no script is run (or about to be run) by two pids -/
def Uniq (s : Sys) : Prop := ∀ q q' f, Sid s q f → Sid s q' f → q = q'

theorem Uniq.back {s : Sys} (hs : SInv s) (m : Micro) (h : Uniq (microStep Rules.current s m)) : Uniq s :=
  fun q q' f h1 h2 => h q q' f (sid_mono_micro hs m q f h1) (sid_mono_micro hs m q' f h2)

/-- every process of `w'` was there with the same script and position -/
def PcBack (w w' : WorkerSt) : Prop := ∀ p x', w'.procs p = some x' → ∃ x, w.procs p = some x ∧ x'.fn = x.fn ∧ x'.pc = x.pc

theorem PcBack.trans {a b c : WorkerSt} (h1 : PcBack a b) (h2 : PcBack b c) : PcBack a c := by
  intro p z hz
  obtain ⟨y, hy, e1, e2⟩ := h2 p z hz
  obtain ⟨x, hx, e3, e4⟩ := h1 p y hy
  exact ⟨x, hx, e1.trans e3, e2.trans e4⟩
theorem PcBack.of_procs {w w' : WorkerSt} (h : w'.procs = w.procs) : PcBack w w' := fun p x hx => ⟨x, by rw [← h]; exact hx, rfl, rfl⟩

theorem PcBack.updProc {w w' : WorkerSt} {q : Pid} {y y' : Proc} (hp : w'.procs = upd w.procs q (some y'))
    (hy : w.procs q = some y) (e1 : y'.fn = y.fn) (e2 : y'.pc = y.pc) : PcBack w w' := by
  intro p x' hx'
  rw [hp] at hx'
  rcases upd_some hx' with ⟨rfl, rfl⟩ | ⟨_, hx'⟩
  · exact ⟨y, hy, e1, e2⟩
  · exact ⟨x', hx', rfl, rfl⟩

theorem SameOn.pcBack {w w' : WorkerSt} (h : SameOn Pos w w') : PcBack w w' := fun p x' hx' => by
  obtain ⟨x, hx, hc⟩ := h.back hx'
  simp only [Pos, Prod.mk.injEq] at hc
  exact ⟨x, hx, hc.1, hc.2.1⟩

theorem PcBack.release (w : WorkerSt) (cur : Pid) : PcBack w (w.release cur) := (pos_release w cur).pcBack

theorem PcBack.finish (w : WorkerSt) (cur : Pid) (x y : Proc) (ordQ : List Pid) (hy : w.procs cur = some y)
    (e1 : x.fn = y.fn) (e2 : x.pc = y.pc) : PcBack w (w.finish cur x ordQ) :=
  (PcBack.updProc (w' := { w with procs := upd w.procs cur (some x) }) rfl hy e1 e2).trans (pos_finish w cur x ordQ).pcBack

theorem CmdStep.back {prog : Prog} {w : WorkerSt} {c : Cmd} {o : Out} (h : CmdStep Rules.current prog w c o)
    (hok : ∀ p fn, c ≠ .resume p fn) (hst : ∀ p, c ≠ .start p) :
    ∀ p x', o.wk.procs p = some x' →
      (∃ x, w.procs p = some x ∧ x'.fn = x.fn ∧ x'.pc = x.pc) ∨
      (∃ x q, c = .notifySpawn p q ∧ w.procs p = some x ∧ x'.fn = x.fn ∧ x'.pc = x.pc + 1) ∨
      (∃ f regs, c = .spawn p f regs ∧ x'.fn = f ∧ x'.pc = 0) := by
  intro p x' hx'
  rcases h.case.pos hok hst with h1 | ⟨q, f, regs, rfl, hp⟩ | ⟨p0, q, x, rfl, hx, hp⟩
  · exact Or.inl (h1.pcBack p x' hx')
  · rw [hp] at hx'
    rcases upd_some hx' with ⟨rfl, rfl⟩ | ⟨_, hx'⟩
    · exact Or.inr (Or.inr ⟨f, regs, rfl, rfl, rfl⟩)
    · exact Or.inl ⟨x', hx', rfl, rfl⟩
  · rw [hp] at hx'
    rcases upd_some hx' with ⟨rfl, rfl⟩ | ⟨_, hx'⟩
    · exact Or.inr (Or.inl ⟨x, q, rfl, hx, rfl, rfl⟩)
    · exact Or.inl ⟨x', hx', rfl, rfl⟩

theorem cmd_back {s : Sys} (i : Wid) (c : Cmd) (hok : ∀ p fn, c ≠ .resume p fn) (hst : ∀ p, c ≠ .start p) :
    ∀ p x', ((handleCmdWith Rules.current s i c).wk i).procs p = some x' →
      (∃ x, (s.wk i).procs p = some x ∧ x'.fn = x.fn ∧ x'.pc = x.pc) ∨
      (∃ x q, c = .notifySpawn p q ∧ (s.wk i).procs p = some x ∧ x'.fn = x.fn ∧ x'.pc = x.pc + 1) ∨
      (∃ f regs, c = .spawn p f regs ∧ x'.fn = f ∧ x'.pc = 0) := by
  rcases handleCmd_step Rules.current i c (s.wk i) s.prog with e | ⟨o, ho, e⟩ <;> rw [e s rfl rfl]
  · exact fun p x' hx' => Or.inl ⟨x', hx', rfl, rfl⟩
  · rw [commit_wk_self]; exact ho.back hok hst

/-- what an executor step does to positions, static send sequences and the ghost `sent` -/
def ExecSends (ρ : Nat → Nat → Nat) (s s' : Sys) (i : Wid) : Prop :=
  ∃ news : List (Pid × Msg), s'.sent = s.sent ++ news ∧
    (∀ tm ∈ news, ∃ x rr pc', (s.wk i).procs tm.2.src = some x ∧ tm.1 = x.reg rr ∧ 1 ≤ pc' ∧
      nspawn ((s.prog.getD x.fn []).take pc') = nspawn ((s.prog.getD x.fn []).take x.pc) ∧
      (s.prog.getD x.fn [])[pc' - 1]? = some (.send rr tm.2.tag tm.2.seq)) ∧
    ∀ p x', (s'.wk i).procs p = some x' → ∃ x, (s.wk i).procs p = some x ∧ x'.fn = x.fn ∧
      ((x'.pc = x.pc ∧ ∀ tm ∈ news, tm.2.src ≠ p) ∨
       (x.pc ≤ x'.pc ∧ nspawn ((s.prog.getD x.fn []).take x'.pc) = nspawn ((s.prog.getD x.fn []).take x.pc) ∧
         ((news = [] ∧ ∀ kb, sendsK s.prog ρ x.fn x'.pc kb = sendsK s.prog ρ x.fn x.pc kb) ∨
          (∃ t m rr, news = [(t, m)] ∧ m.src = p ∧ t = x.reg rr ∧ 1 ≤ x'.pc ∧
             (s.prog.getD x.fn [])[x'.pc - 1]? = some (.send rr m.tag m.seq) ∧
             ∀ kb, sendsK s.prog ρ x.fn x'.pc kb = sendsK s.prog ρ x.fn x.pc kb ++ (if ρ x.fn rr = kb then [m.key] else [])))))

theorem ExecStep.sends {s : Sys} {i : Wid} {fuel : Nat} {ordQ : List Pid} {o : Out}
    (ho : ExecStep s.prog s.now fuel ordQ ((s.wk i).checkExpired s.prog s.now ordQ) o) (ρ : Nat → Nat → Nat) :
    ExecSends ρ s (s.commit i o) i := by
  have back : ∀ {o' : Out}, o'.sent = [] → PcBack (s.wk i) o'.wk → ExecSends ρ s (s.commit i o') i := by
    intro o' h1 h2
    refine ⟨[], by rw [commit_sent h1]; simp, fun _ h => (List.not_mem_nil h).elim, fun p x' hx' => ?_⟩
    rw [commit_wk_self] at hx'
    obtain ⟨x, hx, e1, e2⟩ := h2 p x' hx'
    exact ⟨x, hx, e1, Or.inl ⟨e2, fun _ h => (List.not_mem_nil h).elim⟩⟩
  cases ho with
  | idle => exact back rfl (PcBack.of_procs rfl)
  | gone => exact back rfl (PcBack.of_procs rfl)
  | errored cur rest x _ hx =>
    exact back rfl (PcBack.trans (b := { (s.wk i).checkExpired s.prog s.now ordQ with queue := rest }) (PcBack.of_procs rfl)
      (PcBack.finish _ cur x x ordQ hx rfl rfl))
  | ran cur rest x x' out _ hx _ hsl =>
    have hxs : (s.wk i).procs cur = some x := hx
    have hout := slice_sends s.prog ρ s.now cur fuel x
    have hnsp := slice_nspawn s.prog s.now cur fuel x
    have hadv := (slice_adv s.prog s.now cur fuel x).1
    rw [hsl] at hout hnsp hadv
    -- the generic shape: `cur` becomes a process with the script and position of `x'`, the others stay
    have key : ∀ (o' : Out), PcBack { (s.wk i).checkExpired s.prog s.now ordQ with queue := rest, procs := upd (s.wk i).procs cur (some x') } o'.wk →
        (∀ tm ∈ o'.sent, tm.2.src = cur) →
        ((o'.sent = [] ∧ ∀ kb, sendsK s.prog ρ x.fn x'.pc kb = sendsK s.prog ρ x.fn x.pc kb) ∨
          (∃ t m rr, o'.sent = [(t, m)] ∧ m.src = cur ∧ t = x.reg rr ∧ 1 ≤ x'.pc ∧
            (s.prog.getD x.fn [])[x'.pc - 1]? = some (.send rr m.tag m.seq) ∧
            ∀ kb, sendsK s.prog ρ x.fn x'.pc kb = sendsK s.prog ρ x.fn x.pc kb ++ (if ρ x.fn rr = kb then [m.key] else []))) →
        ExecSends ρ s (s.commit i o') i := by
      intro o' hback hsrc hk
      refine ⟨o'.sent, rfl, ?_, ?_⟩
      · intro tm htm
        rcases hk with ⟨e, _⟩ | ⟨t, m, rr, e, h4, h3, h5, h6, _⟩
        · rw [e] at htm; cases htm
        · rw [e] at htm; simp only [List.mem_singleton] at htm; subst htm
          exact ⟨x, rr, x'.pc, by rw [h4]; exact hxs, h3, h5, hnsp, h6⟩
      intro p y' hy'
      rw [commit_wk_self] at hy'
      obtain ⟨y, hy, g1, g2⟩ := hback p y' hy'
      rcases upd_some hy with ⟨rfl, rfl⟩ | ⟨e, hy⟩
      · refine ⟨x, hxs, g1.trans hadv.1, Or.inr ⟨by rw [g2]; exact hadv.pc_le, by rw [g2]; exact hnsp, ?_⟩⟩
        rw [g2]; exact hk
      · refine ⟨y, hy, g1, Or.inl ⟨g2, ?_⟩⟩
        intro tm htm; rw [hsrc tm htm]; exact Ne.symm e
    have knone : (∀ t m, out ≠ .send t m) → ∀ kb, sendsK s.prog ρ x.fn x'.pc kb = sendsK s.prog ρ x.fn x.pc kb := by
      intro hne
      unfold OutSend at hout
      split at hout
      · rename_i t m heq; exact absurd heq (hne t m)
      · exact hout
    have hfin := PcBack.finish { (s.wk i).checkExpired s.prog s.now ordQ with queue := rest, procs := upd (s.wk i).procs cur (some x') }
      cur x' x' ordQ (by simp) rfl rfl
    cases out with
    | cont | blocked | spawn | awaitInit => exact key _ (PcBack.of_procs rfl) nofun (Or.inl ⟨rfl, knone nofun⟩)
    | failed | done => exact key _ hfin nofun (Or.inl ⟨rfl, knone nofun⟩)
    | send t m =>
      unfold OutSend at hout
      dsimp only at hout
      obtain ⟨rr, h3, h4, h5, h6, h7⟩ := hout
      exact key _ (PcBack.of_procs rfl)
        (by intro tm htm; rw [List.mem_singleton.mp htm]; exact h4)
        (Or.inr ⟨t, m, rr, rfl, h4, h3, h5, h6, h7⟩)

theorem exec_sends (ρ : Nat → Nat → Nat) (s : Sys) (i : Wid) (fuel : Nat) (ordQ : List Pid) :
    ExecSends ρ s (QM.Sys.execStep s i fuel ordQ) i := by
  obtain ⟨o, ho, e⟩ := execStep_step i fuel ordQ (s.wk i) s.prog s.now
  rw [e s rfl rfl rfl]
  exact ho.sends ρ

/-- every logged send was made by a process whose script is THE sender of the target's script -/
def M0 (snd : Nat → Nat) (s : Sys) : Prop :=
  ∀ tm ∈ s.sent, ∃ wa xa, (s.wk wa).procs tm.2.src = some xa ∧ ∃ kb, Sid s tm.1 kb ∧ snd kb = xa.fn

/-- messages of a log that `a` sent to the pids `g` picks -/
def selG (a : Pid) (g : Pid → Bool) (l : List (Pid × Msg)) : List Msg :=
  l.filterMap (fun rm => if g rm.1 = true ∧ rm.2.src = a then some rm.2 else none)

theorem selG_append (a : Pid) (g : Pid → Bool) (l l' : List (Pid × Msg)) : selG a g (l ++ l') = selG a g l ++ selG a g l' := by
  simp [selG, List.filterMap_append]

theorem sel_eq_selG (a b : Pid) (l : List (Pid × Msg)) : sel a b l = selG a (fun t => decide (t = b)) l := by
  simp [sel, selG]

theorem selG_eq_nil_of {a : Pid} {g : Pid → Bool} {l : List (Pid × Msg)} (h : ∀ tm ∈ l, tm.2.src ≠ a) : selG a g l = [] := by
  unfold selG
  rw [List.filterMap_eq_nil_iff]
  intro tm htm
  simp [h tm htm]

/-- among the targets of the send log, `g` picks the pids of script `kb` -/
def Picks (s : Sys) (g : Pid → Bool) (kb : Nat) : Prop := ∀ tm ∈ s.sent, (g tm.1 = true ↔ Sid s tm.1 kb)

/-- what process `a` has sent so far to the pids of script `kb` is what its script sends, up to its position, to `kb`
(per target SCRIPT: a pid born later needs no case, and no two pids of one script have to be told apart before
`streamOK_of`) -/
def M1 (ρ : Nat → Nat → Nat) (s : Sys) : Prop :=
  ∀ wa a xa, (s.wk wa).procs a = some xa → ∀ g kb, Picks s g kb →
    (selG a g s.sent).map Msg.key = sendsK s.prog ρ xa.fn xa.pc kb

theorem Sid.routed {s : Sys} (hs : SInv s) {q : Pid} {f : Nat} (h : Sid s q f) : ∃ w, s.env.router q = some w := by
  rcases h with ⟨w, y, hy, _⟩ | ⟨w, regs, hm⟩
  · exact ⟨w, hs.r.placed w q (by simp [known, hy])⟩
  · exact ⟨w, (hs.r.cmds w _ hm).1⟩

theorem base_mono (prog : Prog) (ar : Nat → Nat) (k : Nat) {j pc : Nat} (h : j ≤ pc) : base prog ar k j ≤ base prog ar k pc := by
  unfold base nspawn
  have : ((prog.getD k []).take j).Sublist ((prog.getD k []).take pc) := (List.take_prefix_take_left h).sublist
  have := this.countP_le (p := isSpawnAct)
  omega

/-- script information of the post-state read back: when no new pid is born -/
theorem Sid.back_of {s s' : Sys}
    (hp : ∀ w p x', (s'.wk w).procs p = some x' → (∃ x, (s.wk w).procs p = some x ∧ x'.fn = x.fn) ∨ Sid s p x'.fn)
    (hc : ∀ w c, c ∈ s'.cmdQ w → c ∈ s.cmdQ w) : ∀ q f, Sid s' q f → Sid s q f := by
  rintro q f (⟨w, y', hy', hf⟩ | ⟨w, regs, hm⟩)
  · rcases hp w q y' hy' with ⟨y, hy, e⟩ | h
    · exact Or.inl ⟨w, y, hy, e.symm.trans hf⟩
    · rw [hf] at h; exact h
  · exact Or.inr ⟨w, regs, hc w _ hm⟩

theorem sid_back_cmd {s : Sys} (hs : SInv s) {i : Wid} {c : Cmd} {rest : List Cmd} {o : Out} (hq : s.cmdQ i = c :: rest)
    (ho : CmdStep Rules.current s.prog (s.wk i) c o) :
    ∀ q f, Sid (Sys.commit { s with cmdQ := upd s.cmdQ i rest } i o) q f → Sid s q f := by
  have hhead : c ∈ s.cmdQ i := by rw [hq]; simp
  have hok := hs.r.cmds i c hhead
  have hcb := ho.back hok.no_restart.1 hok.no_restart.2
  refine Sid.back_of (fun w p x' hx' => ?_) (fun w c' hc' => mem_upd_tail hq hc')
  by_cases e : w = i
  · subst e
    rw [commit_wk_self] at hx'
    rcases hcb p x' hx' with ⟨x, hx, e1, _⟩ | ⟨x, q, _, hx, e1, _⟩ | ⟨f, regs, hc, e1, _⟩
    · exact Or.inl ⟨x, hx, e1⟩
    · exact Or.inl ⟨x, hx, e1⟩
    · subst hc; rw [e1]; exact Or.inr (Or.inr ⟨w, regs, hhead⟩)
  · rw [commit_wk_other _ _ e] at hx'
    exact Or.inl ⟨x', hx', rfl⟩

theorem ExecStep.sid_back {s : Sys} {i : Wid} {fuel : Nat} {ordQ : List Pid} {o : Out}
    (ho : ExecStep s.prog s.now fuel ordQ ((s.wk i).checkExpired s.prog s.now ordQ) o) : ∀ q f, Sid (s.commit i o) q f → Sid s q f := by
  -- only the last clause of `ExecSends` is read (every process was there with its script); the typing plays no part in it
  obtain ⟨news, _, _, hprocs⟩ := ho.sends fun _ _ => 0
  refine Sid.back_of (fun w p x' hx' => ?_) (fun w c hc => hc)
  by_cases e : w = i
  · subst e
    obtain ⟨x, hx, e1, _⟩ := hprocs p x' hx'
    exact Or.inl ⟨x, hx, e1⟩
  · rw [commit_wk_other _ _ e] at hx'; exact Or.inl ⟨x', hx', rfl⟩

/-- the send log agrees with the scripts -/
structure MInv (ρ : Nat → Nat → Nat) (snd : Nat → Nat) (s : Sys) : Prop where
  m0 : M0 snd s
  m1 : M1 ρ s

/-- scripts of logged targets do not change: a choice of the pids of `kb` for the later log is one for the earlier -/
theorem Picks.back {snd : Nat → Nat} {s s' : Sys} {g : Pid → Bool} {kb : Nat} (hs' : SInv s') (m0 : M0 snd s)
    (hsm : ∀ q f, Sid s q f → Sid s' q f) (hsent : ∀ tm ∈ s.sent, tm ∈ s'.sent) (h : Picks s' g kb) : Picks s g kb := by
  intro tm htm
  obtain ⟨_, _, _, k0, hk0, _⟩ := m0 tm htm
  rw [h tm (hsent tm htm)]
  exact ⟨fun h' => (hsm _ _ hk0).functional hs' h' ▸ hk0, hsm _ _⟩

theorem MInv.step_nosend {ρ : Nat → Nat → Nat} {snd : Nat → Nat} {s s' : Sys} (hs' : SInv s') (hm : MInv ρ snd s)
    (hprog : s'.prog = s.prog) (hsent : s'.sent = s.sent) (hsm : ∀ q f, Sid s q f → Sid s' q f)
    (hfk : ∀ w, FnKeep (s.wk w) (s'.wk w))
    (hback : ∀ w p x', (s'.wk w).procs p = some x' →
       (∃ x, (s.wk w).procs p = some x ∧ ∀ kb, sendsK s.prog ρ x'.fn x'.pc kb = sendsK s.prog ρ x.fn x.pc kb) ∨
       ((∀ w0, (s.wk w0).procs p = none) ∧ x'.pc = 0)) : MInv ρ snd s' := by
  refine ⟨?_, ?_⟩
  · intro tm htm
    rw [hsent] at htm
    obtain ⟨wa, xa, hxa, kb, hsid, hsnd⟩ := hm.m0 tm htm
    obtain ⟨xa', hxa', hf⟩ := hfk wa _ xa hxa
    exact ⟨wa, xa', hxa', kb, hsm _ _ hsid, by rw [hf]; exact hsnd⟩
  · intro wa a x' hx' g kb hg
    have hg0 := hg.back hs' hm.m0 hsm (by rw [hsent]; exact fun _ h => h)
    rw [hsent, hprog]
    rcases hback wa a x' hx' with ⟨x, hx, hsk⟩ | ⟨hnone, hpc⟩
    · rw [hsk kb]; exact hm.m1 wa a x hx g kb hg0
    · rw [selG_eq_nil_of, hpc]
      · simp [sendsK]
      · intro tm htm e
        obtain ⟨wa, xa, hxa, _⟩ := hm.m0 tm htm
        rw [e, hnone wa] at hxa; cases hxa

theorem MInv.exec {ρ : Nat → Nat → Nat} {ar : Nat → Nat} {σ : Nat → List (Nat × Nat)} {snd : Nat → Nat} {s s' : Sys}
    (hk : KInv ρ ar σ s) (htab : SingleSenderTable s.prog ρ ar snd) (hm : MInv ρ snd s) (hs' : SInv s')
    (hsm : ∀ q f, Sid s q f → Sid s' q f) (hfk : ∀ w, FnKeep (s.wk w) (s'.wk w)) (i : Wid) (hprog : s'.prog = s.prog)
    (hoth : ∀ k, k ≠ i → s'.wk k = s.wk k) (hx : ExecSends ρ s s' i) : MInv ρ snd s' := by
  obtain ⟨news, hsent, hnews, hprocs⟩ := hx
  -- registers of a sender: the register of a send holds a pid of the script the typing says
  have hreg : ∀ {p : Pid} {x : Proc} {rr pc' tag seq : Nat}, (s.wk i).procs p = some x → 1 ≤ pc' →
      nspawn ((s.prog.getD x.fn []).take pc') = nspawn ((s.prog.getD x.fn []).take x.pc) →
      (s.prog.getD x.fn [])[pc' - 1]? = some (.send rr tag seq) →
      Sid s (x.reg rr) (ρ x.fn rr) ∧ snd (ρ x.fn rr) = x.fn := by
    intro p x rr pc' tag seq hx h1 h2 h3
    have hpx := hk.procs i p x hx
    obtain ⟨t1, t2⟩ := htab.only _ _ _ _ _ h3
    have hr : rr < x.regs.length := by
      rw [hpx.rlen]
      refine Nat.lt_of_lt_of_le t2 ?_
      have := base_mono s.prog ar x.fn (show pc' - 1 ≤ pc' by omega)
      unfold base at this ⊢
      omega
    have : x.reg rr = x.regs[rr] := by simp [Proc.reg, hr]
    rw [this]
    exact ⟨hpx.rsid rr hr, t1⟩
  refine ⟨?_, ?_⟩
  · intro tm htm
    rw [hsent] at htm
    rcases List.mem_append.mp htm with h1 | h1
    · obtain ⟨wa, xa, hxa, kb, hsid, hsnd⟩ := hm.m0 tm h1
      obtain ⟨xa', hxa', hf⟩ := hfk wa _ xa hxa
      exact ⟨wa, xa', hxa', kb, hsm _ _ hsid, by rw [hf]; exact hsnd⟩
    · obtain ⟨x, rr, pc', hx, ht, h5, h6, h7⟩ := hnews tm h1
      obtain ⟨x', hx', hf⟩ := hfk i _ x hx
      obtain ⟨g1, g2⟩ := hreg hx h5 h6 h7
      exact ⟨i, x', hx', ρ x.fn rr, by rw [ht]; exact hsm _ _ g1, by rw [hf]; exact g2⟩
  · intro wa a x' hx' g kb hg
    have hg0 := hg.back hs' hm.m0 hsm (by rw [hsent]; exact fun _ h => List.mem_append_left _ h)
    rw [hsent, hprog, selG_append, List.map_append]
    by_cases e : wa = i
    · subst e
      obtain ⟨x, hx, e1, hcase⟩ := hprocs a x' hx'
      rcases hcase with ⟨e2, hsrc⟩ | ⟨_, hnsp, hk2⟩
      · rw [selG_eq_nil_of hsrc, e1, e2]
        simpa using hm.m1 wa a x hx g kb hg0
      · rcases hk2 with ⟨en, hsk⟩ | ⟨t, m, rr, en, h4, h3, h5, h6, hsk⟩
        · rw [en, e1, hsk kb]; simpa [selG] using hm.m1 wa a x hx g kb hg0
        · rw [en, e1, hsk kb, hm.m1 wa a x hx g kb hg0]
          congr 1
          obtain ⟨g1, _⟩ := hreg hx h5 hnsp h6
          rw [← h3] at g1
          -- the target has the script the register typing says, and no other
          have hgt : g t = true ↔ ρ x.fn rr = kb :=
            (hg (t, m) (by rw [hsent, en]; simp)).trans
              ⟨fun h' => (hsm _ _ g1).functional hs' h', fun h' => h' ▸ hsm _ _ g1⟩
          by_cases hρ : ρ x.fn rr = kb
          · simp [selG, hρ, hgt.mpr hρ, h4]
          · simp [selG, hρ, mt hgt.mp hρ]
    · have hx : (s.wk wa).procs a = some x' := by rw [← hoth wa e]; exact hx'
      have hnil : selG a g news = [] := by
        apply selG_eq_nil_of
        intro tm htm h2
        obtain ⟨x, _, _, hxs, _⟩ := hnews tm htm
        rw [h2] at hxs
        exact e (hk.wi.si.r.one_worker hx hxs)
      rw [hnil]; simpa using hm.m1 wa a x' hx g kb hg0

/-- one step keeps `MInv`, given `KInv` before it and `SInv` after it (so not a faulting command) -/
theorem MInv.step {ρ : Nat → Nat → Nat} {ar : Nat → Nat} {σ : Nat → List (Nat × Nat)} {snd : Nat → Nat} {s s' : Sys}
    (hk : KInv ρ ar σ s) (htab : SingleSenderTable s.prog ρ ar snd) (hs : Step Rules.current s s') (hs' : SInv s')
    (hm : MInv ρ snd s) : MInv ρ snd s' := by
  have hsm := sid_mono_step hk.wi.si hs hs'.r.nofault
  have hfk : ∀ w, FnKeep (s.wk w) (s'.wk w) := fun w => (adv_step hk.wi.si hs w).fnKeep
  -- steps that send nothing and move no process
  have still : s'.prog = s.prog → s'.sent = s.sent → (∀ w, (s'.wk w).procs = (s.wk w).procs) → MInv ρ snd s' := fun hp hsent hpr =>
    hm.step_nosend hs' hp hsent hsm hfk fun w p x' hx' => .inl ⟨x', by rw [hpr] at hx'; exact hx', fun _ => rfl⟩
  cases hs with
  | @env w0 e rest hq =>
    have hf := handleEvent_frame Rules.current.combine { s with evtQ := upd s.evtQ w0 rest } e
    exact still hf.prog hf.sent (fun w => by rw [hf.wk])
  | fault => exact Bool.noConfusion hs'.r.nofault
  | tick ms => exact still rfl rfl (fun _ => rfl)
  | check i ordE =>
    have hc := ChkOut.check (s.wk i) ordE
    refine still rfl (commit_sent hc.quiet.1) fun w => ?_
    by_cases e : w = i
    · subst e; rw [commit_wk_self]; exact hc.procs
    · rw [commit_wk_other _ _ e]
  | exec ho => exact hm.exec hk htab hs' hsm hfk _ rfl (fun k hk' => commit_wk_other _ _ hk') (ho.sends ρ)
  | @cmd i c rest o hq ho =>
    have hhead : c ∈ s.cmdQ i := by rw [hq]; simp
    have hok := hk.wi.si.r.cmds i c hhead
    have hcb := ho.back hok.no_restart.1 hok.no_restart.2
    refine hm.step_nosend hs' rfl (commit_sent ho.sent) hsm hfk fun w p x' hx' => ?_
    have hx'' : (upd s.wk i o.wk w).procs p = some x' := hx'
    by_cases e : w = i
    · subst e
      rw [upd_same] at hx''
      rcases hcb p x' hx'' with ⟨x, hx, e1, e2⟩ | ⟨x, q, hc, hx, e1, e2⟩ | ⟨f, regs, hc, e1, e2⟩
      · exact Or.inl ⟨x, hx, fun kb => by rw [e1, e2]⟩
      · subst hc
        obtain ⟨f, pass, hsc, _⟩ := (hk.procs w p x hx).notif q hhead
        refine Or.inl ⟨x, hx, fun kb => ?_⟩
        rw [e1, e2, sendsK_succ hsc]; simp [isSendTo]
      · subst hc
        exact Or.inr ⟨hk.wi.si.spawn_fresh hhead, e2⟩
    · rw [upd_other _ _ _ _ e] at hx''
      exact Or.inl ⟨x', hx'', fun _ => rfl⟩

theorem MInv.micro {ρ : Nat → Nat → Nat} {ar : Nat → Nat} {σ : Nat → List (Nat × Nat)} {snd : Nat → Nat} {s : Sys}
    (hk : KInv ρ ar σ s) (htab : SingleSenderTable s.prog ρ ar snd) (m : Micro) (hm : MInv ρ snd s) :
    MInv ρ snd (microStep Rules.current s m) :=
  microStep_cases (P := fun s' => SInv s' → MInv ρ snd s') (fun _ => hm) (fun _ hs hs' => hm.step hk htab hs hs') m
    (hk.wi.si.micro Rules.current_sane m)

theorem sendsK_le_stream (prog : Prog) (ρ : Nat → Nat → Nat) (k pc kb : Nat) :
    sendsK prog ρ k pc kb <+: sendsK prog ρ k (prog.getD k []).length kb := by
  rcases Nat.le_total pc (prog.getD k []).length with h | h
  · exact sendsK_prefix prog ρ k kb h
  · rw [sendsK_len_ge prog ρ k kb h]; exact List.prefix_refl _

/-- with one sender script per mailbox and no script run twice, arrivals follow the static streams -/
theorem streamOK_of {ρ : Nat → Nat → Nat} {snd : Nat → Nat} {s : Sys} (hs : SInv s) (hd : DInv s) (hu : Uniq s)
    (hm : MInv ρ snd s) : StreamOK (streamOf s.prog ρ snd) s := by
  intro w p x hx _
  have hsrc : ∀ e ∈ s.appended, e.1 = p → ∃ wa xa, (s.wk wa).procs e.2.src = some xa ∧ xa.fn = snd x.fn := by
    intro e he hp
    have h1 : e.2 ∈ sel e.2.src p s.appended := mem_sel_iff.mpr ⟨by rw [← hp]; exact he, rfl⟩
    have hc := hd.conserve e.2.src p
    have h2 : e.2 ∈ sel e.2.src p s.sent := by
      rw [← hc]; simp only [List.mem_append]; exact Or.inl (Or.inl h1)
    obtain ⟨h3, _⟩ := mem_sel_iff.mp h2
    obtain ⟨wa, xa, hxa, kb, hsid, hsnd⟩ := hm.m0 _ h3
    have : x.fn = kb := hsid.proc_fn hs hx
    exact ⟨wa, xa, hxa, by rw [this]; exact hsnd.symm⟩
  cases hL : s.appended.filter (fun e => e.1 = p) with
  | nil => simp
  | cons e0 L0 =>
    have he0 : e0 ∈ s.appended ∧ e0.1 = p := by
      have : e0 ∈ s.appended.filter (fun e => e.1 = p) := by rw [hL]; simp
      simpa using List.mem_filter.mp this
    obtain ⟨wa0, xa0, hxa0, hf0⟩ := hsrc e0 he0.1 he0.2
    -- all arrivals at `p` have one source: their senders run script `snd x.fn`, and `Uniq` has one process of it
    have hall : ∀ e ∈ s.appended, e.1 = p → e.2.src = e0.2.src := by
      intro e he hp
      obtain ⟨wa, xa, hxa, hf⟩ := hsrc e he hp
      exact hu _ _ (snd x.fn) (Or.inl ⟨wa, xa, hxa, hf⟩) (Or.inl ⟨wa0, xa0, hxa0, hf0⟩)
    have hsel := filter_eq_sel e0.2.src p s.appended hall
    rw [← hL]
    have hmap : (s.appended.filter (fun e => e.1 = p)).map (fun e => e.2.key) =
        ((s.appended.filter (fun e => e.1 = p)).map (fun e => e.2)).map Msg.key := by
      rw [List.map_map]; rfl
    rw [hmap, hsel]
    have hpre : sel e0.2.src p s.appended <+: sel e0.2.src p s.sent := by
      have := hd.conserve e0.2.src p
      simp only [List.append_assoc] at this
      exact ⟨_, this⟩
    -- the one pid of script `x.fn` is `p`
    have hpx : Sid s p x.fn := Or.inl ⟨w, x, hx, rfl⟩
    have h1 := hm.m1 wa0 _ xa0 hxa0 (fun t => decide (t = p)) x.fn (fun tm _ => by
      simp only [decide_eq_true_eq]
      exact ⟨fun h => h ▸ hpx, fun h => hu _ _ _ h hpx⟩)
    refine (hpre.map Msg.key).trans ?_
    rw [sel_eq_selG, h1, hf0]
    exact sendsK_le_stream _ _ _ _ _

theorem MInv.of_started {ρ : Nat → Nat → Nat} {snd : Nat → Nat} {s : Sys} (h : Started s) : MInv ρ snd s := by
  refine ⟨?_, ?_⟩
  · intro tm htm; rw [h.sent] at htm; exact (List.not_mem_nil htm).elim
  intro wa a xa hxa g kb _
  rw [h.sent]
  rw [h.procs] at hxa
  split at hxa
  · simp only [Option.some.injEq] at hxa; subst hxa; simp [sendsK, selG]
  · cases hxa

/-- **The Kahn invariant without a hypothesis on arrivals**: for a script table with a register
typing in which every mailbox has one sender script, in every run whose final state has no script
run by two pids, every process's history is the trace of its script over the STATIC stream of its
mailbox (the sender script's send sequence), and the arrival histories follow those streams. -/
theorem kahn_invariant_unique (ρ : Nat → Nat → Nat) (ar : Nat → Nat) (snd : Nat → Nat) (n : Nat) (prog : Prog) (req : Nat)
    (hn : 0 < n) (hwf : ProgWF prog) (hty : RegTyping prog ρ ar) (htab : SingleSenderTable prog ρ ar snd) (cs : List Choice)
    (hu : Uniq (run (Sys.init n prog req) cs)) :
    PreStart (run (Sys.init n prog req) cs) ∨
      (KInv ρ ar (streamOf prog ρ snd) (run (Sys.init n prog req) cs) ∧ StreamOK (streamOf prog ρ snd) (run (Sys.init n prog req) cs)) := by
  have key := invariant_from_init Rules.current
    (fun s => SInv s ∧ DInv s ∧ (s.prog = prog → Uniq s →
      KInv ρ ar (streamOf prog ρ snd) s ∧ MInv ρ snd s ∧ StreamOK (streamOf prog ρ snd) s))
    (fun s hs => ⟨SInv.of_started hs, DInv.of_started hs, fun hp _ =>
      ⟨KInv.of_started hs (hp ▸ hty), MInv.of_started hs, by
        intro w p x _ _; rw [hs.appended]; simp⟩⟩)
    (fun s m ⟨hsi, hdi, hk⟩ => by
      have hprog := microStep_prog Rules.current s m
      have hsi' := hsi.micro Rules.current_sane m
      have hdi' := hdi.micro Rules.current_tame m
      refine ⟨hsi', hdi', fun hp hu' => ?_⟩
      have hp0 : s.prog = prog := hprog.symm.trans hp
      obtain ⟨hk1, hm1, _⟩ := hk hp0 (Uniq.back hsi m hu')
      have hm' : MInv ρ snd (microStep Rules.current s m) := hm1.micro hk1 (hp0 ▸ htab) m
      have hsd' : StreamOK (streamOf prog ρ snd) (microStep Rules.current s m) := by
        have := streamOK_of hsi' hdi' hu' hm'
        rw [hp] at this; exact this
      exact ⟨hk1.micro m hsd', hm', hsd'⟩) n prog req hn hwf cs
  rcases key with h | ⟨_, _, h⟩
  · exact Or.inl h
  · obtain ⟨h1, _, h3⟩ := h (run_prog _ _ _) hu
    exact Or.inr ⟨h1, h3⟩

end QM.Sys
