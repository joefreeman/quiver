import QuiverModel.Lemmas.Sys.Sched
/-
No lost wake-up (`WInv`): a process parked in `selecting` has no ready source in its local state
(no accepted message in its mailbox, no awaited result or failure stored), or something that will
re-queue it is in flight: a DeliverMessage / UpdateAwaitResults for it, or a link of its await chain
(AwaitAction → QueryAndAwait → ProcessResults → UpdateAwaitResults).
-/
namespace QM.Sys
set_option linter.unusedSectionVars false
variable [Cfg]

/-- is this source ready in the process's local state, clock aside? -/
def srcLocal (x : Proc) : Src → Bool
  | .proc r => decide (x.reg r ∈ x.awaitFailed) ||
      (match alookup x.awaiting (x.reg r) with | some (some _) => true | _ => false)
  | .recv f => (firstAccepted f x.mailbox).isSome
  | .timeout _ => false

/-- the select the process is parked at has a source that is ready in its local state -/
def LocalReady (prog : Prog) (x : Proc) : Prop :=
  (∃ srcs, currentSelect prog x = some srcs ∧ ∃ src ∈ srcs, srcLocal x src = true) ∧
  -- variant `selectWaits`: … and the select is allowed to evaluate: every target has been answered
  ¬ (Cfg.selectWaits = true ∧ x.unanswered.isEmpty = false)

/-- the command will re-queue `p` when handled, or (a query for `p`'s await) leads to an answer that will -/
def mentionsC (p : Pid) : Cmd → Bool
  | .deliver t _ => decide (t = p)
  | .updateAwait a _ => decide (a = p)
  | .queryAwait a _ => decide (a = p)
  | _ => false

/-- the event is a link of `p`'s await chain -/
def mentionsE (p : Pid) : Evt → Bool
  | .await a _ => decide (a = p)
  | .procResults a _ => decide (a = p)
  | _ => false

/-- something that will (transitively) re-queue `p` is in flight -/
def WakePending (s : Sys) (p : Pid) : Prop :=
  (∃ w c, c ∈ s.cmdQ w ∧ mentionsC p c = true) ∨ (∃ w e, e ∈ s.evtQ w ∧ mentionsE p e = true)

/-- worker `w` still owes the environment an answer to `p`'s await query -/
def InFlightFrom (s : Sys) (p : Pid) (w : Wid) : Prop :=
  (∃ ts, Cmd.queryAwait p ts ∈ s.cmdQ w) ∨ (∃ rs, Evt.procResults p rs ∈ s.evtQ w)

/-- `neA`/`neQ`/`neR`: await, query and result lists in flight are non-empty — `handle_process_results` finds the sending
worker from the FIRST key of an answer and ignores an empty one, so an empty link would break the chain.  `pend`: every
worker a pending await still expects owes it an answer.  `wake`: no lost wake-up. -/
structure WCore (s : Sys) : Prop where
  neA : ∀ w a ts, Evt.await a ts ∈ s.evtQ w → ts ≠ []
  neQ : ∀ w a ts, Cmd.queryAwait a ts ∈ s.cmdQ w → ts ≠ []
  neR : ∀ w a rs, Evt.procResults a rs ∈ s.evtQ w → rs ≠ []
  pend : ∀ p pa, s.env.pending p = some pa → ∀ w ∈ pa.expected, InFlightFrom s p w
  wake : ∀ w p x, p ∈ (s.wk w).selecting → (s.wk w).procs p = some x → ¬ LocalReady s.prog x ∨ WakePending s p

def isSpawnEvt (c : Pid) : Evt → Bool
  | .spawn c' _ _ _ => decide (c' = c)
  | _ => false
def isNotify (c : Pid) : Cmd → Bool
  | .notifySpawn c' _ => decide (c' = c)
  | _ => false

/-- **Spawn pairing**: a process is parked in `spawning` iff exactly one SpawnAction / NotifySpawn for
it is in flight at its worker; otherwise none is. -/
def SPair (s : Sys) : Prop :=
  ∀ w c, (s.evtQ w).countP (isSpawnEvt c) + (s.cmdQ w).countP (isNotify c) = if c ∈ (s.wk w).spawning then 1 else 0

/-- (`pair` is needed for the wake-up part only to know that the caller of a NotifySpawn is parked in `spawning`, hence
not in `selecting`) -/
structure WInv (s : Sys) : Prop where
  si : SInv s
  core : WCore s
  pair : SPair s

theorem WakePending.mono {s s' : Sys} {p : Pid} (hc : ∀ w c, c ∈ s.cmdQ w → c ∈ s'.cmdQ w)
    (he : ∀ w e, e ∈ s.evtQ w → e ∈ s'.evtQ w) (h : WakePending s p) : WakePending s' p := by
  rcases h with ⟨w, c, h1, h2⟩ | ⟨w, e, h1, h2⟩
  · exact Or.inl ⟨w, c, hc w c h1, h2⟩
  · exact Or.inr ⟨w, e, he w e h1, h2⟩

theorem InFlightFrom.mono {s s' : Sys} {p : Pid} {w : Wid} (hc : ∀ c, c ∈ s.cmdQ w → c ∈ s'.cmdQ w)
    (he : ∀ e, e ∈ s.evtQ w → e ∈ s'.evtQ w) (h : InFlightFrom s p w) : InFlightFrom s' p w := by
  rcases h with ⟨ts, h1⟩ | ⟨rs, h1⟩
  · exact Or.inl ⟨ts, hc _ h1⟩
  · exact Or.inr ⟨rs, he _ h1⟩

theorem InFlightFrom.wake {s : Sys} {p : Pid} {w : Wid} (h : InFlightFrom s p w) : WakePending s p := by
  rcases h with ⟨ts, h1⟩ | ⟨rs, h1⟩
  · exact Or.inl ⟨w, _, h1, by simp [mentionsC]⟩
  · exact Or.inr ⟨w, _, h1, by simp [mentionsE]⟩

theorem WCore.pushCmd {s : Sys} (h : WCore s) (w : Wid) (c : Cmd)
    (hq : ∀ a ts, c = .queryAwait a ts → ts ≠ []) : WCore (s.pushCmd w c) := by
  have hmono : ∀ w' c', c' ∈ s.cmdQ w' → c' ∈ (s.pushCmd w c).cmdQ w' := fun w' c' h1 => mem_upd_append_left h1
  refine { neA := h.neA, neQ := ?_, neR := h.neR, pend := ?_, wake := ?_ }
  · intro w' a ts hm
    rcases mem_upd_append hm with h1 | ⟨_, h1⟩
    · exact h.neQ w' a ts h1
    · exact hq a ts h1.symm
  · intro p pa hp w' hw'
    exact (h.pend p pa hp w' hw').mono (hmono w') (fun _ he => he)
  · intro w' p x hp hx
    rcases h.wake w' p x hp hx with h1 | h1
    · exact Or.inl h1
    · exact Or.inr (h1.mono hmono (fun _ _ he => he))

theorem WCore.congr {s s' : Sys} (h : WCore s) (hc : s'.cmdQ = s.cmdQ) (he : s'.evtQ = s.evtQ) (hw : s'.wk = s.wk)
    (hp : s'.prog = s.prog) (hpe : s'.env.pending = s.env.pending) : WCore s' := by
  refine { neA := by rw [he]; exact h.neA, neQ := by rw [hc]; exact h.neQ, neR := by rw [he]; exact h.neR,
           pend := ?_, wake := ?_ }
  · intro p pa hpp w hw'
    rw [hpe] at hpp
    exact (h.pend p pa hpp w hw').mono (fun _ h1 => by rw [hc]; exact h1) (fun _ h1 => by rw [he]; exact h1)
  · intro w p x hsel hx
    rw [hw] at hsel hx
    rw [hp]
    rcases h.wake w p x hsel hx with h1 | h1
    · exact Or.inl h1
    · exact Or.inr (h1.mono (fun _ _ h2 => by rw [hc]; exact h2) (fun _ _ h2 => by rw [he]; exact h2))

/-- `WCore` after the environment has handled the head event `e` of worker `w0` with output `o`: the queries it sends
have targets, every worker a `pending` entry expects is sent a query or was expected before (and is not the one whose answer
`e` is), and whoever `e` was going to re-queue is covered by something else -/
theorem WCore.envCommit {s : Sys} (h : WCore s) {w0 : Wid} {e : Evt} {rest : List Evt} (hq : s.evtQ w0 = e :: rest) {o : EnvOut}
    (hQ : ∀ w a ts, (w, Cmd.queryAwait a ts) ∈ o.cmds → ts ≠ [])
    (hP : ∀ p pa, o.env.pending p = some pa → ∀ w ∈ pa.expected, (∃ ts, (w, Cmd.queryAwait p ts) ∈ o.cmds) ∨
      ∃ pa0, s.env.pending p = some pa0 ∧ w ∈ pa0.expected ∧ ∀ rs, e = .procResults p rs → w ≠ w0)
    (hW : ∀ p, mentionsE p e = true → WakePending (Sys.envCommit { s with evtQ := upd s.evtQ w0 rest } o) p) :
    WCore (Sys.envCommit { s with evtQ := upd s.evtQ w0 rest } o) := by
  have hmono : ∀ w c, c ∈ s.cmdQ w → c ∈ pushAll s.cmdQ o.cmds w := fun w c hc => mem_pushAll.mpr (.inl hc)
  refine { neA := fun w a ts hm => h.neA w a ts (mem_upd_tail hq hm), neQ := fun w a ts hm => ?_,
           neR := fun w a rs hm => h.neR w a rs (mem_upd_tail hq hm), pend := fun p pa hp w hw => ?_,
           wake := fun w p x hsel hx => (h.wake w p x hsel hx).imp_right fun hp => ?_ }
  · exact (mem_pushAll.mp hm).elim (h.neQ w a ts) (hQ w a ts)
  · rcases hP p pa hp w hw with ⟨ts, hm⟩ | ⟨pa0, hp0, hw0, hne⟩
    · exact Or.inl ⟨ts, mem_pushAll.mpr (.inr hm)⟩
    · rcases h.pend p pa0 hp0 w hw0 with ⟨ts, h1⟩ | ⟨rs, h1⟩
      · exact Or.inl ⟨ts, hmono w _ h1⟩
      · exact Or.inr ⟨rs, (mem_upd_tail_or hq h1).resolve_left fun h2 => hne rs h2.2.symm h2.1⟩
  · rcases hp with ⟨w2, c, h2, h3⟩ | ⟨w2, e', h2, h3⟩
    · exact Or.inl ⟨w2, c, hmono w2 c h2, h3⟩
    · rcases mem_upd_tail_or hq h2 with ⟨_, rfl⟩ | h4
      · exact hW p h3
      · exact Or.inr ⟨w2, e', h4, h3⟩

/-- popping an event that mentions nobody (deliver, spawn, resultResp, exited) -/
theorem WCore.popEvtSilent {s : Sys} (h : WCore s) {w : Wid} {e : Evt} {rest : List Evt} (hq : s.evtQ w = e :: rest)
    (he : ∀ p, mentionsE p e = false) : WCore { s with evtQ := upd s.evtQ w rest } :=
  envCommit_same { s with evtQ := upd s.evtQ w rest } ▸ h.envCommit (o := { env := s.env }) hq nofun
    (fun p pa hp w' hw' => .inr ⟨pa, hp, hw', fun rs e' => by have := he p; rw [e'] at this; simp [mentionsE] at this⟩)
    fun p hm => by rw [he p] at hm; cases hm

theorem WCore.handleSpawn {s : Sys} (h : WCore s) (caller : Pid) (fn : Nat) (regs : List Pid) (coloc : Option Pid) :
    WCore (handleSpawn s caller fn regs coloc) := by
  simp only [QM.Sys.handleSpawn]
  generalize placement s coloc s.env.nextPid = w
  have h0 : WCore ({ s with env := { s.env with nextPid := s.env.nextPid + 1, router := upd s.env.router s.env.nextPid (some w) } } : Sys) :=
    h.congr rfl rfl rfl rfl rfl
  have h1 := h0.pushCmd w (.spawn s.env.nextPid fn regs) (fun _ _ heq => by cases heq)
  split
  · exact h1.congr rfl rfl rfl rfl rfl
  · exact (h1.pushCmd _ (.notifySpawn caller s.env.nextPid) (fun _ _ heq => by cases heq)).congr rfl rfl rfl rfl rfl

theorem WCore.handleDeliver {s : Sys} (h : WCore s) (t : Pid) (m : Msg) : WCore (handleDeliver s t m) := by
  unfold QM.Sys.handleDeliver
  split
  · exact h.congr rfl rfl rfl rfl rfl
  · exact h.pushCmd _ _ (fun _ _ heq => by cases heq)


theorem foldPush_spec (g : Wid → Cmd) : ∀ (ws : List Wid) (s : Sys),
    let s' := ws.foldl (fun acc w => acc.pushCmd w (g w)) s
    s'.evtQ = s.evtQ ∧ s'.wk = s.wk ∧ s'.env = s.env ∧ s'.prog = s.prog ∧
    (∀ w c, c ∈ s.cmdQ w → c ∈ s'.cmdQ w) ∧ (∀ w ∈ ws, g w ∈ s'.cmdQ w) ∧
    (∀ w c, c ∈ s'.cmdQ w → c ∈ s.cmdQ w ∨ (w ∈ ws ∧ c = g w))
  | [], s => ⟨rfl, rfl, rfl, rfl, fun _ _ h => h, fun _ h => by simp at h, fun _ _ h => Or.inl h⟩
  | w0 :: ws, s => by
    have ih := foldPush_spec g ws (s.pushCmd w0 (g w0))
    simp only [List.foldl_cons]
    obtain ⟨i1, i2, i3, i4, i5, i6, i7⟩ := ih
    refine ⟨i1, i2, i3, i4, ?_, ?_, ?_⟩
    · intro w c hc; exact i5 w c (mem_upd_append_left hc)
    · intro w hw
      rcases List.mem_cons.mp hw with rfl | hw
      · apply i5; show g w ∈ upd s.cmdQ w (s.cmdQ w ++ [g w]) w; simp
      · exact i6 w hw
    · intro w c hc
      rcases i7 w c hc with h1 | ⟨h1, h2⟩
      · rcases mem_upd_append h1 with h3 | ⟨h3, h4⟩
        · exact Or.inl h3
        · exact Or.inr ⟨by rw [h3]; simp, by rw [h3]; exact h4⟩
      · exact Or.inr ⟨List.mem_cons_of_mem _ h1, h2⟩

theorem targetWorkers_ne_nil {router : Router} {ts : List Pid} (hne : ts ≠ []) (hr : ∀ t ∈ ts, Routed router t) :
    targetWorkers router ts ≠ [] := by
  cases ts with
  | nil => exact absurd rfl hne
  | cons t rest =>
    unfold targetWorkers
    have := hr t (by simp)
    unfold Routed at this
    cases h : router t with
    | none => rw [h] at this; simp at this
    | some w => simp

theorem WCore.await {s : Sys} (h : WCore s) (hr : RInv s) {combine} {w0 : Wid} {a : Pid} {ts : List Pid} {rest : List Evt}
    (hq : s.evtQ w0 = .await a ts :: rest) {o : EnvOut} (ho : EnvStep combine s.env s.n (.await a ts) o) :
    WCore (Sys.envCommit { s with evtQ := upd s.evtQ w0 rest } o) := by
  obtain ⟨_, hts⟩ : EvtOK s.env.router s.prog.length w0 (.await a ts) := hr.evts w0 _ (hq ▸ List.mem_cons_self)
  have hne : ts ≠ [] := h.neA w0 a ts (hq ▸ List.mem_cons_self)
  cases ho with
  | awaitFault _ _ hany =>
    obtain ⟨t, ht, hn⟩ := List.any_eq_true.mp hany
    have := hts t ht
    unfold Routed at this
    rw [Option.isNone_iff_eq_none.mp hn] at this; cases this
  | await _ _ _ =>
    -- every target worker is sent its share of the targets
    have hsent : ∀ w ∈ targetWorkers s.env.router ts, ∃ ts', (w, Cmd.queryAwait a ts') ∈
        (targetWorkers s.env.router ts).map fun w => (w, Cmd.queryAwait a (ts.filter fun t => s.env.router t = some w)) :=
      fun w hw => ⟨_, List.mem_map.mpr ⟨w, hw, rfl⟩⟩
    refine h.envCommit hq (fun w a' ts' hm => ?_) (fun p pa hp w hw => ?_) fun p hm => ?_
    · obtain ⟨w', hw', e'⟩ := List.mem_map.mp hm
      cases e'
      obtain ⟨t, ht, hrt⟩ := targetWorkers_mem hw'
      exact fun hnil => by
        have : t ∈ ts.filter (fun t => s.env.router t = some w) := by simp [ht, hrt]
        rw [hnil] at this; cases this
    · have hp' : upd s.env.pending a (some { expected := targetWorkers s.env.router ts, responses := [] }) p = some pa := hp
      by_cases hpa : p = a
      · subst hpa
        rw [upd_same] at hp'; cases hp'
        exact .inl (hsent w hw)
      · rw [upd_other _ _ _ _ hpa] at hp'
        exact .inr ⟨pa, hp', hw, nofun⟩
    · cases of_decide_eq_true hm
      obtain ⟨w3, hw3⟩ := List.exists_mem_of_ne_nil _ (targetWorkers_ne_nil hne hts)
      obtain ⟨ts', hm'⟩ := hsent w3 hw3
      exact Or.inl ⟨w3, _, mem_pushAll.mpr (.inr hm'), decide_eq_true rfl⟩

/-- The environment consumes a ProcessResults for `a` from worker `w0`: the awaiter's `pending` entry may lose `w0` or go,
an UpdateAwaitResults for `a` may be sent; `a` stays covered by what is still in flight. -/
theorem WCore.procResults {s : Sys} (h : WCore s) (hr : RInv s) {combine} {w0 : Wid} {a : Pid} {rs : Results} {rest : List Evt}
    (hq : s.evtQ w0 = .procResults a rs :: rest) {o : EnvOut} (ho : EnvStep combine s.env s.n (.procResults a rs) o) :
    WCore (Sys.envCommit { s with evtQ := upd s.evtQ w0 rest } o) := by
  obtain ⟨ha, hkeys⟩ : EvtOK s.env.router s.prog.length w0 (.procResults a rs) := hr.evts w0 _ (hq ▸ List.mem_cons_self)
  have hsnd : senderOf s.env.router rs = some w0 := by
    cases hrs : rs with
    | nil => exact absurd hrs (h.neR w0 a rs (hq ▸ List.mem_cons_self))
    | cons kv rs' => exact hkeys kv (hrs ▸ List.mem_cons_self)
  unfold Routed at ha
  -- an entry of `pending` other than `a`'s is not touched
  have other : ∀ {v : Option PendingAwait} {p : Pid} {pa' : PendingAwait}, p ≠ a → upd s.env.pending a v p = some pa' →
      ∀ w ∈ pa'.expected, (∃ ts, (w, Cmd.queryAwait p ts) ∈ o.cmds) ∨
        ∃ pa0, s.env.pending p = some pa0 ∧ w ∈ pa0.expected ∧ ∀ rs', Evt.procResults a rs = .procResults p rs' → w ≠ w0 :=
    fun hpa hp w hw => .inr ⟨_, by rwa [upd_other _ _ _ _ hpa] at hp, hw, fun _ e => by cases e; exact absurd rfl hpa⟩
  have sent : ∀ {s' : Sys} {aw : Wid} {all : Results}, Cmd.updateAwait a all ∈ s'.cmdQ aw → ∀ p,
      mentionsE p (.procResults a rs) = true → WakePending s' p := fun hc p hm => by
    cases of_decide_eq_true hm
    exact Or.inl ⟨_, _, hc, decide_eq_true rfl⟩
  have notQ : ∀ {aw : Wid} {all : Results} w a' ts, (w, Cmd.queryAwait a' ts) ∈ [(aw, Cmd.updateAwait a all)] → ts ≠ [] :=
    fun _ _ _ hm => by cases List.mem_singleton.mp hm
  cases ho with
  | stray _ _ pa _ hs => rw [hsnd] at hs; cases hs
  | lastFault _ _ pa w _ _ _ hra => rw [hra] at ha; cases ha
  | lateFault _ _ _ hra => rw [hra] at ha; cases ha
  | last _ _ pa w aw hpend hs _ hra =>
    refine h.envCommit hq notQ (fun p pa' hp => ?_) (sent (mem_pushAll.mpr (.inr (List.mem_singleton_self _))))
    by_cases hpa : p = a
    · have hp' : upd s.env.pending a none p = some pa' := hp
      rw [hpa, upd_same] at hp'; cases hp'
    · exact other hpa hp
  | more _ _ pa w hpend hs hemp =>
    cases hsnd.symm.trans hs
    refine h.envCommit hq nofun (fun p pa' hp => ?_) fun p hm => ?_
    · by_cases hpa : p = a
      · have hp' : upd s.env.pending a (some _) p = some pa' := hp
        rw [hpa, upd_same] at hp'; cases hp'
        exact fun w' hw' => .inr ⟨pa, hpa ▸ hpend, (List.mem_filter.mp hw').1, fun _ _ => of_decide_eq_true (List.mem_filter.mp hw').2⟩
      · exact other hpa hp
    · -- some other worker still owes an answer
      cases of_decide_eq_true hm
      obtain ⟨w3, hw3⟩ := List.exists_mem_of_ne_nil (pa.expected.filter (· ≠ w0)) fun hnil => hemp (by rw [hnil]; rfl)
      have hw3' := List.mem_filter.mp hw3
      refine InFlightFrom.wake (w := w3) ((h.pend a pa hpend w3 hw3'.1).imp (fun ⟨ts, h1⟩ => ⟨ts, mem_pushAll.mpr (.inl h1)⟩)
        fun ⟨rs2, h1⟩ => ⟨rs2, ?_⟩)
      exact (mem_upd_tail_or hq h1).resolve_left fun h2 => of_decide_eq_true hw3'.2 h2.1
  | late _ _ aw hpend hra =>
    refine h.envCommit hq notQ (fun p pa' hp w hw => ?_) (sent (mem_pushAll.mpr (.inr (List.mem_singleton_self _))))
    exact .inr ⟨pa', hp, hw, fun _ e => by cases e; rw [hpend] at hp; cases hp⟩

theorem WCore.env {s : Sys} (h : WCore s) (hr : RInv s) (combine) {w : Wid} {e : Evt} {rest : List Evt}
    (hq : s.evtQ w = e :: rest) : WCore (handleEventWith combine { s with evtQ := upd s.evtQ w rest } e) := by
  cases e with
  | spawn c fn regs coloc => exact (h.popEvtSilent hq (fun _ => rfl)).handleSpawn c fn regs coloc
  | deliver t m => exact (h.popEvtSilent hq (fun _ => rfl)).handleDeliver t m
  | await a ts =>
    obtain ⟨o, ho, eo⟩ := handleEvent_step combine (.await a ts) s.env s.n
    exact eo { s with evtQ := upd s.evtQ w rest } rfl rfl ▸ h.await hr hq ho
  | procResults a rs =>
    obtain ⟨o, ho, eo⟩ := handleEvent_step combine (.procResults a rs) s.env s.n
    exact eo { s with evtQ := upd s.evtQ w rest } rfl rfl ▸ h.procResults hr hq ho
  | resultResp req r => exact (h.popEvtSilent hq (fun _ => rfl)).congr rfl rfl rfl rfl rfl
  | exited p => exact h.popEvtSilent hq (fun _ => rfl)

theorem countP_upd_append {α : Type} (f : α → Bool) (q : Nat → List α) (w w' : Nat) (c : α) :
    (upd q w (q w ++ [c]) w').countP f = (q w').countP f + (if w' = w ∧ f c = true then 1 else 0) := by
  rw [upd_snoc_apply, List.countP_append]
  by_cases e : w' = w <;> by_cases hf : f c = true <;> simp [e, hf]

theorem countP_upd_tail {α : Type} (f : α → Bool) {q : Nat → List α} {w : Nat} {c : α} {rest : List α} (hq : q w = c :: rest)
    (w' : Nat) : (q w').countP f = (upd q w rest w').countP f + (if w' = w ∧ f c = true then 1 else 0) := by
  unfold upd; split
  · rename_i e; rw [e, hq, List.countP_cons]; simp
  · rename_i e; simp [e]

theorem SPair.pushCmdOther {s : Sys} (h : SPair s) (w : Wid) (c : Cmd) (hc : ∀ p, isNotify p c = false) :
    SPair (s.pushCmd w c) := by
  intro w' p
  rw [pushCmd_cmdQ, countP_upd_append, hc p]
  simp only [Bool.false_eq_true, and_false, if_false, Nat.add_zero]
  exact h w' p

theorem SPair.congr {s s' : Sys} (h : SPair s) (hc : s'.cmdQ = s.cmdQ) (he : s'.evtQ = s.evtQ) (hw : s'.wk = s.wk) :
    SPair s' := by
  intro w p; rw [hc, he, hw]; exact h w p

theorem SPair.popEvtOther {s : Sys} (h : SPair s) {w : Wid} {e : Evt} {rest : List Evt} (hq : s.evtQ w = e :: rest)
    (he : ∀ p, isSpawnEvt p e = false) : SPair { s with evtQ := upd s.evtQ w rest } := by
  intro w' p
  have := h w' p
  rw [countP_upd_tail _ hq w', he p] at this
  simp only [Bool.false_eq_true, and_false, if_false, Nat.add_zero] at this
  exact this

/-- the SpawnAction of `caller` leaves its worker's event queue, the NotifySpawn for `caller` joins its command queue -/
theorem SPair.replyPop {s : Sys} (h : SPair s) {w0 : Wid} {caller : Pid} {fn : Nat} {regs : List Pid} {coloc : Option Pid}
    {rest : List Evt} (hq : s.evtQ w0 = .spawn caller fn regs coloc :: rest) (newPid : Pid) :
    SPair (({ s with evtQ := upd s.evtQ w0 rest } : Sys).reply w0 caller newPid) := by
  intro w' p
  have := h w' p
  rw [countP_upd_tail _ hq w'] at this
  refine Eq.trans ?_ this
  dsimp only [Sys.reply, Sys.pushCmd]
  rw [countP_upd_append]
  simp only [isSpawnEvt, isNotify, decide_eq_true_eq]
  omega

theorem SPair.env {s : Sys} (h : SPair s) (hr : RInv s) (combine) {w : Wid} {e : Evt} {rest : List Evt}
    (hq : s.evtQ w = e :: rest) : SPair (handleEventWith combine { s with evtQ := upd s.evtQ w rest } e) := by
  have hev := hr.evts w e (hq ▸ List.mem_cons_self)
  cases e with
  | spawn c fn regs coloc =>
    show SPair (handleSpawn _ c fn regs coloc)
    rw [handleSpawn_alloc (s := { s with evtQ := upd s.evtQ w rest }) hev.1 (Nat.ne_of_lt (hr.below c w hev.1))]
    exact SPair.replyPop (s := s.alloc _ fn regs) ((h.congr rfl rfl rfl).pushCmdOther _ _ fun _ => rfl) hq _
  | deliver t m =>
    obtain ⟨wt, ht⟩ := Option.isSome_iff_exists.mp hev.2
    show SPair (handleDeliver _ t m)
    rw [handleDeliver_eq (s := { s with evtQ := upd s.evtQ w rest }) ht]
    exact (h.popEvtOther hq fun _ => rfl).pushCmdOther _ _ fun _ => rfl
  | await a ts =>
    exact handleAwait_invariant (s := { s with evtQ := upd s.evtQ w rest }) hev.2
      (fun _ => (h.popEvtOther hq fun _ => rfl).congr rfl rfl rfl) fun _ _ _ _ _ h' => h'.pushCmdOther _ _ fun _ => rfl
  | procResults a rs =>
    obtain ⟨aw, ha⟩ := Option.isSome_iff_exists.mp hev.1
    have h1 := h.popEvtOther hq fun _ => rfl
    exact handleProcResults_invariant (s := { s with evtQ := upd s.evtQ w rest }) combine rs ha h1
      (fun _ => h1.congr rfl rfl rfl) fun _ _ _ h' => h'.pushCmdOther _ _ fun _ => rfl
  | resultResp req r => exact (h.popEvtOther hq (fun _ => rfl)).congr rfl rfl rfl
  | exited p => exact h.popEvtOther hq (fun _ => rfl)

/-- every process still parked in `selecting` was parked before and is unchanged -/
def SelSub (w w' : WorkerSt) : Prop :=
  ∀ q, q ∈ w'.selecting → q ∈ w.selecting ∧ w'.procs q = w.procs q

theorem SelSub.refl (w : WorkerSt) : SelSub w w := fun _ h => ⟨h, rfl⟩
theorem SelSub.trans {a b c : WorkerSt} (h1 : SelSub a b) (h2 : SelSub b c) : SelSub a c := fun q hq =>
  ⟨(h1 q (h2 q hq).1).1, (h2 q hq).2.trans (h1 q (h2 q hq).1).2⟩

theorem SelSub.wakeSelecting (w : WorkerSt) (p : Pid) : SelSub w (w.wakeSelecting p) := fun q hq =>
  ⟨(mem_wakeSelecting.mp hq).1, by simp⟩

/-- modify `p`, then wake `p`: nobody still parked is affected -/
theorem SelSub.modWake (w : WorkerSt) (p : Pid) (f : Proc → Proc) : SelSub w ((w.modProc p f).wakeSelecting p) := by
  intro q hq
  obtain ⟨h1, h2⟩ := mem_wakeSelecting.mp hq
  rw [modProc_selecting] at h1
  exact ⟨h1, by rw [wakeSelecting_procs, modProc_procs_other _ _ _ _ h2]⟩

theorem SelSub.notifyResult (w : WorkerSt) (a t : Pid) (r : Res) : SelSub w (w.notifyResult a t r) := by
  cases r with
  | ok v => exact SelSub.modWake w a _
  | err =>
    show SelSub w (w.notifyFailure a t)
    unfold WorkerSt.notifyFailure
    split
    · split
      · exact SelSub.modWake w a _
      · exact SelSub.refl w
    · exact SelSub.refl w

/-- apply an answer, then wake the awaiter: nobody still parked is affected -/
theorem SelSub.applyResultsWake (a : Pid) (rs : Results) (w : WorkerSt) : SelSub w ((applyResults w a rs).wakeSelecting a) := by
  intro q hq
  obtain ⟨h1, h2⟩ := mem_wakeSelecting.mp hq
  obtain ⟨_, hL⟩ := (Helper.applyResults a rs w).woke
  exact ⟨(List.mem_filter.mp (hL.selecting ▸ h1)).1, by rw [wakeSelecting_procs, applyResults_other a rs w q h2]⟩

theorem queryTargets_ne_nil (a : Pid) (w : WorkerSt) {ts : List Pid} (h : ts ≠ []) : (queryTargets w a ts).2 ≠ [] := by
  cases ts with
  | nil => exact absurd rfl h
  | cons t rest =>
    unfold queryTargets
    have hins : ∀ (l : Results) (v : Option Res), ainsert l t v ≠ [] := by
      intro l v hn
      have : t ∈ (ainsert l t v).map (·.1) := by rw [keys_ainsert]; simp
      rw [hn] at this; simp at this
    split
    · exact hins _ _
    · exact hins _ _

theorem spair_notify_parked {s : Sys} (h : SPair s) {w : Wid} {c p : Pid} (hm : Cmd.notifySpawn c p ∈ s.cmdQ w) :
    c ∈ (s.wk w).spawning := by
  have := h w c
  have hpos : 0 < (s.cmdQ w).countP (isNotify c) := by
    rw [List.countP_pos_iff]; exact ⟨_, hm, by simp [isNotify]⟩
  by_cases hin : c ∈ (s.wk w).spawning
  · exact hin
  · simp only [hin, if_false] at this; omega

theorem spair_evt_parked {s : Sys} (h : SPair s) {w : Wid} {c : Pid} {f : Nat} {regs : List Pid} {co : Option Pid}
    (hm : Evt.spawn c f regs co ∈ s.evtQ w) : c ∈ (s.wk w).spawning := by
  have := h w c
  have hpos : 0 < (s.evtQ w).countP (isSpawnEvt c) := by
    rw [List.countP_pos_iff]; exact ⟨_, hm, by simp [isSpawnEvt]⟩
  by_cases hin : c ∈ (s.wk w).spawning
  · exact hin
  · simp only [hin, if_false] at this; omega

theorem spair_head_notify {s : Sys} (h : SPair s) {w : Wid} {c q : Pid} {rest : List Cmd}
    (hq : s.cmdQ w = .notifySpawn c q :: rest) :
    (∀ q', Cmd.notifySpawn c q' ∉ rest) ∧ ∀ f regs co, Evt.spawn c f regs co ∉ s.evtQ w := by
  have := h w c
  rw [hq, List.countP_cons] at this
  simp only [isNotify, decide_true, if_true] at this
  have hle : (if c ∈ (s.wk w).spawning then 1 else 0) ≤ 1 := by split <;> omega
  have h1 : rest.countP (isNotify c) = 0 := by omega
  have h2 : (s.evtQ w).countP (isSpawnEvt c) = 0 := by omega
  rw [List.countP_eq_zero] at h1 h2
  exact ⟨fun q' hm => by have := h1 _ hm; simp [isNotify] at this,
         fun f regs co hm => by have := h2 _ hm; simp [isSpawnEvt] at this⟩

theorem srcReady_no {x : Proc} {now start : Nat} {src : Src} (h : srcReady x now start src = .no) : srcLocal x src = false := by
  cases src with
  | proc r =>
    simp only [srcReady] at h
    simp only [srcLocal]
    split at h
    · cases h
    · rename_i hnf
      simp only [hnf, decide_false, Bool.false_or]
      split at h
      · cases h
      · rename_i hne
        split
        · rename_i v hv; exact absurd hv (hne v)
        · rfl
  | recv f =>
    simp only [srcReady] at h
    simp only [srcLocal]
    split at h
    · cases h
    · rename_i hn; rw [hn]; rfl
  | timeout ms => rfl

theorem firstReady_no {x : Proc} {now start : Nat} : ∀ {srcs : List Src}, firstReady x now start srcs = .no →
    ∀ src ∈ srcs, srcLocal x src = false
  | [], _, _, hm => by simp at hm
  | s0 :: rest, h, src, hm => by
    unfold firstReady at h
    split at h
    · rename_i hs0
      rcases List.mem_cons.mp hm with rfl | hm
      · exact srcReady_no hs0
      · exact firstReady_no h src hm
    · rename_i hr
      exact absurd h hr

/-- a slice that ends parked leaves no source ready in the process's local state; an await it registers has targets -/
theorem SliceW.blocked {prog : Prog} {now : Nat} {self : Pid} {p p' : Proc} {out : Outcome} (h : SliceW prog now self p p' out) :
    (out = .blocked → ¬ LocalReady prog p') ∧ ∀ ts, out = .awaitInit ts → ts ≠ [] := by
  induction h with
  | selStart _ _ _ _ ih => exact ih
  | selYes _ _ _ _ _ ih => exact ih
  | selAwait _ _ ht => exact ⟨nofun, fun ts e hnil => by cases e; rw [hnil] at ht; exact ht rfl⟩
  | selGate _ _ hg =>
    -- variant `selectWaits`: answers pending — parked with the gate closed
    exact ⟨fun _ ⟨_, hopen⟩ => hopen (by simpa using hg), nofun⟩
  | @selNo p srcs hact _ _ hno =>
    refine ⟨fun _ ⟨⟨srcs', hcs, src, hsrc, hloc⟩, _⟩ => ?_, nofun⟩
    have : currentSelect prog { p with selStart := some (p.selStart.getD now) } = some srcs := by
      unfold currentSelect Proc.script
      unfold Proc.script at hact
      simp only [hact]
    rw [this] at hcs; cases hcs
    rw [firstReady_no hno src hsrc] at hloc; cases hloc
  | _ => exact ⟨nofun, nofun⟩

theorem finish_selsub {w : WorkerSt} {cur : Pid} (x : Proc) (ordQ : List Pid) {q : Pid}
    (hq : q ∈ (w.finish cur x ordQ).selecting) : q ∈ w.selecting ∧ (q ≠ cur → (w.finish cur x ordQ).procs q = w.procs q) := by
  unfold WorkerSt.finish at hq ⊢
  dsimp only at hq ⊢
  have h1 := foldl_rel_of_step SelSub.refl SelSub.trans (fun acc a => acc.notifyResult a cur x.finalRes) (fun w' a => SelSub.notifyResult w' a cur _)
    (orderBy ordQ (({ w with procs := upd w.procs cur (some { x with result := some x.finalRes }) } : WorkerSt).localAwaiters cur))
    { w with procs := upd w.procs cur (some { x with result := some x.finalRes }) }
  have hrel : ∀ (w' : WorkerSt), (w'.release cur).selecting = w'.selecting ∧ ∀ q, q ≠ cur → (w'.release cur).procs q = w'.procs q := by
    intro w'
    unfold WorkerSt.release; split
    · exact ⟨modProc_selecting _ _ _, fun q hne => modProc_procs_other _ _ _ _ hne⟩
    · exact ⟨rfl, fun _ _ => rfl⟩
  rw [(hrel _).1] at hq
  obtain ⟨h2, h3⟩ := h1 q hq
  exact ⟨h2, fun hne => by rw [(hrel _).2 q hne, h3]; simp [upd_other _ _ _ _ hne]⟩

/-! What a command, a time slice or the completion check does is read through `WakeStep` (`CmdStep.wake`, `ExecStep.wake`,
`WakeStep.check`); `WCore.commit` and `SPair.commit` lift it to the system, whose state after the step is
`(s.pop i oc).commit i o`. -/

/-- the consumed command is the NotifySpawn for `p` -/
def notifies (oc : Option Cmd) (p : Pid) : Bool :=
  match oc with
  | some c => isNotify p c
  | none => false

/-- what a worker step may do to the parked selects and to `spawning`, given the command it consumes (`oc`) and the events
it emits: whoever is parked afterwards was parked before and is unchanged, or has no ready source, or has just registered
an await; the addressee of the consumed command is no longer parked; a query is answered; `spawning` loses the caller of a
consumed NotifySpawn, or gains the process whose SpawnAction is the one event emitted -/
structure WakeStep (prog : Prog) (w : WorkerSt) (oc : Option Cmd) (o : Out) : Prop where
  nonempty : ∀ e ∈ o.evs, (∀ a ts, e = .await a ts → ts ≠ []) ∧ (∀ a rs, e = .procResults a rs → rs ≠ [])
  sel : ∀ q x', q ∈ o.wk.selecting → o.wk.procs q = some x' →
    (q ∈ w.selecting ∧ w.procs q = some x') ∨ ¬ LocalReady prog x' ∨ ∃ ts, Evt.await q ts ∈ o.evs
  woken : ∀ c q, oc = some c → mentionsC q c = true → (∀ a ts, c ≠ .queryAwait a ts) → q ∉ o.wk.selecting
  answered : ∀ a ts, oc = some (.queryAwait a ts) → ∃ rs, Evt.procResults a rs ∈ o.evs
  pair : ((∀ e ∈ o.evs, ∀ p, isSpawnEvt p e = false) ∧ ∀ p, p ∈ o.wk.spawning ↔ p ∈ w.spawning ∧ notifies oc p = false) ∨
    (oc = none ∧ ∃ cur fn regs coloc, o.evs = [.spawn cur fn regs coloc] ∧ cur ∉ w.spawning ∧
      ∀ p, p ∈ o.wk.spawning ↔ p ∈ w.spawning ∨ p = cur)

/-- a command that parks nobody anew -/
theorem WakeStep.cmd {prog : Prog} {w : WorkerSt} {c : Cmd} {o : Out} (hs : SelSub w o.wk)
    (hm : ∀ q, mentionsC q c = true → (∀ a ts, c ≠ .queryAwait a ts) → q ∉ o.wk.selecting)
    (he : ∀ e ∈ o.evs, (∀ a ts, e ≠ .await a ts) ∧ (∀ a rs, e = .procResults a rs → rs ≠ []) ∧ ∀ p, isSpawnEvt p e = false)
    (ha : ∀ a ts, c = .queryAwait a ts → ∃ rs, Evt.procResults a rs ∈ o.evs)
    (hsp : ∀ p, p ∈ o.wk.spawning ↔ p ∈ w.spawning ∧ notifies (some c) p = false) : WakeStep prog w (some c) o :=
  ⟨fun e h => ⟨fun a ts e' => absurd e' ((he e h).1 a ts), (he e h).2.1⟩,
    fun q x' hq hx => .inl ⟨(hs q hq).1, (hs q hq).2 ▸ hx⟩,
    fun _ q e => by cases e; exact hm q, fun a ts e => ha a ts (Option.some.inj e), .inl ⟨fun e h => (he e h).2.2, hsp⟩⟩

/-- … and emits nothing -/
theorem WakeStep.quiet {prog : Prog} {w : WorkerSt} {c : Cmd} {o : Out} (hev : o.evs = []) (hs : SelSub w o.wk)
    (hm : ∀ q, mentionsC q c = true → q ∉ o.wk.selecting) (hq : ∀ a ts, c ≠ .queryAwait a ts)
    (hsp : ∀ p, p ∈ o.wk.spawning ↔ p ∈ w.spawning ∧ notifies (some c) p = false) : WakeStep prog w (some c) o :=
  .cmd hs (fun q h _ => hm q h) (by rw [hev]; nofun) (fun a ts e => absurd e (hq a ts)) hsp

theorem spawning_same {w : WorkerSt} {oc : Option Cmd} {sp : List Pid} (e : sp = w.spawning) (hn : ∀ p, notifies oc p = false)
    (p : Pid) : p ∈ sp ↔ p ∈ w.spawning ∧ notifies oc p = false := by
  rw [e, hn p]; simp

/-- a step that consumes no command (time slice, completion check) -/
theorem WakeStep.noCmd {prog : Prog} {w : WorkerSt} {o : Out}
    (hne : ∀ e ∈ o.evs, (∀ a ts, e = .await a ts → ts ≠ []) ∧ (∀ a rs, e = .procResults a rs → rs ≠ []))
    (hsel : ∀ q x', q ∈ o.wk.selecting → o.wk.procs q = some x' →
      (q ∈ w.selecting ∧ w.procs q = some x') ∨ ¬ LocalReady prog x' ∨ ∃ ts, Evt.await q ts ∈ o.evs)
    (hp : ((∀ e ∈ o.evs, ∀ p, isSpawnEvt p e = false) ∧ o.wk.spawning = w.spawning) ∨
      ∃ cur fn regs coloc, o.evs = [.spawn cur fn regs coloc] ∧ cur ∉ w.spawning ∧ ∀ p, p ∈ o.wk.spawning ↔ p ∈ w.spawning ∨ p = cur) :
    WakeStep prog w none o :=
  ⟨hne, hsel, nofun, nofun, hp.imp (fun h => ⟨h.1, spawning_same h.2 fun _ => rfl⟩) fun h => ⟨rfl, h⟩⟩

/-- … that parks nobody anew and emits no link of an await chain -/
theorem WakeStep.still {prog : Prog} {w : WorkerSt} {o : Out} (hs : SelSub w o.wk) (hsp : o.wk.spawning = w.spawning)
    (he : ∀ e ∈ o.evs, (∀ a ts, e ≠ .await a ts) ∧ (∀ a rs, e ≠ .procResults a rs) ∧ ∀ p, isSpawnEvt p e = false) :
    WakeStep prog w none o :=
  .noCmd (fun e hm => ⟨fun a ts e' => absurd e' ((he e hm).1 a ts), fun a rs e' => absurd e' ((he e hm).2.1 a rs)⟩)
    (fun q _ hq hx => .inl ⟨(hs q hq).1, (hs q hq).2 ▸ hx⟩) (.inl ⟨fun e hm => (he e hm).2.2, hsp⟩)

/-- current rules: every answer wakes the awaiter's select -/
theorem CmdStep.wake {prog : Prog} {w : WorkerSt} {c : Cmd} {o : Out} (h : CmdStep Rules.current prog w c o)
    {r : Router} {n : Nat} {K : Pid → Prop} {i : Wid} (hc : CmdOK r n K i c) (hW : WSched w)
    (hnew : ∀ p, cmdCreate c = some p → w.procs p = none)
    (hpark : ∀ caller p, c = .notifySpawn caller p → caller ∈ w.spawning)
    (hne : ∀ a ts, c = .queryAwait a ts → ts ≠ []) : WakeStep prog w (some c) o := by
  have erased : ∀ {caller newPid}, c = .notifySpawn caller newPid →
      ∀ p, p ∈ serase w.spawning caller ↔ p ∈ w.spawning ∧ isNotify p c = false := fun e p => by
    rw [e, mem_serase]; simp only [isNotify, decide_eq_false_iff_not, ne_comm]
  have woken : ∀ {t : Pid} {w0 : WorkerSt}, (∀ q, mentionsC q c = true → q = t) →
      ∀ q, mentionsC q c = true → q ∉ (w0.wakeSelecting t).selecting :=
    fun ht q hm h2 => (mem_wakeSelecting.mp h2).2 (ht q hm)
  cases h with
  | misc => exact .quiet rfl (.refl _) nofun nofun (spawning_same rfl fun _ => rfl)
  | start p => exact hc.elim
  | resume p fn x v => exact hc.elim
  | spawn p fn regs =>
    refine .quiet rfl (fun q hq => ⟨hq, ?_⟩) nofun nofun (spawning_same rfl fun _ => rfl)
    obtain ⟨x, hx, _⟩ := hW.live q (Or.inr (Or.inr hq))
    exact upd_other _ _ _ _ fun e => by rw [e, hnew p rfl] at hx; cases hx
  | notifyNone caller newPid _ => exact .quiet rfl (fun q hq => ⟨hq, rfl⟩) nofun nofun (erased rfl)
  | notifySome caller newPid x _ =>
    -- the caller of a `NotifySpawn` is parked in `spawning`, hence not in `selecting`
    have hwas := hpark _ _ rfl
    refine .quiet rfl ?_ nofun nofun ?_ <;> dsimp only <;> rw [if_pos (decide_eq_true hwas)]
    · exact fun q hq => ⟨hq, upd_other _ _ _ _ fun e' => hW.dss caller hwas (e' ▸ hq)⟩
    · exact erased rfl
  | deliverNone t m _ =>
    exact .quiet rfl (.wakeSelecting _ _) (woken fun q hm => (of_decide_eq_true hm).symm) nofun
      (spawning_same (wakeSelecting_spawning _ _) fun _ => rfl)
  | deliverDead t m x _ _ _ =>
    exact .quiet rfl (.wakeSelecting _ _) (woken fun q hm => (of_decide_eq_true hm).symm) nofun
      (spawning_same (wakeSelecting_spawning _ _) fun _ => rfl)
  | deliver t m x _ _ =>
    refine .quiet rfl (fun q hq => ?_) (woken fun q hm => (of_decide_eq_true hm).symm) nofun
      (spawning_same (wakeSelecting_spawning _ _) fun _ => rfl)
    obtain ⟨h1, h2⟩ := mem_wakeSelecting.mp hq
    exact ⟨h1, by rw [wakeSelecting_procs]; exact upd_other _ _ _ _ h2⟩
  | queryAwait a ts =>
    have hq := queryTargets_spec' a ts w
    refine .cmd (fun q hq' => ⟨hq.selecting ▸ hq', congrFun hq.procs q⟩) (fun _ _ hnq => absurd rfl (hnq a ts))
      (fun e he => ?_) (fun _ _ e => by cases e; exact ⟨_, List.mem_singleton_self _⟩) (spawning_same hq.spawning fun _ => rfl)
    cases List.mem_singleton.mp he
    exact ⟨nofun, fun _ _ e => by cases e; exact queryTargets_ne_nil a w (hne a ts rfl), fun _ => rfl⟩
  | updateAwait a rs =>
    exact .quiet rfl (SelSub.applyResultsWake a rs w) (woken fun q hm => (of_decide_eq_true hm).symm) nofun
      (spawning_same ((wakeSelecting_spawning _ _).trans (applyResults_spawning a rs w)) fun _ => rfl)
  | getResult req p x r _ _ =>
    refine .cmd (.refl _) nofun (fun e he => ?_) nofun (spawning_same rfl fun _ => rfl)
    cases List.mem_singleton.mp he
    exact ⟨nofun, nofun, fun _ => rfl⟩
  | getLater req p x _ _ => exact .quiet rfl (fun q hq => ⟨hq, rfl⟩) nofun nofun (spawning_same rfl fun _ => rfl)

theorem ExecStep.wake {prog : Prog} {now fuel : Nat} {ordQ : List Pid} {w : WorkerSt} {o : Out}
    (h : ExecStep prog now fuel ordQ w o) (hW : WSched w) : WakeStep prog w none o := by
  have exit : ∀ cur x, ∀ e ∈ exitEvts cur x, (∀ a ts, e ≠ .await a ts) ∧ (∀ a rs, e ≠ .procResults a rs) ∧ ∀ p, isSpawnEvt p e = false :=
    fun cur x e he => by cases mem_exitEvts he; exact ⟨nofun, nofun, fun _ => rfl⟩
  cases h with
  | idle _ => exact .still (.refl _) rfl nofun
  | gone cur rest _ _ => exact .still (fun q hq => ⟨hq, rfl⟩) rfl nofun
  | errored cur rest x hq _ _ =>
    obtain ⟨_, _, _, hcse, _⟩ := hW.pop hq
    refine .still (fun q hqs => ?_) (finish_spawning _ _ _ _) (exit _ _)
    obtain ⟨h1, h2⟩ := finish_selsub _ ordQ hqs
    exact ⟨h1, h2 fun e => hcse (e ▸ h1)⟩
  | ran cur rest x x' out hq _ _ hs =>
    obtain ⟨_, _, hcs, hcse, _⟩ := hW.pop hq
    have hsl := (slice_view prog now cur fuel x).blocked
    rw [hs] at hsl
    -- selects of processes other than `cur` are untouched by the update of `cur`
    have hS2 : ∀ q, q ∈ w.selecting → q ∈ w.selecting ∧ upd w.procs cur (some x') q = w.procs q :=
      fun q hqs => ⟨hqs, upd_other _ _ _ _ fun e => hcse (e ▸ hqs)⟩
    have fin : SelSub w (WorkerSt.finish { w with queue := rest, procs := upd w.procs cur (some x') } cur x' ordQ) :=
      fun q hqs => by
      obtain ⟨h1, h2⟩ := finish_selsub _ ordQ hqs
      exact ⟨h1, (h2 fun e => hcse (e ▸ h1)).trans (hS2 q h1).2⟩
    cases out with
    | cont => exact .still hS2 rfl nofun
    | send t m => exact .still hS2 rfl fun e he => by cases List.mem_singleton.mp he; exact ⟨nofun, nofun, fun _ => rfl⟩
    | spawn fn regs =>
      exact .noCmd (fun e he => by cases List.mem_singleton.mp he; exact ⟨nofun, nofun⟩)
        (fun q x'' hqs hpx => Or.inl ⟨hqs, (hS2 q hqs).2 ▸ hpx⟩) (Or.inr ⟨cur, fn, regs, none, rfl, hcs, fun p => mem_sinsert⟩)
    | awaitInit ts =>
      refine .noCmd (fun e he => by cases List.mem_singleton.mp he; exact ⟨fun _ _ e' => by cases e'; exact hsl.2 ts rfl, nofun⟩)
        (fun q x'' hqs hpx => ?_) (Or.inl ⟨fun e he p => by cases List.mem_singleton.mp he; rfl, rfl⟩)
      rcases mem_sinsert.mp hqs with h1 | rfl
      · exact Or.inl ⟨h1, (hS2 q h1).2 ▸ hpx⟩
      · exact Or.inr (Or.inr ⟨ts, List.mem_singleton_self _⟩)
    | blocked =>
      refine .noCmd nofun (fun q x'' hqs hpx => ?_) (Or.inl ⟨nofun, rfl⟩)
      rcases mem_sinsert.mp hqs with h1 | rfl
      · exact Or.inl ⟨h1, (hS2 q h1).2 ▸ hpx⟩
      · cases (upd_same _ _ _).symm.trans hpx
        exact Or.inr (Or.inl (hsl.1 rfl))
    | failed => exact .still fin (finish_spawning _ _ _ _) (exit _ _)
    | done => exact .still fin (finish_spawning _ _ _ _) (exit _ _)

/-- `check_expired_timeouts` first: it only un-parks selects -/
theorem WakeStep.expired {prog : Prog} {now : Nat} {ordQ : List Pid} {w : WorkerSt} {o : Out}
    (h : WakeStep prog (w.checkExpired prog now ordQ) none o) : WakeStep prog w none o :=
  ⟨h.nonempty, fun q x' hq hx => (h.sel q x' hq hx).imp_left fun h1 => ⟨(List.mem_filter.mp h1.1).1, h1.2⟩,
    h.woken, h.answered, h.pair⟩

theorem WakeStep.check (prog : Prog) (w : WorkerSt) (ordE : List Pid) : WakeStep prog w none (checkOut w ordE) := by
  have hc := ChkOut.check w ordE
  refine .noCmd (fun e hm => ?_) (fun q x' hq hx => .inl ⟨hc.selecting ▸ hq, hc.procs ▸ hx⟩) (.inl ⟨fun e hm p => ?_, hc.spawning⟩)
  · rcases hc.evs e hm with ⟨a, t, r, rfl, _⟩ | ⟨req, r, rfl⟩
    · exact ⟨nofun, fun _ _ heq => by cases heq; simp⟩
    · exact ⟨nofun, nofun⟩
  · rcases hc.evs e hm with ⟨a, t, r, rfl, _⟩ | ⟨req, r, rfl⟩ <;> rfl

theorem WCore.commit {s : Sys} (h : WCore s) (hr : RInv s) (hsch : ∀ w, WSched (s.wk w)) {i : Wid} {oc : Option Cmd} {o : Out}
    (hq : ∀ c, oc = some c → ∃ rest, s.cmdQ i = c :: rest) (hw : WakeStep s.prog (s.wk i) oc o) :
    WCore ((s.pop i oc).commit i o) := by
  obtain ⟨e1, e2, e3, e4⟩ := pop_frame s i oc
  have hemono : ∀ w e, e ∈ s.evtQ w → e ∈ ((s.pop i oc).commit i o).evtQ w := fun w e he =>
    mem_evtQ_commit i o (by rw [e1]; exact he)
  have henew : ∀ w e, e ∈ ((s.pop i oc).commit i o).evtQ w → e ∈ s.evtQ w ∨ e ∈ o.evs := fun w e he =>
    (mem_commit_evtQ he).imp (fun h1 => by rw [e1] at h1; exact h1) (·.2)
  have hnew : ∀ e, e ∈ o.evs → e ∈ ((s.pop i oc).commit i o).evtQ i := fun e he => by
    rw [commit_evtQ_self]; exact List.mem_append_right _ he
  have hwkS : ((s.pop i oc).commit i o).wk i = o.wk := commit_wk_self _ _ _
  have hwkO : ∀ w, w ≠ i → ((s.pop i oc).commit i o).wk w = s.wk w := fun w hw' => by rw [commit_wk_other _ _ hw', e2]
  have hcq : ((s.pop i oc).commit i o).cmdQ = (s.pop i oc).cmdQ := rfl
  have hprog : ((s.pop i oc).commit i o).prog = s.prog := e3
  have henv : ((s.pop i oc).commit i o).env = s.env := e4
  generalize (s.pop i oc).commit i o = s' at *
  -- whatever was going to re-queue a process still parked is still in flight: a consumed command has woken (or answered) it
  have hwakeKeep : ∀ w q, q ∈ (s'.wk w).selecting → WakePending s q → WakePending s' q := by
    intro w q hqs hp
    rcases hp with ⟨w2, c0, h2, h3⟩ | ⟨w2, e0, h2, h3⟩
    · rcases mem_cmdQ_pop hq h2 with ⟨rfl, rfl⟩ | h4
      · -- the consumed command mentions q
        by_cases hqa : ∃ a ts, c0 = .queryAwait a ts
        · obtain ⟨a, ts, rfl⟩ := hqa
          simp only [mentionsC, decide_eq_true_eq] at h3
          subst h3
          obtain ⟨rs, hrs⟩ := hw.answered a ts rfl
          exact Or.inr ⟨w2, _, hnew _ hrs, by simp [mentionsE]⟩
        · have hnq : ∀ a ts, c0 ≠ .queryAwait a ts := fun a ts heq => hqa ⟨a, ts, heq⟩
          -- q lives on worker w2 (routing), so it has been woken
          have hrq : s.env.router q = some w2 := by
            have hcok := hr.cmds w2 c0 h2
            cases c0 with
            | deliver t m => simp only [mentionsC, decide_eq_true_eq] at h3; subst h3; exact hcok
            | updateAwait a rs => simp only [mentionsC, decide_eq_true_eq] at h3; subst h3; exact hcok
            | queryAwait a ts => exact absurd rfl (hnq a ts)
            | _ => simp [mentionsC] at h3
          have hww : w = w2 := by
            by_cases hw' : w = w2
            · exact hw'
            · rw [hwkO w hw'] at hqs
              obtain ⟨x, hx, _⟩ := (hsch w).live q (Or.inr (Or.inr hqs))
              have := hr.placed w q (by unfold known; rw [hx]; rfl)
              rw [hrq] at this; cases this; rfl
          subst hww
          rw [hwkS] at hqs
          exact absurd hqs (hw.woken c0 q rfl h3 hnq)
      · exact Or.inl ⟨w2, c0, hcq ▸ h4, h3⟩
    · exact Or.inr ⟨w2, e0, hemono w2 e0 h2, h3⟩
  refine { neA := ?_, neQ := ?_, neR := ?_, pend := ?_, wake := ?_ }
  · intro w a ts hm
    rcases henew w _ hm with h1 | h1
    · exact h.neA w a ts h1
    · exact (hw.nonempty _ h1).1 a ts rfl
  · intro w a ts hm; exact h.neQ w a ts (mem_pop_cmdQ (hcq ▸ hm))
  · intro w a rs hm
    rcases henew w _ hm with h1 | h1
    · exact h.neR w a rs h1
    · exact (hw.nonempty _ h1).2 a rs rfl
  · intro p pa hp w hw'
    rw [henv] at hp
    rcases h.pend p pa hp w hw' with ⟨ts, h1⟩ | ⟨rs, h1⟩
    · rcases mem_cmdQ_pop hq h1 with ⟨rfl, h2⟩ | h2
      · obtain ⟨rs, hrs⟩ := hw.answered p ts h2
        exact Or.inr ⟨rs, hnew _ hrs⟩
      · exact Or.inl ⟨ts, hcq ▸ h2⟩
    · exact Or.inr ⟨rs, hemono w _ h1⟩
  · intro w q x hqs hx
    rw [hprog]
    by_cases hwi : w = i
    · subst hwi
      have hqs' := hqs
      rw [hwkS] at hqs' hx
      rcases hw.sel q x hqs' hx with ⟨h1, h2⟩ | h1 | ⟨ts, h1⟩
      · exact (h.wake w q x h1 h2).imp_right (hwakeKeep w q hqs)
      · exact Or.inl h1
      · exact Or.inr (Or.inr ⟨w, _, hnew _ h1, by simp [mentionsE]⟩)
    · have hqs' := hqs
      rw [hwkO w hwi] at hqs' hx
      exact (h.wake w q x hqs' hx).imp_right (hwakeKeep w q hqs)

/-- spawn pairing after a worker step: the counts change by the events emitted and the command consumed -/
theorem SPair.commit {s : Sys} (h : SPair s) {i : Wid} {oc : Option Cmd} {o : Out}
    (hq : ∀ c, oc = some c → ∃ rest, s.cmdQ i = c :: rest) {prog : Prog} (hw : WakeStep prog (s.wk i) oc o) :
    SPair ((s.pop i oc).commit i o) := by
  obtain ⟨e1, e2, _, _⟩ := pop_frame s i oc
  have hcq : ((s.pop i oc).commit i o).cmdQ = (s.pop i oc).cmdQ := rfl
  intro w p
  rw [hcq]
  by_cases hwi : w = i
  · subst hwi
    rw [commit_wk_self, commit_evtQ_self, e1, List.countP_append]
    have hold := h w p
    have hpop : (s.cmdQ w).countP (isNotify p) = ((s.pop w oc).cmdQ w).countP (isNotify p) + (if notifies oc p then 1 else 0) := by
      cases oc with
      | none => rfl
      | some c =>
        obtain ⟨rest, hq⟩ := hq c rfl
        show _ = (upd s.cmdQ w (s.cmdQ w).tail w).countP _ + _
        rw [upd_same, hq, List.tail_cons, List.countP_cons, notifies]
    rcases hw.pair with ⟨hns, hsp⟩ | ⟨rfl, cur, fn, regs, coloc, hev, hnc, hsp⟩
    · have hz : o.evs.countP (isSpawnEvt p) = 0 := List.countP_eq_zero.mpr fun e he => by rw [hns e he p]; simp
      by_cases hin : p ∈ (s.wk w).spawning <;> cases hn : notifies oc p <;>
        simp only [hin, hn, hsp p, hz, if_true, if_false, and_true, and_false, Bool.false_eq_true, reduceCtorEq] at hold hpop ⊢ <;> omega
    · rw [hev]
      simp only [notifies, Bool.false_eq_true, if_false, Nat.add_zero] at hpop
      by_cases hpc : p = cur
      · subst hpc
        simp only [hnc, (hsp p).mpr (.inr rfl), if_true, if_false, List.countP_cons, List.countP_nil, isSpawnEvt, decide_true] at hold ⊢
        omega
      · have hz : [Evt.spawn cur fn regs coloc].countP (isSpawnEvt p) = 0 := by simp [isSpawnEvt, Ne.symm hpc]
        simp only [hz, (hsp p).trans (or_iff_left hpc)]
        omega
  · rw [commit_wk_other _ _ hwi, commit_evtQ_other _ _ hwi, e1, e2, pop_cmdQ_other s oc hwi]
    exact h w p

theorem WInv.of_started {s : Sys} (h : Started s) : WInv s := by
  have hsel : ∀ w, (s.wk w).selecting = [] ∧ (s.wk w).spawning = [] := by
    intro w; rw [h.wk_at]
    split <;> simp [W0started, W0init, WorkerSt.setProc, WorkerSt.empty]
  refine ⟨SInv.of_started h, ?_, ?_⟩
  · refine { neA := ?_, neQ := ?_, neR := ?_, pend := ?_, wake := ?_ }
    · intro w a ts hm; rw [h.evtQ w] at hm; simp at hm
    · intro w a ts hm
      rcases h.cmds w _ hm with h1 | ⟨_, _, h1⟩ <;> cases h1
    · intro w a rs hm; rw [h.evtQ w] at hm; simp at hm
    · intro p pa hp; rw [h.pending] at hp; cases hp
    · intro w p x hp; rw [(hsel w).1] at hp; simp at hp
  · intro w c
    rw [h.evtQ w, (hsel w).2]
    simp only [List.countP_nil, Nat.zero_add, List.not_mem_nil, if_false]
    rw [List.countP_eq_zero]
    intro c' hc'
    rcases h.cmds w c' hc' with rfl | ⟨_, _, rfl⟩ <;> simp [isNotify]

/-- **One micro step keeps the wake-up invariant** — under the current rules only: it needs that every answer wakes the
awaiter's select (`CmdStep.wake`). -/
theorem WInv.step {s s' : Sys} (h : WInv s) (hs : Step Rules.current s s') : WInv s' := by
  suffices hh : WCore s' ∧ SPair s' from ⟨h.si.step Rules.current_sane hs, hh.1, hh.2⟩
  have hr := h.si.r
  -- the three steps of a worker
  have work : ∀ {i : Wid} {oc : Option Cmd} {o : Out}, (∀ c, oc = some c → ∃ rest, s.cmdQ i = c :: rest) →
      WakeStep s.prog (s.wk i) oc o → WCore ((s.pop i oc).commit i o) ∧ SPair ((s.pop i oc).commit i o) :=
    fun hq hw => ⟨h.core.commit hr h.si.sched hq hw, h.pair.commit hq hw⟩
  cases hs with
  | env hq => exact ⟨h.core.env hr _ hq, h.pair.env hr _ hq⟩
  | fault hq hf => exact absurd hf (hr.popCmd hq).2.not_fault
  | @cmd i c rest o hq ho =>
    have hmem : c ∈ s.cmdQ i := hq ▸ List.mem_cons_self
    have hfr := (h.si.fresh i).2
    rw [hq] at hfr
    exact Sys.pop_some hq ▸ work (fun _ e => ⟨_, Option.some.inj e ▸ hq⟩) (ho.wake (hr.cmds i c hmem) (h.si.sched i)
      (fun p hp => Option.not_isSome_iff_eq_none.mp (hfr p (mem_creates_cons.mpr (Or.inl hp.symm))))
      (fun caller p e => spair_notify_parked h.pair (p := p) (e ▸ hmem)) fun a ts e => h.core.neQ i a ts (e ▸ hmem))
  | exec ho => exact work (oc := none) nofun (ho.wake ((h.si.sched _).checkExpired _ _ _)).expired
  | check i ordE => exact work (oc := none) nofun (.check s.prog (s.wk i) ordE)
  | tick ms => exact ⟨h.core.congr rfl rfl rfl rfl rfl, h.pair.congr rfl rfl rfl⟩

theorem WInv.micro {s : Sys} (h : WInv s) (m : Micro) : WInv (microStep Rules.current s m) :=
  Step.micro (fun _ _ h hs => h.step hs) h m

end QM.Sys
