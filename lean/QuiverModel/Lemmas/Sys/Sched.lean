import QuiverModel.Lemmas.Sys.Delivery
/-
Scheduling-set invariant of the executor model (`WSched`): `queue`, `spawning`, `selecting` are
duplicate-free and pairwise disjoint ("re-queue only if parked"), and every process in one of them
exists and is unfinished. `SInv` adds, for the whole system: the pids about to be created are distinct
and new to their worker, and whoever is parked in `spawning` has its SpawnAction or the answer to it in
flight. `SInv.step`: every `Step` keeps it.
-/
namespace QM.Sys
set_option linter.unusedSectionVars false
variable [Cfg]

structure WSched (w : WorkerSt) : Prop where
  qnd : w.queue.Nodup
  spnd : w.spawning.Nodup
  send : w.selecting.Nodup
  dqs : ∀ p ∈ w.queue, p ∉ w.spawning ∧ p ∉ w.selecting
  dss : ∀ p ∈ w.spawning, p ∉ w.selecting
  live : ∀ p, p ∈ w.queue ∨ p ∈ w.spawning ∨ p ∈ w.selecting → ∃ x, w.procs p = some x ∧ x.result = none

def WorkerSt.scheduled (w : WorkerSt) (p : Pid) : Prop := p ∈ w.queue ∨ p ∈ w.spawning ∨ p ∈ w.selecting

theorem nodup_snoc {l : List Nat} {x : Nat} (h : l.Nodup) (hx : x ∉ l) : (l ++ [x]).Nodup := by
  rw [List.nodup_append]
  refine ⟨h, by simp, ?_⟩
  intro a ha b hb
  simp at hb; subst hb
  intro e; subst e; exact hx ha

theorem WSched.congr {w w' : WorkerSt} (h : WSched w) (hq : w'.queue = w.queue) (hsp : w'.spawning = w.spawning)
    (hse : w'.selecting = w.selecting)
    (hl : ∀ p x, w.scheduled p → w.procs p = some x → x.result = none → ∃ x', w'.procs p = some x' ∧ x'.result = none) :
    WSched w' := by
  refine { qnd := hq ▸ h.qnd, spnd := hsp ▸ h.spnd, send := hse ▸ h.send, dqs := ?_, dss := ?_, live := ?_ }
  · rw [hq, hsp, hse]; exact h.dqs
  · rw [hsp, hse]; exact h.dss
  · intro p hp
    rw [hq, hsp, hse] at hp
    obtain ⟨x, hx, hr⟩ := h.live p hp
    exact hl p x hp hx hr

theorem WSched.updProc {w : WorkerSt} (h : WSched w) {p : Pid} {x x' : Proc} (hx : w.procs p = some x)
    (hr : x'.result = x.result) : WSched { w with procs := upd w.procs p (some x') } := by
  refine h.congr rfl rfl rfl ?_
  intro q y _ hy hr'
  simp only [upd_apply]
  split
  · rename_i e; subst e; rw [hx] at hy; cases hy; exact ⟨x', rfl, hr.trans hr'⟩
  · exact ⟨y, hy, hr'⟩

/-- **every helper keeps the scheduling-set invariant**: who is woken was parked in `selecting`, hence in neither of the
other sets, and no record gains or loses its result -/
theorem WSched.helper {w w' : WorkerSt} (hW : WSched w) (h : Helper w w') : WSched w' := by
  obtain ⟨L, hq, hs, hL, hnd⟩ := h.woke
  have hsel : ∀ p, p ∈ w'.selecting ↔ p ∈ w.selecting ∧ p ∉ L := fun p => by rw [hs]; simp
  refine { qnd := ?_, spnd := h.spawning ▸ hW.spnd, send := hs ▸ hW.send.filter _, dqs := fun p hp => ?_, dss := fun p hp => ?_,
           live := fun p hp => ?_ }
  · rw [hq]
    exact List.nodup_append.mpr ⟨hW.qnd, hnd, fun a ha b hb e => (hW.dqs a ha).2 (e ▸ hL b hb)⟩
  · rw [hq] at hp
    rw [h.spawning, hsel]
    rcases List.mem_append.mp hp with hp | hp
    · exact ⟨(hW.dqs p hp).1, fun h2 => (hW.dqs p hp).2 h2.1⟩
    · exact ⟨fun h2 => hW.dss p h2 (hL p hp), fun h2 => h2.2 hp⟩
  · rw [h.spawning] at hp
    exact fun h2 => hW.dss p hp ((hsel p).mp h2).1
  · have : w.scheduled p := by
      rw [hq, h.spawning, hsel] at hp
      rcases hp with hp | hp | hp
      · exact (List.mem_append.mp hp).imp id fun h2 => .inr (hL p h2)
      · exact .inr (.inl hp)
      · exact .inr (.inr hp.1)
    obtain ⟨x, hx, hr⟩ := hW.live p this
    rcases h.procs p with ⟨e, _⟩ | ⟨y, y', e1, e2, u⟩
    · rw [e] at hx; cases hx
    · rw [e1] at hx; cases hx; exact ⟨y', e2, u.result.trans hr⟩

theorem WSched.wakeSelecting {w : WorkerSt} (h : WSched w) (p : Pid) : WSched (w.wakeSelecting p) := h.helper (.wakeSelecting w p)

/-- `mark_active` also un-parks from `spawning`, so it is no `Helper` step and is shown by hand -/
theorem WSched.markActive {w : WorkerSt} (h : WSched w) (p : Pid) : WSched (w.markActive p) := by
  unfold WorkerSt.markActive
  split
  · rename_i hp
    have hnq : p ∉ w.queue := by
      intro hq; rcases hp with hp | hp
      · exact (h.dqs p hq).1 hp
      · exact (h.dqs p hq).2 hp
    refine { qnd := nodup_snoc h.qnd hnq, spnd := nodup_serase h.spnd, send := nodup_serase h.send,
             dqs := ?_, dss := ?_, live := ?_ }
    · intro q hq
      simp only [List.mem_append, List.mem_singleton] at hq
      simp only [mem_serase]
      rcases hq with hq | rfl
      · exact ⟨fun h2 => (h.dqs q hq).1 h2.1, fun h2 => (h.dqs q hq).2 h2.1⟩
      · exact ⟨fun h2 => h2.2 rfl, fun h2 => h2.2 rfl⟩
    · intro q hq; simp only [mem_serase] at hq ⊢; exact fun h2 => h.dss q hq.1 h2.1
    · intro q hq
      simp only [List.mem_append, List.mem_singleton, mem_serase] at hq
      apply h.live
      rcases hq with (hq | rfl) | hq | hq
      · exact Or.inl hq
      · rcases hp with hp | hp
        · exact Or.inr (Or.inl hp)
        · exact Or.inr (Or.inr hp)
      · exact Or.inr (Or.inl hq.1)
      · exact Or.inr (Or.inr hq.1)
  · exact h

theorem WSched.checkExpired {w : WorkerSt} (h : WSched w) (prog : Prog) (now : Nat) (ordQ : List Pid) :
    WSched (w.checkExpired prog now ordQ) := h.helper (.checkExpired h.send prog now ordQ)

theorem WSched.eraseSpawning {w : WorkerSt} (h : WSched w) (c : Pid) :
    WSched { w with spawning := serase w.spawning c } := by
  refine { qnd := h.qnd, spnd := nodup_serase h.spnd, send := h.send, dqs := ?_, dss := ?_, live := ?_ }
  · intro p hp; simp only [mem_serase]; exact ⟨fun h2 => (h.dqs p hp).1 h2.1, (h.dqs p hp).2⟩
  · intro p hp; simp only [mem_serase] at hp; exact h.dss p hp.1
  · intro p hp
    simp only [mem_serase] at hp
    apply h.live
    rcases hp with hp | hp | hp
    · exact Or.inl hp
    · exact Or.inr (Or.inl hp.1)
    · exact Or.inr (Or.inr hp)

theorem WSched.pop {w : WorkerSt} (h : WSched w) {cur : Pid} {rest : List Pid} (hq : w.queue = cur :: rest) :
    WSched { w with queue := rest } ∧ cur ∉ rest ∧ cur ∉ w.spawning ∧ cur ∉ w.selecting ∧
      ∃ x, w.procs cur = some x ∧ x.result = none := by
  have hnd := h.qnd
  rw [hq] at hnd
  have hc : cur ∈ w.queue := by rw [hq]; simp
  refine ⟨{ qnd := (List.nodup_cons.mp hnd).2, spnd := h.spnd, send := h.send, dqs := ?_, dss := h.dss, live := ?_ },
          (List.nodup_cons.mp hnd).1, (h.dqs cur hc).1, (h.dqs cur hc).2, h.live cur (Or.inl hc)⟩
  · intro p hp; exact h.dqs p (by rw [hq]; exact List.mem_cons_of_mem _ hp)
  · intro p hp
    apply h.live
    rcases hp with hp | hp | hp
    · exact Or.inl (by rw [hq]; exact List.mem_cons_of_mem _ hp)
    · exact Or.inr (Or.inl hp)
    · exact Or.inr (Or.inr hp)

theorem WSched.setUnscheduled {w : WorkerSt} (h : WSched w) {cur : Pid} (hc : ¬ w.scheduled cur) (x' : Proc) :
    WSched { w with procs := upd w.procs cur (some x') } := by
  refine h.congr rfl rfl rfl ?_
  intro p x hp hx hr
  simp only [upd_apply]
  split
  · rename_i e; subst e; exact absurd hp hc
  · exact ⟨x, hx, hr⟩

theorem WSched.enqueue {w : WorkerSt} (h : WSched w) {cur : Pid} (hc : ¬ w.scheduled cur) {x : Proc}
    (hx : w.procs cur = some x) (hr : x.result = none) : WSched { w with queue := w.queue ++ [cur] } := by
  have h1 : cur ∉ w.queue := fun h2 => hc (Or.inl h2)
  have h2 : cur ∉ w.spawning := fun h2 => hc (Or.inr (Or.inl h2))
  have h3 : cur ∉ w.selecting := fun h2 => hc (Or.inr (Or.inr h2))
  refine { qnd := nodup_snoc h.qnd h1, spnd := h.spnd, send := h.send, dqs := ?_, dss := h.dss, live := ?_ }
  · intro p hp
    simp only [List.mem_append, List.mem_singleton] at hp
    rcases hp with hp | rfl
    · exact h.dqs p hp
    · exact ⟨h2, h3⟩
  · intro p hp
    simp only [List.mem_append, List.mem_singleton] at hp
    rcases hp with (hp | rfl) | hp | hp
    · exact h.live p (Or.inl hp)
    · exact ⟨x, hx, hr⟩
    · exact h.live p (Or.inr (Or.inl hp))
    · exact h.live p (Or.inr (Or.inr hp))

theorem WSched.parkSpawning {w : WorkerSt} (h : WSched w) {cur : Pid} (hc : ¬ w.scheduled cur) {x : Proc}
    (hx : w.procs cur = some x) (hr : x.result = none) : WSched { w with spawning := sinsert w.spawning cur } := by
  have h1 : cur ∉ w.queue := fun h2 => hc (Or.inl h2)
  have h3 : cur ∉ w.selecting := fun h2 => hc (Or.inr (Or.inr h2))
  refine { qnd := h.qnd, spnd := nodup_sinsert h.spnd, send := h.send, dqs := ?_, dss := ?_, live := ?_ }
  · intro p hp
    simp only [mem_sinsert]
    exact ⟨fun h2 => h2.elim (h.dqs p hp).1 (fun e => h1 (e ▸ hp)), (h.dqs p hp).2⟩
  · intro p hp
    simp only [mem_sinsert] at hp
    rcases hp with hp | rfl
    · exact h.dss p hp
    · exact h3
  · intro p hp
    simp only [mem_sinsert] at hp
    rcases hp with hp | (hp | rfl) | hp
    · exact h.live p (Or.inl hp)
    · exact h.live p (Or.inr (Or.inl hp))
    · exact ⟨x, hx, hr⟩
    · exact h.live p (Or.inr (Or.inr hp))

theorem WSched.parkSelecting {w : WorkerSt} (h : WSched w) {cur : Pid} (hc : ¬ w.scheduled cur) {x : Proc}
    (hx : w.procs cur = some x) (hr : x.result = none) : WSched { w with selecting := sinsert w.selecting cur } := by
  have h1 : cur ∉ w.queue := fun h2 => hc (Or.inl h2)
  have h2 : cur ∉ w.spawning := fun h2 => hc (Or.inr (Or.inl h2))
  refine { qnd := h.qnd, spnd := h.spnd, send := nodup_sinsert h.send, dqs := ?_, dss := ?_, live := ?_ }
  · intro p hp
    simp only [mem_sinsert]
    exact ⟨(h.dqs p hp).1, fun h3 => h3.elim (h.dqs p hp).2 (fun e => h1 (e ▸ hp))⟩
  · intro p hp
    simp only [mem_sinsert]
    exact fun h3 => h3.elim (h.dss p hp) (fun e => h2 (e ▸ hp))
  · intro p hp
    simp only [mem_sinsert] at hp
    rcases hp with hp | hp | hp | rfl
    · exact h.live p (Or.inl hp)
    · exact h.live p (Or.inr (Or.inl hp))
    · exact h.live p (Or.inr (Or.inr hp))
    · exact ⟨x, hx, hr⟩

theorem WSched.release {w : WorkerSt} (h : WSched w) (cur : Pid) : WSched (w.release cur) := h.helper (.release w cur)

theorem WSched.finish {w : WorkerSt} (h : WSched w) {cur : Pid} (hc : ¬ w.scheduled cur) (x : Proc) (ordQ : List Pid) :
    WSched (w.finish cur x ordQ) := (h.setUnscheduled hc _).helper (.finish w cur x ordQ)

/-- `fresh`: the pids about to be created at a worker are distinct and new to it; `spawner`: whoever is parked in
`spawning` has its SpawnAction or the reply to it in flight -/
structure SInv (s : Sys) : Prop where
  r : RInv s
  fresh : ∀ w, (creates (s.cmdQ w)).Nodup ∧ ∀ p ∈ creates (s.cmdQ w), ¬ known s w p
  sched : ∀ w, WSched (s.wk w)
  spawner : ∀ w c, c ∈ (s.wk w).spawning →
    (∃ fn regs coloc, Evt.spawn c fn regs coloc ∈ s.evtQ w) ∨ (∃ p, Cmd.notifySpawn c p ∈ s.cmdQ w)

/-- rules whose `emptyWake` behaves like a wake-up: keeps processes, keeps the scheduling-set
invariant, never parks anything in `spawning` -/
structure Rules.Sane (R : Rules) : Prop where
  tame : R.Tame
  sched : ∀ w p, WSched w → WSched (R.emptyWake w p)
  spawning : ∀ w p c, c ∈ (R.emptyWake w p).spawning → c ∈ w.spawning

theorem Rules.current_sane : Rules.current.Sane :=
  ⟨Rules.current_tame, fun _ p h => h.wakeSelecting p, fun w p _ hc => wakeSelecting_spawning w p ▸ hc⟩

theorem Rules.markActiveOnEmpty_sane : Rules.markActiveOnEmpty.Sane :=
  ⟨Rules.markActiveOnEmpty_tame, fun _ p h => h.markActive p, fun w p c hc => by
    have hc' : c ∈ (w.markActive p).spawning := hc
    unfold WorkerSt.markActive at hc'
    split at hc'
    · exact (mem_serase.mp hc').1
    · exact hc'⟩

theorem SInv.spawn_fresh {s : Sys} (hs : SInv s) {w : Wid} {q : Pid} {f : Nat} {regs : List Pid}
    (hm : Cmd.spawn q f regs ∈ s.cmdQ w) (w0 : Wid) : (s.wk w0).procs q = none := by
  cases hp : (s.wk w0).procs q with
  | none => rfl
  | some y =>
    have hk : known s w0 q := by simp [known, hp]
    have hr : s.env.router q = some w := (hs.r.cmds w _ hm).1
    rw [hs.r.placed w0 q hk] at hr; cases hr
    exact absurd hk ((hs.fresh _).2 q (mem_creates_iff.mpr ⟨f, regs, hm⟩))

theorem SInv.pushCmdOther {s : Sys} (h : SInv s) (w : Wid) (c : Cmd)
    (hc : CmdOK s.env.router s.prog.length (known s w) w c) (h2 : cmdCreate c = none) : SInv (s.pushCmd w c) where
  r := h.r.pushCmd w c hc
  fresh w' := by rw [pushCmd_cmdQ, hom_push_silent creates_append (creates_silent h2)]; exact h.fresh w'
  sched := h.sched
  spawner w' c' hc' := (h.spawner w' c' hc').imp_right fun ⟨p, h3⟩ => ⟨p, mem_upd_append_left h3⟩

theorem SInv.envOther {s : Sys} (h : SInv s) (pending : Pid → Option PendingAwait) (results : List (Nat × Res)) :
    SInv { s with env := { s.env with pending := pending, results := results } } :=
  { r := { h.r with }, fresh := h.fresh, sched := h.sched, spawner := h.spawner }

theorem SInv.popEvtOther {s : Sys} (h : SInv s) {w : Wid} {e : Evt} {rest : List Evt} (hq : s.evtQ w = e :: rest)
    (he : ∀ c fn regs coloc, e ≠ Evt.spawn c fn regs coloc) : SInv { s with evtQ := upd s.evtQ w rest } where
  r := (h.r.popEvt hq).1
  fresh := h.fresh
  sched := h.sched
  spawner w' c hc := (h.spawner w' c hc).imp_left fun ⟨fn, regs, coloc, h3⟩ =>
    ⟨fn, regs, coloc, (mem_upd_tail_or hq h3).resolve_left fun h4 => he c fn regs coloc h4.2.symm⟩

theorem SInv.handleAwait {s : Sys} (h : SInv s) {w0 : Wid} {a : Pid} {ts : List Pid}
    (he : EvtOK s.env.router s.prog.length w0 (.await a ts)) : SInv (handleAwait s a ts) :=
  handleAwait_invariant he.2 (fun _ => h.envOther _ _) fun _ w _ hr hts h' =>
    h'.pushCmdOther w _ ⟨hr ▸ Option.isSome_iff_exists.mpr ⟨w0, he.1⟩, fun t ht => hr ▸ hts t ht⟩ rfl

theorem SInv.handleProcResults {s : Sys} (h : SInv s) (combine) {w0 : Wid} {a : Pid} {rs : Results}
    (he : EvtOK s.env.router s.prog.length w0 (.procResults a rs)) : SInv (handleProcResultsWith combine s a rs) := by
  obtain ⟨aw, ha⟩ := Option.isSome_iff_exists.mp he.1
  exact handleProcResults_invariant combine rs ha h (fun _ => h.envOther _ _) fun _ _ hr h' =>
    h'.pushCmdOther aw _ (hr ▸ ha) rfl

theorem SInv.handleDeliver {s : Sys} (h : SInv s) {w0 : Wid} {t : Pid} {m : Msg}
    (he : EvtOK s.env.router s.prog.length w0 (.deliver t m)) : SInv (handleDeliver s t m) := by
  obtain ⟨w, hr⟩ := Option.isSome_iff_exists.mp he.2
  rw [handleDeliver_eq hr]
  exact h.pushCmdOther w _ hr rfl

/-- the next pid is neither a process nor about to be created anywhere -/
theorem SInv.alloc {s : Sys} (h : SInv s) {w : Wid} {fn : Nat} {regs : List Pid} (r' : RInv (s.alloc w fn regs)) :
    SInv (s.alloc w fn regs) where
  r := r'
  fresh w' := by
    have hnk : ¬ known s w' s.env.nextPid := fun hk => Nat.lt_irrefl _ (h.r.below _ _ (h.r.placed w' _ hk))
    have hnc : s.env.nextPid ∉ creates (s.cmdQ w') := fun hm => by
      obtain ⟨fn', regs', hc⟩ := mem_creates_iff.mp hm
      exact Nat.lt_irrefl _ (h.r.below _ _ (h.r.cmds w' _ hc).1)
    dsimp only [Sys.alloc, Sys.pushCmd]
    rw [hom_push creates_append]
    split
    · exact ⟨nodup_snoc (h.fresh w').1 hnc, fun p hp =>
        (List.mem_append.mp hp).elim ((h.fresh w').2 p) fun e => List.mem_singleton.mp e ▸ hnk⟩
    · rw [List.append_nil]; exact h.fresh w'
  sched := h.sched
  spawner w' c hc := (h.spawner w' c hc).imp_right fun ⟨p, h3⟩ => ⟨p, mem_upd_append_left h3⟩

/-- popping a SpawnAction and answering it, atomically -/
theorem SInv.replyPop {s : Sys} (h : SInv s) {w0 : Wid} {caller : Pid} {fn : Nat} {regs : List Pid} {coloc : Option Pid}
    {rest : List Evt} (hq : s.evtQ w0 = .spawn caller fn regs coloc :: rest) (newPid : Pid)
    (r' : RInv (({ s with evtQ := upd s.evtQ w0 rest } : Sys).reply w0 caller newPid)) :
    SInv (({ s with evtQ := upd s.evtQ w0 rest } : Sys).reply w0 caller newPid) where
  r := r'
  fresh w' := by
    dsimp only [Sys.reply, Sys.pushCmd]
    rw [hom_push_silent creates_append rfl]; exact h.fresh w'
  sched := h.sched
  spawner w' c hc := by
    rcases h.spawner w' c hc with ⟨fn', regs', coloc', h3⟩ | ⟨p, h3⟩
    · rcases mem_upd_tail_or hq h3 with ⟨rfl, h4⟩ | h4
      · cases h4; exact Or.inr ⟨newPid, mem_upd_append_self _ _ _⟩
      · exact Or.inl ⟨fn', regs', coloc', h4⟩
    · exact Or.inr ⟨p, mem_upd_append_left h3⟩

theorem SInv.handleSpawnPop {s : Sys} (h : SInv s) {w0 : Wid} {caller : Pid} {fn : Nat} {regs : List Pid} {coloc : Option Pid}
    {rest : List Evt} (hq : s.evtQ w0 = .spawn caller fn regs coloc :: rest) :
    SInv (handleSpawn { s with evtQ := upd s.evtQ w0 rest } caller fn regs coloc) := by
  obtain ⟨r1, he⟩ := h.r.popEvt hq
  have r' := r1.handleSpawn he
  rw [handleSpawn_alloc (s := { s with evtQ := upd s.evtQ w0 rest }) he.1 (Nat.ne_of_lt (h.r.below caller w0 he.1))] at r' ⊢
  exact (h.alloc (h.r.alloc (placement_lt h.r coloc _) he.2.1 he.2.2)).replyPop hq _ r'

theorem SInv.env {s : Sys} (h : SInv s) (combine) {w : Wid} {e : Evt} {rest : List Evt} (hq : s.evtQ w = e :: rest) :
    SInv (handleEventWith combine { s with evtQ := upd s.evtQ w rest } e) := by
  have he := (h.r.popEvt hq).2
  cases e with
  | spawn c fn regs coloc => exact h.handleSpawnPop hq
  | deliver t m => exact (h.popEvtOther hq (by intros; simp)).handleDeliver he
  | await a ts => exact (h.popEvtOther hq (by intros; simp)).handleAwait he
  | procResults a rs => exact (h.popEvtOther hq (by intros; simp)).handleProcResults combine he
  | resultResp req r => exact (h.popEvtOther hq (by intros; simp)).envOther _ _
  | exited p => exact h.popEvtOther hq (by intros; simp)

theorem CmdStep.sched {R : Rules} (hR : R.Sane) {prog : Prog} {w : WorkerSt} {c : Cmd} {o : Out} (h : CmdStep R prog w c o)
    {r : Router} {n : Nat} {K : Pid → Prop} {i : Wid} (hc : CmdOK r n K i c)
    (hW : WSched w) (hnew : ∀ p, cmdCreate c = some p → w.procs p = none) :
    WSched o.wk ∧ ∀ c', c' ∈ o.wk.spawning → c' ∈ w.spawning ∧ ∀ p, c ≠ .notifySpawn c' p := by
  have keep : ∀ c', c' ∈ w.spawning → (∀ a b, c ≠ .notifySpawn a b) → c' ∈ w.spawning ∧ ∀ p, c ≠ .notifySpawn c' p :=
    fun _ hc' hne => ⟨hc', fun p => hne _ p⟩
  have erased : ∀ {caller newPid} c', c = .notifySpawn caller newPid → c' ∈ serase w.spawning caller →
      c' ∈ w.spawning ∧ ∀ p, c ≠ .notifySpawn c' p := fun c' e hc' =>
    ⟨(mem_serase.mp hc').1, fun p e' => by rw [e] at e'; cases e'; exact (mem_serase.mp hc').2 rfl⟩
  cases h with
  | misc => exact ⟨hW, fun c' hc' => keep c' hc' nofun⟩
  | start p => exact hc.elim
  | resume p fn x v => exact hc.elim
  | spawn p fn regs =>
    have hns : ¬ w.scheduled p := fun hs => by
      obtain ⟨x, hx, _⟩ := hW.live p hs
      rw [hnew p rfl] at hx; cases hx
    exact ⟨((hW.setUnscheduled hns _).enqueue (cur := p) hns (x := Proc.fresh fn (p :: regs)) (upd_same _ _ _) rfl).congr
      rfl rfl rfl fun q y _ hy hr => ⟨y, hy, hr⟩, fun c' hc' => keep c' hc' nofun⟩
  | notifyNone caller newPid hx => exact ⟨hW.eraseSpawning _, fun c' => erased c' rfl⟩
  | notifySome caller newPid x hx =>
    have hU := (hW.eraseSpawning caller).updProc (x' := { x with regs := x.regs ++ [newPid], pc := x.pc + 1, spawnIssued := false })
      (w := { w with spawning := serase w.spawning caller }) hx rfl
    dsimp only
    split
    · rename_i hwas
      have hwas : caller ∈ w.spawning := of_decide_eq_true hwas
      obtain ⟨x0, hx0, hr0⟩ := hW.live caller (Or.inr (Or.inl hwas))
      rw [hx] at hx0; cases hx0
      refine ⟨hU.enqueue ?_ (upd_same _ _ _) hr0, fun c' => erased c' rfl⟩
      rintro (h2 | h2 | h2)
      · exact (hW.dqs caller h2).1 hwas
      · exact (mem_serase.mp h2).2 rfl
      · exact hW.dss caller hwas h2
    · exact ⟨hU, fun c' => erased c' rfl⟩
  | deliverNone t m hx => exact ⟨hW.wakeSelecting _, fun c' hc' => keep c' (wakeSelecting_spawning w _ ▸ hc') nofun⟩
  | deliverDead t m x hx => exact ⟨hW.wakeSelecting _, fun c' hc' => keep c' (wakeSelecting_spawning w _ ▸ hc') nofun⟩
  | deliver t m x hx =>
    exact ⟨(hW.updProc hx (x' := { x with mailbox := x.mailbox ++ [m] }) rfl).wakeSelecting t,
      fun c' hc' => keep c' (by rwa [wakeSelecting_spawning] at hc') nofun⟩
  | queryAwait a ts =>
    have hq := queryTargets_spec' a ts w
    exact ⟨hW.congr hq.queue hq.spawning hq.selecting fun p y _ hy hr => ⟨y, by rw [hq.procs]; exact hy, hr⟩,
      fun c' hc' => keep c' (hq.spawning ▸ hc') nofun⟩
  | updateAwait a rs =>
    dsimp only
    split
    · exact ⟨hW.helper (.applyResults a rs w), fun c' hc' => keep c' (applyResults_spawning a rs w ▸ hc') nofun⟩
    · exact ⟨hR.sched _ a (hW.helper (.applyResults a rs w)),
        fun c' hc' => keep c' (applyResults_spawning a rs w ▸ hR.spawning _ a c' hc') nofun⟩
  | getResult req p x r => exact ⟨hW, fun c' hc' => keep c' hc' nofun⟩
  | getLater req p x => exact ⟨hW.congr rfl rfl rfl fun q y _ hy hr => ⟨y, hy, hr⟩, fun c' hc' => keep c' hc' nofun⟩

theorem ExecStep.sched {prog : Prog} {now fuel : Nat} {ordQ : List Pid} {w : WorkerSt} {o : Out}
    (h : ExecStep prog now fuel ordQ w o) (hW : WSched w) :
    WSched o.wk ∧ ∀ c', c' ∈ o.wk.spawning → c' ∈ w.spawning ∨ ∃ fn regs coloc, Evt.spawn c' fn regs coloc ∈ o.evs := by
  cases h with
  | idle _ => exact ⟨hW, fun _ hc' => Or.inl hc'⟩
  | gone cur rest hq _ => exact ⟨(hW.pop hq).1, fun _ hc' => Or.inl hc'⟩
  | errored cur rest x hq _ _ =>
    obtain ⟨hW1, hcr, hcs, hcse, _⟩ := hW.pop hq
    exact ⟨hW1.finish (fun hs => hs.elim hcr fun hs => hs.elim hcs hcse) _ _, fun _ hc' => Or.inl (by rwa [finish_spawning] at hc')⟩
  | ran cur rest x x' out hq hx _ hs =>
    obtain ⟨hW1, hcr, hcs, hcse, x0, hx0, hr0⟩ := hW.pop hq
    have hns : ¬ ({ w with queue := rest, procs := upd w.procs cur (some x') } : WorkerSt).scheduled cur :=
      fun hs => hs.elim hcr fun hs => hs.elim hcs hcse
    have hW2 := hW1.setUnscheduled (cur := cur) hns x'
    have hx2 : ({ w with queue := rest, procs := upd w.procs cur (some x') } : WorkerSt).procs cur = some x' := upd_same _ _ _
    -- unless the slice failed the process is still unfinished
    have hres : out ≠ .failed → x'.result = none := fun hne => by
      have := (slice_view prog now cur fuel x).keeps.2
      rw [hs] at this
      cases hx.symm.trans hx0
      exact (this.resolve_left hne).trans hr0
    cases out with
    | cont => exact ⟨hW2.enqueue hns hx2 (hres nofun), fun _ hc' => Or.inl hc'⟩
    | send t m => exact ⟨hW2.enqueue hns hx2 (hres nofun), fun _ hc' => Or.inl hc'⟩
    | spawn fn regs =>
      exact ⟨hW2.parkSpawning hns hx2 (hres nofun), fun c' hc' =>
        (mem_sinsert.mp hc').imp_right fun (e : c' = cur) => ⟨fn, regs, none, e ▸ List.mem_singleton_self _⟩⟩
    | awaitInit ts => exact ⟨hW2.parkSelecting hns hx2 (hres nofun), fun _ hc' => Or.inl hc'⟩
    | blocked => exact ⟨hW2.parkSelecting hns hx2 (hres nofun), fun _ hc' => Or.inl hc'⟩
    | failed => exact ⟨hW2.finish hns _ _, fun _ hc' => Or.inl (by dsimp only [sliceOut] at hc'; rwa [finish_spawning] at hc')⟩
    | done => exact ⟨hW2.finish hns _ _, fun _ hc' => Or.inl (by dsimp only [sliceOut] at hc'; rwa [finish_spawning] at hc')⟩

/-- Worker `i` has consumed the commands `pre` (none, or the head of its queue; `cq` are the queues
afterwards) and commits `o`: no process appears but those `pre` creates, and whoever is parked in
`spawning` was parked before with its answer not among `pre`, or has just asked. -/
theorem SInv.commit {s : Sys} (h : SInv s) {i : Wid} {pre : List Cmd} {cq : Wid → List Cmd} {o : Out}
    (hq : s.cmdQ i = pre ++ cq i) (hoth : ∀ w, w ≠ i → cq w = s.cmdQ w)
    (r' : RInv (Sys.commit { s with cmdQ := cq } i o)) (hW : WSched o.wk)
    (hdom : ∀ p, (o.wk.procs p).isSome → ((s.wk i).procs p).isSome ∨ p ∈ creates pre)
    (hsp : ∀ c', c' ∈ o.wk.spawning → (c' ∈ (s.wk i).spawning ∧ ∀ p, Cmd.notifySpawn c' p ∉ pre) ∨
      ∃ fn regs coloc, Evt.spawn c' fn regs coloc ∈ o.evs) :
    SInv (Sys.commit { s with cmdQ := cq } i o) := by
  have hcq : (Sys.commit { s with cmdQ := cq } i o).cmdQ = cq := rfl
  refine { r := r', fresh := fun w => ?_, sched := fun w => ?_, spawner := fun w c' hc' => ?_ }
  all_goals by_cases e : w = i
  · subst e
    have hfr := h.fresh w
    rw [hq, creates_append, List.nodup_append] at hfr
    refine ⟨hfr.1.2.1, fun p hp hk => ?_⟩
    unfold known at hk
    rw [commit_wk_self] at hk
    rcases hdom p hk with hk | hk
    · exact hfr.2 p (List.mem_append_right _ hp) hk
    · exact hfr.1.2.2 p hk p hp rfl
  · unfold known
    rw [hcq, commit_wk_other _ _ e, hoth w e]
    exact h.fresh w
  · subst e; rw [commit_wk_self]; exact hW
  · rw [commit_wk_other _ _ e]; exact h.sched w
  · subst e
    rw [commit_wk_self] at hc'
    rw [commit_evtQ_self]
    rcases hsp c' hc' with ⟨h1, h2⟩ | ⟨fn, regs, coloc, h3⟩
    · refine (h.spawner w c' h1).imp (fun ⟨fn, regs, coloc, h3⟩ => ⟨fn, regs, coloc, List.mem_append_left _ h3⟩)
        fun ⟨p, h3⟩ => ⟨p, ?_⟩
      rw [hq] at h3
      exact (List.mem_append.mp h3).resolve_left (h2 p)
    · exact Or.inl ⟨fn, regs, coloc, List.mem_append_right _ h3⟩
  · rw [commit_wk_other _ _ e] at hc'
    rw [commit_evtQ_other _ _ e, hcq, hoth w e]
    exact h.spawner w c' hc'

theorem SInv.step {R : Rules} (hR : R.Sane) {s s' : Sys} (h : SInv s) (hs : Step R s s') : SInv s' := by
  have r' := h.r.step hR.tame hs
  cases hs with
  | env hq => exact h.env R.combine hq
  | fault hq hf => exact absurd hf (h.r.popCmd hq).2.not_fault
  | @cmd i c rest o hq ho =>
    have hc := (h.r.popCmd hq).2
    obtain ⟨hW, hsp⟩ := ho.sched hR hc (h.sched i) fun p hp =>
      Option.not_isSome_iff_eq_none.mp ((h.fresh i).2 p (hq ▸ mem_creates_cons.mpr (Or.inl hp.symm)))
    exact h.commit (pre := [c]) (by rw [upd_same]; exact hq) (fun w hw => upd_other _ _ _ _ hw) r' hW
      (fun p hp => (((ho.delta hR.tame hc).dom p).mp hp).imp_right fun e => mem_creates_cons.mpr (Or.inl e.symm))
      fun c' hc' => Or.inl ⟨(hsp c' hc').1, fun p hm => (hsp c' hc').2 p (List.mem_singleton.mp hm).symm⟩
  | @exec i fuel ordQ o ho =>
    obtain ⟨hW, hsp⟩ := ho.sched ((h.sched i).checkExpired s.prog s.now ordQ)
    exact h.commit (pre := []) rfl (fun _ _ => rfl) r' hW
      (fun p hp => Or.inl (ho.case.sameProcs.dom p ▸ hp))
      fun c' hc' => (hsp c' hc').imp_left fun h1 => ⟨h1, nofun⟩
  | check i ordE =>
    have hc := ChkOut.check (s.wk i) ordE
    exact h.commit (pre := []) rfl (fun _ _ => rfl) r'
      ((h.sched i).congr hc.queue hc.spawning hc.selecting fun p x _ hx hr => ⟨x, hc.procs ▸ hx, hr⟩)
      (fun p hp => Or.inl (hc.procs ▸ hp)) fun c' hc' => Or.inl ⟨hc.spawning ▸ hc', nofun⟩
  | tick ms => exact { r := r', fresh := h.fresh, sched := h.sched, spawner := h.spawner }

/-- what the completion check leaves alone, as a relation between the two states -/
structure CheckRel (s s' : Sys) (i : Wid) : Prop where
  cmdQ : s'.cmdQ = s.cmdQ
  evtQ : ∀ w e, e ∈ s.evtQ w → e ∈ s'.evtQ w
  wkOther : ∀ w, w ≠ i → s'.wk w = s.wk w
  queue : (s'.wk i).queue = (s.wk i).queue
  spawning : (s'.wk i).spawning = (s.wk i).spawning
  selecting : (s'.wk i).selecting = (s.wk i).selecting
  procs : (s'.wk i).procs = (s.wk i).procs

theorem SInv.of_started {s : Sys} (h : Started s) : SInv s := by
  refine { r := RInv.of_started h, fresh := ?_, sched := ?_, spawner := ?_ }
  · intro w
    rw [(Inert.facts (K := fun _ => True) (h.inert w)).2.2.2]
    exact ⟨List.nodup_nil, fun _ hp => by simp at hp⟩
  · intro w
    rw [h.wk_at]
    split
    · refine { qnd := by simp [W0started], spnd := by simp [W0started, W0init, WorkerSt.setProc, WorkerSt.empty],
               send := by simp [W0started, W0init, WorkerSt.setProc, WorkerSt.empty], dqs := ?_, dss := ?_, live := ?_ }
      · intro p _; simp [W0started, W0init, WorkerSt.setProc, WorkerSt.empty]
      · intro p hp; simp [W0started, W0init, WorkerSt.setProc, WorkerSt.empty] at hp
      · intro p hp
        have : p = 0 := by simpa [W0started, W0init, WorkerSt.setProc, WorkerSt.empty] using hp
        subst this
        rw [W0started_procs]; simp
    · refine { qnd := by simp [WorkerSt.empty], spnd := by simp [WorkerSt.empty], send := by simp [WorkerSt.empty],
               dqs := ?_, dss := ?_, live := ?_ }
      · intro p hp; simp [WorkerSt.empty] at hp
      · intro p hp; simp [WorkerSt.empty] at hp
      · intro p hp; simp [WorkerSt.empty] at hp
  · intro w c hc
    rw [h.wk_at] at hc
    split at hc <;> simp [W0started, W0init, WorkerSt.setProc, WorkerSt.empty] at hc

theorem SInv.micro {R : Rules} (hR : R.Sane) {s : Sys} (h : SInv s) (m : Micro) : SInv (microStep R s m) :=
  Step.micro (fun _ _ h hs => h.step hR hs) h m

end QM.Sys
