import QuiverModel.Core.Sys.Basic
import QuiverModel.Lemmas.Util.List
/-
Projection ("frame") lemmas for the primitive state updates of M-Sys; families of queues (`Nat → List α` under `upd`)
seen through list homomorphisms; small list/map facts.
-/
namespace QM.Sys
set_option linter.unusedSectionVars false
variable [Cfg]

theorem upd_apply {α : Type} (f : Nat → α) (i j : Nat) (v : α) : upd f i v j = if j = i then v else f j := rfl

@[simp] theorem upd_self {α : Type} (f : Nat → α) (i : Nat) : upd f i (f i) = f := by
  funext j; simp [upd_apply]; intro h; rw [h]

@[simp] theorem upd_upd {α : Type} (f : Nat → α) (i : Nat) (a b : α) : upd (upd f i a) i b = upd f i b := by
  funext j; simp only [upd_apply]; split <;> rfl

theorem upd_snoc_apply {α : Type} (q : Nat → List α) (w w' : Nat) (l : List α) :
    upd q w (q w ++ l) w' = q w' ++ if w' = w then l else [] := by
  unfold upd; split
  · rename_i e; rw [e]
  · exact (List.append_nil _).symm

theorem hom_push {α β : Type} {F : List α → List β} (hF : ∀ l l', F (l ++ l') = F l ++ F l') (q : Nat → List α)
    (w w' : Nat) (l : List α) : F (upd q w (q w ++ l) w') = F (q w') ++ if w' = w then F l else [] := by
  unfold upd; split
  · rename_i e; rw [e, hF]
  · exact (List.append_nil _).symm

theorem hom_push_silent {α β : Type} {F : List α → List β} (hF : ∀ l l', F (l ++ l') = F l ++ F l') {l : List α}
    (hl : F l = []) (q : Nat → List α) (w w' : Nat) : F (upd q w (q w ++ l) w') = F (q w') := by
  rw [hom_push hF, hl, ite_self, List.append_nil]

theorem hom_pop {α β : Type} {F : List α → List β} (hF : ∀ l l', F (l ++ l') = F l ++ F l') {q : Nat → List α}
    {w : Nat} {e : α} {rest : List α} (hq : q w = e :: rest) (w' : Nat) :
    F (q w') = (if w' = w then F [e] else []) ++ F (upd q w rest w') := by
  unfold upd; split
  · rename_i h; rw [h, hq, ← hF]; rfl
  · rfl

theorem hom_pop_silent {α β : Type} {F : List α → List β} (hF : ∀ l l', F (l ++ l') = F l ++ F l') {q : Nat → List α}
    {w : Nat} {e : α} {rest : List α} (hq : q w = e :: rest) (he : F [e] = []) (w' : Nat) :
    F (upd q w rest w') = F (q w') := by
  rw [hom_pop hF hq w', he, ite_self, List.nil_append]

theorem ite_nil_eq {α : Type} {c : Prop} [Decidable c] {l : List α} (h : l ≠ [] → c) : (if c then l else []) = l := by
  split
  · rfl
  · rename_i hc; exact (Classical.not_not.mp (mt h hc)).symm

theorem mem_upd_append_left {α : Type} {q : Nat → List α} {i w : Nat} {l : List α} {e : α} (h : e ∈ q w) :
    e ∈ upd q i (q i ++ l) w := by
  rw [upd_snoc_apply]; exact List.mem_append_left _ h

theorem mem_upd_append_self {α : Type} (q : Nat → List α) (w : Nat) (c : α) : c ∈ upd q w (q w ++ [c]) w := by
  rw [upd_same]; exact List.mem_append_right _ (List.mem_singleton_self c)

theorem upd_some {α : Type} {f : Nat → Option α} {q p : Nat} {y x : α} (h : upd f q (some y) p = some x) :
    (p = q ∧ y = x) ∨ (p ≠ q ∧ f p = some x) := by
  by_cases e : p = q
  · subst e; exact .inl ⟨rfl, by simpa using h⟩
  · exact .inr ⟨e, by simpa [e] using h⟩

theorem mem_upd_append {α : Type} {q : Nat → List α} {w w' : Nat} {c c' : α}
    (h : c' ∈ upd q w (q w ++ [c]) w') : c' ∈ q w' ∨ (w' = w ∧ c' = c) := by
  rw [upd_snoc_apply, List.mem_append] at h
  refine h.imp_right fun h => ?_
  split at h
  · rename_i e; exact ⟨e, List.mem_singleton.mp h⟩
  · cases h

theorem mem_upd_tail {α : Type} {q : Nat → List α} {w w' : Nat} {c c' : α} {rest : List α}
    (hq : q w = c :: rest) (h : c' ∈ upd q w rest w') : c' ∈ q w' := by
  unfold upd at h; split at h
  · rename_i e; rw [e, hq]; exact List.mem_cons_of_mem _ h
  · exact h

theorem mem_upd_tail_or {α : Type} {q : Nat → List α} {w w' : Nat} {c c' : α} {rest : List α}
    (hq : q w = c :: rest) (h : c' ∈ q w') : (w' = w ∧ c' = c) ∨ c' ∈ upd q w rest w' := by
  unfold upd; split
  · rename_i e; rw [e, hq] at h; exact (List.mem_cons.mp h).imp_left (⟨e, ·⟩)
  · exact Or.inr h

/-! ### Sys primitives -/

theorem noteExit_eq (s : Sys) (i : Wid) (cur : Pid) (x : Proc) :
    s.noteExit i cur x = s ∨ s.noteExit i cur x = s.pushEvt i (.exited cur) := by
  unfold Sys.noteExit; split
  · exact Or.inr rfl
  · exact Or.inl rfl

@[simp] theorem noteExit_wk (s : Sys) (i : Wid) (cur : Pid) (x : Proc) : (s.noteExit i cur x).wk = s.wk := by
  unfold Sys.noteExit; split <;> rfl
@[simp] theorem noteExit_cmdQ (s : Sys) (i : Wid) (cur : Pid) (x : Proc) : (s.noteExit i cur x).cmdQ = s.cmdQ := by
  unfold Sys.noteExit; split <;> rfl
@[simp] theorem noteExit_env (s : Sys) (i : Wid) (cur : Pid) (x : Proc) : (s.noteExit i cur x).env = s.env := by
  unfold Sys.noteExit; split <;> rfl
@[simp] theorem noteExit_prog (s : Sys) (i : Wid) (cur : Pid) (x : Proc) : (s.noteExit i cur x).prog = s.prog := by
  unfold Sys.noteExit; split <;> rfl
@[simp] theorem noteExit_n (s : Sys) (i : Wid) (cur : Pid) (x : Proc) : (s.noteExit i cur x).n = s.n := by
  unfold Sys.noteExit; split <;> rfl
@[simp] theorem noteExit_now (s : Sys) (i : Wid) (cur : Pid) (x : Proc) : (s.noteExit i cur x).now = s.now := by
  unfold Sys.noteExit; split <;> rfl
@[simp] theorem noteExit_fault (s : Sys) (i : Wid) (cur : Pid) (x : Proc) : (s.noteExit i cur x).fault = s.fault := by
  unfold Sys.noteExit; split <;> rfl
@[simp] theorem noteExit_sent (s : Sys) (i : Wid) (cur : Pid) (x : Proc) : (s.noteExit i cur x).sent = s.sent := by
  unfold Sys.noteExit; split <;> rfl
@[simp] theorem noteExit_appended (s : Sys) (i : Wid) (cur : Pid) (x : Proc) : (s.noteExit i cur x).appended = s.appended := by
  unfold Sys.noteExit; split <;> rfl
@[simp] theorem noteExit_dropped (s : Sys) (i : Wid) (cur : Pid) (x : Proc) : (s.noteExit i cur x).dropped = s.dropped := by
  unfold Sys.noteExit; split <;> rfl
@[simp] theorem noteExit_deadDropped (s : Sys) (i : Wid) (cur : Pid) (x : Proc) : (s.noteExit i cur x).deadDropped = s.deadDropped := by
  unfold Sys.noteExit; split <;> rfl
@[simp] theorem noteExit_spawned (s : Sys) (i : Wid) (cur : Pid) (x : Proc) : (s.noteExit i cur x).spawned = s.spawned := by
  unfold Sys.noteExit; split <;> rfl
@[simp] theorem noteExit_spawnNotified (s : Sys) (i : Wid) (cur : Pid) (x : Proc) :
    (s.noteExit i cur x).spawnNotified = s.spawnNotified := by
  unfold Sys.noteExit; split <;> rfl
@[simp] theorem noteExit_reported (s : Sys) (i : Wid) (cur : Pid) (x : Proc) : (s.noteExit i cur x).reported = s.reported := by
  unfold Sys.noteExit; split <;> rfl
@[simp] theorem noteExit_learned (s : Sys) (i : Wid) (cur : Pid) (x : Proc) : (s.noteExit i cur x).learned = s.learned := by
  unfold Sys.noteExit; split <;> rfl

/-- the event queues after `noteExit`: unchanged, or the ProcessExited of `cur` appended to worker `i`'s -/
theorem noteExit_evtQ (s : Sys) (i : Wid) (cur : Pid) (x : Proc) :
    (s.noteExit i cur x).evtQ = s.evtQ ∨ (s.noteExit i cur x).evtQ = upd s.evtQ i (s.evtQ i ++ [.exited cur]) := by
  unfold Sys.noteExit; split
  · exact Or.inr rfl
  · exact Or.inl rfl


@[simp] theorem pushCmd_env (s : Sys) (w c) : (s.pushCmd w c).env = s.env := rfl
@[simp] theorem pushCmd_wk (s : Sys) (w c) : (s.pushCmd w c).wk = s.wk := rfl
@[simp] theorem pushCmd_evtQ (s : Sys) (w c) : (s.pushCmd w c).evtQ = s.evtQ := rfl
@[simp] theorem pushCmd_cmdQ (s : Sys) (w c) : (s.pushCmd w c).cmdQ = upd s.cmdQ w (s.cmdQ w ++ [c]) := rfl
theorem mem_pushCmd_self (s : Sys) (w : Wid) (c : Cmd) : c ∈ (s.pushCmd w c).cmdQ w := mem_upd_append_self _ _ _
@[simp] theorem pushCmd_prog (s : Sys) (w c) : (s.pushCmd w c).prog = s.prog := rfl
@[simp] theorem pushCmd_n (s : Sys) (w c) : (s.pushCmd w c).n = s.n := rfl
@[simp] theorem pushCmd_now (s : Sys) (w c) : (s.pushCmd w c).now = s.now := rfl
@[simp] theorem pushCmd_fault (s : Sys) (w c) : (s.pushCmd w c).fault = s.fault := rfl
@[simp] theorem pushCmd_sent (s : Sys) (w c) : (s.pushCmd w c).sent = s.sent := rfl
@[simp] theorem pushCmd_appended (s : Sys) (w c) : (s.pushCmd w c).appended = s.appended := rfl
@[simp] theorem pushCmd_dropped (s : Sys) (w c) : (s.pushCmd w c).dropped = s.dropped := rfl
@[simp] theorem pushCmd_deadDropped (s : Sys) (w c) : (s.pushCmd w c).deadDropped = s.deadDropped := rfl
@[simp] theorem pushCmd_spawned (s : Sys) (w c) : (s.pushCmd w c).spawned = s.spawned := rfl
@[simp] theorem pushCmd_spawnNotified (s : Sys) (w c) : (s.pushCmd w c).spawnNotified = s.spawnNotified := rfl
@[simp] theorem pushCmd_reported (s : Sys) (w c) : (s.pushCmd w c).reported = s.reported := rfl
@[simp] theorem pushCmd_learned (s : Sys) (w c) : (s.pushCmd w c).learned = s.learned := rfl

@[simp] theorem pushEvt_env (s : Sys) (w e) : (s.pushEvt w e).env = s.env := rfl
@[simp] theorem pushEvt_wk (s : Sys) (w e) : (s.pushEvt w e).wk = s.wk := rfl
@[simp] theorem pushEvt_cmdQ (s : Sys) (w e) : (s.pushEvt w e).cmdQ = s.cmdQ := rfl
@[simp] theorem pushEvt_evtQ (s : Sys) (w e) : (s.pushEvt w e).evtQ = upd s.evtQ w (s.evtQ w ++ [e]) := rfl
@[simp] theorem pushEvt_prog (s : Sys) (w e) : (s.pushEvt w e).prog = s.prog := rfl
@[simp] theorem pushEvt_n (s : Sys) (w e) : (s.pushEvt w e).n = s.n := rfl
@[simp] theorem pushEvt_now (s : Sys) (w e) : (s.pushEvt w e).now = s.now := rfl
@[simp] theorem pushEvt_fault (s : Sys) (w e) : (s.pushEvt w e).fault = s.fault := rfl
@[simp] theorem pushEvt_sent (s : Sys) (w e) : (s.pushEvt w e).sent = s.sent := rfl
@[simp] theorem pushEvt_appended (s : Sys) (w e) : (s.pushEvt w e).appended = s.appended := rfl
@[simp] theorem pushEvt_dropped (s : Sys) (w e) : (s.pushEvt w e).dropped = s.dropped := rfl
@[simp] theorem pushEvt_deadDropped (s : Sys) (w e) : (s.pushEvt w e).deadDropped = s.deadDropped := rfl
@[simp] theorem pushEvt_spawned (s : Sys) (w e) : (s.pushEvt w e).spawned = s.spawned := rfl
@[simp] theorem pushEvt_spawnNotified (s : Sys) (w e) : (s.pushEvt w e).spawnNotified = s.spawnNotified := rfl
@[simp] theorem pushEvt_reported (s : Sys) (w e) : (s.pushEvt w e).reported = s.reported := rfl
@[simp] theorem pushEvt_learned (s : Sys) (w e) : (s.pushEvt w e).learned = s.learned := rfl

@[simp] theorem setWk_env (s : Sys) (w x) : (s.setWk w x).env = s.env := rfl
@[simp] theorem setWk_wk (s : Sys) (w x) : (s.setWk w x).wk = upd s.wk w x := rfl
@[simp] theorem setWk_cmdQ (s : Sys) (w x) : (s.setWk w x).cmdQ = s.cmdQ := rfl
@[simp] theorem setWk_evtQ (s : Sys) (w x) : (s.setWk w x).evtQ = s.evtQ := rfl
@[simp] theorem setWk_prog (s : Sys) (w x) : (s.setWk w x).prog = s.prog := rfl
@[simp] theorem setWk_n (s : Sys) (w x) : (s.setWk w x).n = s.n := rfl
@[simp] theorem setWk_now (s : Sys) (w x) : (s.setWk w x).now = s.now := rfl
@[simp] theorem setWk_fault (s : Sys) (w x) : (s.setWk w x).fault = s.fault := rfl
@[simp] theorem setWk_sent (s : Sys) (w x) : (s.setWk w x).sent = s.sent := rfl
@[simp] theorem setWk_appended (s : Sys) (w x) : (s.setWk w x).appended = s.appended := rfl
@[simp] theorem setWk_dropped (s : Sys) (w x) : (s.setWk w x).dropped = s.dropped := rfl
@[simp] theorem setWk_deadDropped (s : Sys) (w x) : (s.setWk w x).deadDropped = s.deadDropped := rfl
@[simp] theorem setWk_spawned (s : Sys) (w x) : (s.setWk w x).spawned = s.spawned := rfl
@[simp] theorem setWk_spawnNotified (s : Sys) (w x) : (s.setWk w x).spawnNotified = s.spawnNotified := rfl
@[simp] theorem setWk_reported (s : Sys) (w x) : (s.setWk w x).reported = s.reported := rfl
@[simp] theorem setWk_learned (s : Sys) (w x) : (s.setWk w x).learned = s.learned := rfl

@[simp] theorem setWk_self (s : Sys) (w : Wid) : s.setWk w (s.wk w) = s := by
  cases s; simp [Sys.setWk]

def Sys.emit (s : Sys) (i : Wid) (evs : List Evt) : Sys := { s with evtQ := upd s.evtQ i (s.evtQ i ++ evs) }

theorem Sys.emit_nil (s : Sys) (i : Wid) : s.emit i [] = s := by
  cases s; simp [Sys.emit]

/-! ### sets as lists -/

theorem mem_sinsert {l : List Nat} {x y : Nat} : y ∈ sinsert l x ↔ y ∈ l ∨ y = x := by
  unfold sinsert; split <;> simp_all

theorem mem_serase {l : List Nat} {x y : Nat} : y ∈ serase l x ↔ y ∈ l ∧ y ≠ x := by
  simp [serase]

theorem nodup_sinsert {l : List Nat} {x : Nat} (h : l.Nodup) : (sinsert l x).Nodup := by
  unfold sinsert; split
  · exact h
  · rename_i hx
    exact List.nodup_append.mpr ⟨h, by simp, by intro a ha b hb; simp at hb; subst hb; intro e; subst e; exact hx ha⟩

theorem nodup_serase {l : List Nat} {x : Nat} (h : l.Nodup) : (serase l x).Nodup := by
  unfold serase; exact h.filter _

theorem mem_orderBy {ord s : List Nat} {y : Nat} : y ∈ orderBy ord s ↔ y ∈ s := by
  induction ord generalizing s with
  | nil => simp [orderBy]
  | cons o ord ih =>
    unfold orderBy; split
    · rename_i ho
      simp only [List.mem_cons, ih, mem_serase]
      constructor
      · rintro (h | h)
        · subst h; exact ho
        · exact h.1
      · intro h
        by_cases e : y = o
        · exact Or.inl e
        · exact Or.inr ⟨h, e⟩
    · exact ih

theorem nodup_orderBy {ord s : List Nat} (h : s.Nodup) : (orderBy ord s).Nodup := by
  induction ord generalizing s with
  | nil => simpa [orderBy]
  | cons o ord ih =>
    unfold orderBy; split
    · refine List.nodup_cons.mpr ⟨?_, ih (nodup_serase h)⟩
      simp [mem_orderBy, mem_serase]
    · exact ih h

@[simp] theorem orderBy_nil (ord : List Nat) : orderBy ord [] = [] := by
  induction ord with
  | nil => rfl
  | cons o ord ih => simp [orderBy, ih]

/-! ### assoc lists -/

theorem alookup_ainsert {β : Type} (l : List (Nat × β)) (k x : Nat) (v : β) :
    alookup (ainsert l k v) x = if k = x then some v else alookup l x := by
  induction l with
  | nil => simp [ainsert, alookup]
  | cons kv rest ih =>
    obtain ⟨k', w⟩ := kv
    unfold ainsert
    by_cases h : k' = k
    · subst h; simp [alookup]; split <;> simp_all
    · simp [h, alookup, ih]
      by_cases h2 : k' = x
      · subst h2; simp [Ne.symm h]
      · simp [h2]

theorem keys_ainsert {β : Type} (l : List (Nat × β)) (k : Nat) (v : β) (x : Nat) :
    x ∈ (ainsert l k v).map (·.1) ↔ x ∈ l.map (·.1) ∨ x = k := by
  induction l with
  | nil => exact ⟨fun h => Or.inr (List.mem_singleton.mp h), fun h => List.mem_singleton.mpr (h.resolve_left List.not_mem_nil)⟩
  | cons kv rest ih =>
    unfold ainsert
    split
    · rename_i h
      exact ⟨Or.inl, fun h' => h'.elim id (fun e => List.mem_cons.mpr (Or.inl (e.trans h.symm)))⟩
    · simp only [List.map_cons, List.mem_cons, ih, or_assoc]

theorem alookup_eq_lookup {β : Type} : ∀ (l : List (Nat × β)) (k : Nat), alookup l k = l.lookup k
  | [], _ => rfl
  | (a, b) :: t, k => by
    rw [alookup, alookup_eq_lookup t k, List.lookup_cons]
    by_cases h : a = k
    · simp [h]
    · simp [h, beq_false_of_ne (Ne.symm h)]

theorem alookup_mem {β : Type} {l : List (Nat × β)} {k : Nat} {v : β} (h : alookup l k = some v) : (k, v) ∈ l :=
  mem_of_lookup (alookup_eq_lookup l k ▸ h)

theorem alookup_isSome_iff {β : Type} {l : List (Nat × β)} {k : Nat} : (alookup l k).isSome = true ↔ k ∈ l.map (·.1) := by
  rw [alookup_eq_lookup, List.lookup_isSome_iff]
  simp only [List.mem_map, beq_iff_eq]
  exact ⟨fun ⟨p, hp, e⟩ => ⟨p, hp, e.symm⟩, fun ⟨p, hp, e⟩ => ⟨p, hp, e.symm⟩⟩

theorem ainsert_nodup {β : Type} : ∀ (l : List (Nat × β)) (k : Nat) (v : β), (l.map (·.1)).Nodup →
    ((ainsert l k v).map (·.1)).Nodup
  | [], _, _, _ => by simp [ainsert]
  | (k0, w) :: rest, k, v, h => by
    unfold ainsert
    split
    · exact h
    · rename_i hk
      rw [List.map_cons, List.nodup_cons] at h ⊢
      exact ⟨fun hm => ((keys_ainsert rest k v k0).1 hm).elim h.1 hk, ainsert_nodup rest k v h.2⟩

theorem mem_ainsert {β : Type} {l : List (Nat × β)} {k x : Nat} {v y : β} (h : (k, v) ∈ ainsert l x y) :
    (k, v) ∈ l ∨ (k = x ∧ v = y) := by
  induction l with
  | nil => simp [ainsert] at h; exact Or.inr h
  | cons kv rest ih =>
    obtain ⟨k', v'⟩ := kv
    unfold ainsert at h
    split at h
    · rename_i e
      rcases List.mem_cons.mp h with h1 | h1
      · cases h1; exact Or.inr ⟨e, rfl⟩
      · exact Or.inl (List.mem_cons_of_mem _ h1)
    · rcases List.mem_cons.mp h with h1 | h1
      · exact Or.inl (by rw [h1]; simp)
      · rcases ih h1 with h2 | h2
        · exact Or.inl (List.mem_cons_of_mem _ h2)
        · exact Or.inr h2

theorem mem_ainsert_self {β : Type} (l : List (Nat × β)) (x : Nat) (y : β) : (x, y) ∈ ainsert l x y := by
  induction l with
  | nil => simp [ainsert]
  | cons kv rest ih =>
    obtain ⟨k0, v0⟩ := kv
    unfold ainsert
    by_cases hk : k0 = x
    · simp [hk]
    · simp only [hk, if_false]; exact List.mem_cons_of_mem _ ih

theorem mem_ainsert_some {l : List (Nat × Option Val)} {k x : Nat} {v y : Val} (h : (k, some v) ∈ l) :
    ∃ v', (k, some v') ∈ ainsert l x (some y) := by
  induction l with
  | nil => cases h
  | cons kv rest ih =>
    obtain ⟨k0, v0⟩ := kv
    unfold ainsert
    by_cases hk : k0 = x
    · simp only [hk, if_true]
      rcases List.mem_cons.mp h with h | h
      · simp only [Prod.mk.injEq] at h
        exact ⟨y, by rw [h.1, hk]; simp⟩
      · exact ⟨v, List.mem_cons_of_mem _ h⟩
    · simp only [hk, if_false]
      rcases List.mem_cons.mp h with h | h
      · exact ⟨v, by rw [h]; simp⟩
      · obtain ⟨v', hv'⟩ := ih h
        exact ⟨v', List.mem_cons_of_mem _ hv'⟩

theorem alookup_aextend_of_none {β : Type} : ∀ (more m : List (Nat × β)) (t : Nat), alookup more t = none →
    alookup (aextend m more) t = alookup m t
  | [], m, t, _ => rfl
  | (k, v) :: more, m, t, h => by
    unfold alookup at h
    split at h
    · cases h
    · rename_i hne
      show alookup (aextend (ainsert m k v) more) t = _
      rw [alookup_aextend_of_none more (ainsert m k v) t h, alookup_ainsert]
      simp [hne]

theorem mem_aextend {β : Type} : ∀ {more m : List (Nat × β)} {k : Nat} {v : β},
    (k, v) ∈ aextend m more → (k, v) ∈ m ∨ (k, v) ∈ more
  | [], m, k, v, h => Or.inl h
  | (k0, v0) :: more, m, k, v, h => by
    have h' : (k, v) ∈ aextend (ainsert m k0 v0) more := h
    rcases mem_aextend h' with h1 | h1
    · rcases mem_ainsert h1 with h2 | ⟨h2, h3⟩
      · exact Or.inl h2
      · subst h2; subst h3; exact Or.inr (by simp)
    · exact Or.inr (List.mem_cons_of_mem _ h1)

theorem alookup_filter_keys {β : Type} (l : List (Nat × β)) (q : Nat → Bool) (t : Nat) :
    alookup (l.filter (fun kv => q kv.1)) t = if q t then alookup l t else none := by
  induction l with
  | nil => simp [alookup]
  | cons kv rest ih =>
    obtain ⟨k, v⟩ := kv
    by_cases hk : q k = true
    · simp only [List.filter_cons, hk, if_true, alookup]
      by_cases hkt : k = t
      · subst hkt; simp [hk]
      · simp [hkt, ih]
    · simp only [List.filter_cons, hk, alookup]
      by_cases hkt : k = t
      · subst hkt; simp [hk, ih]
      · simp [hkt, ih]

/-- entries inserted by `initialize_select` are `none` -/
theorem mem_foldl_ainsert_some {t : Pid} {v : Val} : ∀ (ts : List Pid) (l : List (Pid × Option Val)),
    (t, some v) ∈ ts.foldl (fun a t' => ainsert a t' none) l → (t, some v) ∈ l
  | [], _, h => h
  | t0 :: ts, l, h => (mem_ainsert (mem_foldl_ainsert_some ts _ h)).elim id fun h2 => by cases h2.2

theorem mem_foldl_ainsert_none (ts : List Pid) : ∀ (l : List (Pid × Option Val)) (kv : Pid × Option Val),
    kv ∈ ts.foldl (fun a t => ainsert a t none) l → kv.1 ∈ l.map (·.1) ∨ kv.1 ∈ ts := by
  induction ts with
  | nil => intro l kv h; exact Or.inl (List.mem_map.mpr ⟨kv, h, rfl⟩)
  | cons t0 rest ih =>
    intro l kv h
    simp only [List.foldl_cons] at h
    rcases ih _ kv h with h1 | h1
    · exact ((keys_ainsert _ _ _ _).mp h1).imp id fun (h2 : kv.1 = t0) => h2 ▸ List.mem_cons_self
    · exact Or.inr (List.mem_cons_of_mem _ h1)

theorem alookup_foldl_ainsert_none (ts : List Pid) : ∀ (l : List (Pid × Option Val)) (t : Pid), t ∉ ts →
    alookup (ts.foldl (fun a t => ainsert a t none) l) t = alookup l t ∧
    ∀ v, (t, some v) ∈ l → (t, some v) ∈ ts.foldl (fun a t => ainsert a t none) l := by
  induction ts with
  | nil => intro l t _; exact ⟨rfl, fun _ h => h⟩
  | cons t0 rest ih =>
    intro l t ht
    have h0 : t ≠ t0 := fun e => ht (by simp [e])
    have hr : t ∉ rest := fun e => ht (by simp [e])
    obtain ⟨i1, i2⟩ := ih (ainsert l t0 none) t hr
    simp only [List.foldl_cons]
    refine ⟨by rw [i1, alookup_ainsert]; simp [Ne.symm h0], ?_⟩
    intro v hv
    apply i2
    clear i1 i2 ih
    induction l with
    | nil => cases hv
    | cons kv l' ihl =>
      obtain ⟨k, w⟩ := kv
      unfold ainsert
      by_cases hk : k = t0
      · simp only [hk, if_true]
        rcases List.mem_cons.mp hv with h | h
        · simp only [Prod.mk.injEq] at h; exact absurd (h.1.trans hk) h0
        · exact List.mem_cons_of_mem _ h
      · simp only [hk, if_false]
        rcases List.mem_cons.mp hv with h | h
        · rw [h]; simp
        · exact List.mem_cons_of_mem _ (ihl h)

/-! ### iteration -/

theorem iter_invariant {α : Type} (P : α → Prop) (f : α → α) (hf : ∀ a, P a → P (f a)) :
    ∀ k a, P a → P (iter f k a)
  | 0, _, h => h
  | k + 1, a, h => iter_invariant P f hf k (f a) (hf a h)

end QM.Sys
