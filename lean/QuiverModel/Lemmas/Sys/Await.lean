import QuiverModel.Lemmas.Sys.Frame
/-
The environment's answer collection (`pending_awaits.responses`): with MERGED answers
(`mergeAnswer`, the code after b8eb814) handling a further ProcessResults event of a worker never
loses a result that worker (or any other) has already contributed; it stays in `responses` or leaves
in the UpdateAwaitResults command.  (`C04.replace_loses_await_answer` shows the replace variant does.)
-/
namespace QM.Sys
set_option linter.unusedSectionVars false
variable [Cfg]

/-- what the pending entry of `a` holds for target `t` from worker `w0` -/
def pendingHas (s : Sys) (a : Pid) (w0 : Wid) (t : Pid) (r : Res) : Prop :=
  ∃ pa rs, s.env.pending a = some pa ∧ alookup pa.responses w0 = some rs ∧ alookup rs t = some (some r)

/-- **Merged answers keep what was collected.**  If the pending await of `a` holds the result `r`
of `t` (contributed by worker `w0`) and a further answer `new` arrives that does not speak about
`t`, then afterwards the pending entry still holds it, or it has left in an UpdateAwaitResults
command for `a`.  (Nothing is said for a `new` that speaks about `t`: a placeholder `(t, none)` in it replaces what
was collected.) -/
theorem merge_keeps_collected (s : Sys) (a : Pid) (new : Results) (w0 : Wid) (t : Pid) (r : Res)
    (hrouted : (s.env.router a).isSome) (hhas : pendingHas s a w0 t r) (hnew : alookup new t = none) :
    pendingHas (handleProcResultsWith mergeAnswer s a new) a w0 t r ∨
    ∃ aw rs, Cmd.updateAwait a rs ∈ (handleProcResultsWith mergeAnswer s a new).cmdQ aw ∧ (t, some r) ∈ rs := by
  have ⟨pa, rs0, hp, hl0, hl1⟩ := hhas
  unfold handleProcResultsWith
  simp only [hp]
  cases hra : s.env.router a with
  | none => rw [hra] at hrouted; cases hrouted
  | some aw =>
    cases hnew' : new with
    | nil => dsimp only; exact Or.inl hhas
    | cons kv more =>
      obtain ⟨k, v⟩ := kv
      dsimp only
      cases hsender : s.env.router k with
      | none => dsimp only; exact Or.inl hhas
      | some w =>
        dsimp only
        rw [← hnew']
        -- the new responses table still holds the entry
        have hkeep : ∃ rs1, alookup (ainsert pa.responses w (mergeAnswer (alookup pa.responses w) new)) w0 = some rs1 ∧
            alookup rs1 t = some (some r) := by
          rw [alookup_ainsert]
          by_cases hw : w = w0
          · subst hw
            simp only [if_true]
            refine ⟨_, rfl, ?_⟩
            rw [hl0]
            show alookup (aextend rs0 new) t = _
            rw [alookup_aextend_of_none new rs0 t hnew]; exact hl1
          · simp only [hw, if_false]; exact ⟨rs0, hl0, hl1⟩
        obtain ⟨rs1, hk1, hk2⟩ := hkeep
        split
        · right
          refine ⟨aw, _, mem_pushCmd_self _ _ _, ?_⟩
          rw [List.mem_flatten]
          exact ⟨rs1, List.mem_map.mpr ⟨(w0, rs1), alookup_mem hk1, rfl⟩, alookup_mem hk2⟩
        · left
          exact ⟨{ expected := pa.expected.filter (· ≠ w), responses := ainsert pa.responses w (mergeAnswer (alookup pa.responses w) new) },
            rs1, by simp, hk1, hk2⟩

end QM.Sys
