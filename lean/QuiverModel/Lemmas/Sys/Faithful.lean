import QuiverModel.Lemmas.Sys.Wake
/-
Results are stable and reports are truthful: once a process has a result it never changes (`ResKeep` per
worker, `ResMono` per step), and every result carried by a ProcessResults event in a worker's event queue is the
actual result of that target on that worker (`Truthful`; invariant `EInv`).  The rest of the answer chain —
`pending_awaits`, UpdateAwaitResults, an awaiter's `awaiting` — is Stored.lean (`TInv`).  Last section: every
spawn reply found its caller parked and re-queued it (`NInv`).
-/
namespace QM.Sys
set_option linter.unusedSectionVars false
variable [Cfg]

/-- results present in `w` are present, unchanged, in `w'` -/
def ResKeep (w w' : WorkerSt) : Prop := ∀ t r, w.resultOf t = some r → w'.resultOf t = some r

theorem ResKeep.refl (w : WorkerSt) : ResKeep w w := fun _ _ h => h
theorem ResKeep.trans {a b c : WorkerSt} (h1 : ResKeep a b) (h2 : ResKeep b c) : ResKeep a c :=
  fun t r h => h2 t r (h1 t r h)

theorem ResKeep.of_procs {w w' : WorkerSt} (h : w'.procs = w.procs) : ResKeep w w' := by
  intro t r hr; unfold WorkerSt.resultOf at *; rw [h]; exact hr

theorem ResKeep.updProc {w w' : WorkerSt} {p : Pid} {x' : Proc} (hp : w'.procs = upd w.procs p (some x'))
    (hx : ∀ x, w.procs p = some x → ∀ r, x.result = some r → x'.result = some r) : ResKeep w w' := by
  intro t r hr
  unfold WorkerSt.resultOf at *
  rw [hp]
  by_cases e : t = p
  · subst e
    simp only [upd_same]
    cases hw : w.procs t with
    | none => rw [hw] at hr; cases hr
    | some x => rw [hw] at hr; exact hx x hw r hr
  · simp only [upd_other _ _ _ _ e]; exact hr

theorem Helper.resKeep {w w' : WorkerSt} (h : Helper w w') : ResKeep w w' := by
  intro t r hr
  unfold WorkerSt.resultOf at *
  rcases h.procs t with ⟨e1, _⟩ | ⟨x, x', e1, e2, u⟩
  · rw [e1] at hr; cases hr
  · rw [e1] at hr; rw [e2]; exact u.result.trans hr

theorem ResKeep.release (w : WorkerSt) (cur : Pid) : ResKeep w (w.release cur) := (Helper.release w cur).resKeep

theorem finish_resultOf_cur (w : WorkerSt) (cur : Pid) (x : Proc) (ordQ : List Pid) :
    (w.finish cur x ordQ).resultOf cur = some x.finalRes :=
  (Helper.finish w cur x ordQ).resKeep cur x.finalRes (by simp [WorkerSt.resultOf])

/-- `finish` of a process that has no result yet keeps all results and stores `finalRes` -/
theorem ResKeep.finish {w : WorkerSt} {cur : Pid} (x : Proc) (ordQ : List Pid)
    (hc : ∀ y, w.procs cur = some y → y.result = none) :
    ResKeep w (w.finish cur x ordQ) ∧ (w.finish cur x ordQ).resultOf cur = some x.finalRes :=
  ⟨(ResKeep.updProc (x' := { x with result := some x.finalRes }) rfl fun y hy r hr => by rw [hc y hy] at hr; cases hr).trans
    (Helper.finish w cur x ordQ).resKeep, finish_resultOf_cur w cur x ordQ⟩

/-! ### results are stable under every micro-step -/

/-- every result set in `s` is still set, to the same value, in `s'` -/
def ResMono (s s' : Sys) : Prop := ∀ w, ResKeep (s.wk w) (s'.wk w)

theorem ResMono.refl (s : Sys) : ResMono s s := fun w => ResKeep.refl _
theorem ResMono.trans {a b c : Sys} (h1 : ResMono a b) (h2 : ResMono b c) : ResMono a c := fun w => (h1 w).trans (h2 w)

theorem ResMono.of_wk {s s' : Sys} (h : s'.wk = s.wk) : ResMono s s' := fun w => by rw [h]; exact ResKeep.refl _

theorem ResMono.of_upd {s s' : Sys} {i : Wid} {x : WorkerSt} (h : s'.wk = upd s.wk i x) (hk : ResKeep (s.wk i) x) :
    ResMono s s' := by
  intro w
  rw [h]
  by_cases hw : w = i
  · subst hw; simpa using hk
  · simp only [upd_other _ _ _ _ hw]; exact ResKeep.refl _

theorem ResMono.setWk {s : Sys} {i : Wid} {x : WorkerSt} (h : ResKeep (s.wk i) x) : ResMono s (s.setWk i x) :=
  ResMono.of_upd rfl h

theorem ResKeep.cmdCase {w w' : WorkerSt} {c : Cmd} {evs : List Evt} {app : List (Pid × Msg)} (h : CmdCase w c w' evs app)
    (hst : ∀ p, c ≠ .start p) (hre : ∀ p fn, c ≠ .resume p fn)
    (hfresh : ∀ q f regs, c = .spawn q f regs → w.procs q = none) : ResKeep w w' := by
  have keep : ∀ {p : Pid} {x x' : Proc}, w.procs p = some x → x'.result = x.result →
      ∀ y, w.procs p = some y → ∀ r, y.result = some r → x'.result = some r :=
    fun hx e y hy r hr => by rw [hx] at hy; cases hy; exact e.trans hr
  cases h with
  | same _ _ procs => exact .of_procs procs
  | start => exact absurd rfl (hst _)
  | resume => exact absurd rfl (hre _ _)
  | spawn procs => exact .updProc procs fun x hx => by rw [hfresh _ _ _ rfl] at hx; cases hx
  | spawned hx procs => exact .updProc procs (keep hx rfl)
  | mail hx procs => exact .updProc procs (keep hx rfl)
  | query => exact .of_procs (queryTargets_spec' _ _ w).procs
  | update procs => exact (Helper.applyResults _ _ w).resKeep.trans (.of_procs procs)

theorem ResKeep.execCase {prog : Prog} {now fuel : Nat} {ordQ : List Pid} {w w' : WorkerSt} {evs : List Evt}
    (h : ExecCase prog now fuel ordQ w w' evs)
    (hlive : ∀ cur x, cur ∈ (w.checkExpired prog now ordQ).queue → w.procs cur = some x → x.result = none) : ResKeep w w' := by
  have new : ∀ {cur : Pid} {x x' : Proc}, cur ∈ (w.checkExpired prog now ordQ).queue → w.procs cur = some x →
      ∀ y, w.procs cur = some y → ∀ r, y.result = some r → x'.result = some r :=
    fun hf _ y hy r hr => by rw [hlive _ _ hf hy] at hr; cases hr
  cases h with
  | idle procs => exact .of_procs procs
  | ran front hx _ _ procs => exact .updProc procs (new front hx)
  | @fin w1 cur x xf _ front hx _ procs =>
    have hf := (Helper.finish w1 cur xf ordQ).resKeep
    rw [procs, upd_upd] at hf
    exact (ResKeep.updProc (w' := { w1 with procs := upd w.procs cur (some { xf with result := some xf.finalRes }) }) rfl
      (new front hx)).trans hf

/-- **Results are stable**: no step changes a result once it is set.  `SInv` is what excludes the three ways a set result
could change: a queued `resume` (it resets the result; none is queued after start-up, so this is a statement about ONE
`Repl::evaluate`), a SpawnProcess for an existing pid (`fresh`), a finished process at the front of the run queue (`live`). -/
theorem ResMono.step {s s' : Sys} (h : SInv s) (hs : Step Rules.current s s') : ResMono s s' := by
  cases hs with
  | env hq => exact ResMono.of_wk (handleEvent_frame _ _ _).wk
  | fault => exact ResMono.of_wk rfl
  | @cmd i c rest o hq ho =>
    have hcok : CmdOK s.env.router s.prog.length (known s i) i c := h.r.cmds i c (by rw [hq]; simp)
    refine ResMono.of_upd rfl (ResKeep.cmdCase ho.case ?_ ?_ ?_)
    · rintro p rfl; exact hcok
    · rintro p fn rfl; exact hcok
    · rintro q f regs rfl
      have hnk : ¬ known s i q := ((h.fresh i).2 q (by rw [hq, creates_cons]; simp [cmdCreate]))
      unfold known at hnk
      cases hp : (s.wk i).procs q with
      | none => rfl
      | some y => rw [hp] at hnk; exact absurd rfl hnk
  | @exec i fuel ordQ o ho =>
    refine ResMono.of_upd rfl (ResKeep.execCase ho.case fun cur x hf hx => ?_)
    obtain ⟨x0, hx0, hr0⟩ := ((h.sched i).checkExpired s.prog s.now ordQ).live cur (.inl hf)
    cases hx.symm.trans hx0; exact hr0
  | check i ordE => exact ResMono.of_upd rfl (ResKeep.of_procs (ChkOut.check (s.wk i) ordE).procs)
  | tick => exact ResMono.of_wk rfl

theorem ResMono.micro {s : Sys} (h : SInv s) (m : Micro) : ResMono s (microStep Rules.current s m) :=
  microStep_cases (ResMono.refl s) (fun _ => ResMono.step h) m

/-! ### completion reports are truthful -/

/-- `completedStatus` only ever returns the process's `result` -/
theorem completedStatus_result {w : WorkerSt} {t : Pid} {r : Res} (h : w.completedStatus t = some r) :
    w.resultOf t = some r := by
  unfold WorkerSt.completedStatus at h
  unfold WorkerSt.resultOf
  split at h
  · cases h
  · rename_i x hx
    rw [hx]
    split at h
    · cases h
    · split at h
      · cases h
      · split at h
        · rename_i v hv; cases h; exact hv
        · rename_i hv
          split at h
          · cases h; exact hv
          · cases h
        · cases h

/-- what `query_and_await` reports as completed is the target's result -/
theorem queryTargets_truthful (a : Pid) : ∀ (ts : List Pid) (w : WorkerSt) (t : Pid) (r : Res),
    (t, some r) ∈ (queryTargets w a ts).2 → w.resultOf t = some r
  | [], w, t, r, h => by simp [queryTargets] at h
  | t0 :: rest, w, t, r, h => by
    unfold queryTargets at h
    split at h
    · rename_i r0 hr0
      rcases mem_ainsert h with h1 | ⟨h1, h2⟩
      · exact queryTargets_truthful a rest w t r h1
      · cases h2; rw [h1]; exact completedStatus_result hr0
    · rcases mem_ainsert h with h1 | ⟨_, h2⟩
      · -- the worker state passed down differs in the await registry only, which `resultOf` does not read
        exact (queryTargets_truthful a rest _ t r h1 :)
      · cases h2

/-- every completed target in a ProcessResults event has exactly that result on the reporting worker -/
def Truthful (s : Sys) : Prop :=
  ∀ w a rs, Evt.procResults a rs ∈ s.evtQ w → ∀ t r, (t, some r) ∈ rs → (s.wk w).resultOf t = some r

/-- `SInv`, and every result reported in a queued ProcessResults event is one its worker has -/
structure EInv (s : Sys) : Prop where
  si : SInv s
  evt : Truthful s

/-- an output that keeps the results and reports only results its new worker state has -/
theorem Truthful.commit {s : Sys} (h : Truthful s) {i : Wid} {o : Out} (hk : ResKeep (s.wk i) o.wk)
    (hev : ∀ a rs, Evt.procResults a rs ∈ o.evs → ∀ t r, (t, some r) ∈ rs → o.wk.resultOf t = some r) :
    Truthful (s.commit i o) := by
  intro w a rs hm t r htr
  rcases mem_commit_evtQ hm with h1 | ⟨rfl, h1⟩
  · by_cases e : w = i
    · subst e; rw [commit_wk_self]; exact hk t r (h w a rs h1 t r htr)
    · rw [commit_wk_other _ _ e]; exact h w a rs h1 t r htr
  · rw [commit_wk_self]; exact hev a rs h1 t r htr

theorem Truthful.step {s s' : Sys} (h : Truthful s) (hsi : SInv s) (hs : Step Rules.current s s') : Truthful s' := by
  have hmono := ResMono.step hsi hs
  cases hs with
  | @env w0 e rest hq =>
    intro w a rs hm t r htr
    rw [(handleEvent_frame _ _ _).evtQ] at hm
    exact hmono w t r (h w a rs (mem_upd_tail hq hm) t r htr)
  | fault => exact h
  | @cmd i c rest o hq ho =>
    have hk : ResKeep (s.wk i) o.wk := commit_wk_self _ i o ▸ hmono i
    refine Truthful.commit (s := { s with cmdQ := upd s.cmdQ i rest }) h hk fun a rs hm t r htr => ?_
    rcases ho.evs_spec _ hm with ⟨a', ts, _, he⟩ | ⟨_, _, he⟩
    · cases he
      -- the report is truthful for the worker state before the command, and results are kept
      exact hk t r (queryTargets_truthful a ts (s.wk i) t r htr)
    · cases he
  | @exec i fuel ordQ o ho =>
    exact h.commit (commit_wk_self s i o ▸ hmono i) fun a rs hm => absurd hm (ho.no_results a rs)
  | check i ordE =>
    have hc := ChkOut.check (s.wk i) ordE
    refine h.commit (ResKeep.of_procs hc.procs) fun a rs hm t r htr => ?_
    rcases hc.evs _ hm with ⟨_, t', r', he, _, hr⟩ | ⟨_, _, he⟩
    · cases he
      cases List.mem_singleton.mp htr
      exact (resultOf_of_procs hc.procs t).trans hr
    · cases he
  | tick => exact h

theorem EInv.step {s s' : Sys} (h : EInv s) (hs : Step Rules.current s s') : EInv s' :=
  ⟨h.si.step Rules.current_sane hs, h.evt.step h.si hs⟩

theorem EInv.of_started {s : Sys} (h : Started s) : EInv s :=
  ⟨SInv.of_started h, fun w a rs hm => by rw [h.evtQ w] at hm; simp at hm⟩

/-! ### every spawn reply re-queues its caller -/

/-- all NotifySpawn commands applied so far found their caller parked and re-queued it -/
def AllRequeued (s : Sys) : Prop := ∀ x ∈ s.spawnNotified, x.2.2 = true

/-- `WInv`, and every NotifySpawn handled so far re-queued its caller -/
structure NInv (s : Sys) : Prop where
  w : WInv s
  all : AllRequeued s

theorem AllRequeued.step {s s' : Sys} (h : NInv s) (hs : Step Rules.current s s') : AllRequeued s' := by
  cases hs with
  | env hq => intro x hx; rw [(handleEvent_frame _ _ _).spawnNotified] at hx; exact h.all x hx
  | fault => exact h.all
  | @cmd i c rest o hq ho =>
    intro x hx
    rcases List.mem_append.mp hx with h1 | h1
    · exact h.all x h1
    · -- a NotifySpawn finds its caller parked in `spawning`, hence alive
      have parked : ∀ caller p, c = .notifySpawn caller p → caller ∈ (s.wk i).spawning ∧ ∃ y, (s.wk i).procs caller = some y :=
        fun caller p hc => by
          have hp := spair_notify_parked h.w.pair (p := p) (show Cmd.notifySpawn caller p ∈ s.cmdQ i by rw [hq, hc]; exact List.mem_cons_self)
          obtain ⟨y, hy, _⟩ := (h.w.si.sched i).live caller (Or.inr (Or.inl hp))
          exact ⟨hp, y, hy⟩
      cases ho with
      | notifyNone caller p hn => obtain ⟨_, y, hy⟩ := parked caller p rfl; rw [hn] at hy; cases hy
      | notifySome caller p =>
        rw [List.mem_singleton.mp h1]
        exact decide_eq_true (parked caller p rfl).1
      | _ => cases h1
  | @exec i fuel ordQ o ho =>
    intro x hx
    have hn := ho.quiet.2.2.2.1
    exact h.all x (by rwa [show (s.commit i o).spawnNotified = s.spawnNotified ++ o.spawnNotified from rfl, hn, List.append_nil] at hx)
  | check i ordE =>
    intro x hx
    have hn := (ChkOut.check (s.wk i) ordE).quiet.2.2.2.2.1
    exact h.all x (by rwa [show (s.commit i _).spawnNotified = s.spawnNotified ++ _ from rfl, hn, List.append_nil] at hx)
  | tick => exact h.all

theorem NInv.step {s s' : Sys} (h : NInv s) (hs : Step Rules.current s s') : NInv s' := ⟨h.w.step hs, AllRequeued.step h hs⟩

theorem NInv.of_started {s : Sys} (h : Started s) : NInv s :=
  ⟨WInv.of_started h, fun x hx => by rw [h.spawnNotified] at hx; simp at hx⟩

end QM.Sys
