import QuiverModel.Lemmas.Sys.Frame
/-
What the executor's helper functions do to a worker.

`wakeSelecting`, `notifyResult`, `notifyPending`, `applyResults`, `release`, the tail of `finish` and `checkExpired` change process records
only by `PUpd` steps and leave the await registry and `spawning` alone (`Helper`); a relation between worker states that
only reads this follows from what `PUpd` does to ONE record.  `QuerySpec` is `query_and_await` in closed form.
-/
namespace QM.Sys
variable [Cfg]

omit [Cfg] in
theorem releaseDead_regs (x : Proc) : x.releaseDead.regs = x.regs := by
  unfold Proc.releaseDead; split <;> rfl

omit [Cfg] in
theorem releaseDead_result (x : Proc) : x.releaseDead.result = x.result := by
  unfold Proc.releaseDead; split <;> rfl

/-- what `notify_result` / `notify_failure` / `notify_pending` / `release_dead_roots` do to one process record -/
inductive PUpd : Proc → Proc → Prop
  | refl (x) : PUpd x x
  | stored (x : Proc) (t : Pid) (v : Val) : PUpd x { x with awaiting := ainsert x.awaiting t (some v), unanswered := x.unanswered.filter (· ≠ t) }
  | failed (x : Proc) (t : Pid) : PUpd x { x with awaitFailed := sinsert x.awaitFailed t, unanswered := x.unanswered.filter (· ≠ t) }
  | answered (x : Proc) (t : Pid) : PUpd x { x with unanswered := x.unanswered.filter (· ≠ t) }
  | released (x : Proc) : PUpd x x.releaseDead
  | trans {x y z} : PUpd x y → PUpd y z → PUpd x z

/-- the selects in `L` (parked in `w`, distinct) have been moved to the tail of the run queue: what a wake-up, and
`check_expired_timeouts`, does to `queue` and `selecting` -/
structure Woke (w w' : WorkerSt) (L : List Pid) : Prop where
  queue : w'.queue = w.queue ++ L
  selecting : w'.selecting = w.selecting.filter (· ∉ L)
  parked : ∀ p ∈ L, p ∈ w.selecting
  nodup : L.Nodup

omit [Cfg] in
theorem Woke.of_eq {w w' : WorkerSt} (hq : w'.queue = w.queue) (hs : w'.selecting = w.selecting) : Woke w w' [] :=
  ⟨by rw [hq, List.append_nil], by rw [hs]; exact (List.filter_eq_self.mpr fun _ _ => rfl).symm, nofun, List.nodup_nil⟩

omit [Cfg] in
theorem Woke.trans {a b c : WorkerSt} {L1 L2 : List Pid} (h1 : Woke a b L1) (h2 : Woke b c L2) : Woke a c (L1 ++ L2) := by
  -- who is woken second was still parked after the first round, hence not woken then
  have hin : ∀ p ∈ L2, p ∈ a.selecting ∧ p ∉ L1 := fun p hp => by
    have := h2.parked p hp
    rw [h1.selecting, List.mem_filter] at this
    exact ⟨this.1, of_decide_eq_true this.2⟩
  refine ⟨by rw [h2.queue, h1.queue, List.append_assoc], ?_, fun p hp => ?_, ?_⟩
  · rw [h2.selecting, h1.selecting, List.filter_filter]
    exact List.filter_congr fun q _ => by simp [Bool.and_comm]
  · exact (List.mem_append.mp hp).elim (h1.parked p) fun h => (hin p h).1
  · exact List.nodup_append.mpr ⟨h1.nodup, h2.nodup, fun p h1' q h2' e => (hin q h2').2 (e ▸ h1')⟩

/-- **Effect of a helper** on a worker: every record changed by `PUpd` steps; the await registry and `spawning` untouched;
some parked selects woken. -/
structure Helper (w w' : WorkerSt) : Prop where
  procs : ∀ p, (w.procs p = none ∧ w'.procs p = none) ∨ ∃ x x', w.procs p = some x ∧ w'.procs p = some x' ∧ PUpd x x'
  woke : ∃ L, Woke w w' L
  spawning : w'.spawning = w.spawning
  awaited : w'.awaited = w.awaited
  awaitersFor : w'.awaitersFor = w.awaitersFor

omit [Cfg] in
theorem procs_refl (w : WorkerSt) (p : Pid) :
    (w.procs p = none ∧ w.procs p = none) ∨ ∃ x x', w.procs p = some x ∧ w.procs p = some x' ∧ PUpd x x' := by
  cases h : w.procs p with
  | none => exact .inl ⟨rfl, rfl⟩
  | some x => exact .inr ⟨x, x, rfl, rfl, .refl x⟩

omit [Cfg] in
theorem Helper.refl (w : WorkerSt) : Helper w w := ⟨procs_refl w, ⟨_, .of_eq rfl rfl⟩, rfl, rfl, rfl⟩

omit [Cfg] in
theorem Helper.trans {a b c : WorkerSt} (h1 : Helper a b) (h2 : Helper b c) : Helper a c := by
  obtain ⟨_, w1⟩ := h1.woke
  obtain ⟨_, w2⟩ := h2.woke
  refine ⟨fun p => ?_, ⟨_, w1.trans w2⟩, h2.spawning.trans h1.spawning, h2.awaited.trans h1.awaited,
    h2.awaitersFor.trans h1.awaitersFor⟩
  rcases h1.procs p with ⟨e1, e2⟩ | ⟨x, y, e1, e2, u1⟩ <;> rcases h2.procs p with ⟨e3, e4⟩ | ⟨y', z, e3, e4, u2⟩
  · exact .inl ⟨e1, e4⟩
  · rw [e2] at e3; cases e3
  · rw [e2] at e3; cases e3
  · rw [e2] at e3; cases e3; exact .inr ⟨x, z, e1, e4, u1.trans u2⟩

omit [Cfg] in
theorem Helper.foldl {α : Type} (f : WorkerSt → α → WorkerSt) (hf : ∀ w a, Helper w (f w a)) :
    ∀ (l : List α) (w : WorkerSt), Helper w (l.foldl f w) :=
  foldl_rel_of_step Helper.refl Helper.trans f hf

theorem Helper.modProc (w : WorkerSt) (p : Pid) (f : Proc → Proc) (hf : ∀ x, PUpd x (f x)) : Helper w (w.modProc p f) := by
  unfold WorkerSt.modProc
  split
  · rename_i x hx
    refine ⟨fun q => ?_, ⟨_, .of_eq rfl rfl⟩, rfl, rfl, rfl⟩
    by_cases e : q = p
    · subst e; exact .inr ⟨x, f x, hx, upd_same _ _ _, hf x⟩
    · dsimp only; rw [upd_other _ _ _ _ e]; exact procs_refl w q
  · exact .refl w

omit [Cfg] in
theorem Helper.wakeSelecting (w : WorkerSt) (p : Pid) : Helper w (w.wakeSelecting p) := by
  unfold WorkerSt.wakeSelecting; split
  · rename_i hp
    exact ⟨procs_refl w, ⟨[p], rfl, by simp [serase], fun q hq => List.mem_singleton.mp hq ▸ hp, by simp⟩, rfl, rfl, rfl⟩
  · exact .refl w

/-- `check_expired_timeouts` wakes the expired selects -/
theorem Helper.checkExpired {w : WorkerSt} (hnd : w.selecting.Nodup) (prog : Prog) (now : Nat) (ordQ : List Pid) :
    Helper w (w.checkExpired prog now ordQ) :=
  ⟨procs_refl w, ⟨_, rfl, rfl, fun _ hp => (List.mem_filter.mp (mem_orderBy.mp hp)).1, nodup_orderBy (hnd.filter _)⟩, rfl, rfl, rfl⟩

theorem Helper.notifyResult (w : WorkerSt) (a t : Pid) (r : Res) : Helper w (w.notifyResult a t r) := by
  cases r with
  | ok v =>
    refine (Helper.modProc w a _ fun x => ?_).trans (.wakeSelecting _ a)
    split
    · exact .stored x t v
    · exact .refl x
  | err =>
    show Helper w (w.notifyFailure a t)
    unfold WorkerSt.notifyFailure
    split
    · split
      · exact (Helper.modProc w a _ fun x => .failed x t).trans (.wakeSelecting _ a)
      · exact .refl w
    · exact .refl w

theorem Helper.notifyPending (w : WorkerSt) (a t : Pid) : Helper w (w.notifyPending a t) :=
  Helper.modProc w a _ fun x => .answered x t

theorem Helper.applyResults (a : Pid) : ∀ (rs : Results) (w : WorkerSt), Helper w (applyResults w a rs)
  | [], w => .refl w
  | (t, some r) :: rest, w => (Helper.notifyResult w a t r).trans (Helper.applyResults a rest _)
  | (t, none) :: rest, w => (Helper.notifyPending w a t).trans (Helper.applyResults a rest _)

theorem Helper.release (w : WorkerSt) (cur : Pid) : Helper w (w.release cur) := by
  unfold WorkerSt.release; split
  · exact .modProc w cur _ fun x => .released x
  · exact .refl w

/-- the finished branch: after the record of `cur` has been replaced, only helpers run -/
theorem Helper.finish (w : WorkerSt) (cur : Pid) (x : Proc) (ordQ : List Pid) :
    Helper { w with procs := upd w.procs cur (some { x with result := some x.finalRes }) } (w.finish cur x ordQ) :=
  (Helper.foldl _ (fun w' a => .notifyResult w' a cur _) _ _).trans (.release _ cur)

theorem mem_wakeSelecting {w : WorkerSt} {p q : Pid} :
    q ∈ (w.wakeSelecting p).selecting ↔ q ∈ w.selecting ∧ q ≠ p := by
  unfold WorkerSt.wakeSelecting
  split
  · simp [mem_serase]
  · rename_i hp
    constructor
    · intro h; exact ⟨h, fun e => hp (e ▸ h)⟩
    · intro h; exact h.1

omit [Cfg] in
@[simp] theorem wakeSelecting_procs (w : WorkerSt) (p : Pid) : (w.wakeSelecting p).procs = w.procs := by
  unfold WorkerSt.wakeSelecting; split <;> rfl

omit [Cfg] in
theorem modProc_selecting (w : WorkerSt) (p : Pid) (f : Proc → Proc) : (w.modProc p f).selecting = w.selecting := by
  unfold WorkerSt.modProc; split <;> rfl

theorem modProc_procs_other (w : WorkerSt) (p q : Pid) (f : Proc → Proc) (h : q ≠ p) : (w.modProc p f).procs q = w.procs q := by
  unfold WorkerSt.modProc; split
  · simp [upd_other _ _ _ _ h]
  · rfl

omit [Cfg] in
@[simp] theorem wakeSelecting_spawning (w : WorkerSt) (p : Pid) : (w.wakeSelecting p).spawning = w.spawning :=
  (Helper.wakeSelecting w p).spawning
omit [Cfg] in
@[simp] theorem modProc_spawning (w : WorkerSt) (p : Pid) (f : Proc → Proc) : (w.modProc p f).spawning = w.spawning := by
  unfold WorkerSt.modProc; split <;> rfl
theorem applyResults_spawning (a : Pid) (rs : Results) (w : WorkerSt) : (applyResults w a rs).spawning = w.spawning :=
  (Helper.applyResults a rs w).spawning
@[simp] theorem finish_spawning (w : WorkerSt) (cur : Pid) (x : Proc) (ordQ : List Pid) :
    (w.finish cur x ordQ).spawning = w.spawning :=
  (Helper.finish w cur x ordQ).spawning

theorem notifyResult_other (w : WorkerSt) (a t : Pid) (r : Res) (b : Pid) (h : b ≠ a) :
    (w.notifyResult a t r).procs b = w.procs b := by
  cases r with
  | ok v => simp [WorkerSt.notifyResult, WorkerSt.notifyResultOk, modProc_procs_other _ _ _ _ h]
  | err =>
    simp only [WorkerSt.notifyResult, WorkerSt.notifyFailure]
    cases w.procs a with
    | none => rfl
    | some x =>
      simp only []
      split
      · simp [modProc_procs_other _ _ _ _ h]
      · rfl

theorem applyResults_other (a : Pid) : ∀ (rs : Results) (w : WorkerSt) (b : Pid), b ≠ a →
    (applyResults w a rs).procs b = w.procs b
  | [], _, _, _ => rfl
  | (t0, none) :: rest, w, b, h => by
    simp only [applyResults]
    rw [applyResults_other a rest _ b h]
    simp [WorkerSt.notifyPending, modProc_procs_other _ _ _ _ h]
  | (t0, some r) :: rest, w, b, h => by
    simp only [applyResults]
    rw [applyResults_other a rest _ b h, notifyResult_other _ _ _ _ _ h]

/-- the await registry of the worker (`awaiters_for_target`, `awaited`) is untouched -/
structure SameRegs (w w' : WorkerSt) : Prop where
  awaitersFor : w'.awaitersFor = w.awaitersFor
  awaited : w'.awaited = w.awaited

omit [Cfg] in
theorem Helper.sameRegs {w w' : WorkerSt} (h : Helper w w') : SameRegs w w' := ⟨h.awaitersFor, h.awaited⟩

theorem finish_regs {w w1 : WorkerSt} (h : SameRegs w w1) (cur : Pid) (x : Proc) (ordQ : List Pid) :
    SameRegs w (w1.finish cur x ordQ) :=
  have hf := Helper.finish w1 cur x ordQ
  ⟨hf.awaitersFor.trans h.awaitersFor, hf.awaited.trans h.awaited⟩

omit [Cfg] in
theorem PUpd.result {x x' : Proc} (h : PUpd x x') : x'.result = x.result := by
  induction h with
  | released x => exact releaseDead_result x
  | trans _ _ h1 h2 => exact h2.trans h1
  | _ => rfl

omit [Cfg] in
theorem PUpd.regs {x x' : Proc} (h : PUpd x x') : x'.regs = x.regs := by
  induction h with
  | released x => exact releaseDead_regs x
  | trans _ _ h1 h2 => exact h2.trans h1
  | _ => rfl

/-! ### `query_and_await` -/

/-- `query_and_await` in closed form: every target is answered with its status; the awaiter is registered for exactly
the targets without one; nothing else changes -/
structure QuerySpec (w : WorkerSt) (a : Pid) (ts : List Pid) (w' : WorkerSt) (rs : Results) : Prop where
  procs : w'.procs = w.procs
  queue : w'.queue = w.queue
  spawning : w'.spawning = w.spawning
  selecting : w'.selecting = w.selecting
  pids : w'.pids = w.pids
  ans : ∀ t, alookup rs t = if t ∈ ts then some (w.completedStatus t) else none
  nodup : (rs.map (·.1)).Nodup
  reg : ∀ b t, b ∈ w'.awaitersFor t ↔ b ∈ w.awaitersFor t ∨ (b = a ∧ t ∈ ts ∧ w.completedStatus t = none)
  awaited : ∀ t, t ∈ w'.awaited ↔ t ∈ w.awaited ∨ (t ∈ ts ∧ w.completedStatus t = none)

theorem queryTargets_spec' (a : Pid) : ∀ (ts : List Pid) (w : WorkerSt),
    QuerySpec w a ts (queryTargets w a ts).1 (queryTargets w a ts).2
  | [], w => ⟨rfl, rfl, rfl, rfl, rfl, fun _ => rfl, List.nodup_nil, fun _ _ => by simp [queryTargets], fun _ => by simp [queryTargets]⟩
  | t0 :: rest, w => by
    unfold queryTargets
    cases hc : w.completedStatus t0 with
    | some r =>
      have ih := queryTargets_spec' a rest w
      refine ⟨ih.procs, ih.queue, ih.spawning, ih.selecting, ih.pids, fun t => ?_, ainsert_nodup _ _ _ ih.nodup,
        fun b t => ?_, fun t => ?_⟩
      · rw [alookup_ainsert, ih.ans t]
        by_cases ht : t0 = t
        · subst ht; simp [hc]
        · simp [ht, Ne.symm ht]
      · rw [ih.reg b t]
        by_cases ht : t = t0
        · subst ht; simp [hc]
        · simp [ht]
      · rw [ih.awaited t]
        by_cases ht : t = t0
        · subst ht; simp [hc]
        · simp [ht]
    | none =>
      have ih := queryTargets_spec' a rest
        { w with awaited := sinsert w.awaited t0, awaitersFor := upd w.awaitersFor t0 (w.awaitersFor t0 ++ [a]) }
      have hcs : ∀ t, ({ w with awaited := sinsert w.awaited t0, awaitersFor := upd w.awaitersFor t0 (w.awaitersFor t0 ++ [a]) } : WorkerSt).completedStatus t =
          w.completedStatus t := fun _ => rfl
      refine ⟨ih.procs, ih.queue, ih.spawning, ih.selecting, ih.pids, fun t => ?_, ainsert_nodup _ _ _ ih.nodup,
        fun b t => ?_, fun t => ?_⟩
      · rw [alookup_ainsert, ih.ans t]
        by_cases ht : t0 = t
        · subst ht; simp [hc]
        · simp [ht, Ne.symm ht, hcs]
      · rw [ih.reg b t]
        simp only [hcs]
        by_cases ht : t = t0
        · subst ht; simp [hc, upd_same]; exact fun h _ => .inr h
        · simp [ht]
      · rw [ih.awaited t]
        simp only [hcs, mem_sinsert]
        by_cases ht : t = t0
        · subst ht; simp [hc]
        · simp [ht]

theorem QuerySpec.keys {w w' : WorkerSt} {a : Pid} {ts : List Pid} {rs : Results} (h : QuerySpec w a ts w' rs) {k : Pid}
    (hk : k ∈ rs.map (·.1)) : k ∈ ts := by
  have := alookup_isSome_iff.mpr hk
  rw [h.ans k] at this
  split at this
  · assumption
  · cases this

end QM.Sys
