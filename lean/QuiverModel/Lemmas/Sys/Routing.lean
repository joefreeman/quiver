import QuiverModel.Lemmas.Sys.Step
/-
The routing invariant of M-Sys (`RInv`): every pid that occurs anywhere (queues, registers,
awaiter tables) has been allocated by the environment and is routed; a process lives on the
worker the router names; commands sit in the queue of the worker they concern; no
`EnvironmentError` has occurred.  Kept by every step (`RInv.step`).

Also here: the time slice as a relation (`SliceW`, `slice_view`).
-/
namespace QM.Sys
set_option linter.unusedSectionVars false
variable [Cfg]

abbrev Router := Pid → Option Wid

def Routed (router : Router) (p : Pid) : Prop := (router p).isSome

/-- `r'` extends `r` (the router only ever gains fresh pids). -/
def Ext (r r' : Router) : Prop := ∀ p w, r p = some w → r' p = some w

theorem Ext.refl (r : Router) : Ext r r := fun _ _ h => h
theorem Ext.routed {r r' : Router} (h : Ext r r') {p : Pid} (hp : Routed r p) : Routed r' p := by
  unfold Routed at *
  match hr : r p with
  | some w => simp [h p w hr]
  | none => simp [hr] at hp

/-- A command queued at worker `w` is one the environment sends after start-up, addressed to processes routed to `w`
(`known`: the processes `w` has).  `start` and `resume` are queued by `Repl::evaluate` only, before the first step: they are
not admitted, so `RInv` is an invariant of the states after start-up (`Started`, Start.lean), not of `Sys.init`. -/
def CmdOK (router : Router) (plen : Nat) (known : Pid → Prop) (w : Wid) : Cmd → Prop
  | .misc => True
  | .start _ => False
  | .resume _ _ => False
  | .spawn p fn regs => router p = some w ∧ fn < plen ∧ ∀ q ∈ regs, Routed router q
  | .notifySpawn c p => router c = some w ∧ Routed router p
  | .deliver t _ => router t = some w
  | .queryAwait a ts => Routed router a ∧ ∀ t ∈ ts, router t = some w
  | .updateAwait a _ => router a = some w
  | .getResult _ p => known p

/-- An event in the queue of worker `w` comes from a process of `w` (for a message: its ghost sender `m.src`) and names
routed pids only. -/
def EvtOK (router : Router) (plen : Nat) (w : Wid) : Evt → Prop
  | .spawn c fn regs _ => router c = some w ∧ fn < plen ∧ ∀ q ∈ regs, Routed router q
  | .deliver t m => router m.src = some w ∧ Routed router t
  | .await a ts => router a = some w ∧ ∀ t ∈ ts, Routed router t
  | .procResults a rs => Routed router a ∧ ∀ tr ∈ rs, router tr.1 = some w
  | .resultResp _ _ => True
  | .exited _ => True

theorem CmdOK.mono {r r' : Router} {plen : Nat} {known known' : Pid → Prop} {w : Wid} {c : Cmd}
    (he : Ext r r') (hk : ∀ p, known p → known' p) (h : CmdOK r plen known w c) : CmdOK r' plen known' w c := by
  match c, h with
  | .misc, _ => trivial
  | .spawn _ _ _, h => exact ⟨he _ _ h.1, h.2.1, fun q hq => he.routed (h.2.2 q hq)⟩
  | .notifySpawn _ _, h => exact ⟨he _ _ h.1, he.routed h.2⟩
  | .deliver _ _, h => exact he _ _ h
  | .queryAwait _ _, h => exact ⟨he.routed h.1, fun t ht => he _ _ (h.2 t ht)⟩
  | .updateAwait _ _, h => exact he _ _ h
  | .getResult _ _, h => exact hk _ h

theorem EvtOK.mono {r r' : Router} {plen : Nat} {w : Wid} {e : Evt}
    (he : Ext r r') (h : EvtOK r plen w e) : EvtOK r' plen w e := by
  match e, h with
  | .spawn _ _ _ _, h => exact ⟨he _ _ h.1, h.2.1, fun q hq => he.routed (h.2.2 q hq)⟩
  | .deliver _ _, h => exact ⟨he _ _ h.1, he.routed h.2⟩
  | .await _ _, h => exact ⟨he _ _ h.1, fun t ht => he.routed (h.2 t ht)⟩
  | .procResults _ _, h => exact ⟨he.routed h.1, fun tr htr => he _ _ (h.2 tr htr)⟩
  | .resultResp _ _, _ => trivial
  | .exited _, _ => trivial

/-- Well-formed script table: every `spawn fn` names an existing script; script 0 exists. -/
def ProgWF (prog : Prog) : Prop :=
  0 < prog.length ∧ ∀ sc ∈ prog, ∀ fn pass, Act.spawn fn pass ∈ sc → fn < prog.length

/-- worker `w` has a record for `p` -/
def known (s : Sys) (w : Wid) (p : Pid) : Prop := ((s.wk w).procs p).isSome

structure RInv (s : Sys) : Prop where
  nofault : s.fault = false
  progwf : ProgWF s.prog
  below : ∀ p w, s.env.router p = some w → p < s.env.nextPid
  zero : Routed s.env.router 0
  wbound : ∀ p w, s.env.router p = some w → w < s.n
  placed : ∀ w p, known s w p → s.env.router p = some w
  cmds : ∀ w c, c ∈ s.cmdQ w → CmdOK s.env.router s.prog.length (known s w) w c
  evts : ∀ w e, e ∈ s.evtQ w → EvtOK s.env.router s.prog.length w e
  regs : ∀ w p x, (s.wk w).procs p = some x → ∀ q ∈ x.regs, Routed s.env.router q
  awaiters : ∀ w t a, a ∈ (s.wk w).awaitersFor t → Routed s.env.router a

theorem RInv.one_worker {s : Sys} (h : RInv s) {w w' : Wid} {p : Pid} {x y : Proc}
    (hx : (s.wk w).procs p = some x) (hy : (s.wk w').procs p = some y) : w = w' := by
  have r1 := h.placed w p (by unfold known; rw [hx]; rfl)
  have r2 := h.placed w' p (by unfold known; rw [hy]; rfl)
  rw [r1] at r2; exact Option.some.inj r2

/-! ### environment micro-step -/

theorem ext_insert_fresh {s : Sys} (h : RInv s) (w : Wid) :
    Ext s.env.router (upd s.env.router s.env.nextPid (some w)) := by
  intro p w' hp
  have hlt := h.below p w' hp
  have hne : p ≠ s.env.nextPid := Nat.ne_of_lt hlt
  simp [hne, hp]

/-- Pushing a well-formed command preserves the invariant. -/
theorem RInv.pushCmd {s : Sys} (h : RInv s) (w : Wid) (c : Cmd)
    (hc : CmdOK s.env.router s.prog.length (known s w) w c) : RInv (s.pushCmd w c) := by
  refine { h with cmds := ?_ }
  intro w' c' hc'
  simp only [pushCmd_cmdQ] at hc'
  rcases mem_upd_append hc' with h1 | ⟨rfl, rfl⟩
  · exact h.cmds w' c' h1
  · exact hc

theorem RInv.popEvt {s : Sys} (h : RInv s) {w : Wid} {e : Evt} {rest : List Evt} (hq : s.evtQ w = e :: rest) :
    RInv { s with evtQ := upd s.evtQ w rest } ∧ EvtOK s.env.router s.prog.length w e := by
  refine ⟨{ h with evts := ?_ }, h.evts w e (by rw [hq]; simp)⟩
  intro w' e' he'
  exact h.evts w' e' (mem_upd_tail hq he')

theorem RInv.popCmd {s : Sys} (h : RInv s) {w : Wid} {c : Cmd} {rest : List Cmd} (hq : s.cmdQ w = c :: rest) :
    RInv { s with cmdQ := upd s.cmdQ w rest } ∧ CmdOK s.env.router s.prog.length (known s w) w c := by
  refine ⟨{ h with cmds := ?_ }, h.cmds w c (by rw [hq]; simp)⟩
  intro w' c' hc'
  exact h.cmds w' c' (mem_upd_tail hq hc')

/-- The first half of `handle_spawn`: the next pid is routed to `w` and its `SpawnProcess` sent there. -/
def Sys.alloc (s : Sys) (w : Wid) (fn : Nat) (regs : List Pid) : Sys :=
  ({ s with env := { s.env with nextPid := s.env.nextPid + 1, router := upd s.env.router s.env.nextPid (some w) } }).pushCmd w
    (.spawn s.env.nextPid fn regs)

/-- The second half: the caller's worker is told the new pid. -/
def Sys.reply (s : Sys) (cw : Wid) (caller newPid : Pid) : Sys :=
  { s.pushCmd cw (.notifySpawn caller newPid) with spawned := s.spawned ++ [(caller, newPid)] }

theorem handleSpawn_alloc {s : Sys} {caller : Pid} {fn : Nat} {regs : List Pid} {coloc : Option Pid} {cw : Wid}
    (hc : s.env.router caller = some cw) (hne : caller ≠ s.env.nextPid) :
    handleSpawn s caller fn regs coloc = (s.alloc (placement s coloc s.env.nextPid) fn regs).reply cw caller s.env.nextPid := by
  simp only [handleSpawn, Sys.alloc, Sys.reply, pushCmd_env, upd_other _ _ _ _ hne, hc]

theorem handleDeliver_eq {s : Sys} {t : Pid} {w : Wid} (h : s.env.router t = some w) (m : Msg) :
    handleDeliver s t m = s.pushCmd w (.deliver t m) := by
  simp only [handleDeliver, h]

theorem RInv.alloc {s : Sys} (h : RInv s) {w : Wid} {fn : Nat} {regs : List Pid} (hw : w < s.n) (hfn : fn < s.prog.length)
    (hregs : ∀ q ∈ regs, Routed s.env.router q) : RInv (s.alloc w fn regs) := by
  have hext := ext_insert_fresh h w
  have h1 : RInv { s with env := { s.env with nextPid := s.env.nextPid + 1, router := upd s.env.router s.env.nextPid (some w) } } :=
    { nofault := h.nofault, progwf := h.progwf, zero := hext.routed h.zero
      below := fun p w' hp => by
        simp only [upd_apply] at hp
        split at hp
        · rename_i e; exact e ▸ Nat.lt_succ_self _
        · exact Nat.lt_succ_of_lt (h.below p w' hp)
      wbound := fun p w' hp => by
        simp only [upd_apply] at hp
        split at hp
        · cases hp; exact hw
        · exact h.wbound p w' hp
      placed := fun w' p hp => hext _ _ (h.placed w' p hp)
      cmds := fun w' c hc => (h.cmds w' c hc).mono hext (fun _ hk => hk)
      evts := fun w' e he => (h.evts w' e he).mono hext
      regs := fun w' p x hx q hq => hext.routed (h.regs w' p x hx q hq)
      awaiters := fun w' t a ha => hext.routed (h.awaiters w' t a ha) }
  exact h1.pushCmd w _ ⟨upd_same _ _ _, hfn, fun q hq => hext.routed (hregs q hq)⟩

theorem RInv.reply {s : Sys} (h : RInv s) {cw : Wid} {caller newPid : Pid} (hc : s.env.router caller = some cw)
    (hnew : Routed s.env.router newPid) : RInv (s.reply cw caller newPid) :=
  { h.pushCmd cw (.notifySpawn caller newPid) ⟨hc, hnew⟩ with }

theorem placement_lt {s : Sys} (h : RInv s) (coloc : Option Pid) (p : Pid) : placement s coloc p < s.n := by
  unfold placement
  split
  · rename_i w' hb
    obtain ⟨o, _, ho⟩ := Option.bind_eq_some_iff.mp hb
    exact h.wbound o w' ho
  · exact Nat.mod_lt _ (Nat.lt_of_le_of_lt (Nat.zero_le _) (h.wbound 0 _ (Option.get_mem h.zero)))

theorem RInv.handleSpawn {s : Sys} (h : RInv s) {w0 : Wid} {caller : Pid} {fn : Nat} {regs : List Pid} {coloc : Option Pid}
    (he : EvtOK s.env.router s.prog.length w0 (.spawn caller fn regs coloc)) :
    RInv (handleSpawn s caller fn regs coloc) := by
  obtain ⟨hc, hfn, hregs⟩ := he
  rw [handleSpawn_alloc hc (Nat.ne_of_lt (h.below caller w0 hc))]
  exact (h.alloc (placement_lt h coloc _) hfn hregs).reply (ext_insert_fresh h _ _ _ hc) (by simp [Routed, Sys.alloc])

theorem RInv.handleDeliver {s : Sys} (h : RInv s) {w0 : Wid} {t : Pid} {m : Msg}
    (he : EvtOK s.env.router s.prog.length w0 (.deliver t m)) : RInv (handleDeliver s t m) := by
  obtain ⟨w, hr⟩ := Option.isSome_iff_exists.mp he.2
  rw [handleDeliver_eq hr]
  exact h.pushCmd w _ hr

theorem targetWorkers_mem {router : Router} {ts : List Pid} {w : Wid} (h : w ∈ targetWorkers router ts) :
    ∃ t ∈ ts, router t = some w := by
  induction ts with
  | nil => simp [targetWorkers] at h
  | cons t rest ih =>
    unfold targetWorkers at h
    simp only [] at h
    split at h
    · rename_i w' hw'
      simp only [List.mem_cons, List.mem_filter] at h
      rcases h with h | h
      · subst h; exact ⟨t, by simp, hw'⟩
      · obtain ⟨t', ht', hr⟩ := ih h.1; exact ⟨t', by simp [ht'], hr⟩
    · obtain ⟨t', ht', hr⟩ := ih h; exact ⟨t', by simp [ht'], hr⟩

omit [Cfg] in
theorem mem_targetWorkers {router : Router} : ∀ {ts : List Pid} {t : Pid} {w : Wid},
    t ∈ ts → router t = some w → w ∈ targetWorkers router ts
  | [], _, _, h, _ => by cases h
  | t0 :: rest, t, w, h, hr => by
    unfold targetWorkers
    rcases List.mem_cons.mp h with rfl | h
    · rw [hr]; simp
    · have ih := mem_targetWorkers h hr
      cases h0 : router t0 with
      | none => simpa using ih
      | some w0 =>
        simp only []
        by_cases hw : w = w0
        · subst hw; simp
        · exact List.mem_cons_of_mem _ (List.mem_filter.mpr ⟨ih, by simpa using hw⟩)

theorem handleAwait_invariant {P : Sys → Prop} {s : Sys} {a : Pid} {ts : List Pid} (hts : ∀ t ∈ ts, Routed s.env.router t)
    (hpend : ∀ pa, P { s with env := { s.env with pending := upd s.env.pending a pa } })
    (hpush : ∀ s' w ts', s'.env.router = s.env.router → (∀ t ∈ ts', s.env.router t = some w) → P s' →
      P (s'.pushCmd w (.queryAwait a ts'))) :
    P (handleAwait s a ts) := by
  unfold handleAwait
  rw [if_neg]
  · refine (foldl_invariant (fun s' => s'.env.router = s.env.router ∧ P s') _ ?_ _ _ ⟨rfl, hpend _⟩).2
    intro s' w h'
    exact ⟨h'.1, hpush s' w _ h'.1 (fun t ht => of_decide_eq_true (List.mem_filter.mp ht).2) h'.2⟩
  · intro hany
    obtain ⟨t, ht, hn⟩ := List.any_eq_true.mp hany
    have := hts t ht
    rw [Routed, Option.isNone_iff_eq_none.mp hn] at this
    cases this

theorem handleProcResults_invariant {P : Sys → Prop} (combine : Option Results → Results → Results) {s : Sys} {a : Pid}
    {aw : Wid} (rs : Results) (ha : s.env.router a = some aw) (h : P s)
    (hpend : ∀ pa, P { s with env := { s.env with pending := upd s.env.pending a pa } })
    (hpush : ∀ s' rs', s'.env.router = s.env.router → P s' → P (s'.pushCmd aw (.updateAwait a rs'))) :
    P (handleProcResultsWith combine s a rs) := by
  unfold handleProcResultsWith
  dsimp only
  split
  · split
    · exact h
    · split
      · rw [ha]; exact hpush _ _ rfl (hpend _)
      · exact hpend _
  · rw [ha]; exact hpush _ _ rfl h

theorem RInv.handleAwait {s : Sys} (h : RInv s) {w0 : Wid} {a : Pid} {ts : List Pid}
    (he : EvtOK s.env.router s.prog.length w0 (.await a ts)) : RInv (handleAwait s a ts) :=
  handleAwait_invariant he.2 (fun _ => { h with }) fun _ w _ hr hts h' =>
    h'.pushCmd w _ ⟨hr ▸ Option.isSome_iff_exists.mpr ⟨w0, he.1⟩, fun t ht => hr ▸ hts t ht⟩

theorem RInv.handleProcResults {s : Sys} (h : RInv s) (combine) {w0 : Wid} {a : Pid} {rs : Results}
    (he : EvtOK s.env.router s.prog.length w0 (.procResults a rs)) : RInv (handleProcResultsWith combine s a rs) := by
  obtain ⟨aw, ha⟩ := Option.isSome_iff_exists.mp he.1
  exact handleProcResults_invariant combine rs ha h (fun _ => { h with }) fun _ _ hr h' => h'.pushCmd aw _ (hr ▸ ha)

theorem RInv.env {s : Sys} (h : RInv s) (combine) {w : Wid} {e : Evt} {rest : List Evt} (hq : s.evtQ w = e :: rest) :
    RInv (handleEventWith combine { s with evtQ := upd s.evtQ w rest } e) := by
  obtain ⟨h1, he⟩ := h.popEvt hq
  cases e with
  | spawn c fn regs coloc => exact h1.handleSpawn he
  | deliver t m => exact h1.handleDeliver he
  | await a ts => exact h1.handleAwait he
  | procResults a rs => exact h1.handleProcResults combine he
  | resultResp req r => exact { h1 with }
  | exited p => exact h1

/-! ### worker side -/

/-- `w'` has the same processes (same pids, same registers) and awaiter table as `w`. -/
structure SameProcs (w w' : WorkerSt) : Prop where
  dom : ∀ p, (w'.procs p).isSome = (w.procs p).isSome
  regs : ∀ p x', w'.procs p = some x' → ∃ x, w.procs p = some x ∧ x'.regs = x.regs
  awaiters : w'.awaitersFor = w.awaitersFor

theorem SameProcs.refl (w : WorkerSt) : SameProcs w w :=
  ⟨fun _ => rfl, fun _ x' h => ⟨x', h, rfl⟩, rfl⟩

theorem SameProcs.trans {a b c : WorkerSt} (h1 : SameProcs a b) (h2 : SameProcs b c) : SameProcs a c := by
  refine ⟨fun p => (h2.dom p).trans (h1.dom p), ?_, h2.awaiters.trans h1.awaiters⟩
  intro p x' hx'
  obtain ⟨y, hy, e1⟩ := h2.regs p x' hx'
  obtain ⟨x, hx, e2⟩ := h1.regs p y hy
  exact ⟨x, hx, e1.trans e2⟩

/-- changing only scheduling sets / awaited / request tables -/
theorem SameProcs.of_eq {w w' : WorkerSt} (hp : w'.procs = w.procs) (ha : w'.awaitersFor = w.awaitersFor) : SameProcs w w' :=
  ⟨fun p => by rw [hp], fun p x' h => ⟨x', by rw [← hp]; exact h, rfl⟩, ha⟩

theorem SameProcs.updProc {w : WorkerSt} {p : Pid} {x x' : Proc} (hx : w.procs p = some x) (hr : x'.regs = x.regs)
    {w' : WorkerSt} (hp : w'.procs = upd w.procs p (some x')) (ha : w'.awaitersFor = w.awaitersFor) : SameProcs w w' := by
  refine ⟨?_, ?_, ha⟩
  · intro q; rw [hp]; by_cases e : q = p
    · subst e; simp [hx]
    · simp [e]
  · intro q y hy; rw [hp] at hy; by_cases e : q = p
    · subst e; simp at hy; subst hy; exact ⟨x, hx, hr⟩
    · simp [e] at hy; exact ⟨y, hy, rfl⟩

theorem Helper.sameProcs {w w' : WorkerSt} (h : Helper w w') : SameProcs w w' := by
  refine ⟨fun p => ?_, fun p x' hx' => ?_, h.awaitersFor⟩
  · rcases h.procs p with ⟨e1, e2⟩ | ⟨x, x', e1, e2, _⟩ <;> rw [e1, e2] <;> rfl
  · rcases h.procs p with ⟨_, e2⟩ | ⟨x, y, e1, e2, u⟩
    · rw [e2] at hx'; cases hx'
    · rw [e2] at hx'; cases hx'; exact ⟨x, e1, u.regs⟩

theorem SameProcs.wakeSelecting (w : WorkerSt) (p : Pid) : SameProcs w (w.wakeSelecting p) := (Helper.wakeSelecting w p).sameProcs

theorem SameProcs.markActive (w : WorkerSt) (p : Pid) : SameProcs w (w.markActive p) := by
  unfold WorkerSt.markActive; split
  · exact SameProcs.of_eq rfl rfl
  · exact SameProcs.refl w

theorem SameProcs.notifyResult (w : WorkerSt) (a t : Pid) (r : Res) : SameProcs w (w.notifyResult a t r) :=
  (Helper.notifyResult w a t r).sameProcs

theorem SameProcs.applyResults (a : Pid) (rs : Results) (w : WorkerSt) : SameProcs w (applyResults w a rs) :=
  (Helper.applyResults a rs w).sameProcs

theorem SameProcs.foldl {α : Type} (f : WorkerSt → α → WorkerSt) (hf : ∀ w a, SameProcs w (f w a)) :
    ∀ (l : List α) (w : WorkerSt), SameProcs w (l.foldl f w) :=
  foldl_rel_of_step SameProcs.refl SameProcs.trans f hf

theorem SameProcs.release (w : WorkerSt) (cur : Pid) : SameProcs w (w.release cur) := (Helper.release w cur).sameProcs

theorem SameProcs.finish {w : WorkerSt} {cur : Pid} {x0 x : Proc} (hx : w.procs cur = some x0) (hr : x.regs = x0.regs)
    (ordQ : List Pid) : SameProcs w (w.finish cur x ordQ) :=
  SameProcs.trans (b := { w with procs := upd w.procs cur (some { x with result := some x.finalRes }) })
    (SameProcs.updProc (x' := { x with result := some x.finalRes }) hx hr rfl rfl) (Helper.finish w cur x ordQ).sameProcs

theorem RInv.setWk {s : Sys} (h : RInv s) (i : Wid) {w' : WorkerSt}
    (hdom : ∀ p, ((s.wk i).procs p).isSome → (w'.procs p).isSome)
    (hplaced : ∀ p, (w'.procs p).isSome → s.env.router p = some i)
    (hregs : ∀ p x, w'.procs p = some x → ∀ q ∈ x.regs, Routed s.env.router q)
    (haw : ∀ t a, a ∈ w'.awaitersFor t → Routed s.env.router a) :
    RInv (s.setWk i w') := by
  refine { nofault := h.nofault, progwf := h.progwf, below := h.below, zero := h.zero, wbound := h.wbound, placed := ?_, cmds := ?_,
           evts := h.evts, regs := ?_, awaiters := ?_ }
  · intro w p hp
    unfold known at hp; simp only [setWk_wk, upd_apply] at hp
    split at hp
    · rename_i e; subst e; exact hplaced p hp
    · exact h.placed w p hp
  · intro w c hc
    refine (h.cmds w c hc).mono (Ext.refl _) ?_
    intro p hp
    unfold known at *; simp only [setWk_wk, upd_apply]
    split
    · rename_i e; subst e; exact hdom p hp
    · exact hp
  · intro w p x hx q hq
    simp only [setWk_wk, upd_apply] at hx
    split at hx
    · rename_i e; subst e; exact hregs p x hx q hq
    · exact h.regs w p x hx q hq
  · intro w t a ha
    simp only [setWk_wk, upd_apply] at ha
    split at ha
    · rename_i e; subst e; exact haw t a ha
    · exact h.awaiters w t a ha

theorem RInv.emit {s : Sys} (h : RInv s) (i : Wid) {evs : List Evt} (hevs : ∀ e ∈ evs, EvtOK s.env.router s.prog.length i e) :
    RInv (s.emit i evs) := by
  refine { h with evts := fun w e he => ?_ }
  dsimp only [Sys.emit] at he
  rw [upd_snoc_apply, List.mem_append] at he
  refine he.elim (h.evts w e) fun he => ?_
  split at he
  · rename_i hw; exact hw ▸ hevs e he
  · cases he

/-- a committed output keeps the invariant if its worker state does (as in `RInv.setWk`) and its events are well-formed -/
theorem RInv.commit_of {s : Sys} (h : RInv s) (i : Wid) {o : Out}
    (hdom : ∀ p, ((s.wk i).procs p).isSome → (o.wk.procs p).isSome)
    (hplaced : ∀ p, (o.wk.procs p).isSome → s.env.router p = some i)
    (hregs : ∀ p x, o.wk.procs p = some x → ∀ q ∈ x.regs, Routed s.env.router q)
    (haw : ∀ t a, a ∈ o.wk.awaitersFor t → Routed s.env.router a)
    (hevs : ∀ e ∈ o.evs, EvtOK s.env.router s.prog.length i e) : RInv (s.commit i o) :=
  have h1 := (h.setWk i hdom hplaced hregs haw).emit i hevs
  { nofault := h1.nofault, progwf := h1.progwf, below := h1.below, zero := h1.zero, wbound := h1.wbound, placed := h1.placed,
    cmds := h1.cmds, evts := h1.evts, regs := h1.regs, awaiters := h1.awaiters }

theorem RInv.commit {s : Sys} (h : RInv s) (i : Wid) {o : Out} (hs : SameProcs (s.wk i) o.wk)
    (hevs : ∀ e ∈ o.evs, EvtOK s.env.router s.prog.length i e) : RInv (s.commit i o) :=
  h.commit_of i (fun p hp => (hs.dom p).symm ▸ hp) (fun p hp => h.placed i p ((hs.dom p).symm.trans hp))
    (fun p x hx q hq => have ⟨x0, hx0, e⟩ := hs.regs p x hx; h.regs i p x0 hx0 q (e ▸ hq))
    (fun t a ha => h.awaiters i t a (hs.awaiters ▸ ha)) hevs

/-- a command the routing invariant admits does not fault -/
theorem CmdOK.not_fault {router : Router} {prog : Prog} {w : WorkerSt} {i : Wid} {c : Cmd}
    (hc : CmdOK router prog.length (fun p => (w.procs p).isSome) i c) : ¬ CmdFault prog w c := by
  intro hf
  cases hf with
  | resume p fn => exact hc
  | spawn p fn regs hfn => exact Nat.not_le.mpr hc.2.1 hfn
  | getResult req p hx => have hc' : (w.procs p).isSome = true := hc; rw [hx] at hc'; cases hc'

theorem CmdOK.no_restart {router : Router} {plen : Nat} {known : Pid → Prop} {i : Wid} {c : Cmd} (h : CmdOK router plen known i c) :
    (∀ p fn, c ≠ .resume p fn) ∧ ∀ p, c ≠ .start p :=
  ⟨fun p fn e => by subst e; exact h.elim, fun p e => by subst e; exact h.elim⟩

/-! ### the time slice -/

theorem reg_routed {router : Router} {p : Proc} (hz : Routed router 0) (hr : ∀ q ∈ p.regs, Routed router q) (r : Nat) :
    Routed router (p.reg r) := by
  unfold Proc.reg
  rw [List.getD_eq_getElem?_getD]
  cases h : p.regs[r]? with
  | none => simpa using hz
  | some q => simpa using hr q (List.mem_of_getElem? h)

theorem selTargets_routed {router : Router} {p : Proc} (hz : Routed router 0) (hr : ∀ q ∈ p.regs, Routed router q) :
    ∀ (srcs : List Src), ∀ t ∈ selTargets p srcs, Routed router t
  | [], t, ht => by simp [selTargets] at ht
  | .proc r :: rest, t, ht => by
    simp only [selTargets, List.mem_cons] at ht
    rcases ht with rfl | ht
    · exact reg_routed hz hr r
    · exact selTargets_routed hz hr rest t ht
  | .recv _ :: rest, t, ht => by
    simp only [selTargets] at ht; exact selTargets_routed hz hr rest t ht
  | .timeout _ :: rest, t, ht => by
    simp only [selTargets] at ht; exact selTargets_routed hz hr rest t ht

theorem script_mem {prog : Prog} {p : Proc} {a : Act} (h : (p.script prog)[p.pc]? = some a) :
    ∃ sc ∈ prog, a ∈ sc := by
  unfold Proc.script at h
  rw [List.getD_eq_getElem?_getD] at h
  cases hf : prog[p.fn]? with
  | none => simp [hf] at h
  | some sc =>
    simp [hf] at h
    exact ⟨sc, List.mem_of_getElem? hf, List.mem_of_getElem? h⟩

/-- the action a time slice of `self` ends in names routed pids and an existing script -/
def OutOK (router : Router) (plen : Nat) (self : Pid) : Outcome → Prop
  | .send t m => Routed router t ∧ m.src = self
  | .spawn fn regs => fn < plen ∧ ∀ q ∈ regs, Routed router q
  | .awaitInit ts => ∀ t ∈ ts, Routed router t
  | _ => True

/-- One time slice, attempt by attempt (`slice` with the fuel forgotten): the process afterwards and how the slice ended. -/
inductive SliceW (prog : Prog) (now : Nat) (self : Pid) : Proc → Proc → Outcome → Prop
  | cont (p : Proc) : SliceW prog now self p p .cont
  | done {p : Proc} (h : (p.script prog)[p.pc]? = none) : SliceW prog now self p p .done
  | send {p : Proc} {r tag seq : Nat} (h : (p.script prog)[p.pc]? = some (.send r tag seq)) :
      SliceW prog now self p { p with pc := p.pc + 1 } (.send (p.reg r) { src := self, tag := tag, seq := seq })
  | respawn {p : Proc} {fn : Nat} {pass : List Nat} (h : (p.script prog)[p.pc]? = some (.spawn fn pass)) (hi : p.spawnIssued = true) :
      SliceW prog now self p { p with result := some .err } .failed
  | spawn {p : Proc} {fn : Nat} {pass : List Nat} (h : (p.script prog)[p.pc]? = some (.spawn fn pass)) (hi : ¬ p.spawnIssued = true) :
      SliceW prog now self p { p with spawnIssued := true } (.spawn fn (pass.map p.reg))
  | fail {p : Proc} (h : (p.script prog)[p.pc]? = some .fail) : SliceW prog now self p { p with result := some .err } .failed
  | selStart {p p' : Proc} {out : Outcome} {srcs : List Src} (h : (p.script prog)[p.pc]? = some (.select srcs))
      (hi : (!p.selInit) = true) (ht : (selTargets p srcs).isEmpty = true)
      (rec : SliceW prog now self { p with selInit := true, selStart := some now } p' out) : SliceW prog now self p p' out
  | selAwait {p : Proc} {srcs : List Src} (h : (p.script prog)[p.pc]? = some (.select srcs))
      (hi : (!p.selInit) = true) (ht : ¬ (selTargets p srcs).isEmpty = true) :
      SliceW prog now self p
        { p with selInit := true, selStart := none, unanswered := selTargets p srcs,
                 awaiting := (selTargets p srcs).foldl (fun a t => ainsert a t none) p.awaiting } (.awaitInit (selTargets p srcs))
  | selGate {p : Proc} {srcs : List Src} (h : (p.script prog)[p.pc]? = some (.select srcs))
      (hi : ¬ (!p.selInit) = true) (hg : (Cfg.selectWaits && !p.unanswered.isEmpty) = true) : SliceW prog now self p p .blocked
  | selYes {p p' : Proc} {out : Outcome} {srcs : List Src} {v : Val} {mb : List Msg} (h : (p.script prog)[p.pc]? = some (.select srcs))
      (hi : ¬ (!p.selInit) = true) (hg : ¬ (Cfg.selectWaits && !p.unanswered.isEmpty) = true)
      (hr : firstReady { p with selStart := some (p.selStart.getD now) } now (p.selStart.getD now) srcs = .yes v mb)
      (rec : SliceW prog now self
        { p with selStart := none, pc := p.pc + 1, selInit := false, acc := p.acc ++ [v], mailbox := mb, unanswered := [],
                 awaiting := p.awaiting.filter (fun kv => kv.1 ∉ selTargets p srcs),
                 awaitFailed := p.awaitFailed.filter (· ∉ selTargets p srcs) } p' out) : SliceW prog now self p p' out
  | selFail {p : Proc} {srcs : List Src} (h : (p.script prog)[p.pc]? = some (.select srcs))
      (hi : ¬ (!p.selInit) = true) (hg : ¬ (Cfg.selectWaits && !p.unanswered.isEmpty) = true)
      (hr : firstReady { p with selStart := some (p.selStart.getD now) } now (p.selStart.getD now) srcs = .fail) :
      SliceW prog now self p { p with selStart := some (p.selStart.getD now), result := some .err } .failed
  | selNo {p : Proc} {srcs : List Src} (h : (p.script prog)[p.pc]? = some (.select srcs))
      (hi : ¬ (!p.selInit) = true) (hg : ¬ (Cfg.selectWaits && !p.unanswered.isEmpty) = true)
      (hr : firstReady { p with selStart := some (p.selStart.getD now) } now (p.selStart.getD now) srcs = .no) :
      SliceW prog now self p { p with selStart := some (p.selStart.getD now) } .blocked

theorem slice_view (prog : Prog) (now : Nat) (self : Pid) : ∀ (fuel : Nat) (p : Proc),
    SliceW prog now self p (slice prog now self fuel p).1 (slice prog now self fuel p).2
  | 0, p => .cont p
  | fuel + 1, p => by
    unfold slice
    split
    · rename_i h; exact .done h
    · rename_i h; exact .send h
    · rename_i h
      split
      · rename_i hi; exact .respawn h hi
      · rename_i hi; exact .spawn h hi
    · rename_i h; exact .fail h
    · rename_i srcs h
      split
      · rename_i hi
        dsimp only
        split
        · rename_i ht; exact .selStart h hi ht (slice_view prog now self fuel _)
        · rename_i ht; exact .selAwait h hi ht
      · rename_i hi
        split
        · rename_i hg; exact .selGate h hi hg
        · rename_i hg
          dsimp only
          split
          · rename_i v mb hr; exact .selYes h hi hg hr (slice_view prog now self fuel _)
          · rename_i hr; exact .selFail h hi hg hr
          · rename_i hr; exact .selNo h hi hg hr

/-- a time slice keeps the registers, and the result unless it fails -/
theorem SliceW.keeps {prog : Prog} {now : Nat} {self : Pid} {p p' : Proc} {out : Outcome} (h : SliceW prog now self p p' out) :
    p'.regs = p.regs ∧ (out = .failed ∨ p'.result = p.result) := by
  induction h with
  | selStart _ _ _ _ ih => exact ih
  | selYes _ _ _ _ _ ih => exact ih
  | respawn _ _ => exact ⟨rfl, Or.inl rfl⟩
  | fail _ => exact ⟨rfl, Or.inl rfl⟩
  | selFail _ _ _ _ => exact ⟨rfl, Or.inl rfl⟩
  | _ => exact ⟨rfl, Or.inr rfl⟩

theorem SliceW.ok {router : Router} {prog : Prog} (hwf : ProgWF prog) (hz : Routed router 0) {now : Nat} {self : Pid}
    {p p' : Proc} {out : Outcome} (h : SliceW prog now self p p' out) (hr : ∀ q ∈ p.regs, Routed router q) :
    OutOK router prog.length self out := by
  induction h with
  | selStart _ _ _ _ ih => exact ih hr
  | selYes _ _ _ _ _ ih => exact ih hr
  | send _ => exact ⟨reg_routed hz hr _, rfl⟩
  | @spawn p fn pass hact _ =>
    obtain ⟨sc, hsc, hm⟩ := script_mem hact
    exact ⟨hwf.2 sc hsc fn pass hm, fun q hq => by obtain ⟨r, _, rfl⟩ := List.mem_map.mp hq; exact reg_routed hz hr r⟩
  | selAwait _ _ _ => exact selTargets_routed hz hr _
  | _ => trivial

/-! ### executor step -/

theorem RInv.ghost {s : Sys} (h : RInv s) (sent appended dropped : List (Pid × Msg)) (spawned reported learned : List (Pid × Pid))
    (spawnNotified : List (Pid × Pid × Bool)) :
    RInv { s with sent := sent, appended := appended, dropped := dropped, spawned := spawned, reported := reported,
                  learned := learned, spawnNotified := spawnNotified } := { h with }

theorem ExecCase.sameProcs {prog : Prog} {now fuel : Nat} {ordQ : List Pid} {w w' : WorkerSt} {evs : List Evt}
    (h : ExecCase prog now fuel ordQ w w' evs) : SameProcs w w' := by
  have keeps : ∀ {cur : Pid} {x x' : Proc} {out : Outcome}, slice prog now cur fuel x = (x', out) → x'.regs = x.regs :=
    fun {cur x _ _} hsl => by have := (slice_view prog now cur fuel x).keeps.1; rwa [hsl] at this
  cases h with
  | idle procs _ regs => exact .of_eq procs regs.awaitersFor
  | ran _ hx hsl _ procs _ regs => exact .updProc hx (keeps hsl) procs regs.awaitersFor
  | @fin w1 cur x xf _ _ hx hxf procs _ regs =>
    have hr : xf.regs = x.regs := by
      rcases hxf with ⟨_, rfl⟩ | ⟨out, hsl, _⟩
      · rfl
      · exact keeps hsl
    exact (SameProcs.updProc hx hr procs regs.awaitersFor).trans (SameProcs.finish (by rw [procs, upd_same]) rfl ordQ)

theorem RInv.exec {s : Sys} (h : RInv s) (i : Wid) {fuel : Nat} {ordQ : List Pid} {o : Out}
    (ho : ExecStep s.prog s.now fuel ordQ ((s.wk i).checkExpired s.prog s.now ordQ) o) : RInv (s.commit i o) := by
  refine h.commit i ho.case.sameProcs fun e he => ?_
  cases ho with
  | idle _ => cases he
  | gone _ _ _ _ => cases he
  | errored _ _ _ _ _ _ => cases mem_exitEvts he; trivial
  | ran cur rest x x' out _ hx _ hs =>
    have hcur : s.env.router cur = some i := h.placed i cur (by rw [known]; exact Option.isSome_iff_exists.mpr ⟨x, hx⟩)
    have hsl := (slice_view s.prog s.now cur fuel x).ok h.progwf h.zero (h.regs i cur x hx)
    rw [hs] at hsl
    rcases mem_sliceOut_evs he with rfl | ⟨t, m, rfl, rfl⟩ | ⟨fn, regs, rfl, rfl⟩ | ⟨ts, rfl, rfl⟩
    · trivial
    · exact ⟨hsl.2 ▸ hcur, hsl.1⟩
    · exact ⟨hcur, hsl⟩
    · exact ⟨hcur, hsl⟩

theorem queryTargets_spec (a : Pid) (ts : List Pid) (w : WorkerSt) :
    (queryTargets w a ts).1.procs = w.procs ∧
    (∀ t b, b ∈ (queryTargets w a ts).1.awaitersFor t → b ∈ w.awaitersFor t ∨ b = a) ∧
    (∀ k, k ∈ (queryTargets w a ts).2.map (·.1) → k ∈ ts) :=
  have q := queryTargets_spec' a ts w
  ⟨q.procs, fun t b hb => ((q.reg b t).mp hb).imp_right (·.1), fun _ => q.keys⟩

/-- rules whose `emptyWake` keeps the processes, their registers and the await registry (`SameProcs`: true of
`wakeSelecting` and `markActive`, which only move pids between the scheduling sets) -/
def Rules.Tame (R : Rules) : Prop := ∀ w p, SameProcs w (R.emptyWake w p)

theorem Rules.current_tame : Rules.current.Tame := fun w p => SameProcs.wakeSelecting w p
theorem Rules.replaceAnswers_tame : Rules.replaceAnswers.Tame := fun w p => SameProcs.wakeSelecting w p
theorem Rules.markActiveOnEmpty_tame : Rules.markActiveOnEmpty.Tame := fun w p => SameProcs.markActive w p
theorem Rules.wakeOnlyOnEmptyAnswer_tame : Rules.wakeOnlyOnEmptyAnswer.Tame := fun w p => SameProcs.wakeSelecting w p

/-- the output of a command the invariant admits keeps the invariant (`s` is the state with the command already popped) -/
theorem RInv.cmdOut {s : Sys} (h : RInv s) {R : Rules} (hew : R.Tame) {i : Wid} {c : Cmd} {o : Out}
    (hc : CmdOK s.env.router s.prog.length (known s i) i c) (ho : CmdStep R s.prog (s.wk i) c o) : RInv (s.commit i o) := by
  have same : ∀ {o : Out}, SameProcs (s.wk i) o.wk → o.evs = [] → RInv (s.commit i o) := fun hs he =>
    h.commit i hs (he ▸ nofun)
  cases ho with
  | misc => exact same (.refl _) rfl
  | start p => exact hc.elim
  | resume p fn x v => exact hc.elim
  | spawn p fn regs =>
    refine h.commit_of i ?_ ?_ ?_ (h.awaiters i) nofun
    · intro q hq
      simp only [WorkerSt.setProc, upd_apply]; split
      · rfl
      · exact hq
    · intro q hq
      simp only [WorkerSt.setProc, upd_apply] at hq
      split at hq
      · rename_i e; exact e ▸ hc.1
      · exact h.placed i q hq
    · intro q x hx r hr
      simp only [WorkerSt.setProc, upd_apply] at hx
      split at hx
      · cases hx
        exact (List.mem_cons.mp hr).elim (fun e => e ▸ Option.isSome_iff_exists.mpr ⟨i, hc.1⟩) (hc.2.2 r)
      · exact h.regs i q x hx r hr
  | notifyNone caller newPid hx => exact same (.of_eq rfl rfl) rfl
  | notifySome caller newPid x hx =>
    generalize ho : Out.mk _ _ _ _ _ _ _ _ _ = o
    have hp : o.wk.procs = upd (s.wk i).procs caller (some { x with regs := x.regs ++ [newPid], pc := x.pc + 1, spawnIssued := false }) := by
      subst ho; dsimp only; split <;> rfl
    have ha : o.wk.awaitersFor = (s.wk i).awaitersFor := by subst ho; dsimp only; split <;> rfl
    have he : o.evs = [] := by subst ho; rfl
    refine h.commit_of i ?_ ?_ ?_ (ha ▸ h.awaiters i) (he ▸ nofun) <;> rw [hp]
    · intro p hp
      simp only [upd_apply]; split
      · rfl
      · exact hp
    · intro p hp
      simp only [upd_apply] at hp
      split at hp
      · rename_i e; exact e ▸ h.placed i caller (by rw [known, hx]; rfl)
      · exact h.placed i p hp
    · intro p y hy r hr
      simp only [upd_apply] at hy
      split at hy
      · cases hy
        exact (List.mem_append.mp hr).elim (h.regs i caller x hx r) fun hr => List.mem_singleton.mp hr ▸ hc.2
      · exact h.regs i p y hy r hr
  | deliverNone t m hx => exact same (.wakeSelecting _ _) rfl
  | deliverDead t m x hx => exact same (.wakeSelecting _ _) rfl
  | deliver t m x hx =>
    exact same (SameProcs.trans (SameProcs.updProc (x' := { x with mailbox := x.mailbox ++ [m] }) hx rfl
      (w' := { s.wk i with procs := upd (s.wk i).procs t (some { x with mailbox := x.mailbox ++ [m] }) }) rfl rfl)
      (SameProcs.wakeSelecting _ t)) rfl
  | queryAwait a ts =>
    have hq := queryTargets_spec a ts (s.wk i)
    refine h.commit_of i (fun p hp => by rw [hq.1]; exact hp) (fun p hp => h.placed i p (by rw [hq.1] at hp; exact hp))
      (fun p x hx => h.regs i p x (by rw [hq.1] at hx; exact hx))
      (fun t b hb => (hq.2.1 t b hb).elim (h.awaiters i t b) (· ▸ hc.1)) fun e he => ?_
    cases List.mem_singleton.mp he
    exact ⟨hc.1, fun tr htr => hc.2 _ (hq.2.2 _ (List.mem_map.mpr ⟨tr, htr, rfl⟩))⟩
  | updateAwait a rs =>
    refine same ?_ rfl
    dsimp only
    split
    · exact SameProcs.applyResults a rs _
    · exact (SameProcs.applyResults a rs _).trans (hew _ a)
  | getResult req p x r =>
    refine h.commit i (.refl _) fun e he => ?_
    cases List.mem_singleton.mp he
    trivial
  | getLater req p x => exact same (.of_eq rfl rfl) rfl

/-! ### check_completed_processes -/

theorem RInv.check {s : Sys} (h : RInv s) (i : Wid) (ordE : List Pid) : RInv (s.commit i (checkOut (s.wk i) ordE)) := by
  have hc := ChkOut.check (s.wk i) ordE
  refine h.commit_of i (fun p hp => by rw [hc.procs]; exact hp) (fun p hp => h.placed i p (by rw [hc.procs] at hp; exact hp))
    (fun p x hx => h.regs i p x (hc.procs ▸ hx)) (fun t a ha => h.awaiters i t a (hc.awaitersFor ha)) fun e he => ?_
  rcases hc.evs e he with ⟨a, t, r, rfl, ha, hr⟩ | ⟨req, r, rfl⟩
  · refine ⟨h.awaiters i t a ha, fun tr htr => ?_⟩
    cases List.mem_singleton.mp htr
    refine h.placed i t ?_
    unfold WorkerSt.resultOf at hr
    unfold known
    split at hr
    · rename_i hx; rw [hx]; rfl
    · cases hr
  · trivial

/-- **The routing invariant is kept by every step.** -/
theorem RInv.step {R : Rules} (hew : R.Tame) {s s' : Sys} (h : RInv s) (hs : Step R s s') : RInv s' := by
  cases hs with
  | env hq => exact h.env R.combine hq
  | fault hq hf => exact absurd hf (h.popCmd hq).2.not_fault
  | cmd hq ho => exact (h.popCmd hq).1.cmdOut hew (h.popCmd hq).2 ho
  | exec ho => exact h.exec _ ho
  | check i ordE => exact h.check i ordE
  | tick ms => exact { h with }

end QM.Sys
