import QuiverModel.Lemmas.Sys.Step
/-
Locality of worker steps and commutation of steps of different workers (C03).

A step of worker `i` reads only `wk i`, `cmdQ i`, `evtQ i`, `prog`, `now` (`AgreeAt`), writes only
`wk i`, `cmdQ i`, `evtQ i`, the fault flag (it can only raise it: `FaultSync`) and the ghost histories (`Frame`).
Hence steps of two different workers commute on everything but the ghost histories (`CoreEq`).
Also: additivity of the time slice in its attempt budget (`slice_add`).
-/
namespace QM.Sys
set_option linter.unusedSectionVars false
variable [Cfg]

/-! ### time-slice additivity -/

/-- continue with another `f2` attempts if the slice ended only because its budget was used up -/
def contWith (prog : Prog) (now : Nat) (self : Pid) (f2 : Nat) : Proc × Outcome → Proc × Outcome
  | (p', .cont) => slice prog now self f2 p'
  | r => r

/-- a slice of `f1 + f2` attempts is a slice of `f1` continued by one of `f2`: the quantum does not matter -/
theorem slice_add (prog : Prog) (now : Nat) (self : Pid) : ∀ (f1 f2 : Nat) (p : Proc),
    slice prog now self (f1 + f2) p = contWith prog now self f2 (slice prog now self f1 p)
  | 0, f2, p => by simp [slice, contWith]
  | f1 + 1, f2, p => by
    have e : f1 + 1 + f2 = (f1 + f2) + 1 := by omega
    rw [e]
    unfold slice
    split
    · rfl
    · rfl
    · split <;> rfl
    · rfl
    · split
      · dsimp only
        split
        · exact slice_add prog now self f1 f2 _
        · rfl
      · split
        · rfl
        · dsimp only
          split
          · exact slice_add prog now self f1 f2 _
          · rfl
          · rfl

/-! ### locality -/

/-- the two states agree on everything a step of worker `i` can see -/
structure AgreeAt (s s' : Sys) (i : Wid) : Prop where
  wk : s.wk i = s'.wk i
  cmdQ : s.cmdQ i = s'.cmdQ i
  evtQ : s.evtQ i = s'.evtQ i
  prog : s.prog = s'.prog
  now : s.now = s'.now

/-- `s'` differs from `s` only at worker `i` (and in fault flag / ghost histories) -/
structure Frame (s s' : Sys) (i : Wid) : Prop where
  wk : ∀ k, k ≠ i → s'.wk k = s.wk k
  cmdQ : ∀ k, k ≠ i → s'.cmdQ k = s.cmdQ k
  evtQ : ∀ k, k ≠ i → s'.evtQ k = s.evtQ k
  env : s'.env = s.env
  prog : s'.prog = s.prog
  now : s'.now = s.now
  n : s'.n = s.n

/-- the fault flag is kept by both runs or raised by both -/
def FaultSync (s s' t t' : Sys) : Prop :=
  (t.fault = s.fault ∧ t'.fault = s'.fault) ∨ (t.fault = true ∧ t'.fault = true)

/-- a local step function of worker `i` -/
structure Local (m : Sys → Sys) (i : Wid) : Prop where
  loc : ∀ s s', AgreeAt s s' i → AgreeAt (m s) (m s') i
  frame : ∀ s, Frame s (m s) i
  fault : ∀ s s', AgreeAt s s' i → FaultSync s s' (m s) (m s')

theorem Frame.refl (s : Sys) (i : Wid) : Frame s s i :=
  ⟨fun _ _ => rfl, fun _ _ => rfl, fun _ _ => rfl, rfl, rfl, rfl, rfl⟩

theorem Frame.trans {s s' s'' : Sys} {i : Wid} (h1 : Frame s s' i) (h2 : Frame s' s'' i) : Frame s s'' i :=
  ⟨fun k hk => (h2.wk k hk).trans (h1.wk k hk), fun k hk => (h2.cmdQ k hk).trans (h1.cmdQ k hk),
   fun k hk => (h2.evtQ k hk).trans (h1.evtQ k hk), h2.env.trans h1.env, h2.prog.trans h1.prog, h2.now.trans h1.now,
   h2.n.trans h1.n⟩

theorem Local.id (i : Wid) : Local (fun s => s) i :=
  ⟨fun _ _ h => h, fun s => Frame.refl s i, fun _ _ _ => Or.inl ⟨rfl, rfl⟩⟩

theorem Local.comp {m1 m2 : Sys → Sys} {i : Wid} (h1 : Local m1 i) (h2 : Local m2 i) : Local (fun s => m2 (m1 s)) i := by
  refine ⟨fun s s' h => h2.loc _ _ (h1.loc s s' h), fun s => (h1.frame s).trans (h2.frame _), ?_⟩
  intro s s' h
  rcases h1.fault s s' h with ⟨a1, a2⟩ | ⟨a1, a2⟩ <;> rcases h2.fault _ _ (h1.loc s s' h) with ⟨b1, b2⟩ | ⟨b1, b2⟩
  · exact Or.inl ⟨b1.trans a1, b2.trans a2⟩
  · exact Or.inr ⟨b1, b2⟩
  · exact Or.inr ⟨b1.trans a1, b2.trans a2⟩
  · exact Or.inr ⟨b1, b2⟩

theorem Local.iter {m : Sys → Sys} {i : Wid} (h : Local m i) : ∀ k, Local (QM.Sys.iter m k) i
  | 0 => Local.id i
  | k + 1 => by
    have : QM.Sys.iter m (k + 1) = fun s => QM.Sys.iter m k (m s) := by funext s; rfl
    rw [this]
    exact Local.comp h (Local.iter h k)

/-- a step chosen by something worker `i` sees -/
theorem Local.dep {α : Type} {i : Wid} (d : Sys → α) (m : α → Sys → Sys) (hd : ∀ s s', AgreeAt s s' i → d s = d s')
    (hm : ∀ a, Local (m a) i) : Local (fun s => m (d s) s) i :=
  ⟨fun s s' a => by rw [← hd s s' a]; exact (hm _).loc s s' a, fun s => (hm _).frame s,
   fun s s' a => by rw [← hd s s' a]; exact (hm _).fault s s' a⟩

/-- a step that commits an output determined by what worker `i` sees, or faults -/
theorem Local.of_commit {m : Sys → Sys} {i : Wid}
    (h : ∀ w prog now, (∀ s : Sys, s.wk i = w → s.prog = prog → s.now = now → m s = s.setFault) ∨
      ∃ o, ∀ s : Sys, s.wk i = w → s.prog = prog → s.now = now → m s = s.commit i o) : Local m i := by
  refine ⟨fun s s' a => ?_, fun s => ?_, fun s s' a => ?_⟩
  · rcases h (s.wk i) s.prog s.now with e | ⟨o, e⟩ <;> rw [e s rfl rfl rfl, e s' a.wk.symm a.prog.symm a.now.symm]
    · exact ⟨a.wk, a.cmdQ, a.evtQ, a.prog, a.now⟩
    · exact ⟨by simp only [Sys.commit, upd_same], a.cmdQ, by simp only [Sys.commit, upd_same, a.evtQ], a.prog, a.now⟩
  · rcases h (s.wk i) s.prog s.now with e | ⟨o, e⟩ <;> rw [e s rfl rfl rfl]
    · exact ⟨fun _ _ => rfl, fun _ _ => rfl, fun _ _ => rfl, rfl, rfl, rfl, rfl⟩
    · exact ⟨fun k hk => upd_other _ _ _ _ hk, fun _ _ => rfl, fun k hk => upd_other _ _ _ _ hk, rfl, rfl, rfl, rfl⟩
  · rcases h (s.wk i) s.prog s.now with e | ⟨o, e⟩ <;> rw [e s rfl rfl rfl, e s' a.wk.symm a.prog.symm a.now.symm]
    · exact Or.inr ⟨rfl, rfl⟩
    · exact Or.inl ⟨rfl, rfl⟩

theorem Local.cmdStep1 (R : Rules) (i : Wid) : Local (fun s => cmdStep1With R s i) i := by
  refine Local.dep (fun s => s.cmdQ i)
    (fun q s => match q with | [] => s | c :: rest => handleCmdWith R { s with cmdQ := upd s.cmdQ i rest } i c)
    (fun _ _ a => a.cmdQ) fun q => ?_
  cases q with
  | nil => exact Local.id i
  | cons c rest =>
    have pop : Local (fun s : Sys => { s with cmdQ := upd s.cmdQ i rest }) i :=
      ⟨fun s s' a => ⟨a.wk, by simp only [upd_same], a.evtQ, a.prog, a.now⟩,
       fun s => ⟨fun _ _ => rfl, fun k hk => upd_other _ _ _ _ hk, fun _ _ => rfl, rfl, rfl, rfl, rfl⟩,
       fun _ _ _ => Or.inl ⟨rfl, rfl⟩⟩
    exact Local.comp pop (Local.of_commit fun w prog _ => (handleCmd_step R i c w prog).imp (fun e s hw hp _ => e s hw hp)
      (fun ⟨o, _, e⟩ => ⟨o, fun s hw hp _ => e s hw hp⟩))

theorem Local.execStep (i : Wid) (fuel : Nat) (ordQ : List Pid) : Local (fun s => execStep s i fuel ordQ) i :=
  Local.of_commit fun w prog now => Or.inr ((execStep_step i fuel ordQ w prog now).imp fun _ h => h.2)

theorem Local.checkStep (i : Wid) (ordE : List Pid) : Local (fun s => checkStep s i ordE) i :=
  Local.of_commit fun w _ _ => Or.inr ⟨checkOut w ordE, fun s hw _ _ => hw ▸ checkStep_commit s i ordE⟩

/-- `Worker::step` of worker `i` is a local step function of worker `i`. -/
theorem Local.workerStep (R : Rules) (i : Wid) (vis fuel : Nat) (ordQ ordE : List Pid) :
    Local (fun s => workerStepWith R s i vis fuel ordQ ordE) i :=
  Local.comp
    (Local.dep (fun s => min vis (s.cmdQ i).length) (fun k s => QM.Sys.iter (fun a => cmdStep1With R a i) k s)
      (fun _ _ a => by rw [a.cmdQ]) (Local.iter (Local.cmdStep1 R i)))
    (Local.comp (Local.execStep i fuel ordQ) (Local.checkStep i ordE))

/-! ### commutation -/

/-- equality of two states on everything but the ghost histories -/
structure CoreEq (s s' : Sys) : Prop where
  n : s.n = s'.n
  prog : s.prog = s'.prog
  env : s.env = s'.env
  wk : s.wk = s'.wk
  cmdQ : s.cmdQ = s'.cmdQ
  evtQ : s.evtQ = s'.evtQ
  now : s.now = s'.now
  fault : s.fault = s'.fault

theorem Frame.agreeAt {s s' : Sys} {i j : Wid} (h : Frame s s' j) (hij : i ≠ j) : AgreeAt s s' i :=
  ⟨(h.wk i hij).symm, (h.cmdQ i hij).symm, (h.evtQ i hij).symm, h.prog.symm, h.now.symm⟩

/-- a per-worker component after two steps that each leave the other worker's entry alone, and see the same there -/
theorem commute_field {α : Type} {i j : Wid} (hij : i ≠ j) {f fA fB fBA fAB : Wid → α}
    (hA : ∀ k, k ≠ i → fA k = f k) (hB : ∀ k, k ≠ j → fB k = f k) (hBA : ∀ k, k ≠ j → fBA k = fA k)
    (hAB : ∀ k, k ≠ i → fAB k = fB k) (ai : fA i = fAB i) (aj : fB j = fBA j) : fBA = fAB := by
  funext k
  by_cases hki : k = i
  · subst hki; rw [hBA k hij]; exact ai
  · by_cases hkj : k = j
    · subst hkj; rw [hAB k hki]; exact aj.symm
    · rw [hBA k hkj, hA k hki, hAB k hki, hB k hkj]

/-- **Local steps of two different workers commute** (on everything but the ghost histories). -/
theorem local_commute {A B : Sys → Sys} {i j : Wid} (hA : Local A i) (hB : Local B j) (hij : i ≠ j) (s : Sys) :
    CoreEq (B (A s)) (A (B s)) := by
  have fA := hA.frame s
  have fB := hB.frame s
  have fBA := hB.frame (A s)
  have fAB := hA.frame (B s)
  -- A sees the same after B, and B the same after A
  have aA := hA.loc s (B s) (fB.agreeAt hij)
  have aB := hB.loc s (A s) (fA.agreeAt (Ne.symm hij))
  refine ⟨?_, ?_, ?_, commute_field hij fA.wk fB.wk fBA.wk fAB.wk aA.wk aB.wk,
    commute_field hij fA.cmdQ fB.cmdQ fBA.cmdQ fAB.cmdQ aA.cmdQ aB.cmdQ,
    commute_field hij fA.evtQ fB.evtQ fBA.evtQ fAB.evtQ aA.evtQ aB.evtQ, ?_, ?_⟩
  · rw [fBA.n, fA.n, fAB.n, fB.n]
  · rw [fBA.prog, fA.prog, fAB.prog, fB.prog]
  · rw [fBA.env, fA.env, fAB.env, fB.env]
  · rw [fBA.now, fA.now, fAB.now, fB.now]
  · rcases hA.fault s (B s) (fB.agreeAt hij) with ⟨a1, a2⟩ | ⟨a1, a2⟩ <;>
      rcases hB.fault s (A s) (fA.agreeAt (Ne.symm hij)) with ⟨b1, b2⟩ | ⟨b1, b2⟩
    · rw [b2, a1, a2, b1]
    · rw [b2, a2, b1]
    · rw [b2, a1, a2]
    · rw [b2, a2]

end QM.Sys
