import QuiverModel.Lemmas.Sys.Stored
/-!
M-Sys, the ghost histories `appended` and `deadDropped`.

`appended` lists what `notify_message` has handled for a process its worker knows, in order.  Without
the variant every such message is put into the mailbox.  With the variant `Cfg.releaseDead`
(notes/C06-fixes/01) a message for a receiver that can never receive it — failed, or finished and
not persistent — is handled but not stored; `deadDropped` lists exactly those.  This file proves,
for every `Cfg`:

* `deadDropped` stays empty while the variant is off;
* every entry of `deadDropped` is also in `appended`, and its receiver HAS a result (it finished
  before the message was handled, and results are stable);
* hence a process that has no result has lost nothing: no message handled for it is in `deadDropped`.
-/
namespace QM.Sys
set_option linter.unusedSectionVars false
variable [Cfg]

theorem envStep1_appended (combine) (s : Sys) (w : Wid) : (envStep1With combine s w).appended = s.appended :=
  (envStep1_frame combine s w).appended

theorem handleCmd_appended (R : Rules) (s : Sys) (i : Wid) (c : Cmd) :
    (handleCmdWith R s i c).appended = s.appended ∨
    ∃ t m x, c = .deliver t m ∧ (s.wk i).procs t = some x ∧ (handleCmdWith R s i c).appended = s.appended ++ [(t, m)] := by
  rcases handleCmd_step R i c (s.wk i) s.prog with e | ⟨o, ho, e⟩ <;> rw [e s rfl rfl]
  · exact Or.inl rfl
  · rcases ho.appended_spec with h | ⟨t, m, x, hc, hx, h⟩
    · exact Or.inl (by show s.appended ++ o.appended = _; rw [h, List.append_nil])
    · exact Or.inr ⟨t, m, x, hc, hx, by show s.appended ++ o.appended = _; rw [h]⟩

/-- a step leaves `deadDropped` alone — except a DeliverMessage, under the variant, for a known process that can never
receive: that one is recorded (and counted in `appended` as handled) -/
theorem deadDropped_step {R : Rules} {s s' : Sys} (hs : Step R s s') :
    s'.deadDropped = s.deadDropped ∨
    ∃ i t m x, (s.wk i).procs t = some x ∧ Cfg.releaseDead = true ∧ x.deliverable = false ∧
      s'.deadDropped = s.deadDropped ++ [(t, m)] ∧ s'.appended = s.appended ++ [(t, m)] := by
  have quiet : ∀ {l : List (Pid × Msg)}, l = [] → s.deadDropped ++ l = s.deadDropped := fun e => e ▸ List.append_nil _
  cases hs with
  | env hq => exact .inl (handleEvent_frame _ _ _).deadDropped
  | fault => exact .inl rfl
  | cmd hq ho =>
    cases ho with
    | deliverDead t m x hx h1 h2 => exact .inr ⟨_, t, m, x, hx, h1, h2, rfl, rfl⟩
    | _ => exact .inl (quiet rfl)
  | exec ho => exact .inl (quiet ho.quiet.2.2.1)
  | check i ordE => exact .inl (quiet (ChkOut.check _ ordE).quiet.2.2.2.1)
  | tick => exact .inl rfl

/-- the invariant about `deadDropped`: the messages handled for a receiver that can no longer receive (not `dropped`, the
messages for an unknown receiver, which `DInv.nodrop` shows empty) -/
structure XInv (s : Sys) : Prop where
  si : SInv s
  /-- the receiver of a dropped message has a result: it had finished when the message was handled -/
  fin : ∀ e ∈ s.deadDropped, ∃ r, HasRes s e.1 r
  /-- variant off: nothing is dropped -/
  off : Cfg.releaseDead = false → s.deadDropped = []
  /-- a dropped message is one of the handled ones -/
  sub : ∀ e ∈ s.deadDropped, e ∈ s.appended

theorem XInv.of_started {s : Sys} (h : Started s) : XInv s :=
  ⟨SInv.of_started h, (by rw [h.deadDropped]; intro e he; cases he), fun _ => h.deadDropped,
    (by rw [h.deadDropped]; intro e he; cases he)⟩

theorem XInv.step {s s' : Sys} (h : XInv s) (hs : Step Rules.current s s') : XInv s' := by
  have hsi := h.si.step Rules.current_sane hs
  have hmono := ResMono.step h.si hs
  have old : ∀ e ∈ s.deadDropped, (∃ r, HasRes s' e.1 r) ∧ e ∈ s'.appended := fun e he =>
    ⟨(h.fin e he).imp fun _ hr => hr.mono hmono, (appended_step hs).subset (h.sub e he)⟩
  rcases deadDropped_step hs with e | ⟨i, t, m, x, hx, hon, hnd, e, ea⟩
  · exact ⟨hsi, fun d hd => (old d (e ▸ hd)).1, fun hoff => e.trans (h.off hoff), fun d hd => (old d (e ▸ hd)).2⟩
  · -- the receiver of the message recorded now cannot receive: it has a result
    obtain ⟨r, hr⟩ := result_of_not_deliverable hnd
    have new : HasRes s' t r := HasRes.mono hmono ⟨i, by simp [WorkerSt.resultOf, hx, hr]⟩
    have split : ∀ d ∈ s'.deadDropped, d ∈ s.deadDropped ∨ d = (t, m) := fun d hd =>
      (List.mem_append.mp (e ▸ hd)).imp_right List.mem_singleton.mp
    refine ⟨hsi, fun d hd => ?_, fun hoff => absurd hon (by rw [hoff]; nofun), fun d hd => ?_⟩ <;>
      rcases split d hd with hd | rfl
    · exact (old d hd).1
    · exact ⟨r, new⟩
    · exact (old d hd).2
    · exact ea ▸ List.mem_append_right _ List.mem_cons_self

theorem XInv.live_lost_nothing {s : Sys} (h : XInv s) {w : Wid} {b : Pid} {x : Proc}
    (hx : (s.wk w).procs b = some x) (hr : x.result = none) (m : Msg) : (b, m) ∉ s.deadDropped := by
  intro hm
  obtain ⟨r, w', hw'⟩ := h.fin (b, m) hm
  unfold WorkerSt.resultOf at hw'
  cases hy : (s.wk w').procs b with
  | none => rw [hy] at hw'; cases hw'
  | some y =>
    rw [hy] at hw'
    cases h.si.r.one_worker hx hy
    rw [hx] at hy; simp only [Option.some.injEq] at hy; subst hy
    simp only [hr] at hw'; cases hw'

end QM.Sys
