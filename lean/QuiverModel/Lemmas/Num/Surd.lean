import QuiverModel.Lemmas.Num.Kernel
import Mathlib.Tactic.Ring
/-
Lemmas about the surd kernel of M-Num: the `sqfree` loop invariant, `lower`, `build`, `explode`,
`radical`, the four surd operations, `ssign`, `surdCompare`. Serves C20.
-/
open QM QM.Num QM.Builtins
namespace C20

theorem sqfreeF_succ (fuel : Nat) (k m d : Int) (hd : d * d ≠ 0) :
    sqfreeF (fuel + 1) k m d = if m < d * d then .ok (k, m)
      else if m.tmod (d * d) = 0 then sqfreeF fuel (k * d) (m.tdiv (d * d)) d
      else sqfreeF fuel k m (d + 1) := by
  simp only [sqfreeF, iMul_eq, ok_bind, iCompare_eq, cmp_eq_one, iMod_eq hd, iDiv_eq hd, iAdd_eq, pure_eq]

/-- Loop invariant of `sqfree`: with `2 ≤ d`, `0 < m`, no square of `2 ≤ e < d` dividing `m`, and
fuel at least `(m - d).toNat + 1`, the loop ends with `(k', m')`, `k'²·m' = k²·m`, `m'` square-free. -/
theorem sqfreeF_spec : ∀ (fuel : Nat) (k m d : Int), 2 ≤ d → 0 < m →
    (∀ e : Int, 2 ≤ e → e < d → ¬ (e * e ∣ m)) → (m - d).toNat + 1 ≤ fuel →
    ∃ k' m', sqfreeF fuel k m d = .ok (k', m') ∧ k' * k' * m' = k * k * m ∧ 0 < m' ∧ SqFree m' ∧
      (0 < k → 0 < k') := by
  intro fuel
  induction fuel with
  | zero => intro k m d _ _ _ hf; omega
  | succ fuel ih =>
    intro k m d hd hm hinv hf
    have h4 : 2 * 2 ≤ d * d := Int.mul_self_le_mul_self (by decide) hd
    have h2d : 2 * d ≤ d * d := Int.mul_le_mul_of_nonneg_right hd (by omega)
    rw [sqfreeF_succ _ _ _ _ (by omega)]
    split
    · next hlt =>
      -- a square `e²` dividing `m` has `e < d`, since `d² > m`
      refine ⟨k, m, rfl, rfl, hm, fun e he hdiv => ?_, id⟩
      by_cases hed : e < d
      · exact hinv e he hed hdiv
      · have := Int.mul_self_le_mul_self (by omega) (Int.not_lt.mp hed)
        have := Int.le_of_dvd hm hdiv
        omega
    · split
      · next hmod =>
        -- `d²` divides `m`: continue with `m / d²`, which is at most `m / 4`
        obtain ⟨m', hm'⟩ := Int.dvd_of_tmod_eq_zero hmod
        have hm'pos : 0 < m' := Int.pos_of_mul_pos_right (hm' ▸ hm) (by omega)
        have hm'4 := Int.mul_le_mul_of_nonneg_right h4 hm'pos.le
        rw [Int.tdiv_eq_ediv_of_dvd ⟨m', hm'⟩, hm', Int.mul_ediv_cancel_left _ (by omega)]
        obtain ⟨k', m'', h1, h2, h3, h4', h5⟩ := ih (k * d) m' d hd hm'pos
          (fun e he hed hdv => hinv e he hed (hm' ▸ Dvd.dvd.mul_left hdv _)) (by omega)
        exact ⟨k', m'', h1, by rw [h2]; ring, h3, h4', fun hk => h5 (Int.mul_pos hk (by omega))⟩
      · next hmod =>
        -- `d²` does not divide `m`: try `d + 1`
        refine ih k m (d + 1) (by omega) hm (fun e he hed hdv => ?_) (by omega)
        by_cases hed' : e < d
        · exact hinv e he hed' hdv
        · obtain rfl : e = d := by omega
          exact hmod (Int.tmod_eq_zero_of_dvd hdv)

theorem lower_rat (n d : Int) : lower (.rat n d) = if d = 1 then .int n else .rat n d := by
  split
  · next h => rw [h]; rfl
  · next h => unfold lower; split <;> simp_all

theorem lower_canon {r : Rt} (h : r.Canon) : CanonCoeff (lower r.toCoeff) := by
  unfold Rt.toCoeff; rw [lower_rat]
  split
  · trivial
  · next h1 => exact ⟨by have := h.1; omega, h.2⟩

theorem lower_coeffQ (r : Rt) : coeffQ (lower r.toCoeff) = r.toQ := by
  unfold Rt.toCoeff; rw [lower_rat]
  split
  · next h1 => rw [QM.Num.Rt.toQ, h1, Int.cast_one, div_one]; exact div_one _
  · rfl

theorem coeff_toNum_canon {c : Coeff} (h : CanonCoeff c) : Canon c.toNum := by
  cases c with
  | int z => trivial
  | rat n d => exact ⟨Int.lt_trans Int.one_pos h.1, h.2⟩

theorem coeff_toNum_toQsqrt (c : Coeff) : toQsqrt c.toNum = (coeffQ c, 0, 1) := by
  cases c with
  | int z => exact congrArg (·, 0, 1) (div_one _).symm
  | rat n d => rfl

theorem coeff_toNum_not_surd (c : Coeff) : ¬ isSurd c.toNum := by
  cases c <;> exact id

/-- `z` has rational part `A` and surd coefficient `B`; it is a surd exactly when `B ≠ 0`, and then its radical is `n`
(for `B = 0` the radical of `z` is not constrained) -/
def Denotes (z : Num) (A B : ℚ) (n : Int) : Prop :=
  (toQsqrt z).1 = A ∧ (toQsqrt z).2.1 = B ∧ (B ≠ 0 → (toQsqrt z).2.2 = n.toNat ∧ isSurd z) ∧
    (B = 0 → ¬ isSurd z)

theorem build_eq (a : Rt) {b : Rt} {n : Int} (hb : 0 < b.d) (hn : n ≠ 1) :
    build a b n = .ok (if b.toQ = 0 then (lower a.toCoeff).toNum
      else .surd (lower a.toCoeff) (lower b.toCoeff) n) := by
  simp only [build, iCompare_eq, ok_bind, cmp_eq_zero, hn, if_false, rsign_spec b hb, sgnQ_eq, sgn_eq_zero,
    pure_eq, apply_ite Res.ok]

/-- `build` at `n = 1` (a perfect square under the root): the two parts are added -/
theorem build_one {a b : Rt} (ha : a.d ≠ 0) (hb : b.d ≠ 0) :
    ∃ r : Rt, r.Canon ∧ r.toQ = a.toQ + b.toQ ∧ build a b 1 = .ok (lower r.toCoeff).toNum := by
  obtain ⟨r, h1, h2, h3⟩ := radd_spec ha hb
  exact ⟨r, h2, h3, by simp only [build, iCompare_eq, ok_bind, cmp_eq_zero, if_true, h1, pure_eq]⟩

theorem build_spec {a b : Rt} {n : Int} (ha : a.Canon) (hb : b.Canon) (hn : 1 < n) (hsq : SqFree n) :
    ∃ z, build a b n = .ok z ∧ Canon z ∧ Denotes z a.toQ b.toQ n := by
  refine ⟨_, build_eq a hb.1 (by omega), ?_⟩
  split
  · next hb0 =>
    rw [Denotes, coeff_toNum_toQsqrt, lower_coeffQ]
    exact ⟨coeff_toNum_canon (lower_canon ha), rfl, hb0.symm, fun h => absurd hb0 h, fun _ => coeff_toNum_not_surd _⟩
  · next hb0 =>
    exact ⟨⟨lower_canon ha, lower_canon hb, by rwa [lower_coeffQ], hn, hsq⟩, lower_coeffQ a, lower_coeffQ b,
      fun _ => ⟨rfl, trivial⟩, fun h => absurd h hb0⟩

/-- rational part / surd coefficient of a number -/
def qa (x : Num) : ℚ := (toQsqrt x).1
def qb (x : Num) : ℚ := (toQsqrt x).2.1
/-- the radical a number carries (1 for integers and rationals) -/
def rad (x : Num) : Int := (explode x).2.2

theorem explode_spec (x : Num) (hx : Canon x) :
    0 < (explode x).1.d ∧ 0 < (explode x).2.1.d ∧ (explode x).1.toQ = qa x ∧
    (explode x).2.1.toQ = qb x ∧
    (isSurd x → 1 < rad x ∧ SqFree (rad x) ∧ qb x ≠ 0 ∧ (rad x).toNat = (toQsqrt x).2.2) ∧
    (¬ isSurd x → qb x = 0) := by
  cases x with
  | int z => exact ⟨Int.one_pos, Int.one_pos, div_one _, zero_div _, False.elim, fun _ => rfl⟩
  | rat n d => exact ⟨hx.1, Int.one_pos, rfl, zero_div _, False.elim, fun _ => rfl⟩
  | surd a b n =>
    obtain ⟨ha, hb, hb0, hn, hsq⟩ := hx
    exact ⟨(toRational_canon ha).1, (toRational_canon hb).1, rfl, rfl, fun _ => ⟨hn, hsq, hb0, rfl⟩,
      fun h => absurd trivial h⟩

theorem explode_eta (x : Num) : explode x = ((explode x).1, (explode x).2.1, rad x) := rfl

theorem radical_spec (b1 : Rt) (n1 : Int) (b2 : Rt) (n2 : Int) (h1 : 0 < b1.d) (h2 : 0 < b2.d) :
    radical b1 n1 b2 n2 = .ok (if b1.toQ = 0 then some n2 else if b2.toQ = 0 then some n1
      else if n1 = n2 then some n1 else none) := by
  simp only [radical, rsign_spec b1 h1, rsign_spec b2 h2, ok_bind, sgnQ_eq, sgn_eq_zero, iCompare_eq,
    cmp_eq_zero, pure_eq, apply_ite Res.ok]

/-- operands whose radicals can be combined -/
def Compatible (x y : Num) : Prop := qb x = 0 ∨ qb y = 0 ∨ rad x = rad y

instance (x y : Num) : Decidable (Compatible x y) := by unfold Compatible; exact inferInstance

/-- the radical of the result field -/
def sharedRadical (x y : Num) : Int := if qb x = 0 then rad y else rad x

theorem radical_of_operands (x y : Num) (hx : Canon x) (hy : Canon y) :
    radical (explode x).2.1 (rad x) (explode y).2.1 (rad y) =
      .ok (if Compatible x y then some (sharedRadical x y) else none) := by
  obtain ⟨_, hbx, _, hqx, _, _⟩ := explode_spec x hx
  obtain ⟨_, hby, _, hqy, _, _⟩ := explode_spec y hy
  rw [radical_spec _ _ _ _ hbx hby, hqx, hqy]
  unfold Compatible sharedRadical
  by_cases h1 : qb x = 0
  · simp only [h1, if_true, true_or]
  · by_cases h2 : qb y = 0
    · simp only [h1, h2, if_true, if_false, true_or, or_true]
    · simp only [h1, h2, if_false, false_or]

theorem sharedRadical_good (x y : Num) (hx : Canon x) (hy : Canon y) (hs : isSurd x ∨ isSurd y) :
    1 < sharedRadical x y ∧ SqFree (sharedRadical x y) := by
  obtain ⟨_, _, _, _, hsx, hnx⟩ := explode_spec x hx
  obtain ⟨_, _, _, _, hsy, hny⟩ := explode_spec y hy
  unfold sharedRadical
  split
  · next h1 =>
    have sy := hs.resolve_left fun h => (hsx h).2.2.1 h1
    exact ⟨(hsy sy).1, (hsy sy).2.1⟩
  · next h1 =>
    have sx : isSurd x := by by_contra h; exact h1 (hnx h)
    exact ⟨(hsx sx).1, (hsx sx).2.1⟩

theorem radN_toQ (n : Int) : (Rt.mk n 1).toQ = (n : ℚ) := div_one _

/-- common shape of the statements about `surdAdd`, `surdSub`, `surdMul` -/
def SurdOpSpec (op : Num → Num → Res (Option Num)) (fa fb : Num → Num → ℚ) : Prop :=
  ∀ x y : Num, Canon x → Canon y → (isSurd x ∨ isSurd y) →
    (¬ Compatible x y → op x y = .ok none) ∧
    (Compatible x y → ∃ z, op x y = .ok (some z) ∧ Canon z ∧
        Denotes z (fa x y) (fb x y) (sharedRadical x y))

theorem surdAdd_spec : SurdOpSpec surdAdd (fun x y => qa x + qa y) (fun x y => qb x + qb y) := by
  intro x y hx hy hs
  obtain ⟨hax, hbx, hqax, hqbx, _, _⟩ := explode_spec x hx
  obtain ⟨hay, hby, hqay, hqby, _, _⟩ := explode_spec y hy
  obtain ⟨hn, hsq⟩ := sharedRadical_good x y hx hy hs
  rw [surdAdd, explode_eta x, explode_eta y]
  simp only [radical_of_operands x y hx hy, ok_bind]
  refine ⟨fun hc => by rw [if_neg hc]; rfl, fun hc => ?_⟩
  obtain ⟨a, ha1, ha2, ha3⟩ := radd_spec hax.ne' hay.ne'
  obtain ⟨b, hb1, hb2, hb3⟩ := radd_spec hbx.ne' hby.ne'
  obtain ⟨z, hz1, hz2, hz3⟩ := build_spec ha2 hb2 hn hsq
  rw [ha3, hb3, hqax, hqay, hqbx, hqby] at hz3
  exact ⟨z, by simp only [if_pos hc, ha1, hb1, hz1, ok_bind, pure_eq], hz2, hz3⟩

theorem surdSub_spec : SurdOpSpec surdSub (fun x y => qa x - qa y) (fun x y => qb x - qb y) := by
  intro x y hx hy hs
  obtain ⟨hax, hbx, hqax, hqbx, _, _⟩ := explode_spec x hx
  obtain ⟨hay, hby, hqay, hqby, _, _⟩ := explode_spec y hy
  obtain ⟨hn, hsq⟩ := sharedRadical_good x y hx hy hs
  rw [surdSub, explode_eta x, explode_eta y]
  simp only [radical_of_operands x y hx hy, ok_bind]
  refine ⟨fun hc => by rw [if_neg hc]; rfl, fun hc => ?_⟩
  obtain ⟨a, ha1, ha2, ha3⟩ := rsub_spec hax.ne' hay.ne'
  obtain ⟨b, hb1, hb2, hb3⟩ := rsub_spec hbx.ne' hby.ne'
  obtain ⟨z, hz1, hz2, hz3⟩ := build_spec ha2 hb2 hn hsq
  rw [ha3, hb3, hqax, hqay, hqbx, hqby] at hz3
  exact ⟨z, by simp only [if_pos hc, ha1, hb1, hz1, ok_bind, pure_eq], hz2, hz3⟩

theorem surdMul_spec : SurdOpSpec surdMul
    (fun x y => qa x * qa y + qb x * qb y * (sharedRadical x y : ℚ))
    (fun x y => qa x * qb y + qa y * qb x) := by
  intro x y hx hy hs
  obtain ⟨hax, hbx, hqax, hqbx, _, _⟩ := explode_spec x hx
  obtain ⟨hay, hby, hqay, hqby, _, _⟩ := explode_spec y hy
  obtain ⟨hn, hsq⟩ := sharedRadical_good x y hx hy hs
  rw [surdMul, explode_eta x, explode_eta y]
  simp only [radical_of_operands x y hx hy, ok_bind]
  refine ⟨fun hc => by rw [if_neg hc]; rfl, fun hc => ?_⟩
  obtain ⟨p1, hp1, cp1, vp1⟩ := rmul_spec hax.ne' hay.ne'
  obtain ⟨p2, hp2, cp2, vp2⟩ := rmul_spec hbx.ne' hby.ne'
  obtain ⟨p3, hp3, cp3, vp3⟩ := rmul_spec (y := ⟨sharedRadical x y, 1⟩) cp2.1.ne' Int.one_ne_zero
  obtain ⟨a, ha1, ha2, ha3⟩ := radd_spec cp1.1.ne' cp3.1.ne'
  obtain ⟨p4, hp4, cp4, vp4⟩ := rmul_spec hax.ne' hby.ne'
  obtain ⟨p5, hp5, cp5, vp5⟩ := rmul_spec hay.ne' hbx.ne'
  obtain ⟨b, hb1, hb2, hb3⟩ := radd_spec cp4.1.ne' cp5.1.ne'
  obtain ⟨z, hz1, hz2, hz3⟩ := build_spec ha2 hb2 hn hsq
  rw [ha3, hb3, vp1, vp3, vp2, vp4, vp5, radN_toQ, hqax, hqay, hqbx, hqby] at hz3
  exact ⟨z, by simp only [if_pos hc, hp1, hp2, hp3, ha1, hp4, hp5, hb1, hz1, ok_bind, pure_eq], hz2, hz3⟩

/-- Division by `y = a₂ + b₂√n`: nil when the norm `a₂² − b₂²·n` is zero, otherwise the exact
quotient (multiply by the conjugate). -/
theorem surdDiv_spec (x y : Num) (hx : Canon x) (hy : Canon y) (hs : isSurd x ∨ isSurd y) :
    (¬ Compatible x y → surdDiv x y = .ok none) ∧
    (Compatible x y →
      (qa y * qa y - qb y * qb y * (sharedRadical x y : ℚ) = 0 → surdDiv x y = .ok none) ∧
      (qa y * qa y - qb y * qb y * (sharedRadical x y : ℚ) ≠ 0 →
        ∃ z, surdDiv x y = .ok (some z) ∧ Canon z ∧
          Denotes z
            ((qa x * qa y - qb x * qb y * (sharedRadical x y : ℚ)) /
              (qa y * qa y - qb y * qb y * (sharedRadical x y : ℚ)))
            ((qb x * qa y - qa x * qb y) /
              (qa y * qa y - qb y * qb y * (sharedRadical x y : ℚ)))
            (sharedRadical x y))) := by
  obtain ⟨hax, hbx, hqax, hqbx, _, _⟩ := explode_spec x hx
  obtain ⟨hay, hby, hqay, hqby, _, _⟩ := explode_spec y hy
  obtain ⟨hn, hsq⟩ := sharedRadical_good x y hx hy hs
  rw [surdDiv, explode_eta x, explode_eta y]
  simp only [radical_of_operands x y hx hy, ok_bind]
  refine ⟨fun hc => by rw [if_neg hc]; rfl, fun hc => ?_⟩
  obtain ⟨q1, hq1, cq1, vq1⟩ := rmul_spec hay.ne' hay.ne'
  obtain ⟨q2, hq2, cq2, vq2⟩ := rmul_spec hby.ne' hby.ne'
  obtain ⟨q3, hq3, cq3, vq3⟩ := rmul_spec (y := ⟨sharedRadical x y, 1⟩) cq2.1.ne' Int.one_ne_zero
  obtain ⟨dd, hdd, cdd, vdd⟩ := rsub_spec cq1.1.ne' cq3.1.ne'
  rw [vq1, vq3, vq2, radN_toQ, hqay, hqby] at vdd
  simp only [if_pos hc, hq1, hq2, hq3, hdd, ok_bind, rsign_spec dd cdd.1, sgnQ_eq, sgn_eq_zero, vdd]
  refine ⟨fun h0 => by rw [if_pos h0]; rfl, fun h0 => ?_⟩
  have hddn : dd.n ≠ 0 := toQ_ne_zero (vdd ▸ h0)
  obtain ⟨p1, hp1, cp1, vp1⟩ := rmul_spec hax.ne' hay.ne'
  obtain ⟨p2, hp2, cp2, vp2⟩ := rmul_spec hbx.ne' hby.ne'
  obtain ⟨p3, hp3, cp3, vp3⟩ := rmul_spec (y := ⟨sharedRadical x y, 1⟩) cp2.1.ne' Int.one_ne_zero
  obtain ⟨na, hna, cna, vna⟩ := rsub_spec cp1.1.ne' cp3.1.ne'
  obtain ⟨a, ha1, ha2, ha3⟩ := rquot_spec cna.1.ne' hddn
  obtain ⟨p4, hp4, cp4, vp4⟩ := rmul_spec hbx.ne' hay.ne'
  obtain ⟨p5, hp5, cp5, vp5⟩ := rmul_spec hax.ne' hby.ne'
  obtain ⟨nb, hnb, cnb, vnb⟩ := rsub_spec cp4.1.ne' cp5.1.ne'
  obtain ⟨b, hb1, hb2, hb3⟩ := rquot_spec cnb.1.ne' hddn
  obtain ⟨z, hz1, hz2, hz3⟩ := build_spec ha2 hb2 hn hsq
  rw [ha3, hb3, vna, vnb, vp1, vp3, vp2, vp4, vp5, radN_toQ, vdd, hqax, hqay, hqbx, hqby] at hz3
  exact ⟨z, by simp only [if_neg h0, hp1, hp2, hp3, hna, ha1, hp4, hp5, hnb, hb1, hz1, ok_bind, pure_eq], hz2, hz3⟩

/-- the decision procedure of `ssign`, on values -/
def surdSign (A B : ℚ) (n : Int) : Int :=
  if B = 0 then sgnQ A
  else if 0 < B then (if A < 0 then sgnQ (A * A - B * B * n) * -1 else 1)
  else (if 0 < A then sgnQ (A * A - B * B * n) else -1)

theorem ssign_eq (a b : Rt) (n : Int) (ha : 0 < a.d) (hb : 0 < b.d) :
    ssign a b n = .ok (surdSign a.toQ b.toQ n) := by
  obtain ⟨a2, ha2, ca2, va2⟩ := rmul_spec ha.ne' ha.ne'
  obtain ⟨bb, hbb, cbb, vbb⟩ := rmul_spec hb.ne' hb.ne'
  obtain ⟨b2n, hb2n, cb2n, vb2n⟩ := rmul_spec (y := ⟨n, 1⟩) cbb.1.ne' Int.one_ne_zero
  have hcmp := rcompare_spec a2 b2n ca2.1 cb2n.1
  rw [va2, vb2n, vbb, radN_toQ] at hcmp
  simp only [ssign, surdSign, rsign_spec a ha, rsign_spec b hb, ok_bind, iCompare_eq, sgnQ_eq, cmp_sgn_zero,
    sgn_eq_zero, sgn_eq_one, sgn_eq_neg_one, ha2, hbb, hb2n, hcmp, iMul_eq, pure_eq, apply_ite Res.ok]

theorem surdCompare_spec (x y : Num) (hx : Canon x) (hy : Canon y) :
    surdCompare x y = .ok (if Compatible x y then
      some (surdSign (qa x - qa y) (qb x - qb y) (sharedRadical x y)) else none) := by
  obtain ⟨hax, hbx, hqax, hqbx, _, _⟩ := explode_spec x hx
  obtain ⟨hay, hby, hqay, hqby, _, _⟩ := explode_spec y hy
  rw [surdCompare, explode_eta x, explode_eta y]
  simp only [radical_of_operands x y hx hy, ok_bind]
  by_cases hc : Compatible x y
  · obtain ⟨a, ha1, ha2, ha3⟩ := rsub_spec hax.ne' hay.ne'
    obtain ⟨b, hb1, hb2, hb3⟩ := rsub_spec hbx.ne' hby.ne'
    simp only [if_pos hc, ha1, hb1, ok_bind, ssign_eq a b _ ha2.1 hb2.1, ha3, hb3, hqax, hqay, hqbx, hqby, pure_eq]
  · simp only [if_neg hc, pure_eq]

theorem add_surd_eq (x y : Num) (hs : isSurd x ∨ isSurd y) : Num.add (some x) (some y) = surdAdd x y := by
  cases x <;> cases y <;> simp [isSurd] at hs <;> rfl
theorem sub_surd_eq (x y : Num) (hs : isSurd x ∨ isSurd y) : Num.sub (some x) (some y) = surdSub x y := by
  cases x <;> cases y <;> simp [isSurd] at hs <;> rfl
theorem mul_surd_eq (x y : Num) (hs : isSurd x ∨ isSurd y) : Num.mul (some x) (some y) = surdMul x y := by
  cases x <;> cases y <;> simp [isSurd] at hs <;> rfl
theorem div_surd_eq (x y : Num) (hs : isSurd x ∨ isSurd y) : Num.div (some x) (some y) = surdDiv x y := by
  cases x <;> cases y <;> simp [isSurd] at hs <;> rfl
theorem compare_surd_eq (x y : Num) (hs : isSurd x ∨ isSurd y) :
    Num.compare (some x) (some y) = surdCompare x y := by
  cases x <;> cases y <;> simp [isSurd] at hs <;> rfl

end C20
