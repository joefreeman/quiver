import QuiverModel.Lemmas.Num.Surd
import Mathlib.Algebra.Order.Field.Basic
import Mathlib.Data.Rat.Cast.Order
import Mathlib.Tactic.LinearCombination
import Mathlib.Tactic.Linarith
/-
Lemmas for the rounding family of M-Num. The value of a surd is read in an arbitrary ordered field
`K` with a positive root `r` of the radical; an integer or rational is read in `K = ℚ`. `HasValue`
collects what `floor`, `ceil` and `round` need to know about their operand, so each of their specifications holds
for both readings. Serves C20.
-/
open QM QM.Num QM.Builtins
namespace C20

/-- truncation toward zero, as a relation between an integer and a rational -/
def IsTrunc (t : Int) (q : ℚ) : Prop :=
  (0 ≤ q → (t : ℚ) ≤ q ∧ q < t + 1) ∧ (q ≤ 0 → (t : ℚ) - 1 < q ∧ q ≤ t)

/-- a square-free `n > 1` times a non-zero square is never a square (√n is irrational):
`q² ∣ s²` gives `s = q·k`, so `n = k²` would be divisible by a square -/
theorem sqfree_mul_sq_ne_sq (n q s : Int) (hn : 1 < n) (hsq : SqFree n) (hq : q ≠ 0) :
    q * q * n ≠ s * s := by
  intro h
  obtain ⟨k, rfl⟩ : q ∣ s := (Int.pow_dvd_pow_iff two_ne_zero).mp ⟨n, by rw [sq, sq, h]⟩
  have hk : n = k * k := Int.eq_of_mul_eq_mul_left (Int.mul_ne_zero hq hq) (by rw [h]; ring)
  have h2 : 2 ≤ k ∨ 2 ≤ -k := by
    by_contra hc
    obtain rfl | rfl | rfl : k = -1 ∨ k = 0 ∨ k = 1 := by omega
    all_goals omega
  rcases h2 with h2 | h2
  · exact hsq k h2 ⟨1, by rw [mul_one]; exact hk⟩
  · exact hsq (-k) h2 ⟨1, by rw [neg_mul_neg, mul_one]; exact hk⟩

theorem canon_half (f : Int) : Canon (.rat (f * 2 + 1) 2) :=
  ⟨by decide, (Int.gcd_mul_right_add_left 2 1 f).trans rfl⟩

section
variable {K : Type*} [Field K] [LinearOrder K] [IsStrictOrderedRing K]

theorem sgn_ratCast (q : ℚ) : sgn (q : K) = sgn q := by
  unfold sgn; simp only [Rat.cast_lt_zero, Rat.cast_pos]

theorem toQ_half (f : Int) : ((toQ (.rat (f * 2 + 1) 2) : ℚ) : K) = (f : K) + 1 / 2 := by
  unfold toQ; push_cast; ring

/-- **ssign is the sign of `a + b·r`** for every positive square root `r` of `n` in an ordered
field (e.g. `r = √n` in ℝ): `surdSign` is the function `ssign` computes (`ssign_eq`). No
irrationality assumption is needed. -/
theorem surdSign_sound (A B : ℚ) (n : Int) (r : K) (hr0 : 0 < r) (hr : r * r = (n : K)) :
    surdSign A B n = sgn ((A : K) + (B : K) * r) := by
  have hnorm : sgnQ (A * A - B * B * n) = sgn (((A : K) + B * r) * ((A : K) - B * r)) := by
    rw [sgnQ_eq, ← sgn_ratCast (K := K)]; congr 1; push_cast; linear_combination ((B : K) * B) * hr
  unfold surdSign
  split
  · next hB => rw [hB, Rat.cast_zero, zero_mul, add_zero, sgnQ_eq, sgn_ratCast]
  · split
    · next hB =>
      have hBr : 0 < (B : K) * r := mul_pos (Rat.cast_pos.mpr hB) hr0
      split
      · next hA =>
        -- `A < 0 < B`: the value times `B·r − A > 0` is minus the norm
        have hA' : (A : K) < 0 := Rat.cast_lt_zero.mpr hA
        rw [hnorm, mul_neg_one, ← sgn_neg, ← mul_neg, neg_sub, sgn_mul_pos _ (sub_pos.mpr (hA'.trans hBr))]
      · next hA =>
        exact (sgn_of_pos (add_pos_of_nonneg_of_pos (Rat.cast_nonneg.mpr (not_lt.mp hA)) hBr)).symm
    · next hB0 hB =>
      have hBr : (B : K) * r < 0 :=
        mul_neg_of_neg_of_pos (Rat.cast_lt_zero.mpr (lt_of_le_of_ne (not_lt.mp hB) hB0)) hr0
      split
      · next hA =>
        -- `B < 0 < A`: the value times `A − B·r > 0` is the norm
        have hA' : (0 : K) < A := Rat.cast_pos.mpr hA
        rw [hnorm, sgn_mul_pos _ (sub_pos.mpr (hBr.trans hA'))]
      · next hA =>
        exact (sgn_of_neg (add_neg_of_nonpos_of_neg (Rat.cast_nonpos.mpr (not_lt.mp hA)) hBr)).symm

/-- the integer square root of `N` brackets every non-negative `w` with `w² = N` -/
theorem isqrt_bracket {N : Int} (hN : 0 ≤ N) {w : K} (hw0 : 0 ≤ w) (hw : w * w = (N : K)) :
    (((Nat.sqrt N.toNat : ℕ) : ℤ) : K) ≤ w ∧ w < (((Nat.sqrt N.toNat : ℕ) : ℤ) : K) + 1 := by
  have h1 : ((Nat.sqrt N.toNat : ℕ) : ℤ) * (Nat.sqrt N.toNat : ℕ) ≤ N := by
    rw [← Nat.cast_mul]; exact (Int.le_toNat hN).mp (Nat.sqrt_le _)
  have h2 : N < (((Nat.sqrt N.toNat : ℕ) : ℤ) + 1) * (((Nat.sqrt N.toNat : ℕ) : ℤ) + 1) := by
    rw [← Nat.cast_succ, ← Nat.cast_mul]; exact (Int.toNat_lt hN).mp (Nat.lt_succ_sqrt _)
  have hs0 : (0 : K) ≤ ((Nat.sqrt N.toNat : ℕ) : ℤ) := Int.cast_nonneg (Int.natCast_nonneg _)
  generalize ((Nat.sqrt N.toNat : ℕ) : ℤ) = s at h1 h2 hs0 ⊢
  constructor
  · rw [mul_self_le_mul_self_iff hs0 hw0, hw, ← Int.cast_mul]; exact Int.cast_le.mpr h1
  · rw [mul_self_lt_mul_self_iff hw0 (add_nonneg hs0 zero_le_one), hw]
    have := Int.cast_lt (R := K) |>.mpr h2
    rwa [Int.cast_mul, Int.cast_add, Int.cast_one] at this

/-- the key step of `to_int`: if `m` is the floor of `y` and `y / d ≥ 0`, then `m.tdiv d` is the floor of `y / d` -/
theorem tdiv_floor {y : K} {m d : Int} (hd : 0 < d) (h0 : 0 ≤ y / (d : K)) (h1 : (m : K) ≤ y)
    (h2 : y < (m : K) + 1) :
    ((m.tdiv d : ℤ) : K) ≤ y / (d : K) ∧ y / (d : K) < ((m.tdiv d : ℤ) : K) + 1 := by
  have hdK : (0 : K) < (d : K) := Int.cast_pos.mpr hd
  have hy : 0 ≤ y := by have := (le_div_iff₀ hdK).mp h0; rwa [zero_mul] at this
  have hm0 : 0 ≤ m := by
    have : ((-1 : ℤ) : K) < (m : K) := by
      rw [Int.cast_neg, Int.cast_one, neg_lt_iff_pos_add]; exact hy.trans_lt h2
    have := Int.cast_lt.mp this; omega
  rw [Int.tdiv_eq_ediv_of_nonneg hm0, le_div_iff₀ hdK, div_lt_iff₀ hdK]
  have a1 : ((m / d * d : ℤ) : K) ≤ (m : K) := Int.cast_le.mpr (Int.ediv_mul_le m hd.ne')
  have a2 : ((m + 1 : ℤ) : K) ≤ (((m / d + 1) * d : ℤ) : K) :=
    Int.cast_le.mpr (Int.lt_ediv_add_one_mul_self m hd)
  rw [Int.cast_mul] at a1
  rw [Int.cast_mul, Int.cast_add, Int.cast_add, Int.cast_one] at a2
  exact ⟨a1.trans h1, h2.trans_le a2⟩

end

theorem tdiv_isTrunc (n d : Int) (hd : 0 < d) : IsTrunc (n.tdiv d) ((n : ℚ) / (d : ℚ)) := by
  refine ⟨fun h0 => tdiv_floor hd h0 le_rfl (lt_add_one _), fun h0 => ?_⟩
  -- a non-positive quotient: truncate `-n / d` and negate
  have := tdiv_floor (y := ((-n : ℤ) : ℚ)) hd (by rw [Int.cast_neg, neg_div]; exact neg_nonneg.mpr h0)
    le_rfl (lt_add_one _)
  rw [Int.neg_tdiv, Int.cast_neg, Int.cast_neg, neg_div] at this
  exact ⟨by linarith [this.2], neg_le_neg_iff.mp this.1⟩

/-- what `to_int` computes for a non-negative `p + q·√n` (before the sign is reapplied) -/
def surdFloor (p q : Rt) (n : Int) : Int :=
  (if cmp (q.n * p.d) 0 = 1
    then p.n * q.d + ((Nat.sqrt (q.n * p.d * (q.n * p.d) * n).toNat : ℕ) : ℤ)
    else p.n * q.d - (((Nat.sqrt (q.n * p.d * (q.n * p.d) * n).toNat : ℕ) : ℤ) + 1)).tdiv (p.d * q.d)

theorem toInt_surd_eq {a b : Coeff} {n : Int} (hx : Canon (.surd a b n)) :
    Num.toInt (some (.surd a b n)) =
      .ok (some (surdSign (toRational a).toQ (toRational b).toQ n *
        (if surdSign (toRational a).toQ (toRational b).toQ n < 0
          then surdFloor (reduceP ((toRational a).n * -1) (toRational a).d)
                 (reduceP ((toRational b).n * -1) (toRational b).d) n
          else surdFloor (toRational a) (toRational b) n))) := by
  obtain ⟨ha, hb, _, hn, _⟩ := hx
  have hda := (toRational_canon ha).1
  have hdb := (toRational_canon hb).1
  have hs : ∀ m : Int, iSqrt (m * m * n) = .ok ((Nat.sqrt (m * m * n).toNat : ℕ) : ℤ) :=
    fun m => iSqrt_eq (Int.mul_nonneg (mul_self_nonneg _) (by omega))
  simp only [Num.toInt, ssign_eq _ _ n hda hdb, ok_bind, iCompare_eq, cmp_eq_neg_one]
  split
  · simp only [rneg_eq hda.ne', rneg_eq hdb.ne', ok_bind, pure_eq, iMul_eq, hs, iAdd_eq, iSub_eq,
      ← apply_ite Res.ok, iDiv_eq (Int.mul_pos (reduceP_neg hda.ne').1.1 (reduceP_neg hdb.ne').1.1).ne', surdFloor]
  · simp only [ok_bind, pure_eq, iMul_eq, hs, iAdd_eq, iSub_eq, ← apply_ite Res.ok,
      iDiv_eq (Int.mul_pos hda hdb).ne', surdFloor]

section
variable {K : Type*} [Field K] [LinearOrder K] [IsStrictOrderedRing K]

/-- `surdFloor` is the floor of a non-negative `p + q·r`. For `q < 0` the model subtracts
`isqrt (q²n) + 1`, which is right because `√n` is irrational (`sqfree_mul_sq_ne_sq`). -/
theorem surdFloor_spec (p q : Rt) (hp : 0 < p.d) (hq : 0 < q.d) (hq0 : q.n ≠ 0) (n : Int) (hn : 1 < n)
    (hsq : SqFree n) (r : K) (hr0 : 0 < r) (hr : r * r = (n : K))
    (hv : 0 ≤ ((p.toQ : ℚ) : K) + ((q.toQ : ℚ) : K) * r) :
    ((surdFloor p q n : ℤ) : K) ≤ ((p.toQ : ℚ) : K) + ((q.toQ : ℚ) : K) * r ∧
    ((p.toQ : ℚ) : K) + ((q.toQ : ℚ) : K) * r < ((surdFloor p q n : ℤ) : K) + 1 := by
  have hpK : (p.d : K) ≠ 0 := Int.cast_ne_zero.mpr hp.ne'
  have hqK : (q.d : K) ≠ 0 := Int.cast_ne_zero.mpr hq.ne'
  have hval : ((p.toQ : ℚ) : K) + ((q.toQ : ℚ) : K) * r =
      (((p.n * q.d : ℤ) : K) + ((q.n * p.d : ℤ) : K) * r) / ((p.d * q.d : ℤ) : K) := by
    rw [QM.Num.Rt.toQ, QM.Num.Rt.toQ, Rat.cast_div, Rat.cast_div, Rat.cast_intCast, Rat.cast_intCast,
      Rat.cast_intCast, Rat.cast_intCast, div_mul_eq_mul_div, div_add_div _ _ hpK hqK, Int.cast_mul,
      Int.cast_mul, Int.cast_mul, mul_left_comm (p.d : K), ← mul_assoc (q.n : K)]
  rw [hval] at hv ⊢
  unfold surdFloor
  have hQ0 : q.n * p.d ≠ 0 := Int.mul_ne_zero hq0 hp.ne'
  have hN : 0 ≤ q.n * p.d * (q.n * p.d) * n := Int.mul_nonneg (mul_self_nonneg _) (by omega)
  generalize p.n * q.d = P at hv ⊢
  generalize q.n * p.d = Q at hv hQ0 hN ⊢
  have hw : ∀ w : K, w = Q * r ∨ w = -(Q * r) → w * w = ((Q * Q * n : ℤ) : K) := by
    rintro w (rfl | rfl) <;> rw [Int.cast_mul, Int.cast_mul, ← hr] <;> ring
  rcases lt_or_gt_of_ne hQ0 with hQ | hQ
  · have hQr : (Q : K) * r < 0 := mul_neg_of_neg_of_pos (Int.cast_lt_zero.mpr hQ) hr0
    obtain ⟨b1, b2⟩ := isqrt_bracket hN (neg_nonneg.mpr hQr.le) (hw _ (Or.inr rfl))
    have b1' := lt_of_le_of_ne b1 fun h => sqfree_mul_sq_ne_sq n Q _ hn hsq hQ0
      (Int.cast_injective (α := K) (by rw [← hw _ (Or.inr rfl), ← h, Int.cast_mul]))
    rw [if_neg (by rw [cmp_eq_one]; omega)]
    refine tdiv_floor (Int.mul_pos hp hq) hv ?_ ?_ <;> rw [Int.cast_sub, Int.cast_add, Int.cast_one] <;>
      linarith
  · obtain ⟨b1, b2⟩ := isqrt_bracket hN (mul_pos (Int.cast_pos.mpr hQ) hr0).le (hw _ (Or.inl rfl))
    rw [if_pos (cmp_eq_one.mpr hQ)]
    refine tdiv_floor (Int.mul_pos hp hq) hv ?_ ?_ <;> rw [Int.cast_add]
    · exact (add_le_add_iff_left _).mpr b1
    · rw [add_assoc]; exact (add_lt_add_iff_left _).mpr b2

end

theorem floor_eq {x : Num} {t : Int} {c : Option Int} (ht : Num.toInt (some x) = .ok (some t))
    (hc : Num.compare (some x) (some (.int t)) = .ok c) :
    Num.floor (some x) = .ok (some (if c = some (-1) then t - 1 else t)) := by
  simp only [Num.floor, ht, hc, ok_bind, iSub_eq, pure_eq, apply_ite Res.ok, apply_ite some]

theorem ceil_eq {x : Num} {t : Int} {c : Option Int} (ht : Num.toInt (some x) = .ok (some t))
    (hc : Num.compare (some x) (some (.int t)) = .ok c) :
    Num.ceil (some x) = .ok (some (if c = some 1 then t + 1 else t)) := by
  simp only [Num.ceil, ht, hc, ok_bind, iAdd_eq, pure_eq, apply_ite Res.ok, apply_ite some]

theorem round_eq {x : Num} {f : Int} {c : Option Int} (hf : Num.floor (some x) = .ok (some f))
    (hc : Num.compare (some x) (some (.rat (f * 2 + 1) 2)) = .ok c) :
    Num.round (some x) = .ok (some (if c = some 1 then f + 1 else if c = some (-1) then f
      else if f < 0 then f else f + 1)) := by
  simp only [Num.round, hf, hc, ok_bind, iMul_eq, iAdd_eq, iCompare_eq, cmp_eq_neg_one, pure_eq,
    apply_ite Res.ok, apply_ite some]

/-- The number `x` is read as the element `v` of the ordered field `K`: `to_int` truncates `v`
toward zero and comparing `x` with a canonical integer or rational is comparing `v` with its value.
This is all that `floor`, `ceil` and `round` use of their operand. -/
structure HasValue {K : Type*} [Field K] [LinearOrder K] [IsStrictOrderedRing K] (x : Num) (v : K) :
    Prop where
  toInt : ∃ t : Int, Num.toInt (some x) = .ok (some t) ∧
    ((0 ≤ v → (t : K) ≤ v ∧ v < t + 1) ∧ (v ≤ 0 → (t : K) - 1 < v ∧ v ≤ t))
  compare : ∀ y, Canon y → ¬ isSurd y →
    Num.compare (some x) (some y) = .ok (some (sgn (v - ((toQ y : ℚ) : K))))

namespace HasValue
variable {K : Type*} [Field K] [LinearOrder K] [IsStrictOrderedRing K] {x : Num} {v : K}

theorem floor (h : HasValue x v) :
    ∃ f : Int, Num.floor (some x) = .ok (some f) ∧ (f : K) ≤ v ∧ v < f + 1 := by
  obtain ⟨t, ht, h0, h1⟩ := h.toInt
  refine ⟨_, floor_eq ht (h.compare (.int t) (canon_int t) (not_surd_int t)), ?_⟩
  simp only [Option.some.injEq, sgn_eq_neg_one, sub_neg, toQ_int, Rat.cast_intCast]
  split
  · next hlt =>
    -- `v` below its truncation: `v` is negative and `t - 1 < v`
    rw [Int.cast_sub, Int.cast_one, sub_add_cancel]
    exact ⟨(h1 (le_of_not_ge fun hv => absurd hlt (not_lt.mpr (h0 hv).1))).1.le, hlt⟩
  · next hge =>
    refine ⟨not_lt.mp hge, ?_⟩
    rcases le_total 0 v with hv | hv
    · exact (h0 hv).2
    · exact (h1 hv).2.trans_lt (lt_add_one _)

theorem ceil (h : HasValue x v) :
    ∃ c : Int, Num.ceil (some x) = .ok (some c) ∧ (c : K) - 1 < v ∧ v ≤ c := by
  obtain ⟨t, ht, h0, h1⟩ := h.toInt
  refine ⟨_, ceil_eq ht (h.compare (.int t) (canon_int t) (not_surd_int t)), ?_⟩
  simp only [Option.some.injEq, sgn_eq_one, sub_pos, toQ_int, Rat.cast_intCast]
  split
  · next hgt =>
    -- `v` above its truncation: `v` is positive and `v < t + 1`
    rw [Int.cast_add, Int.cast_one, add_sub_cancel_right]
    exact ⟨hgt, (h0 (le_of_not_ge fun hv => absurd hgt (not_lt.mpr (h1 hv).2))).2.le⟩
  · next hle =>
    refine ⟨?_, not_lt.mp hle⟩
    rcases le_total v 0 with hv | hv
    · exact (h1 hv).1
    · exact (sub_one_lt _).trans_le (h0 hv).1

/-- `round`: the nearest integer, a half rounds away from zero -/
theorem round (h : HasValue x v) :
    ∃ r : Int, Num.round (some x) = .ok (some r) ∧ (r : K) - 1 / 2 ≤ v ∧ v ≤ r + 1 / 2 ∧
      (v = r - 1 / 2 → 0 < v) ∧ (v = r + 1 / 2 → v < 0) := by
  obtain ⟨f, hf, hf1, hf2⟩ := h.floor
  refine ⟨_, round_eq hf (h.compare _ (canon_half f) id), ?_⟩
  simp only [Option.some.injEq, sgn_eq_one, sgn_eq_neg_one, sub_pos, sub_neg, toQ_half]
  -- whichever of `f`, `f + 1` is chosen, `v` stays strictly inside `(f - 1/2, f + 1 + 1/2)`
  have lo : (f : K) - 1 / 2 < v := (sub_lt_self _ one_half_pos).trans_le hf1
  have hi : v < (f : K) + 1 + 1 / 2 := hf2.trans (lt_add_of_pos_right _ one_half_pos)
  have mid : (f : K) + 1 - 1 / 2 = f + 1 / 2 := by rw [add_sub_assoc, sub_half]
  split
  · next hgt =>
    rw [Int.cast_add, Int.cast_one, mid]
    exact ⟨hgt.le, hi.le, fun e => absurd e hgt.ne', fun e => absurd e hi.ne⟩
  · split
    · next hlt => exact ⟨lo.le, hlt.le, fun e => absurd e lo.ne', fun e => absurd e hlt.ne⟩
    · next hgt hlt =>
      -- a tie: `v = f + 1/2`, decided by the sign of `f`
      have e : v = f + 1 / 2 := le_antisymm (not_lt.mp hgt) (not_lt.mp hlt)
      split
      · next hneg =>
        have h1 : (f : K) + 1 ≤ 0 := by
          have := Int.cast_le (R := K) |>.mpr (show f + 1 ≤ 0 by omega)
          rwa [Int.cast_add, Int.cast_one, Int.cast_zero] at this
        exact ⟨lo.le, e.le, fun e' => absurd e' lo.ne',
          fun _ => e ▸ ((add_lt_add_iff_left _).mpr one_half_lt_one).trans_le h1⟩
      · next hpos =>
        rw [Int.cast_add, Int.cast_one, mid]
        exact ⟨e.ge, hi.le, fun _ => e ▸ add_pos_of_nonneg_of_pos (Int.cast_nonneg (not_lt.mp hpos)) one_half_pos,
          fun e' => absurd e' hi.ne⟩

end HasValue

end C20
