import QuiverModel.Core.Num
import Mathlib.Algebra.Order.Field.Rat
import Mathlib.Algebra.Order.Ring.Cast
import Mathlib.Data.Rat.Lemmas
import Mathlib.Data.Int.Cast.Field
import Mathlib.Data.Int.CharZero
import Mathlib.Data.Int.GCD
/-
Lemmas about M-Num (`QuiverModel.Core.Num`): semantics in ℚ, canonical form, specifications of
the rational kernel (`reduce`, `radd`, …). Serves C20 and lives, like `Surd` and `Round`, in the namespace `C20` of
the theorems that state the property.
-/
open QM QM.Num QM.Builtins

namespace C20

/-- three-way comparison, the value of `__integer_compare__` -/
def cmp (a b : Int) : Int := if a < b then -1 else if a > b then 1 else 0

@[simp] theorem ok_bind {α β} (v : α) (f : α → Res β) : (Res.ok v >>= f) = f v := rfl
@[simp] theorem pure_eq {α} (v : α) : (pure v : Res α) = Res.ok v := rfl
@[simp] theorem iAdd_eq (a b : Int) : iAdd a b = .ok (a + b) := rfl
@[simp] theorem iSub_eq (a b : Int) : iSub a b = .ok (a - b) := rfl
@[simp] theorem iMul_eq (a b : Int) : iMul a b = .ok (a * b) := rfl
@[simp] theorem iGcd_eq (a b : Int) : iGcd a b = .ok ((Int.gcd a b : ℕ) : ℤ) := rfl
@[simp] theorem iAbs_eq (a : Int) : iAbs a = .ok ((a.natAbs : ℕ) : ℤ) := rfl
@[simp] theorem iCompare_eq (a b : Int) : iCompare a b = .ok (cmp a b) := rfl
theorem iDiv_eq {a b : Int} (h : b ≠ 0) : iDiv a b = .ok (Int.tdiv a b) := by
  simp [iDiv, integerDivide, h, lift]
theorem iMod_eq {a b : Int} (h : b ≠ 0) : iMod a b = .ok (Int.tmod a b) := by
  simp [iMod, integerModulo, h, lift]
theorem iSqrt_eq {a : Int} (h : 0 ≤ a) : iSqrt a = .ok ((Nat.sqrt a.toNat : ℕ) : ℤ) := by
  simp [iSqrt, integerSqrt, lift, Int.not_lt.mpr h]

/-- sign as -1 / 0 / 1 in any linear order with a zero; `sgnQ` is `sgn` at ℚ -/
def sgn {K : Type*} [Zero K] [LinearOrder K] (v : K) : Int :=
  if v < 0 then -1 else if 0 < v then 1 else 0

def sgnQ (q : ℚ) : Int := if q < 0 then -1 else if 0 < q then 1 else 0

theorem sgnQ_eq (q : ℚ) : sgnQ q = sgn q := by unfold sgnQ sgn; rfl

section
variable {K : Type*} [Zero K] [LinearOrder K] {v : K}

theorem sgn_of_neg (h : v < 0) : sgn v = -1 := if_pos h
theorem sgn_of_pos (h : 0 < v) : sgn v = 1 := by rw [sgn, if_neg (lt_asymm h), if_pos h]
@[simp] theorem sgn_zero : sgn (0 : K) = 0 := by rw [sgn, if_neg (lt_irrefl _), if_neg (lt_irrefl _)]

theorem sgn_eq_neg_one : sgn v = -1 ↔ v < 0 := by
  rcases lt_trichotomy v 0 with h | rfl | h
  · simp only [sgn_of_neg h, h]
  · simp only [sgn_zero, lt_irrefl]; decide
  · simp only [sgn_of_pos h, lt_asymm h]; decide

theorem sgn_eq_one : sgn v = 1 ↔ 0 < v := by
  rcases lt_trichotomy v 0 with h | rfl | h
  · simp only [sgn_of_neg h, lt_asymm h]; decide
  · simp only [sgn_zero, lt_irrefl]; decide
  · simp only [sgn_of_pos h, h]

theorem sgn_eq_zero : sgn v = 0 ↔ v = 0 := by
  rcases lt_trichotomy v 0 with h | rfl | h
  · simp only [sgn_of_neg h, h.ne]; decide
  · simp only [sgn_zero]
  · simp only [sgn_of_pos h, h.ne']; decide
end

theorem sgnQ_cases (q : ℚ) :
    (sgnQ q = -1 ↔ q < 0) ∧ (sgnQ q = 0 ↔ q = 0) ∧ (sgnQ q = 1 ↔ 0 < q) := by
  rw [sgnQ_eq]; exact ⟨sgn_eq_neg_one, sgn_eq_zero, sgn_eq_one⟩

theorem cmp_eq_sgn (a b : Int) : cmp a b = sgn (a - b) := by
  unfold cmp sgn; simp only [sub_neg, sub_pos, gt_iff_lt]

theorem cmp_sgn_zero {K : Type*} [Zero K] [LinearOrder K] (v : K) : cmp (sgn v) 0 = sgn v := by
  unfold sgn; split
  · rfl
  · split <;> rfl

theorem cmp_eq_neg_one {a b : Int} : cmp a b = -1 ↔ a < b := by rw [cmp_eq_sgn, sgn_eq_neg_one, sub_neg]
theorem cmp_eq_one {a b : Int} : cmp a b = 1 ↔ b < a := by rw [cmp_eq_sgn, sgn_eq_one, sub_pos]
theorem cmp_eq_zero {a b : Int} : cmp a b = 0 ↔ a = b := by rw [cmp_eq_sgn, sgn_eq_zero, sub_eq_zero]

section
variable {K : Type*} [Ring K] [LinearOrder K] [IsStrictOrderedRing K]

theorem sgn_intCast (z : Int) : sgn (z : K) = sgn z := by
  unfold sgn; simp only [Int.cast_lt_zero, Int.cast_pos]

theorem cmp_cast_sub (a b : Int) : cmp a b = sgn ((a : K) - (b : K)) := by
  rw [cmp_eq_sgn, ← Int.cast_sub, sgn_intCast]

theorem sgn_neg (v : K) : sgn (-v) = -sgn v := by
  rcases lt_trichotomy v 0 with h | rfl | h
  · rw [sgn_of_neg h, sgn_of_pos (neg_pos.mpr h)]; rfl
  · rw [neg_zero, sgn_zero]; rfl
  · rw [sgn_of_pos h, sgn_of_neg (neg_neg_of_pos h)]

theorem sgn_mul_pos (v : K) {p : K} (hp : 0 < p) : sgn (v * p) = sgn v := by
  have h1 : v * p < 0 ↔ v < 0 := ⟨fun h => neg_of_mul_neg_left h hp.le, fun h => mul_neg_of_neg_of_pos h hp⟩
  unfold sgn; simp only [h1, mul_pos_iff_of_pos_right hp]
end

/-- the result of `reduce`, as a plain function -/
def reduceP (n d : Int) : Rt :=
  if d < 0 then ⟨-(Int.tdiv n (Int.gcd n d)), -(Int.tdiv d (Int.gcd n d))⟩
  else ⟨Int.tdiv n (Int.gcd n d), Int.tdiv d (Int.gcd n d)⟩

theorem gcd_ne_zero_of_right {n d : Int} (hd : d ≠ 0) : ((Int.gcd n d : ℕ) : ℤ) ≠ 0 :=
  Int.natCast_ne_zero.mpr fun h => hd (Int.gcd_eq_zero_iff.mp h).2

theorem reduce_eq {n d : Int} (hd : d ≠ 0) : reduce ⟨n, d⟩ = .ok (reduceP n d) := by
  have hg := gcd_ne_zero_of_right (n := n) hd
  have hg' : ((Int.gcd (n * -1) (d * -1) : ℕ) : ℤ) = (Int.gcd n d : ℕ) := by
    rw [mul_neg_one, mul_neg_one, Int.neg_gcd, Int.gcd_neg]
  -- fuel 2: at most one sign flip, then the gcd step
  unfold reduce reduceP reduceF reduceF
  simp only [iCompare_eq, ok_bind, cmp_eq_neg_one, iMul_eq, iGcd_eq, pure_eq]
  split
  · rw [if_neg (by omega), hg', iDiv_eq hg, iDiv_eq hg]
    simp only [ok_bind, mul_neg_one, Int.neg_tdiv]
  · rw [iDiv_eq hg, iDiv_eq hg]; rfl

def _root_.QM.Num.Rt.toQ (r : Rt) : ℚ := (r.n : ℚ) / (r.d : ℚ)

/-- canonical rational: denominator positive, lowest terms -/
def _root_.QM.Num.Rt.Canon (r : Rt) : Prop := 0 < r.d ∧ Int.gcd r.n r.d = 1

theorem Rt.Canon.ne {r : Rt} (h : r.Canon) : r.d ≠ 0 := ne_of_gt h.1

theorem reduceP_spec {n d : Int} (hd : d ≠ 0) :
    (reduceP n d).Canon ∧ (reduceP n d).toQ = (n : ℚ) / (d : ℚ) := by
  have hg : 0 < Int.gcd n d := Int.gcd_pos_of_ne_zero_right n hd
  have hgz : (0 : ℤ) ≤ (Int.gcd n d : ℕ) := Int.natCast_nonneg _
  have hgq : (((Int.gcd n d : ℕ) : ℤ) : ℚ) ≠ 0 := Int.cast_ne_zero.mpr (gcd_ne_zero_of_right hd)
  have hn := Int.gcd_dvd_left n d
  have hdv := Int.gcd_dvd_right n d
  have hcop := Int.gcd_div_gcd_div_gcd hg
  have hval : ((n / (Int.gcd n d : ℕ) : ℤ) : ℚ) / ((d / (Int.gcd n d : ℕ) : ℤ) : ℚ) = n / d := by
    rw [Int.cast_div hn hgq, Int.cast_div hdv hgq, div_div_div_cancel_right₀ hgq]
  unfold reduceP QM.Num.Rt.Canon QM.Num.Rt.toQ
  rw [Int.tdiv_eq_ediv_of_dvd hn, Int.tdiv_eq_ediv_of_dvd hdv]
  split
  · next h =>
    refine ⟨⟨?_, by rwa [Int.neg_gcd, Int.gcd_neg]⟩, by rw [Int.cast_neg, Int.cast_neg, neg_div_neg_eq, hval]⟩
    rw [← Int.neg_ediv_of_dvd hdv]
    exact Int.ediv_pos_of_pos_of_dvd (neg_pos.mpr h) hgz (Int.dvd_neg.mpr hdv)
  · next h =>
    exact ⟨⟨Int.ediv_pos_of_pos_of_dvd (by omega) hgz hdv, hcop⟩, hval⟩

/-- `reduce` of a fraction of value `q` yields the canonical rational of value `q`; every operation
of the rational kernel ends this way -/
theorem reduce_yields {n d : Int} {q : ℚ} (hd : d ≠ 0) (hq : (n : ℚ) / (d : ℚ) = q) :
    ∃ z, reduce ⟨n, d⟩ = .ok z ∧ z.Canon ∧ z.toQ = q :=
  ⟨reduceP n d, reduce_eq hd, (reduceP_spec hd).1, (reduceP_spec hd).2.trans hq⟩

theorem reduce_spec {n d : Int} (hd : d ≠ 0) :
    ∃ z, reduce ⟨n, d⟩ = .ok z ∧ z.Canon ∧ z.toQ = (n : ℚ) / (d : ℚ) :=
  reduce_yields hd rfl

theorem toQ_ne_zero {r : Rt} (h : r.toQ ≠ 0) : r.n ≠ 0 :=
  fun hn => h (by rw [QM.Num.Rt.toQ, hn, Int.cast_zero, zero_div])

theorem rneg_eq {x : Rt} (hx : x.d ≠ 0) : rneg x = .ok (reduceP (x.n * -1) x.d) := by
  simp only [rneg, iMul_eq, ok_bind, reduce_eq hx]

theorem reduceP_neg {x : Rt} (hx : x.d ≠ 0) :
    (reduceP (x.n * -1) x.d).Canon ∧ (reduceP (x.n * -1) x.d).toQ = - x.toQ :=
  ⟨(reduceP_spec hx).1, (reduceP_spec hx).2.trans (by rw [mul_neg_one, Int.cast_neg, neg_div]; rfl)⟩

theorem rneg_spec {x : Rt} (hx : x.d ≠ 0) :
    ∃ z, rneg x = .ok z ∧ z.Canon ∧ z.toQ = - x.toQ :=
  ⟨_, rneg_eq hx, reduceP_neg hx⟩

theorem radd_spec {x y : Rt} (hx : x.d ≠ 0) (hy : y.d ≠ 0) :
    ∃ z, radd x y = .ok z ∧ z.Canon ∧ z.toQ = x.toQ + y.toQ := by
  have hxq : (x.d : ℚ) ≠ 0 := Int.cast_ne_zero.mpr hx
  have hyq : (y.d : ℚ) ≠ 0 := Int.cast_ne_zero.mpr hy
  simp only [radd, iMul_eq, iAdd_eq, ok_bind]
  refine reduce_yields (Int.mul_ne_zero hx hy) ?_
  rw [Int.cast_add, Int.cast_mul, Int.cast_mul, Int.cast_mul, mul_comm (y.n : ℚ)]
  exact (div_add_div _ _ hxq hyq).symm

theorem rsub_spec {x y : Rt} (hx : x.d ≠ 0) (hy : y.d ≠ 0) :
    ∃ z, rsub x y = .ok z ∧ z.Canon ∧ z.toQ = x.toQ - y.toQ := by
  have hxq : (x.d : ℚ) ≠ 0 := Int.cast_ne_zero.mpr hx
  have hyq : (y.d : ℚ) ≠ 0 := Int.cast_ne_zero.mpr hy
  simp only [rsub, iMul_eq, iSub_eq, ok_bind]
  refine reduce_yields (Int.mul_ne_zero hx hy) ?_
  rw [Int.cast_sub, Int.cast_mul, Int.cast_mul, Int.cast_mul, mul_comm (y.n : ℚ)]
  exact (div_sub_div _ _ hxq hyq).symm

theorem rmul_spec {x y : Rt} (hx : x.d ≠ 0) (hy : y.d ≠ 0) :
    ∃ z, rmul x y = .ok z ∧ z.Canon ∧ z.toQ = x.toQ * y.toQ := by
  simp only [rmul, iMul_eq, ok_bind]
  refine reduce_yields (Int.mul_ne_zero hx hy) ?_
  rw [Int.cast_mul, Int.cast_mul]; exact (div_mul_div_comm _ _ _ _).symm

theorem rquot_spec {x y : Rt} (hx : x.d ≠ 0) (hyn : y.n ≠ 0) :
    ∃ z, rquot x y = .ok z ∧ z.Canon ∧ z.toQ = x.toQ / y.toQ := by
  simp only [rquot, iMul_eq, ok_bind]
  refine reduce_yields (Int.mul_ne_zero hx hyn) ?_
  rw [Int.cast_mul, Int.cast_mul]; exact (div_div_div_eq _ _ _ _).symm

/-- for `rsign` and `rcompare`: multiplying by the positive denominators does not change the sign (`sgn_mul_pos`) -/
theorem rsign_spec (x : Rt) (hx : 0 < x.d) : rsign x = .ok (sgnQ x.toQ) := by
  have hq : (0 : ℚ) < x.d := Int.cast_pos.mpr hx
  rw [sgnQ_eq, ← sgn_mul_pos x.toQ hq, QM.Num.Rt.toQ, div_mul_cancel₀ _ hq.ne', sgn_intCast, ← sub_zero x.n,
    ← cmp_eq_sgn]
  rfl

theorem rcompare_spec (x y : Rt) (hx : 0 < x.d) (hy : 0 < y.d) :
    rcompare x y = .ok (sgnQ (x.toQ - y.toQ)) := by
  have hxq : (0 : ℚ) < x.d := Int.cast_pos.mpr hx
  have hyq : (0 : ℚ) < y.d := Int.cast_pos.mpr hy
  have e : (x.toQ - y.toQ) * ((x.d : ℚ) * y.d) = ((x.n * y.d : ℤ) : ℚ) - ((y.n * x.d : ℤ) : ℚ) := by
    simp only [Int.cast_mul]
    rw [mul_comm (y.n : ℚ), QM.Num.Rt.toQ, QM.Num.Rt.toQ, div_sub_div _ _ hxq.ne' hyq.ne',
      div_mul_cancel₀ _ (mul_pos hxq hyq).ne']
  rw [sgnQ_eq, ← sgn_mul_pos _ (mul_pos hxq hyq), e, ← cmp_cast_sub]
  rfl

def coeffQ (c : Coeff) : ℚ := (toRational c).toQ

/-- value of an integer / rational number (for a surd: its rational part; see `toQsqrt`) -/
def toQ : Num → ℚ
  | .int z => (z : ℚ)
  | .rat n d => (n : ℚ) / (d : ℚ)
  | .surd a _ _ => coeffQ a

/-- `a + b·√n` as the triple `(a, b, n)`; integers and rationals are `(q, 0, 1)` -/
def toQsqrt : Num → ℚ × ℚ × ℕ
  | .int z => ((z : ℚ), 0, 1)
  | .rat n d => ((n : ℚ) / (d : ℚ), 0, 1)
  | .surd a b n => (coeffQ a, coeffQ b, n.toNat)

/-- square-free: no square of an integer ≥ 2 divides `m` -/
def SqFree (m : Int) : Prop := ∀ e : Int, 2 ≤ e → ¬ (e * e ∣ m)

/-- canonical surd coefficient: a bare integer, or a rational in lowest terms that is not integral
(`lower` has been applied) -/
def CanonCoeff : Coeff → Prop
  | .int _ => True
  | .rat n d => 1 < d ∧ Int.gcd n d = 1

/-- the module's canonical form (header of num.qv) -/
def Canon : Num → Prop
  | .int _ => True
  | .rat n d => 0 < d ∧ Int.gcd n d = 1
  | .surd a b n => CanonCoeff a ∧ CanonCoeff b ∧ coeffQ b ≠ 0 ∧ 1 < n ∧ SqFree n

def isInt : Num → Prop | .int _ => True | _ => False
def isRat : Num → Prop | .rat _ _ => True | _ => False
def isSurd : Num → Prop | .surd _ _ _ => True | _ => False

instance (x : Num) : Decidable (isInt x) := by cases x <;> unfold isInt <;> exact inferInstance
instance (x : Num) : Decidable (isRat x) := by cases x <;> unfold isRat <;> exact inferInstance
instance (x : Num) : Decidable (isSurd x) := by cases x <;> unfold isSurd <;> exact inferInstance

theorem toQ_int (t : Int) : toQ (.int t) = (t : ℚ) := rfl
theorem canon_int (t : Int) : Canon (.int t) := trivial
theorem not_surd_int (t : Int) : ¬ isSurd (.int t) := id

theorem toNum_toQ (r : Rt) : toQ r.toNum = r.toQ := rfl
theorem toNum_canon {r : Rt} (h : r.Canon) : Canon r.toNum := h
theorem toNum_isRat (r : Rt) : isRat r.toNum := trivial

/-- an integer or rational as a coefficient (for a surd its rational part; only used on non-surds) -/
def coeffOf : Num → Coeff
  | .int z => .int z
  | .rat n d => .rat n d
  | .surd a _ _ => a

theorem coeffOf_spec {x : Num} (hx : Canon x) (nx : ¬ isSurd x) :
    (toRational (coeffOf x)).Canon ∧ (toRational (coeffOf x)).toQ = toQ x := by
  cases x with
  | int z => exact ⟨⟨Int.one_pos, Int.gcd_one⟩, div_one _⟩
  | rat n d => exact ⟨hx, rfl⟩
  | surd a b n => exact absurd trivial nx

theorem toRational_canon {c : Coeff} (h : CanonCoeff c) : (toRational c).Canon := by
  cases c with
  | int z => exact ⟨Int.one_pos, Int.gcd_one⟩
  | rat n d => exact ⟨Int.lt_trans Int.one_pos h.1, h.2⟩

theorem divCoeff_spec (x y : Coeff) (hx : (toRational x).d ≠ 0) :
    ((toRational y).n = 0 → divCoeff x y = .ok none) ∧
    ((toRational y).n ≠ 0 → ∃ z : Rt, divCoeff x y = .ok (some z.toNum) ∧ z.Canon ∧
        z.toQ = (toRational x).toQ / (toRational y).toQ) := by
  constructor
  · intro h; simp only [divCoeff, h, if_true, pure_eq]
  · intro h
    obtain ⟨z, h1, h2, h3⟩ := rquot_spec hx h
    -- the last branch of `div` is `rquot` inlined
    have h1 : reduce ⟨_, _⟩ = .ok z := h1
    exact ⟨z, by simp only [divCoeff, h, if_false, iMul_eq, ok_bind, pure_eq, h1], h2, h3⟩

theorem div_eq_divCoeff (x y : Num) (nx : ¬ isSurd x) (ny : ¬ isSurd y) :
    div (some x) (some y) = divCoeff (coeffOf x) (coeffOf y) := by
  cases x <;> cases y <;> first | rfl | exact absurd trivial nx | exact absurd trivial ny

theorem binop_nil {α} (op : Option Num → Option Num → Res (Option α))
    (h1 : ∀ y, op none y = .ok none) (h2 : ∀ v, op (some v) none = .ok none) (x y : Option Num) :
    op none y = .ok none ∧ op x none = .ok none := by
  refine ⟨h1 y, ?_⟩
  cases x with
  | none => exact h1 none
  | some v => exact h2 v

/-- which of the three forms: 0 integer, 1 rational, 2 surd -/
def kind : Num → Nat
  | .int _ => 0
  | .rat _ _ => 1
  | .surd _ _ _ => 2

theorem rt_unique {r r' : Rt} (h : r.Canon) (h' : r'.Canon) (he : r.toQ = r'.toQ) : r = r' := by
  obtain ⟨n, d⟩ := r
  obtain ⟨n', d'⟩ := r'
  have a := Rat.num_div_eq_of_coprime (a := n) (b := d) h.1 h.2
  have b := Rat.den_div_eq_of_coprime (a := n) (b := d) h.1 h.2
  rw [show (n : ℚ) / d = n' / d' from he] at a b
  rw [Rat.num_div_eq_of_coprime (a := n') (b := d') h'.1 h'.2] at a
  rw [Rat.den_div_eq_of_coprime (a := n') (b := d') h'.1 h'.2] at b
  rw [a, b]

theorem coeff_unique {a a' : Coeff} (h : CanonCoeff a) (h' : CanonCoeff a') (he : coeffQ a = coeffQ a') :
    a = a' := by
  have e := rt_unique (toRational_canon h) (toRational_canon h') he
  cases a with
  | int z =>
    cases a' with
    | int z' => rw [(Rt.mk.inj e).1]
    | rat n d => exact absurd (Rt.mk.inj e).2 (ne_of_lt h'.1)
  | rat n d =>
    cases a' with
    | int z => exact absurd (Rt.mk.inj e).2.symm (ne_of_lt h.1)
    | rat n' d' => rw [(Rt.mk.inj e).1, (Rt.mk.inj e).2]

end C20
