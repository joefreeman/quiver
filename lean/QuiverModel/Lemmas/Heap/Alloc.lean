import QuiverModel.Lemmas.Heap.Inv
/-
`allocate`: the slot handed out was in the reuse pool or is new, and nothing else changes.
-/
namespace QM.Heap
open State

theorem getD_setIfInBounds {α : Type} (a : Array α) (i j : Nat) (v d : α) :
    (a.setIfInBounds i v).getD j d = if i = j ∧ i < a.size then v else a.getD j d := by
  simp only [Array.getD_eq_getD_getElem?, Array.getElem?_setIfInBounds]
  by_cases h : i = j
  · subst h
    by_cases hi : i < a.size <;> simp [hi]
  · simp [h]

theorem getD_push {α : Type} (a : Array α) (j : Nat) (v d : α) :
    (a.push v).getD j d = if j = a.size then v else a.getD j d := by
  simp only [Array.getD_eq_getD_getElem?, Array.getElem?_push]
  by_cases h : j = a.size
  · simp [h]
  · simp [h]

theorem getD_oob {α : Type} (a : Array α) (j : Nat) (d : α) (h : a.size ≤ j) : a.getD j d = d := by
  simp [Array.getD_eq_getD_getElem?, Nat.not_lt.mpr h]

theorem allocate_none {s t : State} {d : Data} (h : allocate s d = (none, t)) : t = s := by
  unfold allocate at h
  split at h
  · cases h; rfl
  · split at h <;> cases h

theorem rootsEq_allocate (s : State) (d : Data) : RootsEq s (allocate s d).2 := by
  unfold allocate
  split
  · exact RootsEq.refl s
  · split <;> exact ⟨rfl, rfl, rfl⟩

/-- what a successful `allocate` does, read through the observation functions: slot `idx` was in
the reuse pool or is new; it becomes an un-freed slot with the requested content and count 0, leaves
the pool and is recorded as fresh; nothing else changes. The two branches of `allocate` write
different array terms (`setIfInBounds` / `push`); read through `rc`, `isFreed`, `bytesAt` they say
the same, so everything after `allocated` is proved once. -/
structure Allocated (s t : State) (d : Data) (idx : Nat) : Prop where
  wasFree : s.isFreed idx = true ∨ idx = s.heap.size
  size_le : s.heap.size ≤ t.heap.size
  lt_size : idx < t.heap.size
  of_lt : ∀ i, i < t.heap.size → i = idx ∨ i < s.heap.size
  shapeRc : t.refcounts.size = t.heap.size
  shapeFr : t.freed.size = t.heap.size
  rc : ∀ i, t.rc i = s.rc i
  isFreed : ∀ i, t.isFreed i = if i = idx then false else s.isFreed i
  bytesAt : ∀ i, t.bytesAt i = if i = idx then d.toVec else s.bytesAt i
  mem_free : ∀ j, j ∈ t.free ↔ j ∈ s.free ∧ j ≠ idx
  nodup : t.free.Nodup
  pendingFree : t.pendingFree = s.pendingFree
  fresh : t.fresh = idx :: s.fresh
  uaf : t.uaf = s.uaf
  roots : RootsEq s t

theorem allocated {s t : State} (h : Inv s) {d : Data} {idx : Nat} (ha : allocate s d = (some idx, t)) :
    Allocated s t d idx := by
  unfold allocate at ha
  split at ha
  · cases ha
  · split at ha
    · -- reuse the most recently freed slot
      rename_i index rest hfree
      obtain ⟨e, rfl⟩ := Prod.mk.inj ha
      obtain rfl : index = idx := Option.some.inj e
      have hnd := List.nodup_cons.mp (hfree ▸ h.freeNodup)
      have hfr : s.isFreed index = true := h.freeFreed index (hfree ▸ List.mem_cons_self)
      have hlt : index < s.freed.size := isFreed_lt hfr
      have hlt2 : index < s.heap.size := h.shapeFr ▸ hlt
      refine ⟨Or.inl hfr, by simp, by simpa using hlt2, fun i hi => Or.inr (by simpa using hi),
        by simpa using h.shapeRc, by simpa using h.shapeFr, fun i => ?_, fun i => ?_, fun i => ?_, fun j => ?_,
        hnd.2, rfl, rfl, rfl, ⟨rfl, rfl, rfl⟩⟩
      · show (s.refcounts.setIfInBounds index 0).getD i 0 = _
        rw [getD_setIfInBounds]
        split
        · rename_i hc; exact hc.1 ▸ (h.freedZero index hfr).symm
        · rfl
      · show (s.freed.setIfInBounds index false).getD i false = _
        rw [getD_setIfInBounds]
        by_cases e : i = index
        · rw [if_pos ⟨e.symm, hlt⟩, if_pos e]
        · rw [if_neg (fun hc => e hc.1.symm), if_neg e]; rfl
      · show ((s.heap.setIfInBounds index d).getD i (.owned [])).toVec = _
        rw [getD_setIfInBounds]
        by_cases e : i = index
        · rw [if_pos ⟨e.symm, hlt2⟩, if_pos e]
        · rw [if_neg (fun hc => e hc.1.symm), if_neg e]; rfl
      · rw [hfree, List.mem_cons]
        exact ⟨fun hj => ⟨Or.inr hj, fun e => hnd.1 (e ▸ hj)⟩, fun ⟨hj, e⟩ => hj.resolve_left e⟩
    · -- grow
      cases ha
      have hnotfree : ∀ j ∈ s.free, j ≠ s.heap.size := fun j hj e =>
        Nat.lt_irrefl _ (e ▸ h.shapeFr ▸ isFreed_lt (h.freeFreed j hj))
      refine ⟨Or.inr rfl, by simp, by simp, fun i hi => ?_, by simp [h.shapeRc], by simp [h.shapeFr],
        fun i => ?_, fun i => ?_, fun i => ?_, fun j => ⟨fun hj => ⟨hj, hnotfree j hj⟩, And.left⟩,
        h.freeNodup, rfl, rfl, rfl, ⟨rfl, rfl, rfl⟩⟩
      · simp only [Array.size_push] at hi; omega
      · show (s.refcounts.push 0).getD i 0 = _
        rw [getD_push]
        split
        · rename_i hc; exact (getD_oob _ _ _ (Nat.le_of_eq hc.symm)).symm
        · rfl
      · show (s.freed.push false).getD i false = _
        rw [getD_push, h.shapeFr]
        split
        · rfl
        · rfl
      · show ((s.heap.push d).getD i (.owned [])).toVec = _
        rw [getD_push]
        split <;> rfl

theorem Allocated.inv {s t : State} {d : Data} {idx : Nat} (a : Allocated s t d idx) (h : Inv s) : Inv t := by
  have hfd : ∀ i, t.isFreed i = true → i ≠ idx ∧ s.isFreed i = true := fun i hi => by
    rw [a.isFreed] at hi
    split at hi
    · cases hi
    · exact ⟨by assumption, hi⟩
  refine ⟨a.shapeRc, a.shapeFr, fun i => ?_, fun i hi => ?_, fun j hj => ?_, fun i hi => ?_, a.nodup,
    fun i hi hz hnf => ?_, fun j hj => ?_, a.uaf.trans h.noUaf⟩
  · rw [a.rc, a.roots.total]; exact h.acct i
  · rw [a.rc]; exact h.freedZero i (hfd i hi).2
  · have ⟨hj, e⟩ := (a.mem_free j).mp hj
    rw [a.isFreed, if_neg e]; exact h.freeFreed j hj
  · exact (a.mem_free i).mpr ⟨h.freedFree i (hfd i hi).2, (hfd i hi).1⟩
  · rw [a.fresh, a.pendingFree]
    by_cases e : i = idx
    · exact Or.inr (e ▸ List.mem_cons_self)
    · rw [a.rc] at hz; rw [a.isFreed, if_neg e] at hnf
      exact (h.queued i ((a.of_lt i hi).resolve_left e) hz hnf).imp_right (List.mem_cons_of_mem _)
  · exact Nat.lt_of_lt_of_le (h.pendLt j (a.pendingFree ▸ hj)) a.size_le

theorem Allocated.stable {s t : State} {d : Data} {idx : Nat} (a : Allocated s t d idx) : Stable s t := by
  refine ⟨a.size_le, fun i hi hnf => ?_⟩
  have e : i ≠ idx := fun e => a.wasFree.elim (fun hf => by rw [e, hf] at hnf; cases hnf) (fun hs => by omega)
  rw [a.isFreed, a.bytesAt, if_neg e, if_neg e]; exact ⟨hnf, rfl⟩

theorem inv_allocate {s : State} (h : Inv s) (d : Data) : Inv (allocate s d).2 := by
  cases ha : allocate s d with
  | mk o t =>
    cases o with
    | none => exact allocate_none ha ▸ h
    | some idx => exact (allocated h ha).inv h

theorem stable_allocate {s : State} (h : Inv s) (d : Data) : Stable s (allocate s d).2 := by
  cases ha : allocate s d with
  | mk o t =>
    cases o with
    | none => exact allocate_none ha ▸ Stable.refl s
    | some idx => exact (allocated h ha).stable

theorem allocate_some {s t : State} (h : Inv s) {d : Data} {idx : Nat} (ha : allocate s d = (some idx, t)) :
    idx < t.heap.size ∧ t.isFreed idx = false ∧ t.bytesAt idx = d.toVec
      ∧ (s.isFreed idx = true ∨ idx = s.heap.size) :=
  have a := allocated h ha
  ⟨a.lt_size, by rw [a.isFreed, if_pos rfl], by rw [a.bytesAt, if_pos rfl], a.wasFree⟩

theorem allocate_fresh {s t : State} (h : Inv s) {d : Data} {idx : Nat} (ha : allocate s d = (some idx, t))
    {v : Val} (hv : Live s v) : v.count idx = 0 := by
  have ⟨_, _, _, hor⟩ := allocate_some h ha
  cases Nat.eq_zero_or_pos (v.count idx) with
  | inl e => exact e
  | inr hp =>
    have ⟨a, b⟩ := hv idx hp
    cases hor with
    | inl hf => rw [hf] at b; cases b
    | inr he => omega

theorem allocate_live {s t : State} (h : Inv s) {d : Data} {idx : Nat} (ha : allocate s d = (some idx, t)) :
    Live t (.bin (.heap idx)) := by
  have ⟨a, b, _, _⟩ := allocate_some h ha
  intro j hj
  have : idx = j := by
    by_cases e : idx = j
    · exact e
    · simp [e] at hj
  subst this; exact ⟨a, b⟩

end QM.Heap
