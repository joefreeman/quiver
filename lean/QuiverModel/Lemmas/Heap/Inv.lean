import QuiverModel.Lemmas.Heap.Basic
/-
The accounting invariant of M-Heap; what an operation guarantees to the slots it does not own
(`Stable`, `Good`, `GoodT`); and the lemma every value-movement site rests on (`good_roots`: retain a
value, change the roots, release a value; its two halves are `inv_retain_add` and
`inv_remove_release`).

Three relations say which fields of two states agree. `RootsEq`: the three root fields (`procs`,
`constantBinaries`, `transit`). `HeapEq`: the other seven; with `RootsEq` it is equality of states.
`SameRoots` (`Lemmas/Heap/Basic.lean`): the roots and `heap`, `freed`, `free`, with `refcounts` of
the same size; the count values, `pendingFree`, `fresh` and `uaf` — what `retain` / `release`
write — are free.
-/
namespace QM.Heap
open State

/-- the right-hand side of `Acct`: occurrences reachable from the roots + occurrences in handles in
transit that are counted -/
def State.total (s : State) (i : Nat) : Nat := s.countRefs i + s.floating i

/-- **Acct**: every count is exactly the number of references (paths) that exist. Stated for every
index, so it also says that no root mentions a slot beyond the heap. -/
def Acct (s : State) : Prop := ∀ i, s.rc i = s.countRefs i + s.floating i

/-- the full invariant of the heap part of an executor -/
structure Inv (s : State) : Prop where
  shapeRc : s.refcounts.size = s.heap.size
  shapeFr : s.freed.size = s.heap.size
  acct : Acct s
  /-- a freed slot has count 0 -/
  freedZero : ∀ i, s.isFreed i = true → s.rc i = 0
  /-- the reuse pool holds freed slots only … -/
  freeFreed : ∀ j ∈ s.free, s.isFreed j = true
  /-- … all of them … -/
  freedFree : ∀ i, s.isFreed i = true → i ∈ s.free
  /-- … once each -/
  freeNodup : s.free.Nodup
  /-- a live slot at count 0 is queued for reclamation, unless it was never retained -/
  queued : ∀ i, i < s.heap.size → s.rc i = 0 → s.isFreed i = false → i ∈ s.pendingFree ∨ i ∈ s.fresh
  /-- queued indices are slots -/
  pendLt : ∀ j ∈ s.pendingFree, j < s.heap.size
  /-- none of the heap's debug assertions (`retain` / `release` / `get_binary_data` / `materialize`
  of a freed slot, `release` underflow) has fired -/
  noUaf : s.uaf = false

/-- a handle that may be used: its slots exist and are not freed -/
def Live (s : State) (v : Val) : Prop := ∀ j, 0 < v.count j → j < s.heap.size ∧ s.isFreed j = false
def LiveL (s : State) (vs : List Val) : Prop := ∀ j, 0 < countList j vs → j < s.heap.size ∧ s.isFreed j = false

theorem live_tuple {s : State} {id : Nat} {fs : List Val} : Live s (.tuple id fs) ↔ LiveL s fs := by
  simp [Live, LiveL]
theorem live_func {s : State} {id : Nat} {fs : List Val} : Live s (.func id fs) ↔ LiveL s fs := by
  simp [Live, LiveL]
theorem liveL_cons {s : State} {v : Val} {vs : List Val} : LiveL s (v :: vs) ↔ Live s v ∧ LiveL s vs :=
  ⟨fun h => ⟨fun j hj => h j (by rw [countList_cons]; exact Nat.add_pos_left hj _),
      fun j hj => h j (by rw [countList_cons]; exact Nat.add_pos_right _ hj)⟩,
    fun ⟨h1, h2⟩ j hj => (Nat.add_pos_iff_pos_or_pos.mp (countList_cons j v vs ▸ hj)).elim (h1 j) (h2 j)⟩
theorem liveL_nil {s : State} : LiveL s [] := fun _ hj => nomatch hj
theorem liveL_append {s : State} {xs ys : List Val} : LiveL s (xs ++ ys) ↔ LiveL s xs ∧ LiveL s ys :=
  ⟨fun h => ⟨fun j hj => h j (by rw [countList_append]; exact Nat.add_pos_left hj _),
      fun j hj => h j (by rw [countList_append]; exact Nat.add_pos_right _ hj)⟩,
    fun ⟨h1, h2⟩ j hj => (Nat.add_pos_iff_pos_or_pos.mp (countList_append j xs ys ▸ hj)).elim (h1 j) (h2 j)⟩

theorem isFreed_lt {s : State} {i : Nat} (h : s.isFreed i = true) : i < s.freed.size := by
  unfold State.isFreed at h
  by_cases hi : i < s.freed.size
  · exact hi
  · simp [Array.getD_eq_getD_getElem?, hi] at h

theorem rc_pos_lt {s : State} {i : Nat} (h : 0 < s.rc i) : i < s.refcounts.size := by
  unfold State.rc at h
  by_cases hi : i < s.refcounts.size
  · exact hi
  · simp [Array.getD_eq_getD_getElem?, hi] at h

/-- non-root fields coincide -/
structure HeapEq (s t : State) : Prop where
  heap : t.heap = s.heap
  refcounts : t.refcounts = s.refcounts
  free : t.free = s.free
  pendingFree : t.pendingFree = s.pendingFree
  freed : t.freed = s.freed
  fresh : t.fresh = s.fresh
  uaf : t.uaf = s.uaf

theorem HeapEq.refl (s : State) : HeapEq s s := ⟨rfl, rfl, rfl, rfl, rfl, rfl, rfl⟩
theorem HeapEq.rc {s t : State} (h : HeapEq s t) (i : Nat) : t.rc i = s.rc i := by simp [State.rc, h.refcounts]
theorem HeapEq.isFreed {s t : State} (h : HeapEq s t) (i : Nat) : t.isFreed i = s.isFreed i := by
  simp [State.isFreed, h.freed]

theorem Inv.live_of_counted {s : State} (h : Inv s) {v : Val}
    (hv : ∀ j, v.count j ≤ s.countRefs j + s.floating j) : Live s v := by
  intro j hj
  have hrc : 0 < s.rc j := by rw [h.acct j]; have := hv j; omega
  refine ⟨by rw [← h.shapeRc]; exact rc_pos_lt hrc, ?_⟩
  cases hf : s.isFreed j with
  | false => rfl
  | true => have := h.freedZero j hf; omega

/-- **retain and add to a root** -/
theorem inv_retain_add {s : State} (h : Inv s) {v : Val} (hv : Live s v) {t : State}
    (ht : HeapEq (retain s v) t)
    (hc : ∀ i, t.countRefs i + t.floating i = s.countRefs i + s.floating i + v.count i) : Inv t := by
  have hsr := sameRoots_retain s v
  have hrange : InRange s v := fun j hj => by rw [h.shapeRc]; exact (hv j hj).1
  have hrc : ∀ i, t.rc i = s.rc i + v.count i := fun i => by rw [ht.rc, rc_retain s v hrange]
  have hfr : ∀ i, t.isFreed i = s.isFreed i := fun i => (ht.isFreed i).trans (isFreed_of_sameRoots hsr i)
  have hheap : t.heap = s.heap := ht.heap.trans hsr.heap
  have hfree : t.free = s.free := ht.free.trans hsr.free
  constructor
  · rw [ht.refcounts, hsr.size, hheap]; exact h.shapeRc
  · rw [ht.freed, hsr.freed, hheap]; exact h.shapeFr
  · intro i; rw [hrc, hc, h.acct i]
  · intro i hi
    rw [hfr] at hi
    rw [hrc, h.freedZero i hi]
    cases Nat.eq_zero_or_pos (v.count i) with
    | inl h0 => omega
    | inr hp => have := (hv i hp).2; rw [hi] at this; cases this
  · intro j hj; rw [hfree] at hj; rw [hfr]; exact h.freeFreed j hj
  · intro i hi; rw [hfr] at hi; rw [hfree]; exact h.freedFree i hi
  · rw [hfree]; exact h.freeNodup
  · intro i hi hz hnf
    rw [hheap] at hi; rw [hrc] at hz; rw [hfr] at hnf
    rw [ht.pendingFree, pendingFree_retain, ht.fresh]
    cases h.queued i hi (by omega) hnf with
    | inl hp => exact Or.inl hp
    | inr hf => exact Or.inr (fresh_retain s v i (by omega) hf)
  · intro j hj; rw [ht.pendingFree, pendingFree_retain] at hj; rw [hheap]; exact h.pendLt j hj
  · rw [ht.uaf, uaf_retain s v (fun j hj => (hv j hj).2)]; exact h.noUaf

/-- **remove from a root and release**. No `Live v` is asked for, unlike in `inv_retain_add`: `hc` says
that `v` was counted, and a counted slot is live. -/
theorem inv_remove_release {s : State} (h : Inv s) {v : Val} {s1 : State} (h1 : HeapEq s s1)
    (hc : ∀ i, s1.countRefs i + s1.floating i + v.count i = s.countRefs i + s.floating i) :
    Inv (release s1 v) := by
  have hsr := sameRoots_release s1 v
  have hrc : ∀ i, (release s1 v).rc i = s.rc i - v.count i := fun i => by rw [rc_release, h1.rc]
  have hfr : ∀ i, (release s1 v).isFreed i = s.isFreed i := fun i =>
    (isFreed_of_sameRoots hsr i).trans (h1.isFreed i)
  have hcr : ∀ i, (release s1 v).countRefs i + (release s1 v).floating i = s1.countRefs i + s1.floating i := fun i => by
    simp only [State.countRefs, State.constCount, State.floating, hsr.procs, hsr.consts, hsr.transit]
  constructor
  · rw [hsr.size, hsr.heap, h1.refcounts, h1.heap]; exact h.shapeRc
  · rw [hsr.freed, hsr.heap, h1.freed, h1.heap]; exact h.shapeFr
  · intro i; rw [hrc, hcr, h.acct i]; have := hc i; omega
  · intro i hi; rw [hfr] at hi; rw [hrc, h.freedZero i hi]; omega
  · intro j hj; rw [hsr.free, h1.free] at hj; rw [hfr]; exact h.freeFreed j hj
  · intro i hi; rw [hfr] at hi; rw [hsr.free, h1.free]; exact h.freedFree i hi
  · rw [hsr.free, h1.free]; exact h.freeNodup
  · intro i hi hz hnf
    rw [hsr.heap, h1.heap] at hi; rw [hfr] at hnf
    by_cases hp : 0 < s.rc i
    · left; exact release_queues s1 v i (by rw [h1.rc]; exact hp) hz
    · cases h.queued i hi (by omega) hnf with
      | inl hq => left; exact pendingFree_release_mono s1 v i (by rw [h1.pendingFree]; exact hq)
      | inr hf => right; rw [fresh_release, h1.fresh]; exact hf
  · intro j hj
    rw [hsr.heap, h1.heap]
    cases mem_pendingFree_release s1 v j hj with
    | inl hq => rw [h1.pendingFree] at hq; exact h.pendLt j hq
    | inr hp =>
      have : 0 < s.rc j := by rw [h.acct j]; have := hc j; omega
      rw [← h.shapeRc]; exact rc_pos_lt this
  · rw [uaf_release s1 v (fun j => by rw [h1.rc, h.acct j]; have := hc j; omega)
      (fun j hj => by rw [h1.isFreed] at hj; rw [h1.rc]; exact h.freedZero j hj), h1.uaf]
    exact h.noUaf

/-- sizes grow; a slot that is live keeps its freed flag off and its bytes -/
structure Stable (s t : State) : Prop where
  size : s.heap.size ≤ t.heap.size
  keep : ∀ i, i < s.heap.size → s.isFreed i = false → t.isFreed i = false ∧ t.bytesAt i = s.bytesAt i

theorem Stable.refl (s : State) : Stable s s := ⟨Nat.le_refl _, fun _ _ h => ⟨h, rfl⟩⟩
theorem Stable.trans {a b c : State} (h1 : Stable a b) (h2 : Stable b c) : Stable a c := by
  refine ⟨Nat.le_trans h1.size h2.size, ?_⟩
  intro i hi hf
  have ⟨f1, b1⟩ := h1.keep i hi hf
  have ⟨f2, b2⟩ := h2.keep i (Nat.lt_of_lt_of_le hi h1.size) f1
  exact ⟨f2, b2.trans b1⟩

theorem Stable.of_eq {s t : State} (hh : t.heap = s.heap) (hf : t.freed = s.freed) : Stable s t := by
  refine ⟨by rw [hh]; exact Nat.le_refl _, ?_⟩
  intro i _ h
  exact ⟨by simpa [State.isFreed, hf] using h, by simp [State.bytesAt, hh]⟩

theorem Stable.of_sameRoots {s t : State} (h : SameRoots s t) : Stable s t := Stable.of_eq h.heap h.freed

theorem Stable.slot {s t : State} (hst : Stable s t) {j : Nat} (h : j < s.heap.size ∧ s.isFreed j = false) :
    j < t.heap.size ∧ t.isFreed j = false :=
  ⟨Nat.lt_of_lt_of_le h.1 hst.size, (hst.keep j h.1 h.2).1⟩

theorem Live.stable {s t : State} {v : Val} (h : Live s v) (hst : Stable s t) : Live t v := by
  exact fun j hj => hst.slot (h j hj)

theorem LiveL.stable {s t : State} {vs : List Val} (h : LiveL s vs) (hst : Stable s t) : LiveL t vs := by
  exact fun j hj => hst.slot (h j hj)

/-- the roots (processes, constant cache, transit) coincide -/
structure RootsEq (s t : State) : Prop where
  procs : t.procs = s.procs
  consts : t.constantBinaries = s.constantBinaries
  transit : t.transit = s.transit

theorem RootsEq.refl (s : State) : RootsEq s s := ⟨rfl, rfl, rfl⟩
theorem RootsEq.trans {a b c : State} (h1 : RootsEq a b) (h2 : RootsEq b c) : RootsEq a c :=
  ⟨h2.procs.trans h1.procs, h2.consts.trans h1.consts, h2.transit.trans h1.transit⟩
theorem RootsEq.total {s t : State} (h : RootsEq s t) (i : Nat) :
    t.countRefs i + t.floating i = s.countRefs i + s.floating i := by
  simp [countRefs, constCount, floating, h.procs, h.consts, h.transit]
theorem RootsEq.getProc {s t : State} (h : RootsEq s t) (pid : Nat) : t.getProc pid = s.getProc pid := by
  simp [State.getProc, h.procs]
theorem RootsEq.of_sameRoots {s t : State} (h : SameRoots s t) : RootsEq s t := ⟨h.procs, h.consts, h.transit⟩

/-- guarantee of a step that may change the in-transit list (a raw move, `good_roots`) -/
structure Good (s t : State) : Prop where
  inv : Inv t
  stable : Stable s t

theorem Good.refl {s : State} (h : Inv s) : Good s s := ⟨h, Stable.refl s⟩
theorem Good.trans {a b c : State} (h1 : Good a b) (h2 : Good b c) : Good a c :=
  ⟨h2.inv, h1.stable.trans h2.stable⟩

/-- **movement**: `v` is retained, the root fields change in any way (giving `r`), `w` is released,
and the occurrences add up. The intermediate state, in which `w` has already left its root and is
still counted, is `r` with `w` parked in transit. -/
theorem good_roots {s : State} (h : Inv s) {v w : Val} (hv : Live s v) {r : State}
    (hr : HeapEq (retain s v) r)
    (hc : ∀ i, r.countRefs i + r.floating i + w.count i = s.countRefs i + s.floating i + v.count i) :
    Good s (release r w) := by
  have h0 : Inv { r with transit := w :: r.transit } :=
    inv_retain_add h hv ⟨hr.heap, hr.refcounts, hr.free, hr.pendingFree, hr.freed, hr.fresh, hr.uaf⟩ fun i => by
      have := hc i
      simp only [countRefs, constCount, floating, countList_cons] at this ⊢; omega
  refine ⟨inv_remove_release h0 ⟨rfl, rfl, rfl, rfl, rfl, rfl, rfl⟩ fun i => ?_,
    (Stable.of_sameRoots (sameRoots_retain s v)).trans ((Stable.of_eq hr.heap hr.freed).trans
      (Stable.of_eq (sameRoots_release r w).heap (sameRoots_release r w).freed))⟩
  simp +arith only [countRefs, constCount, floating, countList_cons]

theorem retain_int (s : State) (z : Int) : retain s (.int z) = s := rfl
theorem release_int (s : State) (z : Int) : release s (.int z) = s := rfl
theorem count_int (z : Int) (i : Nat) : (Val.int z).count i = 0 := rfl
theorem live_int {s : State} {z : Int} : Live s (.int z) := fun _ hj => nomatch hj

/-- movement without `retain` or `release` (an integer for `v` and `w`) -/
theorem good_roots_move {s r : State} (h : Inv s) (hr : HeapEq s r)
    (hc : ∀ i, r.countRefs i + r.floating i = s.countRefs i + s.floating i) : Good s r :=
  good_roots (v := .int 0) (w := .int 0) h live_int hr hc

/-- guarantee of a complete operation (choke point, instruction handler, notification): `Good`, and
the in-transit list is what it was -/
structure GoodT (s t : State) : Prop extends Good s t where
  transit : t.transit = s.transit

theorem GoodT.refl {s : State} (h : Inv s) : GoodT s s := ⟨Good.refl h, rfl⟩
theorem GoodT.trans {a b c : State} (h1 : GoodT a b) (h2 : GoodT b c) : GoodT a c :=
  ⟨h1.toGood.trans h2.toGood, h2.transit.trans h1.transit⟩
theorem GoodT.parts {s t : State} (g : GoodT s t) : Inv t ∧ Stable s t ∧ t.transit = s.transit :=
  ⟨g.inv, g.stable, g.transit⟩
theorem GoodT.at_boundary {s t : State} (g : GoodT s t) (h : Inv s ∧ s.transit = []) : Inv t ∧ t.transit = [] :=
  ⟨g.inv, g.transit.trans h.2⟩
theorem GoodT.andThen {a b c : State} (h1 : GoodT a b) (h2 : Inv b → GoodT b c) : GoodT a c := h1.trans (h2 h1.inv)

end QM.Heap
