import QuiverModel.Lemmas.Heap.Alloc
/-
Allocation of several slots, and cross-process transfer by copy (`extract_heap_data` /
`inject_heap_data`).
-/
namespace QM.Heap
open State

/-- every slot handed out by `allocMany` exists, is not freed, holds the requested bytes, and was
not a live slot before -/
def NewSlots (s t : State) (ds : List Data) (idxs : List Nat) : Prop :=
  idxs.length = ds.length ∧
  ∀ (k j : Nat) (d : Data), idxs[k]? = some j → ds[k]? = some d →
    j < t.heap.size ∧ t.isFreed j = false ∧ t.bytesAt j = d.toVec ∧ (s.isFreed j = true ∨ s.heap.size ≤ j)

theorem Stable.free_before {s t : State} (hst : Stable s t) {j : Nat} (h : t.isFreed j = true) :
    s.isFreed j = true ∨ s.heap.size ≤ j := by
  by_cases hj : j < s.heap.size
  · cases hf : s.isFreed j with
    | true => exact Or.inl rfl
    | false => have := (hst.keep j hj hf).1; rw [h] at this; cases this
  · exact Or.inr (Nat.le_of_not_lt hj)

/-- the slots handed out are new (`NewSlots`); nothing else moves -/
theorem allocMany_spec (ds : List Data) : ∀ (s : State), Inv s →
    Good s (allocMany s ds).2 ∧ RootsEq s (allocMany s ds).2
      ∧ ∀ idxs, (allocMany s ds).1 = some idxs → NewSlots s (allocMany s ds).2 ds idxs := by
  induction ds with
  | nil =>
    intro s h
    simp only [allocMany]
    refine ⟨Good.refl h, RootsEq.refl s, ?_⟩
    intro idxs hi; simp only [Option.some.injEq] at hi; subst hi
    exact ⟨rfl, fun k j d hk => by simp at hk⟩
  | cons d rest ih =>
    intro s h
    have hinv1 := inv_allocate h d
    have hst1 := stable_allocate h d
    have hre1 := rootsEq_allocate s d
    simp only [allocMany]
    cases ha : allocate s d with
    | mk o s1 =>
      rw [ha] at hinv1 hst1 hre1
      cases o with
      | none =>
        simp only
        refine ⟨⟨hinv1, hst1⟩, hre1, ?_⟩
        intro idxs hi; cases hi
      | some idx =>
        simp only
        obtain ⟨g2, r2, n2⟩ := ih s1 hinv1
        cases hm : allocMany s1 rest with
        | mk o2 s2 =>
          rw [hm] at g2 r2 n2
          cases o2 with
          | none =>
            simp only
            refine ⟨⟨g2.inv, hst1.trans g2.stable⟩, hre1.trans r2, ?_⟩
            intro idxs hi; cases hi
          | some idxs2 =>
            simp only
            refine ⟨⟨g2.inv, hst1.trans g2.stable⟩, hre1.trans r2, ?_⟩
            intro idxs hi
            simp only [Option.some.injEq] at hi; subst hi
            have ⟨hlen, hall⟩ := n2 idxs2 rfl
            refine ⟨by simp [hlen], ?_⟩
            intro k j d' hk hd
            cases k with
            | zero =>
              simp at hk hd; subst hk; subst hd
              have ⟨a, b, c, e⟩ := allocate_some h ha
              have ⟨b', c'⟩ := g2.stable.keep idx a b
              refine ⟨Nat.lt_of_lt_of_le a g2.stable.size, b', by rw [c', c], ?_⟩
              cases e with
              | inl e => exact Or.inl e
              | inr e => exact Or.inr (Nat.le_of_eq e.symm)
            | succ k =>
              simp at hk hd
              have ⟨a, b, c, e⟩ := hall k j d' hk hd
              refine ⟨a, b, c, ?_⟩
              cases e with
              | inl e => exact hst1.free_before e
              | inr e => exact Or.inr (Nat.le_trans hst1.size e)

mutual
theorem remap_count {f : Nat → Option Nat} {v v' : Val} (h : remap f v = some v') (k : Nat)
    (hk : 0 < v'.count k) : ∃ j, 0 < v.count j ∧ f j = some k := by
  cases v with
  | bin b =>
    cases b with
    | const c => simp [remap] at h; subst h; simp [Val.count] at hk
    | heap j =>
      simp only [remap, Option.map_eq_some_iff] at h
      obtain ⟨k', hf, hv⟩ := h
      subst hv
      simp only [count_heapBin] at hk
      have : k' = k := by
        by_cases e : k' = k
        · exact e
        · simp [e] at hk
      subst this
      exact ⟨j, by simp, hf⟩
  | tuple id fs =>
    simp only [remap, Option.map_eq_some_iff] at h
    obtain ⟨fs', hfs, hv⟩ := h
    subst hv
    simp only [count_tuple] at hk
    obtain ⟨j, hj, hf⟩ := remapList_count hfs k hk
    exact ⟨j, by simpa using hj, hf⟩
  | func id cs =>
    simp only [remap, Option.map_eq_some_iff] at h
    obtain ⟨cs', hcs, hv⟩ := h
    subst hv
    simp only [count_func] at hk
    obtain ⟨j, hj, hf⟩ := remapList_count hcs k hk
    exact ⟨j, by simpa using hj, hf⟩
  | _ => simp [remap] at h; subst h; simp [Val.count] at hk
theorem remapList_count {f : Nat → Option Nat} {vs vs' : List Val} (h : remapList f vs = some vs') (k : Nat)
    (hk : 0 < countList k vs') : ∃ j, 0 < countList j vs ∧ f j = some k := by
  cases vs with
  | nil => simp [remapList] at h; subst h; simp at hk
  | cons v vs =>
    simp only [remapList] at h
    cases hv : remap f v with
    | none => simp [hv] at h
    | some v' =>
      cases hvs : remapList f vs with
      | none => simp [hv, hvs] at h
      | some vs'' =>
        simp [hv, hvs] at h; subst h
        simp only [countList_cons] at hk
        by_cases h1 : 0 < v'.count k
        · obtain ⟨j, hj, hf⟩ := remap_count hv k h1
          exact ⟨j, by simp; omega, hf⟩
        · obtain ⟨j, hj, hf⟩ := remapList_count hvs k (by omega)
          exact ⟨j, by simp; omega, hf⟩
end

mutual
theorem remap_erase {f : Nat → Option Nat} {look look' : Nat → Bytes} {v v' : Val} (h : remap f v = some v')
    (hl : ∀ j k, 0 < v.count j → f j = some k → look' k = look j) : erase look' v' = erase look v := by
  cases v with
  | bin b =>
    cases b with
    | const c => simp [remap] at h; subst h; simp [erase]
    | heap j =>
      simp only [remap, Option.map_eq_some_iff] at h
      obtain ⟨k', hf, hv⟩ := h
      subst hv
      simp [erase, hl j k' (by simp) hf]
  | tuple id fs =>
    simp only [remap, Option.map_eq_some_iff] at h
    obtain ⟨fs', hfs, hv⟩ := h
    subst hv
    simp only [erase]
    rw [remapList_erase hfs (fun j k hj => hl j k (by simpa using hj))]
  | func id cs =>
    simp only [remap, Option.map_eq_some_iff] at h
    obtain ⟨cs', hcs, hv⟩ := h
    subst hv
    simp only [erase]
    rw [remapList_erase hcs (fun j k hj => hl j k (by simpa using hj))]
  | _ => simp [remap] at h; subst h; rfl
theorem remapList_erase {f : Nat → Option Nat} {look look' : Nat → Bytes} {vs vs' : List Val}
    (h : remapList f vs = some vs')
    (hl : ∀ j k, 0 < countList j vs → f j = some k → look' k = look j) :
    eraseList look' vs' = eraseList look vs := by
  cases vs with
  | nil => simp [remapList] at h; subst h; rfl
  | cons v vs =>
    simp only [remapList] at h
    cases hv : remap f v with
    | none => simp [hv] at h
    | some v' =>
      cases hvs : remapList f vs with
      | none => simp [hv, hvs] at h
      | some vs'' =>
        simp [hv, hvs] at h; subst h
        simp only [eraseList]
        rw [remap_erase hv (fun j k hj => hl j k (by simp; omega)),
            remapList_erase hvs (fun j k hj => hl j k (by simp; omega))]
end

/-- the injected value is live, reads (by content) as `v` read against `heapData`, and shares no slot
with any handle that was live before -/
theorem injectHeapData_spec {s : State} (h : Inv s) (v : Val) (heapData : List Bytes) :
    Good s (injectHeapData s v heapData).2 ∧ RootsEq s (injectHeapData s v heapData).2
      ∧ ∀ v', (injectHeapData s v heapData).1 = some v' →
          Live (injectHeapData s v heapData).2 v'
          ∧ erase (injectHeapData s v heapData).2.bytesAt v' = erase (fun j => heapData.getD j []) v
          ∧ (∀ w, Live s w → ∀ j, 0 < v'.count j → w.count j = 0) := by
  obtain ⟨g, r, n⟩ := allocMany_spec (heapData.map Data.owned) s h
  unfold injectHeapData allocAll
  cases hm : allocMany s (heapData.map Data.owned) with
  | mk o s1 =>
    rw [hm] at g r n
    cases o with
    | none =>
      simp only
      refine ⟨g, r, ?_⟩
      intro v' hv'; cases hv'
    | some idxs =>
      simp only
      refine ⟨g, r, ?_⟩
      intro v' hv'
      have ⟨hlen, hall⟩ := n idxs rfl
      have hslot : ∀ j k, idxs[j]? = some k →
          k < s1.heap.size ∧ s1.isFreed k = false ∧ s1.bytesAt k = heapData.getD j []
            ∧ (s.isFreed k = true ∨ s.heap.size ≤ k) := by
        intro j k hjk
        have hj : j < heapData.length := by
          have : j < idxs.length := by
            by_cases hlt : j < idxs.length
            · exact hlt
            · simp [hlt] at hjk
          simpa [hlen] using this
        have hd : (heapData.map Data.owned)[j]? = some (Data.owned heapData[j]) := by simp [hj]
        have ⟨a, b, c, e⟩ := hall j k _ hjk hd
        refine ⟨a, b, ?_, e⟩
        rw [c]; simp [Data.toVec, hj]
      refine ⟨?_, ?_, ?_⟩
      · intro k hk
        obtain ⟨j, _, hf⟩ := remap_count hv' k hk
        have ⟨a, b, _, _⟩ := hslot j k hf
        exact ⟨a, b⟩
      · exact remap_erase hv' (fun j k _ hf => (hslot j k hf).2.2.1)
      · intro w hw k hk
        obtain ⟨j, _, hf⟩ := remap_count hv' k hk
        have ⟨_, _, _, e⟩ := hslot j k hf
        cases Nat.eq_zero_or_pos (w.count k) with
        | inl z => exact z
        | inr p =>
          have ⟨a, b⟩ := hw k p
          cases e with
          | inl e => rw [e] at b; cases b
          | inr e => omega

theorem indexOf_getElem? {x : Nat} {l : List Nat} {k : Nat} (h : indexOf x l = some k) : l[k]? = some x := by
  obtain ⟨y, hy, hp⟩ := indexOf?_spec (p := (x == ·)) rfl (fun _ _ => by simp [indexOf]) h
  rw [hy, eq_of_beq hp]

theorem extractHeapData_erase {s : State} {v v' : Val} {hd : List Bytes}
    (h : extractHeapData s v = some (v', hd)) :
    erase (fun j => hd.getD j []) v' = erase s.bytesAt v := by
  unfold extractHeapData at h
  simp only at h
  split at h
  · simp only [Option.map_eq_some_iff, Prod.mk.injEq] at h
    obtain ⟨w, hw, e1, e2⟩ := h
    subst e1; subst e2
    refine remap_erase hw ?_
    intro j k _ hf
    have := indexOf_getElem? hf
    simp [List.getD_eq_getElem?_getD, List.getElem?_map, this]
  · cases h

mutual
theorem remap_none_of_count {v : Val} {j : Nat} (h : 0 < v.count j) : remap (fun _ => none) v = none := by
  cases v with
  | bin b =>
    cases b with
    | const c => simp [Val.count] at h
    | heap k => simp [remap]
  | tuple id fs => simp only [remap, remapList_none_of_count (by simpa using h), Option.map_none]
  | func id cs => simp only [remap, remapList_none_of_count (by simpa using h), Option.map_none]
  | _ => simp [Val.count] at h
theorem remapList_none_of_count {vs : List Val} {j : Nat} (h : 0 < countList j vs) :
    remapList (fun _ => none) vs = none := by
  cases vs with
  | nil => simp at h
  | cons v vs =>
    simp only [countList_cons] at h
    simp only [remapList]
    by_cases h1 : 0 < v.count j
    · rw [remap_none_of_count h1]
    · rw [remapList_none_of_count (vs := vs) (j := j) (by omega)]
      cases remap (fun _ => none) v <;> rfl
end

theorem injectHeapData_nil_fails (s : State) {v : Val} {j : Nat} (h : 0 < v.count j) :
    injectHeapData s v [] = (none, s) := by
  simp [injectHeapData, allocAll, allocMany, remap_none_of_count h]

end QM.Heap
