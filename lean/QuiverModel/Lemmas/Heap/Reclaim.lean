import QuiverModel.Lemmas.Heap.Alloc
/-
`process_pending_free` (`ppf`), `materialize`, `cached_constant_binary`. The reclamation loop is
characterised by `isFreed_freeAll` — freed after ⇔ freed before ∨ (queued ∧ in range ∧ count 0) —
and everything about reclamation is read off it.
-/
namespace QM.Heap
open State

/-- the invariant without the two clauses about `pending_free` (which the reclamation loop empties) -/
structure InvCore (s : State) : Prop where
  shapeRc : s.refcounts.size = s.heap.size
  shapeFr : s.freed.size = s.heap.size
  acct : Acct s
  freedZero : ∀ i, s.isFreed i = true → s.rc i = 0
  freeFreed : ∀ j ∈ s.free, s.isFreed j = true
  freedFree : ∀ i, s.isFreed i = true → i ∈ s.free
  freeNodup : s.free.Nodup

theorem Inv.core {s : State} (h : Inv s) : InvCore s :=
  ⟨h.shapeRc, h.shapeFr, h.acct, h.freedZero, h.freeFreed, h.freedFree, h.freeNodup⟩

theorem freeAll_eq_foldl (L : List Nat) : ∀ s : State, freeAll s L = L.foldl freeOne s := by
  induction L with
  | nil => exact fun _ => rfl
  | cons j L ih => exact fun s => ih (freeOne s j)

theorem rootsEq_freeOne (s : State) (j : Nat) : RootsEq s (freeOne s j) := by
  unfold freeOne; split
  · exact ⟨rfl, rfl, rfl⟩
  · exact RootsEq.refl s

theorem rc_freeOne (i : Nat) (s : State) (j : Nat) : (freeOne s j).rc i = s.rc i := by
  unfold freeOne; split <;> rfl

theorem size_freeOne (s : State) (j : Nat) : (freeOne s j).heap.size = s.heap.size := by
  unfold freeOne; split <;> simp

theorem freedSize_freeOne (s : State) (j : Nat) : (freeOne s j).freed.size = s.freed.size := by
  unfold freeOne; split <;> simp

theorem fresh_freeOne (s : State) (j : Nat) : (freeOne s j).fresh = s.fresh := by
  unfold freeOne; split <;> rfl

theorem pendingFree_freeOne (s : State) (j : Nat) : (freeOne s j).pendingFree = s.pendingFree := by
  unfold freeOne; split <;> rfl

theorem uaf_freeOne (s : State) (j : Nat) : (freeOne s j).uaf = s.uaf := by
  unfold freeOne; split <;> rfl

theorem isFreed_freeOne (s : State) (j i : Nat) :
    (freeOne s j).isFreed i = true ↔ s.isFreed i = true ∨ (i = j ∧ j < s.freed.size ∧ s.rc j = 0) := by
  unfold freeOne
  by_cases hc : s.rc j = 0 ∧ s.isFreed j = false
  · rw [if_pos hc]
    show (s.freed.setIfInBounds j true).getD i false = true ↔ _
    rw [getD_setIfInBounds]
    by_cases h1 : j = i ∧ j < s.freed.size
    · rw [if_pos h1]; exact ⟨fun _ => Or.inr ⟨h1.1.symm, h1.2, hc.1⟩, fun _ => rfl⟩
    · rw [if_neg h1]
      exact ⟨Or.inl, fun h => h.elim id fun ⟨e, hlt, _⟩ => absurd ⟨e.symm, hlt⟩ h1⟩
  · rw [if_neg hc]
    refine ⟨Or.inl, fun h => h.elim id fun ⟨e, _, hz⟩ => ?_⟩
    cases hf : s.isFreed j with
    | true => exact e ▸ hf
    | false => exact absurd ⟨hz, hf⟩ hc

theorem bytesAt_freeOne (s : State) (j i : Nat) (hs : s.freed.size = s.heap.size)
    (h : (freeOne s j).isFreed i = false) : (freeOne s j).bytesAt i = s.bytesAt i := by
  have hnot : ¬ (s.isFreed i = true ∨ (i = j ∧ j < s.freed.size ∧ s.rc j = 0)) := fun hh => by
    rw [(isFreed_freeOne s j i).mpr hh] at h; cases h
  unfold freeOne
  split
  · rename_i hc
    show ((s.heap.setIfInBounds j (.owned [])).getD i (.owned [])).toVec = _
    rw [getD_setIfInBounds]
    split
    · rename_i h1; exact absurd (Or.inr ⟨h1.1.symm, hs ▸ h1.2, hc.1⟩) hnot
    · rfl
  · rfl

theorem invCore_freeOne {s : State} (h : InvCore s) (j : Nat) (hj : j < s.heap.size) : InvCore (freeOne s j) := by
  have hfd := isFreed_freeOne s j
  by_cases hc : s.rc j = 0 ∧ s.isFreed j = false
  · have hfree : (freeOne s j).free = j :: s.free := by unfold freeOne; rw [if_pos hc]
    refine ⟨?_, by rw [freedSize_freeOne, size_freeOne]; exact h.shapeFr, fun i => ?_, fun i hi => ?_, fun k hk => ?_, fun i hi => ?_, ?_⟩
    · unfold freeOne; rw [if_pos hc]; simp [h.shapeRc]
    · rw [rc_freeOne, (rootsEq_freeOne s j).total]; exact h.acct i
    · rw [rc_freeOne]
      rcases (hfd i).mp hi with hi | ⟨e, _, hz⟩
      · exact h.freedZero i hi
      · exact e ▸ hz
    · rw [hfree] at hk
      refine (hfd k).mpr ?_
      rcases List.mem_cons.mp hk with e | hk
      · exact Or.inr ⟨e, h.shapeFr ▸ hj, hc.1⟩
      · exact Or.inl (h.freeFreed k hk)
    · rw [hfree]
      rcases (hfd i).mp hi with hi | ⟨e, _, _⟩
      · exact List.mem_cons_of_mem _ (h.freedFree i hi)
      · exact e ▸ List.mem_cons_self
    · rw [hfree]
      refine List.nodup_cons.mpr ⟨fun hm => ?_, h.freeNodup⟩
      have := h.freeFreed j hm; rw [hc.2] at this; cases this
  · have : freeOne s j = s := by unfold freeOne; rw [if_neg hc]
    rw [this]; exact h

theorem invCore_freeAll (L : List Nat) : ∀ {s : State}, InvCore s → (∀ j ∈ L, j < s.heap.size) →
    InvCore (freeAll s L) := by
  induction L with
  | nil => exact fun h _ => h
  | cons j L ih =>
    intro s h hL
    refine ih (invCore_freeOne h j (hL j List.mem_cons_self)) fun k hk => ?_
    rw [size_freeOne]; exact hL k (List.mem_cons_of_mem _ hk)

theorem size_freeAll (L : List Nat) (s : State) : (freeAll s L).heap.size = s.heap.size :=
  freeAll_eq_foldl L s ▸ foldl_field_eq (·.heap.size) size_freeOne L s

theorem rc_freeAll (L : List Nat) (s : State) (i : Nat) : (freeAll s L).rc i = s.rc i :=
  freeAll_eq_foldl L s ▸ foldl_field_eq (·.rc i) (rc_freeOne i) L s

theorem rootsEq_freeAll (L : List Nat) : ∀ s : State, RootsEq s (freeAll s L) := by
  induction L with
  | nil => exact RootsEq.refl
  | cons j L ih => exact fun s => (rootsEq_freeOne s j).trans (ih _)

theorem isFreed_freeAll (L : List Nat) (i : Nat) : ∀ s : State,
    (freeAll s L).isFreed i = true ↔ s.isFreed i = true ∨ (i ∈ L ∧ i < s.freed.size ∧ s.rc i = 0) := by
  induction L with
  | nil => exact fun s => ⟨Or.inl, fun h => h.elim id fun h => nomatch h.1⟩
  | cons j L ih =>
    intro s
    show (freeAll (freeOne s j) L).isFreed i = true ↔ _
    rw [ih, isFreed_freeOne, rc_freeOne, freedSize_freeOne, List.mem_cons]
    constructor
    · rintro ((h | ⟨e, h⟩) | ⟨hm, h⟩)
      · exact Or.inl h
      · exact Or.inr ⟨Or.inl e, e ▸ h⟩
      · exact Or.inr ⟨Or.inr hm, h⟩
    · rintro (h | ⟨e | hm, h⟩)
      · exact Or.inl (Or.inl h)
      · exact Or.inl (Or.inr ⟨e, e ▸ h⟩)
      · exact Or.inr ⟨hm, h⟩

theorem bytesAt_freeAll (L : List Nat) (i : Nat) : ∀ s : State, s.freed.size = s.heap.size →
    (freeAll s L).isFreed i = false → (freeAll s L).bytesAt i = s.bytesAt i := by
  induction L with
  | nil => exact fun _ _ _ => rfl
  | cons j L ih =>
    intro s hs h
    refine (ih (freeOne s j) (by rw [size_freeOne, freedSize_freeOne]; exact hs) h).trans
      (bytesAt_freeOne s j i hs ?_)
    cases hh : (freeOne s j).isFreed i with
    | false => rfl
    | true => exact Bool.noConfusion (h.symm.trans ((isFreed_freeAll L i _).mpr (Or.inl hh)))

theorem ppf_frame {s : State} (h : Inv s) :
    (processPendingFree s).heap.size = s.heap.size ∧ (∀ i, (processPendingFree s).rc i = s.rc i)
      ∧ RootsEq s (processPendingFree s) ∧ (processPendingFree s).fresh = s.fresh
      ∧ (∀ i, (processPendingFree s).isFreed i = false → (processPendingFree s).bytesAt i = s.bytesAt i)
      ∧ (∀ i, s.isFreed i = true → (processPendingFree s).isFreed i = true) := by
  unfold processPendingFree
  have r := rootsEq_freeAll s.pendingFree { s with pendingFree := [] }
  exact ⟨size_freeAll _ _, rc_freeAll _ _, ⟨r.procs, r.consts, r.transit⟩,
    freeAll_eq_foldl _ _ ▸ foldl_field_eq (·.fresh) fresh_freeOne _ _,
    fun i => bytesAt_freeAll _ i _ h.shapeFr, fun i hi => (isFreed_freeAll _ i _).mpr (Or.inl hi)⟩

theorem bytesAt_processPendingFree {s : State} (h : Inv s) {i : Nat}
    (hf : (processPendingFree s).isFreed i = false) : (processPendingFree s).bytesAt i = s.bytesAt i :=
  (ppf_frame h).2.2.2.2.1 i hf

theorem isFreed_processPendingFree {s : State} (h : Inv s) {i : Nat} (hf : s.isFreed i = true) :
    (processPendingFree s).isFreed i = true :=
  (ppf_frame h).2.2.2.2.2 i hf

theorem pendingFree_processPendingFree (s : State) : (processPendingFree s).pendingFree = [] := by
  unfold processPendingFree
  exact freeAll_eq_foldl _ _ ▸ foldl_field_eq (·.pendingFree) pendingFree_freeOne _ _

theorem freed_by_ppf {s : State} (i : Nat) (hf : (processPendingFree s).isFreed i = true)
    (hnf : s.isFreed i = false) : s.rc i = 0 ∧ i ∈ s.pendingFree := by
  rcases (isFreed_freeAll s.pendingFree i { s with pendingFree := [] }).mp hf with e | ⟨hm, _, hz⟩
  · exact Bool.noConfusion (hnf.symm.trans e)
  · exact ⟨hz, hm⟩

theorem ppf_frees {s : State} (h : Inv s) (i : Nat) (hq : i ∈ s.pendingFree) (hz : s.rc i = 0) :
    (processPendingFree s).isFreed i = true :=
  (isFreed_freeAll s.pendingFree i { s with pendingFree := [] }).mpr
    (Or.inr ⟨hq, by rw [show s.freed.size = s.heap.size from h.shapeFr]; exact h.pendLt i hq, hz⟩)

theorem inv_processPendingFree {s : State} (h : Inv s) : Inv (processPendingFree s) := by
  have a1 : InvCore (processPendingFree s) := invCore_freeAll s.pendingFree
    ⟨h.shapeRc, h.shapeFr, h.acct, h.freedZero, h.freeFreed, h.freedFree, h.freeNodup⟩ h.pendLt
  have ⟨a2, a3, _, a4, _, a7⟩ := ppf_frame h
  refine ⟨a1.shapeRc, a1.shapeFr, a1.acct, a1.freedZero, a1.freeFreed, a1.freedFree, a1.freeNodup,
    fun i hi hz hnf => Or.inr ?_, fun j hj => ?_, ?_⟩
  · -- a slot at count 0 that is still not freed was not queued: it is fresh
    rw [a2] at hi; rw [a3] at hz; rw [a4]
    have hnf0 : s.isFreed i = false := by
      cases hh : s.isFreed i with
      | false => rfl
      | true => exact Bool.noConfusion (hnf.symm.trans (a7 i hh))
    exact (h.queued i hi hz hnf0).resolve_left fun hp => Bool.noConfusion (hnf.symm.trans (ppf_frees h i hp hz))
  · rw [pendingFree_processPendingFree s] at hj; cases hj
  · unfold processPendingFree
    exact (freeAll_eq_foldl _ _ ▸ foldl_field_eq (·.uaf) uaf_freeOne _ _ : (freeAll _ _).uaf = _).trans h.noUaf

theorem inv_materializeCore {s : State} (h : Inv s) (index : Nat) : Inv (materializeCore s index).2 := by
  unfold materializeCore
  split
  · exact h
  · exact ⟨by simpa using h.shapeRc, by simpa using h.shapeFr, h.acct, h.freedZero, h.freeFreed,
      h.freedFree, h.freeNodup, fun i hi hz hnf => h.queued i (by simpa using hi) hz hnf,
      fun j hj => by simpa using h.pendLt j hj, h.noUaf⟩
  · exact h

theorem bytesAt_materializeCore (s : State) (index i : Nat) : (materializeCore s index).2.bytesAt i = s.bytesAt i := by
  unfold materializeCore
  split
  · rfl
  · rename_i bs hget
    show ((s.heap.setIfInBounds index (.owned bs)).getD i (.owned [])).toVec = _
    rw [getD_setIfInBounds]
    split
    · rename_i hc
      have : s.heap.getD i (.owned []) = .rope bs := by
        rw [← hc.1]; simp [Array.getD_eq_getD_getElem?, hget]
      simp [State.bytesAt, this, Data.toVec]
    · rfl
  · rfl

theorem materializeCore_fst (s : State) (index : Nat) (h : index < s.heap.size) :
    (materializeCore s index).1 = s.bytesAt index := by
  have hg : s.heap[index]? = some s.heap[index] := by simp [h]
  cases hd : s.heap[index] with
  | owned bs => simp [materializeCore, hg, hd, State.bytesAt, Array.getD_eq_getD_getElem?, Data.toVec]
  | rope bs => simp [materializeCore, hg, hd, State.bytesAt, Array.getD_eq_getD_getElem?, Data.toVec]

theorem stable_materializeCore (s : State) (index : Nat) : Stable s (materializeCore s index).2 := by
  refine ⟨?_, ?_⟩
  · unfold materializeCore; split <;> simp
  · intro i _ hf
    refine ⟨?_, bytesAt_materializeCore s index i⟩
    unfold materializeCore; split <;> exact hf

theorem rootsEq_materializeCore (s : State) (index : Nat) : RootsEq s (materializeCore s index).2 := by
  unfold materializeCore; split <;> exact ⟨rfl, rfl, rfl⟩

theorem inv_withUaf {s : State} (h : Inv s) {b : Bool} (hb : b = false) : Inv { s with uaf := b } :=
  ⟨h.shapeRc, h.shapeFr, h.acct, h.freedZero, h.freeFreed, h.freedFree, h.freeNodup, h.queued, h.pendLt, hb⟩

theorem inv_materialize {s : State} (h : Inv s) (index : Nat) (hnf : s.isFreed index = false) :
    Inv (materialize s index).2 := by
  unfold materialize; exact inv_withUaf (inv_materializeCore h index) (by rw [h.noUaf, hnf]; rfl)

theorem bytesAt_materialize (s : State) (index i : Nat) : (materialize s index).2.bytesAt i = s.bytesAt i := by
  unfold materialize; exact bytesAt_materializeCore s index i

theorem materialize_fst (s : State) (index : Nat) (h : index < s.heap.size) :
    (materialize s index).1 = s.bytesAt index := by
  unfold materialize; exact materializeCore_fst s index h

theorem stable_materialize (s : State) (index : Nat) : Stable s (materialize s index).2 := by
  unfold materialize; exact (stable_materializeCore s index).trans (Stable.of_eq rfl rfl)

theorem rootsEq_materialize (s : State) (index : Nat) : RootsEq s (materialize s index).2 := by
  unfold materialize; exact (rootsEq_materializeCore s index).trans ⟨rfl, rfl, rfl⟩

theorem constCountL_append (i : Nat) (xs ys : List (Option Bin)) :
    constCountL i (xs ++ ys) = constCountL i xs + constCountL i ys := by
  induction xs with
  | nil => simp [constCountL]
  | cons x xs ih =>
    cases x with
    | none => simp [constCountL, ih]
    | some b => cases b <;> simp +arith [constCountL, ih]

theorem constCountL_replicate (i n : Nat) : constCountL i (List.replicate n none) = 0 := by
  induction n with
  | zero => simp [constCountL]
  | succ n ih => simp [List.replicate_succ, constCountL, ih]

theorem constCountL_set (i idx k : Nat) (l : List (Option Bin)) (h : l[k]? = some none) :
    constCountL i (l.set k (some (.heap idx))) = constCountL i l + (if idx = i then 1 else 0) := by
  induction l generalizing k with
  | nil => simp at h
  | cons x xs ih =>
    cases k with
    | zero =>
      simp at h; subst h
      simp +arith [constCountL]
    | succ k =>
      simp at h
      have := ih k h
      cases x with
      | none => simp [constCountL, this]
      | some b => cases b <;> simp +arith [constCountL, this]

theorem resizeCache_get {i : Nat} (c : Array (Option Bin)) (index : Nat) (h : ∀ b, c[index]? ≠ some (some b)) :
    (resizeCache c index).toList[index]? = some none ∧ constCountL i (resizeCache c index).toList = constCountL i c.toList := by
  unfold resizeCache
  split
  · rename_i hle
    constructor
    · simp only [Array.toList_append, Array.toList_replicate]
      rw [List.getElem?_append_right (by simpa using hle)]
      rw [List.getElem?_replicate]
      simp; omega
    · simp [constCountL_append, constCountL_replicate]
  · rename_i hlt
    have hlt' : index < c.size := by omega
    constructor
    · cases hc : c[index]? with
      | none => simp [hlt'] at hc
      | some o =>
        cases o with
        | none => simpa using hc
        | some b => exact absurd hc (h b)
    · rfl

theorem cachedConstantBinary_spec {s : State} (h : Inv s) (index : Nat) (bytes : Option Bytes) :
    Inv (cachedConstantBinary s index bytes).2 ∧ Stable s (cachedConstantBinary s index bytes).2
      ∧ (cachedConstantBinary s index bytes).2.procs = s.procs
      ∧ (cachedConstantBinary s index bytes).2.transit = s.transit
      ∧ (∀ b, (cachedConstantBinary s index bytes).1 = some b →
          Live (cachedConstantBinary s index bytes).2 (.bin b)) := by
  unfold cachedConstantBinary
  split
  · rename_i b hb
    refine ⟨h, Stable.refl s, rfl, rfl, ?_⟩
    intro b' hb'
    simp only [Option.some.injEq] at hb'; subst hb'
    -- a cached entry is a root, hence live
    apply h.live_of_counted
    intro j
    cases b with
    | const k => simp [Val.count]
    | heap k =>
      simp only [count_heapBin]
      split
      · rename_i e; subst e
        have hk : index < s.constantBinaries.size := by
          by_cases hlt : index < s.constantBinaries.size
          · exact hlt
          · simp [hlt] at hb
        have hmem : some (Bin.heap k) ∈ s.constantBinaries.toList := by
          have : s.constantBinaries[index] = some (Bin.heap k) := by simpa [hk] using hb
          rw [← this]; simp
        have : 1 ≤ constCountL k s.constantBinaries.toList := by
          generalize s.constantBinaries.toList = l at hmem
          induction l with
          | nil => cases hmem
          | cons x xs ih =>
            cases List.mem_cons.mp hmem with
            | inl e => rw [← e]; simp [constCountL]
            | inr e =>
              have := ih e
              cases x with
              | none => simpa [constCountL] using this
              | some b => cases b <;> simp [constCountL] <;> omega
        simp only [countRefs, constCount]; omega
      · omega
  · rename_i hmiss
    split
    · exact ⟨h, Stable.refl s, rfl, rfl, fun b hb => by cases hb⟩
    · rename_i bs
      split
      · rename_i s' ha
        have := allocate_none ha; subst this
        exact ⟨h, Stable.refl _, rfl, rfl, fun b hb => by cases hb⟩
      · rename_i idx s1 ha
        have h1 : Inv s1 := by have := inv_allocate h (.owned bs); rw [ha] at this; exact this
        have hst1 : Stable s s1 := by have := stable_allocate h (.owned bs); rw [ha] at this; exact this
        have hre1 : RootsEq s s1 := by have := rootsEq_allocate s (.owned bs); rw [ha] at this; exact this
        have hlive : Live s1 (.bin (.heap idx)) := allocate_live h ha
        have hnb : ∀ b, s1.constantBinaries[index]? ≠ some (some b) := by
          intro b; rw [hre1.consts]; exact fun e => hmiss b e
        have g : Good s1 (retain { s1 with constantBinaries :=
            (resizeCache s1.constantBinaries index).setIfInBounds index (some (.heap idx)) } (.bin (.heap idx))) :=
          good_roots (w := .int 0) h1 hlive (by constructor <;> simp [retain, retainIdx, State.isFreed]) fun i => by
            have ⟨hget, hcnt⟩ := resizeCache_get (i := i) s1.constantBinaries index hnb
            simp only [retainIdx, countRefs, constCount, floating, Array.toList_setIfInBounds,
              count_heapBin, count_int]
            rw [constCountL_set i idx index _ hget, hcnt]; omega
        refine ⟨g.inv, hst1.trans g.stable, ?_, ?_, ?_⟩
        · simp [retain, retainIdx, hre1.procs]
        · simp [retain, retainIdx, hre1.transit]
        · intro b hb
          simp only [Option.some.injEq] at hb; subst hb
          exact hlive.stable g.stable

end QM.Heap
