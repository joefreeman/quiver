import QuiverModel.Lemmas.Heap.Inv
/-
Every site that moves a value changes the roots of one process, possibly the in-transit list, and
retains and/or releases a value. One lemma covers this shape (`good_exchange`); a site is an instance
once the occurrences are counted. The choke points (`pushValue`, `popValue`, `pushLocal`,
`truncateLocals`, `replaceLocals`, `releaseOrphanLocals`: the executor functions that change the
stack or the locals of a process together with the matching `retain` / `release`) are the first
instances.
-/
namespace QM.Heap
open State

theorem aget_aset_same {α : Type} (m : List (Nat × α)) (k : Nat) (v : α) : aget (aset m k v) k = some v := by
  induction m with
  | nil => simp [aset, aget]
  | cons e m ih =>
    obtain ⟨k', v'⟩ := e
    by_cases h : k' = k <;> simp [aset, aget, h, ih]

theorem aget_aset_ne {α : Type} (m : List (Nat × α)) (k k' : Nat) (v : α) (hne : k' ≠ k) :
    aget (aset m k v) k' = aget m k' := by
  have hne' : ¬ k = k' := fun e => hne e.symm
  induction m with
  | nil => simp [aset, aget, hne']
  | cons e m ih =>
    obtain ⟨k'', v''⟩ := e
    by_cases h : k'' = k
    · subst h; simp [aset, aget, hne']
    · by_cases h2 : k'' = k'
      · subst h2; simp [aset, aget, h]
      · simp [aset, aget, h, h2, ih]

theorem aset_aset {α : Type} (m : List (Nat × α)) (k : Nat) (v w : α) : aset (aset m k v) k w = aset m k w := by
  induction m with
  | nil => simp [aset]
  | cons e m ih =>
    obtain ⟨k', v'⟩ := e
    by_cases h : k' = k <;> simp [aset, h, ih]

theorem procsCount_aset (m : List (Nat × Proc)) (pid : Nat) (p p' : Proc) (i : Nat)
    (h : aget m pid = some p) :
    procsCount i (aset m pid p') + p.count i = procsCount i m + p'.count i := by
  induction m with
  | nil => simp [aget] at h
  | cons e m ih =>
    obtain ⟨k, q⟩ := e
    by_cases hk : k = pid
    · simp [aget, hk] at h; subst h
      simp +arith [aset, hk, procsCount]
    · simp [aget, hk] at h
      simp [aset, hk, procsCount]; have := ih h; omega

theorem procsCount_aset_new (m : List (Nat × Proc)) (pid : Nat) (p' : Proc) (i : Nat)
    (h : aget m pid = none) :
    procsCount i (aset m pid p') = procsCount i m + p'.count i := by
  induction m with
  | nil => simp [aset, procsCount]
  | cons e m ih =>
    obtain ⟨k, q⟩ := e
    by_cases hk : k = pid
    · simp [aget, hk] at h
    · simp [aget, hk] at h
      simp [aset, hk, procsCount]; have := ih h; omega

@[simp] theorem getProc_setProc_same (s : State) (pid : Nat) (p : Proc) :
    (s.setProc pid p).getProc pid = some p := by simp [getProc, setProc, aget_aset_same]

theorem getProc_setProc_ne (s : State) (pid pid' : Nat) (p : Proc) (h : pid' ≠ pid) :
    (s.setProc pid p).getProc pid' = s.getProc pid' := by simp [getProc, setProc, aget_aset_ne _ _ _ _ h]

theorem heapEq_setProc (s : State) (pid : Nat) (p : Proc) : HeapEq s (s.setProc pid p) :=
  ⟨rfl, rfl, rfl, rfl, rfl, rfl, rfl⟩

theorem getProc_of_sameRoots {s t : State} (h : SameRoots s t) (pid : Nat) : t.getProc pid = s.getProc pid :=
  (RootsEq.of_sameRoots h).getProc pid

theorem procsCount_ge (m : List (Nat × Proc)) (pid : Nat) (p : Proc) (i : Nat) (h : aget m pid = some p) :
    p.count i ≤ procsCount i m := by
  induction m with
  | nil => simp [aget] at h
  | cons e m ih =>
    obtain ⟨k, q⟩ := e
    by_cases hk : k = pid
    · simp [aget, hk] at h; subst h; simp [procsCount]
    · simp [aget, hk] at h; simp [procsCount]; have := ih h; omega

theorem Res.vals_err : Res.vals (some .err) = [] := rfl
theorem Res.vals_ok (v : Val) : Res.vals (some (.ok v)) = [v] := rfl

theorem Proc.count_eq (p : Proc) (i : Nat) :
    p.count i = countList i p.stack + countList i p.locals + countList i p.mailbox
      + countList i (Res.vals p.result) + countList i (selVals p.selectState)
      + countList i (awaitingVals p.awaiting) := by
  simp +arith [Proc.count, Proc.roots]

theorem total_move {s0 s : State} (hr : RootsEq s0 s) {pid : Nat} {p : Proc} (hp : s0.getProc pid = some p)
    (p' : Proc) (tr : List Val) (i : Nat) :
    ({ (s.setProc pid p') with transit := tr } : State).countRefs i + p.count i = s0.countRefs i + p'.count i := by
  have := procsCount_aset s.procs pid p p' i (by rw [hr.procs]; exact hp)
  simp only [countRefs, constCount, setProc, hr.consts, hr.procs] at this ⊢; omega

/-- **exchange**: `good_roots` where the roots that change are those of one process and the
in-transit list. With an integer for `v` or `w` (retaining or releasing it does nothing) this is a
movement without `retain` or without `release`. -/
theorem good_exchange {s : State} (h : Inv s) {v w : Val} (hv : Live s v) {pid : Nat} {p p' : Proc}
    (hp : s.getProc pid = some p) (tr : List Val)
    (hc : ∀ i, p'.count i + countList i tr + w.count i = p.count i + countList i s.transit + v.count i) :
    Good s (release { ((retain s v).setProc pid p') with transit := tr } w) :=
  good_roots h hv ⟨rfl, rfl, rfl, rfl, rfl, rfl, rfl⟩ fun i => by
    have := total_move (RootsEq.of_sameRoots (sameRoots_retain s v)) hp p' tr i
    have := hc i
    simp only [floating] at *; omega

/-! Instances with an integer for `v` and/or `w`. `good_…` concludes `Good` (the in-transit list may
change), `goodT_…` concludes `GoodT` (it is kept); `retain_…` / `…_release` say which half is there. -/

theorem good_move {s : State} (h : Inv s) {pid : Nat} {p p' : Proc} (hp : s.getProc pid = some p)
    (tr : List Val) (hc : ∀ i, p'.count i + countList i tr = p.count i + countList i s.transit) :
    Good s { (s.setProc pid p') with transit := tr } :=
  good_exchange (v := .int 0) (w := .int 0) h live_int hp tr hc

theorem good_retain_move {s : State} (h : Inv s) {v : Val} (hv : Live s v) {pid : Nat} {p p' : Proc}
    (hp : s.getProc pid = some p) (tr : List Val)
    (hc : ∀ i, p'.count i + countList i tr = p.count i + countList i s.transit + v.count i) :
    Good s { ((retain s v).setProc pid p') with transit := tr } :=
  good_exchange (w := .int 0) h hv hp tr hc

theorem goodT_exchange {s : State} (h : Inv s) {v w : Val} (hv : Live s v) {pid : Nat} {p p' : Proc}
    (hp : s.getProc pid = some p) (hc : ∀ i, p'.count i + w.count i = p.count i + v.count i) :
    GoodT s (release ((retain s v).setProc pid p') w) :=
  ⟨good_exchange h hv hp (retain s v).transit fun i => by
    rw [(sameRoots_retain s v).transit]; have := hc i; omega,
   (sameRoots_release _ w).transit.trans (sameRoots_retain s v).transit⟩

theorem goodT_setProc_same {s : State} (h : Inv s) {pid : Nat} {p p' : Proc} (hp : s.getProc pid = some p)
    (hc : ∀ i, p'.count i = p.count i) : GoodT s (s.setProc pid p') :=
  goodT_exchange (v := .int 0) (w := .int 0) h live_int hp hc

theorem goodT_retain_setProc {s : State} (h : Inv s) {v : Val} (hv : Live s v) {pid : Nat} {p p' : Proc}
    (hp : s.getProc pid = some p) (hc : ∀ i, p'.count i = p.count i + v.count i) :
    GoodT s ((retain s v).setProc pid p') :=
  goodT_exchange (w := .int 0) h hv hp hc

theorem goodT_setProc_release {s : State} (h : Inv s) {w : Val} {pid : Nat} {p p' : Proc}
    (hp : s.getProc pid = some p) (hc : ∀ i, p'.count i + w.count i = p.count i) :
    GoodT s (release (s.setProc pid p') w) :=
  goodT_exchange (v := .int 0) h live_int hp hc

theorem releaseList_eq_release (s : State) (vs : List Val) : releaseList s vs = release s (.tuple 0 vs) := rfl

theorem Inv.live_root {s : State} (h : Inv s) {pid : Nat} {p : Proc} (hp : s.getProc pid = some p)
    {v : Val} (hv : ∀ i, v.count i ≤ p.count i) : Live s v :=
  h.live_of_counted fun j => by
    have := hv j; have := procsCount_ge s.procs pid p j hp
    simp only [countRefs]; omega

theorem goodT_pushValue {s : State} (h : Inv s) (pid : Nat) {v : Val} (hv : Live s v) :
    GoodT s (pushValue s pid v) := by
  unfold pushValue
  split
  · rename_i p hp
    exact goodT_retain_setProc h hv hp fun i => by simp +arith only [Proc.count_eq, countList_cons]
  · exact GoodT.refl h

theorem goodT_pushLocal {s : State} (h : Inv s) (pid : Nat) {v : Val} (hv : Live s v) :
    GoodT s (pushLocal s pid v) := by
  unfold pushLocal
  split
  · rename_i p hp
    exact goodT_retain_setProc h hv hp fun i => by
      simp +arith only [Proc.count_eq, countList_append, countList_cons, countList_nil]
  · exact GoodT.refl h

/-- `pop_value` either finds nothing and changes nothing, or hands out a handle that stays usable
(its slots are neither freed nor overwritten) whatever its count has dropped to -/
theorem popValue_cases {s : State} (h : Inv s) (pid : Nat) :
    popValue s pid = (none, s) ∨ ∃ v t, popValue s pid = (some v, t) ∧ GoodT s t ∧ Live t v := by
  unfold popValue
  split
  · rename_i p hp
    split
    · rename_i v rest hst
      have g : GoodT s (release (s.setProc pid { p with stack := rest }) v) :=
        goodT_setProc_release h hp fun i => by simp +arith only [Proc.count_eq, hst, countList_cons]
      have hl : Live s v := h.live_root hp fun i => by simp +arith only [Proc.count_eq, hst, countList_cons]
      exact Or.inr ⟨v, _, rfl, g, hl.stable g.stable⟩
    · exact Or.inl rfl
  · exact Or.inl rfl

theorem goodT_popValue {s : State} (h : Inv s) (pid : Nat) : GoodT s (popValue s pid).2 := by
  obtain hp | ⟨v, t, hp, g, _⟩ := popValue_cases h pid <;> rw [hp]
  · exact GoodT.refl h
  · exact g

theorem popValue_spec {s : State} (h : Inv s) (pid : Nat) :
    Good s (popValue s pid).2 ∧ (popValue s pid).2.transit = s.transit
      ∧ ∀ v, (popValue s pid).1 = some v → Live (popValue s pid).2 v := by
  obtain hp | ⟨v, t, hp, g, l⟩ := popValue_cases h pid <;> rw [hp]
  · exact ⟨Good.refl h, rfl, fun _ hv => nomatch hv⟩
  · exact ⟨g.toGood, g.transit, fun _ hv => Option.some.inj hv ▸ l⟩

theorem goodT_truncateLocals {s : State} (h : Inv s) (pid len : Nat) : GoodT s (truncateLocals s pid len) := by
  unfold truncateLocals
  split
  · rename_i p hp
    split
    · rw [releaseList_eq_release]
      refine goodT_setProc_release h hp fun i => ?_
      simp +arith only [Proc.count_eq, count_tuple, ← countList_take_drop i len p.locals]
    · exact GoodT.refl h
  · exact GoodT.refl h

theorem goodT_replaceLocals {s : State} (h : Inv s) (pid : Nat) {newLocals : List Val}
    (hv : LiveL s newLocals) : GoodT s (replaceLocals s pid newLocals).2 := by
  unfold replaceLocals
  split
  · exact GoodT.refl h
  · rename_i p hp
    exact goodT_exchange (v := .tuple 0 newLocals) (w := .tuple 0 p.locals) h (live_tuple.mpr hv) hp fun i => by
      simp +arith only [Proc.count_eq, count_tuple]

theorem count_splitOrphans (keep : List Nat) (i : Nat) (vs : List Val) (index : Nat) :
    countList i (splitOrphans keep index vs).1 + countList i (splitOrphans keep index vs).2
      = countList i vs := by
  induction vs generalizing index with
  | nil => simp [splitOrphans]
  | cons v vs ih =>
    simp only [splitOrphans]
    have := ih (index + 1)
    split <;> simp [Val.nil] <;> omega

theorem goodT_releaseOrphanLocals {s : State} (h : Inv s) (pid : Nat) (keep : List Nat) :
    GoodT s (releaseOrphanLocals s pid keep).2 := by
  unfold releaseOrphanLocals
  split
  · exact GoodT.refl h
  · rename_i p hp
    simp only [releaseList_eq_release]
    refine goodT_setProc_release h hp fun i => ?_
    simp +arith only [Proc.count_eq, count_tuple, ← count_splitOrphans keep i p.locals 0]

end QM.Heap
