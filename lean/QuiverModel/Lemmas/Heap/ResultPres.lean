import QuiverModel.Core.Heap.Exec
import QuiverModel.Lemmas.Heap.Prim
import QuiverModel.Lemmas.Heap.Alloc
/-
No instruction handler touches the stored result of any process (only process creation, completion,
the `Err` arm, `resume_process` and a failed effect do). Consequence: the side condition of
`acct_step_stepInstr` ("the running process has no stored result") can be stated on the state
BEFORE the instruction.
-/
namespace QM.Heap
open State

/-- the stored results of all processes are the same in `s` and `t` -/
def SameRes (s t : State) : Prop := ∀ q, (t.getProc q).map (·.result) = (s.getProc q).map (·.result)

theorem SameRes.refl (s : State) : SameRes s s := fun _ => rfl
theorem SameRes.trans {a b c : State} (h1 : SameRes a b) (h2 : SameRes b c) : SameRes a c :=
  fun q => (h2 q).trans (h1 q)

theorem SameRes.of_procs {s t : State} (h : t.procs = s.procs) : SameRes s t := by
  intro q; simp [getProc, h]

theorem SameRes.setProc {s : State} {pid : Nat} {p p' : Proc} (hp : s.getProc pid = some p)
    (hr : p'.result = p.result) : SameRes s (s.setProc pid p') := by
  intro q
  by_cases hq : q = pid
  · subst hq; simp [hp, hr]
  · rw [getProc_setProc_ne _ _ _ _ hq]

theorem SameRes.of_setProc {s t : State} {pid : Nat} {p p' : Proc} (ht : t.procs = (s.setProc pid p').procs)
    (hp : s.getProc pid = some p) (hr : p'.result = p.result) : SameRes s t :=
  (SameRes.setProc hp hr).trans (SameRes.of_procs ht)

theorem sameRes_retain (s : State) (v : Val) : SameRes s (retain s v) := SameRes.of_procs (sameRoots_retain s v).procs
theorem sameRes_release (s : State) (v : Val) : SameRes s (release s v) := SameRes.of_procs (sameRoots_release s v).procs
theorem sameRes_releaseList (s : State) (vs : List Val) : SameRes s (releaseList s vs) :=
  SameRes.of_procs (sameRoots_releaseList s vs).procs

theorem sameRes_pushValue (s : State) (pid : Nat) (v : Val) : SameRes s (pushValue s pid v) := by
  unfold pushValue; split
  · rename_i p hp
    exact SameRes.of_setProc (p' := { p with stack := v :: p.stack })
      (by simp [setProc, (sameRoots_retain s v).procs]) hp rfl
  · exact SameRes.refl s

theorem sameRes_pushLocal (s : State) (pid : Nat) (v : Val) : SameRes s (pushLocal s pid v) := by
  unfold pushLocal; split
  · rename_i p hp
    exact SameRes.of_setProc (p' := { p with locals := p.locals ++ [v] })
      (by simp [setProc, (sameRoots_retain s v).procs]) hp rfl
  · exact SameRes.refl s

theorem sameRes_popValue (s : State) (pid : Nat) : SameRes s (popValue s pid).2 := by
  unfold popValue; split
  · rename_i p hp
    split
    · exact SameRes.of_setProc (sameRoots_release _ _).procs hp rfl
    · exact SameRes.refl s
  · exact SameRes.refl s

theorem sameRes_truncateLocals (s : State) (pid len : Nat) : SameRes s (truncateLocals s pid len) := by
  unfold truncateLocals; split
  · rename_i p hp
    split
    · exact SameRes.of_setProc (sameRoots_releaseList _ _).procs hp rfl
    · exact SameRes.refl s
  · exact SameRes.refl s

theorem sameRes_modFrames (s : State) (pid : Nat) (f : List Frame → List Frame) : SameRes s (modFrames s pid f) := by
  unfold modFrames; split
  · rename_i p hp; exact SameRes.of_setProc rfl hp rfl
  · exact SameRes.refl s

theorem sameRes_bump (s : State) (pid : Nat) : SameRes s (bump s pid) := sameRes_modFrames s pid _

theorem sameRes_rawPop (s : State) (pid : Nat) : SameRes s (rawPop s pid).2 := by
  unfold rawPop; split
  · rename_i p hp
    split
    · exact SameRes.of_setProc rfl hp rfl
    · exact SameRes.refl s
  · exact SameRes.refl s

theorem sameRes_releaseTransit (s : State) (k : Nat) : SameRes s (releaseTransit s k) :=
  SameRes.of_procs (procs_releaseTransit s k)

theorem sameRes_rawPushTransit (s : State) (pid k : Nat) : SameRes s (rawPushTransit s pid k) := by
  unfold rawPushTransit; split
  · rename_i v p hv hp; exact SameRes.of_setProc rfl hp rfl
  · exact SameRes.refl s

theorem sameRes_dropTransit (s : State) (k : Nat) : SameRes s (dropTransit s k) := SameRes.of_procs rfl

theorem sameRes_rawPush (s : State) (pid : Nat) (v : Val) : SameRes s (rawPush s pid v) := by
  unfold rawPush; split
  · rename_i p hp; exact SameRes.of_setProc rfl hp rfl
  · exact SameRes.refl s

theorem sameRes_popN (pid : Nat) (n : Nat) : ∀ s : State, SameRes s (popN s pid n).2 := by
  induction n with
  | zero => intro s; exact SameRes.refl s
  | succ n ih =>
    intro s
    have h1 := sameRes_popValue s pid
    simp only [popN]
    cases hp : popValue s pid with
    | mk o s1 =>
      rw [hp] at h1
      cases o with
      | none => exact h1
      | some v =>
        simp only
        have h2 := ih s1
        cases hn : popN s1 pid n with
        | mk o2 s2 =>
          rw [hn] at h2
          cases o2 <;> exact h1.trans h2

theorem sameRes_pushLocals (pid : Nat) (cs : List Val) : ∀ s : State, SameRes s (pushLocals s pid cs) := by
  induction cs with
  | nil => intro s; exact SameRes.refl s
  | cons c cs ih => intro s; simp only [pushLocals]; exact (sameRes_pushLocal s pid c).trans (ih _)

theorem procs_allocMany (ds : List Data) : ∀ s : State, (allocMany s ds).2.procs = s.procs := by
  induction ds with
  | nil => intro s; rfl
  | cons d rest ih =>
    intro s
    have h1 := (rootsEq_allocate s d).procs
    simp only [allocMany]
    cases ha : allocate s d with
    | mk o s1 =>
      rw [ha] at h1
      cases o with
      | none => exact h1
      | some idx =>
        simp only
        have h2 := ih s1
        cases hm : allocMany s1 rest with
        | mk o2 s2 =>
          rw [hm] at h2
          cases o2 <;> exact h2.trans h1

theorem sameRes_allocMany (ds : List Data) (s : State) : SameRes s (allocMany s ds).2 :=
  SameRes.of_procs (procs_allocMany ds s)

theorem sameRes_cachedConstantBinary (s : State) (index : Nat) (bytes : Option Bytes) :
    SameRes s (cachedConstantBinary s index bytes).2 := by
  unfold cachedConstantBinary
  split
  · exact SameRes.refl s
  · split
    · exact SameRes.refl s
    · rename_i bs
      have h1 := (rootsEq_allocate s (.owned bs)).procs
      split
      · rename_i s' ha; rw [ha] at h1; exact SameRes.of_procs h1
      · rename_i idx s1 ha
        rw [ha] at h1
        exact SameRes.of_procs (by rw [(sameRoots_retain _ _).procs]; exact h1)

/-! A handler is a chain of pops whose continuations end in pushes and frame updates; the three lemmas
below follow one pop and hand the rest of the handler to the continuation. -/

theorem sameRes_pop_then (s : State) (pid : Nat) {k : Val → State → State × Out}
    (hk : ∀ v t, SameRes t (k v t).1) :
    SameRes s (match popValue s pid with
      | (none, s) => (s, Out.fail)
      | (some v, s) => k v s).1 := by
  have h1 := sameRes_popValue s pid
  split
  · rename_i hp; rw [hp] at h1; exact h1
  · rename_i hp; rw [hp] at h1; exact h1.trans (hk _ _)

theorem sameRes_popN_then (s : State) (pid n : Nat) {k : List Val → State → State × Out}
    (hk : ∀ vs t, SameRes t (k vs t).1) :
    SameRes s (match popN s pid n with
      | (none, s) => (s, Out.fail)
      | (some vs, s) => k vs s).1 := by
  have h1 := sameRes_popN pid n s
  split
  · rename_i hp; rw [hp] at h1; exact h1
  · rename_i hp; rw [hp] at h1; exact h1.trans (hk _ _)

theorem sameRes_rawPop_then (s : State) (pid : Nat) {f : State → State × Out} {k : Val → State → State × Out}
    (hf : ∀ t, SameRes t (f t).1) (hk : ∀ v t, SameRes t (k v t).1) :
    SameRes s (match rawPop s pid with
      | (none, s) => f s
      | (some v, s) => k v s).1 := by
  have h1 := sameRes_rawPop s pid
  split
  · rename_i hp; rw [hp] at h1; exact h1.trans (hf _)
  · rename_i hp; rw [hp] at h1; exact h1.trans (hk _ _)

theorem sameRes_push_bump (s : State) (pid : Nat) (v : Val) : SameRes s (bump (pushValue s pid v) pid) :=
  (sameRes_pushValue s pid v).trans (sameRes_bump _ pid)

theorem sameRes_handleConstant (s : State) (pid index : Nat) (c : Option Const) :
    SameRes s (handleConstant s pid index c).1 := by
  unfold handleConstant
  split
  · exact SameRes.refl s
  · exact sameRes_push_bump s pid _
  · rename_i bs
    have h1 := sameRes_cachedConstantBinary s index (some bs)
    split
    · rename_i s' hc; rw [hc] at h1; exact h1
    · rename_i b s' hc; rw [hc] at h1; exact h1.trans (sameRes_push_bump _ pid _)

theorem sameRes_handlePop (s : State) (pid : Nat) : SameRes s (handlePop s pid).1 :=
  sameRes_pop_then s pid fun _ t => sameRes_bump t pid

theorem sameRes_handleDuplicate (s : State) (pid : Nat) : SameRes s (handleDuplicate s pid).1 := by
  unfold handleDuplicate
  split
  · exact sameRes_push_bump s pid _
  · exact SameRes.refl s

theorem sameRes_handlePick (s : State) (pid n : Nat) : SameRes s (handlePick s pid n).1 := by
  unfold handlePick
  split
  · exact sameRes_push_bump s pid _
  · exact SameRes.refl s

theorem sameRes_handleRotate (s : State) (pid n : Nat) : SameRes s (handleRotate s pid n).1 := by
  unfold handleRotate
  split
  · exact SameRes.refl s
  · rename_i p hp
    split
    · exact SameRes.refl s
    · split
      · rename_i item _
        exact SameRes.trans (SameRes.setProc (p' := { p with stack := item :: p.stack.eraseIdx (n - 1) }) hp rfl)
          (sameRes_bump _ pid)
      · exact SameRes.refl s

theorem sameRes_handleLoad (s : State) (pid index : Nat) : SameRes s (handleLoad s pid index).1 := by
  unfold handleLoad
  split
  · exact SameRes.refl s
  · split
    · exact sameRes_push_bump s pid _
    · exact SameRes.refl s

theorem sameRes_handleStore (s : State) (pid : Nat) : SameRes s (handleStore s pid).1 :=
  sameRes_pop_then s pid fun v t => (sameRes_pushLocal t pid v).trans (sameRes_bump _ pid)

theorem sameRes_handleTuple (s : State) (pid t : Nat) (sz : Option Nat) : SameRes s (handleTuple s pid t sz).1 := by
  unfold handleTuple
  split
  · exact SameRes.refl s
  · exact sameRes_popN_then s pid _ fun _ t => sameRes_push_bump t pid _

theorem sameRes_handleFunction (s : State) (pid fi : Nat) (c : Option Nat) :
    SameRes s (handleFunction s pid fi c).1 := by
  unfold handleFunction
  split
  · exact SameRes.refl s
  · exact sameRes_popN_then s pid _ fun _ t => sameRes_push_bump t pid _

theorem sameRes_handleGet (s : State) (pid index : Nat) : SameRes s (handleGet s pid index).1 := by
  have after : ∀ {o s1 t}, popValue s pid = (o, s1) → SameRes s1 t → SameRes s t := fun hp h => by
    have := sameRes_popValue s pid; rw [hp] at this; exact this.trans h
  unfold handleGet
  split
  · rename_i s' hp; exact after hp (SameRes.refl _)
  · rename_i id els s' hp
    split
    · exact after hp (sameRes_push_bump _ pid _)
    · exact after hp (SameRes.refl _)
  · rename_i v s' hne hp; exact after hp (SameRes.refl _)

theorem sameRes_handleIsType (s : State) (pid : Nat) (m : Val → Bool) : SameRes s (handleIsType s pid m).1 :=
  sameRes_pop_then s pid fun _ t => sameRes_push_bump t pid _

theorem sameRes_handleNot (s : State) (pid : Nat) : SameRes s (handleNot s pid).1 :=
  sameRes_pop_then s pid fun _ t => sameRes_push_bump t pid _

theorem sameRes_handleJumpIf (s : State) (pid t : Nat) : SameRes s (handleJumpIf s pid t).1 :=
  sameRes_pop_then s pid fun c t' => by
    split
    · exact sameRes_modFrames _ pid _
    · exact sameRes_bump _ pid

theorem sameRes_handleReset (s : State) (pid index : Nat) : SameRes s (handleReset s pid index).1 := by
  unfold handleReset
  split
  · exact SameRes.refl s
  · simp only
    split
    · exact SameRes.refl s
    · exact (sameRes_truncateLocals s pid _).trans (sameRes_bump _ pid)

theorem sameRes_handleBuiltin (s : State) (pid index : Nat) (k : Bool) : SameRes s (handleBuiltin s pid index k).1 := by
  unfold handleBuiltin
  split
  · exact SameRes.refl s
  · exact sameRes_push_bump s pid _

theorem sameRes_handleEqual (s : State) (pid n : Nat) (eqv : State → Val → Val → Bool) :
    SameRes s (handleEqual s pid n eqv).1 := by
  unfold handleEqual
  split
  · exact SameRes.refl s
  · exact sameRes_popN_then s pid n fun vs t => by
      split
      · exact SameRes.refl t
      · exact sameRes_push_bump t pid _

theorem sameRes_handleCall (s : State) (pid : Nat) (fx : Nat → Bool) (run : Nat → Option BuiltinRun) :
    SameRes s (handleCall s pid fx run).1 := by
  have h1 := sameRes_popValue s pid
  unfold handleCall
  split
  · exact SameRes.refl s
  · rename_i fi caps rest hst
    split
    · exact SameRes.refl s
    · exact h1.trans (sameRes_pop_then _ pid fun par t => (sameRes_pushValue _ pid par).trans
        ((sameRes_pushLocals pid caps _).trans (sameRes_modFrames _ pid _)))
  · exact h1.trans (sameRes_pop_then _ pid fun par t => by
      simp only
      split
      · exact SameRes.refl t
      · have h3 : SameRes t (noteAccess t par) := SameRes.of_procs rfl
        split
        · exact h3
        · rename_i ds hds
          have h4 := h3.trans (sameRes_allocMany ds (noteAccess t par))
          split
          · rename_i s3 ha; rw [ha] at h4; exact h4
          · rename_i idxs s3 ha
            rw [ha] at h4
            split
            · exact h4
            · split
              · exact h4
              · exact h4.trans (sameRes_push_bump _ pid _))
  · exact SameRes.refl s

theorem sameRes_handleTailCall (s : State) (pid : Nat) (r : Bool) (fx : Nat → Bool) :
    SameRes s (handleTailCall s pid r fx).1 := by
  unfold handleTailCall
  split
  · exact sameRes_pop_then s pid fun arg t => by
      split
      · exact SameRes.refl t
      · exact (sameRes_truncateLocals _ pid _).trans ((sameRes_pushValue _ pid arg).trans (sameRes_modFrames _ pid _))
  · exact sameRes_pop_then s pid fun fv t1 => sameRes_pop_then t1 pid fun arg t2 => by
      split
      · rename_i fi caps
        split
        · exact SameRes.refl t2
        · split
          · exact SameRes.refl t2
          · exact (sameRes_truncateLocals _ pid _).trans ((sameRes_pushLocals pid caps _).trans
              ((sameRes_pushValue _ pid arg).trans (sameRes_modFrames _ pid _)))
      · exact SameRes.refl t2

theorem sameRes_handleSpawn (s : State) (pid : Nat) : SameRes s (handleSpawn s pid).1 := by
  unfold handleSpawn
  split
  · exact SameRes.refl s
  · exact sameRes_rawPop_then s pid SameRes.refl fun fv t1 =>
      sameRes_rawPop_then t1 pid (fun t => sameRes_dropTransit t 0) fun arg t2 => by
        have h := (sameRes_releaseTransit t2 1).trans (sameRes_releaseTransit _ 0)
        simp only
        split <;> exact h

theorem sameRes_handleSend (s : State) (pid : Nat) : SameRes s (handleSend s pid).1 := by
  unfold handleSend
  split
  · exact SameRes.refl s
  · exact sameRes_rawPop_then s pid SameRes.refl fun tv t1 =>
      sameRes_rawPop_then t1 pid (fun t => sameRes_dropTransit t 0) fun msg t2 => by
        have h := sameRes_releaseTransit t2 0
        simp only
        split
        · exact h.trans ((sameRes_rawPushTransit _ pid 0).trans (sameRes_bump _ pid))
        · exact h.trans (sameRes_dropTransit _ 0)

theorem sameRes_handleSelf (s : State) (pid : Nat) (sw : Option Nat) : SameRes s (handleSelf s pid sw).1 := by
  unfold handleSelf
  split
  · exact (sameRes_rawPush s pid _).trans (sameRes_bump _ pid)
  · split
    · exact SameRes.refl s
    · exact (sameRes_rawPush s pid _).trans (sameRes_bump _ pid)

/-- **no instruction handler touches a stored result** -/
theorem sameRes_exec (env : Env) (s : State) (pid : Nat) (i : Instr) : SameRes s (exec env s pid i).1 := by
  cases i with
  | constant index c => exact sameRes_handleConstant s pid index c
  | pop => exact sameRes_handlePop s pid
  | duplicate => exact sameRes_handleDuplicate s pid
  | pick n => exact sameRes_handlePick s pid n
  | rotate n => exact sameRes_handleRotate s pid n
  | load index => exact sameRes_handleLoad s pid index
  | store => exact sameRes_handleStore s pid
  | tuple t sz => exact sameRes_handleTuple s pid t sz
  | get index => exact sameRes_handleGet s pid index
  | isType t => exact sameRes_handleIsType s pid _
  | jump t => exact sameRes_modFrames s pid _
  | jumpIf t => exact sameRes_handleJumpIf s pid t
  | call => exact sameRes_handleCall s pid _ _
  | tailCall r => exact sameRes_handleTailCall s pid r _
  | function fi c => exact sameRes_handleFunction s pid fi c
  | reset index => exact sameRes_handleReset s pid index
  | builtin index k => exact sameRes_handleBuiltin s pid index k
  | equal n => exact sameRes_handleEqual s pid n _
  | not => exact sameRes_handleNot s pid
  | spawn => exact sameRes_handleSpawn s pid
  | send => exact sameRes_handleSend s pid
  | self sw => exact sameRes_handleSelf s pid sw
  | processRef a b => exact (sameRes_rawPush s pid _).trans (sameRes_bump _ pid)

end QM.Heap
