import QuiverModel.Lemmas.Heap.Inv
/-
`reachable_heap_indices` (a set of indices) versus `countRefs` (a number of paths).
-/
namespace QM.Heap
open State

theorem mem_procsIdxs_iff (m : List (Nat × Proc)) (i : Nat) : i ∈ procsIdxs m ↔ 0 < procsCount i m := by
  induction m with
  | nil => simp [procsIdxs, procsCount]
  | cons e m ih =>
    obtain ⟨k, p⟩ := e
    simp only [procsIdxs, procsCount, List.mem_append, ih, mem_idxsList_iff, Proc.count]; omega

theorem mem_constIdxs_iff (l : List (Option Bin)) (i : Nat) : i ∈ constIdxs l ↔ 0 < constCountL i l := by
  induction l with
  | nil => simp [constIdxs, constCountL]
  | cons x xs ih =>
    cases x with
    | none => simp [constIdxs, constCountL, ih]
    | some b =>
      cases b with
      | const k => simp [constIdxs, constCountL, ih]
      | heap j =>
        simp only [constIdxs, constCountL, List.mem_cons, ih]
        by_cases e : j = i
        · simp +arith [e]
        · have : ¬ i = j := fun h => e h.symm
          simp [e, this]

theorem mem_reachable_iff (s : State) (i : Nat) : i ∈ s.reachable ↔ 0 < s.countRefs i := by
  simp only [reachable, countRefs, constCount, List.mem_append, mem_procsIdxs_iff, mem_constIdxs_iff]; omega

theorem Inv.pos_iff_reachable {s : State} (h : Inv s) (ht : s.transit = []) (i : Nat) :
    0 < s.rc i ↔ i ∈ s.reachable := by
  rw [mem_reachable_iff, h.acct i]
  simp [State.floating, ht]

theorem Inv.rc_zero_of_unreachable {s : State} (h : Inv s) (ht : s.transit = []) {i : Nat} (hu : i ∉ s.reachable) :
    s.rc i = 0 :=
  Nat.eq_zero_of_not_pos fun hp => hu ((h.pos_iff_reachable ht i).mp hp)

end QM.Heap
