import QuiverModel.Lemmas.Heap.Hot
import QuiverModel.Lemmas.Heap.Transfer
/-
`Call` and `TailCall`, and the two cold instructions (those run by `Executor::execute_cold`, see
`Hot.lean`) that move values through raw pops: `Spawn`, `Send`. `Self_` and `Process` are in
`Notify.lean`, `Select` in `Select.lean`.
-/
namespace QM.Heap
open State

/-- mentions no heap slot -/
def Val.heapFree (v : Val) : Prop := ∀ i, v.count i = 0

/-- a builtin's result mentions only slots of its argument and the slots it allocated -/
def BuiltinOk (r : BuiltinRun) : Prop :=
  ∀ param idxs v, r.result param idxs = some v → ∀ j, 0 < v.count j → 0 < param.count j ∨ j ∈ idxs

theorem live_builtin_result {s s' : State} {r : BuiltinRun} (hr : BuiltinOk r) {param v : Val} {idxs : List Nat}
    {ds : List Data}
    (hres : r.result param idxs = some v) (hp : Live s' param) (hn : NewSlots s s' ds idxs) : Live s' v := by
  intro j hj
  cases hr param idxs v hres j hj with
  | inl hpj => exact hp j hpj
  | inr hmem =>
    obtain ⟨k, hk, hkj⟩ := List.getElem_of_mem hmem
    have hk2 : k < ds.length := by rw [← hn.1]; exact hk
    have ⟨a, b, _, _⟩ := hn.2 k j ds[k] (by simp [hk, hkj]) (by simp [hk2])
    exact ⟨a, b⟩

theorem goodT_noteAccess {s : State} (h : Inv s) {v : Val} (hv : Live s v) : GoodT s (noteAccess s v) := by
  have hany : v.idxs.any s.isFreed = false := by
    rw [List.any_eq_false]
    intro j hj
    have := (hv j ((mem_idxs_iff v j).mp hj)).2
    simp [this]
  unfold noteAccess
  exact ⟨⟨inv_withUaf h (by simp [h.noUaf, hany]), Stable.of_eq rfl rfl⟩, rfl⟩

theorem good_handleCall {s : State} (h : Inv s) (pid : Nat) (fnExists : Nat → Bool)
    (run : Nat → Option BuiltinRun) (hrun : ∀ id r, run id = some r → BuiltinOk r) :
    GoodT s (handleCall s pid fnExists run).1 := by
  have g1 := goodT_popValue h pid
  unfold handleCall
  split
  · exact GoodT.refl h
  · rename_i fi caps rest hst
    split
    · exact GoodT.refl h
    · have hf : Live s (.func fi caps) := live_of_stackOf h (pid := pid) (by rw [hst]; simp)
      obtain hp | ⟨parameter, t, hp, g2, l⟩ := popValue_cases g1.inv pid <;> simp only [hp]
      · exact g1
      · have g3 := goodT_pushValue g2.inv pid l
        have g123 := g1.trans (g2.trans g3)
        have g4 := goodT_pushLocals pid caps g3.inv ((live_func.mp hf).stable g123.stable)
        exact g123.trans (g4.andThen (goodT_modFrames · pid _))
  · rename_i bid rest hst
    obtain hp | ⟨parameter, t, hp, g2, l⟩ := popValue_cases g1.inv pid <;> simp only [hp]
    · exact g1
    · split
      · exact g1.trans g2
      · rename_i r hr
        have gn := goodT_noteAccess g2.inv l
        have g12 := g1.trans (g2.trans gn)
        split
        · exact g12
        rename_i ds hds
        have ⟨ga, ra, na⟩ := allocMany_spec ds (noteAccess t parameter) gn.inv
        cases ham : allocMany (noteAccess t parameter) ds with
        | mk oi s3 =>
          rw [ham] at ga ra na
          have g3 : GoodT s s3 := g12.trans ⟨ga, ra.transit⟩
          cases oi with
          | none => exact g3
          | some idxs =>
            simp only
            split
            · exact g3
            · rename_i value hres
              split
              · exact g3
              · -- the result is live: the argument's slots by `Stable`, the new ones by `NewSlots`
                exact g3.andThen (goodT_push_bump · pid
                  (live_builtin_result (hrun bid r hr) hres (l.stable (gn.stable.trans ga.stable)) (na idxs rfl)))
  · exact GoodT.refl h

theorem good_handleTailCall {s : State} (h : Inv s) (pid : Nat) (recurse : Bool) (fnExists : Nat → Bool) :
    GoodT s (handleTailCall s pid recurse fnExists).1 := by
  unfold handleTailCall
  split
  · obtain hp | ⟨argument, t, hp, g, l⟩ := popValue_cases h pid <;> simp only [hp]
    · exact GoodT.refl h
    · split
      · exact g
      · rename_i frame rest hfr
        have g2 := goodT_truncateLocals g.inv pid (frame.localsBase + frame.capturesCount)
        have g3 := goodT_pushValue g2.inv pid (l.stable g2.stable)
        exact g.trans (g2.trans (g3.andThen (goodT_modFrames · pid _)))
  · obtain hp | ⟨fv, t1, hp, g1, l1⟩ := popValue_cases h pid <;> simp only [hp]
    · exact GoodT.refl h
    · obtain hp2 | ⟨argument, t2, hp2, g2, l2⟩ := popValue_cases g1.inv pid <;> simp only [hp2]
      · exact g1
      · have g12 := g1.trans g2
        split
        · rename_i fi caps
          split
          · exact g12
          · split
            · exact g12
            · rename_i frame rest hfr
              have g3 := goodT_truncateLocals g2.inv pid frame.localsBase
              have g4 := goodT_pushLocals pid caps g3.inv ((live_func.mp l1).stable (g2.trans g3).stable)
              have g5 := goodT_pushValue g4.inv pid (l2.stable (g3.trans g4).stable)
              exact g12.trans (g3.trans (g4.trans (g5.andThen (goodT_modFrames · pid _))))
        · exact g12

theorem stackOf_of_getProc {s : State} {pid : Nat} {p : Proc} (hp : s.getProc pid = some p) :
    stackOf s pid = p.stack := by simp only [stackOf, hp]

/-- the two raw pops `Spawn` and `Send` begin with, on a stack that does not hold exactly one value
(so that the second pop cannot fail after the first has succeeded): nothing happens, or the two top
values are in transit -/
theorem rawPop2_cases {s : State} (h : Inv s) (pid : Nat) (hdepth : (stackOf s pid).length ≠ 1) :
    rawPop s pid = (none, s) ∨
    ∃ a b t1 t p, rawPop s pid = (some a, t1) ∧ rawPop t1 pid = (some b, t) ∧ Good s t
      ∧ t.transit = b :: a :: s.transit ∧ (stackOf s pid).head? = some a ∧ t.getProc pid = some p := by
  obtain ⟨hr, _⟩ | ⟨p, a, rest, t1, hp, hst, hr, g1, ht1, hp1⟩ := rawPop_cases h pid
  · exact Or.inl hr
  · obtain ⟨_, he⟩ | ⟨p2, b, rest2, t, _, _, hr2, g2, ht2, hp2⟩ := rawPop_cases g1.inv pid
    · rw [stackOf_of_getProc hp, hst] at hdepth
      rw [stackOf_of_getProc hp1] at he
      simp only at he
      simp [he] at hdepth
    · exact Or.inr ⟨a, b, t1, t, _, hr, hr2, g1.trans g2, ht2.trans (ht1 ▸ rfl),
        by simp [stackOf_of_getProc hp, hst], hp2⟩

theorem getProc_releaseTransit (s : State) (k pid : Nat) : (releaseTransit s k).getProc pid = s.getProc pid := by
  simp only [getProc, procs_releaseTransit]

theorem good_handleSpawn {s : State} (h : Inv s) (pid : Nat) (hdepth : (stackOf s pid).length ≠ 1) :
    GoodT s (handleSpawn s pid).1 := by
  unfold handleSpawn
  split
  · exact GoodT.refl h
  · obtain hr | ⟨fv, argument, t1, t, p, hr1, hr2, g, ht, _, _⟩ := rawPop2_cases h pid hdepth
    · rw [hr]; exact GoodT.refl h
    · simp only [hr1, hr2]
      have g3 := good_releaseTransit g.inv 1
      have g4 := good_releaseTransit g3.inv 0
      have hfin : GoodT s (releaseTransit (releaseTransit t 1) 0) :=
        ⟨g.trans (g3.trans g4), by rw [transit_releaseTransit, transit_releaseTransit, ht]; rfl⟩
      split <;> exact hfin

theorem good_handleSend {s : State} (h : Inv s) (pid : Nat) (hdepth : (stackOf s pid).length ≠ 1)
    (htarget : ∀ t, (stackOf s pid).head? = some t → (∃ a b, t = .proc a b) ∨ t.heapFree) :
    GoodT s (handleSend s pid).1 := by
  unfold handleSend
  split
  · exact GoodT.refl h
  · obtain hr | ⟨tv, message, t1, t, p, hr1, hr2, g, ht, htv, hp⟩ := rawPop2_cases h pid hdepth
    · rw [hr]; exact GoodT.refl h
    · simp only [hr1, hr2]
      have g3 := good_releaseTransit g.inv 0
      have t3 : (releaseTransit t 0).transit = tv :: s.transit := by rw [transit_releaseTransit, ht]; rfl
      have g123 := g.trans g3
      split
      · have g4 := good_rawPushTransit g3.inv pid 0
        have t4 : (rawPushTransit (releaseTransit t 0) pid 0).transit = s.transit := by
          simp [rawPushTransit, t3, getProc_releaseTransit, hp, setProc]
        exact (GoodT.mk (g123.trans g4) t4).andThen (goodT_bump · pid)
      · rename_i hnp
        refine ⟨g123.trans (good_dropTransit g3.inv 0 fun v hv => ?_), by simp [dropTransit, t3]⟩
        obtain rfl : tv = v := by simpa [t3] using hv
        exact (htarget _ htv).resolve_left fun ⟨a, b, e⟩ => hnp a b e

end QM.Heap
