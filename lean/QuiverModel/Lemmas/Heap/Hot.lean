import QuiverModel.Lemmas.Heap.Prim
import QuiverModel.Lemmas.Heap.Reclaim
/-
Hot instructions are the 19 that `Executor::execute_hot` runs on the process held as a local; the
cold ones (`Spawn`, `Send`, `Self_`, `Select`, `Process`) go through `execute_cold`, which looks the
process up in the map. Choke points are the six executor functions that change the stack or the
locals of a process together with the matching `retain` / `release` (`pushValue`, `popValue`,
`pushLocal`, `truncateLocals`, `replaceLocals`, `releaseOrphanLocals`).

Every hot handler other than `Call` / `TailCall` (`Cold.lean`) keeps the invariant, is `Stable`,
and leaves the in-transit list as it found it: each is a composition of choke points, followed step
by step.
-/
namespace QM.Heap
open State

theorem goodT_push_bump {s : State} (h : Inv s) (pid : Nat) {v : Val} (hv : Live s v) :
    GoodT s (bump (pushValue s pid v) pid) :=
  (goodT_pushValue h pid hv).andThen (goodT_bump · pid)

theorem live_of_stackOf {s : State} (h : Inv s) {pid : Nat} {v : Val} (hv : v ∈ stackOf s pid) : Live s v := by
  unfold stackOf at hv
  split at hv
  · exact h.live_of_mem_roots (by assumption) (Proc.mem_roots.mpr (.inl hv))
  · cases hv

theorem live_of_localsOf {s : State} (h : Inv s) {pid : Nat} {v : Val} (hv : v ∈ localsOf s pid) : Live s v := by
  unfold localsOf at hv
  split at hv
  · exact h.live_of_mem_roots (by assumption) (Proc.mem_roots.mpr (.inr (.inl hv)))
  · cases hv

theorem popN_cases (pid : Nat) (n : Nat) : ∀ {s : State}, Inv s →
    ∃ o t, popN s pid n = (o, t) ∧ GoodT s t ∧ ∀ vs, o = some vs → LiveL t vs := by
  induction n with
  | zero => exact fun h => ⟨_, _, rfl, GoodT.refl h, fun vs hvs => Option.some.inj hvs ▸ liveL_nil⟩
  | succ n ih =>
    intro s h
    unfold popN
    obtain hp | ⟨v, t, hp, g, l⟩ := popValue_cases h pid <;> rw [hp]
    · exact ⟨_, _, rfl, GoodT.refl h, fun _ hvs => nomatch hvs⟩
    · obtain ⟨o, t2, hn, g2, l2⟩ := ih g.inv
      dsimp only
      rw [hn]
      cases o with
      | none => exact ⟨_, _, rfl, g.trans g2, fun _ hvs => nomatch hvs⟩
      | some vs =>
        exact ⟨_, _, rfl, g.trans g2, fun _ hvs =>
          Option.some.inj hvs ▸ liveL_cons.mpr ⟨l.stable g2.stable, l2 vs rfl⟩⟩

theorem goodT_pushLocals (pid : Nat) (cs : List Val) : ∀ {s : State}, Inv s → LiveL s cs →
    GoodT s (pushLocals s pid cs) := by
  induction cs with
  | nil => exact fun h _ => GoodT.refl h
  | cons c cs ih =>
    intro s h hl
    have ⟨hc, hcs⟩ := liveL_cons.mp hl
    have g1 := goodT_pushLocal h pid hc
    exact g1.trans (ih g1.inv (hcs.stable g1.stable))

theorem pushLocals_spec (pid : Nat) (cs : List Val) : ∀ (s : State), Inv s → LiveL s cs →
    GoodT s (pushLocals s pid cs) := fun _ => goodT_pushLocals pid cs

theorem liveL_reverse {s : State} {vs : List Val} (h : LiveL s vs) : LiveL s vs.reverse := by
  intro j hj; rw [countList_reverse] at hj; exact h j hj

theorem good_handleConstant {s : State} (h : Inv s) (pid index : Nat) (c : Option Const) :
    GoodT s (handleConstant s pid index c).1 := by
  unfold handleConstant
  split
  · exact GoodT.refl h
  · exact goodT_push_bump h pid (live_of_heapfree fun _ => rfl)
  · rename_i bs
    have ⟨a, b, c, d, e⟩ := cachedConstantBinary_spec h index (some bs)
    cases hc : cachedConstantBinary s index (some bs) with
    | mk o s1 =>
      rw [hc] at a b c d e
      cases o with
      | none => exact ⟨⟨a, b⟩, d⟩
      | some bin => exact GoodT.trans ⟨⟨a, b⟩, d⟩ (goodT_push_bump a pid (e bin rfl))

theorem good_handlePop {s : State} (h : Inv s) (pid : Nat) : GoodT s (handlePop s pid).1 := by
  unfold handlePop
  obtain hp | ⟨v, t, hp, g, _⟩ := popValue_cases h pid <;> rw [hp]
  · exact GoodT.refl h
  · exact g.andThen (goodT_bump · pid)

theorem good_handleDuplicate {s : State} (h : Inv s) (pid : Nat) : GoodT s (handleDuplicate s pid).1 := by
  unfold handleDuplicate
  split
  · rename_i v rest hst
    exact goodT_push_bump h pid (live_of_stackOf h (pid := pid) (by rw [hst]; simp))
  · exact GoodT.refl h

theorem good_handlePick {s : State} (h : Inv s) (pid n : Nat) : GoodT s (handlePick s pid n).1 := by
  unfold handlePick
  split
  · rename_i v hv
    exact goodT_push_bump h pid (live_of_stackOf h (pid := pid) (List.mem_of_getElem? hv))
  · exact GoodT.refl h

theorem good_handleRotate {s : State} (h : Inv s) (pid n : Nat) : GoodT s (handleRotate s pid n).1 := by
  unfold handleRotate
  split
  · exact GoodT.refl h
  · rename_i p hp
    split
    · exact GoodT.refl h
    · split
      · rename_i item hitem
        refine (goodT_setProc_same h hp fun i => ?_).andThen (goodT_bump · pid)
        simp +arith only [Proc.count_eq, countList_cons, ← countList_eraseIdx hitem i]
      · exact GoodT.refl h

theorem good_handleLoad {s : State} (h : Inv s) (pid index : Nat) : GoodT s (handleLoad s pid index).1 := by
  unfold handleLoad
  split
  · exact GoodT.refl h
  · split
    · rename_i v hv
      exact goodT_push_bump h pid (live_of_localsOf h (pid := pid) (List.mem_of_getElem? hv))
    · exact GoodT.refl h

theorem good_handleStore {s : State} (h : Inv s) (pid : Nat) : GoodT s (handleStore s pid).1 := by
  unfold handleStore
  obtain hp | ⟨v, t, hp, g, l⟩ := popValue_cases h pid <;> rw [hp]
  · exact GoodT.refl h
  · exact (g.andThen (goodT_pushLocal · pid l)).andThen (goodT_bump · pid)

/-- pop `n` values, build one value from them, push it: `Tuple` and `Function`. The statement repeats
the `match` of the two handler bodies so that it applies after `unfold`; it has to follow their text. -/
theorem good_popN_push {s : State} (h : Inv s) (pid n : Nat) (mk : List Val → Val)
    (hmk : ∀ {t vs}, LiveL t vs → Live t (mk vs)) :
    GoodT s (match popN s pid n with
      | (none, s) => (s, Out.fail)
      | (some vs, s) => (bump (pushValue s pid (mk vs)) pid, Out.ok)).1 := by
  obtain ⟨o, t, hp, g, l⟩ := popN_cases pid n h
  rw [hp]
  cases o with
  | none => exact g
  | some vs => exact g.andThen (goodT_push_bump · pid (hmk (l vs rfl)))

theorem good_handleTuple {s : State} (h : Inv s) (pid typeId : Nat) (size : Option Nat) :
    GoodT s (handleTuple s pid typeId size).1 := by
  unfold handleTuple
  split
  · exact GoodT.refl h
  · exact good_popN_push h pid _ (fun vs => .tuple typeId vs.reverse) fun l => live_tuple.mpr (liveL_reverse l)

theorem good_handleFunction {s : State} (h : Inv s) (pid fi : Nat) (cc : Option Nat) :
    GoodT s (handleFunction s pid fi cc).1 := by
  unfold handleFunction
  split
  · exact GoodT.refl h
  · exact good_popN_push h pid _ (fun vs => .func fi vs.reverse) fun l => live_func.mpr (liveL_reverse l)

theorem good_handleGet {s : State} (h : Inv s) (pid index : Nat) : GoodT s (handleGet s pid index).1 := by
  unfold handleGet
  obtain hp | ⟨v, t, hp, g, l⟩ := popValue_cases h pid <;> rw [hp]
  · exact GoodT.refl h
  · cases v with
    | tuple id elements =>
      simp only
      split
      · rename_i element hel
        exact g.andThen (goodT_push_bump · pid
          (l.of_le fun i => by simpa using count_le_of_getElem? hel i))
      · exact g
    | _ => exact g

/-- pop a value, push a verdict (`Ok` or nil): `IsType` and `Not` -/
theorem good_pop_push_verdict {s : State} (h : Inv s) (pid : Nat) (test : Val → Bool) :
    GoodT s (match popValue s pid with
      | (none, s) => (s, Out.fail)
      | (some v, s) => (bump (pushValue s pid (if test v then Val.ok else Val.nil)) pid, Out.ok)).1 := by
  obtain hp | ⟨v, t, hp, g, _⟩ := popValue_cases h pid <;> rw [hp]
  · exact GoodT.refl h
  · refine g.andThen (goodT_push_bump · pid ?_)
    split
    · exact live_ok
    · exact live_nil

theorem good_handleIsType {s : State} (h : Inv s) (pid : Nat) (isMatch : Val → Bool) :
    GoodT s (handleIsType s pid isMatch).1 := good_pop_push_verdict h pid isMatch

theorem good_handleNot {s : State} (h : Inv s) (pid : Nat) : GoodT s (handleNot s pid).1 :=
  good_pop_push_verdict h pid Val.isNil

theorem good_handleJump {s : State} (h : Inv s) (pid target : Nat) : GoodT s (handleJump s pid target).1 :=
  goodT_modFrames h pid _

theorem good_handleJumpIf {s : State} (h : Inv s) (pid target : Nat) : GoodT s (handleJumpIf s pid target).1 := by
  unfold handleJumpIf
  obtain hp | ⟨v, t, hp, g, _⟩ := popValue_cases h pid <;> rw [hp]
  · exact GoodT.refl h
  · simp only
    split
    · exact g.andThen (goodT_modFrames · pid _)
    · exact g.andThen (goodT_bump · pid)

theorem good_handleReset {s : State} (h : Inv s) (pid index : Nat) : GoodT s (handleReset s pid index).1 := by
  unfold handleReset
  split
  · exact GoodT.refl h
  · simp only
    split
    · exact GoodT.refl h
    · exact (goodT_truncateLocals h pid _).andThen (goodT_bump · pid)

theorem good_handleBuiltin {s : State} (h : Inv s) (pid index : Nat) (e : Bool) :
    GoodT s (handleBuiltin s pid index e).1 := by
  unfold handleBuiltin
  split
  · exact GoodT.refl h
  · exact goodT_push_bump h pid (live_of_heapfree fun _ => rfl)

theorem good_handleEqual {s : State} (h : Inv s) (pid count : Nat) (eqv : State → Val → Val → Bool) :
    GoodT s (handleEqual s pid count eqv).1 := by
  unfold handleEqual
  split
  · exact GoodT.refl h
  · obtain ⟨o, t, hp, g, _⟩ := popN_cases pid count h
    rw [hp]
    cases o with
    | none => exact g
    | some vs =>
      simp only
      split
      · exact g
      · refine g.andThen (goodT_push_bump · pid ?_)
        split
        · exact live_ok
        · exact live_nil

end QM.Heap
