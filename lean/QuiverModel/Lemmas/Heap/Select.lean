import QuiverModel.Core.Heap.Select
import QuiverModel.Lemmas.Heap.Notify
/-
The select machinery keeps the invariant, is `Stable`, and leaves the in-transit list as it found it.
-/
namespace QM.Heap
open State

/-- releasing the front `A` of the in-transit list -/
theorem good_releaseTransitN (A : List Val) : ∀ {s : State} (T : List Val), Inv s → s.transit = A ++ T →
    Good s (releaseTransitN s A.length) ∧ (releaseTransitN s A.length).transit = T
      ∧ (releaseTransitN s A.length).procs = s.procs := by
  induction A with
  | nil => exact fun T h ht => ⟨Good.refl h, ht, rfl⟩
  | cons a A ih =>
    intro s T h ht
    have g1 := good_releaseTransit h 0
    have ⟨g2, t2, p2⟩ := ih T g1.inv (by rw [transit_releaseTransit, ht]; rfl)
    exact ⟨g1.trans g2, t2, p2.trans (procs_releaseTransit s 0)⟩

theorem good_retainIntoTransit {s : State} (h : Inv s) (k : Nat) {v : Val} (hv : Live s v) :
    Good s (retainIntoTransit s k v) :=
  good_roots (w := .int 0) (r := retainIntoTransit s k v) h hv ⟨rfl, rfl, rfl, rfl, rfl, rfl, rfl⟩ fun i => by
    have hsr := sameRoots_retain s v
    simp +arith only [retainIntoTransit, countRefs, constCount, floating, hsr.procs, hsr.consts, countList_append,
      countList_cons, countList_nil, count_int, ← countList_take_drop i k s.transit]

theorem procs_retainIntoTransit (s : State) (k : Nat) (v : Val) : (retainIntoTransit s k v).procs = s.procs :=
  (sameRoots_retain s v).procs

theorem transit_rawPushTransit_head {s : State} {pid : Nat} {v : Val} {T : List Val} {p : Proc}
    (ht : s.transit = v :: T) (hp : s.getProc pid = some p) : (rawPushTransit s pid 0).transit = T := by
  unfold rawPushTransit
  simp [ht, hp, setProc]

theorem goodT_rawPushTransit_bump {s0 s : State} (g : Good s0 s) {pid : Nat} {v : Val} {p : Proc}
    (ht : s.transit = v :: s0.transit) (hp : s.getProc pid = some p) :
    GoodT s0 (bump (rawPushTransit s pid 0) pid) :=
  have g1 := good_rawPushTransit g.inv pid 0
  (GoodT.mk (g.trans g1) (transit_rawPushTransit_head ht hp)).andThen (goodT_bump · pid)

theorem awaitingVals_aremove (m : List (Nat × Option Val)) (k : Nat) (i : Nat) :
    countList i (awaitingVals (aremove m k)) + prevCount i (aget m k) = countList i (awaitingVals m) := by
  induction m with
  | nil => rfl
  | cons e m ih =>
    obtain ⟨k', v'⟩ := e
    by_cases hk : k' = k
    · simp +arith only [aremove, aget, hk, if_true, count_awaitingVals_cons]
    · simp only [aremove, aget, hk, if_false, count_awaitingVals_cons]; omega

theorem removeAwaits_count (srcs : List Val) : ∀ (aw : List (Nat × Option Val)) (i : Nat),
    countList i (awaitingVals (removeAwaits aw srcs).1) + countList i (removeAwaits aw srcs).2
      = countList i (awaitingVals aw) := by
  induction srcs with
  | nil => exact fun _ _ => rfl
  | cons x xs ih =>
    intro aw i
    cases x with
    | proc t f =>
      have := ih (aremove aw t) i
      have := awaitingVals_aremove aw t i
      simp only [removeAwaits]
      generalize aget aw t = prev at *
      rcases prev with _ | _ | v <;> simp only [prevCount, countList_cons] at * <;> omega
    | _ => exact ih aw i

theorem resetAwaits_count (ts : List Nat) : ∀ (aw : List (Nat × Option Val)) (i : Nat),
    countList i (awaitingVals (resetAwaits aw ts).1) + countList i (resetAwaits aw ts).2
      = countList i (awaitingVals aw) := by
  induction ts with
  | nil => exact fun _ _ => rfl
  | cons t ts ih =>
    intro aw i
    have := ih (aset aw t none) i
    have := awaitingVals_aset aw t none i
    simp only [resetAwaits]
    generalize aget aw t = prev at *
    rcases prev with _ | _ | v <;> simp only [prevCount, countList_cons] at * <;> omega

theorem countList_recvList (i : Nat) (r : Option (Nat × Val)) :
    countList i (recvList r) = match r with | some (_, m) => m.count i | none => 0 := by
  cases r with
  | none => simp [recvList]
  | some x => obtain ⟨a, m⟩ := x; simp [recvList]

theorem recvList_none : recvList none = [] := rfl
theorem recvList_some (k : Nat) (m : Val) : recvList (some (k, m)) = [m] := rfl
theorem selVals_none : selVals none = [] := rfl

theorem selVals_count (i : Nat) (st : SelectState) :
    countList i (selVals (some st)) = countList i st.sources + countList i (recvList st.receiving) := by
  simp only [selVals, SelectState.vals, countList_append]
  cases st.receiving with
  | none => simp [recvList]
  | some x => obtain ⟨a, m⟩ := x; simp [recvList]

theorem good_completeSelect {s : State} (h : Inv s) (pid : Nat) {result : Val} (hr : Live s result) :
    GoodT s (completeSelect s pid result).1 := by
  unfold completeSelect
  split
  · exact GoodT.refl h
  · rename_i p hp
    split
    · rename_i st hst
      simp only
      generalize hra : removeAwaits p.awaiting st.sources = ra
      obtain ⟨aw', stored⟩ := ra
      have hcnt := fun i => removeAwaits_count st.sources p.awaiting i
      simp only [hra] at hcnt ⊢
      -- the handles leave their roots
      have g1 := good_move (p' := { p with selectState := none, awaiting := aw' }) h hp
        (st.sources ++ recvList st.receiving ++ stored ++ s.transit) fun i => by
          simp +arith only [Proc.count_eq, hst, selVals_count, selVals_none, countList_append, countList_nil, ← hcnt i]
      -- release the sources and the in-flight message
      have ⟨g2, t2, p2⟩ := good_releaseTransitN (st.sources ++ recvList st.receiving) (stored ++ s.transit) g1.inv
        (by simp only [List.append_assoc])
      rw [List.length_append] at g2 t2 p2
      -- retain the result: filed behind the stored results, which are released first from the front
      have g3 := good_retainIntoTransit g2.inv stored.length (hr.stable (g1.trans g2).stable)
      -- release the stored results
      have ⟨g4, t4, p4⟩ := good_releaseTransitN stored (result :: s.transit) g3.inv
        (by show List.take _ _ ++ [result] ++ List.drop _ _ = _; rw [t2]; simp)
      -- push
      refine goodT_rawPushTransit_bump (g1.trans (g2.trans (g3.trans g4))) t4
        (p := { p with selectState := none, awaiting := aw' }) ?_
      simp only [getProc, p4, procs_retainIntoTransit, p2]
      exact getProc_setProc_same s pid _
    · exact goodT_rawPushTransit_bump (v := result) (p := p) (good_retainIntoTransit h 0 hr)
        (by simp [retainIntoTransit]) (by simp only [getProc, procs_retainIntoTransit]; exact hp)

/-- a process changes roots, the handles `A` that left them go to the front of the in-transit list
and are released from there -/
theorem good_move_releaseN {s : State} (h : Inv s) {pid : Nat} {p p' : Proc} (hp : s.getProc pid = some p)
    (A T : List Val) (hc : ∀ i, p'.count i + countList i A + countList i T = p.count i + countList i s.transit) :
    Good s (releaseTransitN { (s.setProc pid p') with transit := A ++ T } A.length)
      ∧ (releaseTransitN { (s.setProc pid p') with transit := A ++ T } A.length).transit = T
      ∧ (releaseTransitN { (s.setProc pid p') with transit := A ++ T } A.length).getProc pid = some p' := by
  have g1 := good_move h hp (A ++ T) fun i => by rw [countList_append, ← Nat.add_assoc]; exact hc i
  have ⟨g2, t2, p2⟩ := good_releaseTransitN A T g1.inv rfl
  exact ⟨g1.trans g2, t2, by simp only [getProc, p2]; exact getProc_setProc_same s pid p'⟩

/-- process `pid` exists and has a select state (`callReceiveFunction` leaks its clone otherwise) -/
def HasSel (s : State) (pid : Nat) : Prop := ∃ p st, s.getProc pid = some p ∧ p.selectState = some st

theorem HasSel.ne {s : State} {pid : Nat} (h : HasSel s pid) : ∀ p, s.getProc pid = some p → p.selectState ≠ none := by
  obtain ⟨p0, st, hp0, hst⟩ := h
  intro p hp; rw [hp0] at hp; cases hp; rw [hst]; simp

theorem good_callReceiveFunction (env : SelEnv) (henv : ∀ id r, env.run id = some r → BuiltinOk r)
    {s : State} (h : Inv s) (pid receiveIdx msgIdx : Nat) {message source : Val}
    (hm : Live s message) (hsrc : Live s source) (hsel : HasSel s pid) :
    GoodT s (callReceiveFunction env s pid receiveIdx msgIdx message source).1 := by
  unfold callReceiveFunction
  split
  · exact GoodT.refl h
  · rename_i p hp
    simp only
    split
    · rename_i st hst
      have hsr := sameRoots_retain s message
      -- the new message is retained into `receiving`, the one it replaces goes through transit
      have g2 := good_retain_move h hm hp (recvList st.receiving ++ (retain s message).transit)
        (p' := { p with selectState := some (st.upd (setCursor st.cursors receiveIdx msgIdx) (some (receiveIdx, message))) })
        fun i => by
          simp +arith only [Proc.count_eq, hst, selVals_count, SelectState.upd, countList_append, hsr.transit,
            recvList_some, countList_cons, countList_nil]
      have ⟨g3, t3, _⟩ := good_releaseTransitN (recvList st.receiving) _ g2.inv rfl
      have g3T : GoodT s _ := ⟨g2.trans g3, t3.trans hsr.transit⟩
      have g4 := goodT_pushValue g3.inv pid (hm.stable g3T.stable)
      have g5 := goodT_pushValue g4.inv pid (hsrc.stable (g3T.trans g4).stable)
      exact g3T.trans (g4.trans (g5.andThen (good_handleCall · pid env.fnExists env.run henv)))
    · rename_i hst
      exact absurd hst (hsel.ne p hp)

theorem goodT_removeMessage {s : State} (h : Inv s) (pid msgIdx : Nat) :
    GoodT s (removeMessage s pid msgIdx) ∧ (HasSel s pid → HasSel (removeMessage s pid msgIdx) pid) := by
  unfold removeMessage
  split
  · exact ⟨GoodT.refl h, id⟩
  · rename_i p hp
    split
    · rename_i m hm
      have g1 := good_move (p' := { p with mailbox := p.mailbox.eraseIdx msgIdx }) h hp (m :: s.transit) fun i => by
        simp +arith only [Proc.count_eq, countList_cons, ← countList_eraseIdx hm i]
      refine ⟨⟨g1.trans (good_releaseTransit g1.inv 0), by rw [transit_releaseTransit]; rfl⟩,
        fun ⟨p0, st, hp0, hst⟩ => ?_⟩
      rw [hp] at hp0; cases hp0
      exact ⟨{ p with mailbox := p.mailbox.eraseIdx msgIdx }, st,
        by rw [getProc_releaseTransit]; exact getProc_setProc_same s pid _, hst⟩
    · exact ⟨GoodT.refl h, id⟩

/-- what the receive step needs of `handle_receive_result`: the guarantee, the select state stays in
place, and the message it accepts is the one it was given -/
def VerdictStep (s : State) (pid : Nat) (mv : Val) (r : State × Option (Option Val)) : Prop :=
  GoodT s r.1 ∧ (HasSel s pid → HasSel r.1 pid) ∧ ∀ v, r.2 = some (some v) → v = mv

theorem good_handleReceiveResult {s : State} (h : Inv s) (pid receiveIdx : Nat) (mv : Val) (rr : Option Val) :
    VerdictStep s pid mv (handleReceiveResult s pid receiveIdx mv rr) := by
  have stay : ∀ o, (∀ v, o ≠ some (some v)) → VerdictStep s pid mv (s, o) :=
    fun o ho => ⟨GoodT.refl h, id, fun v hv => absurd hv (ho v)⟩
  unfold handleReceiveResult
  split
  · exact stay _ fun _ e => nomatch e
  · split
    · split
      · exact stay _ fun _ e => nomatch e
      · split
        · exact stay _ fun _ e => nomatch e
        · have ⟨g, hs⟩ := goodT_removeMessage h pid ((by assumption : SelectState).cursors.getD receiveIdx 0)
          exact ⟨g, hs, fun _ hv => (Option.some.inj (Option.some.inj hv)).symm⟩
    · split
      · exact stay _ fun _ e => nomatch e
      · rename_i p hp
        split
        · rename_i st hst
          have ⟨g, t, hp'⟩ := good_move_releaseN h hp (recvList st.receiving) s.transit
            (p' := { p with selectState := some (st.upd (setCursor st.cursors receiveIdx (st.cursors.getD receiveIdx 0 + 1)) none) })
            fun i => by
              simp +arith only [Proc.count_eq, hst, selVals_count, SelectState.upd, recvList_none, countList_nil]
          exact ⟨⟨g, t⟩, fun _ => ⟨_, _, hp', rfl⟩, (fun _ hv => nomatch hv)⟩
        · exact stay _ fun _ e => nomatch e

theorem scanFrom_mem (c : Val → Bool) : ∀ (idx : Nat) (l : List Val) (j : Nat) (m : Val),
    scanFrom c idx l = .inl (j, m) → m ∈ l := by
  intro idx l
  induction l generalizing idx with
  | nil => intro j m hh; simp [scanFrom] at hh
  | cons x xs ih =>
    intro j m hh
    simp only [scanFrom] at hh
    split at hh
    · simp only [Sum.inl.injEq, Prod.mk.injEq] at hh; rw [← hh.2]; simp
    · exact List.mem_cons_of_mem _ (ih _ j m hh)

/-- the three things the source loop needs of a receive step: the guarantee, a completing message is
live, and going on to the next source leaves the select state in place -/
def RecvStep (s : State) (pid : Nat) (r : State × SelectResult) : Prop :=
  GoodT s r.1 ∧ (∀ v, r.2 = .complete v → Live r.1 v) ∧ (r.2 = .continue_ → HasSel r.1 pid)

theorem good_scanMailboxForMessage (env : SelEnv) (henv : ∀ id r, env.run id = some r → BuiltinOk r)
    {s : State} (h : Inv s) (pid receiveIdx : Nat) {source : Val} (hsrc : Live s source) (snap : SelectState)
    (hsel : HasSel s pid) : RecvStep s pid (scanMailboxForMessage env s pid receiveIdx source snap) := by
  have stay : ∀ r, r ≠ .continue_ → (∀ v, r ≠ .complete v) → RecvStep s pid (s, r) :=
    fun r h1 h2 => ⟨GoodT.refl h, fun v hv => absurd hv (h2 v), fun hc => absurd hc h1⟩
  have goOn : RecvStep s pid (s, .continue_) := ⟨GoodT.refl h, (fun _ hv => nomatch hv), fun _ => hsel⟩
  unfold scanMailboxForMessage
  split
  · exact stay _ (fun e => nomatch e) (fun _ e => nomatch e)
  · rename_i p hp
    simp only
    split
    · rename_i msgIdx message hscan
      have hlive : Live s message := h.live_of_mem_roots hp
        (Proc.mem_roots.mpr (.inr (.inr (.inl (List.mem_of_mem_drop (scanFrom_mem _ _ _ _ _ hscan))))))
      split
      · have g := (goodT_removeMessage h pid msgIdx).1
        exact ⟨g, fun v hv => SelectResult.complete.inj hv ▸ hlive.stable g.stable, (fun hc => nomatch hc)⟩
      · have g := good_callReceiveFunction env henv h pid receiveIdx msgIdx hlive hsrc hsel
        split
        · rename_i s' hc
          rw [hc] at g
          exact ⟨g, (fun _ hv => nomatch hv), (fun hc => nomatch hc)⟩
        · rename_i s' o hne hc
          rw [hc] at g
          exact ⟨g, (fun _ hv => nomatch hv), (fun hc => nomatch hc)⟩
    · rename_i cursor' hscan
      split
      · split
        · rename_i st hst
          split
          · exact ⟨goodT_setProc_same h hp fun _ => by
                simp only [Proc.count_eq, hst, selVals, SelectState.vals],
              (fun _ hv => nomatch hv), fun _ => ⟨_, _, getProc_setProc_same s pid _, rfl⟩⟩
          · exact goOn
        · exact goOn
      · exact goOn

theorem good_handleSelectReceive (env : SelEnv) (henv : ∀ id r, env.run id = some r → BuiltinOk r)
    {s : State} (h : Inv s) (pid srcIdx : Nat) {source : Val} (hsrc : Live s source) (snap : SelectState)
    (rr : Option Val) (hsel : HasSel s pid) (hrecv : ∀ k m, snap.receiving = some (k, m) → Live s m) :
    RecvStep s pid (handleSelectReceive env s pid srcIdx source snap rr) := by
  have scan := fun idx => good_scanMailboxForMessage env henv h pid idx hsrc snap hsel
  unfold handleSelectReceive
  simp only
  split
  · rename_i idx mv hrc
    split
    · have ⟨g1, hs1, hv1⟩ :=
        good_handleReceiveResult h pid ((snap.sources.take srcIdx).filter isReceiveSource).length mv rr
      split
      · rename_i s1 hc
        rw [hc] at g1
        exact ⟨g1, (fun _ hv => nomatch hv), (fun hc => nomatch hc)⟩
      · rename_i s1 value hc
        rw [hc] at g1 hv1
        -- the accepted message is the one held in `receiving`
        exact ⟨g1, fun v hv => SelectResult.complete.inj hv ▸ hv1 value rfl ▸ (hrecv idx mv hrc).stable g1.stable,
          (fun hc => nomatch hc)⟩
      · rename_i s1 hc
        rw [hc] at g1 hs1
        have ⟨a, b, c⟩ := good_scanMailboxForMessage env henv g1.inv pid
          ((snap.sources.take srcIdx).filter isReceiveSource).length (hsrc.stable g1.stable) snap (hs1 hsel)
        exact ⟨g1.trans a, b, c⟩
    · exact scan _
  · exact scan _

theorem aget_awaitingVals {aw : List (Nat × Option Val)} {t : Nat} {v : Val} (h : aget aw t = some (some v)) :
    v ∈ awaitingVals aw := by
  induction aw with
  | nil => cases h
  | cons e m ih =>
    obtain ⟨k, o⟩ := e
    by_cases hk : k = t
    · simp [aget, hk] at h; subst h; simp [awaitingVals]
    · simp [aget, hk] at h
      cases o <;> simp [awaitingVals, ih h]

theorem live_awaitedResult {s : State} (h : Inv s) {pid t : Nat} {v : Val} (hv : awaitedResult s pid t = some v) :
    Live s v := by
  unfold awaitedResult at hv
  split at hv
  · rename_i p hp
    split at hv
    · rename_i w hw
      exact Option.some.inj hv ▸
        h.live_of_mem_roots hp (Proc.mem_roots.mpr (.inr (.inr (.inr (.inr (.inr (aget_awaitingVals hw)))))))
    · cases hv
  · cases hv

/-- The loop reads `receiving` from the snapshot `snap` taken before it, not from the state: the
hypothesis on `snap.receiving` is carried along unchanged while the state moves. -/
theorem good_processSources (env : SelEnv) (henv : ∀ id r, env.run id = some r → BuiltinOk r) (pid : Nat)
    (snap : SelectState) (rr : Option Val) (startTime : Nat) :
    ∀ (rest : List Val) (s : State) (srcIdx : Nat), Inv s → LiveL s rest → HasSel s pid →
      (∀ k m, snap.receiving = some (k, m) → Live s m) →
      GoodT s (processSources env pid snap rr startTime s srcIdx rest).1 := by
  intro rest
  induction rest with
  | nil => intro s srcIdx h _ _ _; simp only [processSources]; exact GoodT.refl h
  | cons source rest ih =>
    intro s srcIdx h hl hsel hrecv
    have ⟨hsrc, hrest⟩ := liveL_cons.mp hl
    have recvCase : GoodT s
        (match handleSelectReceive env s pid srcIdx source snap rr with
          | (s, .complete v) => completeSelect s pid v
          | (s, .calledFunction) => (s, .ok)
          | (s, .error) => (s, .fail)
          | (s, .continue_) => processSources env pid snap rr startTime s (srcIdx + 1) rest).1 := by
      have ⟨g, lv, hs⟩ := good_handleSelectReceive env henv h pid srcIdx hsrc snap rr hsel hrecv
      cases hr : handleSelectReceive env s pid srcIdx source snap rr with
      | mk s1 res =>
        rw [hr] at g lv hs
        cases res with
        | complete v => exact g.trans (good_completeSelect g.inv pid (lv v rfl))
        | calledFunction => exact g
        | error => exact g
        | continue_ =>
          exact g.trans (ih s1 (srcIdx + 1) g.inv (hrest.stable g.stable) (hs rfl)
            (fun k m hk => (hrecv k m hk).stable g.stable))
    cases source with
    | int timeout =>
      simp only [processSources]
      split
      · exact good_completeSelect h pid live_nil
      · exact ih s (srcIdx + 1) h hrest hsel hrecv
    | proc target f =>
      simp only [processSources]
      split
      · exact GoodT.refl h
      · split
        · rename_i v hv
          exact good_completeSelect h pid (live_awaitedResult h hv)
        · exact ih s (srcIdx + 1) h hrest hsel hrecv
    | func id caps => simp only [processSources]; exact recvCase
    | builtin id => simp only [processSources]; exact recvCase
    | _ => simp only [processSources]; exact GoodT.refl h

theorem good_handleSelectContinuation {s : State} (h : Inv s) (pid : Nat) :
    GoodT s (handleSelectContinuation s pid).1 := by
  unfold handleSelectContinuation
  split
  · exact GoodT.refl h
  · split
    · exact GoodT.refl h
    · split
      · exact GoodT.refl h
      · split
        · obtain ⟨hr, _⟩ | ⟨_, verdict, _, t, _, _, hr, g1, ht, _⟩ := rawPop_cases h pid <;> rw [hr]
          · exact GoodT.refl h
          · exact ⟨g1.trans (good_releaseTransit g1.inv 0), by rw [transit_releaseTransit, ht]; rfl⟩
        · exact GoodT.refl h

theorem count_sourcesOf (v : Val) (i : Nat) : countList i (sourcesOf v) = v.count i := by
  cases v <;> simp [sourcesOf]

theorem good_initializeSelect (env : SelEnv) {s : State} (h : Inv s) (pid : Nat)
    (hnosel : ∀ p, s.getProc pid = some p → p.selectState = none) :
    GoodT s (initializeSelect env s pid).1 := by
  unfold initializeSelect
  obtain ⟨hr, _⟩ | ⟨p0, value, rest, s1, hp0, _, hr, g1, t1, hp1⟩ := rawPop_cases h pid <;> rw [hr]
  · exact GoodT.refl h
  · simp only [hp1]
    -- the popped value becomes the source list: the same handles, the same counts
    have hsel : ∀ i (aw : List (Nat × Option Val)),
        Proc.count i { p0 with
            stack := rest, awaiting := aw,
            selectState := some (newSelectState { p0 with stack := rest } (sourcesOf value) env.now) }
          + countList i (awaitingVals p0.awaiting)
        = Proc.count i { p0 with stack := rest } + countList i (awaitingVals aw) + value.count i := fun i aw => by
      simp +arith only [Proc.count_eq, hnosel p0 hp0, selVals, SelectState.vals, newSelectState, countList_append,
        countList_nil, count_sourcesOf]
    split
    · exact ⟨g1.trans (good_move g1.inv hp1 _ fun i => by
        have := hsel i p0.awaiting; rw [t1]; simp only [List.tail_cons, countList_cons]; omega),
        by rw [t1]; rfl⟩
    · have hcnt := fun i => resetAwaits_count (pidTargets (sourcesOf value)) p0.awaiting i
      have ⟨g2, t2, _⟩ := good_move_releaseN g1.inv hp1
        (resetAwaits p0.awaiting (pidTargets (sourcesOf value))).2 s1.transit.tail
        (p' := { p0 with
          stack := rest, awaiting := (resetAwaits p0.awaiting (pidTargets (sourcesOf value))).1,
          selectState := some (newSelectState { p0 with stack := rest } (sourcesOf value) env.now) })
        fun i => by
          have := hsel i (resetAwaits p0.awaiting (pidTargets (sourcesOf value))).1
          have := hcnt i
          rw [t1]; simp only [List.tail_cons, countList_cons]; omega
      exact ⟨g1.trans g2, by rw [t2, t1]; rfl⟩

theorem liveL_of_sources {s : State} (h : Inv s) {pid : Nat} {p : Proc} {st : SelectState}
    (hp : s.getProc pid = some p) (hst : p.selectState = some st) :
    LiveL s st.sources ∧ ∀ k m, st.receiving = some (k, m) → Live s m := by
  have hsel : ∀ v, v ∈ st.vals → Live s v := fun v hv =>
    h.live_of_mem_roots hp (Proc.mem_roots.mpr (.inr (.inr (.inr (.inr (.inl (by rw [hst]; exact hv)))))))
  exact ⟨liveL_of_forall fun v hv => hsel v (List.mem_append_left _ hv),
    fun k m hk => hsel m (List.mem_append_right _ (by rw [hk]; exact List.mem_singleton_self m))⟩

theorem good_handleSelect (env : SelEnv) (henv : ∀ id r, env.run id = some r → BuiltinOk r)
    {s : State} (h : Inv s) (pid : Nat) : GoodT s (handleSelect env s pid).1 := by
  unfold handleSelect
  have g1 := good_handleSelectContinuation h pid
  cases hc : handleSelectContinuation s pid with
  | mk s1 o =>
    rw [hc] at g1
    simp only at g1
    cases o with
    | none => exact g1
    | some rr =>
      simp only
      cases hp : s1.getProc pid with
      | none => exact g1
      | some p =>
        simp only
        cases hst : p.selectState with
        | none =>
          simp only
          exact g1.trans (good_initializeSelect env g1.inv pid (fun p' hp' => by rw [hp] at hp'; cases hp'; exact hst))
        | some st =>
          simp only
          have ⟨hl, hrv⟩ := liveL_of_sources g1.inv hp hst
          cases hstart : st.startTime with
          | some t0 =>
            simp only
            exact g1.trans (good_processSources env henv pid st rr _ st.sources s1 0 g1.inv hl ⟨p, st, hp, hst⟩ hrv)
          | none =>
            simp only
            have g2 : GoodT s1 (s1.setProc pid { p with selectState := some { st with startTime := some env.now } }) := by
              exact goodT_setProc_same g1.inv hp fun i => by simp only [Proc.count_eq, hst, selVals_count]
            refine g1.trans (g2.trans ?_)
            refine good_processSources env henv pid { st with startTime := some env.now } rr _ st.sources _ 0 g2.inv
              (hl.stable g2.stable) ⟨_, _, getProc_setProc_same s1 pid _, rfl⟩ ?_
            intro k m hk
            exact (hrv k m hk).stable g2.stable

/-- the gated `handle_select`: a closed gate parks after the continuation check and evaluates nothing -/
theorem good_handleSelectWaiting (env : SelEnv) (henv : ∀ id r, env.run id = some r → BuiltinOk r) (pending : Bool)
    {s : State} (h : Inv s) (pid : Nat) : GoodT s (handleSelectWaiting env pending s pid).1 := by
  unfold handleSelectWaiting
  have g1 := good_handleSelectContinuation h pid
  cases hc : handleSelectContinuation s pid with
  | mk s1 o =>
    rw [hc] at g1
    simp only at g1
    cases o with
    | none => exact g1
    | some rr =>
      simp only
      split
      · exact g1
      · exact good_handleSelect env henv h pid


end QM.Heap
