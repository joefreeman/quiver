import QuiverModel.Core.Heap.Instr
import QuiverModel.Lemmas.Heap.Choke
/-
The primitive steps the handlers are composed of, other than the choke points (`Choke.lean`): frame
updates and raw moves through the in-transit list. Each keeps the invariant and is `Stable` (never
frees, never overwrites a live slot).
-/
namespace QM.Heap
open State

theorem count_le_of_mem {v : Val} {vs : List Val} (h : v ∈ vs) (i : Nat) : v.count i ≤ countList i vs := by
  induction vs with
  | nil => cases h
  | cons x xs ih =>
    cases List.mem_cons.mp h with
    | inl e => subst e; simp
    | inr e => have := ih e; simp; omega

theorem count_le_of_getElem? {v : Val} {vs : List Val} {k : Nat} (h : vs[k]? = some v) (i : Nat) :
    v.count i ≤ countList i vs := count_le_of_mem (List.mem_of_getElem? h) i

theorem countList_eraseIdx {vs : List Val} {k : Nat} {v : Val} (h : vs[k]? = some v) (i : Nat) :
    countList i (vs.eraseIdx k) + v.count i = countList i vs := by
  induction vs generalizing k with
  | nil => simp at h
  | cons x xs ih =>
    cases k with
    | zero => simp at h; subst h; simp +arith
    | succ k => simp at h; have := ih h; simp; omega

theorem countList_reverse (vs : List Val) (i : Nat) : countList i vs.reverse = countList i vs := by
  induction vs with
  | nil => simp
  | cons x xs ih => simp +arith [ih]

theorem Live.of_le {s : State} {v w : Val} (hw : Live s w) (h : ∀ i, v.count i ≤ w.count i) : Live s v :=
  fun j hj => hw j (Nat.lt_of_lt_of_le hj (h j))

theorem live_of_heapfree {s : State} {v : Val} (h : ∀ i, v.count i = 0) : Live s v := by
  intro j hj; rw [h j] at hj; cases hj

theorem live_nil {s : State} : Live s Val.nil := live_of_heapfree (by intro i; simp [Val.nil])
theorem live_ok {s : State} : Live s Val.ok := live_of_heapfree (by intro i; simp [Val.ok])

theorem liveL_of_forall {s : State} {vs : List Val} (h : ∀ v ∈ vs, Live s v) : LiveL s vs := by
  induction vs with
  | nil => exact liveL_nil
  | cons x xs ih =>
    exact liveL_cons.mpr ⟨h x (by simp), ih (fun v hv => h v (List.mem_cons_of_mem _ hv))⟩

theorem Proc.mem_roots {p : Proc} {v : Val} :
    v ∈ p.roots ↔ v ∈ p.stack ∨ v ∈ p.locals ∨ v ∈ p.mailbox ∨ v ∈ Res.vals p.result
      ∨ v ∈ selVals p.selectState ∨ v ∈ awaitingVals p.awaiting := by
  simp only [Proc.roots, List.mem_append, or_assoc]

theorem Inv.live_of_mem_roots {s : State} (h : Inv s) {pid : Nat} {p : Proc} (hp : s.getProc pid = some p)
    {v : Val} (hv : v ∈ p.roots) : Live s v := h.live_root hp (count_le_of_mem hv)

theorem goodT_modFrames {s : State} (h : Inv s) (pid : Nat) (f : List Frame → List Frame) :
    GoodT s (modFrames s pid f) := by
  unfold modFrames; split
  · rename_i p hp; exact goodT_setProc_same h hp fun _ => rfl
  · exact GoodT.refl h

theorem goodT_bump {s : State} (h : Inv s) (pid : Nat) : GoodT s (bump s pid) := goodT_modFrames h pid _

theorem rawPop_cases {s : State} (h : Inv s) (pid : Nat) :
    (rawPop s pid = (none, s) ∧ stackOf s pid = []) ∨
    ∃ p v rest t, s.getProc pid = some p ∧ p.stack = v :: rest ∧ rawPop s pid = (some v, t) ∧ Good s t
      ∧ t.transit = v :: s.transit ∧ t.getProc pid = some { p with stack := rest } := by
  unfold rawPop stackOf
  split
  · rename_i p hp
    split
    · rename_i v rest hst
      exact Or.inr ⟨p, v, rest, _, hp, hst, rfl, good_move h hp _ fun i => by
        simp +arith only [Proc.count_eq, hst, countList_cons], rfl, getProc_setProc_same s pid _⟩
    · exact Or.inl ⟨rfl, by assumption⟩
  · exact Or.inl ⟨rfl, rfl⟩

theorem rawPop_spec {s : State} (h : Inv s) (pid : Nat) :
    Good s (rawPop s pid).2 ∧ (∀ v, (rawPop s pid).1 = some v → (rawPop s pid).2.transit = v :: s.transit)
      ∧ ((rawPop s pid).1 = none → (rawPop s pid).2 = s) := by
  obtain ⟨hr, _⟩ | ⟨_, v, _, t, _, _, hr, g, ht, _⟩ := rawPop_cases h pid <;> rw [hr]
  · exact ⟨Good.refl h, fun _ hv => (nomatch hv), fun _ => rfl⟩
  · exact ⟨g, fun _ hv => Option.some.inj hv ▸ ht, fun hv => nomatch hv⟩

theorem good_releaseTransit {s : State} (h : Inv s) (k : Nat) : Good s (releaseTransit s k) := by
  unfold releaseTransit; split
  · rename_i v hv
    exact good_roots (v := .int 0) (r := { s with transit := s.transit.eraseIdx k }) h live_int
      ⟨rfl, rfl, rfl, rfl, rfl, rfl, rfl⟩ fun i => by
        simp +arith only [countRefs, constCount, floating, count_int, ← countList_eraseIdx hv i]
  · exact Good.refl h

theorem transit_releaseTransit (s : State) (k : Nat) :
    (releaseTransit s k).transit = s.transit.eraseIdx k := by
  unfold releaseTransit; split
  · rename_i v hv; rw [(sameRoots_release _ v).transit]
  · rename_i hv
    rw [List.eraseIdx_of_length_le]
    exact Nat.le_of_not_lt (fun hlt => by simp [hlt] at hv)

theorem procs_releaseTransit (s : State) (k : Nat) : (releaseTransit s k).procs = s.procs := by
  unfold releaseTransit; split
  · rw [(sameRoots_release _ _).procs]
  · rfl

theorem good_rawPushTransit {s : State} (h : Inv s) (pid k : Nat) : Good s (rawPushTransit s pid k) := by
  unfold rawPushTransit; split
  · rename_i v p hv hp
    refine good_move h hp _ fun i => ?_
    simp +arith only [Proc.count_eq, countList_cons, ← countList_eraseIdx hv i]
  · exact Good.refl h

theorem good_dropTransit {s : State} (h : Inv s) (k : Nat)
    (hfree : ∀ v, s.transit[k]? = some v → ∀ i, v.count i = 0) : Good s (dropTransit s k) := by
  refine good_roots_move h ⟨rfl, rfl, rfl, rfl, rfl, rfl, rfl⟩ fun i => ?_
  simp only [dropTransit, countRefs, constCount, floating]
  cases hv : s.transit[k]? with
  | none =>
    rw [List.eraseIdx_of_length_le (Nat.le_of_not_lt (fun hlt => by simp [hlt] at hv))]
  | some v => have := countList_eraseIdx hv i; have := hfree v hv i; omega

theorem goodT_rawPush {s : State} (h : Inv s) (pid : Nat) {v : Val} (hv : ∀ i, v.count i = 0) :
    GoodT s (rawPush s pid v) := by
  unfold rawPush; split
  · rename_i p hp
    exact goodT_setProc_same h hp fun i => by simp +arith only [Proc.count_eq, countList_cons, hv i]
  · exact GoodT.refl h

end QM.Heap
