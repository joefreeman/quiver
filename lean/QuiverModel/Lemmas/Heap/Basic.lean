import QuiverModel.Core.Heap.Basic
import QuiverModel.Lemmas.Util.List
/-
`retain` / `release` walk a value and apply `retainIdx` / `releaseIdx` to every heap index they meet:
they are folds over `Val.idxs`, and `Val.count` counts the occurrences in that list. Every fact about
the deep operations is proved for a fold over an arbitrary index list and transferred; the `…List`
version of each is the value version at `.tuple 0 vs`.
-/
namespace QM.Heap
open State

@[simp] theorem countList_nil (i : Nat) : countList i [] = 0 := by simp [countList]
@[simp] theorem countList_cons (i : Nat) (v : Val) (vs : List Val) :
    countList i (v :: vs) = v.count i + countList i vs := by simp [countList]
@[simp] theorem countList_append (i : Nat) (xs ys : List Val) :
    countList i (xs ++ ys) = countList i xs + countList i ys := by
  induction xs with
  | nil => simp
  | cons x xs ih => simp +arith [ih]
@[simp] theorem count_tuple (i id : Nat) (fs : List Val) : (Val.tuple id fs).count i = countList i fs := by
  simp [Val.count]
@[simp] theorem count_func (i id : Nat) (fs : List Val) : (Val.func id fs).count i = countList i fs := by
  simp [Val.count]
@[simp] theorem count_heapBin (i j : Nat) : (Val.bin (.heap j)).count i = if j = i then 1 else 0 := by
  simp [Val.count]

theorem countList_take_drop (i n : Nat) (xs : List Val) :
    countList i (xs.take n) + countList i (xs.drop n) = countList i xs := by
  rw [← countList_append, List.take_append_drop]

mutual
theorem retain_eq_foldl (s : State) (v : Val) : retain s v = v.idxs.foldl retainIdx s := by
  cases v with
  | bin b => cases b <;> rfl
  | tuple id fs => exact retainList_eq_foldl s fs
  | func id cs => exact retainList_eq_foldl s cs
  | _ => rfl
theorem retainList_eq_foldl (s : State) (vs : List Val) : retainList s vs = (idxsList vs).foldl retainIdx s := by
  cases vs with
  | nil => rfl
  | cons v vs => rw [retainList, idxsList, List.foldl_append, ← retain_eq_foldl, ← retainList_eq_foldl]
end

mutual
theorem release_eq_foldl (s : State) (v : Val) : release s v = v.idxs.foldl releaseIdx s := by
  cases v with
  | bin b => cases b <;> rfl
  | tuple id fs => exact releaseList_eq_foldl s fs
  | func id cs => exact releaseList_eq_foldl s cs
  | _ => rfl
theorem releaseList_eq_foldl (s : State) (vs : List Val) : releaseList s vs = (idxsList vs).foldl releaseIdx s := by
  cases vs with
  | nil => rfl
  | cons v vs => rw [releaseList, idxsList, List.foldl_append, ← release_eq_foldl, ← releaseList_eq_foldl]
end

mutual
theorem count_eq_idxs (v : Val) (i : Nat) : v.count i = v.idxs.count i := by
  cases v with
  | bin b =>
    cases b with
    | const k => rfl
    | heap j =>
      rw [count_heapBin, Val.idxs, List.count_singleton]
      by_cases h : j = i
      · simp [h]
      · simp [h]
  | tuple id fs => exact countList_eq_idxs fs i
  | func id cs => exact countList_eq_idxs cs i
  | _ => rfl
theorem countList_eq_idxs (vs : List Val) (i : Nat) : countList i vs = (idxsList vs).count i := by
  cases vs with
  | nil => rfl
  | cons v vs => rw [countList_cons, idxsList, List.count_append, ← count_eq_idxs, ← countList_eq_idxs]
end

theorem mem_idxs_iff (v : Val) (i : Nat) : i ∈ v.idxs ↔ 0 < v.count i := by
  rw [count_eq_idxs, List.count_pos_iff]
theorem mem_idxsList_iff (vs : List Val) (i : Nat) : i ∈ idxsList vs ↔ 0 < countList i vs := by
  rw [countList_eq_idxs, List.count_pos_iff]

/-- the parts of the state `retain` / `release` never touch -/
structure SameRoots (s t : State) : Prop where
  heap : t.heap = s.heap
  freed : t.freed = s.freed
  free : t.free = s.free
  consts : t.constantBinaries = s.constantBinaries
  procs : t.procs = s.procs
  transit : t.transit = s.transit
  size : t.refcounts.size = s.refcounts.size

theorem SameRoots.refl (s : State) : SameRoots s s := ⟨rfl, rfl, rfl, rfl, rfl, rfl, rfl⟩
theorem SameRoots.trans {a b c : State} (h1 : SameRoots a b) (h2 : SameRoots b c) : SameRoots a c :=
  ⟨h2.heap.trans h1.heap, h2.freed.trans h1.freed, h2.free.trans h1.free, h2.consts.trans h1.consts,
   h2.procs.trans h1.procs, h2.transit.trans h1.transit, h2.size.trans h1.size⟩

theorem SameRoots.foldl {f : State → Nat → State} (hf : ∀ s j, SameRoots s (f s j)) (js : List Nat) :
    ∀ s, SameRoots s (js.foldl f s) :=
  foldl_rel_of_step SameRoots.refl SameRoots.trans f hf js

theorem sameRoots_retainIdx (s : State) (j : Nat) : SameRoots s (retainIdx s j) := by
  unfold retainIdx; exact ⟨rfl, rfl, rfl, rfl, rfl, rfl, Array.size_modify⟩
theorem sameRoots_releaseIdx (s : State) (j : Nat) : SameRoots s (releaseIdx s j) := by
  unfold releaseIdx; exact ⟨rfl, rfl, rfl, rfl, rfl, rfl, Array.size_setIfInBounds⟩

theorem sameRoots_retain (s : State) (v : Val) : SameRoots s (retain s v) :=
  retain_eq_foldl s v ▸ SameRoots.foldl sameRoots_retainIdx _ s
theorem sameRoots_release (s : State) (v : Val) : SameRoots s (release s v) :=
  release_eq_foldl s v ▸ SameRoots.foldl sameRoots_releaseIdx _ s
theorem sameRoots_releaseList (s : State) (vs : List Val) : SameRoots s (releaseList s vs) :=
  sameRoots_release s (.tuple 0 vs)

theorem isFreed_of_sameRoots {s t : State} (h : SameRoots s t) (i : Nat) : t.isFreed i = s.isFreed i := by
  simp [State.isFreed, h.freed]

theorem rc_retainIdx (s : State) (j i : Nat) (hj : j < s.refcounts.size) :
    (retainIdx s j).rc i = s.rc i + (if j = i then 1 else 0) := by
  simp only [retainIdx, rc, Array.getD_eq_getD_getElem?, Array.getElem?_modify]
  by_cases h : j = i
  · subst h; simp [hj]
  · simp [h]

theorem rc_releaseIdx (s : State) (j i : Nat) :
    (releaseIdx s j).rc i = s.rc i - (if j = i then 1 else 0) := by
  simp only [releaseIdx, rc, Array.getD_eq_getD_getElem?, Array.getElem?_setIfInBounds]
  by_cases h : j = i
  · subst h
    by_cases hj : j < s.refcounts.size <;> simp [hj]
  · simp [h]

theorem count_cons_ite (j i : Nat) (js : List Nat) :
    (j :: js).count i = (if j = i then 1 else 0) + js.count i := by
  rw [List.count_cons, Nat.add_comm]; simp only [beq_iff_eq]

theorem rc_foldl_retainIdx (js : List Nat) (i : Nat) : ∀ s : State, (∀ j ∈ js, j < s.refcounts.size) →
    (js.foldl retainIdx s).rc i = s.rc i + js.count i := by
  induction js with
  | nil => intro s _; rfl
  | cons j js ih =>
    intro s h
    rw [List.foldl_cons, ih _ (fun k hk => (sameRoots_retainIdx s j).size ▸ h k (List.mem_cons_of_mem _ hk)),
      rc_retainIdx s j i (h j List.mem_cons_self), count_cons_ite, Nat.add_assoc]

theorem rc_foldl_releaseIdx (js : List Nat) (i : Nat) : ∀ s : State,
    (js.foldl releaseIdx s).rc i = s.rc i - js.count i := by
  induction js with
  | nil => intro s; rfl
  | cons j js ih =>
    intro s
    rw [List.foldl_cons, ih, rc_releaseIdx, count_cons_ite, Nat.sub_sub]

/-- every heap index occurring in `v` is a valid index of `refcounts` -/
def InRange (s : State) (v : Val) : Prop := ∀ j, 0 < v.count j → j < s.refcounts.size
def InRangeL (s : State) (vs : List Val) : Prop := ∀ j, 0 < countList j vs → j < s.refcounts.size

theorem rc_retain (s : State) (v : Val) (h : InRange s v) (i : Nat) :
    (retain s v).rc i = s.rc i + v.count i := by
  rw [retain_eq_foldl, count_eq_idxs]
  exact rc_foldl_retainIdx _ i s (fun j hj => h j ((mem_idxs_iff v j).mp hj))
theorem rc_retainList (s : State) (vs : List Val) (h : InRangeL s vs) (i : Nat) :
    (retainList s vs).rc i = s.rc i + countList i vs := rc_retain s (.tuple 0 vs) h i

theorem rc_release (s : State) (v : Val) (i : Nat) : (release s v).rc i = s.rc i - v.count i := by
  rw [release_eq_foldl, count_eq_idxs]; exact rc_foldl_releaseIdx _ i s
theorem rc_releaseList (s : State) (vs : List Val) (i : Nat) :
    (releaseList s vs).rc i = s.rc i - countList i vs := rc_release s (.tuple 0 vs) i

theorem pendingFree_releaseIdx_mono (s : State) (j i : Nat) (h : i ∈ s.pendingFree) :
    i ∈ (releaseIdx s j).pendingFree := by
  simp only [releaseIdx]; split <;> simp [h]

theorem pendingFree_foldl_mono (js : List Nat) (i : Nat) : ∀ s : State, i ∈ s.pendingFree →
    i ∈ (js.foldl releaseIdx s).pendingFree := by
  induction js with
  | nil => exact fun _ h => h
  | cons j js ih => exact fun s h => ih _ (pendingFree_releaseIdx_mono s j i h)

theorem pendingFree_release_mono (s : State) (v : Val) (i : Nat) (h : i ∈ s.pendingFree) :
    i ∈ (release s v).pendingFree := release_eq_foldl s v ▸ pendingFree_foldl_mono _ i s h

theorem mem_pendingFree_releaseIdx (s : State) (j i : Nat) (h : i ∈ (releaseIdx s j).pendingFree) :
    i ∈ s.pendingFree ∨ i = j := by
  simp only [releaseIdx] at h
  split at h
  · exact (List.mem_cons.mp h).symm
  · exact Or.inl h

theorem mem_pendingFree_foldl (js : List Nat) (i : Nat) : ∀ s : State,
    i ∈ (js.foldl releaseIdx s).pendingFree → i ∈ s.pendingFree ∨ i ∈ js := by
  induction js with
  | nil => exact fun _ h => Or.inl h
  | cons j js ih =>
    intro s h
    rcases ih _ h with h | h
    · exact (mem_pendingFree_releaseIdx s j i h).imp_right (fun e => List.mem_cons.mpr (Or.inl e))
    · exact Or.inr (List.mem_cons_of_mem _ h)

theorem mem_pendingFree_release (s : State) (v : Val) (i : Nat) (h : i ∈ (release s v).pendingFree) :
    i ∈ s.pendingFree ∨ 0 < v.count i :=
  (mem_pendingFree_foldl _ i s (release_eq_foldl s v ▸ h)).imp_right (mem_idxs_iff v i).mp
theorem mem_pendingFree_releaseList (s : State) (vs : List Val) (i : Nat)
    (h : i ∈ (releaseList s vs).pendingFree) : i ∈ s.pendingFree ∨ 0 < countList i vs :=
  mem_pendingFree_release s (.tuple 0 vs) i h

theorem releaseIdx_queues (s : State) (j i : Nat) (hpos : 0 < s.rc i) (hz : (releaseIdx s j).rc i = 0) :
    i ∈ (releaseIdx s j).pendingFree := by
  rw [rc_releaseIdx] at hz
  by_cases h : j = i
  · subst h
    have : s.rc j - 1 = 0 := by simpa using hz
    simp [releaseIdx, this]
  · simp [h] at hz; omega

theorem foldl_releaseIdx_queues (js : List Nat) (i : Nat) : ∀ s : State, 0 < s.rc i →
    (js.foldl releaseIdx s).rc i = 0 → i ∈ (js.foldl releaseIdx s).pendingFree := by
  induction js with
  | nil => exact fun s hpos hz => absurd hz (Nat.ne_of_gt hpos)
  | cons j js ih =>
    intro s hpos hz
    by_cases h1 : (releaseIdx s j).rc i = 0
    · exact pendingFree_foldl_mono js i _ (releaseIdx_queues s j i hpos h1)
    · exact ih _ (by omega) hz

theorem release_queues (s : State) (v : Val) (i : Nat) (hpos : 0 < s.rc i)
    (hz : (release s v).rc i = 0) : i ∈ (release s v).pendingFree := by
  rw [release_eq_foldl] at hz ⊢; exact foldl_releaseIdx_queues _ i s hpos hz
theorem releaseList_queues (s : State) (vs : List Val) (i : Nat) (hpos : 0 < s.rc i)
    (hz : (releaseList s vs).rc i = 0) : i ∈ (releaseList s vs).pendingFree :=
  release_queues s (.tuple 0 vs) i hpos hz

theorem fresh_foldl_retainIdx (js : List Nat) (i : Nat) : ∀ s : State, i ∉ js → i ∈ s.fresh →
    i ∈ (js.foldl retainIdx s).fresh := by
  induction js with
  | nil => exact fun _ _ h => h
  | cons j js ih =>
    intro s hn h
    refine ih _ (fun hm => hn (List.mem_cons_of_mem _ hm)) (List.mem_filter.mpr ⟨h, ?_⟩)
    simpa using fun e => hn (List.mem_cons.mpr (Or.inl e))

theorem fresh_foldl_retainIdx_sub (js : List Nat) (i : Nat) : ∀ s : State,
    i ∈ (js.foldl retainIdx s).fresh → i ∈ s.fresh := by
  induction js with
  | nil => exact fun _ h => h
  | cons j js ih => exact fun s h => (List.mem_filter.mp (ih _ h)).1

theorem fresh_retain (s : State) (v : Val) (i : Nat) (hc : v.count i = 0) (h : i ∈ s.fresh) :
    i ∈ (retain s v).fresh :=
  retain_eq_foldl s v ▸ fresh_foldl_retainIdx _ i s (fun hm => by have := (mem_idxs_iff v i).mp hm; omega) h
theorem fresh_retainList (s : State) (vs : List Val) (i : Nat) (hc : countList i vs = 0)
    (h : i ∈ s.fresh) : i ∈ (retainList s vs).fresh := fresh_retain s (.tuple 0 vs) i hc h

theorem fresh_retain_sub (s : State) (v : Val) (i : Nat) (h : i ∈ (retain s v).fresh) : i ∈ s.fresh :=
  fresh_foldl_retainIdx_sub _ i s (retain_eq_foldl s v ▸ h)
theorem fresh_retainList_sub (s : State) (vs : List Val) (i : Nat) (h : i ∈ (retainList s vs).fresh) :
    i ∈ s.fresh := fresh_retain_sub s (.tuple 0 vs) i h

/-- a field that one step leaves alone is left alone by the fold -/
theorem foldl_field_eq {α : Type} (g : State → α) {f : State → Nat → State} (hf : ∀ s j, g (f s j) = g s)
    (js : List Nat) : ∀ s, g (js.foldl f s) = g s :=
  fun s => foldl_invariant (g · = g s) f (fun a j h => (hf a j).trans h) js s rfl

theorem pendingFree_retain (s : State) (v : Val) : (retain s v).pendingFree = s.pendingFree :=
  retain_eq_foldl s v ▸ foldl_field_eq (·.pendingFree) (f := retainIdx) (fun _ _ => rfl) _ s
theorem pendingFree_retainList (s : State) (vs : List Val) : (retainList s vs).pendingFree = s.pendingFree :=
  pendingFree_retain s (.tuple 0 vs)

theorem fresh_release (s : State) (v : Val) : (release s v).fresh = s.fresh :=
  release_eq_foldl s v ▸ foldl_field_eq (·.fresh) (f := releaseIdx) (fun _ _ => rfl) _ s
theorem fresh_releaseList (s : State) (vs : List Val) : (releaseList s vs).fresh = s.fresh :=
  fresh_release s (.tuple 0 vs)

theorem uaf_foldl_retainIdx (js : List Nat) : ∀ s : State, (∀ j ∈ js, s.isFreed j = false) →
    (js.foldl retainIdx s).uaf = s.uaf := by
  induction js with
  | nil => exact fun _ _ => rfl
  | cons j js ih =>
    intro s h
    rw [List.foldl_cons, ih _ (fun k hk => by
      rw [isFreed_of_sameRoots (sameRoots_retainIdx s j)]; exact h k (List.mem_cons_of_mem _ hk))]
    simp [retainIdx, h j List.mem_cons_self]

theorem uaf_foldl_releaseIdx (js : List Nat) : ∀ s : State, (∀ j, js.count j ≤ s.rc j) →
    (∀ j, s.isFreed j = true → s.rc j = 0) → (js.foldl releaseIdx s).uaf = s.uaf := by
  induction js with
  | nil => exact fun _ _ _ => rfl
  | cons j js ih =>
    intro s hc hf
    -- the head index is counted at least once, so its slot is not freed and its count does not
    -- underflow; the tail mentions every index at most as often as its count after this step
    have hj : 1 ≤ s.rc j := by have := hc j; simp at this; omega
    have hnf : s.isFreed j = false := by
      cases hq : s.isFreed j with
      | false => rfl
      | true => have := hf j hq; omega
    have hnz : (s.rc j == 0) = false := by simp; omega
    rw [List.foldl_cons, ih]
    · simp [releaseIdx, hnf, hnz]
    · intro k
      have := hc k
      rw [List.count_cons] at this
      rw [rc_releaseIdx]; simp only [beq_iff_eq] at this; omega
    · intro k hk
      rw [isFreed_of_sameRoots (sameRoots_releaseIdx s j)] at hk
      rw [rc_releaseIdx, hf k hk]; omega

theorem uaf_retain (s : State) (v : Val) (hv : ∀ j, 0 < v.count j → s.isFreed j = false) :
    (retain s v).uaf = s.uaf :=
  retain_eq_foldl s v ▸ uaf_foldl_retainIdx _ s (fun j hj => hv j ((mem_idxs_iff v j).mp hj))
theorem uaf_retainList (s : State) (vs : List Val) (hv : ∀ j, 0 < countList j vs → s.isFreed j = false) :
    (retainList s vs).uaf = s.uaf := uaf_retain s (.tuple 0 vs) hv

theorem uaf_release (s : State) (v : Val) (hc : ∀ j, v.count j ≤ s.rc j)
    (hf : ∀ j, s.isFreed j = true → s.rc j = 0) : (release s v).uaf = s.uaf :=
  release_eq_foldl s v ▸ uaf_foldl_releaseIdx _ s (fun j => count_eq_idxs v j ▸ hc j) hf
theorem uaf_releaseList (s : State) (vs : List Val) (hc : ∀ j, countList j vs ≤ s.rc j)
    (hf : ∀ j, s.isFreed j = true → s.rc j = 0) : (releaseList s vs).uaf = s.uaf :=
  uaf_release s (.tuple 0 vs) hc hf

end QM.Heap
