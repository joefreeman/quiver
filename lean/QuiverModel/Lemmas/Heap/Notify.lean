import QuiverModel.Lemmas.Heap.Cold
/-
self / process-ref, notifications, process creation, REPL resume and compaction, frame pop,
completion.
-/
namespace QM.Heap
open State

theorem goodT_rawPush_bump {s : State} (h : Inv s) (pid a b : Nat) :
    GoodT s (bump (rawPush s pid (.proc a b)) pid) :=
  (goodT_rawPush h pid fun _ => rfl).andThen (goodT_bump · pid)

theorem good_handleSelf {s : State} (h : Inv s) (pid : Nat) (sw : Option Nat) : GoodT s (handleSelf s pid sw).1 := by
  unfold handleSelf
  split
  · exact goodT_rawPush_bump h pid _ _
  · split
    · exact GoodT.refl h
    · exact goodT_rawPush_bump h pid _ _

theorem good_handleProcessRef {s : State} (h : Inv s) (pid a b : Nat) : GoodT s (handleProcessRef s pid a b).1 :=
  goodT_rawPush_bump h pid a b

theorem good_notifySpawn {s : State} (h : Inv s) (id a b : Nat) : GoodT s (notifySpawn s id a b) :=
  goodT_rawPush_bump h id a b

theorem inject_cases {s : State} (h : Inv s) (v : Val) (hd : List Bytes) :
    ∃ o t, injectHeapData s v hd = (o, t) ∧ GoodT s t ∧ RootsEq s t ∧ ∀ v', o = some v' → Live t v' :=
  have ⟨a, b, c⟩ := injectHeapData_spec h v hd
  ⟨_, _, rfl, ⟨a, b.transit⟩, b, fun v' hv' => (c v' hv').1⟩

theorem good_notifyMessage {s : State} (h : Inv s) (id : Nat) (m : Val) (hd : List Bytes) :
    GoodT s (notifyMessage s id m hd).1 := by
  unfold notifyMessage
  obtain ⟨o, t, hi, g, _, l⟩ := inject_cases h m hd
  rw [hi]
  cases o with
  | none => exact g
  | some injected =>
    simp only
    split
    · exact g
    · rename_i p hp
      exact g.andThen (goodT_retain_setProc · (l injected rfl) hp fun i => by
        simp +arith only [Proc.count_eq, countList_append, countList_cons, countList_nil])

/-- occurrences of slot `i` in the stored result an `awaiting` entry held, if it held one -/
def prevCount (i : Nat) : Option (Option Val) → Nat
  | some (some old) => old.count i
  | _ => 0

theorem count_awaitingVals_cons (i k : Nat) (o : Option Val) (m : List (Nat × Option Val)) :
    countList i (awaitingVals ((k, o) :: m)) = prevCount i (some o) + countList i (awaitingVals m) := by
  cases o <;> simp [awaitingVals, prevCount]

theorem awaitingVals_aset (m : List (Nat × Option Val)) (k : Nat) (nv : Option Val) (i : Nat) :
    countList i (awaitingVals (aset m k nv)) + prevCount i (aget m k)
      = countList i (awaitingVals m) + prevCount i (some nv) := by
  induction m with
  | nil => simp +arith only [aset, aget, count_awaitingVals_cons, prevCount, awaitingVals, countList_nil]
  | cons e m ih =>
    obtain ⟨k', v'⟩ := e
    by_cases hk : k' = k
    · simp +arith only [aset, aget, hk, if_true, count_awaitingVals_cons]
    · simp only [aset, aget, hk, if_false, count_awaitingVals_cons]; omega

theorem good_notifyResult {s : State} (h : Inv s) (awaiter awaited : Nat) (res : Val) (hd : List Bytes) :
    GoodT s (notifyResult s awaiter awaited res hd).1 := by
  unfold notifyResult
  split
  · exact GoodT.refl h
  · split
    · obtain ⟨o, t, hi, g, _, l⟩ := inject_cases h res hd
      rw [hi]
      cases o with
      | none => exact g
      | some injected =>
        simp only
        split
        · exact g
        · rename_i p hp
          have hcnt := fun i => awaitingVals_aset p.awaiting awaited (some injected) i
          split
          · rename_i old hprev
            -- the replaced stored result is released
            exact g.andThen (goodT_exchange · (l injected rfl) hp fun i => by
              have := hcnt i
              simp only [Proc.count_eq, hprev, prevCount] at this ⊢; omega)
          · rename_i hprev
            refine g.andThen (goodT_retain_setProc · (l injected rfl) hp fun i => ?_)
            have := hcnt i
            have h0 : prevCount i (aget p.awaiting awaited) = 0 := by
              cases hq : aget p.awaiting awaited with
              | none => rfl
              | some o =>
                cases o with
                | none => rfl
                | some old => exact absurd hq (hprev old)
            simp only [Proc.count_eq, prevCount] at this ⊢; omega
    · exact GoodT.refl h

theorem count_vals_of_no_result {p : Proc} (hres : ∀ v, p.result ≠ some (.ok v)) (i : Nat) :
    countList i (Res.vals p.result) = 0 := by
  cases hq : p.result with
  | none => rfl
  | some r =>
    cases r with
    | err => rfl
    | ok v => exact absurd hq (hres v)

/-- `setError` overwrites `result`: a stored value would stay counted with no root left (F16), hence `hres` -/
theorem good_setError {s : State} (h : Inv s) (pid : Nat)
    (hres : ∀ p v, s.getProc pid = some p → p.result ≠ some (.ok v)) : GoodT s (setError s pid) := by
  unfold setError
  split
  · rename_i p hp
    refine goodT_setProc_same h hp fun i => ?_
    simp +arith only [Proc.count_eq, Res.vals_err, countList_nil, count_vals_of_no_result (fun v => hres p v hp) i]
  · exact GoodT.refl h

theorem good_notifyEffectCompletion {s : State} (h : Inv s) (pid : Nat) (res : Option Val) (hd : List Bytes)
    (hrun : ∃ p, s.getProc pid = some p ∧ p.result = none) :
    GoodT s (notifyEffectCompletion s pid res hd).1 := by
  obtain ⟨p0, hp0, hres0⟩ := hrun
  unfold notifyEffectCompletion
  split
  · rename_i v
    obtain ⟨o, t, hi, g, r, l⟩ := inject_cases h v hd
    rw [hi]
    cases o with
    | none => exact g
    | some injected =>
      simp only
      split
      · rename_i hnone; rw [r.getProc, hp0] at hnone; cases hnone
      · rename_i p hp
        exact (g.andThen (goodT_retain_setProc · (l injected rfl) hp fun i => by
          simp +arith only [Proc.count_eq, countList_cons])).andThen (goodT_bump · pid)
  · have := good_setError h pid (fun p v hp => by rw [hp0] at hp; cases hp; rw [hres0]; simp)
    unfold setError at this
    rw [hp0] at this ⊢
    exact this

theorem total_setProc_new (s : State) (pid : Nat) (p' : Proc) (i : Nat) (h : s.getProc pid = none) :
    (s.setProc pid p').countRefs i + (s.setProc pid p').floating i
      = s.countRefs i + s.floating i + p'.count i := by
  simp +arith only [countRefs, constCount, floating, setProc, procsCount_aset_new s.procs pid p' i h]

theorem good_spawnProcess {s : State} (h : Inv s) (id : Nat) (fi : Option Nat) (caps : List Val) (arg : Val)
    (hd : List Bytes) (persistent : Bool) (hnew : s.getProc id = none) :
    GoodT s (spawnProcess s id fi caps arg hd persistent).1 := by
  have gnew : ∀ p : Proc, (∀ i, p.count i = 0) → GoodT s (s.setProc id p) := by
    intro p hp
    exact ⟨good_roots_move h (heapEq_setProc _ _ _) fun i => by rw [total_setProc_new s id p i hnew, hp i]; rfl, rfl⟩
  unfold spawnProcess
  split
  · exact gnew _ fun _ => rfl
  · rename_i f
    have g0 := gnew { persistent := persistent } fun _ => rfl
    simp only
    obtain ⟨o, t, hi, g, _, l⟩ := inject_cases g0.inv (.tuple 0 (caps ++ [arg])) hd
    split
    · rename_i tid injected s1 hi'
      rw [hi'] at hi
      cases hi
      split
      · rename_i a rcaps hrev
        have hl := liveL_reverse (live_tuple.mp (l _ rfl))
        rw [hrev] at hl
        have ⟨la, lc⟩ := liveL_cons.mp hl
        have g2 := goodT_pushLocals id rcaps.reverse g.inv (liveL_reverse lc)
        have g3 := goodT_pushValue g2.inv id (la.stable g2.stable)
        exact g0.trans (g.trans (g2.trans (g3.andThen (goodT_modFrames · id _))))
      · exact g0.trans g
    · rename_i o' s1 hne hi'
      rw [hi'] at hi
      cases hi
      exact g0.trans g

theorem good_resumeProcess {s : State} (h : Inv s) (id fi : Nat) : GoodT s (resumeProcess s id fi).1 := by
  unfold resumeProcess
  split
  · exact GoodT.refl h
  · rename_i p hp
    split
    · rename_i v hres
      split
      · exact goodT_setProc_same h hp fun i => by
          simp +arith only [Proc.count_eq, hres, Res.vals, countList_cons, countList_nil]
      · exact GoodT.refl h
    · exact GoodT.refl h

theorem mapM_getElem?_mem {l : List Val} : ∀ (ks : List Nat) (out : List Val),
    ks.mapM (fun i => l[i]?) = some out → ∀ v ∈ out, v ∈ l := by
  intro ks
  induction ks with
  | nil => intro out h v hv; simp at h; subst h; cases hv
  | cons k ks ih =>
    intro out h v hv
    simp only [List.mapM_cons, Option.bind_eq_bind] at h
    cases hk : l[k]? with
    | none => simp [hk] at h
    | some x =>
      cases hks : ks.mapM (fun i => l[i]?) with
      | none => simp [hk, hks] at h
      | some out' =>
        simp [hk, hks] at h; subst h
        cases List.mem_cons.mp hv with
        | inl e => subst e; exact List.mem_of_getElem? hk
        | inr e => exact ih out' hks v e

theorem good_compactLocals {s : State} (h : Inv s) (pid : Nat) (keep : List Nat) :
    GoodT s (compactLocals s pid keep).1 := by
  unfold compactLocals
  split
  · exact GoodT.refl h
  · rename_i p hp
    split
    · exact GoodT.refl h
    · rename_i nl hnl
      exact goodT_replaceLocals h pid (liveL_of_forall fun v hv =>
        h.live_of_mem_roots hp (Proc.mem_roots.mpr (.inr (.inl (mapM_getElem?_mem keep nl hnl v hv)))))

theorem good_popFrame {s : State} (h : Inv s) (pid : Nat) : GoodT s (popFrame s pid) := by
  unfold popFrame
  split
  · exact GoodT.refl h
  · rename_i p hp
    split
    · exact GoodT.refl h
    · rename_i frame rest hfr
      simp only
      have g1 : ∀ fs, GoodT s (s.setProc pid { p with frames := fs }) :=
        fun fs => goodT_setProc_same h hp fun _ => rfl
      split
      · exact (g1 _).andThen (goodT_truncateLocals · pid _)
      · exact g1 _

theorem good_finish {s : State} (h : Inv s) (pid : Nat)
    (hres : ∀ p v, s.getProc pid = some p → p.result ≠ some (.ok v)) : GoodT s (finish s pid).1 := by
  unfold finish
  split
  · exact GoodT.refl h
  · rename_i p hp
    have hr := count_vals_of_no_result (fun v => hres p v hp)
    split
    · exact GoodT.refl h
    · split
      · exact goodT_setProc_same h hp fun i => by
          simp +arith only [Proc.count_eq, Res.vals_err, countList_nil, hr i]
      · rename_i v rest hst
        exact goodT_setProc_same h hp fun i => by
          simp +arith only [Proc.count_eq, hst, Res.vals_ok, countList_cons, countList_nil, hr i]

theorem good_notifyAll (pid : Nat) (v : Val) (as : List Nat) : ∀ {s : State}, Inv s →
    GoodT s (notifyAll pid v s as) := by
  induction as with
  | nil => exact GoodT.refl
  | cons a rest ih => exact fun h => (good_notifyResult h a pid v []).andThen ih

theorem good_notifyAwaiters {s : State} (h : Inv s) (pid : Nat) : GoodT s (notifyAwaiters s pid) := by
  unfold notifyAwaiters
  split
  · split
    · exact good_notifyAll pid _ _ h
    · exact GoodT.refl h
  · exact GoodT.refl h

theorem countList_map_insertStored (e : Nat × Val) (l : List (Nat × Val)) (i : Nat) :
    countList i ((insertStored e l).map (·.2)) = e.2.count i + countList i (l.map (·.2)) := by
  induction l with
  | nil => simp [insertStored]
  | cons x xs ih =>
    simp only [insertStored]
    split
    · simp
    · simp +arith [ih]

theorem countList_storedSorted (aw : List (Nat × Option Val)) (i : Nat) :
    countList i ((storedSorted aw).map (·.2)) = countList i (awaitingVals aw) := by
  induction aw with
  | nil => simp [storedSorted, awaitingVals]
  | cons e rest ih =>
    obtain ⟨t, o⟩ := e
    cases o with
    | none => simpa [storedSorted, awaitingVals] using ih
    | some v => simp [storedSorted, awaitingVals, countList_map_insertStored, ih]

theorem count_deadRoots (p : Proc) (i : Nat) :
    (withoutDeadRoots p).count i + countList i (deadRoots p) = p.count i := by
  have h1 := countList_reverse p.stack i
  have h2 := countList_storedSorted p.awaiting i
  unfold withoutDeadRoots deadRoots
  split
  · simp +arith only [Proc.count_eq, countList_append, countList_nil, h1]
  · simp +arith only [Proc.count_eq, countList_append, countList_nil, h1, h2, selVals, awaitingVals]

theorem good_releaseDeadRoots {s : State} (h : Inv s) (pid : Nat) : GoodT s (releaseDeadRoots s pid) := by
  unfold releaseDeadRoots
  split
  · exact GoodT.refl h
  · rename_i p hp
    rw [releaseList_eq_release]
    exact goodT_setProc_release h hp fun i => by rw [count_tuple]; exact count_deadRoots p i

theorem roots_after_releaseDeadRoots (p : Proc) (hp : p.persistent = false) :
    (withoutDeadRoots p).roots = Res.vals p.result := by
  simp [withoutDeadRoots, hp, Proc.roots, selVals, awaitingVals]

theorem good_notifyMessageGuarded {s : State} (h : Inv s) (id : Nat) (m : Val) (hd : List Bytes) :
    GoodT s (notifyMessageGuarded s id m hd).1 := by
  unfold notifyMessageGuarded
  split
  · split
    · exact good_notifyMessage h id m hd
    · exact GoodT.refl h
  · exact GoodT.refl h

end QM.Heap
