import QuiverModel.Core.Types.Narrow
import QuiverModel.Lemmas.Types.ShapeLemmas
import QuiverModel.Lemmas.Util.List
/-
Registration only appends: every lookup that succeeded still gives the same entry
(`Table.Sub T T'`), first-order types stay first-order with the same meaning, and `unionIds`
denotes the union of its arguments (`unionIds_sem` — typing.rs `union_type_ids`).
-/
namespace QM.Types

/-- `T'` extends `T`: every entry of `T` is an entry of `T'` at the same index (not `Sub`, the subtyping of two ids of
one table) -/
structure Table.Sub (T T' : Table) : Prop where
  types : ∀ (t : Nat) (ty : Ty), T.types[t]? = some ty → T'.types[t]? = some ty
  tuples : ∀ (i : Nat) (info : TupleInfo), T.tuples[i]? = some info → T'.tuples[i]? = some info

theorem Table.Sub.refl (T : Table) : Table.Sub T T := ⟨fun _ _ h => h, fun _ _ h => h⟩

theorem Table.Sub.trans {A B C : Table} (h1 : Table.Sub A B) (h2 : Table.Sub B C) : Table.Sub A C :=
  ⟨fun t ty h => h2.types t ty (h1.types t ty h), fun i info h => h2.tuples i info (h1.tuples i info h)⟩

theorem position_some {α : Type} [DecidableEq α] {x : α} :
    ∀ {l : List α} {i : Nat}, position x l = some i → l[i]? = some x := by
  intro l i h
  obtain ⟨y, hy, hp⟩ := indexOf?_spec (p := (· == x)) rfl (fun _ _ => by simp [position]) h
  rw [hy, eq_of_beq hp]

theorem registerType_spec (T : Table) (ty : Ty) :
    Table.Sub T (T.registerType ty).1 ∧ (T.registerType ty).1.types[(T.registerType ty).2]? = some ty := by
  unfold Table.registerType
  cases hp : position ty T.types with
  | some i => exact ⟨Table.Sub.refl T, position_some hp⟩
  | none =>
    refine ⟨⟨fun t ty' h => ?_, fun _ _ h => h⟩, by simp⟩
    simp only
    rw [List.getElem?_append_left (List.getElem?_eq_some_iff.mp h).1]
    exact h

theorem never_spec (T : Table) :
    Table.Sub T T.never.1 ∧ T.never.1.types[T.never.2]? = some (.union []) ∧ FO T.never.1 T.never.2 ∧
      ∀ st v, ¬ inh T.never.1 st T.never.2 v := by
  obtain ⟨hsub, hget⟩ := registerType_spec T (.union [])
  refine ⟨hsub, hget, ⟨1, ?_⟩, not_inh_never hget⟩
  unfold foB
  simp only [Table.never, hget, Ty.isFO, Ty.tupleOk, Ty.children, List.all_nil, Bool.and_self]

theorem registerTuple_spec (T : Table) (name : Option Name) (fields : List (Option Name × Nat)) :
    Table.Sub T (T.registerTuple name fields).1 ∧
      (T.registerTuple name fields).1.tuples[(T.registerTuple name fields).2]? = some ⟨name, fields⟩ := by
  unfold Table.registerTuple
  cases hp : position (⟨name, fields⟩ : TupleInfo) T.tuples with
  | some i => exact ⟨Table.Sub.refl T, position_some hp⟩
  | none =>
    refine ⟨⟨fun _ _ h => h, fun i info h => ?_⟩, by simp⟩
    simp only
    rw [List.getElem?_append_left (List.getElem?_eq_some_iff.mp h).1]
    exact h

section
variable {T T' : Table} (hsub : Table.Sub T T')
include hsub

theorem FO.sub {t : Nat} (h : FO T t) : FO T' t :=
  h.induction (P := FO T') (fun hty hat => FO.of_atom (hsub.types _ _ hty) hat)
    (fun hty _ ih => FO.of_union (hsub.types _ _ hty) ih)
    (fun hty hi _ ih => FO.of_tuple (hsub.types _ _ hty) (hsub.tuples _ _ hi) ih)
    (fun hty _ ih => FO.of_part (hsub.types _ _ hty) ih)

theorem FO.inh_sub {t : Nat} (h : FO T t) (st st' : List Nat) (v : V) :
    inh T st t v ↔ inh T' st' t v := by
  revert st st' v
  refine h.induction (P := fun t => ∀ (st st' : List Nat) (v : V), inh T st t v ↔ inh T' st' t v)
    (fun hty hat _ _ _ => inh_atom hat hty (hsub.types _ _ hty)) ?_ ?_ ?_
  · intro t vs hty _ ih st st' v
    rw [inh_union hty, inh_union (hsub.types _ _ hty)]
    exact exists_congr fun i => and_congr_right fun hi => ih i hi _ _ v
  · intro t i info hty hi _ ih st st' v
    simp only [inh_tuple hty hi, inh_tuple (hsub.types _ _ hty) (hsub.tuples _ _ hi),
      FieldsRel.congr (fun c hc v => let ⟨f, hf, e⟩ := List.mem_map.mp hc; e ▸ ih f hf st st' v)]
  · intro t pn fs hty _ ih st st' v
    simp only [inh_part hty, inh_part (hsub.types _ _ hty), HasField]
    exact exists_congr fun _ => exists_congr fun _ => and_congr_right fun _ => and_congr_right fun _ =>
      forall₂_congr fun pf hpf => exists_congr fun q => and_congr_right fun _ => and_congr_right fun _ =>
        ih pf hpf st st' q.2

end

theorem FieldsRel.inh_sub {T T' : Table} (hsub : Table.Sub T T') {l : List (Option Name × Nat)}
    (hl : ∀ f ∈ l, FO T f.2) (qs : List (Option Name × V)) :
    FieldsRel (inh T []) l qs ↔ FieldsRel (inh T' []) l qs :=
  FieldsRel.congr fun c hc v =>
    let ⟨f, hf, e⟩ := List.mem_map.mp hc
    e ▸ (hl f hf).inh_sub hsub [] [] v

theorem FO.stack_irrel {T : Table} {t : Nat} (h : FO T t) {st st' : List Nat} {v : V}
    (hv : inh T st t v) : inh T st' t v :=
  (h.inh_sub (Table.Sub.refl T) st st' v).mp hv

theorem mem_dedupKeep : ∀ (l seen : List Nat) (x : Nat), x ∈ dedupKeep seen l ↔ x ∈ l ∧ x ∉ seen := by
  intro l
  induction l with
  | nil => intro seen x; simp [dedupKeep]
  | cons y ys ih =>
    intro seen x
    unfold dedupKeep
    split
    · rename_i hc
      have hy : y ∈ seen := by simpa using hc
      rw [ih]
      constructor
      · rintro ⟨h1, h2⟩; exact ⟨List.mem_cons_of_mem _ h1, h2⟩
      · rintro ⟨h1, h2⟩
        rcases List.mem_cons.mp h1 with rfl | h1
        · exact absurd hy h2
        · exact ⟨h1, h2⟩
    · rename_i hc
      have hy : y ∉ seen := by simpa using hc
      simp only [List.mem_cons, ih]
      constructor
      · rintro (rfl | ⟨h1, h2⟩)
        · exact ⟨Or.inl rfl, hy⟩
        · exact ⟨Or.inr h1, fun h => h2 (Or.inr h)⟩
      · rintro ⟨rfl | h1, h2⟩
        · exact Or.inl rfl
        · by_cases hxy : x = y
          · exact Or.inl hxy
          · exact Or.inr ⟨h1, fun h => by rcases h with h | h; exact hxy h; exact h2 h⟩

theorem getVariants_sem {T : Table} {a : Nat} (ha : FO T a) :
    (∀ x ∈ getVariants T a, FO T x) ∧ ∀ v, inh T [] a v ↔ ∃ x ∈ getVariants T a, inh T [] x v := by
  obtain ⟨ty, hty, _⟩ := ha.unfold
  by_cases hu : ∃ vs, ty = .union vs
  · obtain ⟨vs, rfl⟩ := hu
    have hg : getVariants T a = vs := by unfold getVariants; rw [hty]
    rw [hg]
    refine ⟨ha.union hty, fun v => ?_⟩
    rw [inh_union hty]
    constructor
    · rintro ⟨i, hi, hv⟩; exact ⟨i, hi, (ha.union hty i hi).stack_irrel hv⟩
    · rintro ⟨i, hi, hv⟩; exact ⟨i, hi, (ha.union hty i hi).stack_irrel hv⟩
  · have hg : getVariants T a = [a] := by
      unfold getVariants
      rw [hty]
      cases ty <;> first | rfl | exact absurd ⟨_, rfl⟩ hu
    rw [hg]
    exact ⟨fun x hx => by simp at hx; exact hx ▸ ha, fun v => by simp⟩

theorem flattenIds_sem {T : Table} :
    ∀ (ids : List Nat), (∀ i ∈ ids, FO T i) →
      (∀ j ∈ flattenIds T ids, FO T j) ∧
        ∀ v, (∃ j ∈ flattenIds T ids, inh T [] j v) ↔ ∃ i ∈ ids, inh T [] i v := by
  intro ids
  induction ids with
  | nil => intro _; simp [flattenIds]
  | cons i rest ih =>
    intro hfo
    have hi : FO T i := hfo i (by simp)
    obtain ⟨ihfo, ihsem⟩ := ih (fun j hj => hfo j (by simp [hj]))
    obtain ⟨ty, hty, _⟩ := hi.unfold
    have hg : flattenIds T (i :: rest) = getVariants T i ++ flattenIds T rest := by
      rw [flattenIds, getVariants, hty]
      cases ty <;> rfl
    obtain ⟨hvfo, hvsem⟩ := getVariants_sem hi
    rw [hg]
    refine ⟨fun j hj => ?_, fun v => ?_⟩
    · rcases List.mem_append.mp hj with h | h
      · exact hvfo j h
      · exact ihfo j h
    · constructor
      · rintro ⟨j, hj, hv⟩
        rcases List.mem_append.mp hj with h | h
        · exact ⟨i, by simp, (hvsem v).mpr ⟨j, h, hv⟩⟩
        · obtain ⟨k, hk, hkv⟩ := (ihsem v).mp ⟨j, h, hv⟩
          exact ⟨k, by simp [hk], hkv⟩
      · rintro ⟨k, hk, hkv⟩
        rcases List.mem_cons.mp hk with rfl | hk
        · obtain ⟨j, hj, hv⟩ := (hvsem v).mp hkv
          exact ⟨j, List.mem_append.mpr (Or.inl hj), hv⟩
        · obtain ⟨j, hj, hv⟩ := (ihsem v).mpr ⟨k, hk, hkv⟩
          exact ⟨j, List.mem_append.mpr (Or.inr hj), hv⟩

theorem unionIds_sem (T : Table) (ids : List Nat) (hfo : ∀ i ∈ ids, FO T i) (v : V) :
    inh (unionIds T ids).1 [] (unionIds T ids).2 v ↔ ∃ i ∈ ids, inh T [] i v := by
  obtain ⟨hflatfo, hflat⟩ := flattenIds_sem ids hfo
  have hdedup : ∀ x, x ∈ dedupKeep [] (flattenIds T ids) ↔ x ∈ flattenIds T ids := by
    intro x; rw [mem_dedupKeep]; simp
  rw [← hflat v]
  unfold unionIds
  -- a union node registered for the list `u` denotes the union of `u`
  have reg : ∀ (u : List Nat), (∀ x, x ∈ u ↔ x ∈ flattenIds T ids) →
      (inh (T.registerType (.union u)).1 [] (T.registerType (.union u)).2 v ↔
        ∃ j ∈ flattenIds T ids, inh T [] j v) := by
    intro u hu
    obtain ⟨hsub, hget⟩ := registerType_spec T (.union u)
    rw [inh_union hget]
    constructor
    · rintro ⟨j, hj, hv⟩
      have hjf := (hu j).mp hj
      exact ⟨j, hjf, ((hflatfo j hjf).inh_sub hsub [] _ v).mpr hv⟩
    · rintro ⟨j, hj, hv⟩
      exact ⟨j, (hu j).mpr hj, ((hflatfo j hj).inh_sub hsub [] _ v).mp hv⟩
  generalize dedupKeep [] (flattenIds T ids) = u at hdedup
  rcases u with _ | ⟨x, _ | ⟨y, rest⟩⟩
  · exact reg [] hdedup
  · constructor
    · intro hv; exact ⟨x, (hdedup x).mp (by simp), hv⟩
    · rintro ⟨j, hj, hv⟩
      have : j = x := by simpa using (hdedup j).mpr hj
      exact this ▸ hv
  · exact reg _ hdedup

theorem unionIds_sub_fo (T : Table) (ids : List Nat) (hfo : ∀ i ∈ ids, FO T i) :
    Table.Sub T (unionIds T ids).1 ∧ FO (unionIds T ids).1 (unionIds T ids).2 := by
  obtain ⟨hflatfo, _⟩ := flattenIds_sem ids hfo
  have hdedup : ∀ x, x ∈ dedupKeep [] (flattenIds T ids) → FO T x := by
    intro x hx
    exact hflatfo x (((mem_dedupKeep _ _ x).mp hx).1)
  unfold unionIds
  generalize dedupKeep [] (flattenIds T ids) = u at hdedup
  rcases u with _ | ⟨x, _ | ⟨y, rest⟩⟩
  · obtain ⟨h1, _, h3, _⟩ := never_spec T
    exact ⟨h1, h3⟩
  · exact ⟨Table.Sub.refl _, hdedup x (by simp)⟩
  · obtain ⟨hsub, hget⟩ := registerType_spec T (.union (x :: y :: rest))
    exact ⟨hsub, FO.of_union hget (fun i hi => (hdedup i hi).sub hsub)⟩

end QM.Types
