import QuiverModel.Core.Types.Rename
import QuiverModel.Lemmas.Types.RelStep
/-
`checkRelV` commutes with injective renamings of type and tuple ids: if `T'` contains a renamed copy
of `T` (`Embeds ρ τ T T'`), the relation gives the same verdict on the images, with the same fuel,
from the image of any assumption set and stack. This is the core of "tree shaking, merging and
importing do not change a type test" (C08 `rename_invariant`, C10).
-/
namespace QM.Types

theorem mapRes_some (ρ : Nat → Nat) (r : Bool) (s : Asm) : mapRes ρ (some (r, s)) = some (r, mapAsm ρ s) := rfl
theorem mapRes_none (ρ : Nat → Nat) : mapRes ρ none = none := rfl

theorem allS_map {α β : Type} (ρ : Nat → Nat) {f : Asm → α → Res} {f' : Asm → β → Res} {g : α → β}
    (h : ∀ s x, f' (mapAsm ρ s) (g x) = mapRes ρ (f s x)) (l : List α) (s : Asm) :
    allS f' (l.map g) (mapAsm ρ s) = mapRes ρ (allS f l s) := by
  fun_induction allS f l s with
  | case1 s => rfl
  | case2 x xs s hx => rw [List.map_cons, allS, h, hx]; rfl
  | case3 x xs s s' hx => rw [List.map_cons, allS, h, hx]; rfl
  | case4 x xs s s' hx ih => rw [List.map_cons, allS, h, hx]; exact ih

theorem anyS_map {α β : Type} (ρ : Nat → Nat) {f : Asm → α → Res} {f' : Asm → β → Res} {g : α → β}
    (h : ∀ s x, f' (mapAsm ρ s) (g x) = mapRes ρ (f s x)) (l : List α) (s : Asm) :
    anyS f' (l.map g) (mapAsm ρ s) = mapRes ρ (anyS f l s) := by
  fun_induction anyS f l s with
  | case1 s => rfl
  | case2 x xs s hx => rw [List.map_cons, anyS, h, hx]; rfl
  | case3 x xs s s' hx => rw [List.map_cons, anyS, h, hx]; rfl
  | case4 x xs s s' hx ih => rw [List.map_cons, anyS, h, hx]; exact ih

theorem restoreOnFail_map (ρ : Nat → Nat) (vr : Variant) (asm : Asm) (r : Res) :
    restoreOnFail vr (mapAsm ρ asm) (mapRes ρ r) = mapRes ρ (restoreOnFail vr asm r) := by
  cases r with
  | none => rfl
  | some p =>
    obtain ⟨b, s⟩ := p
    cases b <;> simp [restoreOnFail, mapRes] <;> split <;> rfl

theorem ite_map (ρ : Nat → Nat) {c : Prop} [Decidable c] {x y x' y' : Res} (hx : x' = mapRes ρ x)
    (hy : y' = mapRes ρ y) : (if c then x' else y') = mapRes ρ (if c then x else y) := by
  split <;> assumption

theorem Ty.isVar_rename (ρ τ : Nat → Nat) (t : Ty) : (t.rename ρ τ).isVar = t.isVar := by cases t <;> rfl

theorem Ty.isCycle_rename (ρ τ : Nat → Nat) (t : Ty) : (t.rename ρ τ).isCycle = t.isCycle := by cases t <;> rfl

theorem Ty.kind_rename (ρ τ : Nat → Nat) (t : Ty) : (t.rename ρ τ).kind = t.kind := by cases t <;> rfl

theorem Ty.rename_ne_never (ρ τ : Nat → Nat) {t : Ty} (h : t ≠ .union []) : t.rename ρ τ ≠ .union [] := by
  cases t with
  | union vs => cases vs with
    | nil => exact absurd rfl h
    | cons _ _ => nofun
  | _ => nofun

/-- on the renamed arguments `rec'` answers the renaming of what `rec` answers -/
def RecRel (ρ : Nat → Nat) (rec rec' : Rec) : Prop :=
  ∀ asm (st : Stk) a b, rec' (mapAsm ρ asm) (st.map ρ) (ρ a) (ρ b) = mapRes ρ (rec asm st a b)

section
variable {ρ τ : Nat → Nat} {T T' : Table} (E : Embeds ρ τ T T') {rec rec' : Rec} (hrec : RecRel ρ rec rec')
include E

theorem contains_map (st : List Nat) (b : Nat) : (st.map ρ).contains (ρ b) = st.contains b := by
  apply Bool.eq_iff_iff.mpr
  simp only [List.contains_iff_mem, List.mem_map]
  constructor
  · rintro ⟨x, hx, hρ⟩
    rw [← E.injTy _ _ hρ]; exact hx
  · intro h; exact ⟨b, h, rfl⟩

theorem pushStack_map (st : List Nat) (b : Nat) :
    pushStack (st.map ρ) (ρ b) = (pushStack st b).map ρ := by
  unfold pushStack
  rw [contains_map E]
  split <;> simp

theorem resolveCycle_map (st : List Nat) (d : Nat) :
    resolveCycle (st.map ρ) d = (resolveCycle st d).map ρ := by
  unfold resolveCycle
  split
  · rfl
  · simp [List.getElem?_map]

theorem map_inj_list : ∀ (l1 l2 : List Nat), l1.map ρ = l2.map ρ → l1 = l2 := by
  intro l1
  induction l1 with
  | nil => intro l2 h; cases l2 with | nil => rfl | cons _ _ => simp at h
  | cons x xs ih =>
    intro l2 h
    cases l2 with
    | nil => simp at h
    | cons y ys =>
      simp only [List.map_cons, List.cons.injEq] at h
      rw [E.injTy _ _ h.1, ih ys h.2]

omit E in
theorem akey_map (vr : Variant) (st : Stk) (a b : Nat) :
    akey vr (st.map ρ) (ρ a) (ρ b) =
      (ρ (akey vr st a b).1, ρ (akey vr st a b).2.1, (akey vr st a b).2.2.map ρ) := by
  simp only [akey]
  split <;> rfl

theorem asm_contains_map (asm : Asm) (k : AKey) :
    (mapAsm ρ asm).contains (ρ k.1, ρ k.2.1, k.2.2.map ρ) = asm.contains k := by
  apply Bool.eq_iff_iff.mpr
  simp only [mapAsm, List.contains_iff_mem, List.mem_map]
  constructor
  · rintro ⟨x, hx, hρ⟩
    simp only [Prod.mk.injEq, Stk.map, Stk.mk.injEq] at hρ
    have : x = k := by
      obtain ⟨x1, x2, ⟨xl, xr⟩⟩ := x
      obtain ⟨k1, k2, ⟨kl, kr⟩⟩ := k
      simp only at hρ
      rw [E.injTy _ _ hρ.1, E.injTy _ _ hρ.2.1, map_inj_list E _ _ hρ.2.2.1, map_inj_list E _ _ hρ.2.2.2]
    rw [← this]; exact hx
  · intro h; exact ⟨k, h, rfl⟩

theorem asm_contains_akey_map (vr : Variant) (asm : Asm) (st : Stk) (a b : Nat) :
    (mapAsm ρ asm).contains (akey vr (st.map ρ) (ρ a) (ρ b)) = asm.contains (akey vr st a b) := by
  rw [akey_map]; exact asm_contains_map E asm _

theorem sameContext_map (vr : Variant) (mode : Mode) (st : Stk) :
    sameContext vr mode (st.map ρ) = sameContext vr mode st := by
  unfold sameContext
  congr 1
  apply Bool.eq_iff_iff.mpr
  rw [decide_eq_true_iff, decide_eq_true_iff]
  exact ⟨fun h => map_inj_list E _ _ h, fun h => congrArg (List.map ρ) h⟩

theorem pushL_map (st : Stk) (a : Nat) : (st.map ρ).pushL (ρ a) = (st.pushL a).map ρ := by
  simp only [Stk.pushL, Stk.map, pushStack_map E]

theorem pushR_map (st : Stk) (b : Nat) : (st.map ρ).pushR (ρ b) = (st.pushR b).map ρ := by
  simp only [Stk.pushR, Stk.map, pushStack_map E]

omit E in
theorem swap_map (st : Stk) : (st.map ρ).swap = (st.swap).map ρ := rfl

omit E in
theorem resolved_map (vr : Variant) (side : Bool) (st : Stk) (d : Nat) :
    (st.map ρ).resolved vr side d = (st.resolved vr side d).map ρ := by
  unfold Stk.resolved
  split
  · rfl
  · split <;> simp [Stk.map, List.map_drop]

include hrec

theorem cycleLeft_map (vr : Variant) (asm : Asm) (st : Stk) (d b : Nat) :
    cycleLeft vr rec' (mapAsm ρ asm) (st.map ρ) d (ρ b) = mapRes ρ (cycleLeft vr rec asm st d b) := by
  unfold cycleLeft
  have : (if vr.leftCycleOnRightStack then (st.map ρ).r else (st.map ρ).l) =
      (if vr.leftCycleOnRightStack then st.r else st.l).map ρ := by split <;> rfl
  rw [this, resolveCycle_map E]
  cases resolveCycle (if vr.leftCycleOnRightStack then st.r else st.l) d with
  | none => rfl
  | some sid => simp only [Option.map_some, resolved_map]; exact hrec _ _ _ _

theorem cycleRight_map (vr : Variant) (asm : Asm) (st : Stk) (a d : Nat) :
    cycleRight vr rec' (mapAsm ρ asm) (st.map ρ) (ρ a) d = mapRes ρ (cycleRight vr rec asm st a d) := by
  unfold cycleRight
  have : (st.map ρ).r = st.r.map ρ := rfl
  rw [this, resolveCycle_map E]
  cases resolveCycle st.r d with
  | none => rfl
  | some sid => simp only [Option.map_some, resolved_map]; exact hrec _ _ _ _

theorem unionLeft_map (vr : Variant) (mode : Mode) (asm : Asm) (st : Stk) (a b : Nat)
    (vs : List Nat) :
    unionLeft vr mode rec' (mapAsm ρ asm) (st.map ρ) (ρ a) (ρ b) (vs.map ρ) =
      mapRes ρ (unionLeft vr mode rec asm st a b vs) := by
  unfold unionLeft
  rw [← restoreOnFail_map]
  congr 1
  rw [pushL_map E]
  rw [akey_map]
  cases mode
  · exact allS_map ρ (fun s v => hrec s (st.pushL a) v b) vs (akey vr st a b :: asm)
  · exact anyS_map ρ (fun s v => hrec s (st.pushL a) v b) vs (akey vr st a b :: asm)

theorem unionRight_map (vr : Variant) (asm : Asm) (st : Stk) (a b : Nat) (vs : List Nat) :
    unionRight vr rec' (mapAsm ρ asm) (st.map ρ) (ρ a) (ρ b) (vs.map ρ) =
      mapRes ρ (unionRight vr rec asm st a b vs) := by
  unfold unionRight
  rw [← restoreOnFail_map, pushR_map E]
  congr 1
  rw [akey_map]
  exact anyS_map ρ (fun s v => hrec s (st.pushR b) a v) vs (akey vr st a b :: asm)

/-- a field with its type id renamed -/
def mapF (ρ : Nat → Nat) {κ : Type} (f : κ × Nat) : κ × Nat := (f.1, ρ f.2)

theorem tupleFields_map (st : Stk) (f1 f2 : List (Option Name × Nat)) (asm : Asm) :
    tupleFields rec' (st.map ρ) ((f1.map (mapF ρ)).zip (f2.map (mapF ρ))) (mapAsm ρ asm) =
      mapRes ρ (tupleFields rec st (f1.zip f2) asm) := by
  unfold tupleFields
  rw [List.zip_map]
  refine allS_map ρ (g := Prod.map (mapF ρ) (mapF ρ)) (fun s p => ?_) _ _
  simp only [Prod.map, mapF]
  exact ite_map ρ (hrec _ _ _ _) rfl

theorem tupleTuple_map (vr : Variant) (mode : Mode) (asm : Asm) (st : Stk) (i1 i2 : Nat) :
    tupleTuple vr T' mode rec' (mapAsm ρ asm) (st.map ρ) (τ i1) (τ i2) =
      mapRes ρ (tupleTuple vr T mode rec asm st i1 i2) := by
  unfold tupleTuple
  rw [sameContext_map E]
  by_cases h : i1 = i2 ∧ sameContext vr mode st = true
  · have h' : τ i1 = τ i2 ∧ sameContext vr mode st = true := ⟨by rw [h.1], h.2⟩
    simp [h, h', mapRes]
  · have this : ¬ (τ i1 = τ i2 ∧ sameContext vr mode st = true) := fun hh => h ⟨E.injTu _ _ hh.1, hh.2⟩
    simp only [h, this, if_false, E.tuples]
    cases T.tuples[i1]? with
    | none => rfl
    | some info1 =>
      cases T.tuples[i2]? with
      | none => rfl
      | some info2 =>
        simp only [Option.map_some, TupleInfo.rename, List.length_map]
        split
        · exact tupleFields_map E hrec st info1.fields info2.fields asm
        · rfl

theorem tuplePartFields_map (st : Stk) (cfs : List (Option Name × Nat)) (pfs : List (Name × Nat))
    (asm : Asm) :
    tuplePartFields rec' (st.map ρ) (cfs.map (mapF ρ)) (pfs.map (mapF ρ)) (mapAsm ρ asm) =
      mapRes ρ (tuplePartFields rec st cfs pfs asm) := by
  unfold tuplePartFields
  refine allS_map ρ (fun s pf => ?_) _ _
  refine anyS_map ρ (fun s' cf => ?_) _ _
  simp only [mapF]
  exact ite_map ρ (hrec _ _ _ _) rfl

theorem tuplePart_map (asm : Asm) (st : Stk) (c : Nat) (pn : Option Name)
    (pfs : List (Name × Nat)) :
    tuplePart T' rec' (mapAsm ρ asm) (st.map ρ) (τ c) pn (pfs.map (mapF ρ)) =
      mapRes ρ (tuplePart T rec asm st c pn pfs) := by
  unfold tuplePart
  simp only [E.tuples]
  cases T.tuples[c]? with
  | none => rfl
  | some ci =>
    simp only [Option.map_some, TupleInfo.rename]
    split
    · rfl
    · exact tuplePartFields_map E hrec st ci.fields pfs asm

theorem partTuple_map (vr : Variant) (mode : Mode) (asm : Asm) (st : Stk) (pn : Option Name)
    (pfs : List (Name × Nat)) (c : Nat) :
    partTuple vr T' mode rec' (mapAsm ρ asm) (st.map ρ) pn (pfs.map (mapF ρ)) (τ c) =
      mapRes ρ (partTuple vr T mode rec asm st pn pfs c) := by
  unfold partTuple
  split
  · rfl
  · rfl
  · -- `tuplePart` with the operands of `rec` exchanged
    exact tuplePart_map (rec' := fun s st x y => rec' s st y x) E (fun s st a b => hrec s st b a) asm st c pn pfs

theorem partPartFields_map (vr : Variant) (mode : Mode) (st : Stk) (fs1 fs2 : List (Name × Nat))
    (asm : Asm) :
    partPartFields vr mode rec' (st.map ρ) (fs1.map (mapF ρ)) (fs2.map (mapF ρ)) (mapAsm ρ asm) =
      mapRes ρ (partPartFields vr mode rec st fs1 fs2 asm) := by
  unfold partPartFields
  split
  · refine allS_map ρ (fun s f2 => ?_) _ _
    refine anyS_map ρ (fun s' f1 => ?_) _ _
    simp only [mapF]
    exact ite_map ρ (hrec _ _ _ _) rfl
  · refine allS_map ρ (fun s f2 => ?_) _ _
    rw [List.find?_map]
    have : ((fun f1 : Name × Nat => f1.1 == (mapF ρ f2).1) ∘ mapF ρ) = (fun f1 => f1.1 == f2.1) := rfl
    rw [this]
    cases List.find? (fun f1 => f1.1 == f2.1) fs1 with
    | none => cases mode <;> rfl
    | some f1 => exact hrec _ _ _ _

theorem partPart_map (vr : Variant) (mode : Mode) (asm : Asm) (st : Stk) (n1 : Option Name)
    (fs1 : List (Name × Nat)) (n2 : Option Name) (fs2 : List (Name × Nat)) :
    partPart vr mode rec' (mapAsm ρ asm) (st.map ρ) n1 (fs1.map (mapF ρ)) n2 (fs2.map (mapF ρ)) =
      mapRes ρ (partPart vr mode rec asm st n1 fs1 n2 fs2) := by
  unfold partPart
  split
  · rfl
  · exact partPartFields_map E hrec vr mode st fs1 fs2 asm

theorem optRel_map (asm : Asm) (st : Stk) (x y : Option Nat) :
    optRel rec' (mapAsm ρ asm) (st.map ρ) (x.map ρ) (y.map ρ) = mapRes ρ (optRel rec asm st x y) := by
  cases x <;> cases y <;> simp only [optRel, Option.map_some, Option.map_none]
  · rfl
  · rfl
  · rfl
  · exact hrec _ _ _ _

theorem processProcess_map (asm : Asm) (st : Stk) (s1 r1 s2 r2 : Option Nat) :
    processProcess rec' (mapAsm ρ asm) (st.map ρ) (s1.map ρ) (r1.map ρ) (s2.map ρ) (r2.map ρ) =
      mapRes ρ (processProcess rec asm st s1 r1 s2 r2) := by
  unfold processProcess
  rw [optRel_map E hrec]
  cases optRel rec asm st s1 s2 with
  | none => rfl
  | some p1 =>
    obtain ⟨ok1, a1⟩ := p1
    simp only [mapRes_some]
    rw [optRel_map E hrec]
    cases optRel rec a1 st r1 r2 with
    | none => rfl
    | some p2 => rfl

theorem callableCallable_map (vr : Variant) (asm : Asm) (st : Stk) (a b p1 r1 c1 p2 r2 c2 : Nat) :
    callableCallable vr rec' (mapAsm ρ asm) (st.map ρ) (ρ a) (ρ b) (ρ p1) (ρ r1) (ρ c1) (ρ p2) (ρ r2) (ρ c2) =
      mapRes ρ (callableCallable vr rec asm st a b p1 r1 c1 p2 r2 c2) := by
  unfold callableCallable
  simp only [pushR_map E, pushL_map E]
  have hstc : (if vr.leftCycleOnRightStack then ((st.pushR b).pushL a).map ρ
      else (((st.pushR b).pushL a).map ρ).swap) =
      (if vr.leftCycleOnRightStack then (st.pushR b).pushL a else ((st.pushR b).pushL a).swap).map ρ := by
    split <;> rfl
  rw [hstc]
  generalize (if vr.leftCycleOnRightStack then (st.pushR b).pushL a else ((st.pushR b).pushL a).swap) = stc
  rw [hrec]
  cases rec asm stc p2 p1 with
  | none => rfl
  | some q1 =>
    obtain ⟨ok1, a1⟩ := q1
    cases ok1 with
    | false => rfl
    | true =>
      simp only [mapRes_some]
      rw [hrec]
      cases rec a1 ((st.pushR b).pushL a) r1 r2 with
      | none => rfl
      | some q2 =>
        obtain ⟨ok2, a2⟩ := q2
        cases ok2 with
        | false => rfl
        | true => simp only [mapRes_some]; exact hrec _ _ _ _

/-- one unfolding commutes with the renaming: the renamed pair reaches the same arm -/
theorem relStep_map (vr : Variant) (mode : Mode) (asm : Asm) (st : Stk) (a b : Nat) (ta tb : Ty) :
    relStep vr T' mode rec' (mapAsm ρ asm) (st.map ρ) (ρ a) (ρ b) (ta.rename ρ τ) (tb.rename ρ τ) =
      mapRes ρ (relStep vr T mode rec asm st a b ta tb) := by
  have harm := relStep_arm vr T mode rec asm st a b ta tb
  generalize relStep vr T mode rec asm st a b ta tb = r at harm
  -- `relStep` on the renamed pair reduces by `rfl` only where `Arm` fixes both constructors; an arm stated for an
  -- arbitrary `ta` or `tb` with side conditions is reached through `Arm.eq`, the side conditions carried over
  cases harm with
  | never_left => exact Arm.eq (.never_left _)
  | integer | binary | reference | resource => rfl
  | var_left n => exact Arm.eq (.var_left n _)
  | var_right _ n hn => exact Arm.eq (.var_right _ n (Ty.rename_ne_never ρ τ hn))
  | cycle_cycle d1 d2 => exact ite_map ρ rfl (cycleLeft_map E hrec vr asm st d1 b)
  | cycle_left d tb hv hc =>
    exact (Arm.eq (.cycle_left d _ ((Ty.isVar_rename ρ τ tb).trans hv) ((Ty.isCycle_rename ρ τ tb).trans hc))).trans
      (cycleLeft_map E hrec vr asm st d b)
  | cycle_right ta d hn hv hc =>
    exact (Arm.eq (.cycle_right _ d (Ty.rename_ne_never ρ τ hn) ((Ty.isVar_rename ρ τ ta).trans hv)
      ((Ty.isCycle_rename ρ τ ta).trans hc))).trans (cycleRight_map E hrec vr asm st a d)
  | union_left vs tb hn hv hc =>
    exact (Arm.eq (.union_left _ _ (fun h => hn (List.map_eq_nil_iff.mp h)) ((Ty.isVar_rename ρ τ tb).trans hv)
      ((Ty.isCycle_rename ρ τ tb).trans hc))).trans (unionLeft_map E hrec vr mode asm st a b vs)
  | union_right ta vs hk =>
    exact (Arm.eq (.union_right _ _ (by rwa [Ty.kind_rename]))).trans (unionRight_map E hrec vr asm st a b vs)
  | tuple_tuple i1 i2 => exact tupleTuple_map E hrec vr mode asm st i1 i2
  | tuple_part c pn pfs => exact tuplePart_map E hrec asm st c pn pfs
  | part_part n1 fs1 n2 fs2 => exact partPart_map E hrec vr mode asm st n1 fs1 n2 fs2
  | part_tuple pn pfs c => exact partTuple_map E hrec vr mode asm st pn pfs c
  | process s1 r1 s2 r2 => exact processProcess_map E hrec asm st s1 r1 s2 r2
  | callable p1 r1 c1 p2 r2 c2 =>
    refine ite_map ρ (callableCallable_map E hrec vr asm st a b p1 r1 c1 p2 r2 c2) ?_
    rw [← restoreOnFail_map, akey_map]
    exact congrArg _ (callableCallable_map E hrec vr (akey vr st a b :: asm) st a b p1 r1 c1 p2 r2 c2)
  | other ta tb hka hkb hne =>
    exact Arm.eq (.other _ _ (by rwa [Ty.kind_rename]) (by rwa [Ty.kind_rename])
      (by rwa [Ty.kind_rename, Ty.kind_rename]))

end

theorem checkRelV_map {ρ τ : Nat → Nat} {T T' : Table} (E : Embeds ρ τ T T') (vr : Variant)
    (mode : Mode) : ∀ (n : Nat), RecRel ρ (checkRelV vr T mode n) (checkRelV vr T' mode n) := by
  intro n
  induction n with
  | zero => intro asm st a b; rfl
  | succ n ih =>
    intro asm st a b
    unfold checkRelV
    rw [sameContext_map E]
    by_cases hab : a = b ∧ sameContext vr mode st = true
    · have hab' : ρ a = ρ b ∧ sameContext vr mode st = true := ⟨by rw [hab.1], hab.2⟩
      simp [hab, hab', mapRes]
    · have hne : ¬ (ρ a = ρ b ∧ sameContext vr mode st = true) := fun hh => hab ⟨E.injTy _ _ hh.1, hh.2⟩
      simp only [hab, hne, if_false, asm_contains_akey_map E]
      split
      · rfl
      · simp only [E.types]
        cases T.types[a]? with
        | none => rfl
        | some ta =>
          cases T.types[b]? with
          | none => rfl
          | some tb => exact relStep_map E ih vr mode asm st a b ta tb

end QM.Types
