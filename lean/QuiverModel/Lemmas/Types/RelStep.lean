import QuiverModel.Core.Types.Basic
/-
`Arm` says which arm of `relStep` a pair of types reaches: `relStep … ta tb = r` iff
`Arm … ta tb r` (`relStep_arm`, `Arm.eq`). Every fact about one unfolding of the relation is proved by
cases on `relStep_arm`.
-/
namespace QM.Types

def Ty.isVar : Ty → Bool
  | .variable _ => true
  | _ => false

def Ty.isCycle : Ty → Bool
  | .cycle _ => true
  | _ => false

def Ty.isUnion : Ty → Bool
  | .union _ => true
  | _ => false

/-- the kinds of value: structural types of different kinds have no arm, and no value in common -/
inductive Kind where
  | integer | binary | reference | resource | tuple | callable | process
  deriving DecidableEq

/-- `none`: a union, a `Cycle` or a `Variable`, which the arms before the structural ones take care of -/
def Ty.kind : Ty → Option Kind
  | .integer => some .integer
  | .binary => some .binary
  | .reference => some .reference
  | .resource _ => some .resource
  | .tuple _ => some .tuple
  | .part _ _ => some .tuple
  | .callable _ _ _ => some .callable
  | .process _ _ => some .process
  | _ => none

theorem Ty.isUnion_of_kind {t : Ty} (h : t.kind.isSome = true) : t.isUnion = false := by
  cases t <;> first | rfl | contradiction

/-- the arms of `check_type_relation` in source order, each with what the arms before it leave of its
pattern, and its result -/
inductive Arm (vr : Variant) (T : Table) (mode : Mode) (rec : Rec) (asm : Asm) (st : Stk) (a b : Nat) :
    Ty → Ty → Res → Prop
  | never_left (tb : Ty) : Arm vr T mode rec asm st a b (.union []) tb
      (some (match mode with | .all => true | .any => false, asm))
  | integer : Arm vr T mode rec asm st a b .integer .integer (some (true, asm))
  | binary : Arm vr T mode rec asm st a b .binary .binary (some (true, asm))
  | reference : Arm vr T mode rec asm st a b .reference .reference (some (true, asm))
  | resource (r1 r2 : Name) :
      Arm vr T mode rec asm st a b (.resource r1) (.resource r2) (some (decide (r1 = r2), asm))
  | var_left (n : Name) (tb : Ty) : Arm vr T mode rec asm st a b (.variable n) tb (some (true, asm))
  | var_right (ta : Ty) (n : Name) : ta ≠ .union [] →
      Arm vr T mode rec asm st a b ta (.variable n) (some (true, asm))
  | cycle_cycle (d1 d2 : Nat) : Arm vr T mode rec asm st a b (.cycle d1) (.cycle d2)
      (if vr.cycleSameDepthShortcut = true ∧ d1 = d2 then some (true, asm) else cycleLeft vr rec asm st d1 b)
  | cycle_left (d : Nat) (tb : Ty) : tb.isVar = false → tb.isCycle = false →
      Arm vr T mode rec asm st a b (.cycle d) tb (cycleLeft vr rec asm st d b)
  | cycle_right (ta : Ty) (d : Nat) : ta ≠ .union [] → ta.isVar = false → ta.isCycle = false →
      Arm vr T mode rec asm st a b ta (.cycle d) (cycleRight vr rec asm st a d)
  | union_left (vs : List Nat) (tb : Ty) : vs ≠ [] → tb.isVar = false → tb.isCycle = false →
      Arm vr T mode rec asm st a b (.union vs) tb (unionLeft vr mode rec asm st a b vs)
  | union_right (ta : Ty) (vs : List Nat) : ta.kind.isSome = true →
      Arm vr T mode rec asm st a b ta (.union vs) (unionRight vr rec asm st a b vs)
  | tuple_tuple (i1 i2 : Nat) :
      Arm vr T mode rec asm st a b (.tuple i1) (.tuple i2) (tupleTuple vr T mode rec asm st i1 i2)
  | tuple_part (c : Nat) (pn : Option Name) (pfs : List (Name × Nat)) :
      Arm vr T mode rec asm st a b (.tuple c) (.part pn pfs) (tuplePart T rec asm st c pn pfs)
  | part_part (n1 : Option Name) (fs1 : List (Name × Nat)) (n2 : Option Name) (fs2 : List (Name × Nat)) :
      Arm vr T mode rec asm st a b (.part n1 fs1) (.part n2 fs2) (partPart vr mode rec asm st n1 fs1 n2 fs2)
  | part_tuple (pn : Option Name) (pfs : List (Name × Nat)) (c : Nat) :
      Arm vr T mode rec asm st a b (.part pn pfs) (.tuple c) (partTuple vr T mode rec asm st pn pfs c)
  | process (s1 r1 s2 r2 : Option Nat) :
      Arm vr T mode rec asm st a b (.process s1 r1) (.process s2 r2) (processProcess rec asm st s1 r1 s2 r2)
  | callable (p1 r1 c1 p2 r2 c2 : Nat) :
      Arm vr T mode rec asm st a b (.callable p1 r1 c1) (.callable p2 r2 c2)
        (if vr.callableNoAssumption then callableCallable vr rec asm st a b p1 r1 c1 p2 r2 c2
         else restoreOnFail vr asm
           (callableCallable vr rec (akey vr st a b :: asm) st a b p1 r1 c1 p2 r2 c2))
  | other (ta tb : Ty) : ta.kind.isSome = true → tb.kind.isSome = true → ta.kind ≠ tb.kind →
      Arm vr T mode rec asm st a b ta tb (some (false, asm))

variable {vr : Variant} {T : Table} {mode : Mode} {rec : Rec} {asm : Asm} {st : Stk} {a b : Nat}

theorem relStep_arm (vr : Variant) (T : Table) (mode : Mode) (rec : Rec) (asm : Asm) (st : Stk) (a b : Nat)
    (ta tb : Ty) : Arm vr T mode rec asm st a b ta tb (relStep vr T mode rec asm st a b ta tb) := by
  cases ta with
  | «variable» n => cases tb <;> exact .var_left n _
  | cycle d =>
    cases tb with
    | «variable» n => exact .var_right _ n nofun
    | cycle d2 => exact .cycle_cycle d d2
    | _ => exact .cycle_left d _ rfl rfl
  | union vs =>
    cases vs with
    | nil => cases tb <;> exact .never_left _
    | cons x xs =>
      cases tb with
      | «variable» n => exact .var_right _ n nofun
      | cycle d => exact .cycle_right _ d nofun rfl rfl
      | _ => exact .union_left _ _ nofun rfl rfl
  | _ =>
    cases tb with
    | «variable» n => exact .var_right _ n nofun
    | cycle d => exact .cycle_right _ d nofun rfl rfl
    | union vs => exact .union_right _ vs rfl
    | _ =>
      first
        | exact .other _ _ rfl rfl nofun
        | exact .integer | exact .binary | exact .reference | exact .resource _ _
        | exact .tuple_tuple _ _ | exact .tuple_part _ _ _ | exact .part_part _ _ _ _
        | exact .part_tuple _ _ _ | exact .process _ _ _ _ | exact .callable _ _ _ _ _ _

theorem Arm.eq {ta tb : Ty} {r : Res} (h : Arm vr T mode rec asm st a b ta tb r) :
    relStep vr T mode rec asm st a b ta tb = r := by
  cases h with
  | never_left tb => cases tb <;> rfl
  | var_left n tb => cases tb <;> rfl
  | var_right ta n hn =>
    cases ta with
    | union vs => cases vs with
      | nil => exact absurd rfl hn
      | cons _ _ => rfl
    | _ => rfl
  | cycle_left d tb hv hc => cases tb <;> first | rfl | contradiction
  | cycle_right ta d hn hv hc =>
    cases ta with
    | union vs => cases vs with
      | nil => exact absurd rfl hn
      | cons _ _ => rfl
    | _ => first | rfl | contradiction
  | union_left vs tb hn hv hc =>
    cases vs with
    | nil => exact absurd rfl hn
    | cons _ _ => cases tb <;> first | rfl | contradiction
  | union_right ta vs hk => cases ta <;> first | rfl | contradiction
  | other ta tb hka hkb hne =>
    -- every other arm contradicts one of the three hypotheses
    have h := relStep_arm vr T mode rec asm st a b ta tb
    generalize relStep vr T mode rec asm st a b ta tb = r at h ⊢
    cases h <;> first | rfl | exact absurd rfl hne | cases hka | cases hkb
  | _ => rfl

end QM.Types
