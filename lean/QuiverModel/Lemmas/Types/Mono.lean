import QuiverModel.Lemmas.Types.RelStep
/-
Fuel monotonicity of `checkRelV` (hence `checkRel`, `isCompatible`, `typesOverlap`): more fuel never
changes an answer that was already given. (The same for `inhB` is `inhB_mono` of `InhLemmas.lean`.)
-/
namespace QM.Types

/-- `r'` extends `r`: whatever `r` answers, `r'` answers the same. -/
def Res.le (r r' : Res) : Prop := ∀ x, r = some x → r' = some x

theorem Res.le_refl (r : Res) : Res.le r r := fun _ h => h

theorem allS_mono {α : Type} {f g : Asm → α → Res} (h : ∀ s x, Res.le (f s x) (g s x)) (l : List α) (s : Asm) :
    Res.le (allS f l s) (allS g l s) := by
  fun_induction allS f l s with
  | case1 s => exact Res.le_refl _
  | case2 x xs s hx => exact nofun
  | case3 x xs s s' hx => rw [allS, h s x _ hx]; exact Res.le_refl _
  | case4 x xs s s' hx ih => rw [allS, h s x _ hx]; exact ih

theorem anyS_mono {α : Type} {f g : Asm → α → Res} (h : ∀ s x, Res.le (f s x) (g s x)) (l : List α) (s : Asm) :
    Res.le (anyS f l s) (anyS g l s) := by
  fun_induction anyS f l s with
  | case1 s => exact Res.le_refl _
  | case2 x xs s hx => exact nofun
  | case3 x xs s s' hx => rw [anyS, h s x _ hx]; exact Res.le_refl _
  | case4 x xs s s' hx ih => rw [anyS, h s x _ hx]; exact ih

theorem restoreOnFail_mono (vr : Variant) (a : Asm) {r r' : Res} (h : Res.le r r') :
    Res.le (restoreOnFail vr a r) (restoreOnFail vr a r') := by
  intro x hx
  cases hr : r with
  | none => simp [hr, restoreOnFail] at hx
  | some p => rw [h p hr]; rw [hr] at hx; exact hx

section
variable {rec rec' : Rec} (h : ∀ s st a b, Res.le (rec s st a b) (rec' s st a b))
include h

theorem cycleLeft_mono (vr : Variant) (asm : Asm) (st : Stk) (d b : Nat) :
    Res.le (cycleLeft vr rec asm st d b) (cycleLeft vr rec' asm st d b) := by
  unfold cycleLeft; split
  · exact Res.le_refl _
  · exact h _ _ _ _

theorem cycleRight_mono (vr : Variant) (asm : Asm) (st : Stk) (a d : Nat) :
    Res.le (cycleRight vr rec asm st a d) (cycleRight vr rec' asm st a d) := by
  unfold cycleRight; split
  · exact Res.le_refl _
  · exact h _ _ _ _

theorem unionLeft_mono (vr : Variant) (mode : Mode) (asm : Asm) (st : Stk) (a b : Nat)
    (vs : List Nat) :
    Res.le (unionLeft vr mode rec asm st a b vs) (unionLeft vr mode rec' asm st a b vs) := by
  unfold unionLeft
  apply restoreOnFail_mono
  cases mode
  · exact allS_mono (fun s v => h _ _ _ _) _ _
  · exact anyS_mono (fun s v => h _ _ _ _) _ _

theorem unionRight_mono (vr : Variant) (asm : Asm) (st : Stk) (a b : Nat) (vs : List Nat) :
    Res.le (unionRight vr rec asm st a b vs) (unionRight vr rec' asm st a b vs) := by
  unfold unionRight
  apply restoreOnFail_mono
  exact anyS_mono (fun s v => h _ _ _ _) _ _

theorem tupleFields_mono (st : Stk) (z : List ((Option Name × Nat) × (Option Name × Nat)))
    (asm : Asm) : Res.le (tupleFields rec st z asm) (tupleFields rec' st z asm) := by
  unfold tupleFields
  apply allS_mono
  intro s p
  split
  · exact h _ _ _ _
  · exact Res.le_refl _

theorem tupleTuple_mono (vr : Variant) (T : Table) (mode : Mode) (asm : Asm) (st : Stk) (i1 i2 : Nat) :
    Res.le (tupleTuple vr T mode rec asm st i1 i2) (tupleTuple vr T mode rec' asm st i1 i2) := by
  unfold tupleTuple
  -- every branch answers without `rec`, except the one that runs the field check
  repeat' split
  all_goals first | exact Res.le_refl _ | exact tupleFields_mono h _ _ _

theorem tuplePartFields_mono (st : Stk) (cfs : List (Option Name × Nat))
    (pfs : List (Name × Nat)) (asm : Asm) :
    Res.le (tuplePartFields rec st cfs pfs asm) (tuplePartFields rec' st cfs pfs asm) := by
  unfold tuplePartFields
  apply allS_mono
  intro s pf
  apply anyS_mono
  intro s' cf
  split
  · exact h _ _ _ _
  · exact Res.le_refl _

theorem tuplePart_mono (T : Table) (asm : Asm) (st : Stk) (c : Nat) (pn : Option Name)
    (pfs : List (Name × Nat)) :
    Res.le (tuplePart T rec asm st c pn pfs) (tuplePart T rec' asm st c pn pfs) := by
  unfold tuplePart
  -- as in `tupleTuple_mono`
  repeat' split
  all_goals first | exact Res.le_refl _ | exact tuplePartFields_mono h _ _ _ _

theorem partPartFields_mono (vr : Variant) (mode : Mode) (st : Stk) (fs1 fs2 : List (Name × Nat))
    (asm : Asm) :
    Res.le (partPartFields vr mode rec st fs1 fs2 asm) (partPartFields vr mode rec' st fs1 fs2 asm) := by
  unfold partPartFields
  split
  · apply allS_mono
    intro s f2
    apply anyS_mono
    intro s' f1
    split
    · exact h _ _ _ _
    · exact Res.le_refl _
  · apply allS_mono
    intro s f2
    split
    · exact h _ _ _ _
    · exact Res.le_refl _

theorem partPart_mono (vr : Variant) (mode : Mode) (asm : Asm) (st : Stk)
    (n1 : Option Name) (fs1 : List (Name × Nat)) (n2 : Option Name) (fs2 : List (Name × Nat)) :
    Res.le (partPart vr mode rec asm st n1 fs1 n2 fs2) (partPart vr mode rec' asm st n1 fs1 n2 fs2) := by
  unfold partPart
  split
  · exact Res.le_refl _
  · exact partPartFields_mono h _ _ _ _ _ _

theorem partTuple_mono (vr : Variant) (T : Table) (mode : Mode) (asm : Asm) (st : Stk)
    (pn : Option Name) (pfs : List (Name × Nat)) (c : Nat) :
    Res.le (partTuple vr T mode rec asm st pn pfs c) (partTuple vr T mode rec' asm st pn pfs c) := by
  unfold partTuple
  -- as in `tupleTuple_mono`; `partTupleFields` is `tuplePartFields` with the operands of `rec` exchanged
  repeat' split
  all_goals first | exact Res.le_refl _ | exact tuplePartFields_mono (fun s st a b => h s st b a) _ _ _ _

theorem optRel_mono (asm : Asm) (st : Stk) (x y : Option Nat) :
    Res.le (optRel rec asm st x y) (optRel rec' asm st x y) := by
  unfold optRel
  split
  · exact h _ _ _ _
  · exact Res.le_refl _

theorem processProcess_mono (asm : Asm) (st : Stk) (s1 r1 s2 r2 : Option Nat) :
    Res.le (processProcess rec asm st s1 r1 s2 r2) (processProcess rec' asm st s1 r1 s2 r2) := by
  intro x hx
  unfold processProcess at hx ⊢
  cases h1 : optRel rec asm st s1 s2 with
  | none => simp [h1] at hx
  | some p1 =>
    obtain ⟨ok1, a1⟩ := p1
    rw [optRel_mono h _ _ _ _ _ h1]
    rw [h1] at hx
    simp only at hx ⊢
    cases h2 : optRel rec a1 st r1 r2 with
    | none => simp [h2] at hx
    | some p2 =>
      obtain ⟨ok2, a2⟩ := p2
      rw [optRel_mono h _ _ _ _ _ h2]
      rw [h2] at hx
      exact hx

theorem callableCallable_mono (vr : Variant) (asm : Asm) (st : Stk) (a b p1 r1 c1 p2 r2 c2 : Nat) :
    Res.le (callableCallable vr rec asm st a b p1 r1 c1 p2 r2 c2)
      (callableCallable vr rec' asm st a b p1 r1 c1 p2 r2 c2) := by
  intro x hx
  unfold callableCallable at hx ⊢
  simp only at hx ⊢
  generalize (if vr.leftCycleOnRightStack then (st.pushR b).pushL a else ((st.pushR b).pushL a).swap) = stc at hx ⊢
  cases h1 : rec asm stc p2 p1 with
  | none => simp [h1] at hx
  | some q1 =>
    obtain ⟨ok1, a1⟩ := q1
    rw [h _ _ _ _ _ h1]
    rw [h1] at hx
    cases ok1 with
    | false => exact hx
    | true =>
      simp only at hx ⊢
      cases h2 : rec a1 ((st.pushR b).pushL a) r1 r2 with
      | none => simp [h2] at hx
      | some q2 =>
        obtain ⟨ok2, a2⟩ := q2
        rw [h _ _ _ _ _ h2]
        rw [h2] at hx
        cases ok2 with
        | false => exact hx
        | true => simp only at hx ⊢; exact h _ _ _ _ _ hx

theorem relStep_mono (vr : Variant) (T : Table) (mode : Mode)
    (asm : Asm) (st : Stk) (a b : Nat) (ta tb : Ty) :
    Res.le (relStep vr T mode rec asm st a b ta tb) (relStep vr T mode rec' asm st a b ta tb) := by
  have harm := relStep_arm vr T mode rec asm st a b ta tb
  generalize relStep vr T mode rec asm st a b ta tb = r at harm
  -- where `Arm` leaves `ta` or `tb` arbitrary (under side conditions) `relStep … rec'` does not reduce by `rfl`:
  -- those arms first rewrite it with `Arm.eq`
  cases harm with
  | never_left => rw [Arm.eq (.never_left _)]; exact Res.le_refl _
  | var_left n => rw [Arm.eq (.var_left n _)]; exact Res.le_refl _
  | var_right _ n hn => rw [Arm.eq (.var_right _ n hn)]; exact Res.le_refl _
  | other _ _ hka hkb hne => rw [Arm.eq (.other _ _ hka hkb hne)]; exact Res.le_refl _
  | integer | binary | reference | resource => exact Res.le_refl _
  | cycle_cycle d1 d2 =>
    show Res.le _ (if _ then _ else _)
    split
    · exact Res.le_refl _
    · exact cycleLeft_mono h vr asm st d1 b
  | cycle_left d _ hv hc => rw [Arm.eq (.cycle_left d _ hv hc)]; exact cycleLeft_mono h vr asm st d b
  | cycle_right _ d hn hv hc => rw [Arm.eq (.cycle_right _ d hn hv hc)]; exact cycleRight_mono h vr asm st a d
  | union_left vs _ hn hv hc =>
    rw [Arm.eq (.union_left vs _ hn hv hc)]; exact unionLeft_mono h vr mode asm st a b vs
  | union_right _ vs hk => rw [Arm.eq (.union_right _ vs hk)]; exact unionRight_mono h vr asm st a b vs
  | tuple_tuple i1 i2 => exact tupleTuple_mono h vr T mode asm st i1 i2
  | tuple_part c pn pfs => exact tuplePart_mono h T asm st c pn pfs
  | part_part n1 fs1 n2 fs2 => exact partPart_mono h vr mode asm st n1 fs1 n2 fs2
  | part_tuple pn pfs c => exact partTuple_mono h vr T mode asm st pn pfs c
  | process s1 r1 s2 r2 => exact processProcess_mono h asm st s1 r1 s2 r2
  | callable p1 r1 c1 p2 r2 c2 =>
    show Res.le _ (if _ then _ else _)
    split
    · exact callableCallable_mono h vr asm st a b p1 r1 c1 p2 r2 c2
    · exact restoreOnFail_mono _ _ (callableCallable_mono h vr _ st a b p1 r1 c1 p2 r2 c2)

end

theorem checkRelV_succ (vr : Variant) (T : Table) (mode : Mode) :
    ∀ (n : Nat) (asm : Asm) (st : Stk) (a b : Nat),
      Res.le (checkRelV vr T mode n asm st a b) (checkRelV vr T mode (n + 1) asm st a b) := by
  intro n
  induction n with
  | zero => intro asm st a b x hx; exact nomatch hx
  | succ n ih =>
    intro asm st a b x hx
    unfold checkRelV at hx ⊢
    split at hx
    · rename_i h1; rw [if_pos h1]; exact hx
    · rename_i h1; rw [if_neg h1]
      split at hx
      · rename_i h2; rw [if_pos h2]; exact hx
      · rename_i h2; rw [if_neg h2]
        split at hx
        · rename_i ta tb hta htb
          exact relStep_mono ih vr T mode asm st a b ta tb x hx
        · exact hx

theorem checkRelV_mono (vr : Variant) (T : Table) (mode : Mode) {n m : Nat} (hnm : n ≤ m)
    (asm : Asm) (st : Stk) (a b : Nat) :
    Res.le (checkRelV vr T mode n asm st a b) (checkRelV vr T mode m asm st a b) := by
  induction hnm with
  | refl => exact Res.le_refl _
  | step _ ih => exact fun x hx => checkRelV_succ vr T mode _ asm st a b x (ih x hx)

theorem checkRel_mono (T : Table) (mode : Mode) {n m : Nat} (hnm : n ≤ m)
    (asm : Asm) (st : Stk) (a b : Nat) {r : Bool × Asm}
    (h : checkRel T mode n asm st a b = some r) : checkRel T mode m asm st a b = some r :=
  checkRelV_mono _ T mode hnm asm st a b r h

theorem verdict_eq_some {res : Res} {r : Bool} : res.map (·.1) = some r ↔ ∃ asm', res = some (r, asm') := by
  cases res with
  | none => exact ⟨nofun, fun ⟨_, h⟩ => nomatch h⟩
  | some p => exact ⟨fun h => ⟨p.2, by cases h; rfl⟩, fun ⟨_, h⟩ => by cases h; rfl⟩

theorem isCompatible_eq_some {T : Table} {n a b : Nat} {r : Bool} :
    isCompatible T n a b = some r ↔ ∃ asm', checkRel T .all n [] {} a b = some (r, asm') :=
  verdict_eq_some

theorem typesOverlap_eq_some {T : Table} {n a b : Nat} {r : Bool} :
    typesOverlap T n a b = some r ↔ ∃ asm', checkRel T .any n [] {} a b = some (r, asm') :=
  verdict_eq_some

theorem isCompatible_mono (T : Table) {n m : Nat} (hnm : n ≤ m) (a b : Nat) {r : Bool}
    (h : isCompatible T n a b = some r) : isCompatible T m a b = some r := by
  obtain ⟨asm', hc⟩ := isCompatible_eq_some.mp h
  exact isCompatible_eq_some.mpr ⟨asm', checkRel_mono T .all hnm _ _ _ _ hc⟩

theorem typesOverlap_mono (T : Table) {n m : Nat} (hnm : n ≤ m) (a b : Nat) {r : Bool}
    (h : typesOverlap T n a b = some r) : typesOverlap T m a b = some r := by
  obtain ⟨asm', hc⟩ := typesOverlap_eq_some.mp h
  exact typesOverlap_eq_some.mpr ⟨asm', checkRel_mono T .any hnm _ _ _ _ hc⟩

end QM.Types
