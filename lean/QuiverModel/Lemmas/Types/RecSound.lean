import QuiverModel.Lemmas.Types.RecInv
import QuiverModel.Lemmas.Types.RecDerMain
import QuiverModel.Lemmas.Types.Sound
/-
Stage 2 of the recursive soundness proof: a supported set of assumptions is semantically sound.

`Phi n`: for every pair derivable from the supported set `A`, a value that inhabits the left type with
fuel `n` inhabits the right type. Induction on `n` (every step that looks into the left type consumes
fuel); the steps that only unfold the RIGHT type (union on the right, `Cycle` on the right) are handled
by an inner induction on a measure of the right type below its stack: the number of guard flags that are
set, then the id — a `Cycle` is only closed when the flag of its target is set, resolving it drops that
flag and everything above, and entering a union sets no flag and lowers the id.
-/
namespace QM.Types

/-- the invariant of the right-hand side (the `R`) `y` below its stack `str`: the frames of the stack entries, closedness
under the flags `gs`, sortedness -/
structure RInv (T : Table) (y : Nat) (str : List Nat) (fr : List Frame) (gs : List Bool) : Prop where
  stack : str = fr.map (·.1)
  frames : FramesOK T fr gs
  closed : ClosedAt T gs y
  chain : Chain y str

/-- the measure of the inner induction: the number of flags that are set, then the id -/
def Meas (T : Table) (gs : List Bool) (y : Nat) : Nat := countTrue gs * (T.types.length + 1) + y

theorem RInv.lt_length {T : Table} {y : Nat} {str : List Nat} {fr : List Frame} {gs : List Bool}
    (h : RInv T y str fr gs) : y < T.types.length := by
  obtain ⟨ty, hty⟩ := h.closed.in_table
  exact (List.getElem?_eq_some_iff.mp hty).1

/-- entering a union on the right -/
theorem RInv.enter {T : Table} (hT : Ordered T) {y w : Nat} {str : List Nat} {fr : List Frame}
    {gs : List Bool} {ws : List Nat} (h : RInv T y str fr gs) (hty : T.types[y]? = some (.union ws))
    (hw : w ∈ ws) : RInv T w (y :: str) ((y, gs) :: fr) (false :: gs) ∧ Meas T (false :: gs) w < Meas T gs y := by
  have hlt : w < y := ordered_children hT hty w hw
  refine ⟨⟨by simp [h.stack], h.frames.push h.closed, h.closed.union hty w hw, h.chain.push hlt⟩, ?_⟩
  simp only [Meas, countTrue]
  omega

/-- crossing a constructor on the right -/
theorem RInv.cross {T : Table} {y c : Nat} {str : List Nat} {fr : List Frame} {gs : List Bool}
    (h : RInv T y str fr gs) (hc : ClosedAt T (gs.map (fun _ => true)) c) (hlt : c < y) :
    RInv T c str fr (gs.map (fun _ => true)) :=
  ⟨h.stack, h.frames.weaken (FlagsLe.allTrue gs), hc, h.chain.child hlt⟩

/-- resolving a `Cycle` on the right -/
theorem RInv.jump {T : Table} {y d sid : Nat} {str : List Nat} {fr : List Frame} {gs : List Bool}
    (h : RInv T y str fr gs) (hty : T.types[y]? = some (.cycle d))
    (hr : resolveCycle str d = some sid) :
    ∃ g, RInv T sid (str.drop d) (fr.drop d) g ∧ Meas T g sid < Meas T gs y := by
  obtain ⟨hd, hflag⟩ := h.closed.cycle hty
  have hk : str[d - 1]? = some sid := by
    unfold resolveCycle at hr
    rwa [if_neg hd] at hr
  have hfr : ∃ f, fr[d - 1]? = some f ∧ f.1 = sid := by
    rw [h.stack, List.getElem?_map] at hk
    cases hf : fr[d - 1]? with
    | none => rw [hf] at hk; cases hk
    | some f => rw [hf] at hk; exact ⟨f, rfl, Option.some.inj hk⟩
  obtain ⟨f, hf, hf1⟩ := hfr
  obtain ⟨hclosed, hframes, hle⟩ := h.frames.jump (d - 1) hf
  have hdd : d - 1 + 1 = d := by omega
  rw [hdd] at hframes hle
  refine ⟨f.2, ⟨?_, hframes, hf1 ▸ hclosed, ?_⟩, ?_⟩
  · rw [h.stack, List.map_drop]
  · have := h.chain.drop (d - 1) hk
    rwa [hdd] at this
  · have h1 := countTrue_le hle
    have h2 := countTrue_drop gs (d - 1) hflag
    rw [hdd] at h2
    have hsid : sid < T.types.length := by
      obtain ⟨ty, hty'⟩ := (hf1 ▸ hclosed : ClosedAt T f.2 sid).in_table
      exact (List.getElem?_eq_some_iff.mp hty').1
    simp only [Meas]
    have : countTrue f.2 + 1 ≤ countTrue gs := by omega
    calc countTrue f.2 * (T.types.length + 1) + sid
        < countTrue f.2 * (T.types.length + 1) + (T.types.length + 1) := by omega
      _ = (countTrue f.2 + 1) * (T.types.length + 1) := by rw [Nat.add_mul, Nat.one_mul]
      _ ≤ countTrue gs * (T.types.length + 1) := Nat.mul_le_mul_right _ this
      _ ≤ countTrue gs * (T.types.length + 1) + y := Nat.le_add_right _ _

/-- a value that inhabits the left type with fuel `n` inhabits the right type, for every pair derivable
from `A` below sorted stacks whose right-hand side is closed -/
def Phi (T : Table) (A : AKey → Prop) (n : Nat) : Prop :=
  ∀ (a b : Nat) (st : Stk) (fr : List Frame) (gs : List Bool), Chain a st.l → RInv T b st.r fr gs →
    Der T A a b st → ∀ v, inhB T n st.l a v = true → inh T st.r b v

theorem Stk.pushL_chain {st : Stk} {a : Nat} (h : Chain a st.l) : st.pushL a = { st with l := a :: st.l } := by
  simp only [Stk.pushL, pushStack_chain h]

theorem Stk.pushR_chain {st : Stk} {b : Nat} (h : Chain b st.r) : st.pushR b = { st with r := b :: st.r } := by
  simp only [Stk.pushR, pushStack_chain h]

theorem phi_step {T : Table} (hT : Ordered T) {C : Nat → Prop} {A : AKey → Prop} (hA : ∀ p, A p → Supp T C A p) (n : Nat)
    (ih : Phi T A n) : Phi T A (n + 1) := by
  intro a b st fr gs hch hr hder v hv
  -- inner induction on the measure of the right-hand side
  generalize hm : Meas T gs b = m
  induction m using Nat.strongRecOn generalizing a b st fr gs with
  | _ m ihm =>
    -- the two union steps: from a union on the left to the variant `v` inhabits (outer `ih`), from a
    -- union on the right into one of its variants (`ihm`: the measure of the right-hand side drops)
    have leftUnion : ∀ {vs : List Nat}, T.types[a]? = some (.union vs) →
        (∀ v' ∈ vs, Der T A v' b (st.pushL a)) → inh T st.r b v := by
      intro vs hta hprem
      obtain ⟨i, hi, hiv⟩ := (inhB_union hta).mp hv
      have hlt : i < a := ordered_children hT hta i hi
      have hd := hprem i hi
      rw [Stk.pushL_chain hch] at hd
      exact ih i b { st with l := a :: st.l } fr gs (hch.push hlt) hr hd v hiv
    have rightUnion : ∀ {ws : List Nat} (w : Nat), T.types[b]? = some (.union ws) → w ∈ ws →
        Der T A a w (st.pushR b) → inh T st.r b v := by
      intro ws w htb hw hprem
      obtain ⟨hr', hlt⟩ := hr.enter hT htb hw
      rw [Stk.pushR_chain hr.chain] at hprem
      have := ihm _ (hm ▸ hlt) a w { st with r := b :: st.r } _ _ hch hr' hprem hv rfl
      exact (inh_union htb).mpr ⟨w, hw, this⟩
    cases hder with
    | refl hst =>
      exact ⟨n + 1, by rw [← hst]; exact hv⟩
    | hyp hp =>
      rcases (hA _ hp).2 with ⟨vs, hta, hprem⟩ | ⟨ws, w, htb, hw, hprem⟩
      · exact leftUnion hta hprem
      · exact rightUnion w htb hw hprem
    | never_left hta =>
      obtain ⟨i, hi, _⟩ := (inhB_union hta).mp hv
      simp at hi
    | atom hta htb hat => exact (inh_atom hat hta htb).mp ⟨n + 1, hv⟩
    | cycle_left_dangling hta hres =>
      obtain ⟨id, hid, _⟩ := (inhB_cycle hta).mp hv
      rw [hres] at hid
      cases hid
    | cycle_left hta hres hprem =>
      rename_i d sid
      obtain ⟨id, hid, hidv⟩ := (inhB_cycle hta).mp hv
      rw [hres] at hid
      cases hid
      exact ih sid b { st with l := st.l.drop d } fr gs (hch.resolve hres) hr hprem v hidv
    | cycle_right_dangling htb hres =>
      rename_i d
      -- a closed `Cycle` points into the stack
      obtain ⟨hd, hflag⟩ := hr.closed.cycle htb
      have hlen : d - 1 < gs.length := by
        by_cases h : d - 1 < gs.length
        · exact h
        · simp [List.getElem?_eq_none (Nat.le_of_not_lt h)] at hflag
      rw [hr.frames.length] at hlen
      have hlen' : st.r.length = fr.length := by rw [hr.stack]; simp
      unfold resolveCycle at hres
      simp [hd] at hres
      omega
    | cycle_right htb hres hprem =>
      rename_i d sid
      obtain ⟨g, hr', hlt⟩ := hr.jump htb hres
      have := ihm _ (hm ▸ hlt) a sid { st with r := st.r.drop d } _ _ hch hr' hprem hv rfl
      exact (inh_cycle htb).mpr ⟨_, hres, this⟩
    | union_left hta hprem => exact leftUnion hta hprem
    | union_right w htb hw hprem => exact rightUnion w htb hw hprem
    | tuple_same hta htb hst =>
      obtain ⟨info, hinfo, _⟩ := hr.closed.tuple htb
      have hinh : inh T st.l a v := ⟨n + 1, hv⟩
      rw [hst] at hinh
      exact (inh_tuple htb hinfo).mpr ((inh_tuple hta hinfo).mp hinh)
    | tuple_tuple hta htb h1 h2 hname hlen hlab hprem =>
      obtain ⟨name, fs, rfl, hn, hf⟩ := (inhB_tuple hta h1).mp hv
      obtain ⟨info2', hinfo2', hclosed⟩ := hr.closed.tuple htb
      rw [h2] at hinfo2'; cases hinfo2'
      refine (inh_tuple htb h2).mpr ⟨name, fs, rfl, hn.trans hname, ?_⟩
      refine FieldsRel.zip_imp _ _ _ hlen (fun p hp => ⟨hlab p hp, fun v' hv' => ?_⟩) hf
      have hp1 : p.1 ∈ _ := (List.of_mem_zip hp).1
      have hp2 : p.2 ∈ _ := (List.of_mem_zip hp).2
      have hlt1 := ordered_children hT hta _ (Ty.mem_children_tuple h1 hp1)
      have hlt2 := ordered_children hT htb _ (Ty.mem_children_tuple h2 hp2)
      exact ih _ _ st fr _ (hch.child hlt1) (hr.cross (hclosed _ hp2) hlt2) (hprem p hp) v' hv'
    | tuple_part sel hta htb hc hname hsel hprem =>
      rename_i c ci pn pfs
      obtain ⟨name, fs, rfl, hn, hf⟩ := (inhB_tuple hta hc).mp hv
      have hclosed := hr.closed.part htb
      refine (inh_part htb).mpr ⟨name, fs, rfl, ?_, fun pf hpf => ?_⟩
      · exact name_tuple_part hname hn
      · obtain ⟨hmem, hl⟩ := hsel pf hpf
        obtain ⟨q, hq, hql, hqv⟩ := hf.of_mem _ hmem
        have hlt1 := ordered_children hT hta _ (Ty.mem_children_tuple hc hmem)
        have hlt2 := ordered_children hT htb _ (Ty.mem_children_part hpf)
        exact ⟨q, hq, hql ▸ hl, ih _ _ st fr _ (hch.child hlt1) (hr.cross (hclosed pf hpf) hlt2)
          (hprem pf hpf) q.2 hqv⟩
    | part_part sel hta htb hname hsel hprem =>
      rename_i n1 n2 fs1 fs2
      obtain ⟨name, fs, rfl, hn, hf⟩ := (inhB_part hta).mp hv
      have hclosed := hr.closed.part htb
      refine (inh_part htb).mpr ⟨name, fs, rfl, ?_, fun f2 hf2 => ?_⟩
      · exact name_part_part hname hn
      · have hfind := hsel f2 hf2
        have hmem : sel f2 ∈ fs1 := List.mem_of_find?_eq_some hfind
        have hl : (sel f2).1 = f2.1 := by simpa using List.find?_some hfind
        obtain ⟨q, hq, hql, hqv⟩ := hf (sel f2) hmem
        have hlt1 := ordered_children hT hta _ (Ty.mem_children_part hmem)
        have hlt2 := ordered_children hT htb _ (Ty.mem_children_part hf2)
        exact ⟨q, hq, hl ▸ hql, ih _ _ st fr _ (hch.child hlt1) (hr.cross (hclosed f2 hf2) hlt2)
          (hprem f2 hf2) q.2 hqv⟩

theorem phi_all {T : Table} (hT : Ordered T) {C : Nat → Prop} {A : AKey → Prop} (hA : ∀ p, A p → Supp T C A p) :
    ∀ n, Phi T A n := by
  intro n
  induction n with
  | zero => intro a b st fr gs _ _ _ v hv; exact nomatch hv
  | succ n ih => exact phi_step hT hA n ih

end QM.Types
