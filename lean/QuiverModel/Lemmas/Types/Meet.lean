import QuiverModel.Lemmas.Types.Extend
import QuiverModel.Lemmas.Types.Overlap
/-
`intersect` (narrowing.rs `intersect_types` / `intersect_pair`) never drops a value on first-order
types: a well-labelled value of both operands is a value of the result, read in the table the
function returns. Invariant threaded through the loops: the table only grows (`Table.Sub`), every id
produced is first-order in the current table.
-/
namespace QM.Types

/-- what one intersection step guarantees about its result `(T', r)` for operands `a`, `b` of `T` -/
def MeetOk (T : Table) (a b : Nat) (res : TRes) : Prop :=
  ∀ T' r, res = some (T', r) →
    Table.Sub T T' ∧ FO T' r ∧
      ∀ v, v.wf = true → inh T [] a v → inh T [] b v → inh T' [] r v

/-- the recursive call is good on first-order operands of any table -/
def RecMeet (rec : Table → Nat → Nat → TRes) : Prop :=
  ∀ T a b, FO T a → FO T b → MeetOk T a b (rec T a b)

/-- the field loop: either some position has no common value (`none`), or the new fields carry
every value list that fits both field lists -/
theorem intersectFields_ok {rec : Table → Nat → Nat → TRes} (hrec : RecMeet rec) (never : Nat) :
    ∀ (l1 l2 : List (Option Name × Nat)) (T : Table), l1.length = l2.length →
      (∀ f ∈ l1, FO T f.2) → (∀ f ∈ l2, FO T f.2) → T.types[never]? = some (.union []) →
      ∀ T' res, intersectFields rec never T (l1.zip l2) = some (T', res) →
        Table.Sub T T' ∧
        match res with
        | none => ∀ qs, (∀ q ∈ qs, q.2.wf = true) →
            ¬ (FieldsRel (inh T []) l1 qs ∧ FieldsRel (inh T []) l2 qs)
        | some fields => (∀ f ∈ fields, FO T' f.2) ∧
            ∀ qs, (∀ q ∈ qs, q.2.wf = true) → FieldsRel (inh T []) l1 qs →
              FieldsRel (inh T []) l2 qs → FieldsRel (inh T' []) fields qs := by
  intro l1
  induction l1 with
  | nil =>
    intro l2 T hlen _ _ _ T' res h
    cases l2 with
    | cons _ _ => simp at hlen
    | nil =>
      cases h
      refine ⟨Table.Sub.refl _, by simp, fun qs _ h1 _ => ?_⟩
      cases h1; exact .nil
  | cons p1 r1 ih =>
    intro l2 T hlen hf1 hf2 hnever T' res h
    cases l2 with
    | nil => simp at hlen
    | cons p2 r2 =>
      simp only [List.zip_cons_cons] at h
      unfold intersectFields at h
      split at h
      · cases h
      rename_i T1 fi hr
      obtain ⟨hsub1, hfo1, hkeep1⟩ := hrec T p1.2 p2.2 (hf1 p1 (by simp)) (hf2 p2 (by simp)) T1 fi hr
      have hnever1 : T1.types[never]? = some (.union []) := hsub1.types _ _ hnever
      split at h
      · -- this field has no common value
        rename_i hfi
        cases h
        refine ⟨hsub1, fun qs hwf ⟨h1, h2⟩ => ?_⟩
        cases h1 with
        | cons ha hb hc =>
          cases h2 with
          | cons hd he hg =>
            exact not_inh_never hnever1 _ _ (hfi ▸ hkeep1 _ (hwf _ (by simp)) hb he)
      · have hrest := ih r2 T1 (by simpa using hlen)
          (fun f hf => (hf1 f (by simp [hf])).sub hsub1) (fun f hf => (hf2 f (by simp [hf])).sub hsub1) hnever1
        -- value lists move from T to T1: first-order field types mean the same
        have move1 := fun qs => (FieldsRel.inh_sub hsub1 (fun f hf => hf1 f (List.mem_cons_of_mem _ hf)) qs).mp
        have move2 := fun qs => (FieldsRel.inh_sub hsub1 (fun f hf => hf2 f (List.mem_cons_of_mem _ hf)) qs).mp
        split at h
        · cases h
        · rename_i T2 hrec2
          obtain ⟨hsub2, hres2⟩ := hrest T2 none hrec2
          cases h
          refine ⟨hsub1.trans hsub2, fun qs hwf ⟨h1, h2⟩ => ?_⟩
          cases h1 with
          | cons ha hb hc =>
            cases h2 with
            | cons hd he hg =>
              exact hres2 _ (fun q hq => hwf q (by simp [hq])) ⟨move1 _ hc, move2 _ hg⟩
        · rename_i T2 fs hrec2
          obtain ⟨hsub2, hfofs, hkeepfs⟩ := hrest T2 (some fs) hrec2
          cases h
          refine ⟨hsub1.trans hsub2, ?_, fun qs hwf h1 h2 => ?_⟩
          · intro f hf
            rcases List.mem_cons.mp hf with rfl | hf
            · exact hfo1.sub hsub2
            · exact hfofs f hf
          · cases h1 with
            | cons ha hb hc =>
              cases h2 with
              | cons hd he hg =>
                exact .cons ha ((hfo1.inh_sub hsub2 [] [] _).mp (hkeep1 _ (hwf _ (by simp)) hb he))
                  (hkeepfs _ (fun q hq => hwf q (by simp [hq])) (move1 _ hc) (move2 _ hg))

theorem MeetOk.of_sub {T T0 : Table} {a b : Nat} {res : TRes} (hsub : Table.Sub T T0) (ha : FO T a)
    (hb : FO T b) (h : MeetOk T0 a b res) : MeetOk T a b res := by
  intro T' r hr
  obtain ⟨h1, h2, h3⟩ := h T' r hr
  exact ⟨hsub.trans h1, h2, fun v hwf hav hbv =>
    h3 v hwf ((ha.inh_sub hsub [] [] v).mp hav) ((hb.inh_sub hsub [] [] v).mp hbv)⟩

theorem MeetOk.keep_left {T : Table} {a b : Nat} (ha : FO T a) : MeetOk T a b (some (T, a)) := by
  intro T' r hr
  cases hr
  exact ⟨Table.Sub.refl _, ha, fun v _ hav _ => hav⟩

theorem MeetOk.never {T : Table} {a b never : Nat} (hfo : FO T never)
    (hdis : ∀ v, v.wf = true → ¬ (inh T [] a v ∧ inh T [] b v)) : MeetOk T a b (some (T, never)) := by
  intro T' r hr
  cases hr
  exact ⟨Table.Sub.refl _, hfo, fun v hwf hav hbv => absurd ⟨hav, hbv⟩ (hdis v hwf)⟩

theorem meetFallback_ok (rf : Nat) {T : Table} {a b never : Nat} (ha : FO T a) (hb : FO T b)
    (hfo : FO T never) : MeetOk T a b (meetFallback rf T never a b) := by
  unfold meetFallback
  cases ho : typesOverlap T rf a b with
  | none => intro T' r hr; simp at hr
  | some ov =>
    cases ov with
    | true => exact MeetOk.keep_left ha
    | false =>
      refine MeetOk.never hfo (fun v hwf hboth => ?_)
      obtain ⟨asm', hc⟩ := typesOverlap_eq_some.mp ho
      exact checkRel_any_bad rf [] {} a b asm' hc ha hb [] [] v hwf hboth

theorem labelsDiffer_false_of_rel {P Q : Nat → V → Prop} :
    ∀ {l1 l2 : List (Option Name × Nat)} {qs : List (Option Name × V)},
      FieldsRel P l1 qs → FieldsRel Q l2 qs → labelsDiffer l1 l2 = false := by
  intro l1 l2 qs h1
  induction h1 generalizing l2 with
  | nil => intro h2; cases h2; rfl
  | cons ha _ _ ih =>
    intro h2
    cases h2 with
    | cons hc _ he =>
      have := ih he
      simp only [labelsDiffer, List.zip_cons_cons, List.any_cons, Bool.or_eq_false_iff,
        decide_eq_false_iff_not, ne_eq, Decidable.not_not] at this ⊢
      exact ⟨ha.trans hc.symm, this⟩

theorem meetTuple_ok (vr : Variant) {rec : Table → Nat → Nat → TRes} (hrec : RecMeet rec) {T : Table}
    {a b never id1 id2 : Nat} (ha : FO T a) (hb : FO T b) (hta : T.types[a]? = some (.tuple id1))
    (htb : T.types[b]? = some (.tuple id2)) (hnever : T.types[never]? = some (.union []))
    (hneverfo : FO T never) : MeetOk T a b (meetTuple vr rec T never id1 id2) := by
  obtain ⟨i1, h1, hf1⟩ := ha.tuple hta
  obtain ⟨i2, h2, hf2⟩ := hb.tuple htb
  unfold meetTuple
  simp only [h1, h2]
  split
  · rename_i hmis
    refine MeetOk.never hneverfo (fun v _ ⟨hav, hbv⟩ => ?_)
    obtain ⟨name, fs, rfl, hn1, hr1⟩ := (inh_tuple hta h1).mp hav
    obtain ⟨_, _, hv', hn2, hr2⟩ := (inh_tuple htb h2).mp hbv
    cases hv'
    rcases hmis with h | h
    · exact h (hn1.symm.trans hn2)
    · exact h (by rw [hr1.length, hr2.length])
  · rename_i hok
    split
    · -- labels differ somewhere: no common value
      rename_i hlab
      refine MeetOk.never hneverfo (fun v _ ⟨hav, hbv⟩ => ?_)
      obtain ⟨name, fs, rfl, _, hr1⟩ := (inh_tuple hta h1).mp hav
      obtain ⟨_, _, hv', _, hr2⟩ := (inh_tuple htb h2).mp hbv
      cases hv'
      simp only [Bool.and_eq_true] at hlab
      rw [labelsDiffer_false_of_rel hr1 hr2] at hlab
      simp at hlab
    have hlen : i1.fields.length = i2.fields.length := Decidable.not_not.mp fun h => hok (.inr h)
    intro T' r hr
    split at hr
    · cases hr
    · rename_i T1 hif
      obtain ⟨hsub1, hres⟩ := intersectFields_ok hrec never i1.fields i2.fields T hlen hf1 hf2 hnever T1 none hif
      cases hr
      refine ⟨hsub1, hneverfo.sub hsub1, fun v hwf hav hbv => ?_⟩
      obtain ⟨name, fs, rfl, _, hr1⟩ := (inh_tuple hta h1).mp hav
      obtain ⟨_, _, hv', _, hr2⟩ := (inh_tuple htb h2).mp hbv
      cases hv'
      exact absurd ⟨hr1, hr2⟩ (hres _ (V.wf_tup hwf).2)
    · rename_i T1 fields hif
      obtain ⟨hsub1, hfofs, hkeep⟩ :=
        intersectFields_ok hrec never i1.fields i2.fields T hlen hf1 hf2 hnever T1 (some fields) hif
      obtain ⟨hsub2, hget2⟩ := registerTuple_spec T1 i1.name fields
      obtain ⟨hsub3, hget3⟩ := registerType_spec (T1.registerTuple i1.name fields).1
        (.tuple (T1.registerTuple i1.name fields).2)
      obtain ⟨rfl, rfl⟩ := Prod.mk.inj (Option.some.inj hr)
      have hget2' := hsub3.tuples _ _ hget2
      have hsub13 := hsub2.trans hsub3
      refine ⟨hsub1.trans hsub13, FO.of_tuple hget3 hget2' (fun f hf => (hfofs f hf).sub hsub13),
        fun v hwf hav hbv => ?_⟩
      obtain ⟨name, fs, rfl, hn1, hr1⟩ := (inh_tuple hta h1).mp hav
      obtain ⟨_, _, hv', _, hr2⟩ := (inh_tuple htb h2).mp hbv
      cases hv'
      refine (inh_tuple hget3 hget2').mpr ⟨name, fs, rfl, hn1, ?_⟩
      refine FieldsRel.imp (fun c hc v hv => ?_) (hkeep _ (V.wf_tup hwf).2 hr1 hr2)
      obtain ⟨f, hf, rfl⟩ := List.mem_map.mp hc
      exact ((hfofs f hf).inh_sub hsub13 [] [] v).mp hv

theorem HasField.sub {T T' : Table} (hsub : Table.Sub T T') {l : Name} {c : Nat}
    {qs : List (Option Name × V)} (hc : FO T c) (h : HasField T [] l c qs) : HasField T' [] l c qs := by
  obtain ⟨q, hq, hl, hv⟩ := h
  exact ⟨q, hq, hl, (hc.inh_sub hsub [] [] _).mp hv⟩

/-- the field loop of the partial arm: either some common label has no common value (`none`), or the new
fields are carried by every well-labelled field list that has the fields of both operands -/
theorem meetPartFields_ok {rec : Table → Nat → Nat → TRes} (hrec : RecMeet rec) (never : Nat)
    (fs2 : List (Name × Nat)) :
    ∀ (l1 : List (Name × Nat)) (T : Table), (∀ f ∈ l1, FO T f.2) → (∀ f ∈ fs2, FO T f.2) →
      T.types[never]? = some (.union []) →
      ∀ T' res, meetPartFields rec never fs2 T l1 = some (T', res) →
        Table.Sub T T' ∧
        match res with
        | none => ∀ qs, labelsDistinct qs = true → (∀ q ∈ qs, q.2.wf = true) →
            ¬ ((∀ pf ∈ l1, HasField T [] pf.1 pf.2 qs) ∧ (∀ pf ∈ fs2, HasField T [] pf.1 pf.2 qs))
        | some fields => (∀ f ∈ fields, FO T' f.2) ∧
            ∀ qs, labelsDistinct qs = true → (∀ q ∈ qs, q.2.wf = true) →
              (∀ pf ∈ l1, HasField T [] pf.1 pf.2 qs) → (∀ pf ∈ fs2, HasField T [] pf.1 pf.2 qs) →
              ∀ pf ∈ fields, HasField T' [] pf.1 pf.2 qs := by
  intro l1
  induction l1 with
  | nil =>
    intro T _ _ _ T' res h
    cases h
    exact ⟨Table.Sub.refl _, by simp, fun _ _ _ _ _ pf hpf => by simp at hpf⟩
  | cons f1 rest ih =>
    intro T hf1 hf2 hnever T' res h
    unfold meetPartFields at h
    split at h
    · rename_i f2 hfind
      have hmem2 : f2 ∈ fs2 := List.mem_of_find?_eq_some hfind
      have hlab : f2.1 = f1.1 := by simpa using List.find?_some hfind
      split at h
      · cases h
      rename_i T1 both hr
      obtain ⟨hsub1, hfo1, hkeep1⟩ := hrec T f1.2 f2.2 (hf1 f1 (by simp)) (hf2 f2 hmem2) T1 both hr
      have hnever1 : T1.types[never]? = some (.union []) := hsub1.types _ _ hnever
      -- the one field of a well-labelled list that carries the common label is in both field types
      have common : ∀ qs, labelsDistinct qs = true → (∀ q ∈ qs, q.2.wf = true) →
          HasField T [] f1.1 f1.2 qs → HasField T [] f2.1 f2.2 qs → HasField T1 [] f1.1 both qs := by
        intro qs hld hwf ⟨q, hq, hql, hqv⟩ ⟨q', hq', hql', hqv'⟩
        have : q = q' := labelsDistinct_unique qs hld q hq q' hq' f1.1 hql (hlab ▸ hql')
        subst this
        exact ⟨q, hq, hql, hkeep1 _ (hwf q hq) hqv hqv'⟩
      split at h
      · rename_i hboth
        cases h
        refine ⟨hsub1, fun qs hld hwf ⟨h1, h2⟩ => ?_⟩
        obtain ⟨q, _, _, hv⟩ := common qs hld hwf (h1 f1 (by simp)) (h2 f2 hmem2)
        exact not_inh_never hnever1 _ _ (hboth ▸ hv)
      · have hrest := ih T1 (fun f hf => (hf1 f (by simp [hf])).sub hsub1)
          (fun f hf => (hf2 f hf).sub hsub1) hnever1
        have move1 : ∀ qs, (∀ pf ∈ f1 :: rest, HasField T [] pf.1 pf.2 qs) →
            ∀ pf ∈ rest, HasField T1 [] pf.1 pf.2 qs :=
          fun qs hh pf hpf => (hh pf (by simp [hpf])).sub hsub1 (hf1 pf (by simp [hpf]))
        have move2 : ∀ qs, (∀ pf ∈ fs2, HasField T [] pf.1 pf.2 qs) →
            ∀ pf ∈ fs2, HasField T1 [] pf.1 pf.2 qs :=
          fun qs hh pf hpf => (hh pf hpf).sub hsub1 (hf2 pf hpf)
        split at h
        · cases h
        · rename_i T2 hrec2
          obtain ⟨hsub2, hres2⟩ := hrest T2 none hrec2
          cases h
          exact ⟨hsub1.trans hsub2, fun qs hld hwf ⟨h1, h2⟩ => hres2 qs hld hwf ⟨move1 qs h1, move2 qs h2⟩⟩
        · rename_i T2 fs hrec2
          obtain ⟨hsub2, hfofs, hkeepfs⟩ := hrest T2 (some fs) hrec2
          cases h
          refine ⟨hsub1.trans hsub2, ?_, fun qs hld hwf h1 h2 pf hpf => ?_⟩
          · intro f hf
            rcases List.mem_cons.mp hf with rfl | hf
            · exact hfo1.sub hsub2
            · exact hfofs f hf
          · rcases List.mem_cons.mp hpf with rfl | hpf
            · exact (common qs hld hwf (h1 f1 (by simp)) (h2 f2 hmem2)).sub hsub2 hfo1
            · exact hkeepfs qs hld hwf (move1 qs h1) (move2 qs h2) pf hpf
    · have hrest := ih T (fun f hf => hf1 f (by simp [hf])) hf2 hnever
      split at h
      · cases h
      · rename_i T2 hrec2
        obtain ⟨hsub2, hres2⟩ := hrest T2 none hrec2
        cases h
        exact ⟨hsub2, fun qs hld hwf ⟨h1, h2⟩ =>
          hres2 qs hld hwf ⟨fun pf hpf => h1 pf (by simp [hpf]), h2⟩⟩
      · rename_i T2 fs hrec2
        obtain ⟨hsub2, hfofs, hkeepfs⟩ := hrest T2 (some fs) hrec2
        cases h
        refine ⟨hsub2, ?_, fun qs hld hwf h1 h2 pf hpf => ?_⟩
        · intro f hf
          rcases List.mem_cons.mp hf with rfl | hf
          · exact (hf1 _ (by simp)).sub hsub2
          · exact hfofs f hf
        · rcases List.mem_cons.mp hpf with rfl | hpf
          · exact (h1 _ (by simp)).sub hsub2 (hf1 _ (by simp))
          · exact hkeepfs qs hld hwf (fun pf hpf => h1 pf (by simp [hpf])) h2 pf hpf

theorem meetPart_ok {rec : Table → Nat → Nat → TRes} (hrec : RecMeet rec) {T : Table}
    {a b never : Nat} {n1 n2 : Option Name} {fs1 fs2 : List (Name × Nat)} (ha : FO T a) (hb : FO T b)
    (hta : T.types[a]? = some (.part n1 fs1)) (htb : T.types[b]? = some (.part n2 fs2))
    (hnever : T.types[never]? = some (.union [])) (hneverfo : FO T never) :
    MeetOk T a b (meetPart rec T never n1 fs1 n2 fs2) := by
  have hf1 := ha.part hta
  have hf2 := hb.part htb
  unfold meetPart
  split
  · rename_i hclash
    refine MeetOk.never hneverfo (fun v _ ⟨hav, hbv⟩ => ?_)
    obtain ⟨name, fs, rfl, hn1, _⟩ := (inh_part hta).mp hav
    obtain ⟨_, _, hv', hn2, _⟩ := (inh_part htb).mp hbv
    cases hv'
    exact name_clash hclash.1 hclash.2.1 hclash.2.2 hn1 hn2
  · intro T' r hr
    split at hr
    · cases hr
    · rename_i T1 hif
      obtain ⟨hsub1, hres⟩ := meetPartFields_ok hrec never fs2 fs1 T hf1 hf2 hnever T1 none hif
      cases hr
      refine ⟨hsub1, hneverfo.sub hsub1, fun v hwf hav hbv => ?_⟩
      obtain ⟨name, fs, rfl, _, hr1⟩ := (inh_part hta).mp hav
      obtain ⟨_, _, hv', _, hr2⟩ := (inh_part htb).mp hbv
      cases hv'
      exact absurd ⟨hr1, hr2⟩ (hres _ (V.wf_tup hwf).1 (V.wf_tup hwf).2)
    · rename_i T1 fields hif
      obtain ⟨hsub1, hfofs, hkeep⟩ := meetPartFields_ok hrec never fs2 fs1 T hf1 hf2 hnever T1 (some fields) hif
      obtain ⟨hsub2, hget2⟩ := registerType_spec T1
        (.part (orName n1 n2) (fields ++ fs2.filter (fun f2 => !fs1.any (fun f1 => f1.1 == f2.1))))
      obtain ⟨rfl, rfl⟩ := Prod.mk.inj (Option.some.inj hr)
      have hsub12 := hsub1.trans hsub2
      refine ⟨hsub12, FO.of_part hget2 (fun f hf => ?_), fun v hwf hav hbv => ?_⟩
      · rcases List.mem_append.mp hf with hf | hf
        · exact (hfofs f hf).sub hsub2
        · exact (hf2 f (List.mem_filter.mp hf).1).sub hsub12
      obtain ⟨name, fs, rfl, hn1, hr1⟩ := (inh_part hta).mp hav
      obtain ⟨_, _, hv', hn2, hr2⟩ := (inh_part htb).mp hbv
      cases hv'
      refine (inh_part hget2).mpr ⟨name, fs, rfl, ?_, fun pf hpf => ?_⟩
      · cases n1 with
        | some p => right; rcases hn1 with h | h
                    · cases h
                    · simpa [orName] using h
        | none => simpa [orName] using hn2
      · rcases List.mem_append.mp hpf with hpf | hpf
        · exact (hkeep _ (V.wf_tup hwf).1 (V.wf_tup hwf).2 hr1 hr2 pf hpf).sub hsub2 (hfofs pf hpf)
        · have hm := (List.mem_filter.mp hpf).1
          exact (hr2 pf hm).sub hsub12 (hf2 pf hm)

theorem intersectPair_ok (vr : Variant) (rf : Nat) {rec : Table → Nat → Nat → TRes} (hrec : RecMeet rec) (T : Table)
    (a b : Nat) (ha : FO T a) (hb : FO T b) : MeetOk T a b (intersectPair vr rf rec T a b) := by
  unfold intersectPair
  split
  · exact MeetOk.keep_left ha
  · obtain ⟨hsub0, hnever, hneverfo, _⟩ := never_spec T
    refine MeetOk.of_sub hsub0 ha hb ?_
    have ha0 := ha.sub hsub0
    have hb0 := hb.sub hsub0
    obtain ⟨ta, hta, _⟩ := ha0.unfold
    obtain ⟨tb, htb, _⟩ := hb0.unfold
    simp only [hta, htb]
    split
    -- the seven arms that keep the left operand: `Variable` or `Cycle` on either side (four arms; neither
    -- occurs here), two equal primitive types (three)
    iterate 7 exact MeetOk.keep_left ha0
    · exact meetTuple_ok vr hrec ha0 hb0 hta htb hnever hneverfo
    · split
      · exact meetFallback_ok rf ha0 hb0 hneverfo
      · split
        · exact meetPart_ok hrec ha0 hb0 hta htb hnever hneverfo
        · -- the guarded arm: whatever `contains_cycle` answers, both answers are good
          cases containsCycle vr T.never.1 a with
          | none => exact nofun
          | some ca =>
            cases ca with
            | true => exact meetFallback_ok rf ha0 hb0 hneverfo
            | false =>
              cases containsCycle vr T.never.1 b with
              | none => exact nofun
              | some cb =>
                cases cb with
                | true => exact meetFallback_ok rf ha0 hb0 hneverfo
                | false => exact meetPart_ok hrec ha0 hb0 hta htb hnever hneverfo
    · exact meetFallback_ok rf ha0 hb0 hneverfo

section
variable {pair : Table → Nat → Nat → TRes} (hpair : RecMeet pair) (never : Nat)
include hpair

theorem intersectLoopB_ok (av : Nat) :
    ∀ (bvs : List Nat) (T : Table), FO T av → (∀ b ∈ bvs, FO T b) →
      T.types[never]? = some (.union []) →
      ∀ T' pieces, intersectLoopB pair never av T bvs = some (T', pieces) →
        Table.Sub T T' ∧ (∀ p ∈ pieces, FO T' p) ∧
          ∀ b ∈ bvs, ∀ v, v.wf = true → inh T [] av v → inh T [] b v → ∃ p ∈ pieces, inh T' [] p v := by
  intro bvs
  induction bvs with
  | nil =>
    intro T _ _ _ T' pieces h
    cases h
    exact ⟨Table.Sub.refl _, by simp, by simp⟩
  | cons bv rest ih =>
    intro T hav hbs hnever T' pieces h
    unfold intersectLoopB at h
    split at h
    · cases h
    rename_i T1 piece hp
    obtain ⟨hsub1, hfo1, hkeep1⟩ := hpair T av bv hav (hbs bv (by simp)) T1 piece hp
    have hnever1 := hsub1.types _ _ hnever
    split at h
    · cases h
    rename_i T2 ps hl
    obtain ⟨hsub2, hfo2, hkeep2⟩ := ih T1 (hav.sub hsub1) (fun b hb => (hbs b (by simp [hb])).sub hsub1)
      hnever1 T2 ps hl
    cases h
    refine ⟨hsub1.trans hsub2, ?_, ?_⟩
    · intro p hp'
      split at hp'
      · exact hfo2 p hp'
      · rcases List.mem_cons.mp hp' with rfl | hp'
        · exact hfo1.sub hsub2
        · exact hfo2 p hp'
    · intro b hb v hwf hvav hvb
      rcases List.mem_cons.mp hb with rfl | hb
      · have hv1 := hkeep1 v hwf hvav hvb
        split
        · rename_i heq
          exact absurd (heq ▸ hv1) (not_inh_never hnever1 _ _)
        · exact ⟨piece, by simp, (hfo1.inh_sub hsub2 [] [] v).mp hv1⟩
      · obtain ⟨p, hp', hpv⟩ := hkeep2 b hb v hwf ((hav.inh_sub hsub1 [] [] v).mp hvav)
          (((hbs b (by simp [hb])).inh_sub hsub1 [] [] v).mp hvb)
        refine ⟨p, ?_, hpv⟩
        split
        · exact hp'
        · exact List.mem_cons_of_mem _ hp'

theorem intersectLoopA_ok (bvs : List Nat) :
    ∀ (avs : List Nat) (T : Table), (∀ a ∈ avs, FO T a) → (∀ b ∈ bvs, FO T b) →
      T.types[never]? = some (.union []) →
      ∀ T' pieces, intersectLoopA pair never bvs T avs = some (T', pieces) →
        Table.Sub T T' ∧ (∀ p ∈ pieces, FO T' p) ∧
          ∀ a ∈ avs, ∀ b ∈ bvs, ∀ v, v.wf = true → inh T [] a v → inh T [] b v →
            ∃ p ∈ pieces, inh T' [] p v := by
  intro avs
  induction avs with
  | nil =>
    intro T _ _ _ T' pieces h
    cases h
    exact ⟨Table.Sub.refl _, by simp, by simp⟩
  | cons av rest ih =>
    intro T has hbs hnever T' pieces h
    unfold intersectLoopA at h
    split at h
    · cases h
    rename_i T1 ps1 hb
    obtain ⟨hsub1, hfo1, hkeep1⟩ := intersectLoopB_ok hpair never av bvs T (has av (by simp)) hbs hnever T1 ps1 hb
    split at h
    · cases h
    rename_i T2 ps2 hl
    obtain ⟨hsub2, hfo2, hkeep2⟩ := ih T1 (fun a ha => (has a (by simp [ha])).sub hsub1)
      (fun b hb' => (hbs b hb').sub hsub1) (hsub1.types _ _ hnever) T2 ps2 hl
    cases h
    refine ⟨hsub1.trans hsub2, ?_, ?_⟩
    · intro p hp
      rcases List.mem_append.mp hp with hp | hp
      · exact (hfo1 p hp).sub hsub2
      · exact hfo2 p hp
    · intro a ha b hb' v hwf hva hvb
      rcases List.mem_cons.mp ha with rfl | ha
      · obtain ⟨p, hp, hpv⟩ := hkeep1 b hb' v hwf hva hvb
        exact ⟨p, List.mem_append.mpr (Or.inl hp), ((hfo1 p hp).inh_sub hsub2 [] [] v).mp hpv⟩
      · obtain ⟨p, hp, hpv⟩ := hkeep2 a ha b hb' v hwf
          (((has a (by simp [ha])).inh_sub hsub1 [] [] v).mp hva) (((hbs b hb').inh_sub hsub1 [] [] v).mp hvb)
        exact ⟨p, List.mem_append.mpr (Or.inr hp), hpv⟩

end

theorem intersect_ok (vr : Variant) (rf : Nat) : ∀ (fuel : Nat), RecMeet (intersect vr rf fuel) := by
  intro fuel
  induction fuel with
  | zero => intro T a b _ _ T' r h; exact nomatch h
  | succ fuel ih =>
    intro T a b ha hb T' r h
    unfold intersect at h
    obtain ⟨hsub0, hnever, _, _⟩ := never_spec T
    obtain ⟨havfo, havsem⟩ := getVariants_sem ha
    obtain ⟨hbvfo, hbvsem⟩ := getVariants_sem hb
    simp only at h
    split at h
    · cases h
    rename_i T1 pieces hl
    obtain ⟨hsub1, hfo1, hkeep1⟩ := intersectLoopA_ok (fun T a b ha hb => intersectPair_ok vr rf ih T a b ha hb)
      T.never.2 (getVariants T b) (getVariants T a) T.never.1 (fun x hx => (havfo x hx).sub hsub0)
      (fun x hx => (hbvfo x hx).sub hsub0) hnever T1 pieces hl
    obtain ⟨hsub2, hfo2⟩ := unionIds_sub_fo T1 pieces hfo1
    obtain ⟨rfl, rfl⟩ := Prod.mk.inj (Option.some.inj h)
    refine ⟨hsub0.trans (hsub1.trans hsub2), hfo2, fun v hwf hav hbv => ?_⟩
    obtain ⟨x, hx, hxv⟩ := (havsem v).mp hav
    obtain ⟨y, hy, hyv⟩ := (hbvsem v).mp hbv
    obtain ⟨p, hp, hpv⟩ := hkeep1 x hx y hy v hwf (((havfo x hx).inh_sub hsub0 [] [] v).mp hxv)
      (((hbvfo y hy).inh_sub hsub0 [] [] v).mp hyv)
    exact (unionIds_sem T1 pieces hfo1 v).mpr ⟨p, hp, hpv⟩

end QM.Types
