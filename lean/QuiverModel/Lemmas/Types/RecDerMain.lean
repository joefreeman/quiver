import QuiverModel.Lemmas.Types.RecDer
/-
Stage 1, the arms: every ALL-mode run inside a region — the recursive first-order types, or the
first-order types below any stacks — is `GoodS` for `Der` (`checkRel_goodS`); hence the assumption set a
successful top-level run returns is supported (`run_supported`).
-/
namespace QM.Types

/-- every id on the two stacks is recursive first-order -/
def StkRFO (T : Table) (st : Stk) : Prop := (∀ x ∈ st.l, RFO T x) ∧ (∀ x ∈ st.r, RFO T x)

theorem pushStack_mem {st : List Nat} {a x : Nat} (h : x ∈ pushStack st a) : x = a ∨ x ∈ st := by
  unfold pushStack at h
  split at h
  · exact Or.inr h
  · exact List.mem_cons.mp h

theorem resolveCycle_mem {st : List Nat} {d sid : Nat} (h : resolveCycle st d = some sid) : sid ∈ st := by
  unfold resolveCycle at h
  split at h
  · cases h
  · exact List.mem_of_getElem? h

theorem Ty.isRFO_of_isFO {ty : Ty} : ty.isFO = true → ty.isRFO = true := by
  cases ty <;> first | exact id | exact nofun

/-- a class `C` of ids of types without function, process or variable parts that the ALL-mode check of
two of its members does not leave, as long as the stacks satisfy `S`: the recursive first-order types
below stacks of such types, or the first-order types below any stacks (they have no `Cycle` to resolve) -/
structure Region (T : Table) (C : Nat → Prop) (S : Stk → Prop) : Prop where
  hereditary : Hereditary T C
  isRFO : ∀ {t : Nat} {ty : Ty}, C t → T.types[t]? = some ty → ty.isRFO = true
  pushL : ∀ {st : Stk} {a : Nat}, S st → C a → S (st.pushL a)
  pushR : ∀ {st : Stk} {b : Nat}, S st → C b → S (st.pushR b)
  dropL : ∀ {st : Stk} (d : Nat), S st → S { st with l := st.l.drop d }
  dropR : ∀ {st : Stk} (d : Nat), S st → S { st with r := st.r.drop d }
  left : ∀ {st : Stk} {a d sid : Nat}, S st → C a → T.types[a]? = some (.cycle d) →
    resolveCycle st.l d = some sid → C sid
  right : ∀ {st : Stk} {b d sid : Nat}, S st → C b → T.types[b]? = some (.cycle d) →
    resolveCycle st.r d = some sid → C sid

theorem Region.rfo (T : Table) : Region T (RFO T) (StkRFO T) where
  hereditary := fun _ h => let ⟨ty, h1, _, h3, h4⟩ := h.unfold; ⟨ty, h1, h3, h4⟩
  isRFO := RFO.isRFO
  pushL := fun h ha => ⟨fun x hx => (pushStack_mem hx).elim (· ▸ ha) (h.1 x), h.2⟩
  pushR := fun h hb => ⟨h.1, fun x hx => (pushStack_mem hx).elim (· ▸ hb) (h.2 x)⟩
  dropL := fun _ h => ⟨fun x hx => h.1 x (List.mem_of_mem_drop hx), h.2⟩
  dropR := fun _ h => ⟨h.1, fun x hx => h.2 x (List.mem_of_mem_drop hx)⟩
  left := fun h _ _ hr => h.1 _ (resolveCycle_mem hr)
  right := fun h _ _ hr => h.2 _ (resolveCycle_mem hr)

theorem Region.fo (T : Table) : Region T (FO T) (fun _ => True) where
  hereditary := FO.hereditary T
  isRFO := fun h hty => Ty.isRFO_of_isFO (h.isFO hty)
  pushL := fun _ _ => trivial
  pushR := fun _ _ => trivial
  dropL := fun _ _ => trivial
  dropR := fun _ _ => trivial
  left := fun _ h hty _ => nomatch h.isFO hty
  right := fun _ h hty _ => nomatch h.isFO hty

/-- the recursive call is good for `Der` on every pair of the class -/
def RecGoodS (T : Table) (C : Nat → Prop) (S : Stk → Prop) (rec : Rec) : Prop :=
  ∀ asm st x y, C x → C y → S st → GoodS T C (rec asm st x y) asm (fun A => Der T A x y st)

section
variable {T : Table} {C : Nat → Prop} {S : Stk → Prop} (hC : Region T C S) {rec : Rec} {asm : Asm} {st : Stk}
  {a b : Nat} (ha : C a) (hb : C b) (hst : S st) (hrec : RecGoodS T C S rec)
include hC ha hb hst hrec

theorem cycleLeft_goodS {d : Nat} (hta : T.types[a]? = some (.cycle d)) :
    GoodS T C (cycleLeft Variant.current rec asm st d b) asm (fun A => Der T A a b st) := by
  unfold cycleLeft
  show GoodS T C (match resolveCycle st.l d with
    | none => some (true, asm)
    | some sid => rec asm { st with l := st.l.drop d } sid b) asm _
  cases hr : resolveCycle st.l d with
  | none => exact GoodS.const_true (.cycle_left_dangling hta hr)
  | some sid =>
    exact (hrec asm _ sid b (hC.left hst ha hta hr) hb (hC.dropL d hst)).imp (fun A h => .cycle_left hta hr h)

theorem cycleRight_goodS {d : Nat} (htb : T.types[b]? = some (.cycle d)) :
    GoodS T C (cycleRight Variant.current rec asm st a d) asm (fun A => Der T A a b st) := by
  unfold cycleRight
  show GoodS T C (match resolveCycle st.r d with
    | none => some (true, asm)
    | some sid => rec asm { st with r := st.r.drop d } a sid) asm _
  cases hr : resolveCycle st.r d with
  | none => exact GoodS.const_true (.cycle_right_dangling htb hr)
  | some sid =>
    exact (hrec asm _ a sid ha (hC.right hst hb htb hr) (hC.dropR d hst)).imp (fun A h => .cycle_right htb hr h)

theorem unionLeft_goodS {vs : List Nat} (hta : T.types[a]? = some (.union vs)) :
    GoodS T C (unionLeft Variant.current .all rec asm st a b vs) asm (fun A => Der T A a b st) := by
  unfold unionLeft
  show GoodS T C (restoreOnFail Variant.current asm
    (allS (fun s v => rec s (st.pushL a) v b) vs ((a, b, st) :: asm))) asm _
  refine (GoodS.of_restore (k := (a, b, st)) (P := fun A => ∀ v ∈ vs, Der T A v b (st.pushL a)) ?_
    (fun A h => ⟨⟨ha, hb⟩, Or.inl ⟨vs, hta, h⟩⟩)).imp (fun A h => .hyp h)
  exact allS_goodS (fun _ _ _ hA h => h.mono hA) vs
    (fun v hv s => hrec s _ v b (hC.hereditary.union ha hta v hv) hb (hC.pushL hst ha)) _

theorem unionRight_goodS {ws : List Nat} (htb : T.types[b]? = some (.union ws)) :
    GoodS T C (unionRight Variant.current rec asm st a b ws) asm (fun A => Der T A a b st) := by
  unfold unionRight
  show GoodS T C (restoreOnFail Variant.current asm
    (anyS (fun s w => rec s (st.pushR b) a w) ws ((a, b, st) :: asm))) asm _
  refine (GoodS.of_restore (k := (a, b, st)) (P := fun A => ∃ w ∈ ws, Der T A a w (st.pushR b)) ?_
    (fun A ⟨w, hw, h⟩ => ⟨⟨ha, hb⟩, Or.inr ⟨ws, w, htb, hw, h⟩⟩)).imp (fun A h => .hyp h)
  exact anyS_goodS ws (fun w hw s => hrec s _ a w ha (hC.hereditary.union hb htb w hw) (hC.pushR hst hb)) _

theorem tupleTuple_goodS {i1 i2 : Nat} (hta : T.types[a]? = some (.tuple i1))
    (htb : T.types[b]? = some (.tuple i2)) :
    GoodS T C (tupleTuple Variant.current T .all rec asm st i1 i2) asm (fun A => Der T A a b st) := by
  obtain ⟨info1, h1, hf1⟩ := hC.hereditary.tuple ha hta
  obtain ⟨info2, h2, hf2⟩ := hC.hereditary.tuple hb htb
  unfold tupleTuple
  split
  · rename_i heq
    obtain ⟨heq, hctx⟩ := heq
    subst heq
    refine GoodS.const_true (.tuple_same hta htb ?_)
    simpa [sameContext, Variant.current] using hctx
  · simp only [h1, h2]
    split
    · rename_i hnl
      unfold tupleFields
      refine (allS_goodS
        (R := fun (p : (Option Name × Nat) × (Option Name × Nat)) A =>
          p.1.1 = p.2.1 ∧ Der T A p.1.2 p.2.2 st)
        (fun p => (show MonoP (fun A => p.1.1 = p.2.1 ∧ Der T A p.1.2 p.2.2 st) from
          fun A A' hA h => ⟨h.1, h.2.mono hA⟩)) _ (fun p hp s => ?_) asm).imp
        (fun A hz => .tuple_tuple hta htb h1 h2 hnl.1 hnl.2 (fun p hp => (hz p hp).1)
          (fun p hp => (hz p hp).2))
      have hp1 : p.1 ∈ info1.fields := (List.of_mem_zip hp).1
      have hp2 : p.2 ∈ info2.fields := (List.of_mem_zip hp).2
      split
      · rename_i hl
        exact (hrec s st _ _ (hf1 _ hp1) (hf2 _ hp2) hst).imp (fun A hv => ⟨hl, hv⟩)
      · exact GoodS.const_false
    · exact GoodS.const_false

theorem tuplePart_goodS {c : Nat} {pn : Option Name} {pfs : List (Name × Nat)}
    (hta : T.types[a]? = some (.tuple c)) (htb : T.types[b]? = some (.part pn pfs)) :
    GoodS T C (tuplePart T rec asm st c pn pfs) asm (fun A => Der T A a b st) := by
  obtain ⟨ci, hc, hfc⟩ := hC.hereditary.tuple ha hta
  have hfp := hC.hereditary.part hb htb
  unfold tuplePart
  simp only [hc]
  split
  · exact GoodS.const_false
  · rename_i hname
    unfold tuplePartFields
    refine (allS_goodS
      (R := fun pf A => ∃ cf ∈ ci.fields, cf.1 = some pf.1 ∧ Der T A cf.2 pf.2 st)
      (fun pf A A' hA ⟨cf, h1, h2, h3⟩ => ⟨cf, h1, h2, h3.mono hA⟩) pfs
      (fun pf hpf s => ?_) asm).imp (fun A hf => ?_)
    · refine (anyS_goodS (R := fun cf A => cf.1 = some pf.1 ∧ Der T A cf.2 pf.2 st) ci.fields
        (fun cf hcf s' => ?_) s).imp (fun A ⟨cf, h1, h2⟩ => ⟨cf, h1, h2⟩)
      split
      · rename_i hl
        exact (hrec s' st _ _ (hfc _ hcf) (hfp _ hpf) hst).imp (fun A hv => ⟨hl, hv⟩)
      · exact GoodS.const_false
    · -- choose the matching tuple field of each partial field
      classical
      let sel : Name × Nat → Option Name × Nat := fun pf =>
        if h : ∃ cf ∈ ci.fields, cf.1 = some pf.1 ∧ Der T A cf.2 pf.2 st then Classical.choose h
        else (none, 0)
      have hsel : ∀ pf ∈ pfs, sel pf ∈ ci.fields ∧ (sel pf).1 = some pf.1 ∧ Der T A (sel pf).2 pf.2 st := by
        intro pf hpf
        have h := hf pf hpf
        simp only [sel, h, dite_true]
        exact Classical.choose_spec h
      exact .tuple_part sel hta htb hc hname (fun pf hpf => ⟨(hsel pf hpf).1, (hsel pf hpf).2.1⟩)
        (fun pf hpf => (hsel pf hpf).2.2)

theorem partPart_goodS {n1 n2 : Option Name} {fs1 fs2 : List (Name × Nat)}
    (hta : T.types[a]? = some (.part n1 fs1)) (htb : T.types[b]? = some (.part n2 fs2)) :
    GoodS T C (partPart Variant.current .all rec asm st n1 fs1 n2 fs2) asm (fun A => Der T A a b st) := by
  have hf1 := hC.hereditary.part ha hta
  have hf2 := hC.hereditary.part hb htb
  unfold partPart
  split
  · exact GoodS.const_false
  · rename_i hname
    unfold partPartFields
    simp only [Variant.current, Bool.false_eq_true, if_false]
    refine (allS_goodS
      (R := fun f2 A => ∃ f1, fs1.find? (fun f1 => f1.1 == f2.1) = some f1 ∧ Der T A f1.2 f2.2 st)
      (fun f2 A A' hA ⟨f1, h1, h2⟩ => ⟨f1, h1, h2.mono hA⟩) fs2
      (fun f2 hf2mem s => ?_) asm).imp (fun A hf => ?_)
    · split
      · rename_i f1 hfind
        have hmem : f1 ∈ fs1 := List.mem_of_find?_eq_some hfind
        exact (hrec s st _ _ (hf1 _ hmem) (hf2 _ hf2mem) hst).imp (fun A hv => ⟨f1, hfind, hv⟩)
      · exact GoodS.const_false
    · let sel : Name × Nat → Name × Nat := fun f2 =>
        (fs1.find? (fun f1 => f1.1 == f2.1)).getD (0, 0)
      have hsel : ∀ f2 ∈ fs2, fs1.find? (fun f1 => f1.1 == f2.1) = some (sel f2) ∧
          Der T A (sel f2).2 f2.2 st := by
        intro f2 hf2mem
        obtain ⟨f1, hfind, hd⟩ := hf f2 hf2mem
        simp only [sel, hfind, Option.getD_some]
        exact ⟨trivial, hd⟩
      exact .part_part sel hta htb (by simpa using hname) (fun f2 h => (hsel f2 h).1)
        (fun f2 h => (hsel f2 h).2)

end

theorem relStep_goodS {T : Table} {C : Nat → Prop} {S : Stk → Prop} (hC : Region T C S) {rec : Rec}
    {asm : Asm} {st : Stk} {a b : Nat} {ta tb : Ty}
    (ha : C a) (hb : C b) (hst : S st) (hta : T.types[a]? = some ta)
    (htb : T.types[b]? = some tb) (hrec : RecGoodS T C S rec) :
    GoodS T C (relStep Variant.current T .all rec asm st a b ta tb) asm (fun A => Der T A a b st) := by
  have hfa := hC.isRFO ha hta
  have hfb := hC.isRFO hb htb
  have harm := relStep_arm Variant.current T .all rec asm st a b ta tb
  generalize relStep Variant.current T .all rec asm st a b ta tb = r at harm
  cases harm with
  | never_left => exact GoodS.const_true (.never_left hta)
  | integer => exact GoodS.const_true (.atom hta htb .integer)
  | binary => exact GoodS.const_true (.atom hta htb .binary)
  | reference => exact GoodS.const_true (.atom hta htb .reference)
  | resource r1 r2 =>
    exact GoodS.const (fun h => .atom hta (of_decide_eq_true h ▸ htb) (.resource _))
  | cycle_cycle d1 d2 =>
    rw [if_neg (fun h => Bool.false_ne_true h.1)]
    exact cycleLeft_goodS hC ha hb hst hrec hta
  | cycle_left => exact cycleLeft_goodS hC ha hb hst hrec hta
  | cycle_right => exact cycleRight_goodS hC ha hb hst hrec htb
  | union_left => exact unionLeft_goodS hC ha hb hst hrec hta
  | union_right => exact unionRight_goodS hC ha hb hst hrec htb
  | tuple_tuple => exact tupleTuple_goodS hC ha hb hst hrec hta htb
  | tuple_part => exact tuplePart_goodS hC ha hb hst hrec hta htb
  | part_part => exact partPart_goodS hC ha hb hst hrec hta htb
  | part_tuple | other => exact GoodS.const_false
  | var_left | process | callable => cases hfa
  | var_right => cases hfb

theorem checkRel_goodS {T : Table} {C : Nat → Prop} {S : Stk → Prop} (hC : Region T C S) :
    ∀ (n : Nat), RecGoodS T C S (checkRel T .all n) := by
  intro n
  induction n with
  | zero => exact fun _ _ _ _ _ _ _ => nofun
  | succ n ih =>
    intro asm st x y hx hy hst
    unfold checkRel checkRelV
    split
    · rename_i heq
      obtain ⟨heq, hctx⟩ := heq
      subst heq
      exact GoodS.const_true (.refl (by simpa [sameContext, Variant.current] using hctx))
    · split
      · rename_i hc
        have hmem : (x, y, st) ∈ asm := by simpa [akey, Variant.current] using hc
        exact GoodS.const_true (.hyp hmem)
      · split
        · rename_i ta tb hta htb
          exact relStep_goodS hC hx hy hst hta htb ih
        · exact GoodS.const_false

theorem run_supported (T : Table) (fuel : Nat) (a b : Nat) (ha : RFO T a) (hb : RFO T b) (asm' : Asm)
    (h : checkRel T .all fuel [] {} a b = some (true, asm')) :
    (∀ p ∈ asm', Supp T (RFO T) (· ∈ asm') p) ∧ Der T (· ∈ asm') a b {} := by
  have := checkRel_goodS (Region.rfo T) fuel [] {} a b ha hb ⟨nofun, nofun⟩ true asm' h
  exact ⟨fun p hp => (this.2.1 p hp).elim (fun h => nomatch h) id, this.2.2 rfl⟩

end QM.Types
