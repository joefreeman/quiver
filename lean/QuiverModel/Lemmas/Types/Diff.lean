import QuiverModel.Lemmas.Types.Meet
import QuiverModel.Lemmas.Types.Rank
/-
`complement` (narrowing.rs `compute_complement` / `subtract_one`) never drops a value on first-order
types: a value of the original type that is not a value of the narrowed type is a
value of the result, read in the table the function returns. Uses the soundness of assignability
(for the `is_compatible(a, b) ⇒ []` shortcut) and the label comparison of the tuple arm (e0ad7de).
-/
namespace QM.Types

theorem anyC_false {f : List Nat → Nat → Option (Bool × List Nat)} :
    ∀ (l seen : List Nat) (r : Bool) (seen' : List Nat),
      (∀ c ∈ l, ∀ s r s', f s c = some (r, s') → r = false) →
      anyC f l seen = some (r, seen') → r = false := by
  intro l
  induction l with
  | nil =>
    intro seen r seen' _ h
    cases h
    rfl
  | cons c cs ih =>
    intro seen r seen' hf h
    unfold anyC at h
    split at h
    · cases h
    · rename_i s1 hc
      cases hf c (by simp) seen true s1 hc
    · exact ih _ r seen' (fun c' hc' => hf c' (by simp [hc'])) h

theorem containsCycleAux_fo (vr : Variant) {T : Table} :
    ∀ (fuel : Nat) (seen : List Nat) (id : Nat) (r : Bool) (seen' : List Nat), FO T id →
      containsCycleAux vr T fuel seen id = some (r, seen') → r = false := by
  intro fuel
  induction fuel with
  | zero => intro seen id r seen' _ h; exact nomatch h
  | succ fuel ih =>
    intro seen id r seen' hfo h
    unfold containsCycleAux at h
    split at h
    · cases h; rfl
    · obtain ⟨ty, hty, hisfo, _, hch⟩ := hfo.unfold
      simp only [hty] at h
      have children : ∀ (l : List Nat), (∀ c ∈ l, FO T c) → ∀ s r s',
          anyC (containsCycleAux vr T fuel) l s = some (r, s') → r = false :=
        fun l hl s r s' hh => anyC_false l s r s' (fun c hc s0 r0 s0' h0 => ih s0 c r0 s0' (hl c hc) h0) hh
      cases ty with
      | integer | binary | reference | resource _ => cases h; rfl
      | tuple tid =>
        obtain ⟨info, hinfo, hf⟩ := hfo.tuple hty
        simp only [hinfo] at h
        exact children _ (fun c hc => by
          obtain ⟨f, hf', rfl⟩ := List.mem_map.mp hc
          exact hf f hf') _ _ _ h
      | part _ _ | union _ => exact children _ hch _ _ _ h
      | callable | cycle | process | «variable» => cases hisfo

theorem cyclicPair_fo (vr : Variant) {T : Table} {a b : Nat} (ha : FO T a) (hb : FO T b) {c : Bool}
    (h : cyclicPair vr T a b = some c) : c = false := by
  unfold cyclicPair containsCycle at h
  cases ha' : containsCycleAux vr T (T.types.length + 2) [] a with
  | none => simp [ha'] at h
  | some pa =>
    obtain ⟨ra, sa⟩ := pa
    have := containsCycleAux_fo vr _ _ _ _ _ ha ha'
    subst this
    simp only [ha', Option.map_some, Bool.false_eq_true, if_false] at h
    cases hb' : containsCycleAux vr T (T.types.length + 2) [] b with
    | none => simp [hb'] at h
    | some pb =>
      obtain ⟨rb, sb⟩ := pb
      have := containsCycleAux_fo vr _ _ _ _ _ hb hb'
      subst this
      simp only [hb', Option.map_some, Option.some.injEq] at h
      exact h.symm

/-- what `subtract_one` guarantees about its result `(T', out)` for operands `a`, `b` of `T` -/
def DiffOk (T : Table) (a b : Nat) (res : LRes) : Prop :=
  ∀ T' out, res = some (T', out) →
    Table.Sub T T' ∧ (∀ p ∈ out, FO T' p) ∧
      ∀ v, inh T [] a v → ¬ inh T [] b v → ∃ p ∈ out, inh T' [] p v

/-- the recursive call (`compute_complement`) is good on first-order operands of any table -/
def RecDiff (rec : Table → Nat → Nat → TRes) : Prop :=
  ∀ T a b, FO T a → FO T b → ∀ T' r, rec T a b = some (T', r) →
    Table.Sub T T' ∧ FO T' r ∧ ∀ v, inh T [] a v → ¬ inh T [] b v → inh T' [] r v

theorem DiffOk.keep {T : Table} {a b : Nat} (ha : FO T a) : DiffOk T a b (some (T, [a])) := by
  intro T' out h
  cases h
  exact ⟨Table.Sub.refl _, fun p hp => by simp at hp; exact hp ▸ ha, fun v hav _ => ⟨a, by simp, hav⟩⟩

theorem DiffOk.of_sub {T T0 : Table} {a b : Nat} {res : LRes} (hsub : Table.Sub T T0) (ha : FO T a)
    (hb : FO T b) (h : DiffOk T0 a b res) : DiffOk T a b res := by
  intro T' out hr
  obtain ⟨h1, h2, h3⟩ := h T' out hr
  exact ⟨hsub.trans h1, h2, fun v hav hbv =>
    h3 v ((ha.inh_sub hsub [] [] v).mp hav) (fun hb0 => hbv ((hb.inh_sub hsub [] [] v).mpr hb0))⟩

theorem setFieldType_split (pre : List (Option Name × Nat)) (p : Option Name × Nat)
    (rest : List (Option Name × Nat)) (fc : Nat) :
    setFieldType (pre ++ p :: rest) pre.length fc = pre ++ (p.1, fc) :: rest := by
  unfold setFieldType
  have : (pre ++ p :: rest)[pre.length]? = some p := by simp
  rw [this]
  simp

/-- the field loop of the tuple arm: a value list that fits `fields1` but fails `s2` at or after
position `i` on a field TYPE (labels agree) is in one of the pieces -/
theorem subtractFields_ok {rec : Table → Nat → Nat → TRes} (hrec : RecDiff rec) (never : Nat)
    (name : Option Name) :
    ∀ (s1 s2 pre : List (Option Name × Nat)) (T : Table), s1.length = s2.length →
      labelsDiffer s1 s2 = false →
      (∀ f ∈ pre ++ s1, FO T f.2) → (∀ f ∈ s2, FO T f.2) → T.types[never]? = some (.union []) →
      ∀ T' out, subtractFields rec never name (pre ++ s1) T pre.length (s1.zip s2) = some (T', out) →
        Table.Sub T T' ∧ (∀ p ∈ out, FO T' p) ∧
          ∀ qpre qsuf, FieldsRel (inh T []) pre qpre →
            FieldsRel (inh T []) s1 qsuf → ¬ FieldsRel (inh T []) s2 qsuf →
            ∃ p ∈ out, inh T' [] p (.tup name (VFields.ofList (qpre ++ qsuf))) := by
  intro s1
  induction s1 with
  | nil =>
    intro s2 pre T hlen _ _ _ _ T' out h
    cases s2 with
    | cons _ _ => simp at hlen
    | nil =>
      cases h
      refine ⟨Table.Sub.refl _, by simp, fun qpre qsuf _ h1 h2 => ?_⟩
      cases h1
      exact absurd FieldsRel.nil h2
  | cons p1 r1 ih =>
    intro s2 pre T hlen hlab hf1 hf2 hnever T' out h
    cases s2 with
    | nil => simp at hlen
    | cons p2 r2 =>
      simp only [labelsDiffer, List.zip_cons_cons, List.any_cons, Bool.or_eq_false_iff,
        decide_eq_false_iff_not, ne_eq, Decidable.not_not] at hlab
      obtain ⟨hl12, hlabr⟩ := hlab
      simp only [List.zip_cons_cons] at h
      unfold subtractFields at h
      have hfp1 : FO T p1.2 := hf1 p1 (by simp)
      have hfp2 : FO T p2.2 := hf2 p2 (by simp)
      split at h
      · cases h
      rename_i T1 fc hr
      obtain ⟨hsub1, hfofc, hkeepfc⟩ := hrec T p1.2 p2.2 hfp1 hfp2 T1 fc hr
      have hnever1 := hsub1.types _ _ hnever
      -- the rest of the loop runs with `pre ++ [p1]` as prefix
      have hpre : pre ++ p1 :: r1 = (pre ++ [p1]) ++ r1 := by simp
      have hlenpre : pre.length + 1 = (pre ++ [p1]).length := by simp
      have move : ∀ {Ta Tb : Table} (_ : Table.Sub Ta Tb) (l : List (Option Name × Nat)),
          (∀ f ∈ l, FO Ta f.2) → ∀ qs, FieldsRel (inh Ta []) l qs → FieldsRel (inh Tb []) l qs :=
        fun hs l hl qs => (FieldsRel.inh_sub hs hl qs).mp
      have moveNot : ∀ {Ta Tb : Table} (_ : Table.Sub Ta Tb) (l : List (Option Name × Nat)),
          (∀ f ∈ l, FO Ta f.2) → ∀ qs, ¬ FieldsRel (inh Ta []) l qs → ¬ FieldsRel (inh Tb []) l qs :=
        fun hs l hl qs hq hq' => hq ((FieldsRel.inh_sub hs hl qs).mpr hq')
      -- the common continuation: what the rest of the loop gives for a later failing position; for any table `Tk`,
      -- since the loop goes on in `T1` when this position yields no piece and in the table with the piece otherwise
      have later : ∀ (Tk : Table) (_ : Table.Sub T1 Tk) (_ : Tk.types[never]? = some (.union [])) T'' out'',
          subtractFields rec never name (pre ++ p1 :: r1) Tk (pre.length + 1) (r1.zip r2) = some (T'', out'') →
          Table.Sub Tk T'' ∧ (∀ p ∈ out'', FO T'' p) ∧
            ∀ qpre q qr, FieldsRel (inh T []) pre qpre →
              p1.1 = q.1 → inh T [] p1.2 q.2 → FieldsRel (inh T []) r1 qr →
              ¬ FieldsRel (inh T []) r2 qr →
              ∃ p ∈ out'', inh T'' [] p (.tup name (VFields.ofList (qpre ++ q :: qr))) := by
        intro Tk hsubk hneverk T'' out'' hloop
        rw [hpre, hlenpre] at hloop
        have hsubTk := hsub1.trans hsubk
        obtain ⟨hs, hfo, hk⟩ := ih r2 (pre ++ [p1]) Tk (by simpa using hlen) hlabr
          (fun f hf => (hf1 f (by rw [hpre]; exact hf)).sub hsubTk)
          (fun f hf => (hf2 f (by simp [hf])).sub hsubTk) hneverk T'' out'' hloop
        refine ⟨hs, hfo, fun qpre q qr hpreq hlq hvq hr1 hr2 => ?_⟩
        have := hk (qpre ++ [q]) qr
          (move hsubTk _ (fun f hf => hf1 f (by
            rcases List.mem_append.mp hf with h | h
            · exact List.mem_append.mpr (Or.inl h)
            · simp at h; subst h; simp)) _
            (FieldsRel.append hpreq (.cons hlq hvq .nil)))
          (move hsubTk _ (fun f hf => hf1 f (by simp [hf])) _ hr1)
          (moveNot hsubTk _ (fun f hf => hf2 f (by simp [hf])) _ hr2)
        simpa using this
      split at h
      · -- the field difference is never: no value fails at this position
        rename_i hfcn
        obtain ⟨hs, hfo, hk⟩ := later T1 (Table.Sub.refl _) hnever1 T' out h
        refine ⟨hsub1.trans hs, hfo, fun qpre qsuf hpreq h1 h2 => ?_⟩
        cases h1 with
        | cons ha hb hc =>
          rename_i q qr
          by_cases hq2 : inh T [] p2.2 q.2
          · exact hk qpre q qr hpreq ha hb hc (fun hr2 => h2 (.cons (hl12 ▸ ha) hq2 hr2))
          · have := hkeepfc q.2 hb hq2
            rw [hfcn] at this
            exact absurd this (not_inh_never hnever1 _ _)
      · -- a piece for this position
        obtain ⟨hsub2, hget2⟩ := registerTuple_spec T1 name (setFieldType (pre ++ p1 :: r1) pre.length fc)
        obtain ⟨hsub3, hget3⟩ := registerType_spec
          (T1.registerTuple name (setFieldType (pre ++ p1 :: r1) pre.length fc)).1
          (.tuple (T1.registerTuple name (setFieldType (pre ++ p1 :: r1) pre.length fc)).2)
        dsimp only at h
        generalize hTk : ((T1.registerTuple name (setFieldType (pre ++ p1 :: r1) pre.length fc)).1.registerType
          (.tuple (T1.registerTuple name (setFieldType (pre ++ p1 :: r1) pre.length fc)).2)) = reg at h hsub3 hget3
        have hsub1k : Table.Sub T1 reg.1 := hsub2.trans hsub3
        have hneverk := hsub1k.types _ _ hnever1
        split at h
        · cases h
        rename_i T3 out3 hloop
        cases h
        obtain ⟨hs, hfo, hk⟩ := later reg.1 hsub1k hneverk T' out3 hloop
        have hsubT' : Table.Sub T T' := hsub1.trans (hsub1k.trans hs)
        have hget2'0 := (hsub3.trans hs).tuples _ _ hget2
        have hget3' := hs.types _ _ hget3
        have hget2' : T'.tuples[(T1.registerTuple name (setFieldType (pre ++ p1 :: r1) pre.length fc)).2]? =
            some ⟨name, pre ++ (p1.1, fc) :: r1⟩ := by
          rw [← setFieldType_split pre p1 r1 fc]; exact hget2'0
        have hpiecefo : FO T' reg.2 := FO.of_tuple hget3' hget2' (fun f hf => by
          rcases List.mem_append.mp hf with h | h
          · exact (hf1 f (List.mem_append.mpr (Or.inl h))).sub hsubT'
          · rcases List.mem_cons.mp h with rfl | h
            · exact hfofc.sub (hsub1k.trans hs)
            · exact (hf1 f (by simp [h])).sub hsubT')
        refine ⟨hsub1.trans (hsub1k.trans hs), ?_, fun qpre qsuf hpreq h1 h2 => ?_⟩
        · intro p hp
          rcases List.mem_cons.mp hp with rfl | hp
          · exact hpiecefo
          · exact hfo p hp
        · cases h1 with
          | cons ha hb hc =>
            rename_i q qr
            by_cases hq2 : inh T [] p2.2 q.2
            · obtain ⟨p, hp, hpv⟩ := hk qpre q qr hpreq ha hb hc
                (fun hr2 => h2 (.cons (hl12 ▸ ha) hq2 hr2))
              exact ⟨p, List.mem_cons_of_mem _ hp, hpv⟩
            · -- the value is in the piece built for this position
              refine ⟨reg.2, by simp, ?_⟩
              refine (inh_tuple hget3' hget2').mpr ⟨name, _, rfl, rfl, ?_⟩
              rw [VFields.toList_ofList]
              refine FieldsRel.append (move hsubT' _ (fun f hf => hf1 f (List.mem_append.mpr (Or.inl hf))) _ hpreq) ?_
              refine .cons ha ?_ (move hsubT' _ (fun f hf => hf1 f (by simp [hf])) _ hc)
              exact (hfofc.inh_sub (hsub1k.trans hs) [] [] _).mp (hkeepfc q.2 hb hq2)

theorem diffTuple_ok (vr : Variant) (hvr : vr.narrowIgnoresLabels = false)
    {rec : Table → Nat → Nat → TRes} (hrec : RecDiff rec) {T : Table} {a b never id1 id2 : Nat}
    (ha : FO T a) (hb : FO T b) (hta : T.types[a]? = some (.tuple id1))
    (htb : T.types[b]? = some (.tuple id2)) (hnever : T.types[never]? = some (.union [])) :
    DiffOk T a b (diffTuple vr rec T never a id1 id2) := by
  obtain ⟨i1, h1, hf1⟩ := ha.tuple hta
  obtain ⟨i2, h2, hf2⟩ := hb.tuple htb
  unfold diffTuple
  simp only [h1, h2, hvr, Bool.not_false, Bool.true_and]
  split
  · exact DiffOk.keep ha
  · rename_i hok
    split
    · exact DiffOk.keep ha
    · rename_i hlab
      have hlen : i1.fields.length = i2.fields.length := Decidable.not_not.mp fun h => hok (.inr h)
      have hname : i1.name = i2.name := Decidable.not_not.mp fun h => hok (.inl h)
      have hlab' : labelsDiffer i1.fields i2.fields = false := by simpa using hlab
      intro T' out h
      obtain ⟨hs, hfo, hk⟩ := subtractFields_ok hrec never i1.name i1.fields i2.fields [] T hlen hlab'
        (by simpa using hf1) hf2 hnever T' out (by simpa using h)
      refine ⟨hs, hfo, fun v hav hbv => ?_⟩
      obtain ⟨name, fs, rfl, hn1, hr1⟩ := (inh_tuple hta h1).mp hav
      have hr2 : ¬ FieldsRel (inh T []) i2.fields fs.toList := fun hr2 =>
        hbv ((inh_tuple htb h2).mpr ⟨name, fs, rfl, hn1.trans hname, hr2⟩)
      obtain ⟨p, hp, hpv⟩ := hk [] fs.toList .nil hr1 hr2
      refine ⟨p, hp, ?_⟩
      simpa [VFields.ofList_toList, hn1] using hpv

theorem isCycleTy_of_isFO {ty : Ty} (h : ty.isFO = true) : isCycleTy ty = false := by
  cases ty <;> first | rfl | contradiction

/-- `subtract_one` is good on first-order operands when the tuple arm compares labels (`hvr`: the code
since e0ad7de) -/
theorem subtractOne_ok (vr : Variant) (hvr : vr.narrowIgnoresLabels = false) (rf : Nat)
    {rec : Table → Nat → Nat → TRes} (hrec : RecDiff rec) (T : Table) (a b : Nat) (ha : FO T a)
    (hb : FO T b) : DiffOk T a b (subtractOne vr rf rec T a b) := by
  have nothing : ∀ {T : Table} {a b : Nat}, (∀ v, inh T [] a v → inh T [] b v) → DiffOk T a b (some (T, [])) := by
    intro T a b hsub T' out h
    cases h
    exact ⟨Table.Sub.refl _, nofun, fun v hav hbv => absurd (hsub v hav) hbv⟩
  unfold subtractOne
  split
  · rename_i hab
    exact hab ▸ nothing (fun _ h => h)
  · obtain ⟨ta, hta, hfa, _⟩ := ha.unfold
    obtain ⟨tb, htb, hfb, _⟩ := hb.unfold
    simp only [hta, htb, isCycleTy_of_isFO hfa, isCycleTy_of_isFO hfb, Bool.or_false, Bool.false_eq_true,
      if_false]
    cases hcp : cyclicPair vr T a b with
    | none => exact nofun
    | some cyclic =>
      cases cyclicPair_fo vr ha hb hcp
      simp only [diffShortcut, Bool.false_eq_true, if_false]
      cases hic : isCompatible T rf a b with
      | none => exact nofun
      | some c =>
        cases c with
        | true => exact nothing (fun v => isCompatible_valid_fo ha hb hic [] [] v)
        | false =>
          cases hov : typesOverlap T rf a b with
          | none => exact nofun
          | some o =>
            cases o with
            | false => exact DiffOk.keep ha
            | true =>
              obtain ⟨hsub0, hnever, _, _⟩ := never_spec T
              refine DiffOk.of_sub hsub0 ha hb ?_
              dsimp only
              split
              · exact diffTuple_ok vr hvr hrec (ha.sub hsub0) (hb.sub hsub0) (hsub0.types _ _ hta)
                  (hsub0.types _ _ htb) hnever
              · exact DiffOk.keep (ha.sub hsub0)

section
variable {sub : Table → Nat → Nat → LRes}
  (hsubok : ∀ T a b, FO T a → FO T b → DiffOk T a b (sub T a b))
include hsubok

theorem subtractPieces_ok (nv : Nat) :
    ∀ (pieces : List Nat) (T : Table), (∀ p ∈ pieces, FO T p) → FO T nv →
      ∀ T' out, subtractPieces sub nv T pieces = some (T', out) →
        Table.Sub T T' ∧ (∀ p ∈ out, FO T' p) ∧
          ∀ v, (∃ p ∈ pieces, inh T [] p v) → ¬ inh T [] nv v →
            ∃ p ∈ out, inh T' [] p v := by
  intro pieces
  induction pieces with
  | nil =>
    intro T _ _ T' out h
    cases h
    exact ⟨Table.Sub.refl _, by simp, fun v hp _ => by obtain ⟨p, hp, _⟩ := hp; simp at hp⟩
  | cons piece rest ih =>
    intro T hps hnv T' out h
    unfold subtractPieces at h
    split at h
    · cases h
    rename_i T1 out1 hs
    obtain ⟨hsub1, hfo1, hkeep1⟩ := hsubok T piece nv (hps piece (by simp)) hnv T1 out1 hs
    split at h
    · cases h
    rename_i T2 out2 hl
    obtain ⟨hsub2, hfo2, hkeep2⟩ := ih T1 (fun p hp => (hps p (by simp [hp])).sub hsub1) (hnv.sub hsub1)
      T2 out2 hl
    cases h
    refine ⟨hsub1.trans hsub2, ?_, fun v hp hnvv => ?_⟩
    · intro p hp
      rcases List.mem_append.mp hp with hp | hp
      · exact (hfo1 p hp).sub hsub2
      · exact hfo2 p hp
    · obtain ⟨p, hp, hpv⟩ := hp
      rcases List.mem_cons.mp hp with rfl | hp
      · obtain ⟨q, hq, hqv⟩ := hkeep1 v hpv hnvv
        exact ⟨q, List.mem_append.mpr (Or.inl hq), ((hfo1 q hq).inh_sub hsub2 [] [] v).mp hqv⟩
      · obtain ⟨q, hq, hqv⟩ := hkeep2 v
          ⟨p, hp, ((hps p (by simp [hp])).inh_sub hsub1 [] [] v).mp hpv⟩
          (fun h1 => hnvv ((hnv.inh_sub hsub1 [] [] v).mpr h1))
        exact ⟨q, List.mem_append.mpr (Or.inr hq), hqv⟩

theorem complementLoop_ok :
    ∀ (nvs pieces : List Nat) (T : Table), (∀ p ∈ pieces, FO T p) → (∀ n ∈ nvs, FO T n) →
      ∀ T' out, complementLoop sub T pieces nvs = some (T', out) →
        Table.Sub T T' ∧ (∀ p ∈ out, FO T' p) ∧
          ∀ v, (∃ p ∈ pieces, inh T [] p v) → (∀ n ∈ nvs, ¬ inh T [] n v) →
            ∃ p ∈ out, inh T' [] p v := by
  intro nvs
  induction nvs with
  | nil =>
    intro pieces T hps _ T' out h
    cases h
    exact ⟨Table.Sub.refl _, hps, fun v hp _ => hp⟩
  | cons nv rest ih =>
    intro pieces T hps hns T' out h
    unfold complementLoop at h
    split at h
    · cases h
    rename_i T1 next hs
    obtain ⟨hsub1, hfo1, hkeep1⟩ := subtractPieces_ok hsubok nv pieces T hps (hns nv (by simp)) T1 next hs
    obtain ⟨hsub2, hfo2, hkeep2⟩ := ih next T1 hfo1 (fun n hn => (hns n (by simp [hn])).sub hsub1) T' out h
    refine ⟨hsub1.trans hsub2, hfo2, fun v hp hn => ?_⟩
    exact hkeep2 v (hkeep1 v hp (hn nv (by simp)))
      (fun n hnm h1 => hn n (by simp [hnm]) (((hns n (by simp [hnm])).inh_sub hsub1 [] [] v).mpr h1))

end

/-- **`compute_complement` never drops a value** (first-order operands, any table, any fuels;
variants of the narrowing code that compare field labels) -/
theorem complement_ok (vr : Variant) (hvr : vr.narrowIgnoresLabels = false) (rf : Nat) :
    ∀ (fuel : Nat), RecDiff (complement vr rf fuel) := by
  intro fuel
  induction fuel with
  | zero => intro T a b _ _ T' r h; exact nomatch h
  | succ fuel ih =>
    intro T a b ha hb T' r h
    unfold complement at h
    obtain ⟨havfo, havsem⟩ := getVariants_sem ha
    obtain ⟨hbvfo, hbvsem⟩ := getVariants_sem hb
    simp only at h
    split at h
    · cases h
    rename_i T1 out hl
    obtain ⟨hsub1, hfo1, hkeep1⟩ := complementLoop_ok
      (fun T a b ha hb => subtractOne_ok vr hvr rf ih T a b ha hb)
      (getVariants T b) (getVariants T a) T havfo hbvfo T1 out hl
    obtain ⟨hsub2, hfo2⟩ := unionIds_sub_fo T1 out hfo1
    obtain ⟨rfl, rfl⟩ := Prod.mk.inj (Option.some.inj h)
    refine ⟨hsub1.trans hsub2, hfo2, fun v hav hbv => ?_⟩
    obtain ⟨p, hp, hpv⟩ := hkeep1 v ((havsem v).mp hav)
      (fun n hn hnv => hbv ((hbvsem v).mpr ⟨n, hn, hnv⟩))
    exact (unionIds_sem T1 out hfo1 v).mpr ⟨p, hp, hpv⟩

end QM.Types
