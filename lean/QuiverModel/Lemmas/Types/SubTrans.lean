import QuiverModel.Lemmas.Types.SubMain
/-
`Sub` is transitive (no hypothesis on the table or the types: the fuel of the two derivations is the
measure). With `checkRel_sub` / `checkRel_comp` this gives transitivity of the checker's verdicts on
first-order types.
-/
namespace QM.Types

theorem zip_trans {α β γ : Type} (l1 : List α) (l2 : List β) (l3 : List γ) (h12 : l1.length = l2.length)
    (p : α × γ) (hp : p ∈ l1.zip l3) : ∃ q, (p.1, q) ∈ l1.zip l2 ∧ (q, p.2) ∈ l2.zip l3 := by
  obtain ⟨j, h1, h3⟩ := mem_zip_iff.mp (show (p.1, p.2) ∈ l1.zip l3 from hp)
  have hj : j < l2.length := h12 ▸ (List.getElem?_eq_some_iff.mp h1).1
  exact ⟨l2[j], mem_zip_iff.mpr ⟨j, h1, List.getElem?_eq_getElem hj⟩, mem_zip_iff.mpr ⟨j, List.getElem?_eq_getElem hj, h3⟩⟩

theorem nameConflict_trans {n1 n2 n3 : Option Name}
    (h12 : nameConflict Variant.current .all n1 n2 = false)
    (h23 : nameConflict Variant.current .all n2 n3 = false) :
    nameConflict Variant.current .all n1 n3 = false :=
  nameConflict_eq_false.mpr (name_part_part h23 (nameConflict_eq_false.mp h12))

theorem subStruct_trans {T : Table} {r1 r2 : Nat → Nat → Bool} {a c : Nat} {ta tb tc : Ty}
    (hta : T.types[a]? = some ta) (htc : T.types[c]? = some tc)
    (ih : ∀ x y z, r1 x y = true → r2 y z = true → Sub T x z)
    (s1 : subStruct T r1 ta tb = true) (s2 : subStruct T r2 tb tc = true) : Sub T a c := by
  cases StructArm.of_true s1 with
  | integer => cases StructArm.of_true s2; exact Sub.same_atom hta htc .integer
  | binary => cases StructArm.of_true s2; exact Sub.same_atom hta htc .binary
  | reference => cases StructArm.of_true s2; exact Sub.same_atom hta htc .reference
  | resource ra rb =>
    cases StructArm.of_true s2
    cases of_decide_eq_true s1
    cases of_decide_eq_true s2
    exact Sub.same_atom hta htc (.resource _)
  | tuple_tuple i1 i2 =>
    obtain ⟨info1, info2, h1, h2, hn12, hl12, hz12⟩ := subStruct_tuple_tuple.mp s1
    cases StructArm.of_true s2 with
    | tuple_tuple _ i3 =>
      obtain ⟨_, info3, h2', h3, hn23, hl23, hz23⟩ := subStruct_tuple_tuple.mp s2
      cases h2.symm.trans h2'
      refine (Sub.tuple_tuple_iff hta htc h1 h3).mpr ⟨hn12.trans hn23, hl12.trans hl23, fun p hp => ?_⟩
      obtain ⟨q, hq1, hq2⟩ := zip_trans _ _ _ hl12 p hp
      exact ⟨(hz12 _ hq1).1.trans (hz23 _ hq2).1, ih _ _ _ (hz12 _ hq1).2 (hz23 _ hq2).2⟩
    | tuple_part _ pn pfs =>
      obtain ⟨_, h2', hname, hf⟩ := subStruct_tuple_part.mp s2
      cases h2.symm.trans h2'
      refine (Sub.tuple_part_iff hta htc h1).mpr ⟨hn12 ▸ hname, fun pf hpf => ?_⟩
      obtain ⟨cf2, hcf2, hl2, hr2⟩ := hf pf hpf
      obtain ⟨cf1, hcf1⟩ := exists_zip_of_mem_right hl12 hcf2
      exact ⟨cf1, (List.of_mem_zip hcf1).1, (hz12 _ hcf1).1.trans hl2, ih _ _ _ (hz12 _ hcf1).2 hr2⟩
  | tuple_part i1 pn1 pfs1 =>
    cases StructArm.of_true s2 with
    | part_part _ _ pn2 pfs2 =>
      obtain ⟨ci, h1, hname1, hf1⟩ := subStruct_tuple_part.mp s1
      obtain ⟨hname2, hf2⟩ := subStruct_part_part.mp s2
      refine (Sub.tuple_part_iff hta htc h1).mpr ⟨?_, fun f2 hf2mem => ?_⟩
      · rintro ⟨hsome, hne⟩
        rcases name_part_part hname2 (name_tuple_part hname1 rfl) with h | h
        · rw [h] at hsome; cases hsome
        · exact hne h
      · obtain ⟨f1, hfind, hr⟩ := hf2 f2 hf2mem
        have hl : f1.1 = f2.1 := by simpa using List.find?_some hfind
        obtain ⟨cf, hcf, hcl, hr1⟩ := hf1 f1 (List.mem_of_find?_eq_some hfind)
        exact ⟨cf, hcf, hl ▸ hcl, ih _ _ _ hr1 hr⟩
  | part_part n1 fs1 n2 fs2 =>
    cases StructArm.of_true s2 with
    | part_part _ _ n3 fs3 =>
      obtain ⟨hname1, hf1⟩ := subStruct_part_part.mp s1
      obtain ⟨hname2, hf2⟩ := subStruct_part_part.mp s2
      refine (Sub.part_part_iff hta htc).mpr ⟨nameConflict_trans hname1 hname2, fun f3 hf3 => ?_⟩
      obtain ⟨f2, hfind2, h23⟩ := hf2 f3 hf3
      have hl2 : f2.1 = f3.1 := by simpa using List.find?_some hfind2
      obtain ⟨f1, hfind1, h12⟩ := hf1 f2 (List.mem_of_find?_eq_some hfind2)
      exact ⟨f1, hl2 ▸ hfind1, ih _ _ _ h12 h23⟩

theorem Sub.trans_aux (T : Table) : ∀ (k n1 n2 a b c : Nat), n1 + n2 ≤ k →
    subB T n1 a b = true → subB T n2 b c = true → Sub T a c := by
  intro k
  induction k with
  | zero =>
    intro n1 n2 a b c hk h1 _
    have : n1 = 0 := by omega
    subst this
    exact nomatch h1
  | succ k ih =>
    intro n1 n2 a b c hk h1 h2
    cases n1 with
    | zero => exact nomatch h1
    | succ m1 =>
      cases n2 with
      | zero => exact nomatch h2
      | succ m2 =>
        have hab : Sub T a b := ⟨m1 + 1, h1⟩
        have hbc : Sub T b c := ⟨m2 + 1, h2⟩
        obtain ⟨⟨ta, hta⟩, ⟨tb, htb⟩⟩ := hab.in_table
        obtain ⟨_, ⟨tc, htc⟩⟩ := hbc.in_table
        have h1' := h1
        have h2' := h2
        unfold subB at h1' h2'
        simp only [hta, htb] at h1'
        simp only [htb, htc] at h2'
        cases hua : ta.isUnion with
        | true =>
          cases ta <;> simp [Ty.isUnion] at hua
          rename_i vs
          simp only [subStep, List.all_eq_true] at h1'
          exact (Sub.union_left_iff hta htc).mpr
            (fun v hv => ih m1 (m2 + 1) v b c (by omega) (h1' v hv) h2)
        | false =>
          cases hub : tb.isUnion with
          | true =>
            cases tb <;> simp [Ty.isUnion] at hub
            rename_i ws
            rw [subStep_union_right hua] at h1'
            simp only [List.any_eq_true] at h1'
            obtain ⟨w, hw, h1w⟩ := h1'
            simp only [subStep, List.all_eq_true] at h2'
            exact ih m1 m2 a w c (by omega) h1w (h2' w hw)
          | false =>
            cases huc : tc.isUnion with
            | true =>
              cases tc <;> simp [Ty.isUnion] at huc
              rename_i us
              rw [subStep_union_right hub] at h2'
              simp only [List.any_eq_true] at h2'
              obtain ⟨u, hu, h2u⟩ := h2'
              have : Sub T a u := ih (m1 + 1) m2 a b u (by omega) h1 h2u
              exact (Sub.union_right_iff hta hua htc).mpr ⟨u, hu, this⟩
            | false =>
              rw [subStep_struct hua hub] at h1'
              rw [subStep_struct hub huc] at h2'
              exact subStruct_trans hta htc
                (fun x y z hxy hyz => ih m1 m2 x y z (by omega) hxy hyz) h1' h2'

theorem Sub.trans {T : Table} {a b c : Nat} (hab : Sub T a b) (hbc : Sub T b c) : Sub T a c := by
  obtain ⟨n1, h1⟩ := hab
  obtain ⟨n2, h2⟩ := hbc
  exact Sub.trans_aux T (n1 + n2) n1 n2 a b c (Nat.le_refl _) h1 h2

end QM.Types
