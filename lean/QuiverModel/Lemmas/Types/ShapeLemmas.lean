import QuiverModel.Core.Types.Shape
import QuiverModel.Lemmas.Types.InhLemmas
/-
Consequences of the well-formedness classes: in an ordered table children have smaller ids; a type is
first-order exactly when it unfolds to first-order children (`FO.unfold`, `FO.of_children`; `RFO.unfold` for the
recursive first-order types); what a class
of ids that contains the children of its members gives per constructor (`Hereditary`); induction over
first-order types by kind (`FO.induction`).
-/
namespace QM.Types

theorem orderedFrom_spec (T : Table) :
    ∀ (l : List Ty) (i : Nat), orderedFrom T i l = true →
      ∀ k ty, l[k]? = some ty → (∀ c ∈ ty.children T, c < i + k) ∧ ty.tupleOk T = true := by
  intro l
  induction l with
  | nil => intro i _ k ty h; simp at h
  | cons t rest ih =>
    intro i h k ty hk
    simp only [orderedFrom, Bool.and_eq_true, List.all_eq_true, decide_eq_true_eq] at h
    cases k with
    | zero =>
      simp only [List.getElem?_cons_zero, Option.some.injEq] at hk
      subst hk
      exact ⟨fun c hc => by simpa using h.1.1 c hc, h.1.2⟩
    | succ k =>
      simp only [List.getElem?_cons_succ] at hk
      have := ih (i + 1) h.2 k ty hk
      exact ⟨fun c hc => by have := this.1 c hc; omega, this.2⟩

theorem ordered_children {T : Table} (h : Ordered T) {t : Nat} {ty : Ty} (hty : T.types[t]? = some ty) :
    ∀ c ∈ ty.children T, c < t := by
  have := orderedFrom_spec T T.types 0 h t ty hty
  intro c hc
  simpa using this.1 c hc

theorem Ty.mem_children_tuple {T : Table} {i : Nat} {info : TupleInfo} (hi : T.tuples[i]? = some info)
    {f : Option Name × Nat} (hf : f ∈ info.fields) : f.2 ∈ (Ty.tuple i).children T := by
  simp only [Ty.children, Table.fieldTypes, hi]
  exact List.mem_map.mpr ⟨f, hf, rfl⟩

theorem Ty.mem_children_part {T : Table} {pn : Option Name} {fs : List (Name × Nat)} {f : Name × Nat}
    (hf : f ∈ fs) : f.2 ∈ (Ty.part pn fs).children T :=
  List.mem_map.mpr ⟨f, hf, rfl⟩

theorem FO.unfold {T : Table} {t : Nat} (h : FO T t) :
    ∃ ty, T.types[t]? = some ty ∧ ty.isFO = true ∧ ty.tupleOk T = true ∧ ∀ c ∈ ty.children T, FO T c := by
  obtain ⟨n, hn⟩ := h
  cases n with
  | zero => exact nomatch hn
  | succ n =>
    unfold foB at hn
    cases hty : T.types[t]? with
    | none => simp [hty] at hn
    | some ty =>
      simp only [hty, Bool.and_eq_true, List.all_eq_true] at hn
      exact ⟨ty, rfl, hn.1.1, hn.1.2, fun c hc => ⟨n, hn.2 c hc⟩⟩

theorem foB_mono {T : Table} : ∀ (n m t : Nat), n ≤ m → foB T n t = true → foB T m t = true := by
  intro n
  induction n with
  | zero => intro m t _ h; exact nomatch h
  | succ n ih =>
    intro m t hnm h
    cases m with
    | zero => omega
    | succ m =>
      unfold foB at h ⊢
      cases hty : T.types[t]? with
      | none => rw [hty] at h; exact nomatch h
      | some ty =>
        simp only [hty, Bool.and_eq_true, List.all_eq_true] at h ⊢
        exact ⟨h.1, fun c hc => ih m c (by omega) (h.2 c hc)⟩

/-- the converse of `FO.unfold` -/
theorem FO.of_children {T : Table} {t : Nat} {ty : Ty} (ht : T.types[t]? = some ty) (hfo : ty.isFO = true)
    (hok : ty.tupleOk T = true) (hch : ∀ c ∈ ty.children T, FO T c) : FO T t := by
  obtain ⟨n, hn⟩ := common_fuel (fun n c => foB T n c = true) (fun n m c => foB_mono n m c) _ hch
  refine ⟨n + 1, ?_⟩
  unfold foB
  simp only [ht, hfo, hok, Bool.and_self, Bool.true_and, List.all_eq_true]
  exact hn

theorem FO.of_tuple {T : Table} {t id : Nat} {info : TupleInfo} (ht : T.types[t]? = some (.tuple id))
    (hi : T.tuples[id]? = some info) (hf : ∀ f ∈ info.fields, FO T f.2) : FO T t := by
  refine FO.of_children ht rfl (decide_eq_true (List.getElem?_eq_some_iff.mp hi).1) (fun c hc => ?_)
  simp only [Ty.children, Table.fieldTypes, hi, List.mem_map] at hc
  obtain ⟨f, hf', rfl⟩ := hc
  exact hf f hf'

theorem FO.of_part {T : Table} {t : Nat} {pn : Option Name} {pfs : List (Name × Nat)}
    (ht : T.types[t]? = some (.part pn pfs)) (hf : ∀ f ∈ pfs, FO T f.2) : FO T t := by
  refine FO.of_children ht rfl rfl (fun c hc => ?_)
  obtain ⟨f, hf', rfl⟩ := List.mem_map.mp hc
  exact hf f hf'

theorem FO.of_union {T : Table} {t : Nat} {ids : List Nat} (ht : T.types[t]? = some (.union ids))
    (hf : ∀ i ∈ ids, FO T i) : FO T t :=
  FO.of_children ht rfl rfl hf

theorem FO.of_atom {T : Table} {t : Nat} {ty : Ty} (ht : T.types[t]? = some ty) (hat : Atom ty) : FO T t := by
  rcases hat with rfl | rfl | rfl | ⟨r, rfl⟩ <;> exact FO.of_children ht rfl rfl nofun

theorem FO.isFO {T : Table} {t : Nat} {ty : Ty} (h : FO T t) (hty : T.types[t]? = some ty) :
    ty.isFO = true := by
  obtain ⟨_, h1, hf, _⟩ := h.unfold
  exact Option.some.inj (hty.symm.trans h1) ▸ hf

/-- a class of type ids that contains, with an id, the ids its type mentions (and whose tuple ids resolve) -/
def Hereditary (T : Table) (C : Nat → Prop) : Prop :=
  ∀ t, C t → ∃ ty, T.types[t]? = some ty ∧ ty.tupleOk T = true ∧ ∀ c ∈ ty.children T, C c

section
variable {T : Table} {C : Nat → Prop} (hC : Hereditary T C) {t : Nat} (h : C t)
include hC h

theorem Hereditary.union {ids : List Nat} (hty : T.types[t]? = some (.union ids)) : ∀ i ∈ ids, C i := by
  obtain ⟨ty, h1, _, h4⟩ := hC t h
  cases hty.symm.trans h1
  exact h4

theorem Hereditary.tuple {id : Nat} (hty : T.types[t]? = some (.tuple id)) :
    ∃ info, T.tuples[id]? = some info ∧ ∀ f ∈ info.fields, C f.2 := by
  obtain ⟨ty, h1, h3, h4⟩ := hC t h
  cases hty.symm.trans h1
  have hlt : id < T.tuples.length := of_decide_eq_true h3
  refine ⟨T.tuples[id], List.getElem?_eq_getElem hlt, fun f hf => h4 _ ?_⟩
  simp only [Ty.children, Table.fieldTypes, List.getElem?_eq_getElem hlt, List.mem_map]
  exact ⟨f, hf, rfl⟩

theorem Hereditary.part {pn : Option Name} {pfs : List (Name × Nat)} (hty : T.types[t]? = some (.part pn pfs)) :
    ∀ pf ∈ pfs, C pf.2 := by
  obtain ⟨ty, h1, _, h4⟩ := hC t h
  cases hty.symm.trans h1
  exact fun pf hpf => h4 _ (List.mem_map.mpr ⟨pf, hpf, rfl⟩)

end

theorem FO.hereditary (T : Table) : Hereditary T (FO T) := fun _ h =>
  let ⟨ty, h1, _, h3, h4⟩ := h.unfold
  ⟨ty, h1, h3, h4⟩

theorem FO.union {T : Table} {t : Nat} {ids : List Nat} (h : FO T t)
    (hty : T.types[t]? = some (.union ids)) : ∀ i ∈ ids, FO T i :=
  (FO.hereditary T).union h hty

theorem FO.tuple {T : Table} {t id : Nat} (h : FO T t) (hty : T.types[t]? = some (.tuple id)) :
    ∃ info, T.tuples[id]? = some info ∧ ∀ f ∈ info.fields, FO T f.2 :=
  (FO.hereditary T).tuple h hty

theorem FO.fields {T : Table} {t id : Nat} {info : TupleInfo} (h : FO T t)
    (hty : T.types[t]? = some (.tuple id)) (hi : T.tuples[id]? = some info) : ∀ f ∈ info.fields, FO T f.2 := by
  obtain ⟨info', hi', hf⟩ := h.tuple hty
  cases hi.symm.trans hi'
  exact hf

theorem FO.part {T : Table} {t : Nat} {pn : Option Name} {pfs : List (Name × Nat)} (h : FO T t)
    (hty : T.types[t]? = some (.part pn pfs)) : ∀ pf ∈ pfs, FO T pf.2 :=
  (FO.hereditary T).part h hty

/-- a first-order type is a leaf, a union, a tuple or a partial type, and its parts are first-order:
induction over that -/
theorem FO.induction {T : Table} {P : Nat → Prop}
    (atom : ∀ {t ty}, T.types[t]? = some ty → Atom ty → P t)
    (union : ∀ {t vs}, T.types[t]? = some (.union vs) → (∀ v ∈ vs, FO T v) → (∀ v ∈ vs, P v) → P t)
    (tuple : ∀ {t i info}, T.types[t]? = some (.tuple i) → T.tuples[i]? = some info →
      (∀ f ∈ info.fields, FO T f.2) → (∀ f ∈ info.fields, P f.2) → P t)
    (part : ∀ {t pn fs}, T.types[t]? = some (.part pn fs) → (∀ f ∈ fs, FO T f.2) → (∀ f ∈ fs, P f.2) → P t) :
    ∀ {t}, FO T t → P t := by
  rintro t ⟨n, hn⟩
  induction n generalizing t with
  | zero => exact nomatch hn
  | succ n ih =>
    have hfo : FO T t := ⟨n + 1, hn⟩
    unfold foB at hn
    cases hty : T.types[t]? with
    | none => simp [hty] at hn
    | some ty =>
      simp only [hty, Bool.and_eq_true, List.all_eq_true] at hn
      obtain ⟨⟨hisfo, _⟩, hch⟩ := hn
      cases ty with
      | integer => exact atom hty .integer
      | binary => exact atom hty .binary
      | reference => exact atom hty .reference
      | resource r => exact atom hty (.resource r)
      | union vs => exact union hty (hfo.union hty) (fun v hv => ih (hch v hv))
      | tuple i =>
        obtain ⟨info, hi, hf⟩ := hfo.tuple hty
        exact tuple hty hi hf (fun f hf' => ih (hch _ (Ty.mem_children_tuple hi hf')))
      | part pn fs => exact part hty (hfo.part hty) (fun f hf' => ih (hch _ (Ty.mem_children_part hf')))
      | callable | cycle | process | «variable» => cases hisfo

theorem RFO.unfold {T : Table} {t : Nat} (h : RFO T t) :
    ∃ ty, T.types[t]? = some ty ∧ ty.isRFO = true ∧ ty.tupleOk T = true ∧ ∀ c ∈ ty.children T, RFO T c := by
  obtain ⟨n, hn⟩ := h
  cases n with
  | zero => exact nomatch hn
  | succ n =>
    unfold rfoB at hn
    cases hty : T.types[t]? with
    | none => simp [hty] at hn
    | some ty =>
      simp only [hty, Bool.and_eq_true, List.all_eq_true] at hn
      exact ⟨ty, rfl, hn.1.1, hn.1.2, fun c hc => ⟨n, hn.2 c hc⟩⟩

theorem RFO.isRFO {T : Table} {t : Nat} {ty : Ty} (h : RFO T t) (hty : T.types[t]? = some ty) :
    ty.isRFO = true := by
  obtain ⟨_, h1, hf, _⟩ := h.unfold
  exact Option.some.inj (hty.symm.trans h1) ▸ hf

end QM.Types
