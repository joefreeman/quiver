import QuiverModel.Lemmas.Types.Rank
/-
`Sub T a b` — the stateless, syntactic reading of ALL-mode `check_type_relation` on first-order
types: the same arms in the same order, but no assumption set, no stacks and no equal-id shortcuts.

This file: `subB` / `Sub`, one unfolding of each compound structural arm at a given fuel (`subStruct_tuple_tuple`,
`subStruct_tuple_part`, `subStruct_part_part`), one `_iff` lemma per arm (`Sub.union_left_iff`, `Sub.union_right_iff`,
`Sub.struct_iff`, `Sub.tuple_tuple_iff`, `Sub.tuple_part_iff`, `Sub.part_part_iff`), reflexivity on
first-order types whose partial types name no field twice (`Sub.refl`), and `Rules.sub`: `Sub` is closed
under the rules of the ALL-mode arms, which is what `checkRel_rules_fo` of `Rank.lean` asks of a relation.

`SubMain.lean` relates the checker to `Sub` in both directions (`checkRel_sub`: a `true` verdict from a
state all of whose assumptions are `Sub` pairs is a `Sub` fact; `checkRel_comp`: on a `Sub` pair the
checker answers `true` from EVERY state, with any fuel above the rank sum); `SubTrans.lean` has
`Sub.trans`. So on first-order types (partial types without repeated field names) the verdict of the
checker does not depend on its state, and it is transitive.
-/
namespace QM.Types

/-- the structural arms (neither side a union) -/
def subStruct (T : Table) (rec : Nat → Nat → Bool) : Ty → Ty → Bool
  | .integer, .integer => true
  | .binary, .binary => true
  | .reference, .reference => true
  | .resource r1, .resource r2 => decide (r1 = r2)
  | .tuple i1, .tuple i2 =>
    match T.tuples[i1]?, T.tuples[i2]? with
    | some info1, some info2 =>
      decide (info1.name = info2.name ∧ info1.fields.length = info2.fields.length) &&
        (info1.fields.zip info2.fields).all (fun p => decide (p.1.1 = p.2.1) && rec p.1.2 p.2.2)
    | _, _ => false
  | .tuple c, .part pn pfs =>
    match T.tuples[c]? with
    | none => false
    | some ci =>
      !(decide (pn.isSome ∧ ci.name ≠ pn)) &&
        pfs.all (fun pf => ci.fields.any (fun cf => decide (cf.1 = some pf.1) && rec cf.2 pf.2))
  | .part n1 fs1, .part n2 fs2 =>
    !(nameConflict Variant.current .all n1 n2) &&
      fs2.all (fun f2 =>
        match fs1.find? (fun f1 => f1.1 == f2.1) with
        | some f1 => rec f1.2 f2.2
        | none => false)
  | _, _ => false

def subStep (T : Table) (rec : Nat → Nat → Bool) (a b : Nat) (ta tb : Ty) : Bool :=
  match ta with
  | .union vs => vs.all (fun v => rec v b)
  | _ =>
    match tb with
    | .union ws => ws.any (fun w => rec a w)
    | _ => subStruct T rec ta tb

def subB (T : Table) : Nat → Nat → Nat → Bool
  | 0, _, _ => false
  | n + 1, a, b =>
    match T.types[a]?, T.types[b]? with
    | some ta, some tb => subStep T (subB T n) a b ta tb
    | _, _ => false

/-- syntactic subtyping of two type ids of one table (not `Table.Sub`, which says that one table extends another) -/
def Sub (T : Table) (a b : Nat) : Prop := ∃ n, subB T n a b = true

theorem subStruct_of_kind_ne {T : Table} {rec : Nat → Nat → Bool} {ta tb : Ty} (h : ta.kind ≠ tb.kind) :
    subStruct T rec ta tb = false := by
  unfold subStruct
  split <;> first | rfl | exact absurd rfl h

/-- the pairs of constructors the structural arms relate -/
inductive StructArm : Ty → Ty → Prop
  | integer : StructArm .integer .integer
  | binary : StructArm .binary .binary
  | reference : StructArm .reference .reference
  | resource (r1 r2 : Name) : StructArm (.resource r1) (.resource r2)
  | tuple_tuple (i1 i2 : Nat) : StructArm (.tuple i1) (.tuple i2)
  | tuple_part (c : Nat) (pn : Option Name) (pfs : List (Name × Nat)) : StructArm (.tuple c) (.part pn pfs)
  | part_part (n1 : Option Name) (fs1 : List (Name × Nat)) (n2 : Option Name) (fs2 : List (Name × Nat)) :
      StructArm (.part n1 fs1) (.part n2 fs2)

theorem StructArm.of_true {T : Table} {rec : Nat → Nat → Bool} {ta tb : Ty}
    (h : subStruct T rec ta tb = true) : StructArm ta tb := by
  unfold subStruct at h
  split at h
  · exact .integer
  · exact .binary
  · exact .reference
  · exact .resource _ _
  · exact .tuple_tuple _ _
  · exact .tuple_part _ _ _
  · exact .part_part _ _ _ _
  · cases h

theorem subStep_union_right {T : Table} {r : Nat → Nat → Bool} {a b : Nat} {ta : Ty} {ws : List Nat}
    (hnu : ta.isUnion = false) : subStep T r a b ta (.union ws) = ws.any (fun w => r a w) := by
  unfold subStep
  split
  · cases hnu
  · rfl

theorem subStep_struct {T : Table} {r : Nat → Nat → Bool} {a b : Nat} {ta tb : Ty}
    (hnu : ta.isUnion = false) (hnub : tb.isUnion = false) :
    subStep T r a b ta tb = subStruct T r ta tb := by
  unfold subStep
  split
  · cases hnu
  · split
    · cases hnub
    · rfl

section
variable {T : Table} {r : Nat → Nat → Bool}

theorem subStruct_tuple_tuple {i1 i2 : Nat} :
    subStruct T r (.tuple i1) (.tuple i2) = true ↔
      ∃ info1 info2, T.tuples[i1]? = some info1 ∧ T.tuples[i2]? = some info2 ∧ info1.name = info2.name ∧
        info1.fields.length = info2.fields.length ∧
        ∀ p ∈ info1.fields.zip info2.fields, p.1.1 = p.2.1 ∧ r p.1.2 p.2.2 = true := by
  simp only [subStruct]
  cases T.tuples[i1]? with
  | none => exact ⟨nofun, fun ⟨_, _, h, _⟩ => nomatch h⟩
  | some info1 =>
    cases T.tuples[i2]? with
    | none => exact ⟨nofun, fun ⟨_, _, _, h, _⟩ => nomatch h⟩
    | some info2 =>
      simp only [Option.some.injEq, exists_and_left, exists_eq_left', Bool.and_eq_true, decide_eq_true_eq,
        List.all_eq_true, and_assoc]

theorem subStruct_tuple_part {c : Nat} {pn : Option Name} {pfs : List (Name × Nat)} :
    subStruct T r (.tuple c) (.part pn pfs) = true ↔
      ∃ ci, T.tuples[c]? = some ci ∧ ¬ (pn.isSome ∧ ci.name ≠ pn) ∧
        ∀ pf ∈ pfs, ∃ cf ∈ ci.fields, cf.1 = some pf.1 ∧ r cf.2 pf.2 = true := by
  simp only [subStruct]
  cases T.tuples[c]? with
  | none => exact ⟨nofun, fun ⟨_, h, _⟩ => nomatch h⟩
  | some ci =>
    simp only [Option.some.injEq, exists_eq_left', Bool.and_eq_true, Bool.not_eq_true', decide_eq_false_iff_not,
      List.all_eq_true, List.any_eq_true, decide_eq_true_eq]

theorem subStruct_part_part {n1 n2 : Option Name} {fs1 fs2 : List (Name × Nat)} :
    subStruct T r (.part n1 fs1) (.part n2 fs2) = true ↔
      nameConflict Variant.current .all n1 n2 = false ∧
        ∀ f2 ∈ fs2, ∃ f1, fs1.find? (fun f1 => f1.1 == f2.1) = some f1 ∧ r f1.2 f2.2 = true := by
  simp only [subStruct, Bool.and_eq_true, Bool.not_eq_true', List.all_eq_true]
  refine and_congr_right fun _ => forall₂_congr fun f2 _ => ?_
  cases fs1.find? (fun f1 => f1.1 == f2.1) <;> simp

end

theorem subStruct_mono {T : Table} {r r' : Nat → Nat → Bool} (h : ∀ x y, r x y = true → r' x y = true)
    (ta tb : Ty) (hs : subStruct T r ta tb = true) : subStruct T r' ta tb = true := by
  cases StructArm.of_true hs with
  | integer | binary | reference | resource => exact hs
  | tuple_tuple i1 i2 =>
    obtain ⟨info1, info2, e1, e2, hn, hl, hz⟩ := subStruct_tuple_tuple.mp hs
    exact subStruct_tuple_tuple.mpr ⟨info1, info2, e1, e2, hn, hl, fun p hp => ⟨(hz p hp).1, h _ _ (hz p hp).2⟩⟩
  | tuple_part c pn pfs =>
    obtain ⟨ci, e, hn, hf⟩ := subStruct_tuple_part.mp hs
    exact subStruct_tuple_part.mpr ⟨ci, e, hn, fun pf hpf =>
      let ⟨cf, hcf, hl, hr⟩ := hf pf hpf; ⟨cf, hcf, hl, h _ _ hr⟩⟩
  | part_part n1 fs1 n2 fs2 =>
    obtain ⟨hn, hf⟩ := subStruct_part_part.mp hs
    exact subStruct_part_part.mpr ⟨hn, fun f2 hf2 => let ⟨f1, e, hr⟩ := hf f2 hf2; ⟨f1, e, h _ _ hr⟩⟩

theorem subStep_mono {T : Table} {r r' : Nat → Nat → Bool} (h : ∀ x y, r x y = true → r' x y = true)
    (a b : Nat) (ta tb : Ty) : subStep T r a b ta tb = true → subStep T r' a b ta tb = true := by
  unfold subStep
  split
  · simp only [List.all_eq_true]
    exact fun hv v hvm => h _ _ (hv v hvm)
  · split
    · simp only [List.any_eq_true]
      exact fun ⟨w, hw, hr⟩ => ⟨w, hw, h _ _ hr⟩
    · exact subStruct_mono h _ _

theorem subB_mono (T : Table) : ∀ {n m : Nat}, n ≤ m → ∀ a b, subB T n a b = true → subB T m a b = true := by
  intro n
  induction n with
  | zero => intro m _ a b h; exact nomatch h
  | succ n ih =>
    intro m hm a b h
    cases m with
    | zero => omega
    | succ m =>
      unfold subB at h ⊢
      cases hta : T.types[a]? with
      | none => simp [hta] at h
      | some ta =>
        cases htb : T.types[b]? with
        | none => simp [hta, htb] at h
        | some tb =>
          simp only [hta, htb] at h ⊢
          exact subStep_mono (fun x y => ih (by omega) x y) _ _ _ _ h

theorem Sub.common {T : Table} {α : Type} (f g : α → Nat) :
    ∀ (l : List α), (∀ x ∈ l, Sub T (f x) (g x)) → ∃ n, ∀ x ∈ l, subB T n (f x) (g x) = true :=
  common_fuel (fun n x => subB T n (f x) (g x) = true) (fun _ _ x hnm => subB_mono T hnm (f x) (g x))

theorem Sub.unfold {T : Table} {a b : Nat} {ta tb : Ty} (hta : T.types[a]? = some ta)
    (htb : T.types[b]? = some tb) : Sub T a b ↔ ∃ n, subStep T (subB T n) a b ta tb = true := by
  constructor
  · rintro ⟨n, hn⟩
    cases n with
    | zero => exact nomatch hn
    | succ n => unfold subB at hn; simp only [hta, htb] at hn; exact ⟨n, hn⟩
  · rintro ⟨n, hn⟩
    exact ⟨n + 1, by unfold subB; simp only [hta, htb]; exact hn⟩

theorem Sub.in_table {T : Table} {a b : Nat} (h : Sub T a b) :
    (∃ ta, T.types[a]? = some ta) ∧ ∃ tb, T.types[b]? = some tb := by
  obtain ⟨n, hn⟩ := h
  cases n with
  | zero => exact nomatch hn
  | succ n =>
    unfold subB at hn
    cases hta : T.types[a]? <;> cases htb : T.types[b]? <;> simp [hta, htb] at hn
    exact ⟨⟨_, rfl⟩, ⟨_, rfl⟩⟩

theorem Sub.union_left_iff {T : Table} {a b : Nat} {vs : List Nat} {tb : Ty}
    (hta : T.types[a]? = some (.union vs)) (htb : T.types[b]? = some tb) :
    Sub T a b ↔ ∀ v ∈ vs, Sub T v b := by
  rw [Sub.unfold hta htb]
  simp only [subStep, List.all_eq_true]
  exact common_fuel_iff (fun n m x hnm => subB_mono T hnm x b) vs

theorem Sub.union_right_iff {T : Table} {a b : Nat} {ta : Ty} {ws : List Nat}
    (hta : T.types[a]? = some ta) (hnu : ta.isUnion = false) (htb : T.types[b]? = some (.union ws)) :
    Sub T a b ↔ ∃ w ∈ ws, Sub T a w := by
  rw [Sub.unfold hta htb]
  simp only [subStep_union_right hnu, List.any_eq_true]
  exact ⟨fun ⟨n, w, hw, hn⟩ => ⟨w, hw, n, hn⟩, fun ⟨w, hw, n, hn⟩ => ⟨n, w, hw, hn⟩⟩

theorem Sub.struct_iff {T : Table} {a b : Nat} {ta tb : Ty}
    (hta : T.types[a]? = some ta) (hnu : ta.isUnion = false)
    (htb : T.types[b]? = some tb) (hnub : tb.isUnion = false) :
    Sub T a b ↔ ∃ n, subStruct T (subB T n) ta tb = true := by
  rw [Sub.unfold hta htb]
  simp only [subStep_struct hnu hnub]

theorem Sub.tuple_tuple_iff {T : Table} {a b i1 i2 : Nat} {info1 info2 : TupleInfo}
    (hta : T.types[a]? = some (.tuple i1)) (htb : T.types[b]? = some (.tuple i2))
    (h1 : T.tuples[i1]? = some info1) (h2 : T.tuples[i2]? = some info2) :
    Sub T a b ↔ info1.name = info2.name ∧ info1.fields.length = info2.fields.length ∧
      ∀ p ∈ info1.fields.zip info2.fields, p.1.1 = p.2.1 ∧ Sub T p.1.2 p.2.2 := by
  rw [Sub.struct_iff hta rfl htb rfl]
  simp only [subStruct_tuple_tuple, h1, h2, Option.some.injEq, exists_and_left, exists_eq_left']
  rw [common_fuel_iff (fun n m p hnm h => ⟨h.1, subB_mono T hnm _ _ h.2⟩)]
  simp only [exists_and_left, Sub]

theorem Sub.tuple_part_iff {T : Table} {a b c : Nat} {ci : TupleInfo} {pn : Option Name}
    {pfs : List (Name × Nat)} (hta : T.types[a]? = some (.tuple c))
    (htb : T.types[b]? = some (.part pn pfs)) (hc : T.tuples[c]? = some ci) :
    Sub T a b ↔ ¬ (pn.isSome ∧ ci.name ≠ pn) ∧
      ∀ pf ∈ pfs, ∃ cf ∈ ci.fields, cf.1 = some pf.1 ∧ Sub T cf.2 pf.2 := by
  rw [Sub.struct_iff hta rfl htb rfl]
  simp only [subStruct_tuple_part, hc, Option.some.injEq, exists_and_left, exists_eq_left']
  rw [common_fuel_iff (fun n m pf hnm ⟨cf, hcf, hl, hr⟩ => ⟨cf, hcf, hl, subB_mono T hnm _ _ hr⟩)]
  simp only [Sub, ← exists_and_left]
  exact and_congr_right fun _ => forall₂_congr fun _ _ => exists_comm

theorem Sub.part_part_iff {T : Table} {a b : Nat} {n1 n2 : Option Name} {fs1 fs2 : List (Name × Nat)}
    (hta : T.types[a]? = some (.part n1 fs1)) (htb : T.types[b]? = some (.part n2 fs2)) :
    Sub T a b ↔ nameConflict Variant.current .all n1 n2 = false ∧
      ∀ f2 ∈ fs2, ∃ f1, fs1.find? (fun f1 => f1.1 == f2.1) = some f1 ∧ Sub T f1.2 f2.2 := by
  rw [Sub.struct_iff hta rfl htb rfl]
  simp only [subStruct_part_part, exists_and_left]
  rw [common_fuel_iff (fun n m f2 hnm ⟨f1, e, hr⟩ => ⟨f1, e, subB_mono T hnm _ _ hr⟩)]
  simp only [Sub, ← exists_and_left]
  exact and_congr_right fun _ => forall₂_congr fun _ _ => exists_comm

theorem Sub.same_atom {T : Table} {a b : Nat} {ty : Ty} (hta : T.types[a]? = some ty)
    (htb : T.types[b]? = some ty)
    (hatom : Atom ty) : Sub T a b := by
  refine ⟨1, ?_⟩
  unfold subB
  simp only [hta, htb]
  rcases hatom with rfl | rfl | rfl | ⟨r, rfl⟩ <;> simp [subStep, subStruct]

/-- a type that is below a variant is below the union, whatever its own shape; stated for `subB` with its
fuel `n`, which is what the induction runs on (a left-hand union is taken apart variant by variant) -/
theorem Sub.union_right_gen {T : Table} {b i : Nat} {ws : List Nat}
    (htb : T.types[b]? = some (.union ws)) (hi : i ∈ ws) :
    ∀ (n a : Nat), subB T n a i = true → Sub T a b := by
  intro n
  induction n with
  | zero => intro a h; exact nomatch h
  | succ n ih =>
    intro a h
    have hsub : Sub T a i := ⟨n + 1, h⟩
    obtain ⟨⟨ta, hta⟩, ⟨ti, hti⟩⟩ := hsub.in_table
    unfold subB at h
    simp only [hta, hti] at h
    cases hu : ta.isUnion with
    | true =>
      cases ta <;> simp [Ty.isUnion] at hu
      rename_i vs
      simp only [subStep, List.all_eq_true] at h
      exact (Sub.union_left_iff hta htb).mpr (fun v hv => ih v (h v hv))
    | false => exact (Sub.union_right_iff hta hu htb).mpr ⟨i, hi, hsub⟩

theorem mem_zip_self {α : Type} (l : List α) (p : α × α) (hp : p ∈ l.zip l) : p.1 = p.2 ∧ p.1 ∈ l := by
  obtain ⟨j, h1, h2⟩ := mem_zip_iff.mp (show (p.1, p.2) ∈ l.zip l from hp)
  exact ⟨Option.some.inj (h1.symm.trans h2), List.mem_of_getElem? h1⟩

theorem find_self_of_nodup : ∀ (fs : List (Name × Nat)) (f : Name × Nat),
    (fs.map (·.1)).Nodup → f ∈ fs → fs.find? (fun f1 => f1.1 == f.1) = some f := by
  intro fs
  induction fs with
  | nil => intro f _ hf; simp at hf
  | cons x xs ih =>
    intro f hnd hf
    simp only [List.map_cons, List.nodup_cons, List.mem_map, not_exists, not_and] at hnd
    rcases List.mem_cons.mp hf with rfl | hf
    · simp [List.find?]
    · have hne : x.1 ≠ f.1 := fun h => hnd.1 f hf h.symm
      simp only [List.find?, beq_iff_eq, hne, ↓reduceIte]
      rw [show (x.1 == f.1) = false from by simpa using hne]
      exact ih f hnd.2 hf

theorem PartsDistinct.nodup {T : Table} (hd : PartsDistinct T) {t : Nat} {pn : Option Name}
    {fs : List (Name × Nat)} (h : T.types[t]? = some (.part pn fs)) : (fs.map (·.1)).Nodup := by
  have hmem : Ty.part pn fs ∈ T.types := List.mem_of_getElem? h
  have := (List.all_eq_true.mp hd) _ hmem
  simpa using this

theorem Sub.tuple_same {T : Table} {a b i : Nat} {info : TupleInfo} (hta : T.types[a]? = some (.tuple i))
    (htb : T.types[b]? = some (.tuple i)) (hi : T.tuples[i]? = some info)
    (hf : ∀ f ∈ info.fields, Sub T f.2 f.2) : Sub T a b := by
  refine (Sub.tuple_tuple_iff hta htb hi hi).mpr ⟨rfl, rfl, fun p hp => ?_⟩
  obtain ⟨heq, hmem⟩ := mem_zip_self _ p hp
  exact ⟨by rw [heq], heq ▸ hf _ hmem⟩

theorem Sub.refl {T : Table} (hd : PartsDistinct T) {t : Nat} (h : FO T t) : Sub T t t := by
  refine h.induction (P := fun t => Sub T t t) (fun hty hat => Sub.same_atom hty hty hat) ?_ ?_ ?_
  · intro t vs hty _ ih
    refine (Sub.union_left_iff hty hty).mpr (fun v hv => ?_)
    obtain ⟨m, hm⟩ := ih v hv
    exact Sub.union_right_gen hty hv m v hm
  · exact fun hty hi _ ih => Sub.tuple_same hty hty hi ih
  · intro t pn fs hty _ ih
    exact (Sub.part_part_iff hty hty).mpr ⟨by simp [nameConflict],
      fun f2 hf2 => ⟨f2, find_self_of_nodup _ f2 (hd.nodup hty) hf2, ih _ hf2⟩⟩

theorem Rules.sub {T : Table} (hd : PartsDistinct T) : Rules T (Sub T) where
  refl_fo := Sub.refl hd
  never_left := fun hta htb => (Sub.union_left_iff hta htb).mpr (fun v hv => by simp at hv)
  union_left := fun hta htb h => (Sub.union_left_iff hta htb).mpr h
  union_right := by
    rintro a b vs htb ⟨i, hi, n, hn⟩
    exact Sub.union_right_gen htb hi n a hn
  tuple_same := fun ha hta htb =>
    let ⟨_, h1, hf⟩ := ha.tuple hta
    Sub.tuple_same hta htb h1 fun f hfm => Sub.refl hd (hf f hfm)
  tuple_tuple := fun hta htb h1 h2 hn hl hz => (Sub.tuple_tuple_iff hta htb h1 h2).mpr ⟨hn, hl, hz⟩
  tuple_part := fun hta htb hc hn hf => (Sub.tuple_part_iff hta htb hc).mpr ⟨hn, hf⟩
  part_part := fun hta htb hn hf => (Sub.part_part_iff hta htb).mpr ⟨hn, hf⟩
  same_atom := Sub.same_atom

end QM.Types
