import QuiverModel.Lemmas.Types.Sound
import QuiverModel.Lemmas.Types.RecDerMain
/-
The first-order rank of a type id — the least fuel with which `foB` accepts it — is a measure that
strictly decreases from a first-order type to its children, on ANY table. By induction on it, what the
ALL-mode check derives on first-order types (`Der`, stage 1 of `RecDerMain.lean` inside the region of the
first-order types) holds of every relation closed under the rules (`checkRel_rules_fo`): no ordering
hypothesis on the table is needed.
-/
namespace QM.Types

theorem exists_least {P : Nat → Prop} : (∃ n, P n) → ∃ m, P m ∧ ∀ k < m, ¬ P k := by
  rintro ⟨n, hn⟩
  induction n using Nat.strongRecOn with
  | _ n ih =>
    by_cases h : ∃ k < n, P k
    · obtain ⟨k, hk, hPk⟩ := h
      exact ih k hk hPk
    · exact ⟨n, hn, fun k hk hPk => h ⟨k, hk, hPk⟩⟩

open Classical in
/-- least `n` with `foB T n t` (0 when `t` is not first-order); only ever a measure in proofs, hence by choice and
not by a search -/
noncomputable def rk (T : Table) (t : Nat) : Nat :=
  if h : ∃ n, foB T n t = true then Classical.choose (exists_least h) else 0

theorem rk_spec {T : Table} {t : Nat} (h : FO T t) :
    foB T (rk T t) t = true ∧ ∀ k < rk T t, ¬ foB T k t = true := by
  have h' : ∃ n, foB T n t = true := h
  unfold rk
  simp only [h', dite_true]
  exact Classical.choose_spec (exists_least h')

theorem childLt_rk (T : Table) : ChildLt T (rk T) := by
  intro t ty hty hfo c hc
  obtain ⟨hspec, _⟩ := rk_spec hfo
  cases hn : rk T t with
  | zero => rw [hn] at hspec; exact nomatch hspec
  | succ m =>
    rw [hn] at hspec
    unfold foB at hspec
    simp only [hty, Bool.and_eq_true, List.all_eq_true] at hspec
    have hc' : foB T m c = true := hspec.2 c hc
    have hfoc : FO T c := ⟨m, hc'⟩
    obtain ⟨_, hmin⟩ := rk_spec hfoc
    by_cases hle : rk T c ≤ m
    · omega
    · exact absurd hc' (hmin m (by omega))

section
variable {T : Table} {a : Nat} (ha : FO T a)
include ha

theorem rk_lt_union {vs : List Nat} (hta : T.types[a]? = some (.union vs)) {v : Nat} (hv : v ∈ vs) :
    rk T v < rk T a :=
  childLt_rk T hta ha v hv

theorem rk_lt_tuple {i : Nat} {info : TupleInfo} (hta : T.types[a]? = some (.tuple i))
    (hi : T.tuples[i]? = some info) {f : Option Name × Nat} (hf : f ∈ info.fields) : rk T f.2 < rk T a :=
  childLt_rk T hta ha _ (Ty.mem_children_tuple hi hf)

theorem rk_lt_part {pn : Option Name} {fs : List (Name × Nat)} (hta : T.types[a]? = some (.part pn fs))
    {f : Name × Nat} (hf : f ∈ fs) : rk T f.2 < rk T a :=
  childLt_rk T hta ha _ (Ty.mem_children_part hf)

end

/-- **stage 2 on first-order types**: a pair derivable from assumptions that are `W`-related or supported
is `W`-related, for every relation `W` closed under the rules. Induction on the rank sum — an assumption is
replaced by the premises of its union step, which are about smaller types — then on the derivation. -/
theorem Der.rules_fo {T : Table} {W : Nat → Nat → Prop} (hW : Rules T W) {A : AKey → Prop}
    (hA : ∀ p, A p → W p.1 p.2.1 ∨ Supp T (FO T) A p) :
    ∀ (n : Nat) {a b : Nat} {st : Stk}, Der T A a b st → FO T a → FO T b → rk T a + rk T b < n → W a b := by
  intro n
  induction n with
  | zero => exact fun _ _ _ h => nomatch h
  | succ n ihn =>
    intro a b st hder
    induction hder with
    | refl => exact fun ha _ _ => hW.refl_fo ha
    | hyp hp =>
      intro ha hb hlt
      rcases hA _ hp with hw | ⟨_, ⟨vs, hta, hprem⟩ | ⟨ws, w, htb, hw, hprem⟩⟩
      · exact hw
      · obtain ⟨tb, htb, _⟩ := hb.unfold
        exact hW.union_left hta htb (fun v hv => ihn (hprem v hv) (ha.union hta v hv) hb
          (by have := rk_lt_union ha hta hv; omega))
      · exact hW.union_right htb ⟨w, hw, ihn hprem ha (hb.union htb w hw)
          (by have := rk_lt_union hb htb hw; omega)⟩
    | never_left hta => exact fun _ hb _ => hb.unfold.elim fun _ h => hW.never_left hta h.1
    | atom hta htb hat => exact fun _ _ _ => hW.same_atom hta htb hat
    | cycle_left_dangling hta => exact fun ha _ _ => nomatch ha.isFO hta
    | cycle_left hta => exact fun ha _ _ => nomatch ha.isFO hta
    | cycle_right_dangling htb => exact fun _ hb _ => nomatch hb.isFO htb
    | cycle_right htb => exact fun _ hb _ => nomatch hb.isFO htb
    | union_left hta _ ih =>
      intro ha hb hlt
      obtain ⟨tb, htb, _⟩ := hb.unfold
      exact hW.union_left hta htb (fun v hv => ih v hv (ha.union hta v hv) hb
        (by have := rk_lt_union ha hta hv; omega))
    | union_right w htb hw _ ih =>
      exact fun ha hb hlt => hW.union_right htb ⟨w, hw, ih ha (hb.union htb w hw)
        (by have := rk_lt_union hb htb hw; omega)⟩
    | tuple_same hta htb => exact fun ha _ _ => hW.tuple_same ha hta htb
    | tuple_tuple hta htb h1 h2 hn hl hlab _ ih =>
      intro ha hb hlt
      refine hW.tuple_tuple hta htb h1 h2 hn hl (fun p hp => ⟨hlab p hp, ?_⟩)
      have hp1 := (List.of_mem_zip hp).1
      have hp2 := (List.of_mem_zip hp).2
      exact ih p hp (ha.fields hta h1 _ hp1) (hb.fields htb h2 _ hp2)
        (by have := rk_lt_tuple ha hta h1 hp1; have := rk_lt_tuple hb htb h2 hp2; omega)
    | tuple_part sel hta htb hc hname hsel _ ih =>
      intro ha hb hlt
      refine hW.tuple_part hta htb hc hname (fun pf hpf => ⟨sel pf, (hsel pf hpf).1, (hsel pf hpf).2, ?_⟩)
      exact ih pf hpf (ha.fields hta hc _ (hsel pf hpf).1) (hb.part htb pf hpf)
        (by have := rk_lt_tuple ha hta hc (hsel pf hpf).1; have := rk_lt_part hb htb hpf; omega)
    | part_part sel hta htb hname hsel _ ih =>
      intro ha hb hlt
      refine hW.part_part hta htb hname (fun f2 hf2 => ⟨sel f2, hsel f2 hf2, ?_⟩)
      have hmem := List.mem_of_find?_eq_some (hsel f2 hf2)
      exact ih f2 hf2 (ha.part hta _ hmem) (hb.part htb f2 hf2)
        (by have := rk_lt_part ha hta hmem; have := rk_lt_part hb htb hf2; omega)

theorem checkRel_rules_fo {T : Table} {W : Nat → Nat → Prop} (hW : Rules T W) {fuel : Nat} {asm asm' : Asm}
    {st : Stk} {a b : Nat} (ha : FO T a) (hb : FO T b) (hasm : ∀ p ∈ asm, W p.1 p.2.1)
    (h : checkRel T .all fuel asm st a b = some (true, asm')) : W a b ∧ ∀ p ∈ asm', W p.1 p.2.1 := by
  obtain ⟨_, hnew, hder⟩ := checkRel_goodS (Region.fo T) fuel asm st a b ha hb trivial true asm' h
  have hA : ∀ p, p ∈ asm' → W p.1 p.2.1 ∨ Supp T (FO T) (· ∈ asm') p :=
    fun p hp => (hnew p hp).imp (hasm p) id
  refine ⟨Der.rules_fo hW hA _ (hder rfl) ha hb (Nat.lt_succ_self _), fun p hp => ?_⟩
  rcases hA p hp with hw | hs
  · exact hw
  · exact Der.rules_fo hW hA _ (.hyp hp) hs.1.1 hs.1.2 (Nat.lt_succ_self _)

theorem checkRel_valid_fo {T : Table} {fuel : Nat} {asm asm' : Asm} {st : Stk} {a b : Nat} (ha : FO T a)
    (hb : FO T b) (hasm : ∀ p ∈ asm, Valid T p.1 p.2.1)
    (h : checkRel T .all fuel asm st a b = some (true, asm')) :
    Valid T a b ∧ ∀ p ∈ asm', Valid T p.1 p.2.1 :=
  checkRel_rules_fo (Rules.valid T) ha hb hasm h

theorem isCompatible_valid_fo {T : Table} {fuel a b : Nat} (ha : FO T a) (hb : FO T b)
    (h : isCompatible T fuel a b = some true) : Valid T a b := by
  obtain ⟨_, hc⟩ := isCompatible_eq_some.mp h
  exact (checkRel_valid_fo ha hb (fun _ hp => absurd hp List.not_mem_nil) hc).1

end QM.Types
