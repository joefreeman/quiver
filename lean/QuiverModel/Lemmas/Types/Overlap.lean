import QuiverModel.Lemmas.Types.ShapeLemmas
/-
Completeness of `checkRel` in mode ANY (overlap) on first-order cycle-free types: a `false`
verdict means the two types share no well-labelled value. No invariant on the assumption set is
needed (looking an assumption up can only answer `true`), and no ordering of the table.
-/
namespace QM.Types

/-- `a` and `b` share no well-labelled value, whatever the stacks -/
def Disjoint (T : Table) (a b : Nat) : Prop :=
  ∀ st st' v, v.wf = true → ¬ (inh T st a v ∧ inh T st' b v)

theorem labelsDistinct_unique :
    ∀ (fs : List (Option Name × V)), labelsDistinct fs = true →
      ∀ q1 ∈ fs, ∀ q2 ∈ fs, ∀ n, q1.1 = some n → q2.1 = some n → q1 = q2 := by
  intro fs
  induction fs with
  | nil => intro _ q1 h1; simp at h1
  | cons q rest ih =>
    intro h q1 h1 q2 h2 n hn1 hn2
    simp only [labelsDistinct, Bool.and_eq_true] at h
    obtain ⟨hq, hrest⟩ := h
    have hnot : ∀ r ∈ rest, q.1 = some n → r.1 ≠ some n := by
      intro r hr hqn hrn
      rw [hqn] at hq
      simp only [Bool.not_eq_true', List.any_eq_false, decide_eq_true_eq] at hq
      exact hq r hr hrn
    rcases List.mem_cons.mp h1 with e1 | h1' <;> rcases List.mem_cons.mp h2 with e2 | h2'
    · rw [e1, e2]
    · subst e1; exact absurd hn2 (hnot q2 h2' hn1)
    · subst e2; exact absurd hn1 (hnot q1 h1' hn2)
    · exact ih hrest q1 h1' q2 h2' n hn1 hn2

theorem wfAll_mem : (fs : VFields) → fs.wfAll = true → ∀ q ∈ fs.toList, q.2.wf = true
  | .nil, _ => by intro q hq; simp [VFields.toList] at hq
  | .cons l v rest, h => by
    simp only [VFields.wfAll, Bool.and_eq_true] at h
    intro q hq
    simp only [VFields.toList, List.mem_cons] at hq
    rcases hq with rfl | hq
    · exact h.1
    · exact wfAll_mem rest h.2 q hq

theorem V.wf_tup {name : Option Name} {fs : VFields} (h : (V.tup name fs).wf = true) :
    labelsDistinct fs.toList = true ∧ ∀ q ∈ fs.toList, q.2.wf = true := by
  simp only [V.wf, Bool.and_eq_true] at h
  exact ⟨h.1, wfAll_mem fs h.2⟩

theorem anyS_false {α : Type} {f : Asm → α → Res} (l : List α) (s s' : Asm)
    (h : anyS f l s = some (false, s')) : ∀ x ∈ l, ∃ s1 s2, f s1 x = some (false, s2) := by
  fun_induction anyS f l s with
  | case1 s => exact nofun
  | case2 x xs s hx => cases h
  | case3 x xs s s1 hx => cases h
  | case4 x xs s s1 hx ih =>
    exact fun y hy => (List.mem_cons.mp hy).elim (· ▸ ⟨s, s1, hx⟩) (ih h y)

theorem allS_false {α : Type} {f : Asm → α → Res} (l : List α) (s s' : Asm)
    (h : allS f l s = some (false, s')) : ∃ x ∈ l, ∃ s1 s2, f s1 x = some (false, s2) := by
  fun_induction allS f l s with
  | case1 s => cases h
  | case2 x xs s hx => cases h
  | case3 x xs s s1 hx => exact ⟨x, List.mem_cons_self, s, s1, hx⟩
  | case4 x xs s s1 hx ih =>
    obtain ⟨y, hy, hrest⟩ := ih h
    exact ⟨y, List.mem_cons_of_mem _ hy, hrest⟩

theorem restoreOnFail_false {vr : Variant} {asm s' : Asm} {inner : Res}
    (h : restoreOnFail vr asm inner = some (false, s')) : ∃ s'', inner = some (false, s'') := by
  cases inner with
  | none => simp [restoreOnFail] at h
  | some p =>
    obtain ⟨b, s1⟩ := p
    cases b with
    | true => simp [restoreOnFail] at h
    | false => exact ⟨s1, rfl⟩

theorem Disjoint.symm {T : Table} {a b : Nat} (h : Disjoint T a b) : Disjoint T b a :=
  fun st st' v hwf hv => h st' st v hwf hv.symm

/-- the recursive call only answers `false` on disjoint first-order types -/
def RecBad (T : Table) (rec : Rec) : Prop :=
  ∀ asm st x y asm', rec asm st x y = some (false, asm') → FO T x → FO T y → Disjoint T x y

def V.kind : V → Kind
  | .int _ => .integer
  | .bin _ => .binary
  | .ref _ => .reference
  | .tup _ _ => .tuple
  | .fn _ => .callable
  | .proc _ => .process
  | .res _ => .resource

theorem FO.inh_kind {T : Table} {st : List Nat} {t : Nat} {ty : Ty} {v : V} (hfo : FO T t)
    (hty : T.types[t]? = some ty) (hk : ty.kind.isSome = true) (h : inh T st t v) :
    ty.kind = some v.kind := by
  have hf := hfo.isFO hty
  cases ty with
  | integer => obtain ⟨_, rfl⟩ := (inh_integer hty).mp h; rfl
  | binary => obtain ⟨_, rfl⟩ := (inh_binary hty).mp h; rfl
  | reference => obtain ⟨_, rfl⟩ := (inh_reference hty).mp h; rfl
  | resource r => cases (inh_resource hty).mp h; rfl
  | tuple id =>
    obtain ⟨_, hi, _⟩ := hfo.tuple hty
    obtain ⟨_, _, rfl, _⟩ := (inh_tuple hty hi).mp h
    rfl
  | part pn pfs => obtain ⟨_, _, rfl, _⟩ := (inh_part hty).mp h; rfl
  | callable | process => cases hf
  | union | cycle | «variable» => cases hk

section
variable {T : Table} {rec : Rec} (hrec : RecBad T rec) {asm : Asm} {st : Stk} {a b : Nat}
  (ha : FO T a) (hb : FO T b)
include hrec ha hb

theorem unionLeft_bad {vs : List Nat} (hta : T.types[a]? = some (.union vs)) {s' : Asm}
    (h : unionLeft Variant.current .any rec asm st a b vs = some (false, s')) : Disjoint T a b := by
  unfold unionLeft at h
  obtain ⟨s'', hin⟩ := restoreOnFail_false h
  simp only at hin
  have hall := anyS_false vs _ _ hin
  intro st1 st2 v hwf ⟨hav, hbv⟩
  obtain ⟨i, hi, hiv⟩ := (inh_union hta).mp hav
  obtain ⟨s1, s2, hr⟩ := hall i hi
  exact hrec s1 _ i b s2 hr (ha.union hta i hi) hb _ _ v hwf ⟨hiv, hbv⟩

theorem unionRight_bad {vs : List Nat} (htb : T.types[b]? = some (.union vs)) {s' : Asm}
    (h : unionRight Variant.current rec asm st a b vs = some (false, s')) : Disjoint T a b := by
  unfold unionRight at h
  obtain ⟨s'', hin⟩ := restoreOnFail_false h
  have hall := anyS_false vs _ _ hin
  intro st1 st2 v hwf ⟨hav, hbv⟩
  obtain ⟨i, hi, hiv⟩ := (inh_union htb).mp hbv
  obtain ⟨s1, s2, hr⟩ := hall i hi
  exact hrec s1 _ a i s2 hr ha (hb.union htb i hi) _ _ v hwf ⟨hav, hiv⟩

theorem tupleTuple_bad {i1 i2 : Nat} (hta : T.types[a]? = some (.tuple i1))
    (htb : T.types[b]? = some (.tuple i2)) {s' : Asm}
    (h : tupleTuple Variant.current T .any rec asm st i1 i2 = some (false, s')) : Disjoint T a b := by
  obtain ⟨info1, h1, hf1⟩ := ha.tuple hta
  obtain ⟨info2, h2, hf2⟩ := hb.tuple htb
  intro st1 st2 v hwf ⟨hav, hbv⟩
  obtain ⟨name, fs, rfl, hn1, hr1⟩ := (inh_tuple hta h1).mp hav
  obtain ⟨_, _, hv', hn2, hr2⟩ := (inh_tuple htb h2).mp hbv
  cases hv'
  obtain ⟨_, hwfq⟩ := V.wf_tup hwf
  unfold tupleTuple at h
  split at h
  · simp at h
  · simp only [h1, h2] at h
    split at h
    · unfold tupleFields at h
      obtain ⟨p, hp, s1, s2, hfp⟩ := allS_false _ _ _ h
      obtain ⟨q, hq, hl1, hv1, hl2, hv2⟩ := FieldsRel.zip_mem hr1 hr2 p hp
      split at hfp
      · exact hrec s1 st _ _ s2 hfp (hf1 _ (List.of_mem_zip hp).1) (hf2 _ (List.of_mem_zip hp).2)
          _ _ q.2 (hwfq q hq) ⟨hv1, hv2⟩
      · rename_i hne
        exact hne (hl1.trans hl2.symm)
    · rename_i hne
      exact hne ⟨hn1.symm.trans hn2, by rw [hr1.length, hr2.length]⟩

theorem tuplePart_bad {c : Nat} {pn : Option Name} {pfs : List (Name × Nat)}
    (hta : T.types[a]? = some (.tuple c)) (htb : T.types[b]? = some (.part pn pfs)) {s' : Asm}
    (h : tuplePart T rec asm st c pn pfs = some (false, s')) : Disjoint T a b := by
  obtain ⟨ci, hc, hfc⟩ := ha.tuple hta
  have hfp := hb.part htb
  intro st1 st2 v hwf ⟨hav, hbv⟩
  obtain ⟨name, fs, rfl, hn1, hr1⟩ := (inh_tuple hta hc).mp hav
  obtain ⟨_, _, hv', hn2, hr2⟩ := (inh_part htb).mp hbv
  cases hv'
  obtain ⟨_, hwfq⟩ := V.wf_tup hwf
  unfold tuplePart at h
  simp only [hc] at h
  split at h
  · rename_i hconf
    rcases hn2 with hpn | hpn
    · rw [hpn] at hconf; simp at hconf
    · exact hconf.2 (hn1 ▸ hpn)
  · unfold tuplePartFields at h
    obtain ⟨pf, hpf, s1, s2, hany⟩ := allS_false _ _ _ h
    obtain ⟨q, hq, hql, hqv⟩ := hr2 pf hpf
    obtain ⟨cf, hcf, hcl, hcv⟩ := hr1.of_mem_right q hq
    obtain ⟨s3, s4, hfc'⟩ := anyS_false _ _ _ hany cf hcf
    split at hfc'
    · exact hrec s3 st _ _ s4 hfc' (hfc _ hcf) (hfp _ hpf) _ _ q.2 (hwfq q hq) ⟨hcv, hqv⟩
    · rename_i hne
      exact hne (hcl.trans hql)

theorem partTuple_bad {c : Nat} {pn : Option Name} {pfs : List (Name × Nat)}
    (hta : T.types[a]? = some (.part pn pfs)) (htb : T.types[b]? = some (.tuple c)) {s' : Asm}
    (h : partTuple Variant.current T .any rec asm st pn pfs c = some (false, s')) : Disjoint T a b := by
  -- the arm is `tuplePart` with the operands (and those of `rec`) exchanged
  have hswap : RecBad T (fun s st x y => rec s st y x) :=
    fun asm st x y asm' h hx hy => (hrec asm st y x asm' h hy hx).symm
  exact (tuplePart_bad hswap hb ha htb hta h).symm

theorem partPart_bad {n1 n2 : Option Name} {fs1 fs2 : List (Name × Nat)}
    (hta : T.types[a]? = some (.part n1 fs1)) (htb : T.types[b]? = some (.part n2 fs2)) {s' : Asm}
    (h : partPart Variant.current .any rec asm st n1 fs1 n2 fs2 = some (false, s')) :
    Disjoint T a b := by
  have hf1 := ha.part hta
  have hf2 := hb.part htb
  intro st1 st2 v hwf ⟨hav, hbv⟩
  obtain ⟨name, fs, rfl, hn1, hr1⟩ := (inh_part hta).mp hav
  obtain ⟨_, _, hv', hn2, hr2⟩ := (inh_part htb).mp hbv
  cases hv'
  obtain ⟨hdist, hwfq⟩ := V.wf_tup hwf
  unfold partPart at h
  split at h
  · rename_i hconf
    simp only [nameConflict, Variant.current, Bool.false_eq_true, if_false, Bool.and_eq_true,
      decide_eq_true_eq] at hconf
    exact name_clash hconf.1.1 hconf.1.2 hconf.2 hn1 hn2
  · unfold partPartFields at h
    simp only [Variant.current, Bool.false_eq_true, if_false] at h
    obtain ⟨f2, hf2m, s1, s2, hm⟩ := allS_false _ _ _ h
    split at hm
    · rename_i f1 hfind
      have hmem : f1 ∈ fs1 := List.mem_of_find?_eq_some hfind
      have hl : f1.1 = f2.1 := by simpa using List.find?_some hfind
      obtain ⟨q1, hq1, hql1, hqv1⟩ := hr1 f1 hmem
      obtain ⟨q2, hq2, hql2, hqv2⟩ := hr2 f2 hf2m
      have : q1 = q2 := labelsDistinct_unique _ hdist q1 hq1 q2 hq2 f1.1 hql1 (hl ▸ hql2)
      subst this
      exact hrec s1 st _ _ s2 hm (hf1 _ hmem) (hf2 _ hf2m) _ _ q1.2 (hwfq q1 hq1) ⟨hqv1, hqv2⟩
    · simp at hm

end

theorem relStep_bad {T : Table} {rec : Rec} (hrec : RecBad T rec) {asm : Asm} {st : Stk}
    {a b : Nat} {ta tb : Ty} (ha : FO T a) (hb : FO T b) (hta : T.types[a]? = some ta)
    (htb : T.types[b]? = some tb) {s' : Asm}
    (h : relStep Variant.current T .any rec asm st a b ta tb = some (false, s')) : Disjoint T a b := by
  have hfa := ha.isFO hta
  have hfb := hb.isFO htb
  have harm := relStep_arm Variant.current T .any rec asm st a b ta tb
  generalize relStep Variant.current T .any rec asm st a b ta tb = r at harm h
  cases harm with
  | never_left =>
    intro _ _ v _ ⟨hav, _⟩
    exact not_inh_never hta _ _ hav
  | integer | binary | reference => cases h
  | resource r1 r2 =>
    intro _ _ v _ ⟨hav, hbv⟩
    have hne : decide (r1 = r2) = false := congrArg Prod.fst (Option.some.inj h)
    exact of_decide_eq_false hne (V.res.inj (((inh_resource hta).mp hav).symm.trans ((inh_resource htb).mp hbv)))
  | union_left => exact unionLeft_bad hrec ha hb hta h
  | union_right => exact unionRight_bad hrec ha hb htb h
  | tuple_tuple => exact tupleTuple_bad hrec ha hb hta htb h
  | tuple_part => exact tuplePart_bad hrec ha hb hta htb h
  | part_part => exact partPart_bad hrec ha hb hta htb h
  | part_tuple => exact partTuple_bad hrec ha hb hta htb h
  | other _ _ hka hkb hne =>
    intro _ _ v _ ⟨hav, hbv⟩
    exact hne ((ha.inh_kind hta hka hav).trans (hb.inh_kind htb hkb hbv).symm)
  | var_left | cycle_cycle | cycle_left | process | callable => cases hfa
  | var_right | cycle_right => cases hfb

theorem checkRel_any_bad {T : Table} : ∀ (n : Nat), RecBad T (checkRel T .any n) := by
  intro n
  induction n with
  | zero => intro asm st x y asm' h; exact nomatch h
  | succ n ih =>
    intro asm st x y asm' h hx hy
    unfold checkRel checkRelV at h
    split at h
    · simp at h
    · split at h
      · simp at h
      · split at h
        · rename_i ta tb hta htb
          exact relStep_bad ih hx hy hta htb h
        · rename_i hne
          -- one of the ids is missing: impossible for first-order types
          obtain ⟨ta, hta, _⟩ := hx.unfold
          obtain ⟨tb, htb, _⟩ := hy.unfold
          exact absurd htb (hne ta tb hta)

end QM.Types
