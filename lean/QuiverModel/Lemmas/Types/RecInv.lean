import QuiverModel.Lemmas.Types.ShapeLemmas
/-
Invariants of stage 2 of the recursive soundness proof:

* `Chain t st` — `t` sits below a strictly increasing stack (an ordered table: children have smaller ids);
  then `pushStack st t = t :: st`, so the checker's stacks are the stacks `inhB` keeps;
* guard flags (`closedB`): closedness relative to flags, monotone in the flags; frames (`FramesOK`):
  every stack entry with the flags it was entered under, so that closedness can be re-established after
  a `Cycle` is resolved; `countTrue` of the flags strictly drops along such a jump.
-/
namespace QM.Types

/-- `t` sits below a strictly increasing stack -/
def Chain : Nat → List Nat → Prop
  | _, [] => True
  | t, x :: xs => t < x ∧ Chain x xs

theorem Chain.lt_all : ∀ {st : List Nat} {t : Nat}, Chain t st → ∀ x ∈ st, t < x := by
  intro st
  induction st with
  | nil => intro t _ x hx; simp at hx
  | cons y ys ih =>
    intro t h x hx
    rcases List.mem_cons.mp hx with rfl | hx
    · exact h.1
    · exact Nat.lt_trans h.1 (ih h.2 x hx)

theorem Chain.child {st : List Nat} {t c : Nat} (h : Chain t st) (hc : c < t) : Chain c st := by
  cases st with
  | nil => trivial
  | cons y ys => exact ⟨Nat.lt_trans hc h.1, h.2⟩

theorem Chain.push {st : List Nat} {t c : Nat} (h : Chain t st) (hc : c < t) : Chain c (t :: st) :=
  ⟨hc, h⟩

theorem pushStack_chain {st : List Nat} {t : Nat} (h : Chain t st) : pushStack st t = t :: st := by
  unfold pushStack
  have hnm : ¬ t ∈ st := fun hm => by
    have := h.lt_all t hm
    omega
  simp [hnm]

theorem Chain.drop : ∀ {st : List Nat} {t : Nat} (k : Nat) {sid : Nat}, Chain t st →
    st[k]? = some sid → Chain sid (st.drop (k + 1)) := by
  intro st
  induction st with
  | nil => intro t k sid _ h; simp at h
  | cons y ys ih =>
    intro t k sid h hk
    cases k with
    | zero =>
      simp only [List.getElem?_cons_zero, Option.some.injEq] at hk
      subst hk
      simpa using h.2
    | succ k =>
      simp only [List.getElem?_cons_succ] at hk
      simpa using ih k h.2 hk

theorem Chain.resolve {st : List Nat} {t d sid : Nat} (h : Chain t st)
    (hr : resolveCycle st d = some sid) : Chain sid (st.drop d) := by
  unfold resolveCycle at hr
  split at hr
  · cases hr
  · rename_i hd
    have := h.drop (d - 1) hr
    rwa [show d - 1 + 1 = d by omega] at this

/-- `closedB` with the guard flags `gs`, at some fuel -/
def ClosedAt (T : Table) (gs : List Bool) (t : Nat) : Prop := ∃ n, closedB T n gs t = true

/-- `gs'` has every flag `gs` has -/
def FlagsLe (gs gs' : List Bool) : Prop :=
  gs.length = gs'.length ∧ ∀ k : Nat, gs[k]?.getD false = true → gs'[k]?.getD false = true

theorem FlagsLe.refl (gs : List Bool) : FlagsLe gs gs := ⟨rfl, fun _ h => h⟩

theorem FlagsLe.trans {a b c : List Bool} (h1 : FlagsLe a b) (h2 : FlagsLe b c) : FlagsLe a c :=
  ⟨h1.1.trans h2.1, fun k h => h2.2 k (h1.2 k h)⟩

theorem FlagsLe.cons {gs gs' : List Bool} (f : Bool) (h : FlagsLe gs gs') : FlagsLe (f :: gs) (f :: gs') := by
  refine ⟨by simp [h.1], fun k hk => ?_⟩
  cases k with
  | zero => simpa using hk
  | succ k => simpa using h.2 k (by simpa using hk)

theorem FlagsLe.tail {f f' : Bool} {gs gs' : List Bool} (h : FlagsLe (f :: gs) (f' :: gs')) : FlagsLe gs gs' :=
  ⟨by simpa using h.1, fun k hk => by simpa using h.2 (k + 1) (by simpa using hk)⟩

theorem FlagsLe.allTrue (gs : List Bool) : FlagsLe gs (gs.map (fun _ => true)) := by
  refine ⟨by simp, fun k hk => ?_⟩
  have hlt : k < gs.length := by
    by_cases h : k < gs.length
    · exact h
    · simp [List.getElem?_eq_none (Nat.le_of_not_lt h)] at hk
  simp [hlt]

theorem FlagsLe.map_true {gs gs' : List Bool} (h : FlagsLe gs gs') :
    gs.map (fun _ => true) = gs'.map (fun _ => true) := by
  apply List.ext_getElem
  · simp [h.1]
  · intro i h1 h2; simp

theorem FlagsLe.drop {gs gs' : List Bool} (h : FlagsLe gs gs') (j : Nat) :
    FlagsLe (gs.drop j) (gs'.drop j) := by
  refine ⟨by simp [h.1], fun k hk => ?_⟩
  simp only [List.getElem?_drop] at hk ⊢
  exact h.2 _ hk

theorem closedB_flags {T : Table} : ∀ (n : Nat) (gs gs' : List Bool) (t : Nat), FlagsLe gs gs' →
    closedB T n gs t = true → closedB T n gs' t = true := by
  intro n
  induction n with
  | zero => intro gs gs' t _ h; exact nomatch h
  | succ n ih =>
    intro gs gs' t hle h
    unfold closedB at h ⊢
    cases hty : T.types[t]? with
    | none => simp [hty] at h
    | some ty =>
      simp only [hty] at h ⊢
      cases ty with
      | integer => rfl
      | binary => rfl
      | reference => rfl
      | resource _ => rfl
      | «variable» _ => simp at h
      | cycle d =>
        simp only [Bool.and_eq_true, decide_eq_true_eq] at h ⊢
        exact ⟨h.1, hle.2 _ h.2⟩
      | union ids =>
        simp only [List.all_eq_true] at h ⊢
        exact fun i hi => ih _ _ i (hle.cons false) (h i hi)
      | tuple id =>
        cases hinfo : T.tuples[id]? with
        | none => simp [hinfo] at h
        | some info =>
          simp only [hinfo, List.all_eq_true] at h ⊢
          rw [← hle.map_true]
          exact h
      | part pn fs =>
        simp only [List.all_eq_true] at h ⊢
        rw [← hle.map_true]
        exact h
      | callable p r c =>
        simp only [Bool.and_eq_true] at h ⊢
        rw [← hle.map_true]
        exact h
      | process s r =>
        cases s <;> cases r <;> simp only [Bool.false_eq_true] at h ⊢
        simp only [Bool.and_eq_true] at h ⊢
        rw [← hle.map_true]
        exact h

theorem ClosedAt.flags {T : Table} {gs gs' : List Bool} {t : Nat} (h : ClosedAt T gs t)
    (hle : FlagsLe gs gs') : ClosedAt T gs' t := by
  obtain ⟨n, hn⟩ := h
  exact ⟨n, closedB_flags n gs gs' t hle hn⟩

theorem ClosedAt.in_table {T : Table} {gs : List Bool} {t : Nat} (h : ClosedAt T gs t) :
    ∃ ty, T.types[t]? = some ty := by
  obtain ⟨n, hn⟩ := h
  cases n with
  | zero => exact nomatch hn
  | succ n =>
    unfold closedB at hn
    cases hty : T.types[t]? with
    | none => simp [hty] at hn
    | some ty => exact ⟨ty, rfl⟩

theorem ClosedAt.union {T : Table} {gs : List Bool} {t : Nat} {ids : List Nat} (h : ClosedAt T gs t)
    (hty : T.types[t]? = some (.union ids)) : ∀ i ∈ ids, ClosedAt T (false :: gs) i := by
  obtain ⟨n, hn⟩ := h
  cases n with
  | zero => exact nomatch hn
  | succ n =>
    unfold closedB at hn
    simp only [hty, List.all_eq_true] at hn
    exact fun i hi => ⟨n, hn i hi⟩

theorem ClosedAt.tuple {T : Table} {gs : List Bool} {t id : Nat} (h : ClosedAt T gs t)
    (hty : T.types[t]? = some (.tuple id)) :
    ∃ info, T.tuples[id]? = some info ∧ ∀ f ∈ info.fields, ClosedAt T (gs.map (fun _ => true)) f.2 := by
  obtain ⟨n, hn⟩ := h
  cases n with
  | zero => exact nomatch hn
  | succ n =>
    unfold closedB at hn
    simp only [hty] at hn
    cases hinfo : T.tuples[id]? with
    | none => simp [hinfo] at hn
    | some info =>
      simp only [hinfo, List.all_eq_true] at hn
      exact ⟨info, rfl, fun f hf => ⟨n, hn f hf⟩⟩

theorem ClosedAt.part {T : Table} {gs : List Bool} {t : Nat} {pn : Option Name} {pfs : List (Name × Nat)}
    (h : ClosedAt T gs t) (hty : T.types[t]? = some (.part pn pfs)) :
    ∀ pf ∈ pfs, ClosedAt T (gs.map (fun _ => true)) pf.2 := by
  obtain ⟨n, hn⟩ := h
  cases n with
  | zero => exact nomatch hn
  | succ n =>
    unfold closedB at hn
    simp only [hty, List.all_eq_true] at hn
    exact fun pf hpf => ⟨n, hn pf hpf⟩

theorem ClosedAt.cycle {T : Table} {gs : List Bool} {t d : Nat} (h : ClosedAt T gs t)
    (hty : T.types[t]? = some (.cycle d)) : d ≠ 0 ∧ gs[d - 1]?.getD false = true := by
  obtain ⟨n, hn⟩ := h
  cases n with
  | zero => exact nomatch hn
  | succ n =>
    unfold closedB at hn
    simp only [hty, Bool.and_eq_true, decide_eq_true_eq] at hn
    exact hn

def countTrue : List Bool → Nat
  | [] => 0
  | true :: gs => countTrue gs + 1
  | false :: gs => countTrue gs

theorem countTrue_le : ∀ {gs gs' : List Bool}, FlagsLe gs gs' → countTrue gs ≤ countTrue gs' := by
  intro gs
  induction gs with
  | nil => intro gs' h; cases gs' with
    | nil => exact Nat.le_refl _
    | cons _ _ => simp [FlagsLe] at h
  | cons f fs ih =>
    intro gs' h
    cases gs' with
    | nil => simp [FlagsLe] at h
    | cons f' fs' =>
      have := ih h.tail
      cases f with
      | false => cases f' <;> simp only [countTrue] <;> omega
      | true =>
        have : f' = true := by simpa using h.2 0 (by simp)
        subst this
        simp only [countTrue]; omega

theorem countTrue_drop : ∀ (gs : List Bool) (k : Nat), gs[k]?.getD false = true →
    countTrue (gs.drop (k + 1)) + 1 ≤ countTrue gs := by
  intro gs
  induction gs with
  | nil => intro k h; simp at h
  | cons f fs ih =>
    intro k h
    cases k with
    | zero =>
      have : f = true := by simpa using h
      subst this
      simp [countTrue]
    | succ k =>
      have := ih k (by simpa using h)
      cases f <;> simp only [List.drop_succ_cons, countTrue] <;> omega

/-- a stack entry with the guard flags it was entered under -/
abbrev Frame := Nat × List Bool

/-- every stack entry with the flags it was entered under: it is closed under them, and the flags
above it only add to them -/
def FramesOK (T : Table) : List Frame → List Bool → Prop
  | [], [] => True
  | fr :: rest, _ :: gs => ClosedAt T fr.2 fr.1 ∧ FlagsLe fr.2 gs ∧ FramesOK T rest fr.2
  | _, _ => False

theorem FramesOK.length {T : Table} : ∀ {fr : List Frame} {gs : List Bool}, FramesOK T fr gs →
    gs.length = fr.length := by
  intro fr
  induction fr with
  | nil => intro gs h; cases gs with
    | nil => rfl
    | cons _ _ => exact absurd h (by simp [FramesOK])
  | cons f rest ih =>
    intro gs h
    cases gs with
    | nil => exact absurd h (by simp [FramesOK])
    | cons g gs =>
      simp only [FramesOK] at h
      have := ih h.2.2
      simp only [List.length_cons]
      rw [← h.2.1.1, this]

theorem FramesOK.weaken {T : Table} : ∀ {fr : List Frame} {gs gs' : List Bool}, FramesOK T fr gs →
    FlagsLe gs gs' → FramesOK T fr gs' := by
  intro fr
  cases fr with
  | nil =>
    intro gs gs' h hle
    cases gs with
    | nil => cases gs' with
      | nil => trivial
      | cons _ _ => simp [FlagsLe] at hle
    | cons _ _ => exact absurd h (by simp [FramesOK])
  | cons f rest =>
    intro gs gs' h hle
    cases gs with
    | nil => exact absurd h (by simp [FramesOK])
    | cons g gs =>
      cases gs' with
      | nil => simp [FlagsLe] at hle
      | cons g' gs' =>
        simp only [FramesOK] at h ⊢
        exact ⟨h.1, h.2.1.trans hle.tail, h.2.2⟩

theorem FramesOK.push {T : Table} {fr : List Frame} {gs : List Bool} {y : Nat} (h : FramesOK T fr gs)
    (hy : ClosedAt T gs y) : FramesOK T ((y, gs) :: fr) (false :: gs) :=
  ⟨hy, FlagsLe.refl gs, h⟩

theorem FramesOK.jump {T : Table} : ∀ {fr : List Frame} {gs : List Bool} (k : Nat) {f : Frame},
    FramesOK T fr gs → fr[k]? = some f →
    ClosedAt T f.2 f.1 ∧ FramesOK T (fr.drop (k + 1)) f.2 ∧ FlagsLe f.2 (gs.drop (k + 1)) := by
  intro fr
  induction fr with
  | nil => intro gs k f _ h; simp at h
  | cons f0 rest ih =>
    intro gs k f h hk
    cases gs with
    | nil => exact absurd h (by simp [FramesOK])
    | cons g gs =>
      simp only [FramesOK] at h
      cases k with
      | zero =>
        simp only [List.getElem?_cons_zero, Option.some.injEq] at hk
        subst hk
        exact ⟨h.1, by simpa using h.2.2, by simpa using h.2.1⟩
      | succ k =>
        simp only [List.getElem?_cons_succ] at hk
        obtain ⟨h1, h2, h3⟩ := ih k h.2.2 hk
        refine ⟨h1, by simpa using h2, ?_⟩
        simpa using h3.trans (h.2.1.drop (k + 1))

end QM.Types
