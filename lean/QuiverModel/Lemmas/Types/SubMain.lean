import QuiverModel.Lemmas.Types.Sub
/-
The ALL-mode checker and `Sub` agree on first-order types, from every state:

* `checkRel_sub` — a `true` verdict from a state all of whose assumptions are `Sub` pairs is a `Sub` fact;
* `checkRel_comp` — with fuel above the rank sum the checker always answers, and it answers `true`
  on every `Sub` pair, whatever the assumption set and the stacks.
-/
namespace QM.Types

theorem checkRel_sub {T : Table} (hd : PartsDistinct T) (fuel : Nat) (asm : Asm) (st : Stk) (x y : Nat)
    (hx : FO T x) (hy : FO T y) (hasm : ∀ p ∈ asm, Sub T p.1 p.2.1) (asm' : Asm)
    (h : checkRel T .all fuel asm st x y = some (true, asm')) : Sub T x y :=
  (checkRel_rules_fo (Rules.sub hd) hx hy hasm h).1

/-- what `checkRel_comp` shows of each sub-check: `res` is an answer (not out of fuel), and it is `true`
when `P` holds (in `RecComp`, `P` is the `Sub` fact about the pair checked) -/
def Comp (res : Res) (P : Prop) : Prop :=
  (∃ r asm', res = some (r, asm')) ∧ (P → ∃ asm', res = some (true, asm'))

theorem Comp.const {asm : Asm} {P : Prop} {r : Bool} (h : P → r = true) : Comp (some (r, asm)) P :=
  ⟨⟨r, asm, rfl⟩, fun hp => ⟨asm, h hp ▸ rfl⟩⟩

theorem Comp.const_true {asm : Asm} {P : Prop} : Comp (some (true, asm)) P :=
  Comp.const (fun _ => rfl)

theorem Comp.const_false {asm : Asm} {P : Prop} (h : ¬ P) : Comp (some (false, asm)) P :=
  Comp.const (fun hp => absurd hp h)

theorem Comp.imp {res : Res} {P Q : Prop} (h : Comp res Q) (hPQ : P → Q) : Comp res P :=
  ⟨h.1, fun hp => h.2 (hPQ hp)⟩

theorem allS_comp {α : Type} {f : Asm → α → Res} {R : α → Prop} (l : List α)
    (hf : ∀ x ∈ l, ∀ s, Comp (f s x) (R x)) (s : Asm) : Comp (allS f l s) (∀ x ∈ l, R x) := by
  fun_induction allS f l s with
  | case1 s => exact Comp.const_true
  | case2 x xs s hx =>
    obtain ⟨_, _, h⟩ := (hf x List.mem_cons_self s).1
    exact nomatch hx.symm.trans h
  | case3 x xs s s' hx =>
    refine Comp.const_false (fun hall => ?_)
    obtain ⟨_, h⟩ := (hf x List.mem_cons_self s).2 (hall x List.mem_cons_self)
    exact nomatch hx.symm.trans h
  | case4 x xs s s' hx ih =>
    exact (ih (fun y hy => hf y (List.mem_cons_of_mem _ hy))).imp (fun hall y hy => hall y (List.mem_cons_of_mem _ hy))

theorem anyS_comp {α : Type} {f : Asm → α → Res} {R : α → Prop} (l : List α)
    (hf : ∀ x ∈ l, ∀ s, Comp (f s x) (R x)) (s : Asm) : Comp (anyS f l s) (∃ x ∈ l, R x) := by
  fun_induction anyS f l s with
  | case1 s => exact Comp.const_false nofun
  | case2 x xs s hx =>
    obtain ⟨_, _, h⟩ := (hf x List.mem_cons_self s).1
    exact nomatch hx.symm.trans h
  | case3 x xs s s' hx => exact Comp.const_true
  | case4 x xs s s' hx ih =>
    refine (ih (fun y hy => hf y (List.mem_cons_of_mem _ hy))).imp ?_
    rintro ⟨y, hy, hRy⟩
    rcases List.mem_cons.mp hy with rfl | hy
    · obtain ⟨_, h⟩ := (hf y List.mem_cons_self s).2 hRy
      exact nomatch hx.symm.trans h
    · exact ⟨y, hy, hRy⟩

theorem Comp.restore {inner : Res} {snapshot : Asm} {P : Prop} (h : Comp inner P) :
    Comp (restoreOnFail Variant.current snapshot inner) P := by
  obtain ⟨⟨r, s1, hr⟩, h2⟩ := h
  constructor
  · rw [hr]
    cases r <;> simp [restoreOnFail]
  · intro hp
    obtain ⟨s2, hr2⟩ := h2 hp
    rw [hr2]
    exact ⟨s2, by simp [restoreOnFail]⟩

/-- the recursive call answers (and answers `true` on `Sub` pairs) on every first-order pair with rank
sum below `bound` -/
def RecComp (T : Table) (rec : Rec) (bound : Nat) : Prop :=
  ∀ asm st x y, FO T x → FO T y → rk T x + rk T y < bound → Comp (rec asm st x y) (Sub T x y)

section
variable {T : Table} {rec : Rec} {asm : Asm} {st : Stk} {a b : Nat}
  (ha : FO T a) (hb : FO T b) (hrec : RecComp T rec (rk T a + rk T b))
include ha hb hrec

theorem unionLeft_comp {vs : List Nat} (hta : T.types[a]? = some (.union vs)) :
    Comp (unionLeft Variant.current .all rec asm st a b vs) (Sub T a b) := by
  unfold unionLeft
  obtain ⟨tb, htb, _⟩ := hb.unfold
  refine Comp.restore ((allS_comp (R := fun v => Sub T v b) vs (fun v hv s => ?_) _).imp
    (Sub.union_left_iff hta htb).mp)
  have hlt := rk_lt_union ha hta hv
  exact hrec s _ v b (ha.union hta v hv) hb (by omega)

theorem unionRight_comp {ta : Ty} {ws : List Nat} (hta : T.types[a]? = some ta)
    (hnu : ta.isUnion = false) (htb : T.types[b]? = some (.union ws)) :
    Comp (unionRight Variant.current rec asm st a b ws) (Sub T a b) := by
  unfold unionRight
  refine Comp.restore ((anyS_comp (R := fun w => Sub T a w) ws (fun w hw s => ?_) _).imp
    (Sub.union_right_iff hta hnu htb).mp)
  have hlt := rk_lt_union hb htb hw
  exact hrec s _ a w ha (hb.union htb w hw) (by omega)

theorem tupleTuple_comp {i1 i2 : Nat} (hta : T.types[a]? = some (.tuple i1))
    (htb : T.types[b]? = some (.tuple i2)) :
    Comp (tupleTuple Variant.current T .all rec asm st i1 i2) (Sub T a b) := by
  obtain ⟨info1, h1, hf1⟩ := ha.tuple hta
  obtain ⟨info2, h2, hf2⟩ := hb.tuple htb
  unfold tupleTuple
  split
  · exact Comp.const_true
  · simp only [h1, h2]
    split
    · unfold tupleFields
      refine (allS_comp (R := fun p => p.1.1 = p.2.1 ∧ Sub T p.1.2 p.2.2) _ (fun p hp s => ?_) asm).imp
        (fun h => ((Sub.tuple_tuple_iff hta htb h1 h2).mp h).2.2)
      have hp1 : p.1 ∈ info1.fields := (List.of_mem_zip hp).1
      have hp2 : p.2 ∈ info2.fields := (List.of_mem_zip hp).2
      have hlt1 := rk_lt_tuple ha hta h1 hp1
      have hlt2 := rk_lt_tuple hb htb h2 hp2
      split
      · exact (hrec s st _ _ (hf1 _ hp1) (hf2 _ hp2) (by omega)).imp (fun h => h.2)
      · rename_i hl
        exact Comp.const_false (fun h => hl h.1)
    · rename_i hnl
      exact Comp.const_false (fun h => hnl
        ⟨((Sub.tuple_tuple_iff hta htb h1 h2).mp h).1, ((Sub.tuple_tuple_iff hta htb h1 h2).mp h).2.1⟩)

theorem tuplePart_comp {c : Nat} {pn : Option Name} {pfs : List (Name × Nat)}
    (hta : T.types[a]? = some (.tuple c)) (htb : T.types[b]? = some (.part pn pfs)) :
    Comp (tuplePart T rec asm st c pn pfs) (Sub T a b) := by
  obtain ⟨ci, hc, hfc⟩ := ha.tuple hta
  have hfp := hb.part htb
  unfold tuplePart
  simp only [hc]
  split
  · rename_i hname
    exact Comp.const_false (fun h => ((Sub.tuple_part_iff hta htb hc).mp h).1 hname)
  · unfold tuplePartFields
    refine (allS_comp (R := fun pf => ∃ cf ∈ ci.fields, cf.1 = some pf.1 ∧ Sub T cf.2 pf.2) pfs
      (fun pf hpf s => ?_) asm).imp (fun h => ((Sub.tuple_part_iff hta htb hc).mp h).2)
    refine (anyS_comp (R := fun cf => cf.1 = some pf.1 ∧ Sub T cf.2 pf.2) ci.fields
      (fun cf hcf s' => ?_) s).imp (fun ⟨cf, hcf, h⟩ => ⟨cf, hcf, h⟩)
    have hlt1 := rk_lt_tuple ha hta hc hcf
    have hlt2 := rk_lt_part hb htb hpf
    split
    · exact (hrec s' st _ _ (hfc _ hcf) (hfp _ hpf) (by omega)).imp (fun h => h.2)
    · rename_i hl
      exact Comp.const_false (fun h => hl h.1)

theorem partPart_comp {n1 n2 : Option Name} {fs1 fs2 : List (Name × Nat)}
    (hta : T.types[a]? = some (.part n1 fs1)) (htb : T.types[b]? = some (.part n2 fs2)) :
    Comp (partPart Variant.current .all rec asm st n1 fs1 n2 fs2) (Sub T a b) := by
  have hf1 := ha.part hta
  have hf2 := hb.part htb
  unfold partPart
  split
  · rename_i hname
    exact Comp.const_false (fun h => by
      have := ((Sub.part_part_iff hta htb).mp h).1
      rw [this] at hname
      simp at hname)
  · unfold partPartFields
    simp only [Variant.current, Bool.false_eq_true, if_false]
    refine (allS_comp
      (R := fun f2 => ∃ f1, fs1.find? (fun f1 => f1.1 == f2.1) = some f1 ∧ Sub T f1.2 f2.2) fs2
      (fun f2 hf2mem s => ?_) asm).imp (fun h => ((Sub.part_part_iff hta htb).mp h).2)
    split
    · rename_i f1 hfind
      have hmem : f1 ∈ fs1 := List.mem_of_find?_eq_some hfind
      have hlt1 := rk_lt_part ha hta hmem
      have hlt2 := rk_lt_part hb htb hf2mem
      refine (hrec s st _ _ (hf1 _ hmem) (hf2 _ hf2mem) (by omega)).imp ?_
      rintro ⟨f1', hfind', h⟩
      rw [hfind] at hfind'
      cases hfind'
      exact h
    · rename_i hfind
      exact Comp.const_false (by
        rintro ⟨f1, hfind', _⟩
        rw [hfind] at hfind'
        cases hfind')

end

theorem Sub.struct_false {T : Table} {a b : Nat} {ta tb : Ty}
    (hta : T.types[a]? = some ta) (hnu : ta.isUnion = false)
    (htb : T.types[b]? = some tb) (hnub : tb.isUnion = false)
    (hfalse : ∀ r, subStruct T r ta tb = false) : ¬ Sub T a b := by
  intro h
  obtain ⟨n, hn⟩ := (Sub.struct_iff hta hnu htb hnub).mp h
  rw [hfalse] at hn
  cases hn

theorem relStep_comp {T : Table} {rec : Rec} {asm : Asm} {st : Stk} {a b : Nat} {ta tb : Ty}
    (ha : FO T a) (hb : FO T b) (hta : T.types[a]? = some ta) (htb : T.types[b]? = some tb)
    (hrec : RecComp T rec (rk T a + rk T b)) :
    Comp (relStep Variant.current T .all rec asm st a b ta tb) (Sub T a b) := by
  have hfa := ha.isFO hta
  have hfb := hb.isFO htb
  have harm := relStep_arm Variant.current T .all rec asm st a b ta tb
  generalize relStep Variant.current T .all rec asm st a b ta tb = r at harm
  cases harm with
  | never_left | integer | binary | reference => exact Comp.const_true
  | resource r1 r2 =>
    exact Comp.const (fun h => ((Sub.struct_iff hta rfl htb rfl).mp h).elim (fun _ hn => hn))
  | union_left => exact unionLeft_comp ha hb hrec hta
  | union_right _ _ hk => exact unionRight_comp ha hb hrec hta (Ty.isUnion_of_kind hk) htb
  | tuple_tuple => exact tupleTuple_comp ha hb hrec hta htb
  | tuple_part => exact tuplePart_comp ha hb hrec hta htb
  | part_part => exact partPart_comp ha hb hrec hta htb
  | part_tuple => exact Comp.const_false (Sub.struct_false hta rfl htb rfl (fun _ => rfl))
  | other _ _ hka hkb hne =>
    exact Comp.const_false (Sub.struct_false hta (Ty.isUnion_of_kind hka) htb (Ty.isUnion_of_kind hkb)
      (fun _ => subStruct_of_kind_ne hne))
  | var_left | cycle_cycle | cycle_left | process | callable => cases hfa
  | var_right | cycle_right => cases hfb

theorem RecComp.mono {T : Table} {rec : Rec} {n m : Nat} (h : RecComp T rec n) (hm : m ≤ n) :
    RecComp T rec m :=
  fun asm st x y hx hy hlt => h asm st x y hx hy (by omega)

theorem checkRel_comp (T : Table) : ∀ (n : Nat), RecComp T (checkRel T .all n) n := by
  intro n
  induction n with
  | zero => intro asm st x y _ _ h; omega
  | succ n ih =>
    intro asm st x y hx hy hlt
    unfold checkRel checkRelV
    split
    · exact Comp.const_true
    · split
      · exact Comp.const_true
      · split
        · rename_i ta tb hta htb
          exact relStep_comp hx hy hta htb (ih.mono (by omega))
        · rename_i hnone
          obtain ⟨ta, hta, _⟩ := hx.unfold
          obtain ⟨tb, htb, _⟩ := hy.unfold
          exact absurd htb (hnone ta tb hta)

end QM.Types
