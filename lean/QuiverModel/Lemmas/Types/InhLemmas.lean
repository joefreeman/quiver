import QuiverModel.Core.Types.Inh
import QuiverModel.Lemmas.Types.Mono
/-
Facts about `inhB` / `inh`: list forms of the field tests, one unfolding of `inhB` per type constructor,
fuel monotonicity, and the same unfolding for `inh` (the "meaning of a type" as propositions).
-/
namespace QM.Types

theorem hasFieldB_eq_any (f : Nat → V → Bool) (name : Name) (t : Nat) :
    (fs : VFields) → hasFieldB f name t fs =
      fs.toList.any (fun p => decide (p.1 = some name) && f t p.2)
  | .nil => by simp [hasFieldB, VFields.toList]
  | .cons l v vs => by
    simp [hasFieldB, VFields.toList, hasFieldB_eq_any f name t vs]

/-- the relation `fieldsB` decides between declared fields and value fields: same length, same
labels position by position, each value related to the declared field type. -/
inductive FieldsRel (P : Nat → V → Prop) : List (Option Name × Nat) → List (Option Name × V) → Prop
  | nil : FieldsRel P [] []
  | cons {p : Option Name × Nat} {q : Option Name × V} {l : List (Option Name × Nat)}
      {fs : List (Option Name × V)} :
      p.1 = q.1 → P p.2 q.2 → FieldsRel P l fs → FieldsRel P (p :: l) (q :: fs)

theorem fieldsB_iff (f : Nat → V → Bool) :
    (l : List (Option Name × Nat)) → (fs : VFields) →
      (fieldsB f l fs = true ↔ FieldsRel (fun c v => f c v = true) l fs.toList)
  | [], .nil => by simp [fieldsB, VFields.toList]; exact .nil
  | [], .cons _ _ _ => by
    simp only [fieldsB, VFields.toList]
    exact ⟨fun h => by simp at h, fun h => by cases h⟩
  | _ :: _, .nil => by
    simp only [fieldsB, VFields.toList]
    exact ⟨fun h => by simp at h, fun h => by cases h⟩
  | p :: rest, .cons l' v vs => by
    have ih := fieldsB_iff f rest vs
    simp only [fieldsB, VFields.toList, Bool.and_eq_true, decide_eq_true_eq]
    constructor
    · rintro ⟨⟨h1, h2⟩, h3⟩; exact .cons h1 h2 (ih.mp h3)
    · intro h
      cases h with
      | cons h1 h2 h3 => exact ⟨⟨h1, h2⟩, ih.mpr h3⟩

theorem FieldsRel.imp {P Q : Nat → V → Prop} {l : List (Option Name × Nat)}
    {fs : List (Option Name × V)} (h : ∀ c ∈ l.map (·.2), ∀ v, P c v → Q c v)
    (hr : FieldsRel P l fs) : FieldsRel Q l fs := by
  induction hr with
  | nil => exact .nil
  | cons h1 h2 _ ih =>
    refine .cons h1 (h _ (by simp) _ h2) (ih ?_)
    intro c hc v hP
    exact h c (by simp only [List.map_cons, List.mem_cons]; exact Or.inr hc) v hP

theorem FieldsRel.zip_imp {P Q : Nat → V → Prop} :
    ∀ (f1 f2 : List (Option Name × Nat)) (fs : List (Option Name × V)),
      f1.length = f2.length →
      (∀ p ∈ f1.zip f2, p.1.1 = p.2.1 ∧ ∀ v, P p.1.2 v → Q p.2.2 v) →
      FieldsRel P f1 fs → FieldsRel Q f2 fs := by
  intro f1
  induction f1 with
  | nil =>
    intro f2 fs hlen _ hr
    cases hr
    cases f2 with
    | nil => exact .nil
    | cons _ _ => simp at hlen
  | cons p rest ih =>
    intro f2 fs hlen hz hr
    cases f2 with
    | nil => simp at hlen
    | cons q rest2 =>
      cases hr with
      | cons h1 h2 h3 =>
        have hpq := hz (p, q) (by simp)
        refine .cons (hpq.1 ▸ h1) (hpq.2 _ h2) (ih rest2 _ (by simpa using hlen) ?_ h3)
        intro z hzmem
        exact hz z (by simp [hzmem])

theorem FieldsRel.congr {P Q : Nat → V → Prop} {l : List (Option Name × Nat)} {qs : List (Option Name × V)}
    (h : ∀ c ∈ l.map (·.2), ∀ v, P c v ↔ Q c v) : FieldsRel P l qs ↔ FieldsRel Q l qs :=
  ⟨FieldsRel.imp fun c hc v => (h c hc v).mp, FieldsRel.imp fun c hc v => (h c hc v).mpr⟩

theorem FieldsRel.of_mem {P : Nat → V → Prop} {l : List (Option Name × Nat)}
    {fs : List (Option Name × V)} (h : FieldsRel P l fs) :
    ∀ cf ∈ l, ∃ q ∈ fs, cf.1 = q.1 ∧ P cf.2 q.2 := by
  induction h with
  | nil => intro cf hcf; simp at hcf
  | cons h1 h2 _ ih =>
    intro cf hcf
    rcases List.mem_cons.mp hcf with rfl | hcf
    · exact ⟨_, by simp, h1, h2⟩
    · obtain ⟨q, hq, hql, hqv⟩ := ih cf hcf
      exact ⟨q, by simp [hq], hql, hqv⟩

theorem FieldsRel.length {P : Nat → V → Prop} {l : List (Option Name × Nat)}
    {fs : List (Option Name × V)} (h : FieldsRel P l fs) : l.length = fs.length := by
  induction h with
  | nil => rfl
  | cons _ _ _ ih => simp [ih]

theorem FieldsRel.of_mem_right {P : Nat → V → Prop} {l : List (Option Name × Nat)}
    {fs : List (Option Name × V)} (h : FieldsRel P l fs) :
    ∀ q ∈ fs, ∃ cf ∈ l, cf.1 = q.1 ∧ P cf.2 q.2 := by
  induction h with
  | nil => intro q hq; simp at hq
  | cons h1 h2 _ ih =>
    intro q hq
    rcases List.mem_cons.mp hq with rfl | hq
    · exact ⟨_, by simp, h1, h2⟩
    · obtain ⟨cf, hcf, hl, hv⟩ := ih q hq
      exact ⟨cf, by simp [hcf], hl, hv⟩

theorem FieldsRel.zip_mem {P Q : Nat → V → Prop} :
    ∀ {l1 l2 : List (Option Name × Nat)} {fs : List (Option Name × V)},
      FieldsRel P l1 fs → FieldsRel Q l2 fs →
      ∀ p ∈ l1.zip l2, ∃ q ∈ fs, p.1.1 = q.1 ∧ P p.1.2 q.2 ∧ p.2.1 = q.1 ∧ Q p.2.2 q.2 := by
  intro l1 l2 fs h1
  induction h1 generalizing l2 with
  | nil => intro _ p hp; simp at hp
  | cons ha hb _ ih =>
    intro h2 p hp
    cases h2 with
    | cons hc hd he =>
      simp only [List.zip_cons_cons, List.mem_cons] at hp
      rcases hp with rfl | hp
      · exact ⟨_, by simp, ha, hb, hc, hd⟩
      · obtain ⟨q, hq, hrest⟩ := ih he p hp
        exact ⟨q, by simp [hq], hrest⟩

theorem FieldsRel.split {P : Nat → V → Prop} :
    ∀ {pre s : List (Option Name × Nat)} {qs : List (Option Name × V)}, FieldsRel P (pre ++ s) qs →
      ∃ qpre qsuf, qs = qpre ++ qsuf ∧ FieldsRel P pre qpre ∧ FieldsRel P s qsuf := by
  intro pre
  induction pre with
  | nil => intro s qs h; exact ⟨[], qs, rfl, .nil, h⟩
  | cons p rest ih =>
    intro s qs h
    cases h with
    | cons h1 h2 h3 =>
      obtain ⟨qpre, qsuf, rfl, hp, hs⟩ := ih h3
      exact ⟨_ :: qpre, qsuf, rfl, .cons h1 h2 hp, hs⟩

theorem FieldsRel.append {P : Nat → V → Prop} :
    ∀ {pre s : List (Option Name × Nat)} {qpre qsuf : List (Option Name × V)},
      FieldsRel P pre qpre → FieldsRel P s qsuf → FieldsRel P (pre ++ s) (qpre ++ qsuf) := by
  intro pre s qpre qsuf h1 h2
  induction h1 with
  | nil => exact h2
  | cons ha hb _ ih => exact .cons ha hb ih

theorem common_fuel {α : Type} (P : Nat → α → Prop) (mono : ∀ n m x, n ≤ m → P n x → P m x) :
    ∀ (l : List α), (∀ x ∈ l, ∃ n, P n x) → ∃ n, ∀ x ∈ l, P n x := by
  intro l
  induction l with
  | nil => intro _; exact ⟨0, fun x hx => nomatch hx⟩
  | cons y ys ih =>
    intro h
    obtain ⟨n1, hn1⟩ := h y List.mem_cons_self
    obtain ⟨n2, hn2⟩ := ih (fun x hx => h x (List.mem_cons_of_mem _ hx))
    refine ⟨max n1 n2, fun x hx => ?_⟩
    rcases List.mem_cons.mp hx with rfl | hx
    · exact mono _ _ _ (Nat.le_max_left _ _) hn1
    · exact mono _ _ _ (Nat.le_max_right _ _) (hn2 x hx)

theorem common_fuel_iff {α : Type} {P : Nat → α → Prop} (mono : ∀ n m x, n ≤ m → P n x → P m x)
    (l : List α) : (∃ n, ∀ x ∈ l, P n x) ↔ ∀ x ∈ l, ∃ n, P n x :=
  ⟨fun ⟨n, h⟩ x hx => ⟨n, h x hx⟩, common_fuel P mono l⟩

section
variable {T : Table} {st : List Nat} {t n : Nat} {v : V}

theorem inhB_integer (h : T.types[t]? = some .integer) : inhB T (n + 1) st t v = true ↔ ∃ z, v = .int z := by
  conv => lhs; unfold inhB
  simp only [h]
  cases v <;> simp

theorem inhB_binary (h : T.types[t]? = some .binary) : inhB T (n + 1) st t v = true ↔ ∃ z, v = .bin z := by
  conv => lhs; unfold inhB
  simp only [h]
  cases v <;> simp

theorem inhB_reference (h : T.types[t]? = some .reference) :
    inhB T (n + 1) st t v = true ↔ ∃ z, v = .ref z := by
  conv => lhs; unfold inhB
  simp only [h]
  cases v <;> simp

theorem inhB_resource {r : Name} (h : T.types[t]? = some (.resource r)) :
    inhB T (n + 1) st t v = true ↔ v = .res r := by
  conv => lhs; unfold inhB
  simp only [h]
  cases v <;> simp [eq_comm]

theorem inhB_union {ids : List Nat} (h : T.types[t]? = some (.union ids)) :
    inhB T (n + 1) st t v = true ↔ ∃ i ∈ ids, inhB T n (t :: st) i v = true := by
  conv => lhs; unfold inhB
  simp only [h, List.any_eq_true]

theorem inhB_cycle {d : Nat} (h : T.types[t]? = some (.cycle d)) :
    inhB T (n + 1) st t v = true ↔
      ∃ id, resolveCycle st d = some id ∧ inhB T n (st.drop d) id v = true := by
  conv => lhs; unfold inhB
  simp only [h]
  cases resolveCycle st d with
  | none => exact ⟨nofun, fun ⟨_, e, _⟩ => nomatch e⟩
  | some id => exact ⟨fun hn => ⟨id, rfl, hn⟩, fun ⟨_, e, hn⟩ => Option.some.inj e ▸ hn⟩

theorem inhB_tuple {id : Nat} {info : TupleInfo} (h : T.types[t]? = some (.tuple id))
    (hi : T.tuples[id]? = some info) :
    inhB T (n + 1) st t v = true ↔
      ∃ name fs, v = .tup name fs ∧ name = info.name ∧
        FieldsRel (fun c v => inhB T n st c v = true) info.fields fs.toList := by
  conv => lhs; unfold inhB
  simp only [h, hi]
  cases v with
  | tup name fs =>
    simp only [Bool.and_eq_true, decide_eq_true_eq, fieldsB_iff]
    exact ⟨fun ⟨h1, h2⟩ => ⟨name, fs, rfl, h1, h2⟩, fun ⟨_, _, e, h1, h2⟩ => by cases e; exact ⟨h1, h2⟩⟩
  | _ => exact ⟨nofun, fun ⟨_, _, e, _⟩ => nomatch e⟩

theorem inhB_part {pn : Option Name} {pfs : List (Name × Nat)} (h : T.types[t]? = some (.part pn pfs)) :
    inhB T (n + 1) st t v = true ↔
      ∃ name fs, v = .tup name fs ∧ (pn = none ∨ name = pn) ∧
        ∀ pf ∈ pfs, ∃ q ∈ fs.toList, q.1 = some pf.1 ∧ inhB T n st pf.2 q.2 = true := by
  conv => lhs; unfold inhB
  simp only [h]
  cases v with
  | tup name fs =>
    simp only [Bool.and_eq_true, Bool.or_eq_true, Option.isNone_iff_eq_none, decide_eq_true_eq,
      List.all_eq_true, hasFieldB_eq_any, List.any_eq_true]
    exact ⟨fun ⟨h1, h2⟩ => ⟨name, fs, rfl, h1, h2⟩, fun ⟨_, _, e, h1, h2⟩ => by cases e; exact ⟨h1, h2⟩⟩
  | _ => exact ⟨nofun, fun ⟨_, _, e, _⟩ => nomatch e⟩

end

/-- the test "the declared type is accepted" that `inhB` makes of a function or process value survives more fuel -/
theorem accepted_succ {T : Table} {n : Nat} {st : Stk} {a b : Nat}
    (h : (match checkRel T .all n [] st a b with | some (true, _) => true | _ => false) = true) :
    (match checkRel T .all (n + 1) [] st a b with | some (true, _) => true | _ => false) = true := by
  split at h
  · rename_i s hc
    rw [checkRel_mono T .all (Nat.le_succ n) _ _ _ _ hc]
  · cases h

theorem inhB_succ (T : Table) :
    ∀ (n : Nat) (st : List Nat) (t : Nat) (v : V), inhB T n st t v = true → inhB T (n + 1) st t v = true := by
  intro n
  induction n with
  | zero => intro st t v h; exact nomatch h
  | succ n ih =>
    intro st t v h
    cases hty : T.types[t]? with
    | none => unfold inhB at h; simp [hty] at h
    | some ty =>
      cases ty with
      | integer => exact (inhB_integer hty).mpr ((inhB_integer hty).mp h)
      | binary => exact (inhB_binary hty).mpr ((inhB_binary hty).mp h)
      | reference => exact (inhB_reference hty).mpr ((inhB_reference hty).mp h)
      | resource r => exact (inhB_resource hty).mpr ((inhB_resource hty).mp h)
      | «variable» r => unfold inhB; simp only [hty]
      | cycle d =>
        obtain ⟨id, hr, hv⟩ := (inhB_cycle hty).mp h
        exact (inhB_cycle hty).mpr ⟨id, hr, ih _ _ _ hv⟩
      | union ids =>
        obtain ⟨i, hi, hv⟩ := (inhB_union hty).mp h
        exact (inhB_union hty).mpr ⟨i, hi, ih _ _ _ hv⟩
      | tuple id =>
        cases hinfo : T.tuples[id]? with
        | none => unfold inhB at h; simp [hty, hinfo] at h
        | some info =>
          obtain ⟨name, fs, hv, hn, hf⟩ := (inhB_tuple hty hinfo).mp h
          exact (inhB_tuple hty hinfo).mpr ⟨name, fs, hv, hn, FieldsRel.imp (fun c _ v hP => ih _ _ _ hP) hf⟩
      | part pn pfs =>
        obtain ⟨name, fs, hv, hn, hf⟩ := (inhB_part hty).mp h
        refine (inhB_part hty).mpr ⟨name, fs, hv, hn, fun pf hpf => ?_⟩
        obtain ⟨q, hq, hl, hqv⟩ := hf pf hpf
        exact ⟨q, hq, hl, ih _ _ _ hqv⟩
      | callable _ _ _ | process _ _ =>
        unfold inhB at h ⊢
        simp only [hty] at h ⊢
        cases v <;> try cases h
        simp only [Bool.and_eq_true] at h ⊢
        exact ⟨h.1, accepted_succ h.2⟩

theorem inhB_mono (T : Table) {n m : Nat} (hnm : n ≤ m) (st : List Nat) (t : Nat) (v : V)
    (h : inhB T n st t v = true) : inhB T m st t v = true := by
  induction hnm with
  | refl => exact h
  | step _ ih => exact inhB_succ T _ st t v ih

theorem inh_missing {T : Table} {st : List Nat} {t : Nat} {v : V} (h : T.types[t]? = none) :
    ¬ inh T st t v := by
  rintro ⟨n, hn⟩
  cases n with
  | zero => exact nomatch hn
  | succ n => unfold inhB at hn; simp [h] at hn

theorem inh_variable {T : Table} {st : List Nat} {t x : Nat} {v : V} (h : T.types[t]? = some (.variable x)) :
    inh T st t v :=
  ⟨1, by unfold inhB; rw [h]⟩

section
variable {T : Table} {st : List Nat} {t : Nat} {v : V}

/-- without fuel `inhB` answers `false` -/
theorem inh_iff_succ : inh T st t v ↔ ∃ n, inhB T (n + 1) st t v = true :=
  ⟨fun ⟨n, h⟩ => match n, h with | n + 1, h => ⟨n, h⟩, fun ⟨n, h⟩ => ⟨n + 1, h⟩⟩

theorem inh_integer (h : T.types[t]? = some .integer) : inh T st t v ↔ ∃ z, v = .int z := by
  simp only [inh_iff_succ, inhB_integer h, exists_const]

theorem inh_binary (h : T.types[t]? = some .binary) : inh T st t v ↔ ∃ z, v = .bin z := by
  simp only [inh_iff_succ, inhB_binary h, exists_const]

theorem inh_reference (h : T.types[t]? = some .reference) : inh T st t v ↔ ∃ z, v = .ref z := by
  simp only [inh_iff_succ, inhB_reference h, exists_const]

theorem inh_resource {r : Name} (h : T.types[t]? = some (.resource r)) : inh T st t v ↔ v = .res r := by
  simp only [inh_iff_succ, inhB_resource h, exists_const]

/-- the leaf types: their values depend neither on the table nor on the stack -/
def Atom (ty : Ty) : Prop :=
  ty = .integer ∨ ty = .binary ∨ ty = .reference ∨ ∃ r, ty = .resource r

theorem Atom.integer : Atom .integer := .inl rfl
theorem Atom.binary : Atom .binary := .inr (.inl rfl)
theorem Atom.reference : Atom .reference := .inr (.inr (.inl rfl))
theorem Atom.resource (r : Name) : Atom (.resource r) := .inr (.inr (.inr ⟨r, rfl⟩))

theorem inh_atom {T' : Table} {st' : List Nat} {t' : Nat} {ty : Ty} (hat : Atom ty)
    (h : T.types[t]? = some ty) (h' : T'.types[t']? = some ty) : inh T st t v ↔ inh T' st' t' v := by
  rcases hat with rfl | rfl | rfl | ⟨r, rfl⟩
  · rw [inh_integer h, inh_integer h']
  · rw [inh_binary h, inh_binary h']
  · rw [inh_reference h, inh_reference h']
  · rw [inh_resource h, inh_resource h']

theorem inh_union {ids : List Nat} (h : T.types[t]? = some (.union ids)) :
    inh T st t v ↔ ∃ i ∈ ids, inh T (t :: st) i v := by
  simp only [inh_iff_succ (t := t), inhB_union h]
  exact ⟨fun ⟨n, i, hi, hv⟩ => ⟨i, hi, n, hv⟩, fun ⟨i, hi, n, hv⟩ => ⟨n, i, hi, hv⟩⟩

theorem not_inh_never {T : Table} {n : Nat} (h : T.types[n]? = some (.union [])) (st : List Nat) (v : V) :
    ¬ inh T st n v := by
  intro hv
  obtain ⟨i, hi, _⟩ := (inh_union h).mp hv
  cases hi

theorem inh_cycle {T : Table} {st : List Nat} {t d : Nat} {v : V}
    (h : T.types[t]? = some (.cycle d)) :
    inh T st t v ↔ ∃ id, resolveCycle st d = some id ∧ inh T (st.drop d) id v := by
  simp only [inh_iff_succ (t := t), inhB_cycle h]
  exact ⟨fun ⟨n, id, hr, hv⟩ => ⟨id, hr, n, hv⟩, fun ⟨id, hr, n, hv⟩ => ⟨n, id, hr, hv⟩⟩

theorem FieldsRel.common_fuel {T : Table} {st : List Nat} {l : List (Option Name × Nat)}
    {fs : List (Option Name × V)} (h : FieldsRel (inh T st) l fs) :
    ∃ n, FieldsRel (fun c v => inhB T n st c v = true) l fs := by
  induction h with
  | nil => exact ⟨0, .nil⟩
  | cons h1 h2 _ ih =>
    obtain ⟨n1, hn1⟩ := h2
    obtain ⟨n2, hn2⟩ := ih
    refine ⟨max n1 n2, .cons h1 (inhB_mono T (Nat.le_max_left _ _) _ _ _ hn1) ?_⟩
    exact FieldsRel.imp (fun c _ v hv => inhB_mono T (Nat.le_max_right _ _) _ _ _ hv) hn2

theorem inh_tuple {T : Table} {st : List Nat} {t id : Nat} {v : V} {info : TupleInfo}
    (h : T.types[t]? = some (.tuple id)) (hi : T.tuples[id]? = some info) :
    inh T st t v ↔
      ∃ name fs, v = .tup name fs ∧ name = info.name ∧ FieldsRel (inh T st) info.fields fs.toList := by
  simp only [inh_iff_succ (t := t), inhB_tuple h hi]
  constructor
  · rintro ⟨n, name, fs, hv, hn, hf⟩
    exact ⟨name, fs, hv, hn, FieldsRel.imp (fun c _ v hv => ⟨n, hv⟩) hf⟩
  · rintro ⟨name, fs, hv, hn, hf⟩
    obtain ⟨n, hf'⟩ := hf.common_fuel
    exact ⟨n, name, fs, hv, hn, hf'⟩

theorem inh_tuple_missing {T : Table} {st : List Nat} {t id : Nat} {v : V} (h : T.types[t]? = some (.tuple id))
    (hi : T.tuples[id]? = none) : ¬ inh T st t v := by
  rintro ⟨f, hf⟩
  cases f with
  | zero => cases hf
  | succ f => unfold inhB at hf; rw [h] at hf; simp only [hi] at hf; cases hf

/-- a name cannot pass the name tests of two partial types that carry different names -/
theorem name_clash {name n1 n2 : Option Name} (h1 : n1.isSome = true) (h2 : n2.isSome = true) (hne : n1 ≠ n2)
    (hn1 : n1 = none ∨ name = n1) (hn2 : n2 = none ∨ name = n2) : False := by
  rcases hn1 with h | h
  · rw [h] at h1; cases h1
  · rcases hn2 with h' | h'
    · rw [h'] at h2; cases h2
    · exact hne (h.symm.trans h')

/-- some field of the value is labelled `l` and inhabits `c` -/
def HasField (T : Table) (st : List Nat) (l : Name) (c : Nat) (fs : List (Option Name × V)) : Prop :=
  ∃ q ∈ fs, q.1 = some l ∧ inh T st c q.2

theorem inh_part {pn : Option Name}
    {pfs : List (Name × Nat)} (h : T.types[t]? = some (.part pn pfs)) :
    inh T st t v ↔
      ∃ name fs, v = .tup name fs ∧ (pn = none ∨ name = pn) ∧
        ∀ pf ∈ pfs, HasField T st pf.1 pf.2 fs.toList := by
  simp only [inh_iff_succ (t := t), inhB_part h]
  constructor
  · rintro ⟨n, name, fs, hv, hn, hf⟩
    refine ⟨name, fs, hv, hn, fun pf hpf => ?_⟩
    obtain ⟨q, hq, hl, hqv⟩ := hf pf hpf
    exact ⟨q, hq, hl, n, hqv⟩
  · rintro ⟨name, fs, hv, hn, hf⟩
    obtain ⟨n, hf'⟩ := common_fuel
      (fun n (pf : Name × Nat) => ∃ q ∈ fs.toList, q.1 = some pf.1 ∧ inhB T n st pf.2 q.2 = true)
      (fun n m _ hnm ⟨q, hq, hl, hqv⟩ => ⟨q, hq, hl, inhB_mono T hnm _ _ _ hqv⟩) pfs
      (fun pf hpf => by
        obtain ⟨q, hq, hl, n, hqv⟩ := hf pf hpf
        exact ⟨n, q, hq, hl, hqv⟩)
    exact ⟨n, name, fs, hv, hn, hf'⟩

end

end QM.Types
